import Toq.Model.ChannelProps
import Toq.Spec.ChannelProps
import Toq.Proofs.ChannelProps
import Toq.Proofs.ChannelPropsExtremal
import Toq.Proofs.ChannelPropsTol
import Toq.Proofs.ChannelPropsRanges
import Toq.Proofs.MatrixOpsSpectral
import Mathlib.Analysis.Convex.Extreme
import Mathlib.Analysis.InnerProductSpace.Positive
import Mathlib.LinearAlgebra.Complex.Module
/-!
# C06 — channel predicates decide by definition; built-in channels are what they claim

Vocabulary: `Toq/Spec/ChannelProps.lean` (maps `Φ : M_{di}(ℂ) → M_{dO}(ℂ)`, Choi matrix `J(Φ) = Σ_ij E_ij ⊗ Φ(E_ij)` over
`Fin di × Fin dO`, the textbook definitions `IsTP`, `IsUnital`, `IsHP`, `IsPositive`, `IsCP` (all amplifications positive),
`HasKraus`, `IsUnitaryChannel`, `IsExtremeChannel`); executable deciders and closed-form channel models:
`Toq/Model/ChannelProps.lean`, `Toq/Model/ChannelPropsTol.lean` (tolerance arithmetic).

Three kinds of statement.  *Characterisations*: the test a predicate of toqito performs is
equivalent to the textbook definition (`tp_iff_ptrace_choi`, Choi's theorem `cp_iff_choi_psd`, `unitary_iff_choi`, Choi's theorem
on extreme channels `extreme_iff_kraus_products_independent`, …); those of `IsTP`, `IsUnital`, `IsHP`, `IsCP` are proved for the
map `ofChoi J` with a given Choi matrix (`isTP_ofChoi_iff`, … in `Proofs/ChannelProps.lean`) and read here on `Φ = ofChoi (choi Φ)`.
*Deciders*: the exact three-valued deciders the driver runs answer `yes` / `no` only when the characterised property holds /
fails (`…V_yes_iff`, `…V_no_imp`, `tpDecide_correct`,
`cpDecide_sound`, `extremalDecide_correct`, `unitaryV_yes_sound`, …), and agree with the exact mirror of `np.allclose` at toqito's
tolerances (`verdicts_agree_with_default_tolerances`, `psdTolV_yes_imp`).  *Built-in channels*: the closed forms of the model
(Choi matrices of depolarizing, dephasing, reduction, Choi map; Kraus lists of amplitude / phase damping, bit flip, Pauli
channels) act as documented, are channels on the documented parameter ranges, and exactly on which ranges (`depolarizing_cp_iff`,
`dephasing_cp_iff`); the driver's direct-application formulas are those maps (`…Act_eq_spec`, `…_model_apply`).

The procedure of `is_extremal` is right on linearly independent Kraus lists (`extremalAsCoded_correct`) and answers `false` on every
dependent list of two or more operators (`extremalAsCoded_dependent`, `amplitude_damping_list_answered_false`): the known finding.  The exact rank used by
the oracles is Mathlib's rank (`rankQ_eq_rank`).
-/

section Characterisations
open Toq.ChanPropSpec Matrix
open scoped ComplexOrder MatrixOrder
namespace Toq.C06
open Toq.ChanPropProofs
variable {di dO r n : Nat}

theorem choi_faithful (Φ : LMap di dO) : ofChoi (choi Φ) = Φ := ofChoi_choi Φ

theorem choi_ofChoi (J : TMat di dO) : choi (ofChoi J) = J := Toq.ChanPropProofs.choi_ofChoi J

/-- `Φ` preserves the trace iff the partial trace of its Choi matrix over the output factor is the identity. -/
theorem tp_iff_ptrace_choi (Φ : LMap di dO) : IsTP Φ ↔ ptraceOut (choi Φ) = 1 := by
  rw [← isTP_ofChoi_iff, ofChoi_choi]

/-- `Φ` is unital iff the partial trace of its Choi matrix over the input factor is the identity. -/
theorem unital_iff_ptrace_choi (Φ : LMap di dO) : IsUnital Φ ↔ ptraceIn (choi Φ) = 1 := by
  rw [← isUnital_ofChoi_iff, ofChoi_choi]

/-- `Φ` preserves Hermiticity iff its Choi matrix is Hermitian. -/
theorem hp_iff_choi_hermitian (Φ : LMap di dO) : IsHP Φ ↔ (choi Φ).IsHermitian := by
  rw [← isHP_ofChoi_iff, ofChoi_choi]

/-- The Choi matrix of `X ↦ Σ_k A_k X B_kᴴ` is `Σ_k vec(A_k) vec(B_k)ᴴ`. -/
theorem choi_pairMap (A B : Fin r → Matrix (Fin dO) (Fin di) ℂ) :
    choi (pairMap A B) = ∑ k, Matrix.vecMulVec (kvec (A k)) (star (kvec (B k))) := by
  ext ⟨i, a⟩ ⟨j, b⟩
  rw [choi_pairMap_apply, Matrix.sum_apply]
  simp only [Matrix.vecMulVec_apply, Pi.star_apply, kvec_apply]

theorem cp_of_kraus (K : Fin r → Matrix (Fin dO) (Fin di) ℂ) : (choi (krausMap K)).PosSemidef := by
  rw [choi_krausMap_eq]
  exact Matrix.posSemidef_self_mul_conjTranspose _

/-- A map whose Choi matrix is positive semidefinite has a Kraus representation. -/
theorem kraus_of_psd_choi (Φ : LMap di dO) : (choi Φ).PosSemidef → HasKraus Φ :=
  fun h => ofChoi_choi Φ ▸ hasKraus_ofChoi h

/-- **Choi's theorem**: a map is completely positive iff its Choi matrix is positive semidefinite. -/
theorem cp_iff_choi_psd (Φ : LMap di dO) : IsCP Φ ↔ (choi Φ).PosSemidef := by
  rw [← isCP_ofChoi_iff, ofChoi_choi]

theorem kraus_isCP (K : Fin r → Matrix (Fin dO) (Fin di) ℂ) : IsCP (krausMap K) :=
  (cp_iff_choi_psd _).mpr (cp_of_kraus K)

theorem choi_psd_of_isCP (Φ : LMap di dO) : IsCP Φ → (choi Φ).PosSemidef := (cp_iff_choi_psd Φ).mp

theorem cp_iff_hasKraus (Φ : LMap di dO) : IsCP Φ ↔ HasKraus Φ :=
  ⟨fun h => kraus_of_psd_choi Φ (choi_psd_of_isCP Φ h), fun ⟨_, K, hK⟩ => hK ▸ kraus_isCP K⟩

theorem cp_implies_positive (Φ : LMap di dO) : IsCP Φ → IsPositive Φ := by
  intro h X hX
  have h1 : (X.submatrix (Prod.snd : Fin 1 × Fin di → Fin di) Prod.snd).PosSemidef := hX.submatrix _
  have h2 := (h 1 _ h1).submatrix (fun a : Fin dO => ((0 : Fin 1), a))
  -- the amplification `1 ⊗ Φ` at `n = 1`, read along the pair index `(0, ·)`, is `Φ X` by unfolding `ampl`
  exact h2

/-- `X ↦ Σ_k A_k X B_kᴴ` preserves the trace iff `Σ_k A_kᴴ B_k = 1` (the test of `is_trace_preserving`). -/
theorem pairMap_tp_iff (A B : Fin r → Matrix (Fin dO) (Fin di) ℂ) :
    IsTP (pairMap A B) ↔ ∑ k, (A k)ᴴ * B k = 1 := by
  -- `tr Φ(X) = tr((Σ BᴴA) X)`, so trace preservation is `Σ BᴴA = 1`, and `Σ AᴴB` is the adjoint of that sum
  have e : (∑ k, (B k)ᴴ * A k)ᴴ = ∑ k, (A k)ᴴ * B k := by
    rw [Matrix.conjTranspose_sum]
    exact Finset.sum_congr rfl fun k _ => by rw [Matrix.conjTranspose_mul, Matrix.conjTranspose_conjTranspose]
  rw [← e, Matrix.conjTranspose_eq_one, Matrix.ext_iff_trace_mul_right]
  exact forall_congr' fun X => by rw [trace_pairMap, Matrix.one_mul]

/-- `X ↦ Σ_k K_k X K_kᴴ` is unital iff `Σ_k K_k K_kᴴ = 1`. -/
theorem krausMap_unital_iff (K : Fin r → Matrix (Fin dO) (Fin di) ℂ) :
    IsUnital (krausMap K) ↔ ∑ k, K k * (K k)ᴴ = 1 := by
  unfold IsUnital
  rw [krausMap_apply]
  simp only [Matrix.mul_one]

/-- A unitary channel is completely positive, trace preserving and unital. -/
theorem unitary_channel (Φ : LMap di di) : IsUnitaryChannel Φ → IsCP Φ ∧ IsTP Φ ∧ IsUnital Φ := by
  rintro ⟨U, h1, h2, hΦ⟩
  obtain rfl := eq_krausMap_single hΦ
  refine ⟨kraus_isCP _, ?_, ?_⟩
  · rw [krausMap, pairMap_tp_iff, Fin.sum_univ_one]; exact h1
  · rw [krausMap_unital_iff, Fin.sum_univ_one]; exact h2

/-- A map is a unitary channel iff its Choi matrix is `vec(U) vec(U)ᴴ` for an isometry (hence unitary) `U`. -/
theorem unitary_iff_choi (Φ : LMap di di) :
    IsUnitaryChannel Φ ↔ ∃ U : Matrix (Fin di) (Fin di) ℂ, Uᴴ * U = 1 ∧
      choi Φ = Matrix.vecMulVec (kvec U) (star (kvec U)) := by
  constructor
  · rintro ⟨U, h1, -, hΦ⟩
    obtain rfl := eq_krausMap_single hΦ
    exact ⟨U, h1, by rw [krausMap, choi_pairMap, Fin.sum_univ_one]⟩
  · rintro ⟨U, h1, hJ⟩
    obtain rfl : Φ = krausMap (fun _ : Fin 1 => U) :=
      choi_injective (by rw [hJ, krausMap, choi_pairMap, Fin.sum_univ_one])
    exact ⟨U, h1, mul_eq_one_comm.mp h1, krausMap_single U⟩

/-- A trace-preserving map whose Choi matrix is `vec(K) vec(K)ᴴ` is a unitary channel (the criterion of `is_unitary`). -/
theorem unitary_of_rank_one_tp (Φ : LMap di di) (K : Matrix (Fin di) (Fin di) ℂ)
    (h : choi Φ = Matrix.vecMulVec (kvec K) (star (kvec K))) (htp : IsTP Φ) : IsUnitaryChannel Φ := by
  rw [unitary_iff_choi]
  refine ⟨K, ?_, h⟩
  obtain rfl : Φ = pairMap (fun _ : Fin 1 => K) (fun _ : Fin 1 => K) :=
    choi_injective (by rw [h, choi_pairMap, Fin.sum_univ_one])
  rwa [pairMap_tp_iff, Fin.sum_univ_one] at htp

/-- A vector with negative shifted quadratic form refutes `A + c·1 ⪰ 0`. -/
theorem not_psd_of_witness {ι : Type} [Fintype ι] [DecidableEq ι] (A : Matrix ι ι ℂ) (v : ι → ℂ) (c : ℝ)
    (h : (star v ⬝ᵥ (A *ᵥ v)).re + c * (star v ⬝ᵥ v).re < 0) :
    ¬ (A + (c : ℂ) • (1 : Matrix ι ι ℂ)).PosSemidef :=
  fun hp => h.not_ge (hp.re_quad_add_nonneg v)

/-- A vector with negative quadratic form refutes positive semidefiniteness. -/
theorem not_psd_of_neg_quadForm {ι : Type} [Fintype ι] [DecidableEq ι] (A : Matrix ι ι ℂ) (v : ι → ℂ)
    (h : (star v ⬝ᵥ (A *ᵥ v)).re < 0) : ¬ A.PosSemidef :=
  fun hp => not_lt.mpr (Complex.nonneg_iff.mp (hp.dotProduct_mulVec_nonneg v)).1 h

/-- The Choi rank is at most the number of Kraus operators. -/
theorem choiRank_le_kraus (K : Fin r → Matrix (Fin dO) (Fin di) ℂ) : (choi (krausMap K)).rank ≤ r := by
  rw [choi_krausMap_eq]
  exact Matrix.rank_mul_le_inner _ _

section bridge
open Toq.ChannelOps Toq.ChannelSpec

/-- The Choi matrix of the specification of C06 is, under the big-endian pairing `(i, a) ↦ i·d_out + a`,
    the Choi matrix `choiSpec` of the specification of C04 (what `kraus_to_choi` returns). -/
theorem choi_pairMap_eq_choiSpec (A B : Nat → Nat → Nat → ℂ) (r di dO : Nat) :
    ∀ (i j : Fin di) (a b : Fin dO),
      choi (pairMap (fun k : Fin r => toM dO di (A k)) (fun k : Fin r => toM dO di (B k))) (i, a) (j, b)
        = choiSpec r A B di di dO dO (i.val * dO + a.val) (j.val * dO + b.val) := by
  intro i j a b
  rw [choi_pairMap_apply]
  unfold choiSpec
  obtain ⟨h1, h2⟩ := Nat.mul_add_divMod_of_lt (q := i.val) a.2
  obtain ⟨h3, h4⟩ := Nat.mul_add_divMod_of_lt (q := j.val) b.2
  rw [h1, h2, h3, h4, applySpec_unit r A B di di i.val j.val a.val b.val i.2 j.2, sumN_eq_sum_fin]
  rfl

end bridge

end Toq.C06
end Characterisations


section Deciders
open Matrix
open scoped ComplexOrder
namespace Toq.C06
open Toq.ChannelProps Toq.ChanPropSpec Toq.ChanPropProofs

variable {di dO : Nat}

/-! The exact tests and the three-valued verdicts, read on the denoted Choi matrix `toChoi J`: a test is `true`, a verdict `yes`, exactly
when the relation holds; a verdict is `no` only when it fails. -/

theorem tpDecide_iff (J : EMat (di * dO) (di * dO)) :
    tpDecide J = true ↔ Toq.ChanPropSpec.ptraceOut (toChoi J) = 1 := by
  unfold tpDecide
  rw [EMat.beq_iff, ptraceOut_toM_eq_one_iff]

theorem unitalDecide_iff (J : EMat (di * dO) (di * dO)) :
    unitalDecide J = true ↔ Toq.ChanPropSpec.ptraceIn (toChoi J) = 1 := by
  unfold unitalDecide
  rw [EMat.beq_iff, ptraceIn_toM_eq_one_iff]

theorem hpDecide_iff (J : EMat (di * dO) (di * dO)) :
    hpDecide J = true ↔ (toChoi J).IsHermitian := by
  unfold hpDecide
  rw [EMat.isHermitian_iff, toChoi_isHermitian_iff]

theorem eqV_yes_iff {n m : Nat} (A B : EMat n m) : eqV A B = Verdict.yes ↔ A.toM = B.toM := by
  rw [eqV_yes, EMat.beq_iff]

theorem eqV_no_imp {n m : Nat} (A B : EMat n m) : eqV A B = Verdict.no → A.toM ≠ B.toM :=
  fun h => farApart_ne A B ((eqV_no A B).mp h).2

theorem unitaryMatDecide_iff {d : Nat} (U : EMat d d) :
    unitaryMatDecide U = true ↔ U.toMᴴ * U.toM = 1 ∧ U.toM * U.toMᴴ = 1 := by
  unfold unitaryMatDecide
  rw [Bool.and_eq_true, EMat.beq_iff, EMat.beq_iff, EMat.toM_mul, EMat.toM_mul, EMat.toM_ct, EMat.toM_one]

theorem tpV_yes_iff (J : EMat (di * dO) (di * dO)) :
    tpV J = Verdict.yes ↔ Toq.ChanPropSpec.ptraceOut (toChoi J) = 1 :=
  (eqV_yes_iff _ _).trans (ptraceOut_toM_eq_one_iff J)

theorem tpV_no_imp (J : EMat (di * dO) (di * dO)) :
    tpV J = Verdict.no → Toq.ChanPropSpec.ptraceOut (toChoi J) ≠ 1 :=
  fun h => mt (ptraceOut_toM_eq_one_iff J).mpr (eqV_no_imp _ _ h)

theorem unitalV_yes_iff (J : EMat (di * dO) (di * dO)) :
    unitalV J = Verdict.yes ↔ Toq.ChanPropSpec.ptraceIn (toChoi J) = 1 :=
  (eqV_yes_iff _ _).trans (ptraceIn_toM_eq_one_iff J)

theorem unitalV_no_imp (J : EMat (di * dO) (di * dO)) :
    unitalV J = Verdict.no → Toq.ChanPropSpec.ptraceIn (toChoi J) ≠ 1 :=
  fun h => mt (ptraceIn_toM_eq_one_iff J).mpr (eqV_no_imp _ _ h)

theorem hpV_yes_iff (J : EMat (di * dO) (di * dO)) :
    hpV J = Verdict.yes ↔ (toChoi J).IsHermitian := by
  unfold hpV
  rw [eqV_yes_iff, EMat.toM_ct, toChoi_isHermitian_iff]
  exact eq_comm

theorem hpV_no_imp (J : EMat (di * dO) (di * dO)) :
    hpV J = Verdict.no → ¬ (toChoi J).IsHermitian := by
  intro h hH
  have := eqV_no_imp _ _ h
  rw [EMat.toM_ct] at this
  exact this ((toChoi_isHermitian_iff J).mp hH).symm

/-- A positive certificate (`J` Hermitian and `J - L Lᴴ` diagonally dominant) proves that the denoted Choi
matrix is positive semidefinite. -/
theorem psdYes_sound {k : Nat} (J : EMat (di * dO) (di * dO)) (L : EMat (di * dO) k) :
    psdYes J L = true → (toChoi J).PosSemidef := by
  intro h
  rw [toChoi_posSemidef_iff]
  exact psdCert_sound J L h

/-- A negative witness `v` with margin `μ` (`vᴴAv < 0` and `Re vᴴAv ≤ -μ·vᴴv`, `μ ≥ 0`) refutes positive
semidefiniteness of `A`, and of every shift `A + c·1` with `c < μ`. -/
theorem negWitness_sound {n : Nat} (A : EMat n n) (v : EMat n 1) (μ : Rat) :
    negWitness A v μ = true →
      ¬ A.toM.PosSemidef ∧
        ∀ c : ℝ, c < (μ : ℝ) → ¬ (A.toM + (c : ℂ) • (1 : Matrix (Fin n) (Fin n) ℂ)).PosSemidef :=
  negWitness_not_posSemidef A v μ

/-- A negative witness refutes positive semidefiniteness of the denoted Choi matrix. -/
theorem negWitness_sound_choi (J : EMat (di * dO) (di * dO)) (v : EMat (di * dO) 1) (μ : Rat) :
    negWitness J v μ = true → ¬ (toChoi J).PosSemidef := by
  intro h
  rw [toChoi_posSemidef_iff]
  exact (negWitness_sound J v μ h).1

/-- The positive-semidefiniteness verdict is `yes` only when the denoted Choi matrix is positive semidefinite. -/
theorem psdV_yes_imp {k : Nat} (J : EMat (di * dO) (di * dO)) (L : Option (EMat (di * dO) k))
    (v : Option (EMat (di * dO) 1)) : psdV J L v = Verdict.yes → (toChoi J).PosSemidef := fun h =>
  (toChoi_posSemidef_iff J).mpr (psdV_yes_posSemidef h)

/-- The positive-semidefiniteness verdict is `no` only when the denoted Choi matrix is not positive
semidefinite (it is not Hermitian, or a negative witness was checked). -/
theorem psdV_no_imp {k : Nat} (J : EMat (di * dO) (di * dO)) (L : Option (EMat (di * dO) k))
    (v : Option (EMat (di * dO) 1)) : psdV J L v = Verdict.no → ¬ (toChoi J).PosSemidef := fun h hP =>
  psdV_no_not_posSemidef h ((toChoi_posSemidef_iff J).mp hP)

/-! ## non-vacuity: the deciders do answer `true` on concrete inputs -/

/-- the identity channel on one qubit: `J = Σ_ij E_ij ⊗ E_ij` -/
private def Jid : EMat (2 * 2) (2 * 2) :=
  EMat.ofFn fun p q => if p.val / 2 = p.val % 2 ∧ q.val / 2 = q.val % 2 then 1 else 0
/-- `vec(1)` as a `4 × 1` factor of `Jid` -/
private def Lid : EMat (2 * 2) 1 := EMat.ofFn fun p _ => if p.val / 2 = p.val % 2 then 1 else 0
private def Jneg : EMat (1 * 1) (1 * 1) := EMat.ofFn fun _ _ => ⟨-1, 0⟩
private def vone : EMat (1 * 1) 1 := EMat.ofFn fun _ _ => 1

example : tpDecide (di := 2) (dO := 2) Jid = true := by decide +kernel
example : unitalDecide (di := 2) (dO := 2) Jid = true := by decide +kernel
example : hpDecide (di := 2) (dO := 2) Jid = true := by decide +kernel
example : psdYes (n := 2 * 2) Jid Lid = true := by decide +kernel
example : negWitness (n := 1 * 1) Jneg vone 1 = true := by decide +kernel
example : psdV (k := 1) (n := 2 * 2) Jid (some Lid) none = Verdict.yes := by decide +kernel
example : psdV (k := 1) (n := 1 * 1) Jneg none (some vone) = Verdict.no := by decide +kernel
example : tpV (di := 1) (dO := 1) Jneg = Verdict.no := by decide +kernel

end Toq.C06
end Deciders


section ChoiConstructors
open Toq.ChannelProps Toq.ChanPropSpec Matrix
open scoped ComplexOrder
namespace Toq.C06
open Toq.ChanPropProofs

/-- The matrix returned by `depolarizing(d, p)` is the Choi matrix of `X ↦ (1-p)·tr(X)·1/d + p·X`. -/
theorem depolarizing_apply (d : Nat) (p : ℂ) (X : Matrix (Fin d) (Fin d) ℂ) :
    ofChoi (toT (depolChoi d p)) X = depolSpec d p X := by
  rw [toT_depol, ofChoi_dpsi, depolSpec, smul_one_eq_diagonal, ← Finset.sum_mul, mul_comm (1 - p), mul_div_assoc]
  rfl

/-- `depolarizing(d, p)` is trace preserving for every parameter. -/
theorem depolarizing_tp (d : Nat) (p : ℂ) : IsTP (ofChoi (toT (depolChoi d p) : TMat d d)) := by
  intro X
  rw [depolarizing_apply]
  rcases Nat.eq_zero_or_pos d with rfl | hd
  · simp [Matrix.trace]
  · have hd' : (d : ℂ) ≠ 0 := Nat.cast_ne_zero.mpr hd.ne'
    rw [depolSpec, Matrix.trace_add, Matrix.trace_smul, Matrix.trace_smul, Matrix.trace_one, Fintype.card_fin, smul_eq_mul,
      smul_eq_mul, div_mul_cancel₀ _ hd']
    ring

/-- `depolarizing(d, p)` is unital for every parameter. -/
theorem depolarizing_unital (d : Nat) (p : ℂ) : IsUnital (ofChoi (toT (depolChoi d p) : TMat d d)) := by
  unfold IsUnital
  rw [depolarizing_apply]
  rcases Nat.eq_zero_or_pos d with rfl | hd
  · exact Subsingleton.elim _ _
  · have hd' : (d : ℂ) ≠ 0 := Nat.cast_ne_zero.mpr hd.ne'
    simp only [depolSpec, Matrix.trace_one, Fintype.card_fin]
    rw [← add_smul]
    rw [mul_div_cancel_right₀ _ hd', sub_add_cancel, one_smul]

/-- For `0 ≤ p ≤ 1` the matrix `depolarizing(d, p)` is positive semidefinite (the map is completely positive). -/
theorem depolarizing_choi_psd (d : Nat) (p : ℝ) (h0 : 0 ≤ p) (h1 : p ≤ 1) :
    (toT (depolChoi d (p : ℂ)) : TMat d d).PosSemidef := by
  rw [toT_depol_real]
  exact (PosSemidef.one.smul (Complex.zero_le_real.mpr (div_nonneg (sub_nonneg.mpr h1) (Nat.cast_nonneg d)))).add
    ((posSemidef_vecMulVec_self_star _).smul (Complex.zero_le_real.mpr h0))

/-- The matrix returned by `dephasing(d, p)` is the Choi matrix of `X ↦ (1-p)·diag(X) + p·X`. -/
theorem dephasing_apply (d : Nat) (p : ℂ) (X : Matrix (Fin d) (Fin d) ℂ) :
    ofChoi (toT (dephChoi d p)) X = dephSpec d p X := by
  rw [toT_deph, ofChoi_dpsi, dephSpec, diagPart, ← diagonal_smul]
  simp only [maxEntVec, mul_ite, mul_one, mul_zero, Finset.sum_ite_eq', Finset.mem_univ, if_true, mul_comm _ (1 - p)]
  rfl

/-- `dephasing(d, p)` is trace preserving for every parameter. -/
theorem dephasing_tp (d : Nat) (p : ℂ) : IsTP (ofChoi (toT (dephChoi d p) : TMat d d)) := by
  intro X
  rw [dephasing_apply]
  simp only [dephSpec, diagPart, Matrix.trace_add, Matrix.trace_smul, Matrix.trace_diagonal, smul_eq_mul]
  simp only [Matrix.trace, Matrix.diag_apply]
  ring

/-- `dephasing(d, p)` is unital for every parameter. -/
theorem dephasing_unital (d : Nat) (p : ℂ) : IsUnital (ofChoi (toT (dephChoi d p) : TMat d d)) := by
  unfold IsUnital
  rw [dephasing_apply]
  have : diagPart (1 : Matrix (Fin d) (Fin d) ℂ) = 1 := by
    simp only [diagPart, Matrix.one_apply_eq]
    exact Matrix.diagonal_one
  rw [dephSpec, this, ← add_smul, sub_add_cancel, one_smul]

/-- For `0 ≤ p ≤ 1` the matrix `dephasing(d, p)` is positive semidefinite (the map is completely positive). -/
theorem dephasing_choi_psd (d : Nat) (p : ℝ) (h0 : 0 ≤ p) (h1 : p ≤ 1) :
    (toT (dephChoi d (p : ℂ)) : TMat d d).PosSemidef := by
  rw [toT_deph]
  refine dpsi_posSemidef d _ _ (fun q => mul_nonneg ?_ ?_) (Complex.zero_le_real.mpr h0)
  · have : 1 - (p : ℂ) = ((1 - p : ℝ) : ℂ) := by push_cast; rfl
    rw [this, Complex.zero_le_real]
    exact sub_nonneg.mpr h1
  · unfold maxEntVec
    split_ifs
    · exact zero_le_one
    · exact le_rfl

/-- The matrix returned by `reduction(d, k)` is the Choi matrix of `X ↦ k·tr(X)·1 - X`. -/
theorem reduction_apply (d : Nat) (k : ℂ) (X : Matrix (Fin d) (Fin d) ℂ) :
    ofChoi (toT (reductionChoi d k)) X = reductionSpec d k X := by
  rw [toT_reduction, ofChoi_dpsi, reductionSpec, smul_one_eq_diagonal, ← Finset.sum_mul, neg_one_smul, ← sub_eq_add_neg, mul_comm]
  rfl

/-- `reduction(d, k)` multiplies the trace by `k·d - 1`. -/
theorem reduction_trace (d : Nat) (k : ℂ) (X : Matrix (Fin d) (Fin d) ℂ) :
    trace (ofChoi (toT (reductionChoi d k) : TMat d d) X) = (k * d - 1) * trace X := by
  rw [reduction_apply, reductionSpec, Matrix.trace_sub, Matrix.trace_smul, Matrix.trace_one,
    Fintype.card_fin, smul_eq_mul]
  ring

/-- For real `k` the matrix `reduction(d, k)` is Hermitian (the map preserves Hermiticity). -/
theorem reduction_choi_hermitian (d : Nat) (k : ℝ) :
    (toT (reductionChoi d (k : ℂ)) : TMat d d).IsHermitian := by
  rw [toT_reduction]
  exact dpsi_isHermitian d _ _ (fun _ => Complex.conj_ofReal k) (by rw [star_neg, star_one])

/-- For `k < d` the matrix `reduction(d, k)` is not positive semidefinite (the map is not completely positive):
    the maximally entangled vector `ψ` has `ψᴴJψ = k·d - d² < 0`. -/
theorem reduction_not_cp (d : Nat) (k : ℝ) (hk : k < d) (hd : 0 < d) :
    ¬ (toT (reductionChoi d (k : ℂ)) : TMat d d).PosSemidef := by
  rw [toT_reduction]
  refine dpsi_not_psd d _ _ (d * (k - d)) ?_ (mul_neg_of_pos_of_neg (Nat.cast_pos.mpr hd) (sub_neg.mpr hk))
  rw [Finset.sum_const, Finset.card_univ, Fintype.card_fin, nsmul_eq_mul]
  push_cast
  ring

/-- The matrix returned by `choi(a, b, c)` is the Choi matrix of the generalised Choi map
    `X ↦ diag((a+1)x₀₀ + b x₁₁ + c x₂₂, c x₀₀ + (a+1)x₁₁ + b x₂₂, b x₀₀ + c x₁₁ + (a+1)x₂₂) - X`. -/
theorem choiMap_apply (a b c : ℂ) (X : Matrix (Fin 3) (Fin 3) ℂ) :
    ofChoi (toT (choiMapChoi a b c) : TMat 3 3) X = choiMapSpec a b c X := by
  rw [toT_choiMap, ofChoi_dpsi, choiMapSpec, neg_one_smul, ← sub_eq_add_neg]
  exact congrArg (diagonal · - X) (funext fun s => sum_choiDiag a b c (fun i => X i i) s)

/-- For real parameters the matrix `choi(a, b, c)` is Hermitian. -/
theorem choiMap_choi_hermitian (a b c : ℝ) :
    (toT (choiMapChoi (a : ℂ) b c) : TMat 3 3).IsHermitian := by
  rw [toT_choiMap]
  exact dpsi_isHermitian 3 _ _ (fun _ => star_choiDiag a b c _) (by rw [star_neg, star_one])

/-- For `a < 2` the matrix `choi(a, b, c)` is not positive semidefinite (the map is not completely positive):
    the maximally entangled vector `ψ` has `ψᴴJψ = 3(a+1) - 9 < 0`. -/
theorem choiMap_not_cp (a b c : ℝ) (ha : a < 2) :
    ¬ (toT (choiMapChoi (a : ℂ) b c) : TMat 3 3).PosSemidef := by
  rw [toT_choiMap]
  refine dpsi_not_psd 3 _ _ (3 * (a + 1) - 9) ?_ (by linarith)
  rw [Fin.sum_univ_three]
  show ((a : ℂ) + 1) + ((a : ℂ) + 1) + ((a : ℂ) + 1) + -1 * ((3 : ℕ) * (3 : ℕ)) = _
  push_cast
  ring

/-- `choi(0, 1, 1)` is the reduction map `reduction(3, 1)`, entry by entry. -/
theorem choiMap_011_eq_reduction :
    ∀ P Q, P < 9 → Q < 9 → choiMapChoi (0 : ℂ) 1 1 P Q = reductionChoi 3 (1 : ℂ) P Q := by
  intro P Q hP _
  have hD : choiDiag (0 : ℂ) 1 1 P = 1 := by
    interval_cases P <;> simp [choiDiag]
  simp only [choiMapChoi, reductionChoi, delta, hD, one_mul]

/-- `choi(a, b, c)` multiplies the trace by `a + b + c`. -/
theorem choiMap_trace (a b c : ℂ) (X : Matrix (Fin 3) (Fin 3) ℂ) :
    trace (ofChoi (toT (choiMapChoi a b c) : TMat 3 3) X) = (a + b + c) * trace X := by
  rw [choiMap_apply, choiMapSpec, trace_sub, trace_diagonal, trace_fin_three, Fin.sum_univ_three]
  show (a + 1) * X 0 0 + b * X 1 1 + c * X 2 2 + ((a + 1) * X 1 1 + b * X 2 2 + c * X 0 0)
    + ((a + 1) * X 2 2 + b * X 0 0 + c * X 1 1) - (X 0 0 + X 1 1 + X 2 2) = _
  ring

/-- For `k ≥ 1` the reduction map `X ↦ k·tr(X)·1 - X` is positive. -/
theorem reduction_positive (d : Nat) (k : ℝ) (hk : 1 ≤ k) :
    IsPositive (ofChoi (toT (reductionChoi d (k : ℂ)) : TMat d d)) := by
  intro X hX
  rw [reduction_apply, reductionSpec]
  have hsplit : ((k : ℂ) * X.trace) • (1 : Matrix (Fin d) (Fin d) ℂ) - X
      = (((k - 1 : ℝ) : ℂ) * X.trace) • (1 : Matrix (Fin d) (Fin d) ℂ) + (X.trace • 1 - X) := by
    push_cast
    rw [sub_mul, one_mul, sub_smul]
    abel
  rw [hsplit]
  have hc : (0 : ℂ) ≤ ((k - 1 : ℝ) : ℂ) * X.trace :=
    mul_nonneg (Complex.zero_le_real.mpr (sub_nonneg.mpr hk)) hX.trace_nonneg
  exact (PosSemidef.one.smul hc).add (trace_smul_one_sub_posSemidef hX)

/-- `reduction(2, 1)` evaluated on integers -/
example : (List.range 4).map (fun P => (List.range 4).map (fun Q => reductionChoi (α := Int) 2 1 P Q))
    = [[0, 0, 0, -1], [0, 1, 0, 0], [0, 0, 1, 0], [-1, 0, 0, 0]] := by decide

/-- the diagonal and the first row of `choi(1, 2, 3)` evaluated on integers -/
example : ((List.range 9).map (fun P => choiMapChoi (α := Int) 1 2 3 P P),
      (List.range 9).map (fun Q => choiMapChoi (α := Int) 1 2 3 0 Q))
    = ([1, 3, 2, 2, 1, 3, 3, 2, 1], [1, 0, 0, 0, -1, 0, 0, 0, -1]) := by decide

/-- `dephasing(2, 3)` evaluated on integers (`(1-p)·diag + p·ψψᴴ`) -/
example : (List.range 4).map (fun P => (List.range 4).map (fun Q => dephChoi (α := Int) 2 3 P Q))
    = [[1, 0, 0, 3], [0, 0, 0, 0], [0, 0, 0, 0], [3, 0, 0, 1]] := by decide

end Toq.C06
end ChoiConstructors


section KrausConstructors
open Toq.ChannelProps Toq.ChanPropSpec Matrix
namespace Toq.C06
open Toq.ChanPropProofs

/-- The four Kraus operators of the generalized amplitude damping channel satisfy the completeness relation. -/
theorem amplitude_damping_complete (sp cp sg cg : ℝ) (hp : sp ^ 2 + cp ^ 2 = 1) (hg : sg ^ 2 + cg ^ 2 = 1) :
    ∑ k, (fam2 (adKraus (sp : ℂ) cp sg cg) k)ᴴ * fam2 (adKraus (sp : ℂ) cp sg cg) k = 1 := by
  have hp' := ofReal_sq_add_sq hp
  have hg' := ofReal_sq_add_sq hg
  rw [sum_fam2 _ fun K => Kᴴ * K, one_fin_two]
  simp only [adKraus, List.map_cons, List.map_nil, List.sum_cons, List.sum_nil, toSq_m22, gram_fin_two,
    add_fin_two_of, add_zero, star_mul', star_zero, Complex.star_def, Complex.conj_ofReal]
  refine fin_two_of_congr ?_ ?_ ?_ ?_
  · linear_combination hp' + (cp : ℂ) ^ 2 * hg'
  · ring
  · ring
  · linear_combination hp' + (sp : ℂ) ^ 2 * hg'

/-- The generalized amplitude damping channel is trace preserving. -/
theorem amplitude_damping_tp (sp cp sg cg : ℝ) (hp : sp ^ 2 + cp ^ 2 = 1) (hg : sg ^ 2 + cg ^ 2 = 1) :
    IsTP (krausMap (fam2 (adKraus (sp : ℂ) cp sg cg))) :=
  (pairMap_tp_iff _ _).mpr (amplitude_damping_complete sp cp sg cg hp hg)

/-- The action of the generalized amplitude damping channel on a 2×2 matrix, entry by entry. -/
theorem amplitude_damping_apply (sp cp sg cg : ℝ) (X : Matrix (Fin 2) (Fin 2) ℂ) :
    krausMap (fam2 (adKraus (sp : ℂ) cp sg cg)) X =
      !![((sp : ℂ) ^ 2 + (cp : ℂ) ^ 2 * (cg : ℂ) ^ 2) * X 0 0 + (sp : ℂ) ^ 2 * (sg : ℂ) ^ 2 * X 1 1,
         ((sp : ℂ) ^ 2 + (cp : ℂ) ^ 2) * (cg : ℂ) * X 0 1;
         ((sp : ℂ) ^ 2 + (cp : ℂ) ^ 2) * (cg : ℂ) * X 1 0,
         ((sp : ℂ) ^ 2 * (cg : ℂ) ^ 2 + (cp : ℂ) ^ 2) * X 1 1 + (cp : ℂ) ^ 2 * (sg : ℂ) ^ 2 * X 0 0] := by
  rw [krausMap_fam2]
  simp only [adKraus, List.map_cons, List.map_nil, List.sum_cons, List.sum_nil, toSq_m22, sandwich_fin_two,
    add_fin_two_of, add_zero, star_mul', star_zero, Complex.star_def, Complex.conj_ofReal]
  refine fin_two_of_congr ?_ ?_ ?_ ?_ <;> ring

/-- With `prob = 1` the textbook amplitude damping channel
    `[[x₀₀ + γ x₁₁, √(1-γ) x₀₁], [√(1-γ) x₁₀, (1-γ) x₁₁]]`. -/
theorem amplitude_damping_apply_standard (sg cg : ℝ) (X : Matrix (Fin 2) (Fin 2) ℂ) :
    krausMap (fam2 (adKraus (1 : ℂ) 0 sg cg)) X =
      !![X 0 0 + (sg : ℂ) ^ 2 * X 1 1, (cg : ℂ) * X 0 1;
         (cg : ℂ) * X 1 0, (cg : ℂ) ^ 2 * X 1 1] := by
  have h := amplitude_damping_apply 1 0 sg cg X
  rw [Complex.ofReal_one, Complex.ofReal_zero] at h
  rw [h]
  refine fin_two_of_congr ?_ ?_ ?_ ?_ <;> ring

/-- The driver's direct application formula `Σ_K K X Kᵀ` on the model list agrees with the Kraus map. -/
theorem amplitude_damping_model_apply (sp cp sg cg : ℝ) (X : Nat → Nat → ℂ) (a b : Nat) (ha : a < 2) (hb : b < 2) :
    applyReal2 (adKraus (sp : ℂ) cp sg cg) X a b
      = krausMap (fam2 (adKraus (sp : ℂ) cp sg cg)) (toSq 2 X) ⟨a, ha⟩ ⟨b, hb⟩ := by
  refine applyReal2_eq_krausMap _ ?_ X ⟨a, ha⟩ ⟨b, hb⟩
  simp only [adKraus, List.forall_mem_cons, star_m22, star_mul', star_zero]
  simp only [Complex.star_def, Complex.conj_ofReal, implies_true, and_self, List.not_mem_nil, false_imp_iff]

/-- The two Kraus operators of the phase damping channel satisfy the completeness relation. -/
theorem phase_damping_complete (sg cg : ℝ) (hg : sg ^ 2 + cg ^ 2 = 1) :
    ∑ k, (fam2 (pdKraus (sg : ℂ) cg) k)ᴴ * fam2 (pdKraus (sg : ℂ) cg) k = 1 := by
  have hg' := ofReal_sq_add_sq hg
  rw [sum_fam2 _ fun K => Kᴴ * K, one_fin_two]
  simp only [pdKraus, List.map_cons, List.map_nil, List.sum_cons, List.sum_nil, toSq_m22, gram_fin_two,
    add_fin_two_of, add_zero, star_one, star_zero, Complex.star_def, Complex.conj_ofReal]
  refine fin_two_of_congr ?_ ?_ ?_ ?_
  · ring
  · ring
  · ring
  · linear_combination hg'

/-- The phase damping channel is trace preserving. -/
theorem phase_damping_tp (sg cg : ℝ) (hg : sg ^ 2 + cg ^ 2 = 1) :
    IsTP (krausMap (fam2 (pdKraus (sg : ℂ) cg))) :=
  (pairMap_tp_iff _ _).mpr (phase_damping_complete sg cg hg)

/-- The action of the phase damping channel: the off-diagonal entries are multiplied by `√(1-γ)`. -/
theorem phase_damping_apply (sg cg : ℝ) (X : Matrix (Fin 2) (Fin 2) ℂ) :
    krausMap (fam2 (pdKraus (sg : ℂ) cg)) X =
      !![X 0 0, (cg : ℂ) * X 0 1;
         (cg : ℂ) * X 1 0, ((cg : ℂ) ^ 2 + (sg : ℂ) ^ 2) * X 1 1] := by
  rw [krausMap_fam2]
  simp only [pdKraus, List.map_cons, List.map_nil, List.sum_cons, List.sum_nil, toSq_m22, sandwich_fin_two,
    add_fin_two_of, add_zero, star_one, star_zero, Complex.star_def, Complex.conj_ofReal]
  refine fin_two_of_congr ?_ ?_ ?_ ?_ <;> ring

/-- The phase damping channel is unital. -/
theorem phase_damping_unital (sg cg : ℝ) (hg : sg ^ 2 + cg ^ 2 = 1) :
    krausMap (fam2 (pdKraus (sg : ℂ) cg)) 1 = 1 := by
  have hg' := ofReal_sq_add_sq hg
  rw [phase_damping_apply, one_fin_two]
  refine fin_two_of_congr rfl ?_ ?_ ?_
  · exact mul_zero _
  · exact mul_zero _
  · simp only [of_apply, cons_val', cons_val_one, cons_val_fin_one, mul_one]; linear_combination hg'

/-- The driver's direct application formula `Σ_K K X Kᵀ` on the phase-damping list is the Kraus map. -/
theorem phase_damping_model_apply (sg cg : ℝ) (X : Nat → Nat → ℂ) (a b : Nat) (ha : a < 2) (hb : b < 2) :
    applyReal2 (pdKraus (sg : ℂ) cg) X a b
      = krausMap (fam2 (pdKraus (sg : ℂ) cg)) (toSq 2 X) ⟨a, ha⟩ ⟨b, hb⟩ := by
  refine applyReal2_eq_krausMap _ ?_ X ⟨a, ha⟩ ⟨b, hb⟩
  simp only [pdKraus, List.forall_mem_cons, star_m22, star_zero, star_one]
  simp only [Complex.star_def, Complex.conj_ofReal, implies_true, and_self, List.not_mem_nil, false_imp_iff]

/-- The two Kraus operators of the bit-flip channel satisfy the completeness relation. -/
theorem bitflip_complete (s c : ℝ) (h : s ^ 2 + c ^ 2 = 1) :
    ∑ k, (fam2 (bfKraus (s : ℂ) c) k)ᴴ * fam2 (bfKraus (s : ℂ) c) k = 1 := by
  have h' := ofReal_sq_add_sq h
  rw [sum_fam2 _ fun K => Kᴴ * K, one_fin_two]
  simp only [bfKraus, List.map_cons, List.map_nil, List.sum_cons, List.sum_nil, toSq_m22, gram_fin_two,
    add_fin_two_of, add_zero, star_zero, Complex.star_def, Complex.conj_ofReal]
  refine fin_two_of_congr ?_ ?_ ?_ ?_
  · linear_combination h'
  · ring
  · ring
  · linear_combination h'

/-- The bit-flip channel is trace preserving. -/
theorem bitflip_tp (s c : ℝ) (h : s ^ 2 + c ^ 2 = 1) :
    IsTP (krausMap (fam2 (bfKraus (s : ℂ) c))) :=
  (pairMap_tp_iff _ _).mpr (bitflip_complete s c h)

/-- The bit-flip channel is `X ↦ (1-p)·X + p·σx X σx`. -/
theorem bitflip_apply (s c : ℝ) (X : Matrix (Fin 2) (Fin 2) ℂ) :
    krausMap (fam2 (bfKraus (s : ℂ) c)) X
      = ((c : ℂ) ^ 2) • X + ((s : ℂ) ^ 2) • ((!![0, 1; 1, 0] : Matrix (Fin 2) (Fin 2) ℂ) * X * !![0, 1; 1, 0]) := by
  rw [krausMap_fam2]
  nth_rewrite 2 3 [eta_fin_two X]
  simp only [bfKraus, List.map_cons, List.map_nil, List.sum_cons, List.sum_nil, toSq_m22, sandwich_fin_two,
    mul_fin_two, smul_fin_two_of, add_fin_two_of, add_zero, star_zero, Complex.star_def, Complex.conj_ofReal]
  refine fin_two_of_congr ?_ ?_ ?_ ?_ <;> ring

/-- The bit-flip channel is unital. -/
theorem bitflip_unital (s c : ℝ) (h : s ^ 2 + c ^ 2 = 1) :
    krausMap (fam2 (bfKraus (s : ℂ) c)) 1 = 1 := by
  have h' := ofReal_sq_add_sq h
  rw [bitflip_apply, mul_one, mul_fin_two, one_fin_two, smul_fin_two_of, smul_fin_two_of, add_fin_two_of]
  refine fin_two_of_congr ?_ ?_ ?_ ?_
  · linear_combination h'
  · ring
  · ring
  · linear_combination h'

/-- The driver's direct application formula on the bit-flip list is the Kraus map. -/
theorem bitflip_model_apply (s c : ℝ) (X : Nat → Nat → ℂ) (a b : Nat) (ha : a < 2) (hb : b < 2) :
    applyReal2 (bfKraus (s : ℂ) c) X a b
      = krausMap (fam2 (bfKraus (s : ℂ) c)) (toSq 2 X) ⟨a, ha⟩ ⟨b, hb⟩ := by
  refine applyReal2_eq_krausMap _ ?_ X ⟨a, ha⟩ ⟨b, hb⟩
  simp only [bfKraus, List.forall_mem_cons, star_m22, star_zero]
  simp only [Complex.star_def, Complex.conj_ofReal, implies_true, and_self, List.not_mem_nil, false_imp_iff]

/-- Each of the four Pauli matrices is Hermitian. -/
theorem pauli1_hermitian (s : Nat) : (toSq 2 (pauli1 Complex.I s))ᴴ = toSq 2 (pauli1 Complex.I s) := by
  -- `I`, `X`, `Y`, and `Z` for every index from `3` on
  rcases s with _ | _ | _ | s <;>
    simp only [pauli1, toSq_m22, conjTranspose_fin_two_of, zero_sub, Complex.star_def, map_zero, map_one, map_neg,
      Complex.conj_I, neg_neg]

/-- Each of the four Pauli matrices is unitary. -/
theorem pauli1_unitary (s : Nat) : (toSq 2 (pauli1 Complex.I s))ᴴ * toSq 2 (pauli1 Complex.I s) = 1 := by
  rw [pauli1_hermitian, one_fin_two]
  -- `I`, `X`, `Y`, and `Z` for every index from `3` on; a Hermitian Pauli matrix squares to `1`
  rcases s with _ | _ | _ | s
  all_goals
    simp only [pauli1, toSq_m22, mul_fin_two]
    refine fin_two_of_congr ?_ ?_ ?_ ?_ <;> simp

/-- Every Pauli string `σ_{i_0} ⊗ … ⊗ σ_{i_{q-1}}` is unitary (all `q`, all indices `j`). -/
theorem pauliString_unitary (q j : Nat) :
    (toSq (2 ^ q) (pauliString Complex.I q j))ᴴ * toSq (2 ^ q) (pauliString Complex.I q j) = 1 := by
  rw [toSq_pauliString, conjTranspose_submatrix, submatrix_mul_equiv, Toq.ExtGames.piKron_conjTranspose, Toq.ExtGames.piKron_mul]
  simp only [pauli1_unitary]
  rw [Toq.ExtGames.piKron_one, submatrix_one_equiv]

/-- A mixed-unitary channel with Kraus operators `√p_k · U_k` (the list `pauli_channel(…, return_kraus_ops=True)`
    returns) is trace preserving, unital, and acts as `X ↦ Σ_k p_k U_k X U_kᴴ`. -/
theorem mixed_unitary_tp_unital {d r : Nat} (p : Fin r → ℝ) (U : Fin r → Matrix (Fin d) (Fin d) ℂ)
    (hU : ∀ k, (U k)ᴴ * U k = 1) (hU' : ∀ k, U k * (U k)ᴴ = 1) (hs : ∑ k, p k = 1) (hp : ∀ k, 0 ≤ p k) :
    IsTP (krausMap fun k => ((Real.sqrt (p k) : ℝ) : ℂ) • U k) ∧
    IsUnital (krausMap fun k => ((Real.sqrt (p k) : ℝ) : ℂ) • U k) ∧
    ∀ X, krausMap (fun k => ((Real.sqrt (p k) : ℝ) : ℂ) • U k) X = ∑ k, (p k : ℂ) • (U k * X * (U k)ᴴ) := by
  have hform : ∀ X, krausMap (fun k => ((Real.sqrt (p k) : ℝ) : ℂ) • U k) X
      = ∑ k, (p k : ℂ) • (U k * X * (U k)ᴴ) := by
    intro X
    rw [krausMap_sqrt_smul p hp U, LinearMap.sum_apply]
    simp only [LinearMap.smul_apply, krausMap_single]
  have hs' : ∑ k, (p k : ℂ) = 1 := by rw [← Complex.ofReal_sum, hs, Complex.ofReal_one]
  refine ⟨?_, ?_, hform⟩
  · intro X
    rw [hform, Matrix.trace_sum]
    have : ∀ k, Matrix.trace ((p k : ℂ) • (U k * X * (U k)ᴴ)) = (p k : ℂ) * Matrix.trace X := by
      intro k
      rw [Matrix.trace_smul, Matrix.trace_mul_cycle, hU k, Matrix.one_mul, smul_eq_mul]
    simp only [this]
    rw [← Finset.sum_mul, hs', one_mul]
  · show krausMap _ 1 = 1
    rw [hform]
    have : ∀ k, (p k : ℂ) • (U k * 1 * (U k)ᴴ) = (p k : ℂ) • (1 : Matrix (Fin d) (Fin d) ℂ) := by
      intro k
      rw [Matrix.mul_one, hU' k]
    simp only [this]
    rw [← Finset.sum_smul, hs', one_smul]

theorem pauliString_unitary_right (q j : Nat) :
    toSq (2 ^ q) (pauliString Complex.I q j) * (toSq (2 ^ q) (pauliString Complex.I q j))ᴴ = 1 :=
  mul_eq_one_comm.mp (pauliString_unitary q j)

/-- The Kraus list `[√p_j · P_j]` of `pauli_channel(prob, return_kraus_ops=True)` for a probability vector
    `prob` over the `4^q` Pauli strings is a trace-preserving, unital map acting as `X ↦ Σ_j p_j P_j X P_jᴴ`. -/
theorem pauli_channel_kraus_tp_unital (q : Nat) (p : Fin (4 ^ q) → ℝ) (hs : ∑ k, p k = 1) (hp : ∀ k, 0 ≤ p k) :
    IsTP (krausMap fun k : Fin (4 ^ q) => ((Real.sqrt (p k) : ℝ) : ℂ) • toSq (2 ^ q) (pauliString Complex.I q k)) ∧
    IsUnital (krausMap fun k : Fin (4 ^ q) => ((Real.sqrt (p k) : ℝ) : ℂ) • toSq (2 ^ q) (pauliString Complex.I q k)) ∧
    ∀ X, krausMap (fun k : Fin (4 ^ q) => ((Real.sqrt (p k) : ℝ) : ℂ) • toSq (2 ^ q) (pauliString Complex.I q k)) X
      = ∑ k : Fin (4 ^ q), (p k : ℂ) • (toSq (2 ^ q) (pauliString Complex.I q k) * X
          * (toSq (2 ^ q) (pauliString Complex.I q k))ᴴ) :=
  mixed_unitary_tp_unital p (fun k => toSq (2 ^ q) (pauliString Complex.I q k))
    (fun k => pauliString_unitary q k) (fun k => pauliString_unitary_right q k) hs hp

/-- The matrix accumulated by `pauli_channel` is the sum of the Choi matrices of the maps
    `X ↦ P_j X (P_jᴴ)ᴴ` weighted by `p_j`, i.e. the terms `prob[j] * kraus_to_choi([[P, P.conj().T]])`. -/
theorem pauliChoi_eq (q : Nat) (p : Nat → ℂ) :
    (Matrix.of fun (P Q : Fin (2 ^ q) × Fin (2 ^ q)) =>
        pauliChoi Complex.I q p (P.1.val * 2 ^ q + P.2.val) (Q.1.val * 2 ^ q + Q.2.val) : TMat (2 ^ q) (2 ^ q))
      = ∑ j : Fin (4 ^ q), p j • choi (pairMap (r := 1)
          (fun _ => toSq (2 ^ q) (pauliString Complex.I q j))
          (fun _ => (toSq (2 ^ q) (pauliString Complex.I q j))ᴴ)) := by
  ext ⟨i, a⟩ ⟨j', b⟩
  rw [Matrix.sum_apply]
  simp only [Matrix.of_apply, pauliChoi, sumN_eq_sum_fin]
  refine Finset.sum_congr rfl fun j _ => ?_
  obtain ⟨h1, h2⟩ := Nat.mul_add_divMod_of_lt (q := i.val) a.isLt
  obtain ⟨h3, h4⟩ := Nat.mul_add_divMod_of_lt (q := j'.val) b.isLt
  rw [h1, h2, h3, h4, Matrix.smul_apply, smul_eq_mul, choi_pairMap_apply, Fin.sum_univ_one, Matrix.conjTranspose_apply,
    star_star]
  rfl

/-- index 6 of the two-qubit odometer is `X ⊗ Y` -/
example : pauliDigit 2 6 0 = 1 ∧ pauliDigit 2 6 1 = 2 := by decide

/-- index 1 of the two-qubit odometer is `I ⊗ X` -/
example : ∀ a b : Fin 4, pauliString (α := Int) 0 2 1 a b
    = ![![0, 1, 0, 0], ![1, 0, 0, 0], ![0, 0, 0, 1], ![0, 0, 1, 0]] a b := by decide

/-- index 12 of the two-qubit odometer is `Z ⊗ I` -/
example : ∀ a b : Fin 4, pauliString (α := Int) 0 2 12 a b
    = ![![1, 0, 0, 0], ![0, 1, 0, 0], ![0, 0, -1, 0], ![0, 0, 0, -1]] a b := by decide

end Toq.C06
end KrausConstructors


section PauliChannel
open Toq.ChannelProps Toq.ChanPropSpec Toq.ChanPropProofs Matrix
open scoped ComplexOrder
namespace Toq.C06

/-- Every Pauli string is Hermitian. -/
theorem pauliString_hermitian (q j : Nat) :
    (toSq (2 ^ q) (pauliString Complex.I q j))ᴴ = toSq (2 ^ q) (pauliString Complex.I q j) := by
  rw [toSq_pauliString, conjTranspose_submatrix, Toq.ExtGames.piKron_conjTranspose]
  simp only [pauli1_hermitian]

/-- **Choi and Kraus forms of `pauli_channel` agree.**  For non-negative weights the matrix accumulated by `pauli_channel`
    (`Σ_j p_j · kraus_to_choi([[P_j, P_jᴴ]])`) is the Choi matrix of the map with the returned Kraus list `[√p_j · P_j]`. -/
theorem pauliChoi_eq_choi_kraus (q : Nat) (p : Fin (4 ^ q) → ℝ) (hp : ∀ k, 0 ≤ p k) :
    (Matrix.of fun (P Q : Fin (2 ^ q) × Fin (2 ^ q)) =>
        pauliChoi Complex.I q (fun j => if h : j < 4 ^ q then ((p ⟨j, h⟩ : ℝ) : ℂ) else 0)
          (P.1.val * 2 ^ q + P.2.val) (Q.1.val * 2 ^ q + Q.2.val) : TMat (2 ^ q) (2 ^ q))
      = choi (krausMap fun k : Fin (4 ^ q) => ((Real.sqrt (p k) : ℝ) : ℂ) • toSq (2 ^ q) (pauliString Complex.I q k)) := by
  -- both sides are `Σ_j p_j · choi (X ↦ P_j X P_jᴴ)`: `P_j` is Hermitian, and `choi` is linear
  rw [pauliChoi_eq, krausMap_sqrt_smul _ hp]
  show _ = choiEquiv _
  rw [map_sum]
  refine Finset.sum_congr rfl fun k _ => ?_
  rw [dif_pos k.isLt, pauliString_hermitian, choiEquiv.map_smul]
  rfl

/-- **`pauli_channel` returns a unital channel, in every form.**  For a probability vector over the `4^q` Pauli strings the
    map whose Choi matrix `pauli_channel` returns is completely positive, trace preserving, unital, equals the map of the
    returned Kraus list `[√p_j · P_j]`, and acts as `X ↦ Σ_j p_j P_j X P_jᴴ` (the direct-application output). -/
theorem pauli_channel_channel (q : Nat) (p : Fin (4 ^ q) → ℝ) (hs : ∑ k, p k = 1) (hp : ∀ k, 0 ≤ p k) :
    let Φ := ofChoi (Matrix.of fun (P Q : Fin (2 ^ q) × Fin (2 ^ q)) =>
        pauliChoi Complex.I q (fun j => if h : j < 4 ^ q then ((p ⟨j, h⟩ : ℝ) : ℂ) else 0)
          (P.1.val * 2 ^ q + P.2.val) (Q.1.val * 2 ^ q + Q.2.val) : TMat (2 ^ q) (2 ^ q))
    Φ = krausMap (fun k : Fin (4 ^ q) => ((Real.sqrt (p k) : ℝ) : ℂ) • toSq (2 ^ q) (pauliString Complex.I q k)) ∧
    IsChannel Φ ∧ IsUnital Φ ∧
    ∀ X, Φ X = ∑ k : Fin (4 ^ q), (p k : ℂ) • (toSq (2 ^ q) (pauliString Complex.I q k) * X
          * (toSq (2 ^ q) (pauliString Complex.I q k))ᴴ) := by
  intro Φ
  have e : Φ = krausMap (fun k : Fin (4 ^ q) => ((Real.sqrt (p k) : ℝ) : ℂ) • toSq (2 ^ q) (pauliString Complex.I q k)) := by
    show ofChoi _ = _
    rw [pauliChoi_eq_choi_kraus q p hp, choi_faithful]
  obtain ⟨h1, h2, h3⟩ := pauli_channel_kraus_tp_unital q p hs hp
  refine ⟨e, ?_, ?_, ?_⟩
  · rw [e]; exact ⟨kraus_isCP _, h1⟩
  · rw [e]; exact h2
  · rw [e]; exact h3

end Toq.C06
end PauliChannel


section Ties
open Toq.ChannelProps Toq.ChanPropSpec Matrix
namespace Toq.C06
open Toq.ChanPropProofs

/-- The Choi matrix that the driver forms from a paired Kraus list `[[A_1, B_1], …]` (`choiOfPairs`) is, entry by
    entry, the Choi matrix of the map `X ↦ Σ_k A_k X B_kᴴ`. -/
theorem choiOfPairs_eq_choi (as bs : List (Toq.ChannelOps.Mat QI)) (hl : as.length = bs.length) (di dO : Nat)
    (i j : Fin di) (a b : Fin dO) :
    (choiOfPairs as bs dO dO (i.val * dO + a.val) (j.val * dO + b.val)).toC
      = choi (pairMap (fun k : Fin as.length => matC di dO as[k])
          (fun k : Fin as.length => matC di dO (bs[k.val]'(hl ▸ k.isLt)))) (i, a) (j, b) := by
  rw [choi_pairMap_apply]
  unfold choiOfPairs
  rw [Nat.mul_add_mod_of_lt a.isLt, Nat.mul_add_div_of_lt a.isLt, Nat.mul_add_mod_of_lt b.isLt, Nat.mul_add_div_of_lt b.isLt]
  exact toC_foldl_zip _ (fun A B => matC di dO A a i * star (matC di dO B b j)) as bs hl fun ab _ => by
    rw [QI.toC_mul, QI.toC_conj, ← Complex.star_def, matC_apply, matC_apply]

/-- The exact matrix of the form that `choiOfArg` hands to the deciders (`EMat.ofFn` of `choiOfPairs`; that `choiOfArg` returns it
    on the lists of `KrausArg.split` is read off its body, not stated) denotes, through `toChoi`, the Choi matrix of the map
    `X ↦ Σ_k A_k X B_kᴴ` given by the two lists. -/
theorem choiOfArg_denotes (as bs : List (Toq.ChannelOps.Mat QI)) (hl : as.length = bs.length) (di dO : Nat) :
    toChoi (EMat.ofFn fun p q : Fin (di * dO) => choiOfPairs as bs dO dO p.val q.val)
      = choi (pairMap (fun k : Fin as.length => matC di dO as[k])
          (fun k : Fin as.length => matC di dO (bs[k.val]'(hl ▸ k.isLt)))) := by
  ext ⟨i, a⟩ ⟨j, b⟩
  rw [← choiOfPairs_eq_choi as bs hl di dO i j a b]
  simp only [toChoi, EMat.get_ofFn, pairIdx_val]

/-- Evaluating a map from its Choi matrix entry by entry (`actOfChoi`) is the application of the linear map
    `ofChoi J` with that Choi matrix. -/
theorem actOfChoi_eq (J X : Nat → Nat → ℂ) (di dO : Nat) :
    toSq dO (actOfChoi J di dO X) = ofChoi (toT J : TMat di dO) (toSq di X) := by
  ext a b
  rw [ofChoi_apply']
  simp only [toSq, actOfChoi, sumN_eq_sum_fin, toT]

end Toq.C06
end Ties


section DecidersAndChannels
open Toq.ChannelProps Toq.ChanPropSpec Toq.ChanPropProofs Matrix
open scoped ComplexOrder
namespace Toq.C06
variable {di dO : Nat}

/-- **`Tr_out J = 1` decides trace preservation.**  If the exact matrix `J` denotes the Choi matrix of `Φ`,
    the exact test `tpDecide J` is `true` exactly when `tr Φ(X) = tr X` for every `X`. -/
theorem tpDecide_correct (Φ : LMap di dO) (J : EMat (di * dO) (di * dO)) (h : choi Φ = toChoi J) :
    tpDecide J = true ↔ IsTP Φ := by
  rw [tpDecide_iff, ← h, ← tp_iff_ptrace_choi]

/-- **`Tr_in J = 1` decides unitality.** -/
theorem unitalDecide_correct (Φ : LMap di dO) (J : EMat (di * dO) (di * dO)) (h : choi Φ = toChoi J) :
    unitalDecide J = true ↔ IsUnital Φ := by
  rw [unitalDecide_iff, ← h, ← unital_iff_ptrace_choi]

/-- **`J = Jᴴ` decides Hermiticity preservation.** -/
theorem hpDecide_correct (Φ : LMap di dO) (J : EMat (di * dO) (di * dO)) (h : choi Φ = toChoi J) :
    hpDecide J = true ↔ IsHP Φ := by
  rw [hpDecide_iff, ← h, ← hp_iff_choi_hermitian]

/-- **An accepted positive certificate proves complete positivity** (every amplification `id_n ⊗ Φ` is
    positive), by Choi's theorem. -/
theorem cpDecide_sound {k : Nat} (Φ : LMap di dO) (J : EMat (di * dO) (di * dO)) (L : EMat (di * dO) k)
    (h : choi Φ = toChoi J) : psdYes J L = true → IsCP Φ := by
  intro hc
  rw [cp_iff_choi_psd, h]
  exact psdYes_sound J L hc

/-- **An accepted negative witness refutes complete positivity.** -/
theorem cpRefute_sound (Φ : LMap di dO) (J : EMat (di * dO) (di * dO)) (v : EMat (di * dO) 1) (μ : Rat)
    (h : choi Φ = toChoi J) : negWitness J v μ = true → ¬ IsCP Φ := by
  intro hc hcp
  rw [cp_iff_choi_psd, h] at hcp
  exact negWitness_sound_choi J v μ hc hcp

/-- **Quantum channel.**  Positive certificate and exact `Tr_out J = 1` together prove that `Φ` is completely
    positive and trace preserving. -/
theorem channelDecide_sound {k : Nat} (Φ : LMap di dO) (J : EMat (di * dO) (di * dO)) (L : EMat (di * dO) k)
    (h : choi Φ = toChoi J) : psdYes J L = true → tpDecide J = true → IsChannel Φ :=
  fun h1 h2 => ⟨cpDecide_sound Φ J L h h1, (tpDecide_correct Φ J h).mp h2⟩

/-- **What `is_positive` accepts is positive.**  `is_positive` tests positive semidefiniteness of the Choi
    matrix; a map with positive semidefinite Choi matrix is completely positive, hence positive: the test never
    accepts a non-positive map, and it accepts every completely positive one (`cp_iff_choi_psd`). -/
theorem positive_of_choi_psd (Φ : LMap di dO) : (choi Φ).PosSemidef → IsPositive Φ :=
  fun h => cp_implies_positive Φ ((cp_iff_choi_psd Φ).mpr h)

/-- **Product-vector witness of non-positivity.**  For vectors `x`, `y`:
    `yᴴ Φ(x xᴴ) y = vᴴ J(Φ) v` with the product vector `v(i,a) = conj(x_i)·y_a`; so a negative value of the
    quadratic form of the Choi matrix at a product vector shows that `Φ` is not a positive map. -/
theorem not_positive_of_product_witness (Φ : LMap di dO) (x : Fin di → ℂ) (y : Fin dO → ℂ)
    (h : (star (fun p : Fin di × Fin dO => star (x p.1) * y p.2) ⬝ᵥ
          (choi Φ *ᵥ fun p : Fin di × Fin dO => star (x p.1) * y p.2)).re < 0) : ¬ IsPositive Φ := by
  intro hpos
  have hq := (hpos _ (Matrix.posSemidef_vecMulVec_self_star x)).dotProduct_mulVec_nonneg y
  rw [quadForm_map_vecMulVec] at hq
  exact absurd (Complex.nonneg_iff.mp hq).1 (not_le.mpr h)

/-- **Depolarizing channel.**  For every dimension and every `0 ≤ p ≤ 1` the map whose Choi matrix
    `depolarizing(d, p)` returns is a quantum channel (completely positive, trace preserving) and unital. -/
theorem depolarizing_channel (d : Nat) (p : ℝ) (h0 : 0 ≤ p) (h1 : p ≤ 1) :
    IsChannel (ofChoi (toT (depolChoi d (p : ℂ)) : TMat d d)) ∧ IsUnital (ofChoi (toT (depolChoi d (p : ℂ)) : TMat d d)) :=
  ⟨⟨(isCP_ofChoi_iff _).mpr (depolarizing_choi_psd d p h0 h1), depolarizing_tp d p⟩,
    depolarizing_unital d p⟩

/-- **Dephasing channel.**  Same for `dephasing(d, p)`. -/
theorem dephasing_channel (d : Nat) (p : ℝ) (h0 : 0 ≤ p) (h1 : p ≤ 1) :
    IsChannel (ofChoi (toT (dephChoi d (p : ℂ)) : TMat d d)) ∧ IsUnital (ofChoi (toT (dephChoi d (p : ℂ)) : TMat d d)) :=
  ⟨⟨(isCP_ofChoi_iff _).mpr (dephasing_choi_psd d p h0 h1), dephasing_tp d p⟩,
    dephasing_unital d p⟩

/-- **Reduction map: positive, not completely positive.**  For `1 ≤ k < d` the map `X ↦ k·tr(X)·1 - X` whose Choi
    matrix `reduction(d, k)` returns is positive but not completely positive (the maximally entangled vector
    is a negative direction of its Choi matrix). -/
theorem reduction_positive_not_cp (d : Nat) (hd : 0 < d) (k : ℝ) (hk : 1 ≤ k) (hkd : k < d) :
    IsPositive (ofChoi (toT (reductionChoi d (k : ℂ)) : TMat d d)) ∧ ¬ IsCP (ofChoi (toT (reductionChoi d (k : ℂ)) : TMat d d)) :=
  ⟨reduction_positive d k hk, fun h => reduction_not_cp d k hkd hd ((isCP_ofChoi_iff _).mp h)⟩

/-- **Choi map: not completely positive** for `a < 2` (in particular the standard Choi map `choi(1,1,0)`). -/
theorem choiMap_not_completely_positive (a b c : ℝ) (ha : a < 2) :
    ¬ IsCP (ofChoi (toT (choiMapChoi (a : ℂ) b c) : TMat 3 3)) :=
  fun h => choiMap_not_cp a b c ha ((isCP_ofChoi_iff _).mp h)

/-- **Kraus lists of the qubit constructors are channels.**  Any Kraus family with `Σ KᴴK = 1` (amplitude
    damping: `amplitude_damping_complete`, phase damping, bit flip) is a completely positive trace-preserving map. -/
theorem kraus_channel_of_complete {r : Nat} (K : Fin r → Matrix (Fin dO) (Fin di) ℂ)
    (h : ∑ k, (K k)ᴴ * K k = 1) : IsChannel (krausMap K) :=
  ⟨kraus_isCP K, (pairMap_tp_iff K K).mpr h⟩

/-- **The driver's direct-application formulas are the specification maps.**  The entrywise textbook actions
    evaluated by the driver (`depolAct`, `dephAct`, `reductionAct`, `choiMapAct`) are `depolSpec`, `dephSpec`,
    `reductionSpec`, `choiMapSpec`, hence (by the `…_apply` theorems) the maps of the returned Choi matrices. -/
theorem depolAct_eq_spec (d : Nat) (p : ℂ) (X : Nat → Nat → ℂ) :
    toSq d (depolAct d p X) = depolSpec d p (toSq d X) := by
  ext a b
  simp only [toSq_apply, depolAct, depolSpec, trN, delta, Matrix.add_apply, Matrix.smul_apply, Matrix.one_apply,
    smul_eq_mul, Matrix.trace, Matrix.diag, sumN_eq_sum_fin, Fin.ext_iff]

/-- The entrywise dephasing formula of the driver is `dephSpec`. -/
theorem dephAct_eq_spec (d : Nat) (p : ℂ) (X : Nat → Nat → ℂ) :
    toSq d (dephAct p X) = dephSpec d p (toSq d X) := by
  ext a b
  simp only [toSq_apply, dephAct, dephSpec, diagPart, Matrix.add_apply, Matrix.smul_apply, Matrix.diagonal_apply,
    smul_eq_mul, Fin.ext_iff]

/-- The entrywise reduction-map formula of the driver is `reductionSpec`. -/
theorem reductionAct_eq_spec (d : Nat) (k : ℂ) (X : Nat → Nat → ℂ) :
    toSq d (reductionAct d k X) = reductionSpec d k (toSq d X) := by
  ext a b
  simp only [toSq_apply, reductionAct, reductionSpec, trN, delta, Matrix.sub_apply, Matrix.smul_apply, Matrix.one_apply,
    smul_eq_mul, Matrix.trace, Matrix.diag, sumN_eq_sum_fin, Fin.ext_iff]

/-- The entry-level generalised Choi map of the model is the map `choiMapSpec` of the specification. -/
theorem choiMapAct_eq_spec (a b c : ℂ) (X : Nat → Nat → ℂ) :
    toSq 3 (choiMapAct a b c X) = choiMapSpec a b c (toSq 3 X) := by
  ext s t
  simp only [toSq_apply, choiMapAct, choiMapSpec, Matrix.sub_apply, Matrix.diagonal_apply, Fin.ext_iff, Fin.val_add,
    Fin.val_one, Fin.val_two]

end Toq.C06
end DecidersAndChannels


section Ranges
open Toq.ChannelProps Toq.ChanPropSpec Toq.ChanPropProofs Matrix
open scoped ComplexOrder
namespace Toq.C06

/-- **Dephasing channel: the exact range.**  For `d ≥ 2` the matrix `dephasing(d, p)` is positive semidefinite (the map, trace
    preserving and unital for every `p`, is a channel) exactly for `-1/(d-1) ≤ p ≤ 1`, written `p ≤ 1 ∧ 0 ≤ 1 + p(d-1)`. -/
theorem dephasing_cp_iff (d : Nat) (hd : 2 ≤ d) (p : ℝ) :
    (toT (dephChoi d (p : ℂ)) : TMat d d).PosSemidef ↔ p ≤ 1 ∧ 0 ≤ 1 + p * ((d : ℝ) - 1) := by
  have e2 : 1 - p + p * d = 1 + p * ((d : ℝ) - 1) := by ring
  rw [toT_deph_real, deph_psd_iff d hd, e2, sub_nonneg]

/-- **Depolarizing channel: the exact range.**  For `d ≥ 2` the matrix `depolarizing(d, p)` is positive semidefinite — the
    map is completely positive, hence (being trace preserving for every `p`) a channel — exactly for
    `-1/(d²-1) ≤ p ≤ 1`, written as `p ≤ 1 ∧ 0 ≤ 1 + p(d²-1)`. -/
theorem depolarizing_cp_iff (d : Nat) (hd : 2 ≤ d) (p : ℝ) :
    (toT (depolChoi d (p : ℂ)) : TMat d d).PosSemidef ↔ p ≤ 1 ∧ 0 ≤ 1 + p * ((d : ℝ) ^ 2 - 1) := by
  have hd0 : (0 : ℝ) < d := Nat.cast_pos.mpr (by omega)
  have e2 : (1 - p) / d + p * d = (1 + p * ((d : ℝ) ^ 2 - 1)) / d := by field_simp; ring
  rw [toT_depol_real, depol_psd_iff d hd, e2, le_div_iff₀ hd0, le_div_iff₀ hd0, zero_mul, sub_nonneg]

/-- For `p > 1` (just outside the documented range) `depolarizing(d, p)`, `d ≥ 2`, is not completely positive. -/
theorem depolarizing_not_cp_of_gt_one (d : Nat) (hd : 2 ≤ d) (p : ℝ) (hp : 1 < p) :
    ¬ IsCP (ofChoi (toT (depolChoi d (p : ℂ)) : TMat d d)) := by
  rw [isCP_ofChoi_iff, depolarizing_cp_iff d hd]
  intro h; linarith [h.1]

/-- For `p > 1` (just outside the documented range) `dephasing(d, p)`, `d ≥ 2`, is not completely positive. -/
theorem dephasing_not_cp_of_gt_one (d : Nat) (hd : 2 ≤ d) (p : ℝ) (hp : 1 < p) :
    ¬ IsCP (ofChoi (toT (dephChoi d (p : ℂ)) : TMat d d)) := by
  rw [isCP_ofChoi_iff, dephasing_cp_iff d hd]
  intro h; linarith [h.1]

end Toq.C06
end Ranges


section QubitChannelsAndGuards
open Toq.ChannelProps Toq.ChanPropSpec Toq.ChanPropProofs Matrix
open scoped ComplexOrder
namespace Toq.C06

/-- **Generalized amplitude damping: a channel for every admissible parameter.**  For `0 ≤ γ ≤ 1` and `0 ≤ prob ≤ 1` the Kraus
    list returned by `amplitude_damping(None, γ, prob)` — entries built from `√prob`, `√(1-prob)`, `√γ`, `√(1-γ)` — is a
    completely positive trace-preserving map. -/
theorem amplitude_damping_channel (γ prob : ℝ) (hγ0 : 0 ≤ γ) (hγ1 : γ ≤ 1) (hp0 : 0 ≤ prob) (hp1 : prob ≤ 1) :
    IsChannel (krausMap (fam2 (adKraus ((Real.sqrt prob : ℝ) : ℂ) (Real.sqrt (1 - prob) : ℝ)
      (Real.sqrt γ : ℝ) (Real.sqrt (1 - γ) : ℝ)))) :=
  kraus_channel_of_complete _ (amplitude_damping_complete _ _ _ _ (sq_sqrt_add_sq_sqrt_one_sub hp0 hp1)
    (sq_sqrt_add_sq_sqrt_one_sub hγ0 hγ1))

/-- **Phase damping: a unital channel for every `0 ≤ γ ≤ 1`.** -/
theorem phase_damping_channel (γ : ℝ) (hγ0 : 0 ≤ γ) (hγ1 : γ ≤ 1) :
    IsChannel (krausMap (fam2 (pdKraus ((Real.sqrt γ : ℝ) : ℂ) (Real.sqrt (1 - γ) : ℝ)))) ∧
    IsUnital (krausMap (fam2 (pdKraus ((Real.sqrt γ : ℝ) : ℂ) (Real.sqrt (1 - γ) : ℝ)))) := by
  have h := sq_sqrt_add_sq_sqrt_one_sub hγ0 hγ1
  exact ⟨kraus_channel_of_complete _ (phase_damping_complete _ _ h), phase_damping_unital _ _ h⟩

/-- **Bit flip: a unital channel for every `0 ≤ prob ≤ 1`**, acting as `X ↦ (1-prob)·X + prob·σx X σx`. -/
theorem bitflip_channel (prob : ℝ) (hp0 : 0 ≤ prob) (hp1 : prob ≤ 1) :
    IsChannel (krausMap (fam2 (bfKraus ((Real.sqrt prob : ℝ) : ℂ) (Real.sqrt (1 - prob) : ℝ)))) ∧
    IsUnital (krausMap (fam2 (bfKraus ((Real.sqrt prob : ℝ) : ℂ) (Real.sqrt (1 - prob) : ℝ)))) ∧
    ∀ X, krausMap (fam2 (bfKraus ((Real.sqrt prob : ℝ) : ℂ) (Real.sqrt (1 - prob) : ℝ))) X
      = ((1 - prob : ℝ) : ℂ) • X + (prob : ℂ) • ((!![0, 1; 1, 0] : Matrix (Fin 2) (Fin 2) ℂ) * X * !![0, 1; 1, 0]) := by
  have h := sq_sqrt_add_sq_sqrt_one_sub hp0 hp1
  refine ⟨kraus_channel_of_complete _ (bitflip_complete _ _ h), bitflip_unital _ _ h, fun X => ?_⟩
  rw [bitflip_apply]
  have e1 : ((Real.sqrt (1 - prob) : ℝ) : ℂ) ^ 2 = ((1 - prob : ℝ) : ℂ) := by
    rw [← Complex.ofReal_pow, Real.sq_sqrt (sub_nonneg.mpr hp1)]
  have e2 : ((Real.sqrt prob : ℝ) : ℂ) ^ 2 = (prob : ℂ) := by
    rw [← Complex.ofReal_pow, Real.sq_sqrt hp0]
  rw [e1, e2]

/-- The parameter guard of `amplitude_damping` accepts exactly the documented ranges (and a `2 × 2` input when one is given). -/
theorem adGuard_ok_iff (gamma prob : Rat) (shape : Option (Nat × Nat)) :
    adGuard gamma prob shape = Guard.ok ↔
      (0 ≤ prob ∧ prob ≤ 1) ∧ (0 ≤ gamma ∧ gamma ≤ 1) ∧ (shape = none ∨ shape = some (2, 2)) := by
  unfold adGuard
  rw [ite_eq_iff_of_left_ne (by decide), ite_eq_iff_of_left_ne (by decide), not_inUnit_iff, not_inUnit_iff]
  exact and_congr_right' (and_congr_right' (shapeGuard_ok_iff shape))

/-- The parameter guard of `phase_damping` accepts exactly `0 ≤ γ ≤ 1` (and a `2 × 2` input when one is given). -/
theorem pdGuard_ok_iff (gamma : Rat) (shape : Option (Nat × Nat)) :
    pdGuard gamma shape = Guard.ok ↔ (0 ≤ gamma ∧ gamma ≤ 1) ∧ (shape = none ∨ shape = some (2, 2)) := by
  unfold pdGuard
  rw [ite_eq_iff_of_left_ne (by decide), not_inUnit_iff]
  exact and_congr_right' (shapeGuard_ok_iff shape)

/-- The parameter guard of `bitflip` accepts exactly `0 ≤ prob ≤ 1` (and a `2 × 2` input when one is given). -/
theorem bfGuard_ok_iff (prob : Rat) (shape : Option (Nat × Nat)) :
    bfGuard prob shape = Guard.ok ↔ (0 ≤ prob ∧ prob ≤ 1) ∧ (shape = none ∨ shape = some (2, 2)) := by
  unfold bfGuard
  rw [ite_eq_iff_of_left_ne (by decide), not_inUnit_iff]
  exact and_congr_right' (shapeGuard_ok_iff shape)

/-- The guard of `pauli_channel` accepts only probability vectors (no negative entry, sum exactly one) whose length is a power
    of four. -/
theorem pauliGuard_ok_imp (p : List Rat) (h : pauliGuard p = Guard.ok) :
    (∀ x ∈ p, 0 ≤ x) ∧ p.foldl (· + ·) 0 = 1 ∧ ∃ q, 4 ^ q = p.length := by
  unfold pauliGuard at h
  dsimp only at h
  rw [ite_eq_iff_of_left_ne (by decide), ite_eq_iff_of_left_ne (by decide), ite_eq_iff_of_left_ne (by decide)] at h
  obtain ⟨h1, -, h3, h4⟩ := h
  refine ⟨fun x hx => ?_, ?_, ?_⟩
  · by_contra hc
    exact h1 (List.any_eq_true.mpr ⟨x, hx, by simpa using hc⟩)
  · have h3' : (if p.foldl (· + ·) 0 < 1 then 1 - p.foldl (· + ·) 0 else p.foldl (· + ·) 0 - 1) = 0 := by
      simpa using h3
    split_ifs at h3' <;> linarith
  · cases hq : log4? p.length with
    | none => rw [hq] at h4; exact absurd h4 (by decide)
    | some q => exact ⟨q, by simpa using List.find?_some hq⟩

end Toq.C06
end QubitChannelsAndGuards


section ExactRank
open Toq.ChannelProps Toq.ChanPropSpec Toq.ChanPropProofs Matrix
namespace Toq.C06

/-- **The exact rank routine is correct.**  For every size and all exact rows, `rankQ r c M` (Gaussian elimination over
    `ℚ[i]`) equals Mathlib's `Matrix.rank` of the complex `r × c` matrix that the rows denote. -/
theorem rankQ_eq_rank (r c : Nat) (M : QM) : rankQ r c M = (qmToM r c M).rank :=
  Toq.Rank.rankFn_eq_rank r c M.get

/-- **The reported Choi rank is the Choi rank.**  If the exact matrix `c.J` denotes the Choi matrix of `Φ`, the field
    `rank` of the driver's report (the oracle for `choi_rank`, and the input of the unitarity verdict) equals
    `Matrix.rank (choi Φ)`. -/
theorem choiRank_exact {k : Nat} (c : ChoiForm) (Φ : LMap c.di c.dO) (L : Option (EMat (c.di * c.dO) k))
    (v : Option (EMat (c.di * c.dO) 1)) (h : choi Φ = toChoi c.J) : (report c L v).rank = (choi Φ).rank := by
  rw [h]
  exact rankQ_toQM c

/-- **Pivot columns: as many as the rank.** -/
theorem pivotCols_length (r c : Nat) (M : QM) : (pivotCols r c M).length = (qmToM r c M).rank :=
  Toq.Rank.pivotsFn_length r c M.get

/-- **Pivot columns are independent columns of the matrix**: every listed index is a column index, and the listed columns
    of the denoted complex matrix are linearly independent — with `pivotCols_length`, a basis of the column space.  These are
    the columns of the Choi matrix from which `extremalDecide` reads its basis `W_1 … W_r` of `span{K_i}`. -/
theorem pivotCols_linearIndependent (r c : Nat) (M : QM) :
    (∀ q ∈ pivotCols r c M, q < c) ∧
    LinearIndependent ℂ (fun t : Fin (pivotCols r c M).length => fun i : Fin r => (M.get i.val ((pivotCols r c M)[t.val])).toC) :=
  ⟨Toq.Rank.pivotsFn_lt r c M.get, Toq.Rank.pivotsFn_linearIndependent r c M.get⟩

/-- **The final test of the extremality procedures decides linear independence.**  `rankQ r c M = r` (for `extremalDecide`
    and `extremalAsCoded`: the `r²` flattened operators `W_kᴴ W_l` as rows, compared with `r²`) holds exactly when the `r`
    rows of the denoted complex matrix are linearly independent. -/
theorem rankQ_eq_rows_iff (r c : Nat) (M : QM) : rankQ r c M = r ↔ LinearIndependent ℂ (qmToM r c M).row := by
  rw [rankQ_eq_rank, Matrix.linearIndependent_row_iff_rank]

/-- the routine on a concrete complex matrix: `[[1, i], [i, -1]]` has rank 1 and pivot column 0 -/
example : rankQ 2 2 #[#[⟨1, 0⟩, ⟨0, 1⟩], #[⟨0, 1⟩, ⟨-1, 0⟩]] = 1 ∧ pivotCols 2 2 #[#[⟨1, 0⟩, ⟨0, 1⟩], #[⟨0, 1⟩, ⟨-1, 0⟩]] = [0] := by
  decide +kernel

end Toq.C06
end ExactRank


section UnitaryDecider
open Toq.ChannelProps Toq.ChanPropSpec Toq.ChanPropProofs Matrix
open scoped ComplexOrder
namespace Toq.C06

/-- The Choi matrix of a unitary channel on a non-trivial space has rank one and trace `d`. -/
theorem unitary_choi_rank_trace {d : Nat} (hd : 0 < d) (Φ : LMap d d) (h : IsUnitaryChannel Φ) :
    (choi Φ).rank = 1 ∧ (choi Φ).trace = (d : ℂ) := by
  obtain ⟨U, hU, hJ⟩ := (unitary_iff_choi Φ).mp h
  have htr : (choi Φ).trace = (d : ℂ) := by
    rw [hJ, Matrix.trace_vecMulVec]
    rw [kvec_dotProduct_star_self, hU, Matrix.trace_one, Fintype.card_fin]
  refine ⟨?_, htr⟩
  have hle : (choi Φ).rank ≤ 1 := by rw [hJ]; exact Matrix.rank_vecMulVec_le _ _
  have hne : (choi Φ).rank ≠ 0 := by
    intro h0
    have := Matrix.eq_zero_of_rank_eq_zero _ h0
    rw [this, Matrix.trace_zero] at htr
    have : (d : ℂ) ≠ 0 := Nat.cast_ne_zero.mpr hd.ne'
    exact this htr.symm
  omega

/-- **The unitarity verdict `yes` is sound.**  If the exact matrix `J` denotes the Choi matrix of `Φ` and the verdict computed
    from the exact rank is `yes` (rank one, Hermitian, positive trace, `Tr_out J = 1`), then `Φ(X) = U X Uᴴ` for a unitary `U`. -/
theorem unitaryV_yes_sound (d : Nat) (J : EMat (d * d) (d * d)) (Φ : LMap d d) (h : choi Φ = toChoi J) :
    unitaryV ⟨d, d, J⟩ (rankQ (d * d) (d * d) (ChoiForm.toQM ⟨d, d, J⟩)) = Verdict.yes → IsUnitaryChannel Φ := by
  intro hv
  obtain ⟨-, h1, hH, h2, htpV⟩ := unitaryV_yes hv
  have hr1 : (choi Φ).rank = 1 := by rw [h, ← rankQ_toQM ⟨d, d, J⟩]; exact h1
  have hHerm : (choi Φ).IsHermitian := by rw [h]; exact (hpV_yes_iff J).mp hH
  have htp : IsTP Φ := by rw [tp_iff_ptrace_choi, h]; exact (tpV_yes_iff J).mp htpV
  have htr : 0 < (choi Φ).trace.re := by
    rw [h, trace_toChoi, ← EMat.re_trace]
    exact_mod_cast h2
  obtain ⟨v, hvv⟩ := Toq.MatrixSpectral.hermitian_rank_one_eq (choi Φ) hHerm hr1 htr
  exact unitary_of_rank_one_tp Φ (unvec v) (by rw [hvv, kvec_unvec]) htp

/-- **The unitarity verdict `no` is sound** (spaces of dimension at least one): a map judged `no` — Choi rank different from one,
    Choi matrix not Hermitian, non-positive trace, or `Tr_out J ≠ 1` — is not a unitary channel. -/
theorem unitaryV_no_sound (d : Nat) (hd : 0 < d) (J : EMat (d * d) (d * d)) (Φ : LMap d d) (h : choi Φ = toChoi J) :
    unitaryV ⟨d, d, J⟩ (rankQ (d * d) (d * d) (ChoiForm.toQM ⟨d, d, J⟩)) = Verdict.no → ¬ IsUnitaryChannel Φ := by
  intro hv hU
  obtain ⟨hr1, htrd⟩ := unitary_choi_rank_trace hd Φ hU
  obtain ⟨hcp, htp, _⟩ := unitary_channel Φ hU
  rcases unitaryV_no hv with hne | hrk | hH | htr | htpV
  · exact hne rfl
  · exact hrk (by rw [rankQ_toQM ⟨d, d, J⟩, ← h, hr1])
  · exact hpV_no_imp J hH (by rw [← h]; exact ((cp_iff_choi_psd Φ).mp hcp).isHermitian)
  · have h1 : (((J.trace).re : Rat) : ℝ) = (d : ℝ) := by
      rw [EMat.re_trace, ← trace_toChoi, ← h, htrd]; simp
    have h2 : (((J.trace).re : Rat) : ℝ) ≤ 0 := by exact_mod_cast htr
    have h3 : (0 : ℝ) < d := Nat.cast_pos.mpr hd
    linarith
  · exact tpV_no_imp J htpV (by rw [← h]; exact (tp_iff_ptrace_choi Φ).mp htp)

end Toq.C06
end UnitaryDecider


section Extremality
open Toq.ChannelProps Toq.ChanPropSpec Toq.ChanPropProofs Toq.Rank Matrix
open scoped ComplexOrder
namespace Toq.C06
variable {di dO r : Nat}

/-- The Choi matrix depends linearly on the map. -/
theorem choi_linear (a b : ℂ) (Φ Ψ : LMap di dO) : choi (a • Φ + b • Ψ) = a • choi Φ + b • choi Ψ := rfl

/-- A map is a channel (completely positive — every amplification positive — and trace preserving) iff its Choi matrix is
    positive semidefinite with `Tr_out J = 1`. -/
theorem isChannel_iff_choi (Φ : LMap di dO) : IsChannel Φ ↔ IsChoiChannel (choi Φ) := by
  unfold IsChannel IsChoiChannel
  rw [cp_iff_choi_psd, tp_iff_ptrace_choi]

/-- The channels form a convex set. -/
theorem channels_convex (Φ₀ Φ₁ : LMap di dO) (h0 : IsChannel Φ₀) (h1 : IsChannel Φ₁) (t : ℝ) (ht0 : 0 ≤ t) (ht1 : t ≤ 1) :
    IsChannel ((t : ℂ) • Φ₀ + ((1 - t : ℝ) : ℂ) • Φ₁) := by
  rw [isChannel_iff_choi] at h0 h1 ⊢
  rw [choi_linear]
  refine ⟨(h0.1.smul (Complex.zero_le_real.mpr ht0)).add (h1.1.smul (Complex.zero_le_real.mpr (sub_nonneg.mpr ht1))), ?_⟩
  rw [ptraceOut_eq_ptrR, Matrix.ptrR_add, Matrix.ptrR_smul, Matrix.ptrR_smul, ← ptraceOut_eq_ptrR (choi Φ₀),
    ← ptraceOut_eq_ptrR (choi Φ₁), h0.2, h1.2, ← add_smul]
  push_cast
  rw [add_sub_cancel, one_smul]

/-- A map is an extreme point of the convex set of channels iff its Choi matrix is an extreme point of the convex set of
    Choi matrices of channels (positive semidefinite, `Tr_out J = 1`). -/
theorem isExtremeChannel_iff_choi (Φ : LMap di dO) : IsExtremeChannel Φ ↔ IsChoiExtreme (choi Φ) := by
  -- transport along the linear equivalence `choi`, under which channels correspond to Choi matrices of channels
  have inj : ∀ {Ψ Ψ' : LMap di dO}, Ψ = Ψ' ↔ choi Ψ = choi Ψ' := ⟨congrArg choi, choi_injective⟩
  refine and_congr (isChannel_iff_choi Φ) (choiEquiv.toEquiv.forall_congr fun Φ₀ =>
    choiEquiv.toEquiv.forall_congr fun Φ₁ => forall_congr' fun t => ?_)
  rw [isChannel_iff_choi, isChannel_iff_choi, inj (Ψ := Φ), inj (Ψ := Φ₀), inj (Ψ := Φ₁)]
  rfl

/-- **Choi's theorem on extreme channels, basis form.**  Let `Φ` be a channel and `W_1 … W_r` linearly independent operators
    whose column-stacking vectors lie in the column space of the Choi matrix, `r` = the Choi rank (so they form a basis of the
    span of the Kraus operators of `Φ`).  Then `Φ` is an extreme point of the set of channels iff the `r²` operators
    `W_kᴴ W_l` are linearly independent. -/
theorem extreme_iff_basis_products_independent (Φ : LMap di dO) (hΦ : IsChannel Φ) (W : Fin r → Matrix (Fin dO) (Fin di) ℂ)
    (hLI : LinearIndependent ℂ W) (hcol : ∀ k, ∃ c, kvec (W k) = choi Φ *ᵥ c) (hr : (choi Φ).rank = r) :
    IsExtremeChannel Φ ↔ LinearIndependent ℂ (fun p : Fin r × Fin r => (W p.1)ᴴ * W p.2) := by
  rw [isExtremeChannel_iff_choi]
  choose c hc using hcol
  refine choiExtreme_iff_of_basis (choi Φ) ((isChannel_iff_choi Φ).mp hΦ) W hLI (Matrix.of fun p k => c k p) ?_ hr
  ext p k
  have := congrFun (hc k) p
  rw [Matrix.mul_apply]
  exact this

/-- **Choi's theorem on extreme channels (Choi 1975; Watrous, Thm 2.31).**  A channel `X ↦ Σ_k K_k X K_kᴴ` with linearly
    independent Kraus operators is an extreme point of the convex set of channels iff the `r²` operators `K_kᴴ K_l` are
    linearly independent. -/
theorem extreme_iff_kraus_products_independent (K : Fin r → Matrix (Fin dO) (Fin di) ℂ) (hLI : LinearIndependent ℂ K)
    (hTP : ∑ k, (K k)ᴴ * K k = 1) :
    IsExtremeChannel (krausMap K) ↔ LinearIndependent ℂ (fun p : Fin r × Fin r => (K p.1)ᴴ * K p.2) := by
  rw [isExtremeChannel_iff_choi, choi_krausMap_eq]
  exact choiExtreme_kraus_iff K hLI hTP

/-- Sufficiency needs no assumption on the Kraus operators: if the products `K_kᴴ K_l` of a trace-preserving Kraus family
    are linearly independent (which forces the `K_k` to be independent), the channel is extreme. -/
theorem extreme_of_products_independent (K : Fin r → Matrix (Fin dO) (Fin di) ℂ) (hTP : ∑ k, (K k)ᴴ * K k = 1)
    (h : LinearIndependent ℂ (fun p : Fin r × Fin r => (K p.1)ᴴ * K p.2)) : IsExtremeChannel (krausMap K) :=
  (extreme_iff_kraus_products_independent K (linearIndependent_of_products K h) hTP).mpr h

/-- A unitary channel is an extreme point of the set of channels. -/
theorem unitary_channel_extreme (Φ : LMap di di) (h : IsUnitaryChannel Φ) : IsExtremeChannel Φ := by
  obtain ⟨U, h1, _, hΦ⟩ := h
  obtain rfl := eq_krausMap_single hΦ
  have hTP : ∑ _k : Fin 1, Uᴴ * U = 1 := by rw [Fin.sum_univ_one]; exact h1
  rcases Nat.eq_zero_or_pos di with rfl | hd
  · have hsub : ∀ Ψ Ψ' : LMap 0 0, Ψ = Ψ' := fun Ψ Ψ' => LinearMap.ext fun X => Subsingleton.elim _ _
    exact ⟨⟨kraus_isCP _, (pairMap_tp_iff _ _).mpr hTP⟩, fun Φ₀ Φ₁ _ _ _ _ _ _ => ⟨hsub _ _, hsub _ _⟩⟩
  · exact extreme_of_products_independent (fun _ : Fin 1 => U) hTP
      (products_independent_of_single (fun _ : Fin 1 => U) rfl hd hTP)

/-- **`extremalDecide` decides extremality.**  If the exact matrix `c.J` denotes the Choi matrix of a channel `Φ`, the
    executable test (pivot columns of `J` as a basis `W_1 … W_r` of the span of the Kraus operators, exact rank of the `r²`
    flattened products `W_kᴴ W_l` compared with `r²`) answers `true` exactly when `Φ` is an extreme point of the convex set of
    channels. -/
theorem extremalDecide_correct (c : ChoiForm) (Φ : LMap c.di c.dO) (h : choi Φ = toChoi c.J) (hΦ : IsChannel Φ) :
    extremalDecide c.di c.dO c.toQM = true ↔ IsExtremeChannel Φ := by
  rw [isExtremeChannel_iff_choi, h]
  exact extremalDecide_iff_choiExtreme c (h ▸ (isChannel_iff_choi Φ).mp hΦ)

/-- The field `extremal` of the driver's report is that decision. -/
theorem report_extremal_correct {k : Nat} (c : ChoiForm) (Φ : LMap c.di c.dO) (L : Option (EMat (c.di * c.dO) k))
    (v : Option (EMat (c.di * c.dO) 1)) (h : choi Φ = toChoi c.J) (hΦ : IsChannel Φ) :
    (report c L v).extremal = true ↔ IsExtremeChannel Φ :=
  extremalDecide_correct c Φ h hΦ

/-- **The procedure of `is_extremal` is right on linearly independent Kraus lists.**  For a list of exact operators that is
    linearly independent and satisfies `Σ KᴴK = 1` (input dimension at least one), `matrix_rank([K_iᴴ K_j]) == r²` — with the
    shortcut `True` for a single operator — answers `true` exactly when the channel is extreme. -/
theorem extremalAsCoded_correct (di dO : Nat) (Ks : List (Nat → Nat → QI)) (hd : 0 < di)
    (hLI : LinearIndependent ℂ (fun k : Fin Ks.length => fnToM dO di Ks[k]))
    (hTP : ∑ k : Fin Ks.length, (fnToM dO di Ks[k])ᴴ * fnToM dO di Ks[k] = 1) :
    extremalAsCoded di dO Ks = true ↔ IsExtremeChannel (krausMap fun k : Fin Ks.length => fnToM dO di Ks[k]) := by
  rw [isExtremeChannel_iff_choi, choi_krausMap_eq]
  exact extremalAsCoded_iff_choiExtreme di dO Ks hd hLI hTP

/-- **The procedure of `is_extremal` answers `false` on every linearly dependent list of two or more operators**, whether or
    not the channel is extreme (the known finding `c06-extremal-redundant-kraus`: e.g. the unitary channel written as `[3/5·U, 4/5·U]`). -/
theorem extremalAsCoded_dependent (di dO : Nat) (Ks : List (Nat → Nat → QI)) (hr : Ks.length ≠ 1)
    (hdep : ¬ LinearIndependent ℂ (fun k : Fin Ks.length => fnToM dO di Ks[k])) :
    extremalAsCoded di dO Ks = false := by
  unfold extremalAsCoded
  have hb : (Ks.length == 1) = false := by simpa using hr
  simp only [hb, Bool.false_eq_true, if_false, beq_eq_false_iff_ne]
  exact fun h => hdep (linearIndependent_of_products _ ((prodRows_rank_opFam_iff di dO Ks).mp h))

/-! ## non-vacuity: the extremality deciders on concrete channels -/

/-- the identity channel on one qubit -/
private def JidE : EMat (2 * 2) (2 * 2) :=
  EMat.ofFn fun p q => if p.val / 2 = p.val % 2 ∧ q.val / 2 = q.val % 2 then 1 else 0
/-- the completely depolarizing channel on one qubit: `J = 1/2` -/
private def JdepE : EMat (2 * 2) (2 * 2) := EMat.ofFn fun p q => if p = q then ⟨1 / 2, 0⟩ else 0
/-- amplitude damping with `√γ = 3/5`, `√(1-γ) = 4/5`: `J = vec K₀ vec K₀ᴴ + vec K₁ vec K₁ᴴ`, `K₀ = diag(1, 4/5)`, `K₁ = (3/5)·E₀₁` -/
private def JadE : EMat (2 * 2) (2 * 2) :=
  EMat.ofFn fun p q =>
    match p.val, q.val with
    | 0, 0 => 1 | 0, 3 => ⟨4 / 5, 0⟩ | 3, 0 => ⟨4 / 5, 0⟩ | 3, 3 => ⟨16 / 25, 0⟩ | 2, 2 => ⟨9 / 25, 0⟩
    | _, _ => 0

/-- the identity channel is extreme -/
example : extremalDecide 2 2 (ChoiForm.toQM ⟨2, 2, JidE⟩) = true := by decide +kernel
/-- the completely depolarizing channel is not -/
example : extremalDecide 2 2 (ChoiForm.toQM ⟨2, 2, JdepE⟩) = false := by decide +kernel
/-- the amplitude damping channel is (it is trace preserving, of Choi rank two) -/
example : tpDecide (di := 2) (dO := 2) JadE = true ∧ rankQ 4 4 (ChoiForm.toQM ⟨2, 2, JadE⟩) = 2
    ∧ extremalDecide 2 2 (ChoiForm.toQM ⟨2, 2, JadE⟩) = true := by decide +kernel
/-- the identity channel on a one-dimensional space written as `[3/5, 4/5]`: `is_extremal`'s procedure says `false`, Choi's
    criterion on a basis says `true` -/
example : extremalAsCoded 1 1 [fun _ _ => ⟨3 / 5, 0⟩, fun _ _ => ⟨4 / 5, 0⟩] = false
    ∧ extremalDecide 1 1 (ChoiForm.toQM ⟨1, 1, EMat.ofFn fun _ _ => 1⟩) = true := by decide +kernel

end Toq.C06
end Extremality


section ExtremePoints
open Toq.ChannelProps Toq.ChanPropSpec Toq.ChanPropProofs Matrix
open scoped ComplexOrder
namespace Toq.C06
variable {di dO : Nat}

/-- **`IsExtremeChannel` is Mathlib's notion of extreme point** of the set of channels inside the real vector space of linear
    maps. -/
theorem isExtremeChannel_iff_mem_extremePoints (Φ : LMap di dO) :
    IsExtremeChannel Φ ↔ Φ ∈ Set.extremePoints ℝ {Ψ : LMap di dO | IsChannel Ψ} := by
  rw [mem_extremePoints_iff_proper_comb]
  rfl

end Toq.C06
end ExtremePoints


section AmplitudeDampingExtreme
open Toq.ChannelProps Toq.ChanPropSpec Toq.ChanPropProofs Matrix
open scoped ComplexOrder
namespace Toq.C06

/-- With `prob = 1` the list returned by `amplitude_damping` is `K₀, K₁` followed by two zero operators: the same map. -/
theorem amplitude_damping_standard_eq_pair (sg cg : ℂ) :
    krausMap (fam2 (adKraus (1 : ℂ) 0 sg cg)) = krausMap (adPair sg cg) := by
  apply LinearMap.ext
  intro X
  rw [krausMap_fam2, krausMap_apply, Fin.sum_univ_two]
  simp only [adKraus, adPair, List.map_cons, List.map_nil, List.sum_cons, List.sum_nil, toSq_m22, cons_val_zero, cons_val_one,
    sandwich_fin_two, add_fin_two_of, add_zero, one_mul, zero_mul, mul_zero, mul_one, star_one, star_zero]

/-- **The amplitude damping channel is an extreme channel** for every damping rate `γ = s² > 0` (`s² + c² = 1`):
    the four products `K_kᴴ K_l` of `K₀ = diag(1, c)`, `K₁ = s·E₀₁` are `diag(1, c²)`, `s·E₀₁`, `s·E₁₀`, `s²·E₁₁`. -/
theorem amplitude_damping_extreme (sg cg : ℝ) (h : sg ^ 2 + cg ^ 2 = 1) (hs : sg ≠ 0) :
    IsExtremeChannel (krausMap (adPair (sg : ℂ) cg)) := by
  have hs' : (sg : ℂ) ≠ 0 := Complex.ofReal_ne_zero.mpr hs
  -- completeness of `K₀, K₁` is that of the four-element list with `prob = 1`, the same map
  have hTP : ∑ k, (adPair (sg : ℂ) cg k)ᴴ * adPair (sg : ℂ) cg k = 1 := by
    refine (pairMap_tp_iff _ _).mp ?_
    have := amplitude_damping_tp 1 0 sg cg (by norm_num) h
    rwa [Complex.ofReal_one, Complex.ofReal_zero, amplitude_damping_standard_eq_pair] at this
  refine extreme_of_products_independent _ hTP (Fintype.linearIndependent_iff.mpr fun g hg => ?_)
  rw [Fintype.sum_prod_type, Fin.sum_univ_two, Fin.sum_univ_two, Fin.sum_univ_two] at hg
  simp only [adPair, cons_val_zero, cons_val_one, conjTranspose_fin_two_of, mul_fin_two, smul_fin_two_of, add_fin_two_of,
    star_one, star_zero, Complex.star_def, Complex.conj_ofReal] at hg
  obtain ⟨e00, e01, e10, e11⟩ := fin_two_of_eq_zero hg
  have g00 : g (0, 0) = 0 := by linear_combination e00
  have g01 : g (0, 1) = 0 := (mul_eq_zero.mp (by linear_combination e01 : g (0, 1) * (sg : ℂ) = 0)).resolve_right hs'
  have g10 : g (1, 0) = 0 := (mul_eq_zero.mp (by linear_combination e10 : g (1, 0) * (sg : ℂ) = 0)).resolve_right hs'
  have g11 : g (1, 1) = 0 :=
    (mul_eq_zero.mp (by linear_combination e11 - (cg : ℂ) ^ 2 * g00 : g (1, 1) * (sg : ℂ) ^ 2 = 0)).resolve_right
      (pow_ne_zero 2 hs')
  rintro ⟨a, b⟩
  fin_cases a <;> fin_cases b <;> assumption

/-- **The known finding, for every damping amplitude.**  On the four-element list that `amplitude_damping(None, γ, 1)` itself
    returns (two of its operators vanish) the procedure of `is_extremal` answers `false`, for all exact `s`, `c` (normalised or not);
    for real `s² + c² = 1`, `s ≠ 0` the channel of that list is extreme (`amplitude_damping_extreme`,
    `amplitude_damping_standard_eq_pair`, about the list over `ℂ`; no theorem reads the `QI` list in `ℂ`). -/
theorem amplitude_damping_list_answered_false (s c : QI) :
    extremalAsCoded 2 2 (adKraus (1 : QI) 0 s c) = false := by
  refine extremalAsCoded_dependent 2 2 _ (by show (4 : Nat) ≠ 1; decide) fun hLI => ?_
  have h3 : (3 : Nat) < (adKraus (1 : QI) 0 s c).length := by show 3 < 4; decide
  -- the fourth operator of the list is `(0·s)·E₁₀`: it denotes the zero matrix
  have e : ((0 : QI) * s).toC = 0 := by rw [QI.toC_mul, QI.toC_zero, zero_mul]
  refine hLI.ne_zero ⟨3, h3⟩ ?_
  ext a i
  fin_cases a <;> fin_cases i
  · exact QI.toC_zero
  · exact QI.toC_zero
  · exact e
  · exact QI.toC_zero

end Toq.C06
end AmplitudeDampingExtreme


section Tolerances
open Toq.ChannelProps Toq.ChanPropSpec Toq.ChanPropProofs Matrix
open scoped ComplexOrder
namespace Toq.C06
variable {di dO : Nat}

/-- **The mirror of `np.allclose` means `np.allclose`.**  For non-negative tolerances, `allcloseQ rtol atol A B` is `true`
    exactly when `|A_ij - B_ij| ≤ atol + rtol·|B_ij|` (complex moduli) holds in every entry of the denoted matrices. -/
theorem allclose_mirror {n m : Nat} (rtol atol : Rat) (hr : 0 ≤ rtol) (ha : 0 ≤ atol) (A B : EMat n m) :
    allcloseQ rtol atol A B = true ↔
      ∀ i j, ‖A.toM i j - B.toM i j‖ ≤ (atol : ℝ) + (rtol : ℝ) * ‖B.toM i j‖ :=
  allcloseQ_iff rtol atol hr ha A B

/-- The mirror of `is_trace_preserving(J, rtol, atol)`: `Tr_out J` is entrywise within `atol + rtol·δ_ij` of the identity. -/
theorem tpClose_iff (rtol atol : Rat) (hr : 0 ≤ rtol) (ha : 0 ≤ atol) (J : EMat (di * dO) (di * dO)) :
    tpClose rtol atol J = true ↔
      ∀ i j, ‖Toq.ChanPropSpec.ptraceOut (toChoi J) i j - (1 : Matrix (Fin di) (Fin di) ℂ) i j‖
        ≤ (atol : ℝ) + (rtol : ℝ) * ‖(1 : Matrix (Fin di) (Fin di) ℂ) i j‖ := by
  unfold tpClose
  rw [allcloseQ_iff rtol atol hr ha, toM_ptraceOut, EMat.toM_one]

/-- The mirror of `is_unital(J, rtol, atol)`: `Tr_in J = Φ(1)` is entrywise within `atol + rtol·δ_ab` of the identity. -/
theorem unitalClose_iff (rtol atol : Rat) (hr : 0 ≤ rtol) (ha : 0 ≤ atol) (J : EMat (di * dO) (di * dO)) :
    unitalClose rtol atol J = true ↔
      ∀ a b, ‖Toq.ChanPropSpec.ptraceIn (toChoi J) a b - (1 : Matrix (Fin dO) (Fin dO) ℂ) a b‖
        ≤ (atol : ℝ) + (rtol : ℝ) * ‖(1 : Matrix (Fin dO) (Fin dO) ℂ) a b‖ := by
  unfold unitalClose
  rw [allcloseQ_iff rtol atol hr ha, toM_ptraceIn, EMat.toM_one]

/-- The mirror of `is_herm_preserving(J, rtol, atol)`: `|J_pq - conj(J_qp)| ≤ atol + rtol·|J_qp|` for all `p, q`. -/
theorem hpClose_iff (rtol atol : Rat) (hr : 0 ≤ rtol) (ha : 0 ≤ atol) (J : EMat (di * dO) (di * dO)) :
    hpClose rtol atol J = true ↔
      ∀ p q, ‖J.toM p q - star (J.toM q p)‖ ≤ (atol : ℝ) + (rtol : ℝ) * ‖J.toM q p‖ := by
  unfold hpClose
  rw [allcloseQ_iff rtol atol hr ha, EMat.toM_ct]
  simp only [Matrix.conjTranspose_apply, norm_star]

/-- **A verdict `yes` is inside every tolerance**: if the exact decider finds the two sides equal, `np.allclose` holds for all
    non-negative `rtol`, `atol`. -/
theorem eqV_yes_imp_allclose {n m : Nat} (rtol atol : Rat) (hr : 0 ≤ rtol) (ha : 0 ≤ atol) (A B : EMat n m) :
    eqV A B = Verdict.yes → allcloseQ rtol atol A B = true :=
  fun h => allcloseQ_of_eq rtol atol A B ((eqV_yes_iff A B).mp h)

/-- **A verdict `no` is outside the tolerance**: if the exact decider finds the two sides apart by its margin
    `100·(1e-8 + 1e-5·scale)`, then `np.allclose` fails for every `rtol ≤ 1e-5`, `atol ≤ 1e-8` (in particular toqito's
    defaults).  Together with `eqV_yes_imp_allclose`: on every input on which the three-valued deciders answer `yes` or `no`, the
    tolerance test of `is_trace_preserving` / `is_unital` / `is_herm_preserving` evaluated exactly gives the same answer. -/
theorem eqV_no_imp_not_allclose {n m : Nat} (rtol atol : Rat) (hr0 : 0 ≤ rtol) (ha0 : 0 ≤ atol)
    (hr : rtol ≤ 1 / 100000) (ha : atol ≤ 1 / 100000000) (A B : EMat n m) :
    eqV A B = Verdict.no → allcloseQ rtol atol A B = false :=
  fun h => not_allcloseQ_of_farApart rtol atol hr0 ha0 hr ha A B ((eqV_no A B).mp h).2

/-- The three verdicts about a Choi matrix agree with the exact mirrors of toqito's tolerance tests at the default
    tolerances whenever they are decided. -/
theorem verdicts_agree_with_default_tolerances (J : EMat (di * dO) (di * dO)) :
    (tpV J = Verdict.yes → tpClose (1 / 100000) (1 / 100000000) J = true) ∧
    (tpV J = Verdict.no → tpClose (1 / 100000) (1 / 100000000) J = false) ∧
    (unitalV J = Verdict.yes → unitalClose (1 / 100000) (1 / 100000000) J = true) ∧
    (unitalV J = Verdict.no → unitalClose (1 / 100000) (1 / 100000000) J = false) ∧
    (hpV J = Verdict.yes → hpClose (1 / 100000) (1 / 100000000) J = true) ∧
    (hpV J = Verdict.no → hpClose (1 / 100000) (1 / 100000000) J = false) := by
  have h1 : (0 : Rat) ≤ 1 / 100000 := by norm_num
  have h2 : (0 : Rat) ≤ 1 / 100000000 := by norm_num
  -- each decider and its mirror compare the same pair: `Tr_out J` with `1`, `Tr_in J` with `1`, `J` with `Jᴴ`
  exact ⟨eqV_yes_imp_allclose _ _ h1 h2 (Toq.ChannelProps.ptraceOut J) EMat.one, eqV_no_imp_not_allclose _ _ h1 h2 le_rfl le_rfl (Toq.ChannelProps.ptraceOut J) EMat.one,
    eqV_yes_imp_allclose _ _ h1 h2 (Toq.ChannelProps.ptraceIn J) EMat.one, eqV_no_imp_not_allclose _ _ h1 h2 le_rfl le_rfl (Toq.ChannelProps.ptraceIn J) EMat.one,
    eqV_yes_imp_allclose _ _ h1 h2 J J.ct, eqV_no_imp_not_allclose _ _ h1 h2 le_rfl le_rfl J J.ct⟩

/-- **The eigenvalue test of `is_positive_semidefinite`.**  For a Hermitian matrix, `A + c·1 ⪰ 0` holds exactly when every
    eigenvalue is at least `-c` (the test `all(x >= -abs(atol) for x in evals)` with `c = |atol|`). -/
theorem psd_shift_iff_eigenvalues {n : Type*} [Fintype n] [DecidableEq n] {A : Matrix n n ℂ} (hA : A.IsHermitian) (c : ℝ) :
    (A + (c : ℂ) • (1 : Matrix n n ℂ)).PosSemidef ↔ ∀ i, -c ≤ hA.eigenvalues i :=
  Toq.Metrics.posSemidef_add_smul_one_iff hA c

/-- **`psdTolV = yes` means `is_positive_semidefinite` holds on the exact input**: the matrix is Hermitian and `J + |atol|·1 ⪰ 0`,
    i.e. every eigenvalue is `≥ -|atol|` (`psd_shift_iff_eigenvalues`). -/
theorem psdTolV_yes_imp {n k : Nat} (rtol atol : Rat) (J : EMat n n) (L : Option (EMat n k)) (c : Rat)
    (v : Option (EMat n 1)) (μ : Rat) :
    psdTolV rtol atol J L c v μ = Verdict.yes →
      J.toM.IsHermitian ∧ (J.toM + ((absQ atol : Rat) : ℂ) • (1 : Matrix (Fin n) (Fin n) ℂ)).PosSemidef := by
  intro h
  obtain ⟨hH, L', -, -, hc, hL⟩ := psdTolV_yes h
  refine ⟨(EMat.isHermitian_iff J).mp hH, ?_⟩
  -- the certified shift `c` is at most `|atol|`
  have hp := psdCert_sound _ L' hL
  rw [EMat.toM_add, EMat.toM_scalar] at hp
  have := hp.add_smul_one_mono (c' := ((absQ atol : Rat) : ℝ)) (by exact_mod_cast hc)
  rwa [Complex.ofReal_ratCast] at this

/-- **`psdTolV = no` means `is_positive_semidefinite` fails on the exact input** (for `rtol`, `atol ≥ 0`, where `allcloseQ` is
    `np.allclose`: `allclose_mirror`): the Hermiticity test fails, or the matrix is Hermitian and `J + |atol|·1` is not positive
    semidefinite, i.e. some eigenvalue is `< -|atol|`. -/
theorem psdTolV_no_imp {n k : Nat} (rtol atol : Rat) (J : EMat n n) (L : Option (EMat n k)) (c : Rat)
    (v : Option (EMat n 1)) (μ : Rat) :
    psdTolV rtol atol J L c v μ = Verdict.no →
      allcloseQ rtol atol J J.ct = false ∨
      (J.toM.IsHermitian ∧ ¬ (J.toM + ((absQ atol : Rat) : ℂ) • (1 : Matrix (Fin n) (Fin n) ℂ)).PosSemidef) := by
  intro h
  rcases psdTolV_no h with h1 | ⟨hH, v', -, hμ, hw⟩
  · exact Or.inl h1
  · exact Or.inr ⟨(EMat.isHermitian_iff J).mp hH,
      by simpa using (negWitness_sound J v' μ hw).2 ((absQ atol : Rat) : ℝ) (by exact_mod_cast hμ)⟩

end Toq.C06
end Tolerances


section PairedLists
open Toq.ChannelProps Toq.ChanPropSpec Toq.ChanPropProofs Matrix
open scoped ComplexOrder
namespace Toq.C06

/-- **The list branch of `is_trace_preserving` computes `Σ_k A_kᴴ B_k`.**  For a paired list of exact `dO × di` operators the
    matrix `k_l.conj().T @ k_r` of the stacked operators (model: `sumAdjMul`) denotes `Σ_k A_kᴴ B_k`. -/
theorem sumAdjMul_denotes (as bs : List (Toq.ChannelOps.Mat QI)) (hl : as.length = bs.length) (di dO : Nat)
    (hr : ∀ A ∈ as, A.r = dO) :
    (sumAdjMul as bs di).toM
      = ∑ k : Fin as.length, (matC di dO as[k])ᴴ * matC di dO (bs[k.val]'(hl ▸ k.isLt)) := by
  ext i j
  rw [Matrix.sum_apply]
  simp only [sumAdjMul, EMat.toM_apply, EMat.get_ofFn]
  refine toC_foldl_zip _ (fun A B => ((matC di dO A)ᴴ * matC di dO B) i j) as bs hl fun ab hab => ?_
  rw [hr _ (List.of_mem_zip hab).1, matC_eq_fnToM, matC_eq_fnToM, ← Toq.Rank.fnToM_conj, ← Toq.Rank.fnToM_sumN_mul]
  rfl

/-- **`is_trace_preserving` on a paired list, exact test.**  `Σ_k A_kᴴ B_k = 1` exactly (the relation whose `allclose` version
    the code tests) holds iff the map `X ↦ Σ_k A_k X B_kᴴ` preserves the trace. -/
theorem tpPairs_correct (as bs : List (Toq.ChannelOps.Mat QI)) (hl : as.length = bs.length) (di dO : Nat)
    (hr : ∀ A ∈ as, A.r = dO) :
    (sumAdjMul as bs di).beq EMat.one = true ↔
      IsTP (pairMap (fun k : Fin as.length => matC di dO as[k])
        (fun k : Fin as.length => matC di dO (bs[k.val]'(hl ▸ k.isLt)))) := by
  rw [EMat.beq_iff, sumAdjMul_denotes as bs hl di dO hr, EMat.toM_one, pairMap_tp_iff]

/-- The mirror of `is_trace_preserving([[A, B], …], rtol, atol)`: every entry of `Σ_k A_kᴴ B_k` is within `atol + rtol·δ_ij` of the
    identity. -/
theorem tpPairsClose_iff (rtol atol : Rat) (hr0 : 0 ≤ rtol) (ha0 : 0 ≤ atol) (as bs : List (Toq.ChannelOps.Mat QI))
    (hl : as.length = bs.length) (di dO : Nat) (hr : ∀ A ∈ as, A.r = dO) :
    tpPairsClose rtol atol as bs di = true ↔
      ∀ i j, ‖(∑ k : Fin as.length, (matC di dO as[k])ᴴ * matC di dO (bs[k.val]'(hl ▸ k.isLt))) i j
          - (1 : Matrix (Fin di) (Fin di) ℂ) i j‖ ≤ (atol : ℝ) + (rtol : ℝ) * ‖(1 : Matrix (Fin di) (Fin di) ℂ) i j‖ := by
  unfold tpPairsClose
  rw [allcloseQ_iff rtol atol hr0 ha0, sumAdjMul_denotes as bs hl di dO hr, EMat.toM_one]

end Toq.C06
end PairedLists

