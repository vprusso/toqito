import Toq.Model.PartialOps
import Toq.Spec.PartialTrace
import Toq.Proofs.PartialTrace
import Toq.Model.PartialOpsArgs
import Toq.Proofs.PartialOpsArgs
import Toq.Proofs.PartialTraceExtra
import Toq.Properties.C01
import Mathlib.Algebra.Group.Defs
import Mathlib.Data.Int.Star
import Mathlib.Algebra.Ring.Defs
/-!
# C02 — the partial trace sums the entries that agree on the traced subsystems

The specification is `Toq/Spec/PartialTrace.lean`; the lemmas are in `Toq/Proofs/PartialTrace.lean`,
`PartialTraceExtra.lean` (Hermiticity, positivity, the mechanism) and `PartialOpsArgs.lean` (argument forms).
The mirror model `Toq.PartialOps.partialTrace` follows `toqito/channels/partial_trace.py` line by line
(`perm = kept ++ sys`, `permute_systems`, F-order reshape to `[T,K,T,K]`, transpose `(1,3,0,2)`, F-order reshape to `[K,K,T*T]`, strided pick of the diagonal
`t*(T+1)`, sum over the last axis).  The theorems hold for every number `n` of subsystems, every
dimension vector with positive entries (entries `1` allowed) and every duplicate-free list `S` of
subsystems in any order.

Beyond the numerical core: the argument decoding (`sys` = `None` / int / list, `dim` = `None` / int /
list, defaults, error guards) and the cvxpy-`Variable` branch are mirrored in
`Toq/Model/PartialOpsArgs.lean` (`partialTraceArgs`, `partialTraceCvx`); the `ptrace_args_*` and
`ptrace_cvx_*` theorems say what they mean.  Hermiticity / positive semidefiniteness
(Mathlib's `Matrix.PosSemidef`) are preserved, and `ptrace_via_permute` states the code's mechanism with
the permutation model of C01.
-/
namespace Toq.C02
open Toq.PartialOps Toq.PTrace

/-- The model's `set(range(n)) - set(sys)` is the list of the other subsystems in increasing order. -/
theorem setDiff_eq_others (n : Nat) (S : List Nat) : setDiff n S = others n S :=
  Toq.PTrace.setDiff_eq_others n S

/-- The remaining subsystems are exactly those below `n` not listed in `S`, and they are listed in
    increasing order, i.e. they keep their original order in the output. -/
theorem others_spec (n : Nat) (S : List Nat) :
    (∀ k, k ∈ others n S ↔ k < n ∧ k ∉ S) ∧ (others n S).Pairwise (· < ·) :=
  ⟨fun _ => mem_others, List.Pairwise.filter _ List.pairwise_lt_range⟩

/-- The index `join i t` used by the specification is a valid index whose label on a subsystem
    `k ∈ S` is the label that the code `t` gives to `k`, and whose label on any other subsystem is the
    label that the code `i` gives to `k`. -/
theorem join_labels (n : Nat) (dims : Nat → Nat) (S : List Nat) (hd : ∀ k, k < n → 0 < dims k)
    (i t : Nat) :
    join n dims S i t < prodN dims n ∧ ∀ k, k < n →
      dec dims n (join n dims S i t) k
        = if k ∈ S then digitOn dims S t k else digitOn dims (others n S) i k :=
  ⟨join_lt n dims S hd i t, fun k hk => dec_join n dims S hd i t k hk⟩

/-- The model's output size `prod(dim) / prod(dim[sys])` is the dimension of the remaining subsystems,
    and its summation range `prod(dim[sys])` is the dimension of the traced ones. -/
theorem ptrace_dim (n : Nat) (dims : Nat → Nat) (S : List Nat) (hd : ∀ k, k < n → 0 < dims k)
    (hnd : S.Nodup) (hlt : ∀ s ∈ S, s < n) :
    prodN dims n / prodList dims S = subDim dims (others n S) ∧ prodList dims S = subDim dims S ∧
      prodN dims n = subDim dims (others n S) * subDim dims S :=
  ⟨prodN_div_prodList n dims S hd hnd hlt, prodList_eq_subDim dims S, prodN_eq_subDim_mul n dims S hnd hlt⟩

/-- **The model computes the partial trace.**  For every scalar type with `+` and `0` (no algebraic law
    is needed: the summation order of model and specification is the same), every square operator `X`
    on `n` subsystems of positive dimensions `dims`, every duplicate-free list `S` of subsystems (any
    order, may be empty) and all `i j` below the dimension of the remaining subsystems, the entry
    `(i, j)` of the model output is the sum of the entries of `X` whose row and column labels agree on
    every subsystem in `S` and are given by `i` resp. `j` on the other subsystems, which keep their
    original order. -/
theorem ptrace_eq_spec {α : Type} [Add α] [Zero α] (X : Nat → Nat → α) (n : Nat) (dims : Nat → Nat)
    (S : List Nat) (hd : ∀ k, k < n → 0 < dims k) (hnd : S.Nodup) (hlt : ∀ s ∈ S, s < n) (i j : Nat)
    (hi : i < subDim dims (others n S)) (hj : j < subDim dims (others n S)) :
    partialTrace X n dims S i j = ptraceSpec X n dims S i j :=
  partialTrace_eq_spec n dims S hd hnd hlt X i j hi hj

/-- **Additivity** (model level, no hypothesis on the arguments at all): the partial trace of a sum is the
    sum of the partial traces.  Needs `+` commutative and associative. -/
theorem ptrace_add {α : Type} [AddCommMonoid α] (X Y : Nat → Nat → α) (n : Nat) (dims : Nat → Nat)
    (S : List Nat) (i j : Nat) :
    partialTrace (fun r c => X r c + Y r c) n dims S i j
      = partialTrace X n dims S i j + partialTrace Y n dims S i j := by
  obtain ⟨T, f, g, h⟩ := partialTrace_gather n dims S i j
  rw [h, h, h, sumN_add_distrib]

/-- **Homogeneity** (model level, no hypothesis on the arguments): scalars pull out. -/
theorem ptrace_smul {α : Type} [NonUnitalNonAssocSemiring α] (c : α) (X : Nat → Nat → α) (n : Nat)
    (dims : Nat → Nat) (S : List Nat) (i j : Nat) :
    partialTrace (fun r c' => c * X r c') n dims S i j = c * partialTrace X n dims S i j := by
  obtain ⟨T, f, g, h⟩ := partialTrace_gather n dims S i j
  rw [h, h, sumN_mul_left]

/-- **Tr_B (A ⊗ B) = Tr(B) · A** for two subsystems of dimensions `dA`, `dB`: if
    `X[(a,b),(a',b')] = A[a,a'] * B[b,b']` then tracing out the second subsystem gives
    `(Σ_b B[b,b]) * A[a,a']`. -/
theorem ptrace_bipartite_kron {α : Type} [CommSemiring α] (A B X : Nat → Nat → α) (dA dB : Nat)
    (hA : 0 < dA) (hB : 0 < dB)
    (hX : ∀ a a' b b', a < dA → a' < dA → b < dB → b' < dB →
      X (a * dB + b) (a' * dB + b') = A a a' * B b b')
    (a a' : Nat) (ha : a < dA) (ha' : a' < dA) :
    partialTrace X 2 (fnOfList [dA, dB]) [1] a a' = (sumN dB fun b => B b b) * A a a' := by
  rw [partialTrace_two_snd X dA dB a a' ha ha', ← sumN_mul_right]
  exact sumN_congr _ _ _ (fun t ht => by rw [hX a a' t t ha ha' ht ht, mul_comm])

/-- **Tr_A (A ⊗ B) = Tr(A) · B**: tracing out the first of two subsystems. -/
theorem ptrace_bipartite_kron_first {α : Type} [CommSemiring α] (A B X : Nat → Nat → α) (dA dB : Nat)
    (hA : 0 < dA) (hB : 0 < dB)
    (hX : ∀ a a' b b', a < dA → a' < dA → b < dB → b' < dB →
      X (a * dB + b) (a' * dB + b') = A a a' * B b b')
    (b b' : Nat) (hb : b < dB) (hb' : b' < dB) :
    partialTrace X 2 (fnOfList [dA, dB]) [0] b b' = (sumN dA fun a => A a a) * B b b' := by
  rw [partialTrace_two_fst X dA dB b b' hb hb', ← sumN_mul_right]
  exact sumN_congr _ _ _ (fun t ht => by rw [hX t t b b' ht ht hb hb'])

/-- **Trace preservation**: the trace of the model output (over the remaining subsystems) is the trace
    of the input.  Needs `+` commutative and associative (the summands are reordered). -/
theorem ptrace_trace {α : Type} [AddCommMonoid α] (X : Nat → Nat → α) (n : Nat) (dims : Nat → Nat)
    (S : List Nat) (hd : ∀ k, k < n → 0 < dims k) (hnd : S.Nodup) (hlt : ∀ s ∈ S, s < n) :
    sumN (subDim dims (others n S)) (fun i => partialTrace X n dims S i i)
      = sumN (prodN dims n) (fun r => X r r) := by
  rw [← ptraceSpec_trace X n dims S hd hnd hlt]
  apply sumN_congr
  intro i hi
  exact ptrace_eq_spec X n dims S hd hnd hlt i i hi hi

/-- **Tensor products of `n` operators**: `Tr_S (A_0 ⊗ … ⊗ A_{n-1}) = (Π_{s ∈ S} Tr A_s) · ⊗_{k ∉ S} A_k`,
    the remaining factors in their original order (commutative semiring of scalars). -/
theorem ptrace_kron {α : Type} [CommSemiring α] (A : Nat → Nat → Nat → α) (n : Nat) (dims : Nat → Nat)
    (S : List Nat) (hd : ∀ k, k < n → 0 < dims k) (hnd : S.Nodup) (hlt : ∀ s ∈ S, s < n) (i j : Nat)
    (hi : i < subDim dims (others n S)) (hj : j < subDim dims (others n S)) :
    partialTrace (kronMat n A dims) n dims S i j
      = prodFn S.length (fun m => tr (dims (S.getD m 0)) (A (S.getD m 0)))
        * kronMat (others n S).length (fun m => A ((others n S).getD m 0))
            (subDims dims (others n S)) i j := by
  rw [ptrace_eq_spec _ n dims S hd hnd hlt i j hi hj]
  exact ptraceSpec_kron A n dims S hd hnd hlt i j

/-- **The listing order of `S` is irrelevant**: any rearrangement `S'` of `S` gives the same operator
    (`+` commutative and associative). -/
theorem ptrace_order_irrelevant {α : Type} [AddCommMonoid α] (X : Nat → Nat → α) (n : Nat)
    (dims : Nat → Nat) (S S' : List Nat) (hd : ∀ k, k < n → 0 < dims k) (hp : S.Perm S')
    (hnd : S.Nodup) (hlt : ∀ s ∈ S, s < n) (i j : Nat)
    (hi : i < subDim dims (others n S)) (hj : j < subDim dims (others n S)) :
    partialTrace X n dims S i j = partialTrace X n dims S' i j := by
  have hO := others_perm_eq n S S' hp
  rw [ptrace_eq_spec X n dims S hd hnd hlt i j hi hj,
    ptrace_eq_spec X n dims S' hd (hp.nodup_iff.mp hnd) (fun s hs => hlt s (hp.mem_iff.mpr hs)) i j
      (by rw [← hO]; exact hi) (by rw [← hO]; exact hj)]
  exact ptraceSpec_perm X n dims S S' hd hp hnd hlt i j

/-- **Composition**: tracing out `S`, and then the subsystems `T'` of what remains (`T'` numbered within
    the remaining systems, whose dimensions are `subDims dims (others n S)`), is tracing out in one go
    the union `S ++ liftSys n S T'` (`liftSys` translates `T'` back to the original numbering).
    Needs `+` commutative and associative (a double sum is swapped). -/
theorem ptrace_comp {α : Type} [AddCommMonoid α] (X : Nat → Nat → α) (n : Nat) (dims : Nat → Nat)
    (S T' : List Nat) (hd : ∀ k, k < n → 0 < dims k) (hnd : S.Nodup) (hlt : ∀ s ∈ S, s < n)
    (hndT : T'.Nodup) (hltT : ∀ p ∈ T', p < (others n S).length) (i j : Nat)
    (hi : i < subDim (subDims dims (others n S)) (others (others n S).length T'))
    (hj : j < subDim (subDims dims (others n S)) (others (others n S).length T')) :
    partialTrace (partialTrace X n dims S) (others n S).length (subDims dims (others n S)) T' i j
      = partialTrace X n dims (S ++ liftSys n S T') i j := by
  obtain ⟨hndU, hltU⟩ := union_nodup_lt n S T' hnd hlt hndT hltT
  have hd' := subDims_others_pos n dims S hd
  have hKU : subDim dims (others n (S ++ liftSys n S T'))
      = subDim (subDims dims (others n S)) (others (others n S).length T') := by
    rw [others_comp n S T' hltT]; exact subDim_map dims _ _
  -- the outer call reads the inner result only below its bounds, where it is the specification
  rw [ptrace_eq_spec _ _ _ T' hd' hndT hltT i j hi hj,
    ptraceSpec_congr _ _ T' hd' (fun I J hI hJ => ptrace_eq_spec X n dims S hd hnd hlt I J hI hJ),
    ptrace_eq_spec X n dims _ hd hndU hltU i j (by rw [hKU]; exact hi) (by rw [hKU]; exact hj)]
  exact ptraceSpec_comp n dims S T' hd hnd hlt hndT hltT X i j hi hj

/-- **Tracing out `S` is: move the subsystems in `S` behind the others with `permute_systems`
    (`perm = others ++ S`, the others keeping their order), then trace out the trailing block.**  `Y` is
    the permuted operator of C01 (`permuteMat`), its local dimensions are `dims ∘ perm`, and
    `trailing m s = [m, …, m+s-1]` are the last `s = |S|` of the `n = m + s` subsystems.  This is the
    mechanism of the code stated with the model of C01, for every `S` in any listing order. -/
theorem ptrace_via_permute {α : Type} [Add α] [Zero α] (X : Nat → Nat → α) (n : Nat) (dims : Nat → Nat)
    (S : List Nat) (hd : ∀ k, k < n → 0 < dims k) (hnd : S.Nodup) (hlt : ∀ s ∈ S, s < n) (i j : Nat)
    (hi : i < subDim dims (others n S)) (hj : j < subDim dims (others n S)) :
    partialTrace X n dims S i j
      = partialTrace (Toq.Perms.permuteMat X n (fnOfList (others n S ++ S)) dims dims false false) n
          (fun k => dims (fnOfList (others n S ++ S) 0 k)) (trailing (others n S).length S.length) i j := by
  have hlen := others_append_length n S hnd hlt
  rw [List.length_append] at hlen
  have hd' : ∀ k, k < n → 0 < dims (fnOfList (others n S ++ S) 0 k) :=
    fun k hk => hd _ ((others_append_isPerm n S hnd hlt).lt k hk)
  have hndB := trailing_nodup (others n S).length S.length
  have hltB : ∀ x ∈ trailing (others n S).length S.length, x < n := fun _ hx => hlen ▸ lt_of_mem_trailing hx
  have hO : others n (trailing (others n S).length S.length) = List.range (others n S).length := by
    have := others_trailing (others n S).length S.length
    rwa [hlen] at this
  have hK := subDim_comp_range n dims S
  rw [ptrace_eq_spec X n dims S hd hnd hlt i j hi hj,
    ptrace_eq_spec _ n _ _ hd' hndB hltB i j (by rw [hO, hK]; exact hi) (by rw [hO, hK]; exact hj)]
  exact ptraceSpec_via_permute X n dims S hnd hlt i j hi hj

/-- **Hermiticity is preserved** (any scalar type with an additive involution `star`, e.g. complex
    conjugation): if `X[J, I] = star X[I, J]` for all indices of the `N × N` operator, then the model
    output `Y` satisfies `Y[j, i] = star Y[i, j]` for all indices of the result. -/
theorem ptrace_hermitian {α : Type} [AddMonoid α] [StarAddMonoid α] (X : Nat → Nat → α) (n : Nat)
    (dims : Nat → Nat) (S : List Nat) (hd : ∀ k, k < n → 0 < dims k) (hnd : S.Nodup)
    (hlt : ∀ s ∈ S, s < n)
    (hX : ∀ I J, I < prodN dims n → J < prodN dims n → X J I = star (X I J)) (i j : Nat)
    (hi : i < subDim dims (others n S)) (hj : j < subDim dims (others n S)) :
    partialTrace X n dims S j i = star (partialTrace X n dims S i j) := by
  rw [ptrace_eq_spec X n dims S hd hnd hlt i j hi hj, ptrace_eq_spec X n dims S hd hnd hlt j i hj hi]
  exact ptraceSpec_star X n dims S hd hX i j

/-- **Positive semidefiniteness is preserved.**  Read the `N × N` operator and the `K × K` model output
    as Mathlib matrices (`toMat`).  If `X` is positive semidefinite (Hermitian with
    `x* X x ≥ 0` for every vector `x`; Mathlib's `Matrix.PosSemidef`, over any ordered star ring such as
    `ℂ` or `ℝ`), then so is its partial trace over any duplicate-free list of subsystems.  (The partial
    trace is the sum over the traced labels `t` of the compressions `X[join · t, join · t]`.) -/
theorem ptrace_posSemidef {R : Type} [Ring R] [PartialOrder R] [StarRing R] [AddLeftMono R]
    (X : Nat → Nat → R) (n : Nat) (dims : Nat → Nat) (S : List Nat) (hd : ∀ k, k < n → 0 < dims k)
    (hnd : S.Nodup) (hlt : ∀ s ∈ S, s < n) (hX : (toMat (prodN dims n) X).PosSemidef) :
    (toMat (subDim dims (others n S)) (partialTrace X n dims S)).PosSemidef := by
  rw [toMat_partialTrace X n dims S hd hnd hlt]
  exact ptraceSpec_posSemidef X n dims S hd hX

/-- **Hermiticity is preserved**, in Mathlib's form `Yᴴ = Y`. -/
theorem ptrace_isHermitian {R : Type} [AddCommMonoid R] [StarAddMonoid R]
    (X : Nat → Nat → R) (n : Nat) (dims : Nat → Nat) (S : List Nat) (hd : ∀ k, k < n → 0 < dims k)
    (hnd : S.Nodup) (hlt : ∀ s ∈ S, s < n) (hX : (toMat (prodN dims n) X).IsHermitian) :
    (toMat (subDim dims (others n S)) (partialTrace X n dims S)).IsHermitian := by
  rw [toMat_partialTrace X n dims S hd hnd hlt]
  exact ptraceSpec_isHermitian X n dims S hd hX

/-- **The default dimension is the nearest integer to `√N`.**  `roundSqrt N` (the model of
    `int(np.round(np.sqrt(N)))`) equals `r` exactly when `(r - ½)² < N < (r + ½)²`, written in
    integers. -/
theorem roundSqrt_nearest (N r : Nat) (hN : 0 < N) :
    roundSqrt N = r ↔ r * r - r < N ∧ N ≤ r * r + r :=
  ⟨fun h => h ▸ roundSqrt_bounds N hN, fun h => roundSqrt_unique N r h.1 h.2⟩

/-- `roundSqrt` is exact on perfect squares -/
theorem roundSqrt_square (r : Nat) : roundSqrt (r * r) = r :=
  roundSqrt_mul_self r

/-- **A bare integer `sys = s` means the one-element list `[s]`; an omitted `sys` means `[1]`; a
    one-element `dim = [d]` means the scalar `d`; an omitted `dim` on a perfect-square size means the
    scalar `round(√N)`.** -/
theorem ptrace_args_forms {α : Type} [Add α] [Zero α] (X : Nat → Nat → α) (N : Nat) (s : Int) (d : Nat)
    (sys : SysArg) (dim : DimArg) :
    partialTraceArgs X N (.int s) dim = partialTraceArgs X N (.list [s]) dim ∧
    partialTraceArgs X N .omitted dim = partialTraceArgs X N (.list [1]) dim ∧
    partialTraceArgs X N sys (.list [d]) = partialTraceArgs X N sys (.scalar d) ∧
    (roundSqrt N * roundSqrt N = N →
      partialTraceArgs X N sys .omitted = partialTraceArgs X N sys (.scalar (roundSqrt N))) :=
  ⟨rfl, rfl, rfl, fun h => partialTraceArgs_congr_dim X N sys ((decodeDim_omitted N h).trans (decodeDim_scalar N _).symm)⟩

/-- **An omitted `dim` is rejected unless the size is a perfect square** (whatever `sys` is): the
    default "two equal subsystems" has no meaning otherwise. -/
theorem ptrace_args_omitted_rejects {α : Type} [Add α] [Zero α] (X : Nat → Nat → α) (N : Nat)
    (sys : SysArg) (h : ∀ r, r * r ≠ N) :
    partialTraceArgs X N sys .omitted = .error .InvalidDim :=
  partialTraceArgs_of_decodeDim_error X N sys (decodeDim_omitted_reject N (h _))

/-- **List arguments: the call is accepted exactly on the documented domain, and then returns the
    partial trace.**  For an `N × N` input (`N ≥ 1`), a dimension list `dl` of length `n ≠ 1` and a list
    `sys` of integers, `partial_trace` returns (rather than raises) iff the dimensions multiply to `N`
    and `sys` is a duplicate-free list of numbers in `0 … n-1`; the result then is the `K × K` matrix
    (`K` = product of the remaining dimensions) computed by the mirror model, i.e. the index
    contraction `ptraceSpec`. -/
theorem ptrace_args_list {α : Type} [Add α] [Zero α] (X : Nat → Nat → α) (N : Nat) (hN : 0 < N)
    (dl : List Nat) (hlen : dl.length ≠ 1) (sys : List Int) :
    ((∃ r, partialTraceArgs X N (.list sys) (.list dl) = .ok r) ↔
      prodN (fnOfList dl) dl.length = N ∧
        ∃ S : List Nat, sys = S.map Int.ofNat ∧ S.Nodup ∧ ∀ s ∈ S, s < dl.length) ∧
    ∀ S : List Nat, sys = S.map Int.ofNat → S.Nodup → (∀ s ∈ S, s < dl.length) →
      prodN (fnOfList dl) dl.length = N →
      partialTraceArgs X N (.list sys) (.list dl)
        = .ok (subDim (fnOfList dl) (others dl.length S), partialTrace X dl.length (fnOfList dl) S) ∧
      ∀ i j, i < subDim (fnOfList dl) (others dl.length S) → j < subDim (fnOfList dl) (others dl.length S) →
        partialTrace X dl.length (fnOfList dl) S i j = ptraceSpec X dl.length (fnOfList dl) S i j := by
  have iff := partialTraceArgs_list_eq_ok_iff X N hN dl hlen sys
  refine ⟨⟨fun ⟨r, hr⟩ => ?_, fun ⟨hprod, S, hS⟩ => ⟨_, (iff _).mpr ⟨S, hS, hprod, rfl⟩⟩⟩,
    fun S hS hnd hlt hprod => ?_⟩
  · obtain ⟨S, hS, hprod, -⟩ := (iff r).mp hr
    exact ⟨hprod, S, hS⟩
  · have hd : ∀ k, k < dl.length → 0 < fnOfList dl 0 k := prodN_pos_of_lt _ _ 0 (by rw [hprod]; exact hN)
    exact ⟨(iff _).mpr ⟨S, ⟨hS, hnd, hlt⟩, hprod, rfl⟩, fun i j hi hj => ptrace_eq_spec X _ _ S hd hnd hlt i j hi hj⟩

/-- **A scalar dimension `d` means the dimensions `[d, N/d]`**: if `d ≥ 1` divides `N`, the call with
    `dim = d` is the call with `dim = [d, N/d]` (whatever `sys` is). -/
theorem ptrace_args_scalar {α : Type} [Add α] [Zero α] (X : Nat → Nat → α) (N d : Nat) (sys : SysArg)
    (hd : 0 < d) (hdiv : d ∣ N) :
    partialTraceArgs X N sys (.scalar d) = partialTraceArgs X N sys (.list [d, N / d]) :=
  partialTraceArgs_congr_dim X N sys ((expandDim_scalar N d hd hdiv).trans (expandDim_of_length N [d, N / d] (by simp)).symm)

/-- If `d` does not divide `N` (or is `0`) the call is rejected with the "must evenly divide"
    error -/
theorem ptrace_args_scalar_rejects {α : Type} [Add α] [Zero α] (X : Nat → Nat → α) (N d : Nat)
    (sys : SysArg) (h : d = 0 ∨ ¬ d ∣ N) :
    partialTraceArgs X N sys (.scalar d) = .error .InvalidDim :=
  partialTraceArgs_of_decodeDim_error X N sys (expandDim_scalar_reject N d h)

/-- **Omitted arguments mean two equal subsystems with the second traced out.**  For an
    `r² × r²` input (`r ≥ 1`), `partial_trace(X)` is accepted and returns the `r × r` matrix
    `Y[i, j] = Σ_{t<r} X[i*r + t, j*r + t]`. -/
theorem ptrace_args_omitted {α : Type} [Add α] [Zero α] (X : Nat → Nat → α) (r : Nat) (hr : 0 < r) :
    partialTraceArgs X (r * r) .omitted .omitted
        = .ok (r, partialTrace X 2 (fnOfList [r, r]) [1]) ∧
      ∀ i j, i < r → j < r →
        partialTrace X 2 (fnOfList [r, r]) [1] i j = sumN r (fun t => X (i * r + t) (j * r + t)) := by
  refine ⟨?_, fun i j hi hj => partialTrace_two_snd X r r i j hi hj⟩
  -- the omitted `dim` decodes like `[r, r]`, the omitted `sys` is `[1]`: the list form, whose kept dimension is that of subsystem `0`
  have he : decodeDim (r * r) .omitted = decodeDim (r * r) (.list [r, r]) := by
    rw [decodeDim_omitted (r * r) (by rw [roundSqrt_square]), roundSqrt_square,
      expandDim_scalar (r * r) r hr ⟨r, rfl⟩, Nat.mul_div_cancel _ hr]
    rfl
  rw [partialTraceArgs_congr_dim X (r * r) .omitted he]
  exact (partialTraceArgs_list_eq_ok_iff X (r * r) (Nat.mul_pos hr hr) [r, r] (by simp) [1] _).mpr
    ⟨[1], ⟨rfl, List.nodup_singleton 1, by simp⟩, by simp [prodN, fnOfList], by rw [show others [r, r].length [1] = [0] from others_2_1, subDim_singleton]; rfl⟩

/-- **A numeric array and a cvxpy variable holding that array give the same result.**  The `Variable`
    branch runs the same code on the object array of index atoms `V[i, j]` and packs the result with
    `bmat`.  For every argument form and every value `val` (any scalar type with `+` and `0`, no laws
    needed): the variable call is accepted iff the numeric call is, with the same shape, and the
    value of the returned expression at `(i, j)` is entry `(i, j)` of the numeric result. -/
theorem ptrace_cvx_value {β : Type} [Add β] [Zero β] (val : Nat → Nat → β) (N : Nat) (sys : SysArg)
    (dim : DimArg) :
    partialTraceArgs val N sys dim
      = (partialTraceCvx N sys dim).map (fun r => (r.1, fun i j => (r.2 i j).eval val)) :=
  partialTraceArgs_map (CvxExpr.eval val) rfl (fun _ _ => rfl) exprAsNpArray N sys dim

/-- **The returned expression is literally the sum of the atoms `V[join i t, join j t]`**, `t` running
    over the labels of the traced subsystems in increasing order: its list of index atoms (left to
    right) is exactly that list.  So the variable branch traces the same subsystems, keeps the others in
    their original order, and introduces no other dependence on the variable. -/
theorem ptrace_cvx_atoms (n : Nat) (dims : Nat → Nat) (S : List Nat) (hd : ∀ k, k < n → 0 < dims k)
    (hnd : S.Nodup) (hlt : ∀ s ∈ S, s < n) (i j : Nat)
    (hi : i < subDim dims (others n S)) (hj : j < subDim dims (others n S)) :
    (partialTrace exprAsNpArray n dims S i j).leaves
      = (List.range (subDim dims S)).map (fun t => (join n dims S i t, join n dims S j t)) := by
  rw [ptrace_eq_spec exprAsNpArray n dims S hd hnd hlt i j hi hj]
  unfold ptraceSpec
  rw [leaves_sumN]
  exact List.map_eq_flatMap.symm

/-- the docstring example of `partial_trace.py`: the 16×16 matrix `1..256`, four qubits, `sys = [0, 2]`;
    the hypotheses of the theorems hold there and the model returns the documented matrix -/
example : (∀ k, k < 4 → 0 < fnOfList [2, 2, 2, 2] 0 k) ∧ [0, 2].Nodup ∧ (∀ s ∈ [0, 2], s < 4) ∧
    subDim (fnOfList [2, 2, 2, 2]) (others 4 [0, 2]) = 4 ∧
    listOfFn 4 (fun i => listOfFn 4
      (partialTrace (fun r c => 16 * r + c + 1) 4 (fnOfList [2, 2, 2, 2]) [0, 2] i))
      = [[344, 348, 360, 364], [408, 412, 424, 428], [600, 604, 616, 620], [664, 668, 680, 684]] := by
  decide +kernel

/-- unequal dimensions with a trivial factor and an unsorted `S`: model and specification agree, and
    the result does not depend on the listing order -/
example : others 3 [2, 0] = [1] ∧ subDim (fnOfList [2, 1, 3]) [2, 0] = 6 ∧
    listOfFn 1 (fun i => listOfFn 1 (partialTrace (fun r c => 10 * r + c) 3 (fnOfList [2, 1, 3]) [2, 0] i))
      = listOfFn 1 (fun i => listOfFn 1 (ptraceSpec (fun r c => 10 * r + c) 3 (fnOfList [2, 1, 3]) [2, 0] i)) ∧
    listOfFn 1 (fun i => listOfFn 1 (partialTrace (fun r c => 10 * r + c) 3 (fnOfList [2, 1, 3]) [0, 2] i))
      = [[165]] := by
  decide +kernel

/-- composition on `dims = [2,3,2]`: trace out `S = [1]`, then `T' = [1]` of the remaining two systems
    (original subsystem 2); the union is `[1, 2]` -/
example : liftSys 3 [1] [1] = [2] ∧
    listOfFn 2 (fun i => listOfFn 2
      (partialTrace (partialTrace (fun r c => 12 * r + c) 3 (fnOfList [2, 3, 2]) [1]) 2
        (subDims (fnOfList [2, 3, 2]) (others 3 [1])) [1] i))
    = listOfFn 2 (fun i => listOfFn 2
      (partialTrace (fun r c => 12 * r + c) 3 (fnOfList [2, 3, 2]) [1, 2] i)) := by
  decide +kernel

/-- summary of a front-end result for the examples: shape and entries, or the rejection -/
def showResult : Except Rej (Nat × (Nat → Nat → Int)) → Option Rej × Option (Nat × List (List Int))
  | .ok p => (none, some (p.1, listOfFn p.1 (fun i => listOfFn p.1 (p.2 i))))
  | .error e => (some e, none)

/-- argument forms on the docstring matrix `1..16`: omitted arguments = `dim [2,2]`, `sys [1]`
    (documented result `[[7,11],[23,27]]`); `sys = 0` with scalar `dim = 2` -/
example :
    showResult (partialTraceArgs (fun r c => (4 * r + c + 1 : Int)) 4 .omitted .omitted)
      = (none, some (2, [[7, 11], [23, 27]])) ∧
    showResult (partialTraceArgs (fun r c => (4 * r + c + 1 : Int)) 4 (.int 0) (.scalar 2))
      = (none, some (2, [[12, 14], [20, 22]])) := by decide +kernel

/-- the rejected forms: repeated, negative, out-of-range subsystem -/
example :
    showResult (partialTraceArgs (fun r c => (4 * r + c + 1 : Int)) 4 (.list [0, 0]) (.list [2, 2]))
      = (some .InvalidPerm, none) ∧
    showResult (partialTraceArgs (fun r c => (4 * r + c + 1 : Int)) 4 (.list [-1]) (.list [2, 2]))
      = (some .InvalidPerm, none) ∧
    showResult (partialTraceArgs (fun r c => (4 * r + c + 1 : Int)) 4 (.int 2) (.list [2, 2]))
      = (some .IndexError, none) := by decide +kernel

/-- the rejected forms: non-dividing scalar, wrong product -/
example :
    showResult (partialTraceArgs (fun r c => (4 * r + c + 1 : Int)) 4 (.int 0) (.scalar 3))
      = (some .InvalidDim, none) ∧
    showResult (partialTraceArgs (fun r c => (4 * r + c + 1 : Int)) 4 (.int 0) (.list [2, 3]))
      = (some .InvalidDim, none) := by decide +kernel

/-- rounded square roots of sizes that are not perfect squares -/
example :
    roundSqrt 6 = 2 ∧ roundSqrt 8 = 3 ∧ roundSqrt 2 = 1 ∧ roundSqrt 12 = 3 ∧ roundSqrt 13 = 4 := by decide +kernel

/-- the default `dim` on a size that is not a perfect square (`6`, `8`, `2`) is rejected -/
example :
    showResult (partialTraceArgs (fun r c => (6 * r + c : Int)) 6 .omitted .omitted)
      = (some .InvalidDim, none) ∧
    showResult (partialTraceArgs (fun r c => (8 * r + c : Int)) 8 .omitted .omitted)
      = (some .InvalidDim, none) ∧
    showResult (partialTraceArgs (fun r c => (2 * r + c : Int)) 2 (.int 0) .omitted)
      = (some .InvalidDim, none) := by decide +kernel

/-- the default `dim` is rejected on size `12` and for a cvxpy variable of size `6`; on `9 = 3²` the default is accepted with two equal
    subsystems -/
example :
    showResult (partialTraceArgs (fun r c => (12 * r + c : Int)) 12 .omitted .omitted)
      = (some .InvalidDim, none) ∧
    ((partialTraceCvx 6 .omitted .omitted).toOption.map (fun r => r.1)) = none ∧
    ((partialTraceCvx 9 .omitted .omitted).toOption.map (fun r => (r.1, (r.2 0 1).leaves)))
      = some (3, [(0, 3), (1, 4), (2, 5)]) := by decide +kernel

/-- the cvxpy branch on `dims = [2, 3]`, `sys = [0]`: entry `(1, 2)` of the returned expression is
    `V[1, 2] + V[4, 5]` -/
example :
    ((partialTraceCvx 6 (.list [0]) (.list [2, 3])).toOption.map (fun r => (r.1, (r.2 1 2).leaves)))
      = some (3, [(1, 2), (4, 5)]) := by decide +kernel

/-- the hypothesis of `ptrace_posSemidef` is satisfiable: the identity on two qubits is positive
    semidefinite (and then so is its partial trace, `2·I`) -/
example : (toMat (prodN (fnOfList [2, 2]) 2) (fun i j => if i = j then (1 : ℤ) else 0)).PosSemidef := by
  have : toMat (prodN (fnOfList [2, 2]) 2) (fun i j => if i = j then (1 : ℤ) else 0) = 1 := by
    ext i j
    simp [toMat, Matrix.one_apply, Fin.ext_iff]
  rw [this]
  exact Matrix.PosSemidef.one

/-- `ptrace_via_permute` on `dims = [2,3,2]`, `S = [2, 0]`: `perm = [1, 2, 0]`, the permuted operator has
    dims `[3, 2, 2]` and its trailing block `[1, 2]` is traced -/
example : others 3 [2, 0] ++ [2, 0] = [1, 2, 0] ∧ trailing 1 2 = [1, 2] ∧
    listOfFn 3 (fun i => listOfFn 3 (partialTrace (fun r c => 12 * r + c) 3 (fnOfList [2, 3, 2]) [2, 0] i))
      = listOfFn 3 (fun i => listOfFn 3
          (partialTrace (Toq.Perms.permuteMat (fun r c => 12 * r + c) 3 (fnOfList [1, 2, 0])
            (fnOfList [2, 3, 2]) (fnOfList [2, 3, 2]) false false) 3 (fnOfList [3, 2, 2]) [1, 2] i)) := by
  decide +kernel

end Toq.C02
