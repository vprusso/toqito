import Toq.Proofs.Exclusion
import Toq.Proofs.ExclusionFamilies
/-!
# C11 — quantum state exclusion: the optimisation problems, their certificate checkers, the value as a true minimum,
closed forms and explicit optimal points for families, antidistinguishability, and what the code does around the solve

The optimisation problems are stated over `Matrix (Fin d) (Fin d) ℂ` with Mathlib's `Matrix.PosSemidef`.
The executable checkers (`Toq.Model.Exclusion`) work over exact Gaussian rationals; `EMat.toM` is the
denotation of an exact matrix, `Rat.cast` that of an exact number.

* minimum-error exclusion of `{(p_i, ρ_i)}` (toqito `state_exclusion(strategy="min_error")`): minimise
  `exclusionValue ρ p M = Σ_i p_i Re tr(ρ_i M_i)` over POVMs `M`; dual: maximise `Re tr Y` subject to
  `p_i ρ_i − Y ⪰ 0` for all `i`;
* unambiguous exclusion (toqito `strategy="unambiguous"`), `σ_i = p_i ρ_i`, `S = Σ_i σ_i`: minimise
  `Re tr(S (1 − Σ_i M_i))` subject to `M_i ⪰ 0`, `1 − Σ_i M_i ⪰ 0`, `tr(σ_i M_i) = 0`; dual: maximise
  `1 − Re tr N` subject to `N ⪰ 0`, `N + a_i σ_i − S ⪰ 0` (`a_i` real);
* `is_antidistinguishable` / `common_quantum_overlap` call the min-error dual with all weights `p_i = 1` and
  post-process the value (`antidistTest`, `cqoPost`).

`IsPOVM`, `exclusionValue`, `exclValues` have the bodies of `Toq.Rand.IsPOVM`, `successProb`, `successValues` (`Toq.Spec.Rand`) at `Fin`
(as `Toq.C10.IsPOVM`, `successProb`, `minErrValues` have; `ensStates`, `ensProbs`, `mats`, `rot` are those of `Toq.C10` too), so the
lemmas of `Proofs/Povm` apply to them as they stand; exclusion of `(p_i, ρ_i)` is discrimination of the weighted states `−p_i ρ_i`
(`Toq.Excl.meVal_neg_smul`): the gap identity and attainment are `me_gap_eq`, `me_max_attained` at that instance, and weak duality
and slackness read the sign of the gap.

Not stated here (the list of theorems of this file is what the property claims): strong duality for every ensemble of Hermitian
states.  It is the instance `A_i = −p_i ρ_i` of `Toq.Discrim.me_strong_duality_gen` (`Proofs/DiscrimStrong`); per instance the harness certifies `lo ≤ value ≤ hi` with
`hi − lo ≤ 10⁻⁴`, and `excl_optimal_of_slackness` turns any exactly slack pair into a proof.  Not proved: PBR states for `n = 2` *below* the threshold angle and for `n ≥ 3` (certified per instance).
-/

open Matrix
open scoped ComplexOrder MatrixOrder

namespace Toq.C11
open Toq.Discrim Toq.Excl

variable {d k : Nat}

def IsPOVM (M : Fin k → Matrix (Fin d) (Fin d) ℂ) : Prop := (∀ i, (M i).PosSemidef) ∧ ∑ i, M i = 1

/-- `Σ_i p_i · Re tr(ρ_i M_i)`: probability that the state named by the measurement `M` ("it was not
`ρ_i`") is the one that was prepared – the error probability of conclusive exclusion -/
noncomputable def exclusionValue (ρ : Fin k → Matrix (Fin d) (Fin d) ℂ) (p : Fin k → ℝ)
    (M : Fin k → Matrix (Fin d) (Fin d) ℂ) : ℝ :=
  ∑ i, p i * (ρ i * M i).trace.re

/-- `Y` is feasible for the dual of minimum-error exclusion: `Y ⪯ p_i ρ_i` for every `i` -/
def ExclDualFeasible (ρ : Fin k → Matrix (Fin d) (Fin d) ℂ) (p : Fin k → ℝ)
    (Y : Matrix (Fin d) (Fin d) ℂ) : Prop :=
  ∀ i, ((p i : ℂ) • ρ i - Y).PosSemidef

/-- the states are antidistinguishable: some measurement never names the state that was prepared -/
def IsAntidistinguishable (ρ : Fin k → Matrix (Fin d) (Fin d) ℂ) : Prop :=
  ∃ M : Fin k → Matrix (Fin d) (Fin d) ℂ, IsPOVM M ∧ ∀ i, (ρ i * M i).trace = 0

def rot (U : Matrix (Fin d) (Fin d) ℂ) (A : Fin k → Matrix (Fin d) (Fin d) ℂ) :
    Fin k → Matrix (Fin d) (Fin d) ℂ := fun i => U * A i * Uᴴ

/-- `M` is feasible for toqito's unambiguous-exclusion primal with unnormalised states `σ_i = p_i ρ_i` -/
def UnambExclFeasible (σ : Fin k → Matrix (Fin d) (Fin d) ℂ) (M : Fin k → Matrix (Fin d) (Fin d) ℂ) :
    Prop :=
  (∀ i, (M i).PosSemidef) ∧ (1 - ∑ i, M i).PosSemidef ∧ ∀ i, (σ i * M i).trace.re = 0

/-- `(N, a)` is feasible for toqito's unambiguous-exclusion dual -/
def UnambExclDualFeasible (σ : Fin k → Matrix (Fin d) (Fin d) ℂ) (N : Matrix (Fin d) (Fin d) ℂ)
    (a : Fin k → ℝ) : Prop :=
  N.PosSemidef ∧ ∀ i, (N + (a i : ℂ) • σ i - ∑ j, σ j).PosSemidef

def ensStates (ens : Ensemble d) : Fin ens.size → Matrix (Fin d) (Fin d) ℂ := fun i => (ens.state i).toM
def ensProbs (ens : Ensemble d) : Fin ens.size → ℝ := fun i => ((ens.prob i : Rat) : ℝ)
def mats (k : Nat) (M : List (EMat d d)) : Fin k → Matrix (Fin d) (Fin d) ℂ := fun i => (matAt M i).toM

/-- **The duality gap.**  For operators `M_i` summing to the identity and any `Y`:
`Σ_i p_i Re tr(ρ_i M_i) − Re tr Y = Σ_i Re tr((p_i ρ_i − Y) M_i)`; for a POVM and a dual-feasible `Y` every term on
the right is non-negative. -/
theorem excl_gap_eq (ρ : Fin k → Matrix (Fin d) (Fin d) ℂ) (p : Fin k → ℝ)
    (M : Fin k → Matrix (Fin d) (Fin d) ℂ) (Y : Matrix (Fin d) (Fin d) ℂ) (hsum : ∑ i, M i = 1) :
    exclusionValue ρ p M - Y.trace.re = ∑ i, (((p i : ℂ) • ρ i - Y) * M i).trace.re := by
  have h := me_gap_eq (fun i => -((p i : ℂ) • ρ i)) M (-Y) hsum
  rw [meVal_neg_smul, Matrix.trace_neg, Complex.neg_re] at h
  simp only [neg_sub_neg] at h
  exact h

/-- Weak duality: for every dual-feasible `Y`, `Re tr Y` is at most the exclusion value of every
measurement.  (No assumption on `ρ`, `p` or Hermiticity of `Y` beyond the constraints themselves.) -/
theorem excl_weak_duality (ρ : Fin k → Matrix (Fin d) (Fin d) ℂ) (p : Fin k → ℝ)
    (M : Fin k → Matrix (Fin d) (Fin d) ℂ) (Y : Matrix (Fin d) (Fin d) ℂ)
    (hM : IsPOVM M) (hY : ExclDualFeasible ρ p Y) :
    Y.trace.re ≤ exclusionValue ρ p M := by
  rw [← sub_nonneg, excl_gap_eq ρ p M Y hM.2]
  exact sum_psd_trace_mul_nonneg hY hM.1

/-- If the primal checker accepts with value `hi`, the candidate is a POVM (one element per state)
whose exclusion value is exactly `hi`; hence `hi` is an upper bound of the minimum. -/
theorem checkExclPrimal_sound (ens : Ensemble d) (M LM : List (EMat d d)) (hi : Rat)
    (h : checkExclPrimal ens M LM = some hi) :
    ens.probs.length = ens.size ∧ M.length = ens.size ∧
      IsPOVM (mats ens.size M) ∧
      exclusionValue (ensStates ens) (ensProbs ens) (mats ens.size M) = (hi : ℝ) := by
  rw [checkExclPrimal, Option.ite_none_right_eq_some, lens3Ok_iff] at h
  obtain ⟨⟨h1, h2, -⟩, h⟩ := h
  exact ⟨h1, h2, checkExclPrimalFn_sound _ _ _ _ _ _ h⟩

/-- If the dual checker accepts with value `lo`, the candidate `Y` is Hermitian, dual feasible with
`Re tr Y = lo`, and every measurement on the ensemble has exclusion value at least `lo`. -/
theorem checkExclDual_sound (ens : Ensemble d) (Y : EMat d d) (LY : List (EMat d d)) (lo : Rat)
    (h : checkExclDual ens Y LY = some lo) :
    (Y.toM.IsHermitian ∧ ExclDualFeasible (ensStates ens) (ensProbs ens) Y.toM ∧
        Y.toM.trace.re = (lo : ℝ)) ∧
      ∀ M' : Fin ens.size → Matrix (Fin d) (Fin d) ℂ, IsPOVM M' →
        (lo : ℝ) ≤ exclusionValue (ensStates ens) (ensProbs ens) M' := by
  rw [checkExclDual, Option.ite_none_right_eq_some] at h
  obtain ⟨hH, hf, hv⟩ := checkExclDualFn_sound _ _ _ _ _ _ h.2
  refine ⟨⟨hH, hf, hv⟩, fun M' hM' => ?_⟩
  rw [← hv]
  exact excl_weak_duality (ensStates ens) (ensProbs ens) M' Y.toM hM' hf

/-- Accepted dual and primal certificates bracket the optimum: `lo ≤ hi`. -/
theorem excl_lo_le_hi (ens : Ensemble d) (M LM : List (EMat d d)) (Y : EMat d d)
    (LY : List (EMat d d)) (lo hi : Rat)
    (hhi : checkExclPrimal ens M LM = some hi) (hlo : checkExclDual ens Y LY = some lo) :
    (lo : ℝ) ≤ (hi : ℝ) := by
  obtain ⟨-, -, hM, hv⟩ := checkExclPrimal_sound ens M LM hi hhi
  rw [← hv]
  exact (checkExclDual_sound ens Y LY lo hlo).2 _ hM

/-- **Primal and dual agree exactly under complementary slackness.**  For a POVM `M` and a dual-feasible `Y`:
the value of `M` equals `Re tr Y` iff `(p_i ρ_i − Y) M_i = 0` for every `i`.  In that case `M` attains the minimum,
`Y` attains the dual maximum, and the two optimal values coincide. -/
theorem excl_primal_eq_dual_iff (ρ : Fin k → Matrix (Fin d) (Fin d) ℂ) (p : Fin k → ℝ)
    (M : Fin k → Matrix (Fin d) (Fin d) ℂ) (Y : Matrix (Fin d) (Fin d) ℂ) (hM : IsPOVM M)
    (hY : ExclDualFeasible ρ p Y) :
    exclusionValue ρ p M = Y.trace.re ↔ ∀ i, ((p i : ℂ) • ρ i - Y) * M i = 0 := by
  rw [← sub_eq_zero, excl_gap_eq ρ p M Y hM.2, sum_psd_trace_mul_eq_zero_iff hY hM.1]

/-- The exclusion value of every measurement is non-negative (states PSD, priors `≥ 0`); hence so is the
minimum, and `0` is always a valid lower bound `lo`. -/
theorem excl_nonneg (ρ : Fin k → Matrix (Fin d) (Fin d) ℂ) (p : Fin k → ℝ)
    (M : Fin k → Matrix (Fin d) (Fin d) ℂ) (hρ : ∀ i, (ρ i).PosSemidef) (hp : ∀ i, 0 ≤ p i)
    (hM : IsPOVM M) : 0 ≤ exclusionValue ρ p M :=
  me_nonneg ρ p M hρ hp hM.1

/-- For a unit-trace state `ρ_j` the measurement "always answer `j`" (`M_j = 1`, the others `0`) is a POVM
with exclusion value exactly `p_j`; hence the minimum is at most the smallest prior. -/
theorem excl_le_min_prior (ρ : Fin k → Matrix (Fin d) (Fin d) ℂ) (p : Fin k → ℝ) (j : Fin k)
    (hj : (ρ j).trace = 1) :
    ∃ M : Fin k → Matrix (Fin d) (Fin d) ℂ, IsPOVM M ∧ exclusionValue ρ p M = p j :=
  ⟨meConstPovm j, Toq.Rand.isPOVM_const j, meConstPovm_value_of_trace_one ρ p j hj⟩

/-- Scaling all priors by `c` scales the value of every measurement by `c`: the all-ones weights used by
`is_antidistinguishable` and `common_quantum_overlap` give `n` times the value for uniform priors `1/n`. -/
theorem excl_scale (ρ : Fin k → Matrix (Fin d) (Fin d) ℂ) (p : Fin k → ℝ) (c : ℝ)
    (M : Fin k → Matrix (Fin d) (Fin d) ℂ) :
    exclusionValue ρ (fun i => c * p i) M = c * exclusionValue ρ p M := by
  have h := Toq.Rand.successProb_add_smul ρ M p p c 0
  simp only [zero_mul, add_zero] at h
  exact h

/-- Conjugating the states and the measurement by the same unitary `U` maps POVMs to POVMs and preserves
the exclusion value. -/
theorem excl_unitary_invariant (U : Matrix (Fin d) (Fin d) ℂ) (hU : U ∈ Matrix.unitaryGroup (Fin d) ℂ)
    (ρ : Fin k → Matrix (Fin d) (Fin d) ℂ) (p : Fin k → ℝ) (M : Fin k → Matrix (Fin d) (Fin d) ℂ)
    (hM : IsPOVM M) :
    IsPOVM (rot U M) ∧ exclusionValue (rot U ρ) p (rot U M) = exclusionValue ρ p M :=
  ⟨Toq.Rand.IsPOVM.conj hM (Unitary.mul_star_self_of_mem hU),
    Toq.Rand.successProb_conj ρ M p (Unitary.star_mul_self_of_mem hU)⟩

/-- The set of exclusion values attained by POVMs is the same for the rotated ensemble `U ρ_i Uᴴ` and for
the original one (`M ↦ U M Uᴴ` is a bijection of the feasible set); in particular the minima agree. -/
theorem excl_values_unitary_invariant (U : Matrix (Fin d) (Fin d) ℂ)
    (hU : U ∈ Matrix.unitaryGroup (Fin d) ℂ) (ρ : Fin k → Matrix (Fin d) (Fin d) ℂ) (p : Fin k → ℝ) :
    {v : ℝ | ∃ M : Fin k → Matrix (Fin d) (Fin d) ℂ, IsPOVM M ∧ exclusionValue (rot U ρ) p M = v}
      = {v : ℝ | ∃ M : Fin k → Matrix (Fin d) (Fin d) ℂ, IsPOVM M ∧ exclusionValue ρ p M = v} :=
  Toq.Rand.successValues_conj ρ p hU

/-- For PSD states, non-negative priors and a POVM `M`: the exclusion value is `0` iff `tr(ρ_i M_i) = 0`
for every `i` with positive prior. -/
theorem excl_eq_zero_iff (ρ : Fin k → Matrix (Fin d) (Fin d) ℂ) (p : Fin k → ℝ)
    (M : Fin k → Matrix (Fin d) (Fin d) ℂ) (hρ : ∀ i, (ρ i).PosSemidef) (hp : ∀ i, 0 ≤ p i)
    (hM : IsPOVM M) :
    exclusionValue ρ p M = 0 ↔ ∀ i, 0 < p i → (ρ i * M i).trace = 0 := by
  unfold exclusionValue
  rw [Finset.sum_eq_zero_iff_of_nonneg fun i _ => mul_nonneg (hp i) (psd_trace_mul_nonneg (hρ i) (hM.1 i))]
  refine forall_congr' fun i => ?_
  -- `p_i x = 0` iff `p_i > 0 → x = 0`; for PSD operators `Re tr(ρ M) = 0` forces `ρ M = 0`, hence `tr(ρ M) = 0`
  rw [mul_eq_zero, (hp i).lt_iff_ne', or_iff_not_imp_left, imp_iff_right (Finset.mem_univ i)]
  refine imp_congr_right fun _ => ⟨fun h0 => ?_, fun h0 => by rw [h0, Complex.zero_re]⟩
  rw [(psd_trace_mul_eq_zero_iff (hρ i) (hM.1 i)).mp h0, Matrix.trace_zero]

/-- For PSD states and positive weights (in particular the all-ones weights of `is_antidistinguishable`):
the states are antidistinguishable iff some POVM attains exclusion value `0`. -/
theorem antidist_iff_zero (ρ : Fin k → Matrix (Fin d) (Fin d) ℂ) (p : Fin k → ℝ)
    (hρ : ∀ i, (ρ i).PosSemidef) (hp : ∀ i, 0 < p i) :
    IsAntidistinguishable ρ ↔
      ∃ M : Fin k → Matrix (Fin d) (Fin d) ℂ, IsPOVM M ∧ exclusionValue ρ p M = 0 := by
  refine exists_congr fun M => and_congr_right fun hM => ?_
  rw [excl_eq_zero_iff ρ p M hρ (fun i => (hp i).le) hM]
  exact ⟨fun h i _ => h i, fun h i => h i (hp i)⟩

/-- A positive certified lower bound refutes antidistinguishability: if the dual checker accepts with
`lo > 0` for PSD states and positive weights, the states are not antidistinguishable. -/
theorem not_antidist_of_dual_pos (ens : Ensemble d) (Y : EMat d d) (LY : List (EMat d d)) (lo : Rat)
    (h : checkExclDual ens Y LY = some lo) (hlo : 0 < lo)
    (hρ : ∀ i, (ensStates ens i).PosSemidef) (hp : ∀ i, 0 < ensProbs ens i) :
    ¬ IsAntidistinguishable (ensStates ens) := by
  intro ha
  obtain ⟨M, hM, h0⟩ := (antidist_iff_zero (ensStates ens) (ensProbs ens) hρ hp).mp ha
  have := (checkExclDual_sound ens Y LY lo h).2 M hM
  rw [h0] at this
  have h1 : (0 : ℝ) < (lo : ℝ) := by exact_mod_cast hlo
  linarith

/-- Weak duality for toqito's unambiguous-exclusion pair (`σ_i = p_i ρ_i`, `S = Σ_i σ_i`): for
primal-feasible `M` and dual-feasible `(N, a)`, `Re tr S − Re tr N ≤ Re tr(S (1 − Σ_i M_i))`.  The code's dual
objective `1 − tr N` is this bound when `tr S = 1` (normalised states, priors summing to one). -/
theorem unamb_excl_weak_duality (σ : Fin k → Matrix (Fin d) (Fin d) ℂ)
    (M : Fin k → Matrix (Fin d) (Fin d) ℂ) (N : Matrix (Fin d) (Fin d) ℂ) (a : Fin k → ℝ)
    (hM : UnambExclFeasible σ M) (hN : UnambExclDualFeasible σ N a) :
    (∑ j, σ j).trace.re - N.trace.re ≤ ((∑ j, σ j) * (1 - ∑ i, M i)).trace.re := by
  obtain ⟨hM, hrest, hzero⟩ := hM
  -- the measurement `(1 − Σ_i M_i, M_0, …)` on the weighted states `(−S, −a_0 σ_0, …)`, dual variable `N − S`
  have h := meVal_le_of_dual (Y := N - ∑ j, σ j) (A := fun o : Option (Fin k) => o.elim (-∑ j, σ j) fun i => -((a i : ℂ) • σ i))
    (isPOVM_option_elim hrest hM (sub_add_cancel _ _)) fun o => by
      cases o
      · rw [Option.elim_none, sub_neg_eq_add, sub_add_cancel]; exact hN.1
      · rw [Option.elim_some, sub_neg_eq_add, sub_add_eq_add_sub]; exact hN.2 _
  -- the conclusive outcomes contribute `Σ_i a_i tr(σ_i M_i) = 0`
  have h0 : meVal (fun i => -((a i : ℂ) • σ i)) M = 0 := by
    rw [meVal_neg_smul, neg_eq_zero]
    exact Finset.sum_eq_zero fun i _ => by rw [hzero i, mul_zero]
  rw [meVal_option_elim, h0, add_zero, Matrix.neg_mul, Matrix.trace_neg, Complex.neg_re, Matrix.trace_sub, Complex.sub_re] at h
  have : -((∑ j, σ j) * (1 - ∑ i, M i)).trace.re ≤ N.trace.re - (∑ j, σ j).trace.re := h
  linarith

/-- Unambiguous exclusion with `tr(Σ_i p_i ρ_i) = 1`: the dual objective `1 − Re tr N` of the code is at most
the primal objective (probability of the inconclusive outcome). -/
theorem unamb_excl_weak_duality_normalised (σ : Fin k → Matrix (Fin d) (Fin d) ℂ)
    (M : Fin k → Matrix (Fin d) (Fin d) ℂ) (N : Matrix (Fin d) (Fin d) ℂ) (a : Fin k → ℝ)
    (hM : UnambExclFeasible σ M) (hN : UnambExclDualFeasible σ N a) (hS : (∑ j, σ j).trace = 1) :
    1 - N.trace.re ≤ ((∑ j, σ j) * (1 - ∑ i, M i)).trace.re := by
  have := unamb_excl_weak_duality σ M N a hM hN
  rwa [hS, Complex.one_re] at this

/-- the exclusion values attained by measurements on the ensemble `(ρ, p)`; the minimum-error exclusion
value is the least element of this set -/
def exclValues (ρ : Fin k → Matrix (Fin d) (Fin d) ℂ) (p : Fin k → ℝ) : Set ℝ :=
  {v | ∃ M : Fin k → Matrix (Fin d) (Fin d) ℂ, IsPOVM M ∧ exclusionValue ρ p M = v}

/-- **The minimum is attained.**  For every ensemble of `k ≥ 1` operators (no assumption on `ρ`, `p`) some
measurement has an exclusion value below that of every other measurement: the set of POVMs is compact and the
value is continuous.  So "the minimum of `Σ_i p_i Tr(ρ_i M_i)` over POVMs" exists and is a value of a POVM. -/
theorem excl_min_attained (ρ : Fin k → Matrix (Fin d) (Fin d) ℂ) (p : Fin k → ℝ) (hk : 0 < k) :
    ∃ M : Fin k → Matrix (Fin d) (Fin d) ℂ, IsPOVM M ∧
      ∀ M' : Fin k → Matrix (Fin d) (Fin d) ℂ, IsPOVM M' → exclusionValue ρ p M ≤ exclusionValue ρ p M' := by
  have : Nonempty (Fin k) := ⟨⟨0, hk⟩⟩
  obtain ⟨M, hM, h⟩ := me_max_attained fun i => -((p i : ℂ) • ρ i)
  refine ⟨M, hM, fun M' hM' => ?_⟩
  have := h M' hM'
  rwa [meVal_neg_smul, meVal_neg_smul, neg_le_neg_iff] at this

/-- The set of attained exclusion values has a least element (for `k ≥ 1`). -/
theorem excl_values_has_least (ρ : Fin k → Matrix (Fin d) (Fin d) ℂ) (p : Fin k → ℝ) (hk : 0 < k) :
    ∃ v, IsLeast (exclValues ρ p) v := by
  obtain ⟨M, hM, hmin⟩ := excl_min_attained ρ p hk
  exact ⟨exclusionValue ρ p M, (isLeast_values_iff hM).mpr hmin⟩

/-- **Optimality certificate.**  If a POVM `M` and a dual-feasible `Y` satisfy complementary slackness, then
`Re tr Y` is the least attained exclusion value (attained by `M`) and no dual-feasible `Y'` has a larger trace. -/
theorem excl_optimal_of_slackness (ρ : Fin k → Matrix (Fin d) (Fin d) ℂ) (p : Fin k → ℝ)
    (M : Fin k → Matrix (Fin d) (Fin d) ℂ) (Y : Matrix (Fin d) (Fin d) ℂ) (hM : IsPOVM M)
    (hY : ExclDualFeasible ρ p Y) (hs : ∀ i, ((p i : ℂ) • ρ i - Y) * M i = 0) :
    IsLeast (exclValues ρ p) Y.trace.re ∧
      ∀ Y' : Matrix (Fin d) (Fin d) ℂ, ExclDualFeasible ρ p Y' → Y'.trace.re ≤ Y.trace.re :=
  -- a minimisation problem: `optimal_of_weak` in the reversed order
  optimal_of_weak (γ := ℝᵒᵈ) (f := fun M => OrderDual.toDual (exclusionValue ρ p M))
    (g := fun Y : Matrix (Fin d) (Fin d) ℂ => OrderDual.toDual Y.trace.re) hM hY (congrArg OrderDual.toDual ((excl_primal_eq_dual_iff ρ p M Y hM hY).mpr hs))
    fun M' hM' Y' hY' => excl_weak_duality ρ p M' Y' hM' hY'

/-- **Zero exactly for antidistinguishable sets.**  For PSD states and positive weights, if `v` is the minimum
of the attained exclusion values then the states are antidistinguishable iff `v = 0`. -/
theorem antidist_iff_min_eq_zero (ρ : Fin k → Matrix (Fin d) (Fin d) ℂ) (p : Fin k → ℝ)
    (hρ : ∀ i, (ρ i).PosSemidef) (hp : ∀ i, 0 < p i) (v : ℝ) (hv : IsLeast (exclValues ρ p) v) :
    IsAntidistinguishable ρ ↔ v = 0 := by
  rw [antidist_iff_zero ρ p hρ hp]
  -- `0` is attained iff it is the least value: it is a lower bound
  refine ⟨fun h0 => hv.unique ⟨h0, zero_mem_lowerBounds_successValues ρ p hρ fun i => (hp i).le⟩, ?_⟩
  rintro rfl
  exact hv.1

/-- **Positive otherwise.**  For `k ≥ 1` PSD states with positive weights that are *not* antidistinguishable
there is a constant `c > 0` below the exclusion value of every measurement: the minimum is strictly positive. -/
theorem excl_pos_of_not_antidist (ρ : Fin k → Matrix (Fin d) (Fin d) ℂ) (p : Fin k → ℝ) (hk : 0 < k)
    (hρ : ∀ i, (ρ i).PosSemidef) (hp : ∀ i, 0 < p i) (hna : ¬ IsAntidistinguishable ρ) :
    ∃ c : ℝ, 0 < c ∧ ∀ M : Fin k → Matrix (Fin d) (Fin d) ℂ, IsPOVM M → c ≤ exclusionValue ρ p M := by
  obtain ⟨M, hM, hmin⟩ := excl_min_attained ρ p hk
  refine ⟨exclusionValue ρ p M, ?_, hmin⟩
  rcases (excl_nonneg ρ p M hρ (fun i => (hp i).le) hM).lt_or_eq with h | h
  · exact h
  · exact absurd ((antidist_iff_zero ρ p hρ hp).mpr ⟨M, hM, h.symm⟩) hna

/-- **Antidistinguishable sets have value exactly `0` for every prior.**  For PSD states and weights `p ≥ 0`:
if the states are antidistinguishable, `0` is the least attained exclusion value (trine, BB84, Bell, PBR in
the range of `pbr2_antidistinguishable_angle`, ensembles with an orthogonal pair, … with any prior). -/
theorem excl_isLeast_zero_of_antidist (ρ : Fin k → Matrix (Fin d) (Fin d) ℂ) (p : Fin k → ℝ)
    (hρ : ∀ i, (ρ i).PosSemidef) (hp : ∀ i, 0 ≤ p i) (ha : IsAntidistinguishable ρ) :
    IsLeast (exclValues ρ p) 0 := by
  obtain ⟨M, hM, h0⟩ := ha
  exact ⟨⟨M, hM, (excl_eq_zero_iff ρ p M hρ hp hM).mpr fun i _ => h0 i⟩, zero_mem_lowerBounds_successValues ρ p hρ hp⟩

/-- Relabelling states, priors and measurement operators by the same permutation `σ` maps POVMs to POVMs and
preserves the exclusion value. -/
theorem excl_relabel_invariant (σ : Equiv.Perm (Fin k)) (ρ : Fin k → Matrix (Fin d) (Fin d) ℂ)
    (p : Fin k → ℝ) (M : Fin k → Matrix (Fin d) (Fin d) ℂ) (hM : IsPOVM M) :
    IsPOVM (M ∘ σ) ∧ exclusionValue (ρ ∘ σ) (p ∘ σ) (M ∘ σ) = exclusionValue ρ p M :=
  ⟨Toq.Rand.IsPOVM.comp_equiv hM σ, Toq.Rand.successProb_comp_equiv ρ M p σ⟩

/-- **Relabelling invariance of the value.**  The relabelled ensemble `(ρ ∘ σ, p ∘ σ)` attains the same set of
exclusion values as `(ρ, p)`; in particular the minima agree. -/
theorem excl_values_relabel_invariant (σ : Equiv.Perm (Fin k))
    (ρ : Fin k → Matrix (Fin d) (Fin d) ℂ) (p : Fin k → ℝ) :
    exclValues (ρ ∘ σ) (p ∘ σ) = exclValues ρ p :=
  Toq.Rand.successValues_comp_perm ρ p σ

/-- **Adding a state cannot increase the value.**  Every value attained on the first `k` states of an ensemble of
`k + 1` states is attained on the whole ensemble (never announce the additional state: `M_{k} = 0`); hence the
minimum over the larger ensemble is at most the minimum over the smaller one. -/
theorem excl_add_state (ρ : Fin (k + 1) → Matrix (Fin d) (Fin d) ℂ) (p : Fin (k + 1) → ℝ) :
    exclValues (fun i : Fin k => ρ i.castSucc) (fun i : Fin k => p i.castSucc) ⊆ exclValues ρ p := by
  rintro v ⟨M, hM, rfl⟩
  exact ⟨Fin.snoc (α := fun _ => Matrix (Fin d) (Fin d) ℂ) M 0, isPOVM_snoc_zero hM, successProb_snoc_zero ρ p M⟩

/-- The exclusion value of a fixed measurement is affine in the prior. -/
theorem excl_prior_affine (ρ : Fin k → Matrix (Fin d) (Fin d) ℂ) (p q : Fin k → ℝ) (t : ℝ)
    (M : Fin k → Matrix (Fin d) (Fin d) ℂ) :
    exclusionValue ρ (fun i => t * p i + (1 - t) * q i) M
      = t * exclusionValue ρ p M + (1 - t) * exclusionValue ρ q M :=
  Toq.Rand.successProb_add_smul ρ M p q t (1 - t)

/-- **Concavity in the prior.**  If `a` is a lower bound of the values for the prior `p` and `b` one for the
prior `q`, then `t a + (1 − t) b` is a lower bound for the mixed prior `t p + (1 − t) q` (`0 ≤ t ≤ 1`): the
minimum is a concave function of the prior. -/
theorem excl_prior_concave (ρ : Fin k → Matrix (Fin d) (Fin d) ℂ) (p q : Fin k → ℝ) (t a b : ℝ)
    (ht0 : 0 ≤ t) (ht1 : t ≤ 1)
    (ha : ∀ M : Fin k → Matrix (Fin d) (Fin d) ℂ, IsPOVM M → a ≤ exclusionValue ρ p M)
    (hb : ∀ M : Fin k → Matrix (Fin d) (Fin d) ℂ, IsPOVM M → b ≤ exclusionValue ρ q M)
    (M : Fin k → Matrix (Fin d) (Fin d) ℂ) (hM : IsPOVM M) :
    t * a + (1 - t) * b ≤ exclusionValue ρ (fun i => t * p i + (1 - t) * q i) M := by
  rw [excl_prior_affine]
  exact add_le_add (mul_le_mul_of_nonneg_left (ha M hM) ht0)
    (mul_le_mul_of_nonneg_left (hb M hM) (sub_nonneg.mpr ht1))

/-- **An orthogonal pair makes the whole set antidistinguishable.**  If two of the (Hermitian) states are
orthogonal, `ρ_a ρ_b = 0` with `a ≠ b`, then answering `a` on the support of `ρ_b` and `b` off it never names the
prepared state – whatever the other states are (BB84 subsets containing `{|0⟩,|1⟩}` or `{|+⟩,|−⟩}`, Bell states,
any set of mutually orthogonal states). -/
theorem antidist_of_orthogonal_pair (ρ : Fin k → Matrix (Fin d) (Fin d) ℂ) (a b : Fin k) (hab : a ≠ b)
    (hb : (ρ b).IsHermitian) (hO : ρ a * ρ b = 0) : IsAntidistinguishable ρ :=
  ⟨pairPovm ρ a b hb, isPOVM_pairPovm ρ a b hb, fun i => by
    rw [pairPovm_mul ρ a b hab hb hO i, Matrix.trace_zero]⟩

/-- Consequently the minimum-error exclusion value of an ensemble containing an orthogonal pair is exactly `0`
for every prior `p ≥ 0` (PSD states): `0` is attained and nothing is below it. -/
theorem excl_orthogonal_pair_isLeast (ρ : Fin k → Matrix (Fin d) (Fin d) ℂ) (p : Fin k → ℝ) (a b : Fin k)
    (hab : a ≠ b) (hρ : ∀ i, (ρ i).PosSemidef) (hp : ∀ i, 0 ≤ p i) (hO : ρ a * ρ b = 0) :
    IsLeast (exclValues ρ p) 0 :=
  excl_isLeast_zero_of_antidist ρ p hρ hp (antidist_of_orthogonal_pair ρ a b hab (hρ b).isHermitian hO)

/-- **Two states are antidistinguishable iff they are orthogonal.**  For PSD `ρ_0`, `ρ_1`: some two-outcome
measurement never names the prepared state iff `ρ_0 ρ_1 = 0`.  (If `tr(ρ_0 M_0) = tr(ρ_1 M_1) = 0` then
`ρ_0 M_0 = 0 = M_1 ρ_1`, so `ρ_0 ρ_1 = ρ_0 (M_0 + M_1) ρ_1 = 0`; the converse is `antidist_of_orthogonal_pair`.) -/
theorem antidist_two_iff_orthogonal (ρ : Fin 2 → Matrix (Fin d) (Fin d) ℂ) (hρ : ∀ i, (ρ i).PosSemidef) :
    IsAntidistinguishable ρ ↔ ρ 0 * ρ 1 = 0 := by
  constructor
  · rintro ⟨M, hM, h0⟩
    exact mul_eq_zero_of_perfect_two (hρ 0) (hρ 1) (hM.1 0) (hM.1 1) (by rw [← hM.2, Fin.sum_univ_two])
      (h0 0) (h0 1)
  · exact antidist_of_orthogonal_pair ρ 0 1 (by decide) (hρ 1).isHermitian

/-- Two pure states `v vᴴ`, `w wᴴ` are antidistinguishable iff `⟨v, w⟩ = 0` (so the BB84 pairs `{|0⟩,|1⟩}`,
`{|+⟩,|−⟩}` are, the pairs `{|0⟩,|+⟩}` etc. are not, and `pusey_barrett_rudolph(1, θ)` is iff
`cos²(θ/2) = sin²(θ/2)`). -/
theorem antidist_two_pure_iff (v w : Fin d → ℂ) :
    IsAntidistinguishable ![pure v, pure w] ↔ star v ⬝ᵥ w = 0 := by
  rw [antidist_two_iff_orthogonal _ (fun i => by fin_cases i <;> exact pure_psd _)]
  refine ⟨fun h => ?_, fun h => (pure_mul_pure v w).trans (by rw [h, zero_smul])⟩
  -- `0 = tr(v vᴴ w wᴴ) = |⟨v, w⟩|²`
  have h1 := pure_trace_mul v w
  rw [show pure v * pure w = 0 from h, Matrix.trace_zero, Matrix.star_dotProduct w v, Complex.star_def,
    Complex.mul_conj] at h1
  exact Complex.normSq_eq_zero.mp (by exact_mod_cast h1.symm)

/-- **Projectors that sum to a multiple of the identity.**  If every state is a projector (`ρ_i² = ρ_i`,
Hermitian; e.g. a normalised pure state) and `Σ_i ρ_i = λ·1` with `λ < k`, then `M_i = (1 − ρ_i)/(k − λ)` is a
POVM with `ρ_i M_i = 0`: the set is antidistinguishable.  Covers the trine (`λ = 3/2`), the four BB84 states
(`λ = 2`), the four Bell states and every orthonormal basis with `k ≥ 2` (`λ = 1`), mutually unbiased bases, … -/
theorem antidist_of_projector_frame (ρ : Fin k → Matrix (Fin d) (Fin d) ℂ) (lam : ℝ) (hlam : lam < k)
    (hH : ∀ i, (ρ i).IsHermitian) (hI : ∀ i, ρ i * ρ i = ρ i)
    (hS : ∑ i, ρ i = (lam : ℂ) • (1 : Matrix (Fin d) (Fin d) ℂ)) : IsAntidistinguishable ρ := by
  have hl : lam < Fintype.card (Fin k) := by simpa using hlam
  exact ⟨framePovm ρ lam,
    Toq.Rand.isPOVM_framePovm ρ lam hl (fun i => Toq.Metrics.posSemidef_one_sub_of_idem (hH i) (hI i)) hS, fun i => by
      rw [framePovm_mul ρ lam hI i, Matrix.trace_zero]⟩

/-- **The trine states are antidistinguishable.**  The three vectors built by the model `trineStates` of
toqito's `trine()` (`e_0`, `−½(e_0 + r e_1)`, `−½(e_0 − r e_1)`) with any real `r`, `r² = 3` (the code uses
`np.sqrt(3)`), as projectors `v vᴴ`, are unit vectors whose projectors sum to `(3/2)·1`. -/
theorem trine_antidistinguishable (r : ℝ) (hr : r * r = 3) :
    IsAntidistinguishable fun b : Fin 3 => pure (trineVec (1 / 2) r b) := by
  refine antidist_of_projector_frame _ (1 + 2 * (1 / 2 * (1 / 2))) (by norm_num) (fun i => pure_isHermitian _)
    (fun i => pure_idem _ (trine_unit (1 / 2) r (by rw [hr]; norm_num) i))
    (trine_frame (1 / 2) r (by rw [hr]; norm_num))

/-- **Pusey–Barrett–Rudolph states, `n = 2`.**  The four product states built by the model `pbrStates 2 c s` of
toqito's `pusey_barrett_rudolph(2, θ)` (`c = cos(θ/2)`, `s = sin(θ/2)`; any real `c`, `s`) are antidistinguishable
whenever a phase `w` (`|w| = 1`) satisfies `c² − s² + 2cs·Re w = 0`: the orthonormal basis
`ξ_b = D_b·½(1, w, w̄, −1)` (`D_b` the sign pattern of `ψ_b`) has `⟨ξ_b, ψ_b⟩ = 0`.  For `w = −1` this is the
critical angle `c² − 2cs − s² = 0`, i.e. `tan(θ/2) = √2 − 1`, with the original (real) PBR measurement. -/
theorem pbr2_antidistinguishable (c s : ℝ) (w : ℂ) (hw : w * (starRingEnd ℂ) w = 1)
    (h : c * c - s * s + 2 * (c * s) * w.re = 0) :
    IsAntidistinguishable fun b : Fin (2 ^ 2) => pure (pbrVec 2 c s b) := by
  -- `twist had4 x b = D_b · x` (row `b` of the Hadamard sign pattern), `pbrXi w = ½(1, w, w̄, −1)`: a flat vector twisted by the rows of an
  -- orthogonal sign matrix resolves the identity (`twist_sum`), and one sign pattern on both vectors keeps `⟨ξ, ψ⟩ = 0` (`twist_dot`)
  rw [pbrVec_two]
  refine ⟨fun b => pure (twist had4 (pbrXi w) b),
    ⟨fun b => pure_psd _, twist_sum had4 4 had4_orth _ (pbrXi_flat w hw)⟩, fun b => ?_⟩
  rw [pure_trace_mul, (twist_dot had4 _ _ b).trans (pbrXi_orth c s w h), mul_zero]

/-- **PBR states, `n = 2`, the whole antidistinguishable range.**  For every angle `π/4 ≤ θ ≤ 3π/4` – that is
`tan(θ/2) ≥ √2 − 1 = 2^{1/2} − 1`, the threshold quoted for `n = 2` – the four states of
`pusey_barrett_rudolph(2, θ)` are antidistinguishable. -/
theorem pbr2_antidistinguishable_angle (θ : ℝ) (h1 : Real.pi / 4 ≤ θ) (h2 : θ ≤ 3 * Real.pi / 4) :
    IsAntidistinguishable fun b : Fin (2 ^ 2) =>
      pure (pbrVec 2 (Real.cos (θ / 2)) (Real.sin (θ / 2)) b) := by
  -- `c² − s² = cos θ`, `2cs = sin θ`: the phase needs `Re w = −cot θ`, which has modulus at most `1` on this range
  obtain ⟨w, hw, h⟩ := exists_phase_re (Real.cos θ) (Real.sin θ) (abs_cos_le_abs_sin θ h1 h2)
  refine pbr2_antidistinguishable _ _ w hw ?_
  rw [show θ = 2 * (θ / 2) by ring, Real.cos_two_mul', Real.sin_two_mul] at h
  linear_combination h

/-- **PBR states, `n = 1`.**  The two states `(c, s)`, `(c, −s)` of `pusey_barrett_rudolph(1, θ)` are
antidistinguishable iff `c² = s²` (for `θ ∈ [0, π/2]`: iff `θ = π/2`, i.e. `tan(θ/2) ≥ 2^{1/1} − 1 = 1`). -/
theorem pbr1_antidist_iff (c s : ℝ) :
    IsAntidistinguishable (fun b : Fin (2 ^ 1) => pure (pbrVec 1 c s b)) ↔ c * c = s * s := by
  have e : (fun b : Fin (2 ^ 1) => pure (pbrVec 1 c s b)) = ![pure ![(c : ℂ), s], pure ![(c : ℂ), -s]] := by
    rw [pbrVec_one]
    funext b
    fin_cases b <;> rfl
  rw [e, ← sub_eq_zero (a := c * c), ← Complex.ofReal_eq_zero]
  refine (antidist_two_pure_iff ![(c : ℂ), s] ![(c : ℂ), -s]).trans ?_
  rw [star_vec2_dotProduct, Complex.conj_ofReal, Complex.conj_ofReal]
  push_cast
  rw [mul_neg, sub_eq_add_neg]

/-- **Identical states: the value is the smallest prior.**  If all states equal the PSD operator `ρ_j` and `p_j`
is the smallest weight, then `Y = p_j ρ_j` is dual feasible and "always answer `j`" attains `Re tr Y`: the
minimum-error exclusion value is exactly `p_j · tr ρ_j` (primal and dual optimum coincide). -/
theorem excl_identical_isLeast (ρ : Fin k → Matrix (Fin d) (Fin d) ℂ) (p : Fin k → ℝ) (j : Fin k)
    (hρ : (ρ j).PosSemidef) (hid : ∀ i, ρ i = ρ j) (hmin : ∀ i, p j ≤ p i) :
    ExclDualFeasible ρ p ((p j : ℂ) • ρ j) ∧ IsLeast (exclValues ρ p) (p j * (ρ j).trace.re) := by
  have hY : ExclDualFeasible ρ p ((p j : ℂ) • ρ j) := fun i => by
    rw [hid i, ← sub_smul, ← Complex.ofReal_sub]
    exact hρ.smul_ofReal (sub_nonneg.mpr (hmin i))
  refine ⟨hY, ⟨meConstPovm j, Toq.Rand.isPOVM_const j, ?_⟩, ?_⟩
  · unfold exclusionValue
    exact meConstPovm_value ρ p j
  · refine mem_lowerBounds_values.mpr fun M hM => ?_
    have := excl_weak_duality ρ p M _ hM hY
    rwa [Matrix.re_trace_smul] at this

/-- **Two states: closed form (one minus Helstrom).**  For two Hermitian states the greatest lower bound of the
attained exclusion values is `½(p₀ tr ρ₀ + p₁ tr ρ₁) − ½‖p₀ρ₀ − p₁ρ₁‖₁` (trace norm in the max form of C13,
`Toq.Metrics.traceNormV`): every two-outcome POVM is `((1+W)/2, (1−W)/2)` with a contraction `W`, and its value is
`½(p₀ tr ρ₀ + p₁ tr ρ₁) + ½ Re tr(W (p₀ρ₀ − p₁ρ₁))`.  Together with `Toq.C10.helstrom_isLUB`: optimal exclusion
error + optimal discrimination success `= p₀ tr ρ₀ + p₁ tr ρ₁` (`= 1` for normalised ensembles). -/
theorem excl_two_isGLB (ρ : Fin 2 → Matrix (Fin d) (Fin d) ℂ) (p : Fin 2 → ℝ)
    (hρ : ∀ i, (ρ i).IsHermitian) :
    IsGLB (exclValues ρ p)
      ((p 0 * (ρ 0).trace.re + p 1 * (ρ 1).trace.re) / 2
        - Toq.Metrics.traceNormV ((p 0 : ℂ) • ρ 0 - (p 1 : ℂ) • ρ 1) / 2) :=
  isGLB_successValues_two ρ p hρ

/-- Two unit-trace Hermitian states with `p₀ + p₁ = 1`: the minimum-error exclusion value is
`½ − ½‖p₀ρ₀ − p₁ρ₁‖₁`. -/
theorem excl_two_isGLB_normalised (ρ : Fin 2 → Matrix (Fin d) (Fin d) ℂ) (p : Fin 2 → ℝ)
    (hρ : ∀ i, (ρ i).IsHermitian) (htr : ∀ i, (ρ i).trace = 1) (hp : p 0 + p 1 = 1) :
    IsGLB (exclValues ρ p)
      (1 / 2 - Toq.Metrics.traceNormV ((p 0 : ℂ) • ρ 0 - (p 1 : ℂ) • ρ 1) / 2) := by
  have := excl_two_isGLB ρ p hρ
  rwa [htr, htr, Complex.one_re, mul_one, mul_one, hp] at this

/-- **Two states: the minimum in closed form.**  For two Hermitian states the least attained exclusion value – it
exists by `excl_values_has_least` – *is* `½(p₀ tr ρ₀ + p₁ tr ρ₁) − ½‖p₀ρ₀ − p₁ρ₁‖₁`. -/
theorem excl_two_isLeast (ρ : Fin 2 → Matrix (Fin d) (Fin d) ℂ) (p : Fin 2 → ℝ)
    (hρ : ∀ i, (ρ i).IsHermitian) :
    IsLeast (exclValues ρ p)
      ((p 0 * (ρ 0).trace.re + p 1 * (ρ 1).trace.re) / 2
        - Toq.Metrics.traceNormV ((p 0 : ℂ) • ρ 0 - (p 1 : ℂ) • ρ 1) / 2) := by
  obtain ⟨v, hv⟩ := excl_values_has_least ρ p (by norm_num)
  have := hv.isGLB.unique (excl_two_isGLB ρ p hρ)
  rwa [this] at hv

/-- **An unambiguous strategy is a conclusive one.**  Re-labelling the inconclusive outcome `1 − Σ_i M_i` of a
feasible point of the unambiguous program as the answer `j` gives a POVM whose error probability is at most the
probability of the inconclusive outcome.  Hence the unambiguous value is never below the minimum-error value
(the harness check `unamb-ge-minerr`). -/
theorem unamb_ge_min_error (ρ : Fin k → Matrix (Fin d) (Fin d) ℂ) (p : Fin k → ℝ)
    (M : Fin k → Matrix (Fin d) (Fin d) ℂ) (j : Fin k) (hρ : ∀ i, (ρ i).PosSemidef) (hp : ∀ i, 0 ≤ p i)
    (hM : UnambExclFeasible (fun i => (p i : ℂ) • ρ i) M) :
    ∃ M' : Fin k → Matrix (Fin d) (Fin d) ℂ, IsPOVM M' ∧
      exclusionValue ρ p M' ≤ ((∑ i, (p i : ℂ) • ρ i) * (1 - ∑ i, M i)).trace.re := by
  refine ⟨meAbsorb M (1 - ∑ i, M i) j, isPOVM_meAbsorb hM.1 hM.2.1 (add_sub_cancel _ _) j, ?_⟩
  have := meAbsorb_value_le (fun i => (p i : ℂ) • ρ i) M _ j (fun i => (hρ i).smul_ofReal (hp i))
    hM.2.1 hM.2.2
  unfold exclusionValue
  simpa only [re_trace_smul_mul] using this

/-- If the unambiguous primal checker accepts with value `hi`, the candidate is a feasible point of toqito's
unambiguous-exclusion primal (one operator per state, `σ_i = p_i ρ_i`) whose objective
`Re tr(S (1 − Σ_i M_i))` is exactly `hi`; hence `hi` is an upper bound of the unambiguous minimum. -/
theorem checkUnambExclPrimal_sound (ens : Ensemble d) (M LM : List (EMat d d)) (LR : EMat d d) (hi : Rat)
    (h : checkUnambExclPrimal ens M LM LR = some hi) :
    ens.probs.length = ens.size ∧ M.length = ens.size ∧
      UnambExclFeasible (fun i => (ensProbs ens i : ℂ) • ensStates ens i) (mats ens.size M) ∧
      ((∑ i, (ensProbs ens i : ℂ) • ensStates ens i) * (1 - ∑ i, mats ens.size M i)).trace.re = (hi : ℝ) := by
  rw [checkUnambExclPrimal, Option.ite_none_right_eq_some, lens3Ok_iff] at h
  obtain ⟨⟨h1, h2, -⟩, h⟩ := h
  obtain ⟨hp, hr, hz, hv⟩ := checkUnambExclPrimalFn_sound _ _ _ _ _ _ _ h
  exact ⟨h1, h2, ⟨hp, hr, hz⟩, hv⟩

/-- If the unambiguous dual checker accepts with value `lo`, then `(N, a)` is feasible for toqito's
unambiguous-exclusion dual, `lo = Re tr S − Re tr N`, and every primal-feasible `M'` has objective at least `lo`.
(The code's own objective is `1 − Re tr N`; it equals `lo` exactly when `Re tr S = 1`, see
`unamb_code_objective_eq`.) -/
theorem checkUnambExclDual_sound (ens : Ensemble d) (N : EMat d d) (a : List Rat) (LN : EMat d d)
    (LD : List (EMat d d)) (lo : Rat) (h : checkUnambExclDual ens N a LN LD = some lo) :
    (UnambExclDualFeasible (fun i => (ensProbs ens i : ℂ) • ensStates ens i) N.toM
        (fun i => ((ratAt a i : Rat) : ℝ)) ∧
      (∑ i, (ensProbs ens i : ℂ) • ensStates ens i).trace.re - N.toM.trace.re = (lo : ℝ)) ∧
      ∀ M' : Fin ens.size → Matrix (Fin d) (Fin d) ℂ,
        UnambExclFeasible (fun i => (ensProbs ens i : ℂ) • ensStates ens i) M' →
        (lo : ℝ) ≤ ((∑ i, (ensProbs ens i : ℂ) • ensStates ens i) * (1 - ∑ i, M' i)).trace.re := by
  rw [checkUnambExclDual, Option.ite_none_right_eq_some] at h
  obtain ⟨hN, hD, hv⟩ := checkUnambExclDualFn_sound _ _ _ _ _ _ _ _ h.2
  have hf : UnambExclDualFeasible (fun i => (ensProbs ens i : ℂ) • ensStates ens i) N.toM
      (fun i => ((ratAt a i : Rat) : ℝ)) := ⟨hN, hD⟩
  refine ⟨⟨hf, hv⟩, fun M' hM' => ?_⟩
  rw [← hv]
  exact unamb_excl_weak_duality _ M' N.toM _ hM' hf

/-- Accepted unambiguous dual and primal certificates bracket the unambiguous optimum: `lo ≤ hi`. -/
theorem unamb_excl_lo_le_hi (ens : Ensemble d) (M LM : List (EMat d d)) (LR N : EMat d d) (a : List Rat)
    (LN : EMat d d) (LD : List (EMat d d)) (lo hi : Rat)
    (hhi : checkUnambExclPrimal ens M LM LR = some hi)
    (hlo : checkUnambExclDual ens N a LN LD = some lo) : (lo : ℝ) ≤ (hi : ℝ) := by
  obtain ⟨-, -, hM, hv⟩ := checkUnambExclPrimal_sound ens M LM LR hi hhi
  rw [← hv]
  exact (checkUnambExclDual_sound ens N a LN LD lo hlo).2 _ hM

/-- The objective `1 − Re tr N` that `_unambiguous_dual` hands to the solver equals the certified bound
`Re tr S − Re tr N` plus `1 − Re tr S`; the two agree exactly when `Re tr(Σ_i p_i ρ_i) = 1`. -/
theorem unamb_code_objective_eq (ens : Ensemble d) (N : EMat d d) :
    unambDualCodeObjective N
      = unambDualBound ens.size (fun i => ens.state i) (fun i => ens.prob i) N
        + (1 - (sumStates ens.size (fun i => ens.state i) (fun i => ens.prob i)).trace.re) :=
  unambDualCodeObjective_eq _ _ _ _

/-- The operator `to_density_matrix` builds from a vector is PSD (so `excl_nonneg` applies to ensembles given as
vectors, exactly, whatever rounding the float normalisation of the vector suffered). -/
theorem toDensityVec_psd (v : EMat d 1) : (toDensityVec v).toM.PosSemidef :=
  toDensityVec_eq (d := d) ▸ sdToDensityVec_psd v

/-- `prepare` keeps the number of states, and the default prior `[1/n]*n` has `n` entries summing to `1`. -/
theorem prepare_default (states : List (StateArg d)) (hn : states.length ≠ 0) :
    (prepare states none).size = states.length ∧
      (prepare states none).probs.length = states.length ∧ (prepare states none).probs.sum = 1 := by
  refine ⟨List.length_map _, List.length_replicate, ?_⟩
  rw [prepare, defaultProbs_eq]
  exact sdDefaultProbs_none_sum _ hn

/-- Ensembles given as vectors are prepared as PSD operators: every state of `prepare (vs.map .vec) probs` is
PSD, so `excl_nonneg` and `antidist_iff_zero` apply to them exactly. -/
theorem prepare_vec_psd (vs : List (EMat d 1)) (probs : Option (List Rat))
    (i : Fin (prepare (vs.map StateArg.vec) probs).size) :
    (ensStates (prepare (vs.map StateArg.vec) probs) i).PosSemidef := by
  obtain ⟨s, hs, e⟩ := List.mem_map.mp (Ensemble.state_mem_states (prepare (vs.map StateArg.vec) probs) i.isLt)
  obtain ⟨v, -, rfl⟩ := List.mem_map.mp hs
  rw [ensStates, ← e]
  exact toDensityVec_psd v

/-- `np.isclose(v, 0)` with NumPy's default tolerances is the test `|v| ≤ 10⁻⁸`. -/
theorem antidist_test_iff (v : Rat) : antidistTest v = true ↔ |v| ≤ 1 / 100000000 :=
  antidistTest_iff v

/-- `common_quantum_overlap` returns `n (1 − (1 − v/n)) = v`: the exclusion value for all-ones weights itself. -/
theorem cqo_post_eq (n : Nat) (hn : n ≠ 0) (v : Rat) : cqoPost n v = v := by
  unfold cqoPost
  have : (n : Rat) ≠ 0 := by exact_mod_cast hn
  field_simp
  ring

/-- **The test decides antidistinguishability up to the solver's accuracy.**  Let `v⋆` be the minimum of the
attained exclusion values for the all-ones weights (it exists: `excl_values_has_least`) and let the solver's value
`v` satisfy `|v − v⋆| ≤ τ`.  Then: (1) if the states are antidistinguishable and `τ ≤ 10⁻⁸` the test answers
`True`; (2) if the test answers `True` then `v⋆ ≤ 10⁻⁸ + τ`; so (3) states with `v⋆ > 10⁻⁸ + τ` are reported as
not antidistinguishable. -/
theorem antidist_test_decides (ρ : Fin k → Matrix (Fin d) (Fin d) ℂ) (hρ : ∀ i, (ρ i).PosSemidef)
    (vstar : ℝ) (hv : IsLeast (exclValues ρ fun _ => 1) vstar) (v : Rat) (τ : ℝ)
    (hclose : |(v : ℝ) - vstar| ≤ τ) :
    (IsAntidistinguishable ρ → τ ≤ 1 / 100000000 → antidistTest v = true) ∧
      (antidistTest v = true → vstar ≤ 1 / 100000000 + τ) ∧
      (1 / 100000000 + τ < vstar → antidistTest v = false ∧ ¬ IsAntidistinguishable ρ) := by
  have hiff := antidist_iff_min_eq_zero ρ (fun _ => 1) hρ (fun _ => one_pos) vstar hv
  have hτ0 : 0 ≤ τ := (abs_nonneg _).trans hclose
  obtain ⟨hlo, hhi⟩ := abs_le.mp hclose
  rw [Bool.eq_false_iff, ne_eq, antidistTest_iff_real]
  have h2 : |(v : ℝ)| ≤ 1 / 100000000 → vstar ≤ 1 / 100000000 + τ := fun ht => by
    linarith [(abs_le.mp ht).2]
  refine ⟨fun ha hτ => ?_, h2, fun hgt => ⟨fun ht => absurd (h2 ht) (not_le.mpr hgt), fun ha => ?_⟩⟩
  · rw [hiff.mp ha, sub_zero] at hclose
    exact hclose.trans hτ
  · rw [hiff.mp ha] at hgt
    linarith

/-- Antidistinguishability is invariant under a common unitary. -/
theorem antidist_unitary_invariant (U : Matrix (Fin d) (Fin d) ℂ) (hU : U ∈ Matrix.unitaryGroup (Fin d) ℂ)
    (ρ : Fin k → Matrix (Fin d) (Fin d) ℂ) :
    IsAntidistinguishable (rot U ρ) ↔ IsAntidistinguishable ρ := by
  refine Toq.Rand.conj_iff_of_forall_imp (P := IsAntidistinguishable) ?_ hU ρ
  rintro V hV σ ⟨M, hM, h0⟩
  refine ⟨rot V M, (excl_unitary_invariant V hV σ (fun _ => 1) M hM).1, fun i => ?_⟩
  have hV' : Vᴴ * V = 1 := Unitary.star_mul_self_of_mem hV
  rw [← h0 i, rot, Matrix.conj_mul_conj_eq hV', Matrix.trace_conj_eq hV']

section Examples

private def c2 (a b c d : QI) : EMat 2 2 := EMat.ofRows #[#[a, b], #[c, d]] 2 2
private def r2 (a b c d : Rat) : EMat 2 2 := c2 ⟨a, 0⟩ ⟨b, 0⟩ ⟨c, 0⟩ ⟨d, 0⟩

/-- a genuinely complex rational antidistinguishable triple of qubit states (Bloch vectors `(3/5, 4/5, 0)`, `(3/5, −4/5, 0)`,
`(−1, 0, 0)`), non-uniform priors -/
private def triEns : Ensemble 2 :=
  ⟨[c2 ⟨1/2, 0⟩ ⟨3/10, -2/5⟩ ⟨3/10, 2/5⟩ ⟨1/2, 0⟩,
    c2 ⟨1/2, 0⟩ ⟨3/10, 2/5⟩ ⟨3/10, -2/5⟩ ⟨1/2, 0⟩,
    r2 (1/2) (-1/2) (-1/2) (1/2)], [1/2, 1/4, 1/4]⟩

/-- `M_i ∝` projector orthogonal to `ρ_i` with weights `5/8, 5/8, 3/4`: the checker returns exactly `0` -/
example : checkExclPrimal triEns
    [c2 ⟨5/16, 0⟩ ⟨-3/16, 1/4⟩ ⟨-3/16, -1/4⟩ ⟨5/16, 0⟩,
     c2 ⟨5/16, 0⟩ ⟨-3/16, -1/4⟩ ⟨-3/16, 1/4⟩ ⟨5/16, 0⟩,
     r2 (3/8) (3/8) (3/8) (3/8)]
    [c2 ⟨1/2, 0⟩ ⟨1/4, 0⟩ ⟨-3/10, -2/5⟩ ⟨-3/20, -1/5⟩,
     c2 ⟨1/2, 0⟩ ⟨1/4, 0⟩ ⟨-3/10, 2/5⟩ ⟨-3/20, 1/5⟩,
     c2 ⟨1/2, 1/4⟩ ⟨1/4, 0⟩ ⟨1/2, 1/4⟩ ⟨1/4, 0⟩] = some 0 := by decide +kernel

private def bb84Ens : Ensemble 2 :=
  ⟨[r2 1 0 0 0, r2 0 0 0 1, r2 (1/2) (1/2) (1/2) (1/2), r2 (1/2) (-1/2) (-1/2) (1/2)],
   [1/4, 1/4, 1/4, 1/4]⟩

/-- the four BB84 states with `M_i = ½ ·` projector orthogonal to `ρ_i`: exactly `0` -/
example : checkExclPrimal bb84Ens
    [r2 0 0 0 (1/2), r2 (1/2) 0 0 0, r2 (1/4) (-1/4) (-1/4) (1/4), r2 (1/4) (1/4) (1/4) (1/4)]
    [r2 0 0 0 (1/2), r2 (1/2) 0 0 0, r2 (1/2) 0 (-1/2) 0, r2 (1/2) 0 (1/2) 0] = some 0 := by
  decide +kernel

/-- the same POVM with a wrong PSD witness for `M_1` (`L L^H = diag(1/4, 1/4)` is not below
`M_1 = diag(1/2, 0)`) is rejected: the checker never trusts the witness -/
example : checkExclPrimal bb84Ens
    [r2 0 0 0 (1/2), r2 (1/2) 0 0 0, r2 (1/4) (-1/4) (-1/4) (1/4), r2 (1/4) (1/4) (1/4) (1/4)]
    [r2 0 0 0 (1/2), r2 (1/2) 0 0 (1/2), r2 (1/2) 0 (-1/2) 0, r2 (1/2) 0 (1/2) 0] = none := by
  decide +kernel

/-- a family that does not sum to the identity (`M_3` replaced by `M_2`) is rejected -/
example : checkExclPrimal bb84Ens
    [r2 0 0 0 (1/2), r2 (1/2) 0 0 0, r2 (1/4) (-1/4) (-1/4) (1/4), r2 (1/4) (-1/4) (-1/4) (1/4)]
    [r2 0 0 0 (1/2), r2 (1/2) 0 0 0, r2 (1/2) 0 (-1/2) 0, r2 (1/2) 0 (-1/2) 0] = none := by
  decide +kernel

/-- `|0⟩, |+⟩` with equal priors (optimum `(1 − 1/√2)/2 ≈ 0.1464`, not antidistinguishable); below a POVM with value `3/20` and a
dual point with value `13/100` -/
private def exEns : Ensemble 2 := ⟨[r2 1 0 0 0, r2 (1/2) (1/2) (1/2) (1/2)], [1/2, 1/2]⟩

example : checkExclPrimal exEns
    [r2 (3/20) (7/20) (7/20) (17/20), r2 (17/20) (-7/20) (-7/20) (3/20)]
    [r2 0 (35/92) 0 (23/25), r2 (23/25) 0 (-35/92) 0] = some (3/20) := by decide +kernel

example : checkExclDual exEns (r2 (19/100) (3/25) (3/25) (-3/50))
    [r2 (11/20) 0 (-11/50) (1/10), r2 (6/25) 0 (27/50) (3/25)] = some (13/100) := by decide +kernel

/-- the same `Y` is rejected for the ensemble with the priors swapped to `(1/8, 7/8)` (constraint
`Y ⪯ p_0 ρ_0` fails) -/
example : checkExclDual ⟨exEns.states, [1/8, 7/8]⟩ (r2 (19/100) (3/25) (3/25) (-3/50))
    [r2 (11/20) 0 (-11/50) (1/10), r2 (6/25) 0 (27/50) (3/25)] = none := by decide +kernel

/-- unambiguous exclusion of `|0⟩, |+⟩` with equal priors (optimum `1/√2 ≈ 0.7071`): `M_0 = ½|1⟩⟨1|`,
`M_1 = ½|−⟩⟨−|` is feasible with inconclusive probability `3/4` -/
example : checkUnambExclPrimal exEns
    [r2 0 0 0 (1/2), r2 (1/4) (-1/4) (-1/4) (1/4)] [r2 0 0 0 0, r2 0 0 0 0] (r2 0 0 0 0) = some (3/4) := by
  decide +kernel

/-- for the same ensemble `N = (3/8)·1`, `a = (2, 2)` is feasible for the unambiguous dual, with bound `1 − 3/4 = 1/4` -/
example : checkUnambExclDual exEns (r2 (3/8) 0 0 (3/8)) [2, 2] (r2 0 0 0 0)
    [r2 (3/4) 0 (-1/3) 0, r2 (1/3) 0 (3/4) 0] = some (1/4) := by decide +kernel

/-- an operator that is not orthogonal to its state (`M_0 = ½|0⟩⟨0|`) is rejected by the unambiguous checker -/
example : checkUnambExclPrimal exEns
    [r2 (1/2) 0 0 0, r2 (1/4) (-1/4) (-1/4) (1/4)] [r2 0 0 0 0, r2 0 0 0 0] (r2 0 0 0 0) = none := by
  decide +kernel

/-- the post-solve tests: `10⁻⁹` counts as zero, `2·10⁻⁸` does not; `common_quantum_overlap`'s formula is the identity -/
example : antidistTest (1 / 1000000000) = true ∧ antidistTest (-1 / 1000000000) = true ∧
    antidistTest (2 / 100000000) = false ∧ cqoPost 3 (2 / 7) = 2 / 7 := by decide +kernel

/-- the hypotheses of `trine_antidistinguishable` hold for the number the code uses -/
example : IsAntidistinguishable fun b : Fin 3 => pure (trineVec (1 / 2) (Real.sqrt 3) b) :=
  trine_antidistinguishable _ (Real.mul_self_sqrt (by norm_num))

/-- `pbr2_antidistinguishable` at the critical angle (`w = −1`, `c : s = (1 + √2) : 1`) -/
example : IsAntidistinguishable fun b : Fin (2 ^ 2) => pure (pbrVec 2 (1 + Real.sqrt 2) 1 b) := by
  refine pbr2_antidistinguishable _ _ (-1) (by rw [map_neg, map_one, neg_mul_neg, one_mul]) ?_
  have h : Real.sqrt 2 * Real.sqrt 2 = 2 := Real.mul_self_sqrt (by norm_num)
  rw [Complex.neg_re, Complex.one_re]
  linear_combination h

/-- `pbr2_antidistinguishable_angle` at `θ = π/2` (the four states are then an orthonormal basis) -/
example : IsAntidistinguishable fun b : Fin (2 ^ 2) =>
    pure (pbrVec 2 (Real.cos (Real.pi / 2 / 2)) (Real.sin (Real.pi / 2 / 2)) b) :=
  pbr2_antidistinguishable_angle _ (by linarith [Real.pi_pos]) (by linarith [Real.pi_pos])

/-- `antidist_of_orthogonal_pair`: `|0⟩⟨0|`, `|1⟩⟨1|` and any third operator -/
example (X : Matrix (Fin 2) (Fin 2) ℂ) :
    IsAntidistinguishable ![!![1, 0; 0, 0], !![0, 0; 0, 1], X] := by
  refine antidist_of_orthogonal_pair _ 0 1 (by decide) ?_ ?_
  · show (!![(0 : ℂ), 0; 0, 1])ᴴ = !![0, 0; 0, 1]
    rw [Matrix.eta_fin_two (_ᴴ)]
    simp only [Matrix.conjTranspose_apply, Matrix.of_apply, Matrix.cons_val', Matrix.cons_val_zero,
      Matrix.cons_val_one, Matrix.cons_val_fin_one, star_zero, star_one]
  · show !![(1 : ℂ), 0; 0, 0] * !![0, 0; 0, 1] = 0
    rw [Matrix.mul_fin_two, Matrix.eta_fin_two 0]
    simp only [mul_zero, add_zero, mul_one, Matrix.zero_apply]

/-- `antidist_of_projector_frame` for the four BB84 states `|0⟩, |1⟩, |+⟩, |−⟩` (`h = 1/√2`): the projectors sum to `2·1` -/
example (h : ℝ) (hh : h * h = 1 / 2) :
    IsAntidistinguishable fun b : Fin 4 =>
      Excl.pure ((![![1, 0], ![0, 1], ![(h : ℂ), h], ![(h : ℂ), -h]] : Fin 4 → Fin 2 → ℂ) b) := by
  have hh' : (h : ℂ) * h = 1 / 2 := by rw [← Complex.ofReal_mul, hh]; norm_num
  refine antidist_of_projector_frame _ 2 (by norm_num) (fun i => pure_isHermitian _) (fun i => pure_idem _ ?_) ?_
  · fin_cases i
    all_goals simp only [Fin.zero_eta, Fin.mk_one, Fin.reduceFinMk, Matrix.cons_val, star_vec2_dotProduct, map_neg,
      map_one, map_zero, Complex.conj_ofReal]
    · ring
    · ring
    · linear_combination (2 : ℂ) * hh'
    · linear_combination (2 : ℂ) * hh'
  · rw [Fin.sum_univ_four]
    simp only [Matrix.cons_val, pure_vec2, Matrix.one_fin_two, Matrix.smul_of, Matrix.smul_cons, Matrix.smul_empty,
      Matrix.of_add_of, Matrix.cons_add_cons, Matrix.empty_add_empty, smul_eq_mul, RCLike.star_def, map_neg, map_one,
      map_zero, Complex.conj_ofReal]
    -- the entries `(0,0)`, `(0,1)`, `(1,0)`, `(1,1)`
    congr 5 <;> push_cast
    · linear_combination (2 : ℂ) * hh'
    · ring
    · ring
    · linear_combination (2 : ℂ) * hh'

end Examples

end Toq.C11
