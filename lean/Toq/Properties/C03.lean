import Toq.Model.PartialOps
import Toq.Spec.PartialTranspose
import Toq.Proofs.PartialTranspose
import Toq.Model.PartialOpsArgs
import Toq.Proofs.PartialOpsArgs
import Toq.Proofs.PartialTransposeExtra
import Toq.Properties.C02
/-!
# C03 — partial transpose exchanges exactly the digits in `S`; realignment sends `A ⊗ B` to `vec(A) vec(B)ᵀ`

The specification is `Toq/Spec/PartialTranspose.lean`; the lemmas are in `Toq/Proofs/PartialTranspose.lean`,
`PartialTransposeExtra.lean` and `PartialOpsArgs.lean` (argument forms).  The mirror models `Toq.PartialOps.partialTranspose` and
`Toq.PartialOps.realignment` follow `toqito/channels/partial_transpose.py` and
`toqito/channels/realignment.py` line by line (`permute_systems` with `perm = sys ++ rest`, F-order
reshape to four axes, `np.transpose(…, [0,3,2,1])`, F-order reshape back, inverse `permute_systems`
with the flipped and permuted dims).  The theorems hold for every scalar type, every number `n` of
subsystems, all (possibly different) row and column dimension vectors, and every duplicate-free list
`S` of subsystems; those about the diagonal, the trace, Hermiticity and the partial trace are for square operators
(`rd = cd = d`).  Further: linearity, trace / Hermiticity preservation, commutation with the
partial trace over other subsystems, the involution and rank-one statements for the realignment, and
the meaning of every accepted argument form and of the cvxpy-`Variable` branch
(`Toq/Model/PartialOpsArgs.lean`: `partialTransposeArgs`, `realignmentArgs`, `partialTransposeCvx`).

Conventions: a matrix is a function `Nat → Nat → α`; `rd`, `cd` are the row / column dimensions of the
`n` subsystems; `pTRowDims rd cd S`, `pTColDims rd cd S` are the dimensions of the result (row and
column dimension exchanged on `S`); `enc d x n` is the index with digits `x` in the mixed radix `d`.
-/
namespace Toq.C03
open Toq.Perms Toq.PartialOps Toq.Spec Toq.C01

/-- **The Python algorithm computes the digit exchange.**  For every scalar type, every `n`, all
    positive row dims `rd` and column dims `cd` (the operator may be rectangular) and every
    duplicate-free list `S` of subsystems `< n`, entry `(i, j)` of the model output is entry
    `(i', j')` of the input where the row digits of `i'` are the column digits of `j` on `S` and the
    row digits of `i` elsewhere, and symmetrically for `j'`.  It holds for all `i j`, in particular
    for all `i < prodN (pTRowDims rd cd S) n`, `j < prodN (pTColDims rd cd S) n`, the entries of the
    result. -/
theorem pT_eq_spec {α : Type} (X : Nat → Nat → α) (n : Nat) (rd cd : Nat → Nat) (S : List Nat)
    (hr : ∀ k, k < n → 0 < rd k) (hc : ∀ k, k < n → 0 < cd k)
    (hnd : S.Nodup) (hS : ∀ s, s ∈ S → s < n) (i j : Nat) :
    partialTranspose X n rd cd S i j = pTSpec X n rd cd S i j :=
  partialTranspose_eq_spec X n rd cd S hr hc hnd hS i j

/-- **Digit form.**  If `a` are valid row digits and `b` valid column digits of the result, then
    result entry `(a, b)` is input entry `(a', b')` with `a' k = b k`, `b' k = a k` for `k ∈ S` and
    `a' k = a k`, `b' k = b k` for `k ∉ S`: the row and column index of exactly the subsystems in `S`
    are exchanged and every other index stays in place. -/
theorem pT_digits {α : Type} (X : Nat → Nat → α) (n : Nat) (rd cd : Nat → Nat) (S : List Nat)
    (hr : ∀ k, k < n → 0 < rd k) (hc : ∀ k, k < n → 0 < cd k)
    (hnd : S.Nodup) (hS : ∀ s, s ∈ S → s < n) (a b : Nat → Nat)
    (ha : ∀ k, k < n → a k < pTRowDims rd cd S k) (hb : ∀ k, k < n → b k < pTColDims rd cd S k) :
    partialTranspose X n rd cd S (enc (pTRowDims rd cd S) a n) (enc (pTColDims rd cd S) b n)
      = X (enc rd (fun k => if k ∈ S then b k else a k) n)
          (enc cd (fun k => if k ∈ S then a k else b k) n) := by
  rw [pT_eq_spec X n rd cd S hr hc hnd hS]
  exact pTSpec_enc X n rd cd S a b ha hb

/-- The entry read by the model lies inside the input matrix (`rows × cols = prodN rd n × prodN cd n`),
    so the result only depends on the entries of the operator. -/
theorem pT_source_in_range (n : Nat) (rd cd : Nat → Nat) (S : List Nat)
    (hr : ∀ k, k < n → 0 < rd k) (hc : ∀ k, k < n → 0 < cd k) (i j : Nat) :
    enc rd (fun k => if k ∈ S then dec (pTColDims rd cd S) n j k
                     else dec (pTRowDims rd cd S) n i k) n < prodN rd n ∧
    enc cd (fun k => if k ∈ S then dec (pTRowDims rd cd S) n i k
                     else dec (pTColDims rd cd S) n j k) n < prodN cd n :=
  pTSpec_source_lt n rd cd S hr hc i j

/-- **Involution.**  Applying the partial transpose over `S` to the result (whose dims are the
    flipped ones) gives the operator back, entry by entry. -/
theorem pT_involutive {α : Type} (X : Nat → Nat → α) (n : Nat) (rd cd : Nat → Nat) (S : List Nat)
    (hr : ∀ k, k < n → 0 < rd k) (hc : ∀ k, k < n → 0 < cd k)
    (hnd : S.Nodup) (hS : ∀ s, s ∈ S → s < n) (i j : Nat) (hi : i < prodN rd n) (hj : j < prodN cd n) :
    partialTranspose (partialTranspose X n rd cd S) n (pTRowDims rd cd S) (pTColDims rd cd S) S i j
      = X i j := by
  rw [partialTranspose_eq_spec' X n rd cd S hr hc hnd hS, pT_eq_spec _ n (pTRowDims rd cd S) (pTColDims rd cd S) S (fun k hk => pTRowDims_pos (hr k hk) (hc k hk))
    (fun k hk => pTRowDims_pos (hc k hk) (hr k hk)) hnd hS]
  exact pTSpec_involutive X n rd cd S hr hc i j hi hj

/-- the dims of the twice-transposed operator are the original ones -/
theorem pT_involutive_dims (rd cd : Nat → Nat) (S : List Nat) :
    pTRowDims (pTRowDims rd cd S) (pTColDims rd cd S) S = rd ∧
    pTColDims (pTRowDims rd cd S) (pTColDims rd cd S) S = cd :=
  ⟨pTRowDims_flip rd cd S, pTColDims_flip rd cd S⟩

/-- **All subsystems = ordinary transpose.**  If `S` lists every subsystem, the result is the
    `prodN cd n × prodN rd n` matrix `Xᵀ`. -/
theorem pT_all_eq_transpose {α : Type} (X : Nat → Nat → α) (n : Nat) (rd cd : Nat → Nat) (S : List Nat)
    (hr : ∀ k, k < n → 0 < rd k) (hc : ∀ k, k < n → 0 < cd k)
    (hnd : S.Nodup) (hS : ∀ s, s ∈ S → s < n) (hall : ∀ k, k < n → k ∈ S)
    (i j : Nat) (hi : i < prodN cd n) (hj : j < prodN rd n) :
    partialTranspose X n rd cd S i j = transposeM X i j := by
  rw [pT_eq_spec X n rd cd S hr hc hnd hS]
  exact pTSpec_all X n rd cd S hall i j hi hj

/-- when `S` lists every subsystem the result has `prodN cd n` rows and `prodN rd n` columns -/
theorem pT_all_dims (n : Nat) (rd cd : Nat → Nat) (S : List Nat) (hall : ∀ k, k < n → k ∈ S) :
    prodN (pTRowDims rd cd S) n = prodN cd n ∧ prodN (pTColDims rd cd S) n = prodN rd n :=
  ⟨prodN_congr _ _ n (fun k hk => pTRowDims_of_mem (hall k hk)),
   prodN_congr _ _ n (fun k hk => pTRowDims_of_mem (rd := cd) (hall k hk))⟩

/-- **Complement.**  If `T` lists exactly the subsystems not in `S`, the partial transpose over `T`
    is the full transpose of the partial transpose over `S` (for all entries). -/
theorem pT_compl {α : Type} (X : Nat → Nat → α) (n : Nat) (rd cd : Nat → Nat) (S T : List Nat)
    (hr : ∀ k, k < n → 0 < rd k) (hc : ∀ k, k < n → 0 < cd k)
    (hnd : S.Nodup) (hS : ∀ s, s ∈ S → s < n) (hndT : T.Nodup) (hT : ∀ s, s ∈ T → s < n)
    (hcompl : ∀ k, k < n → (k ∈ T ↔ k ∉ S)) (i j : Nat) :
    partialTranspose X n rd cd T i j = transposeM (partialTranspose X n rd cd S) i j := by
  show _ = partialTranspose X n rd cd S j i
  rw [pT_eq_spec X n rd cd S hr hc hnd hS, pT_eq_spec X n rd cd T hr hc hndT hT]
  exact pTSpec_compl X n rd cd S T hcompl i j

/-- the row dims over the complement are the column dims over `S` and
    vice versa -/
theorem pT_compl_dims (n : Nat) (rd cd : Nat → Nat) (S T : List Nat)
    (hcompl : ∀ k, k < n → (k ∈ T ↔ k ∉ S)) (k : Nat) (hk : k < n) :
    pTRowDims rd cd T k = pTColDims rd cd S k ∧ pTColDims rd cd T k = pTRowDims rd cd S k :=
  ⟨mix_compl (hcompl k hk), mix_compl (hcompl k hk)⟩

/-- the complement computed by the Python code (`set(range(n)) - set(sys)`) qualifies as `T` -/
theorem pT_compl_setDiff {α : Type} (X : Nat → Nat → α) (n : Nat) (rd cd : Nat → Nat) (S : List Nat)
    (hr : ∀ k, k < n → 0 < rd k) (hc : ∀ k, k < n → 0 < cd k)
    (hnd : S.Nodup) (hS : ∀ s, s ∈ S → s < n) (i j : Nat) :
    partialTranspose X n rd cd (setDiff n S) i j = transposeM (partialTranspose X n rd cd S) i j := by
  rw [Toq.PTrace.setDiff_eq_others]
  exact pT_compl X n rd cd S _ hr hc hnd hS (Toq.PTrace.others_nodup n S) (fun s hs => (Toq.PTrace.mem_others.mp hs).1)
    (fun k hk => ⟨fun h => (Toq.PTrace.mem_others.mp h).2, fun h => Toq.PTrace.mem_others.mpr ⟨hk, h⟩⟩) i j

/-- **Product operators.**  The partial transpose over `S` of `A 0 ⊗ … ⊗ A (n-1)` (`A k` of size
    `rd k × cd k`) is `B 0 ⊗ … ⊗ B (n-1)` with `B k = (A k)ᵀ` for `k ∈ S` and `B k = A k` otherwise. -/
theorem pT_kron {α : Type} [Mul α] [One α] (n : Nat) (A : Nat → Nat → Nat → α) (rd cd : Nat → Nat)
    (S : List Nat) (hr : ∀ k, k < n → 0 < rd k) (hc : ∀ k, k < n → 0 < cd k)
    (hnd : S.Nodup) (hS : ∀ s, s ∈ S → s < n) (i j : Nat) :
    partialTranspose (kronMat n A rd cd) n rd cd S i j
      = kronMat n (fun k => if k ∈ S then transposeM (A k) else A k)
          (pTRowDims rd cd S) (pTColDims rd cd S) i j := by
  rw [pT_eq_spec _ n rd cd S hr hc hnd hS]
  exact pTSpec_kron n A rd cd S hr hc i j

/-- **Realignment, index form.**  For a bipartite operator with row dims `[r0, r1]` and column dims
    `[c0, c1]` the model output is the `(r0*c0) × (r1*c1)` matrix with
    `out[a*c0 + a', b*c1 + b'] = X[a*r1 + b, a'*c1 + b']`: row `i` encodes the entry position `(a, a')`
    of the first factor in row-major order, column `j` the entry position `(b, b')` of the second. -/
theorem realign_eq_spec {α : Type} (X : Nat → Nat → α) (r0 r1 c0 c1 : Nat)
    (hr0 : 0 < r0) (hr1 : 0 < r1) (hc0 : 0 < c0) (hc1 : 0 < c1) (i j : Nat)
    (hi : i < r0 * c0) (hj : j < r1 * c1) :
    realignment X r0 r1 c0 c1 i j = X ((i / c0) * r1 + j / c1) ((i % c0) * c1 + j % c1) :=
  realignment_eq_spec X r0 r1 c0 c1 i j hi hj

/-- **Realignment of a product is rank one.**  If `X = A ⊗ B` with `A` of size `r0 × c0` and `B` of
    size `r1 × c1`, the realignment is `vec(A) vec(B)ᵀ` with row-major vectorisation:
    entry `(i, j)` is `A[i / c0, i % c0] * B[j / c1, j % c1]`. -/
theorem realign_kron {α : Type} [Mul α] (X A B : Nat → Nat → α) (r0 r1 c0 c1 : Nat)
    (hr0 : 0 < r0) (hr1 : 0 < r1) (hc0 : 0 < c0) (hc1 : 0 < c1)
    (hX : ∀ a b a' b', a < r0 → b < r1 → a' < c0 → b' < c1 →
      X (a * r1 + b) (a' * c1 + b') = A a a' * B b b')
    (i j : Nat) (hi : i < r0 * c0) (hj : j < r1 * c1) :
    realignment X r0 r1 c0 c1 i j = A (i / c0) (i % c0) * B (j / c1) (j % c1) := by
  rw [realign_eq_spec X r0 r1 c0 c1 hr0 hr1 hc0 hc1 i j hi hj]
  exact hX _ _ _ _ (Nat.div_mod_of_lt_mul hi).1 (Nat.div_mod_of_lt_mul hj).1 (Nat.div_mod_of_lt_mul hi).2.1 (Nat.div_mod_of_lt_mul hj).2.1

/-- **The realignment index map is a bijection** between the positions of the `(r0*c0) × (r1*c1)`
    output and the positions of the `(r0*r1) × (c0*c1)` input: it maps into range and
    `(I, J) ↦ ((I / r1) * c0 + J / c1, (I % r1) * c1 + J % c1)` is a two-sided inverse. -/
theorem realign_index_bij (r0 r1 c0 c1 : Nat) (hr1 : 0 < r1) (hc0 : 0 < c0) (hc1 : 0 < c1) :
    (∀ i j, i < r0 * c0 → j < r1 * c1 →
      realignRow r1 c0 c1 i j < r0 * r1 ∧ realignCol c0 c1 i j < c0 * c1 ∧
      realignRowInv r1 c0 c1 (realignRow r1 c0 c1 i j) (realignCol c0 c1 i j) = i ∧
      realignColInv r1 c1 (realignRow r1 c0 c1 i j) (realignCol c0 c1 i j) = j) ∧
    (∀ I J, I < r0 * r1 → J < c0 * c1 →
      realignRowInv r1 c0 c1 I J < r0 * c0 ∧ realignColInv r1 c1 I J < r1 * c1 ∧
      realignRow r1 c0 c1 (realignRowInv r1 c0 c1 I J) (realignColInv r1 c1 I J) = I ∧
      realignCol c0 c1 (realignRowInv r1 c0 c1 I J) (realignColInv r1 c1 I J) = J) :=
  ⟨fun i j hi hj => realign_idx r0 r1 c0 c1 i j hi hj,
   fun I J hI hJ => realign_idx r0 c0 r1 c1 I J hI hJ⟩

/-- **Realignment preserves every entrywise sum**, in particular the squared Frobenius norm
    (`f x = |x|²`): summing `f` over all entries of the realigned matrix gives the same value as
    summing `f` over all entries of the operator (values in any commutative monoid; sums are the
    left folds `sumN` used by the models). -/
theorem realign_frobenius {α β : Type} [AddCommMonoid β] (f : α → β) (X : Nat → Nat → α)
    (r0 r1 c0 c1 : Nat) (hr0 : 0 < r0) (hr1 : 0 < r1) (hc0 : 0 < c0) (hc1 : 0 < c1) :
    sumN (r0 * c0) (fun i => sumN (r1 * c1) (fun j => f (realignment X r0 r1 c0 c1 i j)))
      = sumN (r0 * r1) (fun I => sumN (c0 * c1) (fun J => f (X I J))) := by
  rw [← sumN_realign (fun I J => f (X I J)) r0 r1 c0 c1]
  apply sumN_congr
  intro i hi
  apply sumN_congr
  intro j hj
  rw [realign_eq_spec X r0 r1 c0 c1 hr0 hr1 hc0 hc1 i j hi hj]
  rfl

/-- the squared Frobenius norm `Σ x²` as the special case `f x = x * x` -/
theorem realign_frobenius_sq {α : Type} [Mul α] [AddCommMonoid α] (X : Nat → Nat → α)
    (r0 r1 c0 c1 : Nat) (hr0 : 0 < r0) (hr1 : 0 < r1) (hc0 : 0 < c0) (hc1 : 0 < c1) :
    sumN (r0 * c0) (fun i => sumN (r1 * c1) (fun j =>
        realignment X r0 r1 c0 c1 i j * realignment X r0 r1 c0 c1 i j))
      = sumN (r0 * r1) (fun I => sumN (c0 * c1) (fun J => X I J * X I J)) :=
  realign_frobenius (fun x => x * x) X r0 r1 c0 c1 hr0 hr1 hc0 hc1

/-- **Entrywise maps commute with the partial transpose** (it only moves entries): for any map `f`
    of scalars, transposing `f ∘ X` is applying `f` to the transposed `X`.  No hypothesis at all. -/
theorem pT_map {α β : Type} (f : α → β) (X : Nat → Nat → α) (n : Nat) (rd cd : Nat → Nat)
    (S : List Nat) (i j : Nat) :
    partialTranspose (fun r c => f (X r c)) n rd cd S i j = f (partialTranspose X n rd cd S i j) := rfl

/-- **Linearity**: the partial transpose of `a·X + b·Y` is `a·Xᵀˢ + b·Yᵀˢ` (any scalar type with
    `+` and `*`, no laws needed, no hypothesis on the arguments). -/
theorem pT_linear {α : Type} [Add α] [Mul α] (a b : α) (X Y : Nat → Nat → α) (n : Nat)
    (rd cd : Nat → Nat) (S : List Nat) (i j : Nat) :
    partialTranspose (fun r c => a * X r c + b * Y r c) n rd cd S i j
      = a * partialTranspose X n rd cd S i j + b * partialTranspose Y n rd cd S i j := rfl

/-- **The diagonal, hence the trace, of a square operator is preserved**: for equal row and column
    dims `d`, entry `(i, i)` of the partial transpose is entry `(i, i)` of the operator. -/
theorem pT_diag {α : Type} (X : Nat → Nat → α) (n : Nat) (d : Nat → Nat) (S : List Nat)
    (hd : ∀ k, k < n → 0 < d k) (hnd : S.Nodup) (hS : ∀ s, s ∈ S → s < n) (i : Nat)
    (hi : i < prodN d n) :
    partialTranspose X n d d S i i = X i i := by
  rw [pT_eq_spec X n d d S hd hd hnd hS]
  exact pTSpec_diag X n d S i hi

/-- **The trace of a square operator is preserved.** -/
theorem pT_trace {α : Type} [Add α] [Zero α] (X : Nat → Nat → α) (n : Nat) (d : Nat → Nat) (S : List Nat)
    (hd : ∀ k, k < n → 0 < d k) (hnd : S.Nodup) (hS : ∀ s, s ∈ S → s < n) :
    sumN (prodN d n) (fun i => partialTranspose X n d d S i i) = sumN (prodN d n) (fun i => X i i) :=
  sumN_congr _ _ _ (fun i hi => pT_diag X n d S hd hnd hS i hi)

/-- **Hermiticity is preserved** (square operator, any scalar type with an involution `star`, e.g.
    complex conjugation): if `X[J, I] = star X[I, J]` for all indices then the partial transpose `Y`
    satisfies `Y[j, i] = star Y[i, j]`. -/
theorem pT_hermitian {α : Type} [Star α] (X : Nat → Nat → α) (n : Nat) (d : Nat → Nat) (S : List Nat)
    (hd : ∀ k, k < n → 0 < d k) (hnd : S.Nodup) (hS : ∀ s, s ∈ S → s < n)
    (hX : ∀ I J, I < prodN d n → J < prodN d n → X J I = star (X I J)) (i j : Nat) :
    partialTranspose X n d d S j i = star (partialTranspose X n d d S i j) := by
  rw [pT_eq_spec X n d d S hd hd hnd hS, pT_eq_spec X n d d S hd hd hnd hS]
  exact pTSpec_star X n d S hd hX i j

/-- **The partial transpose commutes with the adjoint**: `(Xᴴ)ᵀˢ = (Xᵀˢ)ᴴ` for rectangular operators
    too (`Xᴴ[a, b] = star X[b, a]` has the row and column dims exchanged). -/
theorem pT_adjoint {α : Type} [Star α] (X : Nat → Nat → α) (n : Nat) (rd cd : Nat → Nat) (S : List Nat)
    (hr : ∀ k, k < n → 0 < rd k) (hc : ∀ k, k < n → 0 < cd k) (hnd : S.Nodup)
    (hS : ∀ s, s ∈ S → s < n) (i j : Nat) :
    partialTranspose (fun a b => star (X b a)) n cd rd S i j = star (partialTranspose X n rd cd S j i) := by
  rw [pT_eq_spec _ n cd rd S hc hr hnd hS, pT_eq_spec X n rd cd S hr hc hnd hS]
  rfl

/-- **The partial transpose commutes with the partial trace over other subsystems** (square operator
    with local dims `d`).  Let `T` be the traced subsystems and `S''` a list of the remaining subsystems,
    numbered within the remaining ones (`liftSys n T S''` are their original numbers, disjoint from `T`).
    Transposing them first and tracing out `T` afterwards is the same as tracing out `T` first and
    transposing `S''` in the reduced operator. -/
theorem pT_ptrace_commute {α : Type} [Add α] [Zero α] (X : Nat → Nat → α) (n : Nat) (d : Nat → Nat)
    (T S'' : List Nat) (hd : ∀ k, k < n → 0 < d k) (hndT : T.Nodup) (hltT : ∀ s ∈ T, s < n)
    (hndS : S''.Nodup) (hltS : ∀ q ∈ S'', q < (Toq.PTrace.others n T).length) (i j : Nat)
    (hi : i < Toq.PTrace.subDim d (Toq.PTrace.others n T))
    (hj : j < Toq.PTrace.subDim d (Toq.PTrace.others n T)) :
    partialTrace (partialTranspose X n d d (Toq.PTrace.liftSys n T S'')) n d T i j
      = partialTranspose (partialTrace X n d T) (Toq.PTrace.others n T).length
          (Toq.PTrace.subDims d (Toq.PTrace.others n T)) (Toq.PTrace.subDims d (Toq.PTrace.others n T)) S'' i j := by
  obtain ⟨hndL, hltL⟩ := Toq.PTrace.liftSys_nodup_lt n T S'' hndS hltS
  have hpos := Toq.PTrace.subDims_others_pos n d T hd
  -- either order: the outer call reads the inner result only where it is the specification
  rw [partialTranspose_eq_spec' X n d d _ hd hd hndL hltL, Toq.C02.ptrace_eq_spec _ n d T hd hndT hltT i j hi hj,
    pT_eq_spec (partialTrace X n d T) _ _ _ S'' hpos hpos hndS hltS i j,
    pTSpec_congr _ _ _ S'' hpos hpos (fun I J hI hJ => Toq.C02.ptrace_eq_spec X n d T hd hndT hltT I J hI hJ)]
  exact pTSpec_ptraceSpec_commute X n d T S'' hd hltS i j

/-- **Entrywise maps commute with the realignment** (it only moves entries). -/
theorem realign_map {α β : Type} (f : α → β) (X : Nat → Nat → α) (r0 r1 c0 c1 i j : Nat) :
    realignment (fun r c => f (X r c)) r0 r1 c0 c1 i j = f (realignment X r0 r1 c0 c1 i j) := rfl

/-- **Realignment is linear** (no laws needed: both sides are the same entry of `a·X + b·Y`). -/
theorem realign_linear {α : Type} [Add α] [Mul α] (a b : α) (X Y : Nat → Nat → α)
    (r0 r1 c0 c1 i j : Nat) :
    realignment (fun r c => a * X r c + b * Y r c) r0 r1 c0 c1 i j
      = a * realignment X r0 r1 c0 c1 i j + b * realignment Y r0 r1 c0 c1 i j := rfl

/-- **Realignment is an involution up to the dimension swap**: the realigned operator is
    `(r0·c0) × (r1·c1)`; realigning it again with row dims `[r0, c0]` and column dims `[r1, c1]` gives
    back the `(r0·r1) × (c0·c1)` operator, for all (also rectangular) local dimensions. -/
theorem realign_involutive {α : Type} (X : Nat → Nat → α) (r0 r1 c0 c1 : Nat)
    (hr0 : 0 < r0) (hr1 : 0 < r1) (hc0 : 0 < c0) (hc1 : 0 < c1) (i j : Nat)
    (hi : i < r0 * r1) (hj : j < c0 * c1) :
    realignment (realignment X r0 r1 c0 c1) r0 c0 r1 c1 i j = X i j := by
  -- the second call reads the first at the image of `(i, j)` under the index map with `r1` and `c0` exchanged,
  -- and the first call applies the index map itself: `realign_idx` says the composite is the identity
  have h := realign_idx r0 c0 r1 c1 i j hi hj
  unfold realignRow realignCol at h
  obtain ⟨h1, h2, h3, h4⟩ := h
  rw [realign_eq_spec _ r0 c0 r1 c1 hr0 hc0 hr1 hc1 i j hi hj,
    realign_eq_spec X r0 r1 c0 c1 hr0 hr1 hc0 hc1 _ _ h1 h2, h3, h4]

/-- **The realignment of `A ⊗ B` has rank at most one, for all sizes** (Mathlib's `Matrix.rank` over a
    field; `toMatR` reads the `(r0·c0) × (r1·c1)` block of the model output as a Mathlib matrix). -/
theorem realign_kron_rank {K : Type} [Field K] (X A B : Nat → Nat → K) (r0 r1 c0 c1 : Nat)
    (hr0 : 0 < r0) (hr1 : 0 < r1) (hc0 : 0 < c0) (hc1 : 0 < c1)
    (hX : ∀ a b a' b', a < r0 → b < r1 → a' < c0 → b' < c1 →
      X (a * r1 + b) (a' * c1 + b') = A a a' * B b b') :
    (toMatR (r0 * c0) (r1 * c1) (realignment X r0 r1 c0 c1)).rank ≤ 1 :=
  rank_outer_le_one _ _ (fun i => A (i / c0) (i % c0)) (fun j => B (j / c1) (j % c1)) _
    (fun i j hi hj => realign_kron X A B r0 r1 c0 c1 hr0 hr1 hc0 hc1 hX i j hi hj)

/-- **A bare integer `sys = s` means `[s]`, an omitted `sys` means `[1]`, a one-element `dim = [d]`
    means the scalar `d`, and a 2 × 1 `dim = [[r], [c]]` is read as the vector `[r, c]` of a square
    operator** (because `min(dim.shape) == 1`). -/
theorem pT_args_forms {α : Type} (X : Nat → Nat → α) (R C : Nat) (s : Int) (d r c : Nat)
    (sys : SysArg) (dim : PTDimArg) :
    partialTransposeArgs X R C (.int s) dim = partialTransposeArgs X R C (.list [s]) dim ∧
    partialTransposeArgs X R C .omitted dim = partialTransposeArgs X R C (.list [1]) dim ∧
    partialTransposeArgs X R C sys (.list [d]) = partialTransposeArgs X R C sys (.scalar d) ∧
    partialTransposeArgs X R C sys (.two [r] [c]) = partialTransposeArgs X R C sys (.list [r, c]) :=
  ⟨rfl, rfl, rfl, rfl⟩

/-- **Two-row dimension argument `[row dims, column dims]`: accepted exactly on the documented domain,
    and then the result is the digit exchange.**  For an `R × C` input with `R, C ≥ 1`, lists `rl`, `cl`
    of equal length `n ≠ 1` and a list `sys` of integers, `partial_transpose` returns iff `rl` multiplies
    to `R`, `cl` to `C`, and `sys` is a duplicate-free list of numbers in `0 … n-1`.  The result then has
    the shape `Π pTRowDims × Π pTColDims` and is the mirror model's output, i.e. `pTSpec`. -/
theorem pT_args_two {α : Type} (X : Nat → Nat → α) (R C : Nat) (hR : 0 < R) (hC : 0 < C)
    (rl cl : List Nat) (hlen : rl.length = cl.length) (hn : rl.length ≠ 1) (sys : List Int) :
    ((∃ r, partialTransposeArgs X R C (.list sys) (.two rl cl) = .ok r) ↔
      prodN (fnOfList rl) rl.length = R ∧ prodN (fnOfList cl) rl.length = C ∧
        ∃ S : List Nat, sys = S.map Int.ofNat ∧ S.Nodup ∧ ∀ s ∈ S, s < rl.length) ∧
    ∀ S : List Nat, sys = S.map Int.ofNat → S.Nodup → (∀ s ∈ S, s < rl.length) →
      prodN (fnOfList rl) rl.length = R → prodN (fnOfList cl) rl.length = C →
      partialTransposeArgs X R C (.list sys) (.two rl cl)
        = .ok (prodN (pTRowDims (fnOfList rl) (fnOfList cl) S) rl.length,
               prodN (pTColDims (fnOfList rl) (fnOfList cl) S) rl.length,
               partialTranspose X rl.length (fnOfList rl) (fnOfList cl) S) ∧
      ∀ i j, partialTranspose X rl.length (fnOfList rl) (fnOfList cl) S i j
        = pTSpec X rl.length (fnOfList rl) (fnOfList cl) S i j := by
  have iff := partialTransposeArgs_two_eq_ok_iff X R C hR hC rl cl hlen hn sys
  refine ⟨⟨fun ⟨r, hr⟩ => ?_, fun ⟨hpR, hpC, S, hS⟩ => ⟨_, (iff _).mpr ⟨S, hS, hpR, hpC, rfl⟩⟩⟩,
    fun S hS hnd hlt hpR hpC => ?_⟩
  · obtain ⟨S, hS, hpR, hpC, -⟩ := (iff r).mp hr
    exact ⟨hpR, hpC, S, hS⟩
  · have hr : ∀ k, k < rl.length → 0 < fnOfList rl 0 k := prodN_pos_of_lt _ _ 0 (by rw [hpR]; exact hR)
    have hc : ∀ k, k < rl.length → 0 < fnOfList cl 0 k := prodN_pos_of_lt _ _ 0 (by rw [hpC]; exact hC)
    exact ⟨(iff _).mpr ⟨S, ⟨hS, hnd, hlt⟩, hpR, hpC, rfl⟩, fun i j => pT_eq_spec X _ _ _ S hr hc hnd hlt i j⟩

/-- **A dimension vector (square operator) means the same row and column dims** -/
theorem pT_args_list {α : Type} (X : Nat → Nat → α) (R C : Nat) (sys : SysArg) (l : List Nat)
    (hn : l.length ≠ 1) :
    partialTransposeArgs X R C sys (.list l) = partialTransposeArgs X R C sys (.two l l) :=
  partialTransposeArgs_list X R C sys l hn

/-- **A scalar dimension `d` means the dimensions `[d, R/d]`** (rows and columns) when `d ≥ 1` divides
    the number of rows, and is rejected otherwise -/
theorem pT_args_scalar {α : Type} (X : Nat → Nat → α) (R C d : Nat) (sys : SysArg) :
    (0 < d → d ∣ R →
      partialTransposeArgs X R C sys (.scalar d) = partialTransposeArgs X R C sys (.list [d, R / d])) ∧
    ((d = 0 ∨ ¬ d ∣ R) → partialTransposeArgs X R C sys (.scalar d) = .error .InvalidDim) :=
  ⟨partialTransposeArgs_scalar X R C d sys,
    fun h => partialTransposeArgs_of_ptDecodeDim_error X R C sys (ptDecodeDim_scalar_reject R C d h)⟩

/-- **Omitted `dim` means two equal subsystems** on rows (`R = a²`) and on columns (`C = b²`) -/
theorem pT_args_omitted {α : Type} (X : Nat → Nat → α) (a b : Nat) (sys : SysArg) :
    partialTransposeArgs X (a * a) (b * b) sys .omitted
      = partialTransposeArgs X (a * a) (b * b) sys (.two [a, a] [b, b]) :=
  partialTransposeArgs_congr_dim X _ _ sys (by rw [ptDecodeDim_omitted, roundSqrt_mul_self, roundSqrt_mul_self]; rfl)

/-- **A numeric array and a cvxpy variable holding that array give the same result**: for every
    argument form the variable call is accepted iff the numeric call is, with the same shape, and the
    value of the returned expression at `(i, j)` is entry `(i, j)` of the numeric result (any value
    type with `+` and `0`; the expressions are single atoms, so nothing is ever added). -/
theorem pT_cvx_value {β : Type} [Add β] [Zero β] (val : Nat → Nat → β) (R C : Nat) (sys : SysArg)
    (dim : PTDimArg) :
    partialTransposeArgs val R C sys dim
      = (partialTransposeCvx R C sys dim).map
          (fun r => (r.1, r.2.1, fun i j => (r.2.2 i j).eval val)) :=
  partialTransposeArgs_map (CvxExpr.eval val) exprAsNpArray R C sys dim

/-- **The returned expression at `(i, j)` is the single atom `V[i', j']`** with `(i', j')` the source
    position given by the digit exchange. -/
theorem pT_cvx_atom (n : Nat) (rd cd : Nat → Nat) (S : List Nat)
    (hr : ∀ k, k < n → 0 < rd k) (hc : ∀ k, k < n → 0 < cd k)
    (hnd : S.Nodup) (hS : ∀ s, s ∈ S → s < n) (i j : Nat) :
    partialTranspose exprAsNpArray n rd cd S i j
      = CvxExpr.index
          (enc rd (fun k => if k ∈ S then dec (pTColDims rd cd S) n j k else dec (pTRowDims rd cd S) n i k) n)
          (enc cd (fun k => if k ∈ S then dec (pTRowDims rd cd S) n i k else dec (pTColDims rd cd S) n j k) n) := by
  rw [pT_eq_spec exprAsNpArray n rd cd S hr hc hnd hS]
  rfl

/-- **Realignment, argument forms**: `[a, b]` means row dims = column dims = `[a, b]`; a scalar `d ≥ 1`
    means `[d, R / d]`; an omitted `dim` means `[round √R, round √C]` for rows and for columns (so it
    fits only square operators), in particular `[r, r]` for an `r² × r²` operator. -/
theorem realign_args_forms {α : Type} (X : Nat → Nat → α) (R C a b d r : Nat) (hd : 0 < d) :
    realignmentArgs X R C (.pair a b) = realignmentArgs X R C (.two a b a b) ∧
    realignmentArgs X R C (.scalar d) = realignmentArgs X R C (.pair d (R / d)) ∧
    realignmentArgs X R C .omitted = realignmentArgs X R C (.pair (roundSqrt R) (roundSqrt C)) ∧
    realignmentArgs X (r * r) (r * r) .omitted = realignmentArgs X (r * r) (r * r) (.two r r r r) :=
  ⟨rfl, realignmentArgs_congr_dim X R C (if_neg (Nat.ne_of_gt hd) : realignDecodeDim R C (.scalar d) = .ok ((d, R / d), (d, R / d))), rfl,
    realignmentArgs_congr_dim X _ _ (congrArg (fun s => Except.ok ((s, s), (s, s))) (roundSqrt_mul_self r))⟩

/-- **Realignment is accepted exactly when the local dimensions multiply to the shape of the input**,
    and then returns the `(r0·c0) × (r1·c1)` matrix of `realign_eq_spec` -/
theorem realign_args_two {α : Type} (X : Nat → Nat → α) (R C r0 r1 c0 c1 : Nat) :
    ((∃ r, realignmentArgs X R C (.two r0 r1 c0 c1) = .ok r) ↔ r0 * r1 = R ∧ c0 * c1 = C) ∧
    (r0 * r1 = R → c0 * c1 = C →
      realignmentArgs X R C (.two r0 r1 c0 c1) = .ok (r0 * c0, r1 * c1, realignment X r0 r1 c0 c1)) := by
  have iff := realignmentArgs_two_eq_ok_iff X R C r0 r1 c0 c1
  exact ⟨⟨fun ⟨r, hr⟩ => ⟨((iff r).mp hr).1, ((iff r).mp hr).2.1⟩, fun ⟨h1, h2⟩ => ⟨_, (iff _).mpr ⟨h1, h2, rfl⟩⟩⟩,
    fun h1 h2 => (iff _).mpr ⟨h1, h2, rfl⟩⟩

/-- the hypotheses of `pT_eq_spec` are met by `rd = [2,3]`, `cd = [3,4]`, `S = [1]` (a rectangular
    `6 × 12` operator; the result is `8 × 9`), and there the model (evaluated) equals the spec on all
    `72` entries of an operator with pairwise distinct entries -/
example :
    ((∀ k, k < 2 → 0 < (fnOfList [2, 3]) k) ∧ (∀ k, k < 2 → 0 < (fnOfList [3, 4]) k) ∧
      [1].Nodup ∧ (∀ s, s ∈ [1] → s < 2)) ∧
    prodN (pTRowDims (fnOfList [2, 3]) (fnOfList [3, 4]) [1]) 2 = 8 ∧
    prodN (pTColDims (fnOfList [2, 3]) (fnOfList [3, 4]) [1]) 2 = 9 ∧
    (listOfFn 8 fun i => listOfFn 9 fun j =>
        partialTranspose (fun i j => 100 * i + j) 2 (fnOfList [2, 3]) (fnOfList [3, 4]) [1] i j)
      = (listOfFn 8 fun i => listOfFn 9 fun j =>
        pTSpec (fun i j => 100 * i + j) 2 (fnOfList [2, 3]) (fnOfList [3, 4]) [1] i j) := by
  decide +kernel

/-- the result is not the input: entry `(1, 3)` of the result is entry `(0, 5)` of the operator
    (row digits `(0,1)`, column digits `(1,0)` become row digits `(0,0)`, column digits `(1,1)`) -/
example :
    partialTranspose (fun i j => (i, j)) 2 (fnOfList [2, 3]) (fnOfList [3, 4]) [1] 1 3 = (0, 5) := by
  decide +kernel

/-- realignment with `r = [2,3]`, `c = [3,4]`: the `6 × 12` operator becomes a `6 × 12` matrix
    (`r0*c0 × r1*c1`) and the model equals the index formula on every entry -/
example :
    (listOfFn 6 fun i => listOfFn 12 fun j => realignment (fun i j => 100 * i + j) 2 3 3 4 i j)
      = (listOfFn 6 fun i => listOfFn 12 fun j =>
          realignSpec (fun i j => 100 * i + j) 3 3 4 i j) := by
  decide +kernel

/-- the product hypothesis of `realign_kron` is satisfiable: the entry formula of `A ⊗ B` -/
example (A B : Nat → Nat → Nat) (r0 r1 c0 c1 : Nat) (_hr1 : 0 < r1) (_hc1 : 0 < c1) :
    ∀ a b a' b', a < r0 → b < r1 → a' < c0 → b' < c1 →
      (fun I J => A (I / r1) (J / c1) * B (I % r1) (J % c1)) (a * r1 + b) (a' * c1 + b')
        = A a a' * B b b' := by
  intro a b a' b' _ hb _ hb'
  show A ((a * r1 + b) / r1) ((a' * c1 + b') / c1) * B ((a * r1 + b) % r1) ((a' * c1 + b') % c1) = _
  rw [Nat.mul_add_div_of_lt hb, Nat.mul_add_div_of_lt hb', Nat.mul_add_mod_of_lt hb, Nat.mul_add_mod_of_lt hb']

/-- summary of a front-end result for the examples: shape and entries, or the rejection -/
inductive Shown where
  | rej (e : Rej)
  | ok (rows cols : Nat) (entries : List (List Int))
  deriving DecidableEq

def showResult : Except Rej (Nat × Nat × (Nat → Nat → Int)) → Shown
  | .ok p => .ok p.1 p.2.1 (listOfFn p.1 (fun i => listOfFn p.2.1 (p.2.2 i)))
  | .error e => .rej e

/-- argument forms of `partial_transpose`: omitted `sys` and `dim` on a labelled `4 × 4` matrix (two qubits,
    second transposed), and the two-row form `[[2,1],[2,2]]` with `sys = 0` on a `2 × 4` matrix -/
example :
    showResult (partialTransposeArgs (fun i j => (10 * i + j : Int)) 4 4 .omitted .omitted)
      = .ok 4 4 [[0, 10, 2, 12], [1, 11, 3, 13], [20, 30, 22, 32], [21, 31, 23, 33]] ∧
    showResult (partialTransposeArgs (fun i j => (10 * i + j : Int)) 2 4 (.int 0) (.two [2, 1] [2, 2]))
      = .ok 2 4 [[0, 1, 10, 11], [2, 3, 12, 13]] := by decide +kernel

/-- rejected forms: repeated / negative / out-of-range subsystem, non-dividing scalar, omitted `dim` on
    a size that is not a perfect square, rows of different lengths -/
example :
    showResult (partialTransposeArgs (fun i j => (10 * i + j : Int)) 4 4 (.list [1, 1]) (.list [2, 2]))
      = .rej .InvalidPerm ∧
    showResult (partialTransposeArgs (fun i j => (10 * i + j : Int)) 4 4 (.int (-1)) (.list [2, 2]))
      = .rej .InvalidPerm ∧
    showResult (partialTransposeArgs (fun i j => (10 * i + j : Int)) 4 4 (.int 2) (.list [2, 2]))
      = .rej .IndexError := by decide +kernel

example :
    showResult (partialTransposeArgs (fun i j => (10 * i + j : Int)) 4 4 (.int 0) (.scalar 3))
      = .rej .InvalidDim ∧
    showResult (partialTransposeArgs (fun i j => (10 * i + j : Int)) 6 6 .omitted .omitted)
      = .rej .InvalidDim ∧
    showResult (partialTransposeArgs (fun i j => (10 * i + j : Int)) 4 4 (.int 0) (.two [2, 2] [4]))
      = .rej .InvalidDim := by decide +kernel

/-- realignment: the omitted `dim` on a `4 × 4` operator is `[[2,2],[2,2]]`; on a `4 × 9` operator it is
    rejected -/
example :
    showResult (realignmentArgs (fun i j => (10 * i + j : Int)) 4 4 .omitted)
      = showResult (realignmentArgs (fun i j => (10 * i + j : Int)) 4 4 (.two 2 2 2 2)) ∧
    showResult (realignmentArgs (fun i j => (10 * i + j : Int)) 4 9 .omitted)
      = .rej .InvalidDim := by decide +kernel

/-- realigning the `6 × 12` operator with dims `[2,3],[3,4]` twice gives it back (the swapped dims
    `[r0, c0], [r1, c1]` of `realign_involutive` are the same here, as `r1 = c0 = 3`) -/
example :
    (listOfFn 6 fun i => listOfFn 12 fun j =>
        realignment (realignment (fun i j => 100 * i + j) 2 3 3 4) 2 3 3 4 i j)
      = (listOfFn 6 fun i => listOfFn 12 fun j => 100 * i + j) := by decide +kernel

/-- the cvxpy branch on `rd = [2,3]`, `cd = [3,4]`, `S = [1]`: entry `(1, 3)` of the returned expression
    is the atom `V[0, 5]` -/
example :
    partialTranspose exprAsNpArray 2 (fnOfList [2, 3]) (fnOfList [3, 4]) [1] 1 3 = CvxExpr.index 0 5 := by
  decide +kernel

/-- `pT_ptrace_commute` on `d = [2,3,2]`, `T = [1]`, `S'' = [1]` (original subsystem 2): transposing
    subsystem 2 and tracing out subsystem 1 commute -/
example : Toq.PTrace.liftSys 3 [1] [1] = [2] ∧
    (listOfFn 4 fun i => listOfFn 4 fun j =>
        partialTrace (partialTranspose (fun r c => 12 * r + c) 3 (fnOfList [2, 3, 2]) (fnOfList [2, 3, 2]) [2])
          3 (fnOfList [2, 3, 2]) [1] i j)
      = (listOfFn 4 fun i => listOfFn 4 fun j =>
          partialTranspose (partialTrace (fun r c => 12 * r + c) 3 (fnOfList [2, 3, 2]) [1]) 2
            (fnOfList [2, 2]) (fnOfList [2, 2]) [1] i j) := by
  decide +kernel

end Toq.C03
