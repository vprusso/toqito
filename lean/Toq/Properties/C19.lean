import Toq.Proofs.Rand
import Toq.Proofs.RandSchmidt
import Toq.Proofs.RandQR
import Toq.Proofs.RandPgm
import Toq.Proofs.RandPost
/-!
# C19 — random generators, pretty good / pretty bad measurement, `measure`

Scheme C (DESIGN.md §2): NumPy's PCG64 bit stream and LAPACK's factorizations are runtime behaviour no model exhibits.
What is logic, and is proved here for **all** dimensions, seeds, histories and raw draws:

* **Seeding discipline** (`Toq.Rand.step`, `Toq.Rand.run`): a seeded call's output is a function of
  (generator, arguments, seed) wherever it occurs in a history, and deleting seeded calls (resp. all toqito calls) from a
  history changes nothing that the remaining operations (resp. the global generator) can observe.  The correspondence
  check drives random histories through the real code and compares the equality pattern with the model's.
* **Draw programs** (`Toq.Rand.trace`): for every generator, option combination and `dim` form the sequence of
  generator constructions and draws (method, shape); the abstract `draws` of the state machine is instantiated (`envOfPrim`) as
  `post` of the arrays this program yields from fresh generators of the seed, where the post-processing `post` is a parameter: no
  theorem ties one of the formulas below to these arrays.  The harness records the real events of every call
  (proxy around `np.random.default_rng`) and compares them, and the arrays, with the program.
* **Post-processing**: whatever the raw draws `G`, `Q`, `R`, eigenvectors, singular vectors … are, the formula applied to
  them yields an object of the advertised kind, *given the stated relation the LAPACK factor satisfies*
  (`Qᴴ Q = 1`, `S = U diag(s) Uᴴ`, `s > 0`, …).  The harness checks these kinds on the real outputs, and evaluates the executable
  models of `Toq/Model/RandPost.lean` exactly on the raw draws / LAPACK factors the code saw; that a model is the formula of its
  theorem is `…_model_refines` here for `densityNum`, `unitaryRel`, `povmCore`, `pgmElem`, and `Toq.Rand.…_refines`
  (`Toq/Proofs/RandPost.lean`) for `gramOf`, `hermTwice`, `povmNormaliser`, `eigRecon`, `measCompleteness`.
* **PGM / PBM**: POVMs for every spanning ensemble, existence and uniqueness of the normaliser, and Barnum–Knill
  `P_opt² ≤ P_pgm ≤ P_opt` (`barnum_knill`, `pgm_between_sq_opt_and_opt`).
* **`measure`**: Born rule, normalised post-measurement state, and the branch logic of the exact model `measureOne`.

Not provable (checked numerically only): "different seeds give different objects" (a statement about PCG64 streams), an unseeded
call not being reproducible (OS entropy).
-/

open Matrix
open scoped ComplexOrder MatrixOrder

namespace Toq.C19
open Toq.Rand Toq.Perms

section machine
variable {Gen Args Seed G E V : Type}

/-- **Same seed ⇒ same object, regardless of earlier calls and of the global random state.**  Wherever
`gen(args, seed=s)` occurs (position `i`) in whatever history `h`, started in whatever world `w` (global NumPy generator
state, OS entropy pool), its output is `draws gen args s`. -/
theorem seeded_output_history_independent (env : Env Gen Args Seed G E V) (g : Gen) (a : Args) (s : Nat)
    (h : List (Op Gen Args)) (w : World G E) (i : Nat) (hi : h[i]? = some (.seeded g a s)) :
    (run env w h).2[i]? = some (some (env.draws g a (env.user s))) :=
  (run_getElem? env h w i _ hi).trans (by rw [step_seeded])

/-- Two occurrences of the same seeded call — in two different histories, worlds and positions — return the same object. -/
theorem same_seed_same_output (env : Env Gen Args Seed G E V) (g : Gen) (a : Args) (s : Nat)
    (h h' : List (Op Gen Args)) (w w' : World G E) (i i' : Nat)
    (hi : h[i]? = some (.seeded g a s)) (hi' : h'[i']? = some (.seeded g a s)) :
    (run env w h).2[i]? = (run env w' h').2[i']? := by
  rw [seeded_output_history_independent env g a s h w i hi, seeded_output_history_independent env g a s h' w' i' hi']

/-- **Seeded calls are invisible to everything else.**  Deleting all seeded calls from a history leaves the final world
(global generator state, entropy pool) and the outputs of all remaining operations (global draws, unseeded calls, other
generators) unchanged. -/
theorem seeded_calls_do_not_disturb (env : Env Gen Args Seed G E V) (h : List (Op Gen Args)) (w : World G E) :
    run env w (h.filter (fun op => !op.isSeeded))
      = ((run env w h).1, outputsWhere (fun op => !op.isSeeded) h (run env w h).2) := by
  obtain ⟨h1, h2⟩ := run_filter_view env (fun op => !op.isSeeded) id
    (fun w op hop => step_world_of_seeded env w op (by simpa using hop))
    (fun w w' op _ hw => by subst hw; exact ⟨rfl, rfl⟩) h w w rfl
  exact Prod.ext h1 h2

/-- **No toqito call touches NumPy's global generator.**  The global-generator operations (`np.random.seed`,
`np.random.rand`) see the same state trajectory and return the same values when *all* other operations (seeded and
unseeded generator calls, private `default_rng` draws) are deleted from the history. -/
theorem toqito_calls_do_not_disturb_global (env : Env Gen Args Seed G E V) (h : List (Op Gen Args)) (w : World G E) :
    (run env w (h.filter Op.isGlobal)).1.glob = (run env w h).1.glob ∧
    (run env w (h.filter Op.isGlobal)).2 = outputsWhere Op.isGlobal h (run env w h).2 :=
  run_filter_view env Op.isGlobal World.glob (step_glob_of_not_global env)
    (fun w w' op hop hg => step_global_congr env w w' hg op hop) h w w rfl

/-- a history with repeated seeds, an unseeded call, re-seeding of the global generator and global draws: positions 0 and 4
(same generator, arguments, seed) fall in one class, the two global draws after `np.random.seed(7)` at positions 2 and 7
coincide, everything else is distinct -/
example :
    classIds (run symEnv symWorld0
      [.seeded 0 1 5, .npSeed 7, .globalDraw, .unseeded 0 1, .seeded 0 1 5, .seeded 0 1 6, .npSeed 7, .globalDraw,
       .globalDraw, .rngDraw 5, .rngDrawFresh]).2
      = [some 0, none, some 2, some 3, some 0, some 5, none, some 2, some 8, some 9, some 10] := by decide

/-- **The output of a seeded call is the post-processing of what its draw program yields from fresh generators of the seed.**
The machine environment is refined (`envOfPrim`): `prim` is the bit generator (PCG64: how a state is made from a seed, what a draw
returns — unknown to the model), `trace c` the draw program of the call `c`, `post` the post-processing.  Wherever
`gen(args, seed=s)` occurs in whatever history, its output is `post c (arrays of (trace c) from seed s)`. -/
theorem draws_are_function_of_seed {Seed St Arr G E V : Type} (prim : Prim Seed St Arr)
    (post : Call → Option (List (Option Arr)) → V) (user : Nat → Seed) (gseed : Nat → G) (gnext : G → G × V)
    (entropy : E → E × Seed) (rdraw : Seed → V) (c : Call) (s : Nat)
    (h : List (Op Unit Call)) (w : World G E) (i : Nat) (hi : h[i]? = some (.seeded () c s)) :
    (run (envOfPrim prim post user gseed gnext entropy rdraw) w h).2[i]?
      = some (some (post c ((Toq.Rand.trace c).toOption.map (interp prim (user s) none)))) :=
  seeded_output_history_independent _ () c s h w i hi

/-- **Every generator constructs its private generator before it draws anything**: the draw program of every call that does not
raise starts with `np.random.default_rng(seed=seed)`. -/
theorem trace_starts_with_construct (c : Call) (evs : List Ev) (h : Toq.Rand.trace c = .ok evs) : evs.head? = some .construct := by
  obtain ⟨r, rfl⟩ := trace_beginsC c evs h
  rfl

/-- **The helper generator of the Bures branch restarts the stream**: `random_density_matrix(…, "bures", seed)` draws its Ginibre
factor exactly like the Haar branch, and then — from a second generator constructed from the *same* seed — exactly the arrays a
stand-alone `random_unitary(dim, is_real, seed)` draws. -/
theorem bures_helper_draws_are_random_unitary_draws {Seed St Arr : Type} (prim : Prim Seed St Arr) (seed : Seed) (dim : Nat)
    (isReal : Bool) (k : Option Nat) (evs : List Ev) (h : Toq.Rand.trace (.density dim isReal k true) = .ok evs) :
    ∃ own u, Toq.Rand.trace (.density dim isReal k false) = .ok own ∧ Toq.Rand.trace (.unitary (.int dim) isReal) = .ok u ∧
      interp prim seed none evs = interp prim seed none own ++ interp prim seed none u :=
  bures_interp prim seed dim isReal k evs h

/-- number of scalars drawn: `random_unitary` `d²` (real) / `2d²` (complex); `random_povm` `num_inputs·num_outputs·d²`;
Schmidt branch of `random_state_vector` `(d0+d1)·k` (real) / twice that (complex) -/
theorem draw_counts (d ni no d0 d1 k : Nat) (isReal : Bool) (hk : 0 < k) (hk' : k < min d0 d1) :
    (Toq.Rand.trace (.unitary (.int d) isReal)).toOption.map scalars = some ((if isReal then 1 else 2) * (d * d)) ∧
    (Toq.Rand.trace (.povm d ni no)).toOption.map scalars = some (ni * no * d * d) ∧
    (Toq.Rand.trace (.stateVector (.list [d0, d1]) isReal k)).toOption.map scalars
      = some ((if isReal then 1 else 2) * ((d0 + d1) * k)) := by
  have hu : Toq.Rand.trace (.unitary (.int d) isReal) = _ := unitaryTrace_int d isReal
  have hs : Toq.Rand.trace (.stateVector (.list [d0, d1]) isReal k) = _ := stateVectorTrace_schmidt d0 d1 k isReal hk hk'
  rw [hu, hs]
  refine ⟨?_, ?_, ?_⟩
  · cases isReal <;> simp [optDraw, scalars, Draw.size, Except.toOption, two_mul]
  · simp [Toq.Rand.trace, scalars, Draw.size, Except.toOption]
  · cases isReal <;> simp [optDraw, scalars, Draw.size, Except.toOption] <;> ring

/-- the draw programs on concrete calls: complex Bures density of dimension 3 (two generators, four draws), a list-`dim` Schmidt
state vector, a non-square `dim` list rejected -/
example : Toq.Rand.trace (.density 3 false none true)
      = .ok [.construct, .draw ⟨.random, [3, 3]⟩, .draw ⟨.standardNormal, [3, 3]⟩,
             .construct, .draw ⟨.standardNormal, [3, 3]⟩, .draw ⟨.standardNormal, [3, 3]⟩] ∧
    Toq.Rand.trace (.stateVector (.list [3, 2]) true 1) = .ok [.construct, .draw ⟨.random, [3, 1]⟩, .draw ⟨.random, [2, 1]⟩] ∧
    Toq.Rand.trace (.unitary (.list [2, 3]) false) = .error "ValueError" := by decide

end machine

/-- **`random_density_matrix`**: for every `d×k` factor `G` (the Ginibre draw, `k = k_param`) with `tr(G Gᴴ) ≠ 0`, the
returned `G Gᴴ / tr(G Gᴴ)` is positive semidefinite, has trace one and rank at most `k`. -/
theorem density_post {d k : Nat} (G : Matrix (Fin d) (Fin k) ℂ) (h : (G * Gᴴ).trace ≠ 0) :
    (densityOf G).PosSemidef ∧ (densityOf G).trace = 1 ∧ (densityOf G).rank ≤ k := by
  refine ⟨(posSemidef_self_mul_conjTranspose G).inv_trace_smul, trace_inv_trace_smul _ h, ?_⟩
  exact (rank_smul_le _ _).trans ((rank_mul_le_left _ _).trans ((rank_le_card_width G).trans_eq (Fintype.card_fin k)))

/-- hypothesis of `density_post`: the `2×1` factor `(1, i)ᵀ` has `tr(G Gᴴ) = 2 ≠ 0` -/
example : let G : Matrix (Fin 2) (Fin 1) ℂ := Matrix.of fun i _ => if i = 0 then 1 else Complex.I
    (G * Gᴴ).trace ≠ 0 := by
  intro G
  have : (G * Gᴴ).trace = 2 := by
    rw [Matrix.trace, Fin.sum_univ_two]
    simp [Matrix.mul_apply, G, one_add_one_eq_two]
  rw [this]; norm_num

/-- **Bures option as intended** (`(𝟙 + U) G` with `U` the random unitary and `G` the `d×k` Ginibre draw): the final factor still has `k`
columns, so the result is a density operator of rank at most `k`.  The code as written computes `U + 𝟙 @ G = U + G`
(`bures_factor_as_written`; the correspondence check reports the difference).  The hypothesis fails exactly when `(𝟙 + U) G = 0`,
which for random draws happens only for `d = 1`, `U = −1`: there the code must not divide by the zero trace. -/
theorem density_bures_post {d k : Nat} (U : Matrix (Fin d) (Fin d) ℂ) (G : Matrix (Fin d) (Fin k) ℂ)
    (h : (((1 + U) * G) * ((1 + U) * G)ᴴ).trace ≠ 0) :
    (densityOf ((1 + U) * G)).PosSemidef ∧ (densityOf ((1 + U) * G)).trace = 1 ∧
      (densityOf ((1 + U) * G)).rank ≤ k :=
  density_post ((1 + U) * G) h

/-- **mirror = spec for `random_density_matrix`**: the executable model (numerator `densityNum`, trace `trc`; run by the driver
on the raw draws) is `densityOf` of the factor. -/
theorem density_model_refines (d k : Nat) (G : Nat → Nat → ℂ) :
    (trc d (densityNum star k G))⁻¹ • toMat d d (densityNum star k G) = densityOf (toMat d k G) := by
  rw [trc_eq, densityNum_refines]; rfl

/-- **`is_real=True`**: a real factor gives a real density operator. -/
theorem density_real_of_real {m n : Type*} [Fintype m] [Fintype n] (G : Matrix m n ℂ) (hG : ∀ i j, (G i j).im = 0) (i j : m) :
    (densityOf G i j).im = 0 := by
  have hent : ∀ a b, ((G * Gᴴ) a b).im = 0 := by
    intro a b
    rw [Matrix.mul_apply, Complex.im_sum]
    refine Finset.sum_eq_zero (fun l _ => ?_)
    rw [conjTranspose_apply, Complex.star_def, Complex.mul_im, Complex.conj_im, hG, hG, neg_zero, mul_zero, zero_mul, add_zero]
  have htr : (G * Gᴴ).trace.im = 0 := by
    rw [Matrix.trace, Complex.im_sum]
    exact Finset.sum_eq_zero (fun a _ => hent a a)
  unfold densityOf
  rw [Matrix.smul_apply, smul_eq_mul, Complex.mul_im, hent, Complex.inv_im, htr, neg_zero, zero_div, zero_mul, mul_zero,
    add_zero]

/-- the Bures factor **as written** (`random_unitary(dim) + np.identity(dim) @ gin`, `k = dim ≥ 2`) is `U + G`, not `(𝟙 + U) G`;
`density_post` still applies to it (rank `≤ dim`). -/
theorem bures_factor_as_written (d : Nat) (hd : d ≠ 1) (U G : Nat → Nat → ℂ) :
    toMat d d (buresFactor d d U G) = toMat d d U + toMat d d G := by
  ext i j; simp [buresFactor, hd]

/-- **mirror = spec for the relation checked on `random_unitary`**: the model `unitaryRel` is `Uᴴ G`. -/
theorem unitaryRel_model_refines (d : Nat) (U G : Nat → Nat → ℂ) :
    toMat d d (unitaryRel star d U G) = (toMat d d U)ᴴ * toMat d d G := by
  unfold unitaryRel; rw [toMat_mmul, toMat_ctr]

/-- **`random_unitary`, the QR phase fix**: a unitary (over `ℝ`: orthogonal) `Q` times a diagonal matrix of unimodular
entries is unitary (orthogonal) — on both sides. -/
theorem unitary_post {R : Type*} [CommRing R] [StarRing R] {ι : Type*} [Fintype ι] [DecidableEq ι]
    (Q : Matrix ι ι R) (u : ι → R) (hQ : Qᴴ * Q = 1) (hu : ∀ i, star (u i) * u i = 1) :
    (Q * diagonal u)ᴴ * (Q * diagonal u) = 1 ∧ (Q * diagonal u) * (Q * diagonal u)ᴴ = 1 := by
  have hD : (diagonal u)ᴴ * diagonal u = 1 := by
    rw [diagonal_conjTranspose, diagonal_mul_diagonal, ← diagonal_one]
    congr 1; ext i; exact hu i
  have hl : (Q * diagonal u)ᴴ * (Q * diagonal u) = 1 := by
    rw [conjTranspose_mul, Matrix.mul_assoc, ← Matrix.mul_assoc Qᴴ, hQ, Matrix.one_mul, hD]
  exact ⟨hl, mul_eq_one_comm.mp hl⟩

/-- hypotheses of `unitary_post` on a non-trivial instance: `Q` the swap matrix, phases `i` and `-1` -/
example : (!![0, 1; 1, 0] : Matrix (Fin 2) (Fin 2) ℂ)ᴴ * !![0, 1; 1, 0] = 1 ∧
    ∀ i : Fin 2, star ((![Complex.I, -1] : Fin 2 → ℂ) i) * (![Complex.I, -1] : Fin 2 → ℂ) i = 1 := by
  refine ⟨Matrix.exchange_conjTranspose_mul_self, fun i => ?_⟩
  fin_cases i <;> simp

/-- complex case with the code's diagonal `np.sign(np.diag(R))`, zeros replaced by 1 -/
theorem unitary_post_csign {ι : Type*} [Fintype ι] [DecidableEq ι] (Q : Matrix ι ι ℂ) (r : ι → ℂ) (hQ : Qᴴ * Q = 1) :
    (Q * diagonal fun i => csign (r i))ᴴ * (Q * diagonal fun i => csign (r i)) = 1 :=
  (unitary_post Q _ hQ fun i => csign_unimodular (r i)).1

/-- real case (`is_real=True`): the result is orthogonal (`ᴴ` over `ℝ` is the transpose) -/
theorem orthogonal_post_rsign {ι : Type*} [Fintype ι] [DecidableEq ι] (Q : Matrix ι ι ℝ) (r : ι → ℝ) (hQ : Qᵀ * Q = 1) :
    (Q * diagonal fun i => rsign (r i))ᵀ * (Q * diagonal fun i => rsign (r i)) = 1 := by
  have := (unitary_post Q (fun i => rsign (r i)) (by rwa [conjTranspose_eq_transpose_of_trivial])
    fun i => rsign_unimodular (r i)).1
  rwa [conjTranspose_eq_transpose_of_trivial] at this

/-- **The phase fix pins the result (existence).**  With `G = Q R` (`Q` unitary, `R` upper triangular with non-zero diagonal: the
QR factorisation LAPACK returned) the code's `U = Q · diag(sign(diag R))` makes `Uᴴ G` upper triangular with positive diagonal
`|R_ii|`. -/
theorem unitary_post_is_phase_fixed_qr {n : Nat} (G Q R : Matrix (Fin n) (Fin n) ℂ) (hG : G = Q * R) (hQ : Qᴴ * Q = 1)
    (hR : UpperTri R) (hd : ∀ i, R i i ≠ 0) :
    UpperPos ((Q * diagonal fun i => csign (R i i))ᴴ * G) := by
  have e : (Q * diagonal fun i => csign (R i i))ᴴ * G = diagonal (fun i => star (csign (R i i))) * R := by
    rw [hG, conjTranspose_mul, diagonal_conjTranspose, Matrix.mul_assoc, ← Matrix.mul_assoc Qᴴ, hQ, Matrix.one_mul]
    rfl
  rw [e]
  refine ⟨BlockTriangular.mul (blockTriangular_diagonal _) hR, fun i => ?_⟩
  rw [Matrix.diagonal_mul, csign_conj_mul _ (hd i)]
  exact_mod_cast norm_pos_iff.mpr (hd i)

/-- **The phase fix pins the result (uniqueness).**  Two unitaries `U`, `U'` such that `Uᴴ G` and `U'ᴴ G` are upper triangular
with positive diagonal are equal.  So `random_unitary` is a function of its Ginibre draw `G`: whatever signs / phases the QR
routine chose for `Q` and `R`, the returned matrix is the same.  (The harness checks this relation between the returned `U`
and the draw `G` it recorded.) -/
theorem unitary_post_unique {n : Nat} (G U U' : Matrix (Fin n) (Fin n) ℂ) (hU : Uᴴ * U = 1) (hU' : U'ᴴ * U' = 1)
    (hT : UpperPos (Uᴴ * G)) (hT' : UpperPos (U'ᴴ * G)) : U = U' :=
  qr_posdiag_unique G U U' hU hU' hT hT'

/-- hypotheses of `unitary_post_is_phase_fixed_qr` on a non-trivial instance: `Q` the swap, `R = [[i, 2], [0, -3]]` -/
example : (!![0, 1; 1, 0] : Matrix (Fin 2) (Fin 2) ℂ)ᴴ * !![0, 1; 1, 0] = 1 ∧
    UpperTri (!![Complex.I, 2; 0, -3] : Matrix (Fin 2) (Fin 2) ℂ) ∧
    ∀ i, (!![Complex.I, 2; 0, -3] : Matrix (Fin 2) (Fin 2) ℂ) i i ≠ 0 := by
  refine ⟨Matrix.exchange_conjTranspose_mul_self, ?_, ?_⟩
  · -- the only position below the diagonal is `(1, 0)`
    refine (upperTri_iff _).mpr fun i j hij => ?_
    obtain ⟨rfl, rfl⟩ : i = 1 ∧ j = 0 := by omega
    rfl
  · intro i; fin_cases i
    · exact Complex.I_ne_zero
    · exact neg_ne_zero.mpr three_ne_zero

/-- on real data the complex sign is the real sign (`is_real=True` is the complex branch run on real numbers) -/
theorem unitary_real_sign (x : ℝ) : csign (x : ℂ) = ((rsign x : ℝ) : ℂ) := by
  unfold csign rsign
  rcases lt_trichotomy x 0 with hn | rfl | hp
  · have hx : (x : ℂ) ≠ 0 := by exact_mod_cast hn.ne
    rw [if_neg hx, if_neg hn.ne, if_neg (not_lt.mpr hn.le), Complex.norm_real, Real.norm_eq_abs, abs_of_neg hn]
    push_cast
    rw [div_neg, div_self hx]
  · simp
  · have hx : (x : ℂ) ≠ 0 := by exact_mod_cast hp.ne'
    rw [if_neg hx, if_neg hp.ne', if_pos hp, Complex.norm_real, Real.norm_eq_abs, abs_of_pos hp, div_self hx, Complex.ofReal_one]

/-- **`random_orthonormal_basis`**: the columns of a unitary matrix are orthonormal. -/
theorem orthonormal_basis_post {ι : Type*} [Fintype ι] [DecidableEq ι] (U : Matrix ι ι ℂ) (hU : Uᴴ * U = 1) (i j : ι) :
    ∑ r, star (U r i) * U r j = if i = j then 1 else 0 := by
  have := congrFun (congrFun hU i) j
  rwa [Matrix.mul_apply, Matrix.one_apply] at this

/-- **`random_psd_operator`**: `Q · diag(|λ|) · Qᴴ` is positive semidefinite for any square `Q` and real `λ`
(here `λ` = eigenvalues of the Hermitised draw, `Q` = QR factor of its eigenvectors). -/
theorem psd_post {ι : Type*} [Fintype ι] [DecidableEq ι] (Q : Matrix ι ι ℂ) (ev : ι → ℝ) :
    (Q * diagonal (fun i => ((|ev i| : ℝ) : ℂ)) * Qᴴ).PosSemidef :=
  (PosSemidef.diagonal fun i => by show (0 : ℂ) ≤ _; exact_mod_cast abs_nonneg (ev i)).mul_mul_conjTranspose_same Q

/-- **`random_psd_operator` returns `|H|`.**  `H` the Hermitised draw with eigendecomposition `H = V diag(λ) Vᴴ` (`V` unitary: what
`eigh` returns), `Q` the QR factor of `V` (`V = Q R'`, `Q` unitary, `R'` upper triangular): the returned `A = Q diag|λ| Qᴴ` is
positive semidefinite with `A·A = H·H`, and it is the *only* positive semidefinite matrix with that square. -/
theorem psd_post_is_abs {n : Nat} (H V Q R' : Matrix (Fin n) (Fin n) ℂ) (ev : Fin n → ℝ) (hV : Vᴴ * V = 1) (hQ : Qᴴ * Q = 1)
    (hVQ : V = Q * R') (hR : UpperTri R') (hH : H = V * diagonal (fun i => (ev i : ℂ)) * Vᴴ) :
    (Q * diagonal (fun i => ((|ev i| : ℝ) : ℂ)) * Qᴴ).PosSemidef ∧
    (Q * diagonal (fun i => ((|ev i| : ℝ) : ℂ)) * Qᴴ) * (Q * diagonal (fun i => ((|ev i| : ℝ) : ℂ)) * Qᴴ) = H * H ∧
    ∀ B : Matrix (Fin n) (Fin n) ℂ, B.PosSemidef → B * B = H * H → B = Q * diagonal (fun i => ((|ev i| : ℝ) : ℂ)) * Qᴴ := by
  have h1 := psd_post Q ev
  have h2 : (Q * diagonal (fun i => ((|ev i| : ℝ) : ℂ)) * Qᴴ) * (Q * diagonal (fun i => ((|ev i| : ℝ) : ℂ)) * Qᴴ) = H * H := by
    rw [qr_of_unitary_conj V Q R' hV hQ hVQ hR, hH, conj_mul_conj_eq hV, conj_mul_conj_eq hV, diagonal_mul_diagonal,
      diagonal_mul_diagonal]
    congr 3; ext i
    exact_mod_cast abs_mul_abs_self (ev i)
  exact ⟨h1, h2, fun B hB hBB => psd_sq_unique B _ hB h1 (hBB.trans h2.symm)⟩

/-- **`random_povm`**, one input setting: with `S = Σ_y A_yᴴ A_y = U diag(s) Uᴴ` (`U` unitary, `s > 0`: the SVD of a positive
definite matrix) the operators `M_y = (A_y U diag(s^{-1/2}))ᴴ (A_y U diag(s^{-1/2}))` are positive semidefinite and sum to the
identity. -/
theorem povm_post {ι κ : Type*} [Fintype ι] [DecidableEq ι] [Fintype κ]
    (A : κ → Matrix ι ι ℂ) (U : Matrix ι ι ℂ) (s : ι → ℝ)
    (hU : Uᴴ * U = 1) (hs : ∀ i, 0 < s i)
    (hS : ∑ y, (A y)ᴴ * A y = U * diagonal (fun i => (s i : ℂ)) * Uᴴ) :
    IsPOVM (fun y => (A y * U * diagonal (fun j => (((Real.sqrt (s j))⁻¹ : ℝ) : ℂ)))ᴴ *
        (A y * U * diagonal (fun j => (((Real.sqrt (s j))⁻¹ : ℝ) : ℂ)))) := by
  -- `M_y = Wᴴ (A_yᴴ A_y) W` with the normaliser `W = U diag(s^{-1/2})` of `Σ_y A_yᴴ A_y` (`svd_normaliser`)
  set D := diagonal (fun j => (((Real.sqrt (s j))⁻¹ : ℝ) : ℂ))
  have e : (fun y => (A y * U * D)ᴴ * (A y * U * D)) = fun y => (U * D)ᴴ * ((A y)ᴴ * A y) * (U * D) :=
    funext fun y => by simp only [conjTranspose_mul, Matrix.mul_assoc]
  rw [e]
  refine povm_of_conj (U * D) _ (fun y => posSemidef_conjTranspose_mul_self (A y)) ?_
  rw [hS]
  exact svd_normaliser U s hU hs

/-- **`random_povm`, general form**: for ANY family of positive semidefinite `E_y` and ANY `W` with `Wᴴ (Σ_y E_y) W = 1`
(`W = U diag(s^{-1/2})` in the code, `W = S^{-1/2}` in the textbook) the operators `Wᴴ E_y W` form a POVM. -/
theorem povm_post_general {ι κ : Type*} [Fintype ι] [DecidableEq ι] [Fintype κ]
    (W : Matrix ι ι ℂ) (E : κ → Matrix ι ι ℂ) (hE : ∀ y, (E y).PosSemidef) (h : Wᴴ * (∑ y, E y) * W = 1) :
    IsPOVM (fun y => Wᴴ * E y * W) :=
  povm_of_conj W E hE h

/-- **Normalising any family with a positive definite sum gives a POVM**: for positive semidefinite `E_y` whose sum `S` is positive
definite there is a `W` (`= S^{-1/2}`) such that the `Wᴴ E_y W` form a POVM. -/
theorem povm_normalisation_exists {ι κ : Type*} [Fintype ι] [DecidableEq ι] [Fintype κ]
    (E : κ → Matrix ι ι ℂ) (hE : ∀ y, (E y).PosSemidef) (hS : (∑ y, E y).PosDef) :
    ∃ W : Matrix ι ι ℂ, IsPOVM (fun y => Wᴴ * E y * W) := by
  obtain ⟨W, hW, hWSW⟩ := inv_sqrt_exists _ hS
  exact ⟨W, povm_of_conj W E hE (by rw [hW.isHermitian.eq]; exact hWSW)⟩

/-- **mirror = spec for `random_povm`**: the executable model `povmCore` (run by the driver on the raw blocks and the captured SVD
factor) is `(A_y U)ᴴ (A_y U)`, and entry `(i,j)` of the operator of `povm_post` is that core divided by `√sᵢ √sⱼ`. -/
theorem povm_model_refines (d : Nat) (Ay U : Nat → Nat → ℂ) (s : Fin d → ℝ) (i j : Fin d) :
    ((toMat d d Ay * toMat d d U * diagonal (fun l => (((Real.sqrt (s l))⁻¹ : ℝ) : ℂ)))ᴴ *
        (toMat d d Ay * toMat d d U * diagonal (fun l => (((Real.sqrt (s l))⁻¹ : ℝ) : ℂ)))) i j
      = povmCore star d Ay U i.val j.val * ((((Real.sqrt (s i))⁻¹ : ℝ) : ℂ) * (((Real.sqrt (s j))⁻¹ : ℝ) : ℂ)) := by
  rw [povm_model_entry, ← povmCore_refines]; rfl

/-- the returned array has axes `(row, col, input, output)` -/
theorem povm_layout {α : Type} (P : Nat → Nat → Nat → Nat → α) (r c x y : Nat) :
    povmLayout P r c x y = P x y r c := rfl

/-- **Normalisation** (`random_states`, `random_state_vector`): a non-zero vector divided by its Euclidean norm is a unit
vector. -/
theorem normalise_unit {ι : Type*} [Fintype ι] (v : ι → ℂ) (h : ∑ i, Complex.normSq (v i) ≠ 0) :
    ∑ i, Complex.normSq (v i / ((Real.sqrt (∑ j, Complex.normSq (v j)) : ℝ) : ℂ)) = 1 := by
  have hpos : 0 ≤ ∑ j, Complex.normSq (v j) := Finset.sum_nonneg (fun j _ => Complex.normSq_nonneg _)
  simp_rw [map_div₀, Complex.normSq_ofReal, ← sq, Real.sq_sqrt hpos]
  rw [← Finset.sum_div, div_self h]

/-- **`random_state_vector`, mirror = closed form**: entry `s·d1+t` of `mat_1 @ mat_2` (Kronecker product of the draws,
`swap` of subsystems 2 and 3 of `[k,d0,k,d1]`, contraction with `⟨Σ_j jj|`) is `Σ_{j<k} a[j·d0+s] · b[j·d1+t]`,
over any commutative semiring. -/
theorem stateVector_mirror_eq_closed_form {α : Type} [CommSemiring α] (k d0 d1 : Nat) (a b : Nat → α)
    (hk : 0 < k) (h0 : 0 < d0) (h1 : 0 < d1) (s t : Nat) (hs : s < d0) (ht : t < d1) :
    svRaw k d0 d1 a b (s * d1 + t) = svAmp k d0 d1 a b s t := by
  have hr : s * d1 + t < d0 * d1 := Nat.mul_add_lt_mul hs ht
  unfold svRaw svAmp
  rw [sumN_mul_range, sumN_congr _ (fun c => svMat2 k d0 d1 a b (c * (d0 * d1) + (s * d1 + t)) * maxEnt k c) (k * k) fun c _ => by
      -- the identity block of `mat_1` picks `r' = s d1 + t`
      rw [sumN_eq_single _ (s * d1 + t) _ hr fun r' hr' hne => by
          rw [svMat1_apply _ _ _ _ _ hr', if_neg (Ne.symm hne), mul_zero, zero_mul],
        svMat1_apply _ _ _ _ _ hr, if_pos rfl, mul_one, mul_comm],
    -- `max_entangled` picks the blocks `c = j k + j`
    sumN_mul_flat_diag k _ _ fun j j' hj hj' => maxEnt_apply k j j' hj hj']
  exact sumN_congr _ _ k fun j hj => svMat2_apply k d0 d1 a b j j s t hj hj hs ht

/-- **Schmidt rank ≤ `k_param`**: the `d0×d1` amplitude matrix of the returned vector (`c` = the normalisation factor) is
`c · Aᵀ B` with `A : k×d0`, `B : k×d1`, hence has rank at most `k`. -/
theorem stateVector_schmidt_le_k (k d0 d1 : Nat) (a b : Nat → ℂ) (c : ℂ) (hk : 0 < k) (h0 : 0 < d0) (h1 : 0 < d1) :
    (c • Matrix.of fun (s : Fin d0) (t : Fin d1) => svRaw k d0 d1 a b (s.val * d1 + t.val)).rank ≤ k := by
  have : (Matrix.of fun (s : Fin d0) (t : Fin d1) => svRaw k d0 d1 a b (s.val * d1 + t.val))
      = Matrix.of fun (s : Fin d0) (t : Fin d1) => svAmp k d0 d1 a b s.val t.val := by
    ext s t
    exact stateVector_mirror_eq_closed_form k d0 d1 a b hk h0 h1 s.val t.val s.isLt t.isLt
  rw [this, svAmp_eq_mul]
  exact (rank_smul_le _ _).trans ((rank_mul_le_right _ _).trans ((rank_le_card_height _).trans_eq (Fintype.card_fin k)))

/-- **Schmidt rank in the full-rank branch** (`k_param = 0` or `k_param ≥ min(dim)`): any vector on `d0·d1` dimensions has
Schmidt rank at most `min(d0, d1)`, so a bound `k ≥ min(d0, d1)` holds trivially. -/
theorem stateVector_plain_schmidt_le_k (d0 d1 k : Nat) (v : Nat → ℂ) (hk : min d0 d1 ≤ k) :
    (Matrix.of fun (s : Fin d0) (t : Fin d1) => v (s.val * d1 + t.val)).rank ≤ k := by
  exact (le_min ((rank_le_card_height _).trans_eq (Fintype.card_fin d0))
    ((rank_le_card_width _).trans_eq (Fintype.card_fin d1))).trans hk

/-- the construction on `k = 2`, `d0 = 2`, `d1 = 3` with integer draws: mirror and closed form agree entry by entry -/
example : (List.range 6).map (svRaw 2 2 3 (fun i => (i : Int) + 1) (fun i => 2 * (i : Int) - 3))
    = (List.range 6).map (fun r => svAmp 2 2 3 (fun i => (i : Int) + 1) (fun i => 2 * (i : Int) - 3) (r / 3) (r % 3)) := by
  decide

/-- **`random_circulant_gram_matrix` is positive semidefinite**: `Re(Fᴴ diag(λ) F)` for `λ ≥ 0` (uniform draws in `[0,1)`),
as a real matrix, for the DFT matrix `F` with any root `ω` and scale `c`. -/
theorem circulant_gram_psd {d : Nat} (c : ℝ) (ω : ℂ) (lam : Fin d → ℝ) (h : ∀ k, 0 ≤ lam k) :
    (circGramRe d c ω lam).PosSemidef :=
  posSemidef_re (circGram_psd c ω lam h)

/-- **… and circulant**: for a `d`-th root of unity `ω` of modulus one the `(i,j)` entry
`c² Σ_k λ_k ω^{k(j−i)}` (and so its real part) depends only on `(i − j) mod d`. -/
theorem circulant_gram_circulant {d : Nat} (c : ℝ) (ω : ℂ) (lam : Fin d → ℝ) (hω : ω ^ d = 1) (hu : star ω * ω = 1)
    (i j i' j' : Fin d) (h : (i.val + j'.val) % d = (i'.val + j.val) % d) :
    circGramRe d c ω lam i j = circGramRe d c ω lam i' j' := by
  unfold circGramRe
  rw [circGram_circulant c ω lam hω hu i j i' j' h]

/-- NumPy's DFT root `e^{-2πi/d}` satisfies the two hypotheses of `circulant_gram_circulant`. -/
theorem dftRoot_spec (d : Nat) (hd : 0 < d) : dftRoot d ^ d = 1 ∧ star (dftRoot d) * dftRoot d = 1 := by
  have h := (dftRoot_isPrimitiveRoot d hd.ne').pow_eq_one
  refine ⟨h, ?_⟩
  rw [Complex.star_def, Complex.conj_mul', Complex.norm_eq_one_of_pow_eq_one h hd.ne', Complex.ofReal_one, one_pow]

/-- **entry formula of `random_circulant_gram_matrix`**: with NumPy's scaling `c = 1/√d` and root `ω = e^{−2πi/d}` the returned
matrix is `C[i,j] = (1/d) Σ_k λ_k cos(2π k (j − i)/d)` for the drawn eigenvalues `λ` (the harness compares the returned floats
with this closed form on the recorded draw). -/
theorem circulant_gram_entry (d : Nat) (lam : Fin d → ℝ) (i j : Fin d) :
    circGramRe d (1 / Real.sqrt d) (dftRoot d) lam i j
      = (1 / (d : ℝ)) * ∑ k : Fin d, lam k * Real.cos (2 * Real.pi * k.val * ((j.val : ℝ) - i.val) / d) := by
  unfold circGramRe
  rw [circGram_apply, Complex.re_sum, Finset.mul_sum]
  refine Finset.sum_congr rfl (fun k _ => ?_)
  rw [dftRoot_phase]
  have hc : ((1 / Real.sqrt d : ℝ) : ℂ) ^ 2 = (((1 / (d : ℝ)) : ℝ) : ℂ) := by
    rw [← Complex.ofReal_pow, div_pow, one_pow, Real.sq_sqrt (Nat.cast_nonneg d)]
  rw [hc, ← Complex.ofReal_mul, Complex.re_ofReal_mul, Complex.exp_ofReal_mul_I_re, Real.cos_neg]
  ring

/-- **PGM is a POVM** whenever `P = Σ pᵢρᵢ` is invertible: for positive semidefinite `ρᵢ`, `pᵢ ≥ 0` and a Hermitian `S`
with `S P S = 1` (`S = P^{-1/2}`), the operators `S (pᵢρᵢ) S` are positive semidefinite and sum to the identity. -/
theorem pgm_is_povm {ι κ : Type*} [Fintype ι] [DecidableEq ι] [Fintype κ]
    (ρ : κ → Matrix ι ι ℂ) (p : κ → ℝ) (S : Matrix ι ι ℂ)
    (hρ : ∀ i, (ρ i).PosSemidef) (hp : ∀ i, 0 ≤ p i) (hS : Sᴴ = S)
    (hSPS : S * (∑ i, (p i : ℂ) • ρ i) * S = 1) :
    IsPOVM (fun i => S * ((p i : ℂ) • ρ i) * S) :=
  Toq.Rand.pgm_is_povm ρ p S hρ hp hS hSPS

/-- hypotheses of `pgm_is_povm`: the ensemble `{(1/4, |0⟩⟨0|), (1/4, |1⟩⟨1|)}` (unnormalised priors) with `S = 2·𝟙` -/
example : let ρ : Fin 2 → Matrix (Fin 2) (Fin 2) ℂ := fun i => diagonal fun j => if j = i then 1 else 0
    let p : Fin 2 → ℝ := fun _ => 1 / 4
    let S : Matrix (Fin 2) (Fin 2) ℂ := (2 : ℂ) • 1
    (∀ i, (ρ i).PosSemidef) ∧ (∀ i, 0 ≤ p i) ∧ Sᴴ = S ∧ S * (∑ i, (p i : ℂ) • ρ i) * S = 1 := by
  intro ρ p S
  refine ⟨isPOVM_basis.1, fun i => by norm_num, ?_, ?_⟩
  · rw [conjTranspose_smul, conjTranspose_one, star_ofNat]
  · have hsum : ∑ i, (p i : ℂ) • ρ i = ((1 / 4 : ℝ) : ℂ) • 1 := by
      show ∑ i, ((1 / 4 : ℝ) : ℂ) • ρ i = _
      rw [← Finset.smul_sum, isPOVM_basis.2]
    rw [hsum]
    simp only [S, Matrix.smul_mul, Matrix.mul_smul, Matrix.one_mul, smul_smul]
    norm_num

/-- **For every ensemble spanning the space the normaliser exists**: a positive definite average state `P = Σ pᵢρᵢ` has a positive
semidefinite `S` (`= P^{-1/2}`) with `S P S = 1`; hence (with `pgm_is_povm`, `pbm_is_povm`) the pretty good and the pretty bad
measurement of every spanning ensemble are POVMs. -/
theorem pgm_pbm_povm_of_spanning {ι κ : Type*} [Fintype ι] [DecidableEq ι] [Fintype κ]
    (ρ : κ → Matrix ι ι ℂ) (p : κ → ℝ) (hρ : ∀ i, (ρ i).PosSemidef) (hp : ∀ i, 0 ≤ p i)
    (hspan : (∑ i, (p i : ℂ) • ρ i).PosDef) (hn : 2 ≤ Fintype.card κ) :
    ∃ S : Matrix ι ι ℂ, S.PosSemidef ∧ S * (∑ i, (p i : ℂ) • ρ i) * S = 1 ∧
      IsPOVM (pgmOf ρ p S) ∧ IsPOVM (pbmOf (pgmOf ρ p S)) := by
  obtain ⟨S, hS, hSPS⟩ := inv_sqrt_exists _ hspan
  have hG : IsPOVM (pgmOf ρ p S) := Toq.Rand.pgm_is_povm ρ p S hρ hp hS.isHermitian.eq hSPS
  exact ⟨S, hS, hSPS, hG, Toq.Rand.pbm_is_povm _ hG hn⟩

/-- **The normaliser is unique**: two positive semidefinite `S`, `S'` with `S P S = 1 = S' P S'` are equal — "the" pretty good
measurement of a spanning ensemble is well defined. -/
theorem pgm_normaliser_unique {ι : Type*} [Fintype ι] [DecidableEq ι] (P S S' : Matrix ι ι ℂ) (hP : Pᴴ = P)
    (hS : S.PosSemidef) (hS' : S'.PosSemidef) (h : S * P * S = 1) (h' : S' * P * S' = 1) : S = S' :=
  (eq_sqrtM_inv_of_conj_eq_one hS h).trans (eq_sqrtM_inv_of_conj_eq_one hS' h').symm

/-- **Barnum–Knill**: for every measurement `M`, `P(M)² ≤ P_pgm · tr(Σ pᵢρᵢ)` (`successProb ρ p M = Σ pᵢ Re tr(ρᵢ Mᵢ)`). -/
theorem barnum_knill {ι κ : Type*} [Fintype ι] [DecidableEq ι] [Fintype κ]
    (ρ : κ → Matrix ι ι ℂ) (p : κ → ℝ) (S : Matrix ι ι ℂ) (M : κ → Matrix ι ι ℂ)
    (hρ : ∀ i, (ρ i).PosSemidef) (hp : ∀ i, 0 ≤ p i) (hS : S.PosSemidef)
    (hSPS : S * (∑ i, (p i : ℂ) • ρ i) * S = 1) (hM : IsPOVM M) :
    successProb ρ p M ^ 2 ≤ successProb ρ p (pgmOf ρ p S) * (∑ i, (p i : ℂ) • ρ i).trace.re :=
  barnum_knill_successProb ρ p S M hρ hp hS hSPS hM

/-- **The pretty good success probability lies between the square of the optimum and the optimum.**  For a normalised ensemble
(`tr ρᵢ = 1`, `Σ pᵢ = 1`) with normaliser `S`, and `opt` the least upper bound of the success probabilities of all measurements:
`opt² ≤ P_pgm ≤ opt`. -/
theorem pgm_between_sq_opt_and_opt {ι κ : Type*} [Fintype ι] [DecidableEq ι] [Fintype κ]
    (ρ : κ → Matrix ι ι ℂ) (p : κ → ℝ) (S : Matrix ι ι ℂ)
    (hρ : ∀ i, (ρ i).PosSemidef) (hρ1 : ∀ i, (ρ i).trace = 1) (hp : ∀ i, 0 ≤ p i) (hp1 : ∑ i, p i = 1)
    (hS : S.PosSemidef) (hSPS : S * (∑ i, (p i : ℂ) • ρ i) * S = 1)
    (opt : ℝ) (hopt : IsLUB (successValues ρ p) opt) :
    opt ^ 2 ≤ successProb ρ p (pgmOf ρ p S) ∧ successProb ρ p (pgmOf ρ p S) ≤ opt :=
  pgm_between ρ p S hρ hp hS hSPS (Discrim.re_trace_ensemble_eq_one ρ p hρ1 hp1) opt hopt

/-- **mirror = spec for the pretty good measurement**: the executable model `pgmElem` (run by the driver on the normaliser the
code obtained) is `S A S`. -/
theorem pgm_model_refines (d : Nat) (S A : Nat → Nat → ℂ) :
    toMat d d (pgmElem d S A) = toMat d d S * toMat d d A * toMat d d S := by
  unfold pgmElem; rw [toMat_mmul, toMat_mmul]

/-- **PBM is a POVM**: for any POVM `G` with `n ≥ 2` outcomes, `Bᵢ = (1 − Gᵢ)/(n − 1)` is a POVM. -/
theorem pbm_is_povm {ι κ : Type*} [Fintype ι] [DecidableEq ι] [Fintype κ]
    (G : κ → Matrix ι ι ℂ) (hG : IsPOVM G) (hn : 2 ≤ Fintype.card κ) :
    IsPOVM (fun i => ((Fintype.card κ : ℂ) - 1)⁻¹ • (1 - G i)) :=
  Toq.Rand.pbm_is_povm G hG hn

/-- the hypotheses of `pgm_is_povm` / `pbm_is_povm` are satisfiable: the two-outcome computational-basis measurement -/
example : IsPOVM (fun i : Fin 2 => (diagonal fun j : Fin 2 => if j = i then (1 : ℂ) else 0)) :=
  isPOVM_basis

/-- **Born rule**: the probability `tr(K ρ Kᴴ)` computed by the code equals `tr(Kᴴ K ρ)`. -/
theorem measure_born {ι μ : Type*} [Fintype ι] [Fintype μ] (K : Matrix μ ι ℂ) (ρ : Matrix ι ι ℂ) :
    (K * ρ * Kᴴ).trace = (Kᴴ * K * ρ).trace :=
  Toq.Rand.measure_born K ρ

/-- for a positive semidefinite state the outcome probability is a non-negative real (taking `.real` loses nothing) -/
theorem measure_prob_nonneg {ι μ : Type*} [Fintype ι] [Fintype μ] (K : Matrix μ ι ℂ) (ρ : Matrix ι ι ℂ)
    (hρ : ρ.PosSemidef) : 0 ≤ (K * ρ * Kᴴ).trace.re ∧ (K * ρ * Kᴴ).trace.im = 0 := by
  have h := (hρ.mul_mul_conjTranspose_same K).trace_nonneg
  rw [Complex.nonneg_iff] at h
  exact ⟨h.1, h.2.symm⟩

/-- **probabilities of a complete measurement** (`Σ Kᵢᴴ Kᵢ = 1`) sum to `tr ρ`, i.e. to one for a density operator -/
theorem measure_probs_sum_one {ι μ κ : Type*} [Fintype ι] [DecidableEq ι] [Fintype μ] [Fintype κ]
    (K : κ → Matrix μ ι ℂ) (ρ : Matrix ι ι ℂ) (hK : ∑ i, (K i)ᴴ * K i = 1) (hρ : ρ.trace = 1) :
    ∑ i, (K i * ρ * (K i)ᴴ).trace.re = 1 :=
  Toq.Rand.measure_probs_sum_one K ρ hK hρ

/-- **post-measurement state** `K ρ Kᴴ / p` is positive semidefinite with trace one whenever `p ≠ 0` -/
theorem measure_post_normalised {ι μ : Type*} [Fintype ι] [Fintype μ] (K : Matrix μ ι ℂ) (ρ : Matrix ι ι ℂ)
    (hρ : ρ.PosSemidef) (hp : (K * ρ * Kᴴ).trace.re ≠ 0) :
    ((((K * ρ * Kᴴ).trace.re : ℝ) : ℂ)⁻¹ • (K * ρ * Kᴴ)).PosSemidef ∧
    ((((K * ρ * Kᴴ).trace.re : ℝ) : ℂ)⁻¹ • (K * ρ * Kᴴ)).trace = 1 :=
  Toq.Rand.measure_post_normalised K ρ hρ hp

/-- **Born rule of the executable model**: the probability computed by `measureOne` on exact rationals is `Re tr(K ρ Kᴴ)`. -/
theorem measure_model_born (d m : Nat) (tol : Rat) (K ρ : Nat → Nat → QI) :
    (((measureOne d tol K ρ m).prob : Rat) : ℝ) = (toMatQ m d K * toMatQ d d ρ * (toMatQ m d K)ᴴ).trace.re := by
  rw [← toMatQ_measResult, toMatQ_trace, measureOne_prob_eq]; rfl

/-- **Branch logic of the model**: a definite answer of the three-valued comparison `prob > tol` is the true answer, and then
the post-measurement state is `K ρ Kᴴ / prob`. -/
theorem measure_model_branch (d m : Nat) (tol : Rat) (htol : 0 ≤ tol) (K ρ : Nat → Nat → QI) :
    (∀ b, (measureOne d tol K ρ m).positive = some b → (b = true ↔ (measureOne d tol K ρ m).prob > tol)) ∧
    ((measureOne d tol K ρ m).positive = some true → ∀ i j,
      (measureOne d tol K ρ m).post i j = QI.smul (1 / (measureOne d tol K ρ m).prob) (measResult QI.conj d K ρ i j)) :=
  ⟨fun b hb => gtMargin_sound _ tol htol b hb, fun h i j => by rw [(measureOne_of_positive d m tol K ρ h).2]⟩

/-- the model on `ρ = 𝟙/2`, `K = |0⟩⟨0|`, `tol = 10⁻¹⁰`: probability `1/2`, above the threshold -/
example : let ρ : Nat → Nat → QI := fun i j => if i = j then ⟨1/2, 0⟩ else 0
    let K : Nat → Nat → QI := fun i j => if i = 0 ∧ j = 0 then 1 else 0
    (measureOne 2 (1 / 10000000000) K ρ 2).prob = 1 / 2 ∧ (measureOne 2 (1 / 10000000000) K ρ 2).positive = some true := by
  decide +kernel

/-- **The tolerance does not enter the reported probability**: for any two values of `tol` the model of `measure` reports the same
probability (the Born value, `measure_model_born`).  `tol` only selects whether a post-measurement state is produced; an unlikely
outcome stays an outcome, so the probabilities of a complete measurement sum to one (`measure_probs_sum_one`) whatever `tol` is. -/
theorem measure_model_prob_tol_indep (d m : Nat) (tol tol' : Rat) (K ρ : Nat → Nat → QI) :
    (measureOne d tol K ρ m).prob = (measureOne d tol' K ρ m).prob :=
  rfl

/-- **An outcome below the tolerance keeps its probability**: when the comparison answers `prob ≤ tol`, the model still reports
`Re tr(K ρ Kᴴ)`, and the post-measurement state is the zero matrix of the state's side length (`np.zeros_like(state)`). -/
theorem measure_model_below_tol (d m : Nat) (tol : Rat) (K ρ : Nat → Nat → QI)
    (h : (measureOne d tol K ρ m).positive = some false) :
    (((measureOne d tol K ρ m).prob : Rat) : ℝ) = (toMatQ m d K * toMatQ d d ρ * (toMatQ m d K)ᴴ).trace.re ∧
    (measureOne d tol K ρ m).postDim = d ∧ ∀ i j, (measureOne d tol K ρ m).post i j = 0 := by
  have hn := measureOne_of_not_positive d m tol K ρ (by rw [h]; decide)
  exact ⟨measure_model_born d m tol K ρ, hn.1, fun i j => by rw [hn.2]⟩

/-- the model on `ρ = diag(2499/2500, 1/2500)`, `K = |1⟩⟨1|`, `tol = 10⁻³`: the outcome has probability `4·10⁻⁴`, below the tolerance,
and the probability is reported all the same (the hypothesis of `measure_model_below_tol` is satisfiable on a non-trivial instance) -/
example : let ρ : Nat → Nat → QI := fun i j => if i = j then (if i = 0 then ⟨2499/2500, 0⟩ else ⟨1/2500, 0⟩) else 0
    let K : Nat → Nat → QI := fun i j => if i = 1 ∧ j = 1 then 1 else 0
    (measureOne 2 (1 / 1000) K ρ 2).prob = 1 / 2500 ∧ (measureOne 2 (1 / 1000) K ρ 2).positive = some false := by
  decide +kernel

end Toq.C19
