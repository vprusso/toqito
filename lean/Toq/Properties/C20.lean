import Toq.Proofs.ChanMetrics
import Toq.Proofs.ChanMetricsUnitary
import Toq.Proofs.ChanMetricsPath
import Toq.Proofs.ChanMetricsSpectral
import Toq.Proofs.ChanMetricsFos
import Toq.Proofs.MetricsWatrous
import Mathlib.Data.Real.Pointwise
import Mathlib.Analysis.Convex.Topology
import Mathlib.Analysis.Convex.Combination
import Mathlib.Topology.MetricSpace.HausdorffDistance
/-!
# C20 — channel distance measures: completely bounded trace norm / diamond distance and channel fidelity

A linear map `Φ : L(X) → L(Y)` is represented by its Choi matrix `J = Σ_ab E_ab ⊗ Φ(E_ab)` on `X ⊗ Y`
(toqito's convention); here `X`, `Y` are arbitrary finite index types and `J : Matrix (X × Y) (X × Y) ℂ`.
`ptr2` is the partial trace over `Y`.  The executable certificate checkers (file `Toq/Model/ChanMetrics.lean`) work over
exact Gaussian rationals with row/column index `x·dY + y`; `toP` is the denotation of such a matrix on `Fin dX × Fin dY`.

* **cb trace norm** (`completely_bounded_trace_norm`, `diamond_distance(J1, J2)` = its value at `J1 − J2`,
  `completely_bounded_spectral_norm` = its value at the Choi matrix of the dual map): Watrous' SDP,
  primal `sup Re tr(Jᴴ Z)` over `[[ρ0 ⊗ 1, Z],[Zᴴ, ρ1 ⊗ 1]] ⪰ 0` with density operators `ρ0, ρ1`;
  dual `inf ½(c0 + c1)` over `[[Y0, −J],[−Jᴴ, Y1]] ⪰ 0`, `c_i·1 ⪰ Tr_Y Y_i`.  `cbNorm J` is the primal supremum.
* **channel (root) fidelity** (`channel_fidelity`): Katariya–Wilde SDP, primal `sup λ` over `[[J1, Qᴴ],[Q, J2]] ⪰ 0`,
  `½(Tr_Y Q + (Tr_Y Q)ᴴ) ⪰ λ·1` (Loewner order on the Hermitian part); dual `inf ½ Re(tr(J1 W0) + tr(J2 W1))` over
  `[[W0, −ρ ⊗ 1],[−ρ ⊗ 1, W1]] ⪰ 0` with a density operator `ρ`.  `chanFid J1 J2` is the primal supremum.
-/

open Matrix Kronecker
open scoped ComplexOrder MatrixOrder Pointwise

namespace Toq.C20
open Toq.ChanMetrics

section Programs
variable {X Y : Type*} [Fintype X] [DecidableEq X] [Fintype Y] [DecidableEq Y]

omit [DecidableEq X] in
/-- The partial trace over `Y` is the adjoint of `ρ ↦ ρ ⊗ 1_Y` for the trace pairing (with the index convention
`(x, y)`, i.e. flat index `x·dY + y`). -/
theorem ptrace_adjoint (ρ : Matrix X X ℂ) (A : Choi X Y) :
    ((ρ ⊗ₖ (1 : Matrix Y Y ℂ)) * A).trace = (ρ * ptr2 A).trace :=
  trace_kronecker_one_mul ρ A

/-- Weak duality for Watrous' SDP: every primal-feasible point has value at most `½(c0 + c1)` for every
dual-feasible `(Y0, Y1, c0, c1)`.  No assumption on `J` (any complex matrix). -/
theorem cb_weak_duality (J : Choi X Y) {ρ0 ρ1 : Matrix X X ℂ} {Z Y0 Y1 : Choi X Y} {c0 c1 : ℝ}
    (hP : CbPrimalFeasible ρ0 ρ1 Z) (hD : CbDualFeasible J Y0 Y1 c0 c1) :
    cbObj J Z ≤ (c0 + c1) / 2 := by
  obtain ⟨hρ0, hρ1, hP⟩ := hP
  obtain ⟨hD, hc0, hc1⟩ := hD
  -- the two positive blocks pair to something non-negative: `tr(ρ0 Tr_Y Y0) + tr(ρ1 Tr_Y Y1) ≥ 2 Re tr(Jᴴ Z)`
  have h := hP.re_trace_fromBlocks_mul_nonneg hD
  rw [ptrace_adjoint, ptrace_adjoint, Matrix.mul_neg, Matrix.mul_neg, Matrix.trace_neg, Matrix.trace_neg, Complex.neg_re,
    Complex.neg_re, Matrix.trace_mul_comm Z, Matrix.re_trace_conjTranspose_mul Z J] at h
  -- and `tr(ρ_i Tr_Y Y_i) ≤ c_i` because `c_i·1 ⪰ Tr_Y Y_i`
  have b0 := re_trace_density_mul_le hρ0 hc0
  have b1 := re_trace_density_mul_le hρ1 hc1
  rw [cbObj]
  linarith

/-- For every density operator `ρ`, the point `(ρ, ρ, ρ ⊗ 1)` is primal feasible. -/
theorem cb_primal_point {ρ : Matrix X X ℂ} (hρ : IsDensity ρ) :
    CbPrimalFeasible ρ ρ (ρ ⊗ₖ (1 : Matrix Y Y ℂ)) := by
  have hK : (ρ ⊗ₖ (1 : Matrix Y Y ℂ)).PosSemidef := hρ.1.kronecker Matrix.PosSemidef.one
  refine ⟨hρ, hρ, ?_⟩
  rw [hK.isHermitian.eq]
  exact hK.fromBlocks_same

/-- A density operator exists on a non-empty index type, hence the primal program is feasible. -/
theorem exists_density [Nonempty X] : ∃ ρ : Matrix X X ℂ, IsDensity ρ :=
  ⟨_, maxMixed_density⟩

/-- The dual program is feasible for every `J` (so the primal values are bounded: the cb trace norm is finite). -/
theorem cb_dual_exists (J : Choi X Y) : ∃ Y0 Y1 c0 c1, CbDualFeasible J Y0 Y1 c0 c1 := by
  -- `Y0 = J Jᴴ`, `Y1 = 1`, `c_i = tr Y_i`; the block is the Gram matrix of the columns `(−Jᴴ, 1)`
  refine ⟨J * Jᴴ, 1, _, _, ?_, ptr2_le_trace (Matrix.posSemidef_self_mul_conjTranspose J),
    ptr2_le_trace (A := (1 : Choi X Y)) Matrix.PosSemidef.one⟩
  simpa using Matrix.posSemidef_fromBlocks_gram (-Jᴴ) (1 : Choi X Y)

theorem cbValues_bddAbove (J : Choi X Y) : BddAbove (cbValues J) := by
  obtain ⟨Y0, Y1, c0, c1, hD⟩ := cb_dual_exists J
  refine ⟨(c0 + c1) / 2, ?_⟩
  rintro v ⟨ρ0, ρ1, Z, hP, rfl⟩
  exact cb_weak_duality J hP hD

theorem cbObj_le_cbNorm (J : Choi X Y) {ρ0 ρ1 : Matrix X X ℂ} {Z : Choi X Y}
    (hP : CbPrimalFeasible ρ0 ρ1 Z) : cbObj J Z ≤ cbNorm J :=
  le_csSup (cbValues_bddAbove J) ⟨ρ0, ρ1, Z, hP, rfl⟩

theorem cbNorm_le_of_dual [Nonempty X] (J : Choi X Y) {Y0 Y1 : Choi X Y} {c0 c1 : ℝ}
    (hD : CbDualFeasible J Y0 Y1 c0 c1) : cbNorm J ≤ (c0 + c1) / 2 := by
  obtain ⟨ρ, hρ⟩ := exists_density (X := X)
  refine csSup_le ⟨_, ρ, ρ, _, cb_primal_point hρ, rfl⟩ ?_
  rintro v ⟨ρ0, ρ1, Z, hP, rfl⟩
  exact cb_weak_duality J hP hD

omit [DecidableEq X] [DecidableEq Y] in
private theorem cbObj_smul_smul (c u : ℂ) (J Z : Choi X Y) :
    cbObj (c • J) (u • Z) = (star c * u * (Jᴴ * Z).trace).re := by
  rw [cbObj, Matrix.conjTranspose_smul, Matrix.smul_mul, Matrix.mul_smul, Matrix.trace_smul, Matrix.trace_smul,
    smul_eq_mul, smul_eq_mul, mul_assoc]

private theorem cb_phase_feasible {ρ0 ρ1 : Matrix X X ℂ} {Z : Choi X Y} (u : ℂ) (hu : u * star u = 1)
    (hP : CbPrimalFeasible ρ0 ρ1 Z) : CbPrimalFeasible ρ0 ρ1 (u • Z) :=
  ⟨hP.1, hP.2.1, hP.2.2.fromBlocks_phase u hu⟩

/-- The set of primal values of `c • J` is the set of primal values of `J` scaled by `|c|` (feasible points are
mapped to feasible points by `Z ↦ phase · Z`). -/
theorem cbValues_smul (c : ℂ) (J : Choi X Y) : cbValues (c • J) = ‖c‖ • cbValues J := by
  obtain ⟨u, hu, hcu⟩ := exists_phase c
  have hu' : star u * star (star u) = 1 := by rw [star_star, mul_comm]; exact hu
  -- `c = |c| u` with a phase `u`, and the phase can be moved into `Z`
  have key : ∀ Z : Choi X Y, cbObj (c • J) (u • Z) = ‖c‖ * cbObj J Z := fun Z => by
    have hcu' : star c * u = (‖c‖ : ℂ) := by
      conv_lhs => rw [hcu]
      rw [star_mul', Complex.star_def, Complex.conj_ofReal, mul_assoc, mul_comm _ u, ← Complex.star_def, hu, mul_one]
    rw [cbObj_smul_smul, hcu', Complex.re_ofReal_mul]
    rfl
  ext v
  simp only [Set.mem_smul_set, smul_eq_mul]
  constructor
  · rintro ⟨ρ0, ρ1, Z, hP, rfl⟩
    refine ⟨cbObj J (star u • Z), ⟨ρ0, ρ1, _, cb_phase_feasible _ hu' hP, rfl⟩, ?_⟩
    rw [← key, smul_smul, hu, one_smul]
  · rintro ⟨w, ⟨ρ0, ρ1, Z, hP, rfl⟩, rfl⟩
    exact ⟨ρ0, ρ1, u • Z, cb_phase_feasible u hu hP, key Z⟩

/-- **Absolute homogeneity**: the cb trace norm of `c • J` is `|c|` times that of `J`, for every complex `c`. -/
theorem cb_homogeneous (c : ℂ) (J : Choi X Y) : cbNorm (c • J) = ‖c‖ * cbNorm J := by
  rw [cbNorm, cbValues_smul, Real.sSup_smul_of_nonneg (norm_nonneg c)]
  rfl

/-- **Symmetry of the diamond distance**: the value for `J1 − J2` equals the value for `J2 − J1`. -/
theorem diamond_symm (J1 J2 : Choi X Y) : cbNorm (J1 - J2) = cbNorm (J2 - J1) := by
  have h : J1 - J2 = (-1 : ℂ) • (J2 - J1) := by simp
  rw [h, cb_homogeneous]
  simp

/-- **The diamond distance of a map to itself is zero.** -/
theorem diamond_self_zero (J : Choi X Y) : cbNorm (J - J) = 0 := by
  have h : J - J = (0 : ℂ) • J := by simp
  rw [h, cb_homogeneous]
  simp

/-- Explicit dual certificate for a difference of completely positive maps (`P, Q ⪰ 0`):
`(P + Q, P + Q, c, c)` is dual feasible for `J = P − Q` whenever `c·1 ⪰ Tr_Y(P + Q)`. -/
theorem cb_jordan_dual_cert {P Q : Choi X Y} {c : ℝ} (hP : P.PosSemidef) (hQ : Q.PosSemidef)
    (hc : ((c : ℂ) • (1 : Matrix X X ℂ) - ptr2 (P + Q)).PosSemidef) :
    CbDualFeasible (P - Q) (P + Q) (P + Q) c c := by
  refine ⟨?_, hc, hc⟩
  have h := hP.fromBlocks_same_neg.add hQ.fromBlocks_same
  rw [Matrix.fromBlocks_add] at h
  have e : (P - Q)ᴴ = P - Q := by rw [Matrix.conjTranspose_sub, hP.isHermitian.eq, hQ.isHermitian.eq]
  rw [e]
  have e2 : -(P - Q) = -P + Q := by abel
  rw [e2]
  exact h

/-- Explicit dual certificate for a completely positive map (`J ⪰ 0`): `(J, J, c, c)` whenever `c·1 ⪰ Tr_Y J`. -/
theorem cb_cp_dual_cert {J : Choi X Y} {c : ℝ} (hJ : J.PosSemidef)
    (hc : ((c : ℂ) • (1 : Matrix X X ℂ) - ptr2 J).PosSemidef) : CbDualFeasible J J J c c := by
  have h := cb_jordan_dual_cert hJ Matrix.PosSemidef.zero (c := c) (by simpa using hc)
  simpa using h

/-- For a completely positive map the cb trace norm is at most every `c` with `c·1 ⪰ Tr_Y J = Φ*(1)`, i.e. at most
the operator norm of `Φ*(1)`. -/
theorem cb_cp_le [Nonempty X] {J : Choi X Y} {c : ℝ} (hJ : J.PosSemidef)
    (hc : ((c : ℂ) • (1 : Matrix X X ℂ) - ptr2 J).PosSemidef) : cbNorm J ≤ c := by
  have h := cbNorm_le_of_dual J (cb_cp_dual_cert hJ hc)
  linarith

omit [DecidableEq X] in
private theorem cbObj_kron {J : Choi X Y} (hJ : J.IsHermitian) (ρ : Matrix X X ℂ) :
    cbObj J (ρ ⊗ₖ (1 : Matrix Y Y ℂ)) = (ρ * ptr2 J).trace.re := by
  rw [cbObj_of_isHermitian hJ, ptrace_adjoint]

/-- For a Hermiticity-preserving map the cb trace norm is at least `tr(ρ · Tr_Y J)` for every density operator `ρ`
(so, for completely positive maps, at least the largest eigenvalue of `Tr_Y J = Φ*(1)`). -/
theorem cb_cp_ge {J : Choi X Y} (hJ : J.IsHermitian) {ρ : Matrix X X ℂ} (hρ : IsDensity ρ) :
    (ρ * ptr2 J).trace.re ≤ cbNorm J := by
  rw [← cbObj_kron hJ]
  exact cbObj_le_cbNorm J (cb_primal_point hρ)

/-- **cb trace norm of a completely positive map = operator norm of `Φ*(1) = Tr_Y J`**: if `c·1 ⪰ Tr_Y J` and some
density operator attains `tr(ρ · Tr_Y J) = c` (i.e. `c` is the largest eigenvalue of `Tr_Y J`), then the cb trace norm
is `c`. -/
theorem cb_cp_eq [Nonempty X] {J : Choi X Y} {c : ℝ} (hJ : J.PosSemidef)
    (hc : ((c : ℂ) • (1 : Matrix X X ℂ) - ptr2 J).PosSemidef) {ρ : Matrix X X ℂ} (hρ : IsDensity ρ)
    (hatt : (ρ * ptr2 J).trace.re = c) : cbNorm J = c :=
  le_antisymm (cb_cp_le hJ hc) (hatt ▸ cb_cp_ge hJ.isHermitian hρ)

/-- **The cb trace norm of a quantum channel is 1** (`J ⪰ 0`, `Tr_Y J = 1`). -/
theorem cb_channel_one [Nonempty X] {J : Choi X Y} (hJ : J.PosSemidef) (hTP : ptr2 J = 1) : cbNorm J = 1 := by
  obtain ⟨ρ, hρ⟩ := exists_density (X := X)
  refine cb_cp_eq hJ ?_ hρ ?_
  · rw [hTP]; simpa using Matrix.PosSemidef.zero
  · rw [hTP, Matrix.mul_one, hρ.2, Complex.one_re]

/-- **The diamond distance of two quantum channels is at most 2.** -/
theorem diamond_le_two [Nonempty X] {J1 J2 : Choi X Y} (h1 : J1.PosSemidef) (h2 : J2.PosSemidef)
    (hTP1 : ptr2 J1 = 1) (hTP2 : ptr2 J2 = 1) : cbNorm (J1 - J2) ≤ 2 := by
  have hc : (((2 : ℝ) : ℂ) • (1 : Matrix X X ℂ) - ptr2 (J1 + J2)).PosSemidef := by
    rw [ptr2_add, hTP1, hTP2, Complex.ofReal_ofNat, two_smul, sub_self]
    exact Matrix.PosSemidef.zero
  have h := cbNorm_le_of_dual _ (cb_jordan_dual_cert h1 h2 hc)
  linarith

/-- **Lower Choi-matrix bound**: for every contraction `U` (`[[1, U],[Uᴴ, 1]] ⪰ 0`), `Re tr(Jᴴ U) / dX` is a lower bound
of the cb trace norm; with `U` the sign of a Hermitian `J` this is `‖J‖₁ / dX`. -/
theorem diamond_choi_lower [Nonempty X] (J U : Choi X Y)
    (hU : (fromBlocks (1 : Choi X Y) U Uᴴ 1).PosSemidef) :
    cbObj J U / Fintype.card X ≤ cbNorm J := by
  have hfeas : CbPrimalFeasible ((((Fintype.card X : ℝ)⁻¹ : ℝ) : ℂ) • (1 : Matrix X X ℂ))
      ((((Fintype.card X : ℝ)⁻¹ : ℝ) : ℂ) • (1 : Matrix X X ℂ)) ((((Fintype.card X : ℝ)⁻¹ : ℝ) : ℂ) • U) := by
    refine ⟨maxMixed_density, maxMixed_density, ?_⟩
    rw [Matrix.smul_kronecker, Matrix.one_kronecker_one, Matrix.conjTranspose_smul, Complex.star_def,
      Complex.conj_ofReal]
    exact hU.fromBlocks_smul inv_card_nonneg
  have h := cbObj_le_cbNorm J hfeas
  rw [cbObj, re_trace_mul_smul, ← div_eq_inv_mul] at h
  exact h

/-- **Unitary invariance, one inclusion**: conjugating the Choi matrix by `A ⊗ B` (`A` an isometry on the input, `B` unitary on
the output: composing the map with a unitary channel before and one after) maps feasible points to feasible points of the same
value, so every primal value of `J` is one of the conjugated matrix.  The inverse conjugation gives the other inclusion, hence the
cb trace norm does not change (`diamond_unitary_invariant`; applied to `J1 − J2`: the diamond distance is unchanged when both
channels are composed with the same unitaries). -/
theorem cbNorm_unitary_le {A : Matrix X X ℂ} {B : Matrix Y Y ℂ} (hA : Aᴴ * A = 1) (hB : B * Bᴴ = 1)
    (hB' : Bᴴ * B = 1) (J : Choi X Y) :
    cbValues J ⊆ cbValues ((A ⊗ₖ B) * J * (A ⊗ₖ B)ᴴ) := by
  rintro v ⟨ρ0, ρ1, Z, hP, rfl⟩
  have hUU : (A ⊗ₖ B)ᴴ * (A ⊗ₖ B) = 1 := kronecker_conjTranspose_mul_self hA hB'
  have hk : ∀ ρ : Matrix X X ℂ, (A ⊗ₖ B) * (ρ ⊗ₖ (1 : Matrix Y Y ℂ)) * (A ⊗ₖ B)ᴴ
      = (A * ρ * Aᴴ) ⊗ₖ (1 : Matrix Y Y ℂ) := by
    intro ρ
    rw [Matrix.conjTranspose_kronecker, ← Matrix.mul_kronecker_mul, ← Matrix.mul_kronecker_mul, Matrix.mul_one, hB]
  refine ⟨A * ρ0 * Aᴴ, A * ρ1 * Aᴴ, (A ⊗ₖ B) * Z * (A ⊗ₖ B)ᴴ, ⟨density_conj hA hP.1, density_conj hA hP.2.1, ?_⟩, ?_⟩
  · have h := hP.2.2.fromBlocks_conj (A ⊗ₖ B) (A ⊗ₖ B)
    rwa [hk, hk] at h
  · simp only [cbObj]
    rw [Matrix.conjTranspose_mul, Matrix.conjTranspose_mul, Matrix.conjTranspose_conjTranspose,
      ← Matrix.mul_assoc (A ⊗ₖ B) Jᴴ, Matrix.conj_mul_conj_eq hUU, Matrix.trace_conj_eq hUU]

/-- **Unitary invariance of the cb trace norm / diamond distance.** -/
theorem diamond_unitary_invariant {A : Matrix X X ℂ} {B : Matrix Y Y ℂ} (hA : Aᴴ * A = 1) (hA' : A * Aᴴ = 1)
    (hB : B * Bᴴ = 1) (hB' : Bᴴ * B = 1) (J : Choi X Y) :
    cbNorm ((A ⊗ₖ B) * J * (A ⊗ₖ B)ᴴ) = cbNorm J := by
  have h1 := cbNorm_unitary_le hA hB hB' J
  have h2 := cbNorm_unitary_le (A := Aᴴ) (B := Bᴴ) (by rwa [Matrix.conjTranspose_conjTranspose])
    (by rwa [Matrix.conjTranspose_conjTranspose]) (by rwa [Matrix.conjTranspose_conjTranspose])
    ((A ⊗ₖ B) * J * (A ⊗ₖ B)ᴴ)
  have hUU : (A ⊗ₖ B)ᴴ * (A ⊗ₖ B) = 1 := kronecker_conjTranspose_mul_self hA hB'
  have e : (Aᴴ ⊗ₖ Bᴴ) * ((A ⊗ₖ B) * J * (A ⊗ₖ B)ᴴ) * (Aᴴ ⊗ₖ Bᴴ)ᴴ = J := by
    rw [← Matrix.conjTranspose_kronecker, Matrix.conjTranspose_conjTranspose]
    exact Matrix.conj_conj_cancel hUU J
  rw [e] at h2
  rw [cbNorm, cbNorm, Set.Subset.antisymm h2 h1]

/-- Weak duality for the channel-fidelity SDP: every primal-feasible `λ` is at most the dual objective of every
dual-feasible `(ρ, W0, W1)`. -/
theorem cf_weak_duality {J1 J2 Q W0 W1 : Choi X Y} {ρ : Matrix X X ℂ} {lam : ℝ}
    (hP : CfPrimalFeasible J1 J2 lam Q) (hD : CfDualFeasible ρ W0 W1) :
    lam ≤ cfDualObj J1 J2 W0 W1 := by
  obtain ⟨-, hP, hL⟩ := hP
  obtain ⟨hρ, hD⟩ := hD
  have hK : (ρ ⊗ₖ (1 : Matrix Y Y ℂ)).IsHermitian := (hρ.1.kronecker Matrix.PosSemidef.one).isHermitian
  -- the two positive blocks pair to something non-negative: `tr(J1 W0) + tr(J2 W1) ≥ 2 Re tr(ρ Tr_Y Q)`
  have h := hP.re_trace_fromBlocks_mul_nonneg hD
  rw [Matrix.mul_neg, Matrix.mul_neg, Matrix.trace_neg, Matrix.trace_neg, Complex.neg_re, Complex.neg_re,
    Matrix.re_trace_conjTranspose_mul_herm Q _ hK, Matrix.trace_mul_comm Q, ptrace_adjoint] at h
  -- and `Re tr(ρ Tr_Y Q) = tr(ρ Herm(Tr_Y Q)) ≥ λ`
  have b := le_re_trace_density_mul hρ hL
  rw [re_trace_mul_hermPart hρ.1.isHermitian] at b
  rw [cfDualObj]
  linarith

/-- Every dual-feasible point bounds the channel fidelity from above (`0 ≤` is needed only when the primal is infeasible). -/
theorem chanFid_le_of_dual {J1 J2 W0 W1 : Choi X Y} {ρ : Matrix X X ℂ} (hD : CfDualFeasible ρ W0 W1)
    (h0 : 0 ≤ cfDualObj J1 J2 W0 W1) : chanFid J1 J2 ≤ cfDualObj J1 J2 W0 W1 :=
  Real.sSup_le (fun _ ⟨_, hP⟩ => cf_weak_duality hP hD) h0

omit [Fintype X] [DecidableEq Y] in
/-- **Symmetry of the channel fidelity**: `(λ, Q)` is feasible for `(J1, J2)` iff `(λ, Qᴴ)` is feasible for `(J2, J1)`. -/
theorem cf_symm (J1 J2 : Choi X Y) : cfValues J1 J2 = cfValues J2 J1 := by
  have key : ∀ (K1 K2 : Choi X Y) (lam : ℝ), lam ∈ cfValues K1 K2 → lam ∈ cfValues K2 K1 := by
    rintro K1 K2 lam ⟨Q, h0, hB, hL⟩
    refine ⟨Qᴴ, h0, ?_, ?_⟩
    · rw [Matrix.conjTranspose_conjTranspose]; exact hB.fromBlocks_swap
    · rw [ptr2_conjTranspose, Matrix.conjTranspose_conjTranspose, add_comm]; exact hL
  exact Set.Subset.antisymm (key J1 J2) (key J2 J1)

omit [Fintype X] [DecidableEq Y] in
/-- **The channel fidelity is symmetric.** -/
theorem chanFid_symm (J1 J2 : Choi X Y) : chanFid J1 J2 = chanFid J2 J1 := by
  rw [chanFid, chanFid, cf_symm]

/-- **The channel fidelity of a quantum channel with itself is 1** (`J ⪰ 0`, `Tr_Y J = 1`). -/
theorem chanFid_self [Nonempty X] {J : Choi X Y} (hJ : J.PosSemidef) (hTP : ptr2 J = 1) : chanFid J J = 1 := by
  have hfeas : CfPrimalFeasible J J 1 J := by
    refine ⟨zero_le_one, ?_, ?_⟩
    · rw [hJ.isHermitian.eq]; exact hJ.fromBlocks_same
    · have e : ((1 / 2 : ℝ) : ℂ) • ((1 : Matrix X X ℂ) + 1) = ((1 : ℝ) : ℂ) • 1 := by
        rw [← two_smul ℂ (1 : Matrix X X ℂ), smul_smul]; push_cast; norm_num
      rw [hTP, Matrix.conjTranspose_one, e, sub_self]
      exact Matrix.PosSemidef.zero
  obtain ⟨ρ, hρ⟩ := exists_density (X := X)
  have hK : (ρ ⊗ₖ (1 : Matrix Y Y ℂ)).PosSemidef := hρ.1.kronecker Matrix.PosSemidef.one
  have hD : CfDualFeasible ρ (ρ ⊗ₖ (1 : Matrix Y Y ℂ)) (ρ ⊗ₖ (1 : Matrix Y Y ℂ)) :=
    ⟨hρ, hK.fromBlocks_same_neg⟩
  have hval : cfDualObj J J (ρ ⊗ₖ (1 : Matrix Y Y ℂ)) (ρ ⊗ₖ (1 : Matrix Y Y ℂ)) = 1 := by
    rw [cfDualObj, Matrix.trace_mul_comm, ptrace_adjoint, hTP, Matrix.mul_one, hρ.2]
    norm_num
  refine le_antisymm ?_ ?_
  · have := chanFid_le_of_dual (J1 := J) (J2 := J) hD (by rw [hval]; exact zero_le_one)
    rwa [hval] at this
  · refine le_csSup ⟨1, ?_⟩ ⟨J, hfeas⟩
    rintro lam ⟨Q, hP⟩
    have := cf_weak_duality hP hD
    rwa [hval] at this

/-- **The channel fidelity never exceeds the fidelity of the normalised Choi states**, in dual form: every feasible `λ` is
bounded by `½ Re(tr((J1/dX) W0) + tr((J2/dX) W1))` for every `(W0, W1)` with `[[W0, −1],[−1, W1]] ⪰ 0`, that is by the value of
every feasible point of the dual of the program of the (root) fidelity `F(J1/dX, J2/dX)` of the two Choi states (such a value
bounds that fidelity from above, `Toq.Metrics.fidV_le_dualVal`; the bound by the fidelity itself is `chanFid_le_choi_fidelity`). -/
theorem cf_le_choi_fidelity [Nonempty X] {J1 J2 Q W0 W1 : Choi X Y} {lam : ℝ}
    (hP : CfPrimalFeasible J1 J2 lam Q)
    (hW : (fromBlocks W0 (-(1 : Choi X Y)) (-(1 : Choi X Y)) W1).PosSemidef) :
    lam ≤ cfDualObj J1 J2 W0 W1 / Fintype.card X := by
  have hD : CfDualFeasible ((((Fintype.card X : ℝ)⁻¹ : ℝ) : ℂ) • (1 : Matrix X X ℂ))
      ((((Fintype.card X : ℝ)⁻¹ : ℝ) : ℂ) • W0) ((((Fintype.card X : ℝ)⁻¹ : ℝ) : ℂ) • W1) := by
    refine ⟨maxMixed_density, ?_⟩
    rw [Matrix.smul_kronecker, Matrix.one_kronecker_one]
    simpa using hW.fromBlocks_smul (inv_card_nonneg (n := X))
  have h := cf_weak_duality hP hD
  rw [cfDualObj, re_trace_mul_smul, re_trace_mul_smul, ← mul_add, mul_div_assoc, ← div_eq_inv_mul] at h
  exact h

/-! ## Choi-matrix bounds in terms of the trace norm

`Toq.Metrics.traceNormV H` is the trace norm of `Proofs/TraceNorm.lean`, which C13 also uses (`sup Re tr(W H)` over Hermitian
contractions `W`), proved there to be the sum of the moduli of the eigenvalues of a Hermitian `H`
(`Toq.Metrics.traceNormV_eq_sum_abs_eigenvalues`). -/

open Toq.Metrics in
/-- **Upper bound from an operator dominating `±J`**: if `J` is Hermitian (the map preserves Hermiticity), `Y0 ⪰ J`,
`Y0 ⪰ −J` and `c·1 ⪰ Tr_Y Y0`, then the cb trace norm of `J` is at most `c` (the point `(Y0, Y0, c, c)` is dual feasible).
With `Y0 = |J|` this is `‖Φ‖_◇ ≤ ‖Tr_Y |J|‖_∞`. -/
theorem cbNorm_le_of_pm [Nonempty X] {J Y0 : Choi X Y} {c : ℝ} (hJ : J.IsHermitian) (hm : (Y0 - J).PosSemidef)
    (hp : (Y0 + J).PosSemidef) (hc : ((c : ℂ) • (1 : Matrix X X ℂ) - ptr2 Y0).PosSemidef) : cbNorm J ≤ c := by
  have hD : CbDualFeasible J Y0 Y0 c c := by
    refine ⟨?_, hc, hc⟩
    rw [hJ.eq]
    exact Matrix.posSemidef_fromBlocks_of_add_sub (by rwa [← sub_eq_add_neg]) (by rwa [sub_neg_eq_add])
  have := cbNorm_le_of_dual J hD
  linarith

open Toq.Metrics in
/-- **Upper Choi-matrix bound**: the cb trace norm of a Hermiticity-preserving map is at most the trace norm of its
(unnormalised) Choi matrix, `‖Φ‖_◇ ≤ ‖J‖₁`.  (Dual-feasible point from the Jordan decomposition `J = P − Q`:
`(P + Q, P + Q, c, c)` with `c = tr(P + Q) = ‖J‖₁ ≥ λ_max(Tr_Y(P + Q))`.) -/
theorem diamond_choi_upper [Nonempty X] {J : Choi X Y} (hJ : J.IsHermitian) : cbNorm J ≤ traceNormV J := by
  obtain ⟨P, Q, hP, hQ, hJe, htr⟩ := exists_jordan_traceNormV hJ
  have h := cbNorm_le_of_dual _ (cb_jordan_dual_cert hP hQ (ptr2_le_trace (hP.add hQ)))
  rw [← hJe] at h
  rw [← htr]
  rw [Matrix.trace_add, Complex.add_re] at h
  linarith

open Toq.Metrics in
/-- **Lower Choi-matrix bound**: the cb trace norm of a Hermiticity-preserving map is at least the trace norm of its
normalised Choi matrix, `‖J‖₁ / dX ≤ ‖Φ‖_◇`. -/
theorem diamond_choi_lower_traceNorm [Nonempty X] {J : Choi X Y} (hJ : J.IsHermitian) :
    traceNormV J / Fintype.card X ≤ cbNorm J := by
  have hcard : (0 : ℝ) < Fintype.card X := Nat.cast_pos.mpr Fintype.card_pos
  rw [div_le_iff₀ hcard]
  refine traceNormV_le_of_forall fun W hW => ?_
  have h := diamond_choi_lower J W hW.posSemidef_fromBlocks
  rwa [cbObj_of_isHermitian hJ, div_le_iff₀ hcard] at h

open Toq.Metrics in
/-- **The diamond distance of two Hermiticity-preserving maps lies between the trace norm of the normalised and of the
unnormalised Choi-matrix difference**: `‖J1 − J2‖₁ / dX ≤ ‖Φ1 − Φ2‖_◇ ≤ ‖J1 − J2‖₁`. -/
theorem diamond_choi_bounds [Nonempty X] {J1 J2 : Choi X Y} (h1 : J1.IsHermitian) (h2 : J2.IsHermitian) :
    traceNormV (J1 - J2) / Fintype.card X ≤ cbNorm (J1 - J2) ∧ cbNorm (J1 - J2) ≤ traceNormV (J1 - J2) :=
  ⟨diamond_choi_lower_traceNorm (h1.sub h2), diamond_choi_upper (h1.sub h2)⟩

open Toq.Metrics in
/-- **The cb trace norm dominates the trace norm of the output on every pure input state of `X ⊗ X`**: for every `A` with
`tr(A Aᴴ) = 1` (the state `vec A`, reduced state `A Aᴴ`), `‖(A ⊗ 1)ᴴ J (A ⊗ 1)‖₁ ≤ ‖Φ‖_◇`; the sandwiched Choi matrix is the
output of `Φ ⊗ id` on that state (up to the transpose convention of the Choi isomorphism).  Feasible point:
`ρ0 = ρ1 = A Aᴴ`, `Z = (A ⊗ 1) K (A ⊗ 1)ᴴ` for a Hermitian contraction `K`. -/
theorem cb_ge_sandwich_traceNorm {J : Choi X Y} (hJ : J.IsHermitian) (A : Matrix X X ℂ) (hA : (A * Aᴴ).trace = 1) :
    traceNormV ((A ⊗ₖ (1 : Matrix Y Y ℂ))ᴴ * J * (A ⊗ₖ (1 : Matrix Y Y ℂ))) ≤ cbNorm J := by
  set D := A ⊗ₖ (1 : Matrix Y Y ℂ) with hD
  refine traceNormV_le_of_forall fun K hK => ?_
  have hρ : IsDensity (A * Aᴴ) := ⟨Matrix.posSemidef_self_mul_conjTranspose A, hA⟩
  have hDD : D * Dᴴ = (A * Aᴴ) ⊗ₖ (1 : Matrix Y Y ℂ) := by
    rw [hD, Matrix.conjTranspose_kronecker, ← Matrix.mul_kronecker_mul, Matrix.conjTranspose_one, Matrix.mul_one]
  have hfeas : CbPrimalFeasible (A * Aᴴ) (A * Aᴴ) (D * K * Dᴴ) :=
    ⟨hρ, hρ, by rw [← hDD]; exact hK.posSemidef_fromBlocks_conj D⟩
  have h := cbObj_le_cbNorm J hfeas
  have e : cbObj J (D * K * Dᴴ) = (K * (Dᴴ * J * D)).trace.re := by
    rw [cbObj_of_isHermitian hJ, Matrix.mul_assoc D, Matrix.mul_assoc D, Matrix.trace_mul_comm D]
    simp only [Matrix.mul_assoc]
  rwa [e] at h

/-! ## Two unitary (isometry) channels

`choiK K` is the Choi matrix of `X ↦ K X Kᴴ` in toqito's convention (`J = vec(K) vec(K)ᴴ`, `vec(K)_{(a,y)} = K_{ya}`). -/

/-- The Choi matrix `choiK U` of an isometry channel is a channel Choi matrix, and its cb trace norm is 1. -/
theorem cb_isometry_channel_one [Nonempty X] {U : Matrix Y X ℂ} (hU : Uᴴ * U = 1) : cbNorm (choiK U) = 1 :=
  cb_channel_one (choiK_posSemidef U) (ptr2_choiK_of_isometry hU)

open Toq.Metrics in
/-- **Lower bound for two isometry channels**: for every density operator `ρ` on the input space,
`2 √(1 − |tr(ρ Uᴴ V)|²) ≤ ‖Φ_U − Φ_V‖_◇` (primal-feasible point from the pure state with reduced state `ρ`; the value is the
trace distance of two pure states, C13 `traceNormV_pure_pure`). -/
theorem diamond_two_unitaries_lower {U V : Matrix Y X ℂ} (hU : Uᴴ * U = 1) (hV : Vᴴ * V = 1) {ρ : Matrix X X ℂ}
    (hρ : IsDensity ρ) :
    2 * Real.sqrt (1 - ‖(ρ * (Uᴴ * V)).trace‖ ^ 2) ≤ cbNorm (choiK U - choiK V) := by
  obtain ⟨B, hρB⟩ := hρ.1.exists_eq_mul_conjTranspose_self
  have hBt : (B * Bᴴ).trace = 1 := by rw [← hρB]; exact hρ.2
  -- the reference-system factor `A = (Bᵀ)ᴴ` has `(Aᴴ)ᵀ = B` and `A Aᴴ = (B Bᴴ)ᵀ`
  have hAA : ((Bᵀ)ᴴ * ((Bᵀ)ᴴ)ᴴ).trace = 1 := by
    rw [Matrix.conjTranspose_conjTranspose, Matrix.trace_mul_comm, Matrix.conjTranspose_transpose_eq_transpose_conjTranspose,
      ← Matrix.transpose_mul, Matrix.trace_transpose, Matrix.trace_mul_comm, hBt]
  have h := cb_ge_sandwich_traceNorm ((choiK_isHermitian U).sub (choiK_isHermitian V)) _ hAA
  rw [Matrix.mul_sub, Matrix.sub_mul, choiK_sandwich, choiK_sandwich, Matrix.conjTranspose_conjTranspose,
    Matrix.transpose_transpose] at h
  have hpp := traceNormV_pure_pure (isPureProj_choiK_mul hU hBt) (isPureProj_choiK_mul hV hBt)
  rw [overlap_choiK, ← hρB] at hpp
  linarith

/-- **Upper bound for two isometry channels**: if the Hermitian part of `Uᴴ V` is at least `δ·1` with `0 ≤ δ ≤ 1`, then
`‖Φ_U − Φ_V‖_◇ ≤ 2 √(1 − δ²)` (explicit dual-feasible point `two_unitary_jordan_cert`; for `δ = 1` the channels are equal). -/
theorem diamond_two_unitaries_upper [Nonempty X] {U V : Matrix Y X ℂ} (hU : Uᴴ * U = 1) (hV : Vᴴ * V = 1) {δ : ℝ}
    (h0 : 0 ≤ δ) (h1 : δ ≤ 1)
    (hH : (((1 / 2 : ℝ) : ℂ) • (Uᴴ * V + (Uᴴ * V)ᴴ) - (δ : ℂ) • (1 : Matrix X X ℂ)).PosSemidef) :
    cbNorm (choiK U - choiK V) ≤ 2 * Real.sqrt (1 - δ ^ 2) := by
  rcases h1.lt_or_eq with hlt | heq
  · obtain ⟨P, Q, hP, hQ, hJ, hc⟩ := two_unitary_jordan_cert hU hV h0 hlt hH
    have := cbNorm_le_of_dual _ (cb_jordan_dual_cert hP hQ hc)
    rw [hJ]
    linarith
  · subst heq
    have hUV : U = V := eq_of_herm_ge_one hU hV (by simpa using hH)
    rw [hUV, diamond_self_zero]
    exact mul_nonneg zero_le_two (Real.sqrt_nonneg _)

/-- the numerical range of `W` in density-operator form: all `tr(ρ W)`, `ρ` a density operator (a convex set; for a normal
`W` it is the convex hull of the eigenvalues, `numRange_eq_convexHull`) -/
def numRange (W : Matrix X X ℂ) : Set ℂ := {z | ∃ ρ : Matrix X X ℂ, IsDensity ρ ∧ (ρ * W).trace = z}

/-- **The two-unitary diamond-distance formula, numerical-range form**: for isometries `U`, `V` (in particular unitaries)
let `δ` be the distance from the origin to the numerical range of `Uᴴ V` (attained: some point of the range has modulus `δ`,
and every point has modulus at least `δ`).  Then `‖Φ_U − Φ_V‖_◇ = 2 √(1 − δ²)`. -/
theorem diamond_two_unitaries [Nonempty X] {U V : Matrix Y X ℂ} (hU : Uᴴ * U = 1) (hV : Vᴴ * V = 1) {δ : ℝ}
    (hatt : ∃ z ∈ numRange (Uᴴ * V), ‖z‖ = δ) (hmin : ∀ z ∈ numRange (Uᴴ * V), δ ≤ ‖z‖) :
    cbNorm (choiK U - choiK V) = 2 * Real.sqrt (1 - δ ^ 2) := by
  obtain ⟨c, ⟨ρ₀, hρ₀, hc⟩, hcδ⟩ := hatt
  have hlow := diamond_two_unitaries_lower hU hV hρ₀
  rw [hc, hcδ] at hlow
  refine le_antisymm ?_ hlow
  have hδ0 : 0 ≤ δ := hcδ ▸ norm_nonneg c
  have hδ1 : δ ≤ 1 := by
    have := norm_trace_density_mul_le_one hU hV hρ₀
    rwa [hc, hcδ] at this
  rcases hδ0.eq_or_lt with h0 | hpos
  · -- the origin lies in the numerical range: the trivial bound 2
    rw [← h0]
    have := diamond_le_two (choiK_posSemidef U) (choiK_posSemidef V) (ptr2_choiK_of_isometry hU)
      (ptr2_choiK_of_isometry hV)
    simpa using this
  · obtain ⟨ω, hω, hH⟩ := herm_part_ge_of_nearest hρ₀ hpos (by rw [hc]; exact hcδ)
      (fun ρ hρ => hmin _ ⟨ρ, hρ, rfl⟩)
    have hV' : (ω • V)ᴴ * (ω • V) = 1 := by
      rw [Matrix.conjTranspose_smul, Matrix.smul_mul, Matrix.mul_smul, smul_smul, mul_comm, hω, one_smul, hV]
    have hW' : Uᴴ * (ω • V) = ω • (Uᴴ * V) := by rw [Matrix.mul_smul]
    have := diamond_two_unitaries_upper hU hV' hδ0 hδ1 (by rw [hW']; exact hH)
    rwa [choiK_smul_phase ω hω] at this

omit [DecidableEq X] in
theorem numRange_convex (W : Matrix X X ℂ) : Convex ℝ (numRange W) :=
  convex_trace_density W

open Toq.Metrics in
/-- **Numerical range of a unitarily diagonalised matrix = convex hull of its eigenvalues**: if `W = S diag(λ) Sᴴ` with `S`
unitary, then `{tr(ρ W) | ρ density}` is the convex hull of the `λ_i` (`tr(ρ W) = Σ_i (Sᴴ ρ S)_{ii} λ_i`). -/
theorem numRange_eq_convexHull {W S : Matrix X X ℂ} {lam : X → ℂ} (hS : Sᴴ * S = 1) (hS' : S * Sᴴ = 1)
    (hW : W = S * diagonal lam * Sᴴ) : numRange W = convexHull ℝ (Set.range lam) := by
  refine Set.Subset.antisymm ?_ (convexHull_min ?_ (numRange_convex W))
  · rintro _ ⟨ρ, hρ, rfl⟩
    have hT : (Sᴴ * ρ * S).PosSemidef := hρ.1.conjTranspose_mul_mul_same S
    refine mem_convexHull_of_exists_fintype (fun i => ((Sᴴ * ρ * S) i i).re) lam hT.re_diag_nonneg ?_
      (fun i => Set.mem_range_self i) ?_
    · have htr : (Sᴴ * ρ * S).trace = 1 := by
        rw [Matrix.trace_mul_comm, ← Matrix.mul_assoc, hS', Matrix.one_mul, hρ.2]
      have : ((∑ i, ((Sᴴ * ρ * S) i i).re : ℝ) : ℂ) = 1 := by
        rw [Complex.ofReal_sum, ← htr, Matrix.trace]
        exact Finset.sum_congr rfl fun i _ => (hT.diag_eq_re i).symm
      exact_mod_cast this
    · rw [hW, trace_mul_diagonalised]
      refine Finset.sum_congr rfl fun i _ => ?_
      rw [Complex.real_smul, ← hT.diag_eq_re i]
  · rintro _ ⟨i, rfl⟩
    refine ⟨conjDiag S (ind i), ⟨conjDiag_ind_posSemidef S i, trace_conjDiag_ind hS i⟩, ?_⟩
    rw [hW]
    exact trace_conjDiag_ind_mul_diagonalised hS lam i

/-- **The two-unitary diamond-distance formula, eigenvalue form**: if `Uᴴ V = S diag(λ) Sᴴ` with `S` unitary (the `λ_i` are
then the eigenvalues of `Uᴴ V`; every unitary matrix has such a diagonalisation), and `δ` is the distance from the origin to
the convex hull of the `λ_i`, then `‖Φ_U − Φ_V‖_◇ = 2 √(1 − δ²)`. -/
theorem diamond_two_unitaries_eigenvalues [Nonempty X] {U V : Matrix Y X ℂ} (hU : Uᴴ * U = 1) (hV : Vᴴ * V = 1)
    {S : Matrix X X ℂ} {lam : X → ℂ} (hS : Sᴴ * S = 1) (hS' : S * Sᴴ = 1) (hW : Uᴴ * V = S * diagonal lam * Sᴴ) :
    cbNorm (choiK U - choiK V)
      = 2 * Real.sqrt (1 - Metric.infDist (0 : ℂ) (convexHull ℝ (Set.range lam)) ^ 2) := by
  have hN := numRange_eq_convexHull hS hS' hW
  have hcomp : IsCompact (convexHull ℝ (Set.range lam)) := (Set.finite_range lam).isCompact_convexHull ℝ
  have hne : (convexHull ℝ (Set.range lam)).Nonempty :=
    ⟨lam (Classical.arbitrary X), subset_convexHull ℝ _ (Set.mem_range_self _)⟩
  obtain ⟨z, hz, hzd⟩ := hcomp.exists_infDist_eq_dist hne (0 : ℂ)
  refine diamond_two_unitaries hU hV ⟨z, hN ▸ hz, ?_⟩ fun w hw => ?_
  · rw [hzd, dist_zero_left]
  · have := Metric.infDist_le_dist_of_mem (x := (0 : ℂ)) (hN ▸ hw)
    rwa [dist_zero_left] at this

/-! ## Channel fidelity versus the fidelity of the Choi states

`Toq.Metrics.fidV ρ σ` is the (root) fidelity of C13: the optimum of Watrous' program `sup Re tr X`, `[[ρ, X],[Xᴴ, σ]] ⪰ 0`,
proved there to equal the closed form `tr √(√ρ σ √ρ)` (`Toq.Metrics.fidV_eq_docFid`). -/

open Toq.Metrics in
/-- **The channel fidelity never exceeds the fidelity of the normalised Choi states**, `F(Φ1, Φ2) ≤ F(J1/dX, J2/dX)`, for
completely positive maps: a feasible `(λ, Q)` of the channel-fidelity program gives the feasible point `X = Qᴴ/dX` of the
fidelity program of the Choi states, whose value `Re tr(Q)/dX = tr(Herm Tr_Y Q)/dX` is at least `λ`. -/
theorem chanFid_le_choi_fidelity [Nonempty X] {J1 J2 : Choi X Y} (h1 : J1.PosSemidef) (h2 : J2.PosSemidef) :
    chanFid J1 J2 ≤ fidV ((((Fintype.card X : ℝ)⁻¹ : ℝ) : ℂ) • J1) ((((Fintype.card X : ℝ)⁻¹ : ℝ) : ℂ) • J2) := by
  have hcard : (0 : ℝ) < Fintype.card X := Nat.cast_pos.mpr Fintype.card_pos
  have hρ := h1.smul (inv_card_nonneg (n := X))
  have hσ := h2.smul (inv_card_nonneg (n := X))
  refine Real.sSup_le ?_ (le_csSup (fidSet_bddAbove _ _) (zero_mem_fidSet hρ hσ))
  rintro lam ⟨Q, -, hB, hL⟩
  have hX : FidFeasible ((((Fintype.card X : ℝ)⁻¹ : ℝ) : ℂ) • J1) ((((Fintype.card X : ℝ)⁻¹ : ℝ) : ℂ) • J2)
      ((((Fintype.card X : ℝ)⁻¹ : ℝ) : ℂ) • Qᴴ) := by
    unfold FidFeasible
    rw [Matrix.conjTranspose_smul, Matrix.conjTranspose_conjTranspose, Complex.star_def, Complex.conj_ofReal]
    exact hB.fromBlocks_smul inv_card_nonneg
  -- the value `Re tr(Qᴴ)/dX` of that point is at least `λ`, by the trace of the second constraint
  have hv := le_fidV hX
  rw [Matrix.re_trace_smul, Matrix.re_trace_conjTranspose, inv_mul_eq_div] at hv
  have htr := (Complex.nonneg_iff.mp hL.trace_nonneg).1
  rw [re_trace_hermPart_sub_smul_one, trace_ptr2] at htr
  refine le_trans ?_ hv
  rw [le_div_iff₀ hcard]
  linarith

open Toq.Metrics in
/-- the same bound with the closed form of the fidelity: `F(Φ1, Φ2) ≤ tr √(√ρ1 ρ2 √ρ1)` for the Choi states `ρ_i = J_i/dX` -/
theorem chanFid_le_choi_fidelity_closed_form [Nonempty X] {J1 J2 : Choi X Y} (h1 : J1.PosSemidef)
    (h2 : J2.PosSemidef) :
    chanFid J1 J2 ≤ docFid ((((Fintype.card X : ℝ)⁻¹ : ℝ) : ℂ) • J1) ((((Fintype.card X : ℝ)⁻¹ : ℝ) : ℂ) • J2) := by
  rw [← fidV_eq_docFid (h1.smul inv_card_nonneg) (h2.smul inv_card_nonneg)]
  exact chanFid_le_choi_fidelity h1 h2

/-- `diamond_distance(J1, J2) = completely_bounded_trace_norm(J1 − J2)` -/
noncomputable def diamondDist (J1 J2 : Choi X Y) : ℝ := cbNorm (J1 - J2)

/-- `completely_bounded_spectral_norm(J) = completely_bounded_trace_norm(dual_channel(J))`: the cb spectral norm is DEFINED
(in toqito and here) as the cb trace norm of the adjoint map, whose Choi matrix on `Y ⊗ X` is `dualChoi J` -/
noncomputable def cbSpectral (J : Choi X Y) : ℝ := cbNorm (dualChoi J)

set_option linter.unusedSectionVars false in
/-- Taking the adjoint twice gives the map back, so the cb trace norm is the cb spectral norm of the adjoint. -/
theorem cbSpectral_dual (J : Choi X Y) : cbSpectral (dualChoi J) = cbNorm J := by
  rw [cbSpectral, dualChoi_dualChoi]

/-- **cb spectral norm of a completely positive map = operator norm of `Φ(1) = Tr_X J`**: if `c·1 ⪰ Tr_X J` and some density
operator `ρ` on the output space attains `tr(ρ Tr_X J) = c`, then the cb spectral norm is `c`. -/
theorem cbSpectral_cp_eq [Nonempty Y] {J : Choi X Y} {c : ℝ} (hJ : J.PosSemidef)
    (hc : ((c : ℂ) • (1 : Matrix Y Y ℂ) - ptr1 J).PosSemidef) {ρ : Matrix Y Y ℂ} (hρ : IsDensity ρ)
    (hatt : (ρ * ptr1 J).trace.re = c) : cbSpectral J = c := by
  have hT := ptr2_dualChoi_of_herm hJ.isHermitian
  refine cb_cp_eq (dualChoi_posSemidef hJ) ?_ (ρ := ρᵀ) ⟨hρ.1.transpose, by rw [Matrix.trace_transpose, hρ.2]⟩ ?_
  · rw [hT]
    have := hc.transpose
    rwa [Matrix.transpose_sub, Matrix.transpose_smul, Matrix.transpose_one] at this
  · rw [hT, ← Matrix.transpose_mul, Matrix.trace_transpose, Matrix.trace_mul_comm]
    exact hatt

/-- **The cb spectral norm of a unital completely positive map is 1** (in particular of the adjoint of every channel). -/
theorem cbSpectral_unital_one [Nonempty Y] {J : Choi X Y} (hJ : J.PosSemidef) (hU : ptr1 J = 1) : cbSpectral J = 1 := by
  refine cb_channel_one (dualChoi_posSemidef hJ) ?_
  rw [ptr2_dualChoi_of_herm hJ.isHermitian, hU, Matrix.transpose_one]

/-- **The cb spectral norm of the channel of a co-isometry is 1** (`U Uᴴ = 1`: the map is unital); with `cb_isometry_channel_one`,
both completely bounded norms of a unitary channel are 1. -/
theorem cbSpectral_unitary_channel_one [Nonempty Y] {U : Matrix Y X ℂ} (hU : U * Uᴴ = 1) : cbSpectral (choiK U) = 1 :=
  cbSpectral_unital_one (choiK_posSemidef U) (by rw [ptr1_choiK, hU])

/-- **The cb trace norm of a completely positive map is at most `tr J`**, the number the CP shortcut of
`completely_bounded_trace_norm` returns as coded (`cpShortcutAsCoded_toC`), while the cb trace norm is `λ_max(Tr_Y J)`
(`cb_cp_eq_max_eigenvalue`; known finding `c20-cb-cp-shortcut-trace-norm`: the shortcut applies the dual map to an identity of
the size of the Choi matrix instead of the size of the output space). -/
theorem cb_cp_le_trace [Nonempty X] {J : Choi X Y} (hJ : J.PosSemidef) : cbNorm J ≤ J.trace.re := by
  exact cb_cp_le hJ (ptr2_le_trace hJ)

/-- **The two-unitary diamond-distance formula, closed form for every pair of unitaries**: for unitary `U`, `V` on the same space
the matrix `Uᴴ V` has a unitary diagonalisation `S diag(λ) Sᴴ` (spectral theorem for unitary matrices,
`exists_unitary_diagonalisation`); the `λ_i` are its eigenvalues (its characteristic polynomial is `∏ (X − λ_i)`), and
`‖Φ_U − Φ_V‖_◇ = 2 √(1 − δ²)` with `δ` the distance from the origin to the convex hull of the `λ_i`. -/
theorem diamond_two_unitaries_closed_form [Nonempty X] {U V : Matrix X X ℂ} (hU : Uᴴ * U = 1) (hV : Vᴴ * V = 1) :
    ∃ (S : Matrix X X ℂ) (lam : X → ℂ), Sᴴ * S = 1 ∧ S * Sᴴ = 1 ∧ Uᴴ * V = S * diagonal lam * Sᴴ ∧
      (Uᴴ * V).charpoly = ∏ i, (Polynomial.X - Polynomial.C (lam i)) ∧
      cbNorm (choiK U - choiK V)
        = 2 * Real.sqrt (1 - Metric.infDist (0 : ℂ) (convexHull ℝ (Set.range lam)) ^ 2) := by
  have hU' : U * Uᴴ = 1 := mul_eq_one_comm.mp hU
  have hW : (Uᴴ * V)ᴴ * (Uᴴ * V) = 1 := by
    rw [Matrix.conjTranspose_mul, Matrix.conjTranspose_conjTranspose]
    calc Vᴴ * U * (Uᴴ * V) = Vᴴ * (U * Uᴴ) * V := by simp only [Matrix.mul_assoc]
      _ = 1 := by rw [hU', Matrix.mul_one, hV]
  obtain ⟨S, lam, hS, hS', hWd⟩ := exists_unitary_diagonalisation hW
  exact ⟨S, lam, hS, hS', hWd, Toq.Metrics.charpoly_of_diagonalisation hS hWd, diamond_two_unitaries_eigenvalues hU hV hS hS' hWd⟩

/-- **cb trace norm of a completely positive map = largest eigenvalue of `Tr_Y J = Φ*(1)`** (its operator norm), with no side
condition: the certificate `c·1 ⪰ Tr_Y J` and the attaining density operator of `cb_cp_eq` come from the spectral theorem. -/
theorem cb_cp_eq_max_eigenvalue [Nonempty X] {J : Choi X Y} (hJ : J.PosSemidef) :
    cbNorm J = Finset.univ.sup' Finset.univ_nonempty (ptr2_posSemidef hJ).isHermitian.eigenvalues := by
  obtain ⟨hc, ρ, hρ, hatt⟩ := max_eigenvalue_cert (ptr2_posSemidef hJ).isHermitian
  exact cb_cp_eq hJ hc hρ hatt

/-- **cb spectral norm of a completely positive map = largest eigenvalue of `Tr_X J = Φ(1)`**, with no side condition. -/
theorem cbSpectral_cp_eq_max_eigenvalue [Nonempty Y] {J : Choi X Y} (hJ : J.PosSemidef) :
    cbSpectral J = Finset.univ.sup' Finset.univ_nonempty (ptr1_posSemidef hJ).isHermitian.eigenvalues := by
  obtain ⟨hc, ρ, hρ, hatt⟩ := max_eigenvalue_cert (ptr1_posSemidef hJ).isHermitian
  exact cbSpectral_cp_eq hJ hc hρ hatt

/-- **The diamond distance is unchanged when both channels are composed with the same unitaries**, on the Kraus level: for maps
`Φ1 = Σ_i K_i · K_iᴴ`, `Φ2 = Σ_j L_j · L_jᴴ` and unitaries `A` (applied first) and `B` (applied last), the maps with Kraus operators
`B K_i A`, `B L_j A` have the same diamond distance (their Choi matrices are those of `Φ1`, `Φ2` conjugated by `Aᵀ ⊗ B`, toqito's
`kraus_to_choi` convention). -/
theorem diamond_compose_unitaries {r s : Type*} [Fintype r] [Fintype s] (K : r → Matrix Y X ℂ) (L : s → Matrix Y X ℂ)
    {A : Matrix X X ℂ} {B : Matrix Y Y ℂ} (hA : Aᴴ * A = 1) (hA' : A * Aᴴ = 1) (hB : B * Bᴴ = 1) (hB' : Bᴴ * B = 1) :
    cbNorm ((∑ i, choiK (B * K i * A)) - ∑ j, choiK (B * L j * A))
      = cbNorm ((∑ i, choiK (K i)) - ∑ j, choiK (L j)) := by
  have hT : (Aᵀ)ᴴ * Aᵀ = 1 := by
    rw [Matrix.conjTranspose_transpose_eq_transpose_conjTranspose, ← Matrix.transpose_mul, hA', Matrix.transpose_one]
  have hT' : Aᵀ * (Aᵀ)ᴴ = 1 := by
    rw [Matrix.conjTranspose_transpose_eq_transpose_conjTranspose, ← Matrix.transpose_mul, hA, Matrix.transpose_one]
  have e : (∑ i, choiK (B * K i * A)) - ∑ j, choiK (B * L j * A)
      = (Aᵀ ⊗ₖ B) * ((∑ i, choiK (K i)) - ∑ j, choiK (L j)) * (Aᵀ ⊗ₖ B)ᴴ := by
    simp only [choiK_mul_mul]
    rw [← Finset.sum_mul, ← Finset.sum_mul, ← Finset.mul_sum, ← Finset.mul_sum, ← Matrix.sub_mul, ← Matrix.mul_sub]
  rw [e]
  exact diamond_unitary_invariant hT hT' hB hB' _

end Programs

section Checkers
open EMat
variable {dX dY : Nat}

/-- If the primal cb-norm checker accepts with value `lo`, then the candidate is a primal-feasible point of Watrous'
SDP (for the denotations of the exact matrices) whose value is exactly `lo`; hence `lo ≤ cbNorm`. -/
theorem checkCbPrimal_sound (J : EMat (dX * dY) (dX * dY)) (ρ0 ρ1 : EMat dX dX) (Z : EMat (dX * dY) (dX * dY))
    (Lb : EMat (dX * dY + dX * dY) (dX * dY + dX * dY)) (L0 L1 : EMat dX dX) (lo : Rat)
    (h : checkCbPrimal dX dY J ρ0 ρ1 Z Lb L0 L1 = some lo) :
    CbPrimalFeasible ρ0.toM ρ1.toM (toP Z) ∧ cbObj (toP J) (toP Z) = (lo : ℝ) ∧ (lo : ℝ) ≤ cbNorm (toP J) := by
  obtain ⟨hf, hv⟩ := checkCbPrimal_core J ρ0 ρ1 Z Lb L0 L1 lo h
  exact ⟨hf, hv, hv ▸ cbObj_le_cbNorm _ hf⟩

/-- If the dual cb-norm checker accepts with value `hi`, then EVERY primal-feasible point of Watrous' SDP for (the
denotation of) `J` has value at most `hi`. -/
theorem checkCbDual_sound (J Y0 Y1 : EMat (dX * dY) (dX * dY)) (c0 c1 : Rat)
    (Lb : EMat (dX * dY + dX * dY) (dX * dY + dX * dY)) (L0 L1 : EMat dX dX) (hi : Rat)
    (h : checkCbDual dX dY J Y0 Y1 c0 c1 Lb L0 L1 = some hi) :
    ∀ (ρ0 ρ1 : Matrix (Fin dX) (Fin dX) ℂ) (Z : Choi (Fin dX) (Fin dY)),
      CbPrimalFeasible ρ0 ρ1 Z → cbObj (toP J) Z ≤ (hi : ℝ) := by
  obtain ⟨hD, hv⟩ := checkCbDual_core J Y0 Y1 c0 c1 Lb L0 L1 hi h
  intro ρ0 ρ1 Z hP
  rw [hv]
  exact cb_weak_duality (toP J) hP hD

/-- Accepted primal and dual certificates bracket the cb trace norm: `lo ≤ cbNorm J ≤ hi`. -/
theorem cb_bracket (J : EMat (dX * dY) (dX * dY)) (ρ0 ρ1 : EMat dX dX) (Z Y0 Y1 : EMat (dX * dY) (dX * dY))
    (c0 c1 : Rat) (Lb Lb' : EMat (dX * dY + dX * dY) (dX * dY + dX * dY)) (L0 L1 L0' L1' : EMat dX dX) (lo hi : Rat)
    (hlo : checkCbPrimal dX dY J ρ0 ρ1 Z Lb L0 L1 = some lo)
    (hhi : checkCbDual dX dY J Y0 Y1 c0 c1 Lb' L0' L1' = some hi) :
    (lo : ℝ) ≤ cbNorm (toP J) ∧ cbNorm (toP J) ≤ (hi : ℝ) := by
  obtain ⟨hf, -, hle⟩ := checkCbPrimal_sound J ρ0 ρ1 Z Lb L0 L1 lo hlo
  obtain ⟨hD, hv⟩ := checkCbDual_core J Y0 Y1 c0 c1 Lb' L0' L1' hi hhi
  have : Nonempty (Fin dX) := nonempty_of_trace_eq_one hf.1.2
  exact ⟨hle, hv ▸ cbNorm_le_of_dual (toP J) hD⟩

/-- If the primal channel-fidelity checker accepts with value `lo`, then `lo` is the candidate `λ` and `(lo, Q)` is a
primal-feasible point of the channel-fidelity SDP (that `lo` is then a lower bound of the optimum is part of `cf_bracket`). -/
theorem checkCfPrimal_sound (J1 J2 Q : EMat (dX * dY) (dX * dY)) (lam : Rat)
    (Lb : EMat (dX * dY + dX * dY) (dX * dY + dX * dY)) (Lc : EMat dX dX) (lo : Rat)
    (h : checkCfPrimal dX dY J1 J2 Q lam Lb Lc = some lo) :
    lo = lam ∧ CfPrimalFeasible (toP J1) (toP J2) ((lo : Rat) : ℝ) (toP Q) := by
  obtain ⟨hlo, hf⟩ := checkCfPrimal_core J1 J2 Q lam Lb Lc lo h
  exact ⟨hlo, hlo ▸ hf⟩

/-- If the dual channel-fidelity checker accepts with value `hi`, then EVERY primal-feasible `(λ, Q)` of the
channel-fidelity SDP for (the denotations of) `J1, J2` has `λ ≤ hi`. -/
theorem checkCfDual_sound (J1 J2 : EMat (dX * dY) (dX * dY)) (ρ : EMat dX dX) (W0 W1 : EMat (dX * dY) (dX * dY))
    (Lρ : EMat dX dX) (Lb : EMat (dX * dY + dX * dY) (dX * dY + dX * dY)) (hi : Rat)
    (h : checkCfDual dX dY J1 J2 ρ W0 W1 Lρ Lb = some hi) :
    ∀ (lam : ℝ) (Q : Choi (Fin dX) (Fin dY)), CfPrimalFeasible (toP J1) (toP J2) lam Q → lam ≤ (hi : ℝ) := by
  obtain ⟨hD, hv⟩ := checkCfDual_core J1 J2 ρ W0 W1 Lρ Lb hi h
  intro lam Q hP
  rw [hv]
  exact cf_weak_duality hP hD

/-- Accepted primal and dual certificates bracket the channel fidelity: `lo ≤ chanFid J1 J2 ≤ hi`. -/
theorem cf_bracket (J1 J2 Q : EMat (dX * dY) (dX * dY)) (lam : Rat) (ρ : EMat dX dX)
    (W0 W1 : EMat (dX * dY) (dX * dY)) (Lb Lb' : EMat (dX * dY + dX * dY) (dX * dY + dX * dY))
    (Lc Lρ : EMat dX dX) (lo hi : Rat)
    (hlo : checkCfPrimal dX dY J1 J2 Q lam Lb Lc = some lo)
    (hhi : checkCfDual dX dY J1 J2 ρ W0 W1 Lρ Lb' = some hi) :
    (lo : ℝ) ≤ chanFid (toP J1) (toP J2) ∧ chanFid (toP J1) (toP J2) ≤ (hi : ℝ) := by
  obtain ⟨-, hf⟩ := checkCfPrimal_sound J1 J2 Q lam Lb Lc lo hlo
  obtain ⟨hD, hv⟩ := checkCfDual_core J1 J2 ρ W0 W1 Lρ Lb' hi hhi
  rw [hv]
  exact ⟨le_csSup ⟨_, fun l ⟨Q', hP⟩ => cf_weak_duality hP hD⟩ ⟨toP Q, hf⟩,
    chanFid_le_of_dual hD (hf.1.trans (cf_weak_duality hf hD))⟩

end Checkers

section Paths
open EMat Toq.ChannelProps
variable {d : Nat}

/-- A non-square argument is rejected (`ValueError`) before anything else. -/
theorem cbPath_notSquare {rows cols : Nat} (h : rows ≠ cols) (cp tp : Verdict) : cbPath rows cols cp tp = CbPath.notSquare := by
  unfold cbPath; rw [if_pos h]

/-- **Shortcut `return 1`**: when the mirrored `is_quantum_channel` answers yes (exact certificates: `J` Hermitian with a PSD
witness, `Tr_Y J = 1` exactly), the cb trace norm of the denoted map IS 1 — the value the code returns on that path. -/
theorem cbPath_channelOne_sound (hd : 0 < d) {k : Nat} (J : EMat (d * d) (d * d)) (L : Option (EMat (d * d) k))
    (v : Option (EMat (d * d) 1)) (h : cbPath (d * d) (d * d) (psdV J L v) (tpV J) = CbPath.channelOne) :
    cbNorm (toP J) = 1 := by
  have : Nonempty (Fin d) := ⟨⟨0, hd⟩⟩
  obtain ⟨hcp, htp⟩ := cbPath_sq_eq_channelOne_iff.mp h
  exact cb_channel_one (psdV_yes_sound J L v hcp) (tpV_yes_sound J htp)

/-- **CP shortcut, as coded**: on that path the denoted Choi matrix is positive semidefinite, the `1 × 1` matrix the code
computes is `tr J` (real, non-negative; its nuclear norm is what is returned), and this number is an UPPER bound of the cb
trace norm — not the cb trace norm `λ_max(Tr_Y J)` itself (`cb_cp_eq`; known finding). -/
theorem cbPath_cpShortcut_sound (hd : 0 < d) {k : Nat} (J : EMat (d * d) (d * d)) (L : Option (EMat (d * d) k))
    (v : Option (EMat (d * d) 1)) (h : cbPath (d * d) (d * d) (psdV J L v) (tpV J) = CbPath.cpShortcut) :
    (toP J).PosSemidef ∧ (cpShortcutAsCoded d J).toC = (((toP J).trace.re : ℝ) : ℂ) ∧ 0 ≤ (toP J).trace.re ∧
      cbNorm (toP J) ≤ (toP J).trace.re := by
  have : Nonempty (Fin d) := ⟨⟨0, hd⟩⟩
  have hP := psdV_yes_sound J L v (cbPath_sq_eq_cpShortcut_iff.mp h).1
  refine ⟨hP, ?_, trace_re_nonneg_of_psd hP, cb_cp_le_trace hP⟩
  rw [cpShortcutAsCoded_toC]
  conv_lhs => rw [trace_eq_re_of_psd hP]
  exact Complex.conj_ofReal _

/-- **SDP path**: the subsystem dimension the code infers from a `d² × d²` Choi matrix (`round(sqrt(d²))`) is `d`, for every
`d` — so the partial traces in the program are `Tr_Y` on `X ⊗ Y` with `dX = dY = d`. -/
theorem cbPath_sdp_dim (cp tp : Verdict) {dim : Nat} (h : cbPath (d * d) (d * d) cp tp = CbPath.sdp dim) : dim = d := by
  exact (cbPath_sq_eq_sdp_iff.mp h).2

/-- The SDP path is taken exactly when the mirrored `is_completely_positive` answers no. -/
theorem cbPath_sdp_iff (cp tp : Verdict) : cbPath (d * d) (d * d) cp tp = CbPath.sdp d ↔ cp = Verdict.no := by
  rw [cbPath_sq_eq_sdp_iff, and_iff_left rfl]

/-- **`channel_fidelity` is defined for every local dimension**: for two `d² × d²` Choi matrices the guards pass and the inferred
local dimension is `d`, for every `d`. -/
theorem cfPath_sq (d : Nat) : cfPath (d * d) (d * d) (d * d) (d * d) = CfPath.sdp (d * d) d := by
  unfold cfPath
  simp [roundSqrt_sq]

/-- Arguments of different shapes, and non-square arguments, are rejected (`ValueError`). -/
theorem cfPath_guards (r1 c1 r2 c2 : Nat) :
    ((r1 ≠ r2 ∨ c1 ≠ c2) → cfPath r1 c1 r2 c2 = CfPath.shapeMismatch) ∧
      (r1 = r2 → c1 = c2 → r1 ≠ c1 → cfPath r1 c1 r2 c2 = CfPath.notSquare) := by
  unfold cfPath
  constructor
  · intro h; rw [if_pos h]
  · intro h1 h2 h3
    rw [if_neg (by simp [h1, h2]), if_pos h3]

/-- The executable mirror of `dual_channel` denotes the Choi matrix of the adjoint map, so
`completely_bounded_spectral_norm` as coded (cb trace norm of `dual_channel(J)`) is `cbSpectral` of the denoted map. -/
theorem cbSpectral_model {dX dY : Nat} (J : EMat (dX * dY) (dX * dY)) :
    cbNorm (toP (dualChoiE dX dY J)) = cbSpectral (toP J) := by
  rw [toP_dualChoiE, cbSpectral]

/-- The slack of the second constraint of `channel_fidelity` in the model is the matrix of `CfPrimalFeasible`. -/
theorem cfLoewnerSlack_toM {dX dY : Nat} (Q : EMat (dX * dY) (dX * dY)) (lam : Rat) :
    (cfLoewnerSlack dX dY Q lam).toM
      = ((1 / 2 : ℝ) : ℂ) • (ptr2 (toP Q) + (ptr2 (toP Q))ᴴ) - ((lam : ℝ) : ℂ) • (1 : Matrix (Fin dX) (Fin dX) ℂ) := by
  rw [cfLoewnerSlack, toM_sub, toM_hermPart, toM_scalar, toM_ptrY]

end Paths

/-! ## Channel fidelity of separability: the program `fidelity_of_separability` builds, at every level `k` and all local dimensions

`toqito/channel_metrics/fidelity_of_separability.py` takes `psi` on `B ⊗ A ⊗ R`, permutes it to `R ⊗ A ⊗ B`, declares a Hermitian
variable `choi` on `R ⊗ A'^{⊗k}` and maximises `Re tr(Π_sym(dA, 2) · Tr_{R,B}[(T_R(psi) ⊗ 1_{A'}) (choi_partial ⊗ 1_{AB})])` subject to
`Tr_{A'^k} choi = 1_R`, `choi ⪰ 0`, `(1 ⊗ Π_sym(dA, k)) choi (1 ⊗ Π_sym(dA, k)) = choi` and `T_{A'_1…A'_j}(choi) ⪰ 0` (`j = 1…k`); it returns
`2·optimum − 1`.  `Toq.ChanMetrics.Fos.Feasible ℓ Γ` is that constraint set for `k = ℓ + 1` (an operator on `R ⊗ A'^{⊗k}` is a matrix
indexed by `m × (Fin k → Fin d)`, `m` the index set of `R`, `d = dA`), `Toq.ChanMetrics.Fos.obj ℓ ψ Γ` the objective for the permuted
state `ψ = permBAR psi`; the executable mirror of the same program (`Toq.ChanMetrics.Fos.exprs` in `Toq/Model/ChanMetricsFos.lean`, flattened indices, composed of the
mirrors of `permute_systems` / `symmetric_projection` and the specifications of the partial trace / transpose) is compared with the picos
problem the code builds, and with these formulas, at exact points on every run of the harness (stream `fos-program`). -/

section Fos
open Toq.ChanMetrics.Fos Toq.PPTDisc Toq.ChannelProps
variable {m : Type*} [Fintype m] [DecidableEq m] {β : Type*} [Fintype β] [DecidableEq β] {d : ℕ}

set_option linter.unusedSectionVars false in
/-- **The operator inside the objective.**  `Tr_{R,B}[(T_R(ψ) ⊗ 1)(Γ₁ ⊗ 1)]`, computed as the code does (partial transpose on `R`,
Kronecker products with identities, matrix product, partial trace over the systems 0 and 2 of `[dR, dA, dB, dA]`), has the entries
`ω[(a,a'),(c,c')] = Σ_{r,b,r'} ψ[(r',a,b),(r,c,b)] · Γ₁[(r',a'),(r,c')]`: the state obtained by sending the `R` part of `ψ` through the map
with Choi operator `Γ₁` and forgetting `B`. -/
theorem fos_omega_apply (ψ : Matrix (m × Fin d × β) (m × Fin d × β) ℂ) (G : Matrix (m × Fin d) (m × Fin d) ℂ)
    (x y : Fin d × Fin d) :
    omega ψ G x y = ∑ r, ∑ b, ∑ r', ψ (r', x.1, b) (r, y.1, b) * G (r', x.2) (r, y.2) :=
  omega_apply ψ G x y

/-- **The explicit feasible point.**  For every unit vector `a`, every level `k = ℓ + 1 ≥ 1`, every dimension of `R` and of `A`, the Choi
operator `1_R ⊗ (a aᴴ)^{⊗k}` of the replacement channel `X ↦ tr(X)·(a aᴴ)^{⊗k}` satisfies all constraints of the program: the trace
constraint, positivity, support on the symmetric subspace, and positivity of all `k` partial transposes. -/
theorem fos_feasible_product (ℓ : ℕ) (a : Fin d → ℂ) (ha : a ⬝ᵥ star a = 1) :
    Feasible ℓ (replChoi m (ℓ + 1) a) :=
  feasible_iff.mpr ⟨margAll_prodExt _ a ha, isSymPPT_prodExt _ Matrix.PosSemidef.one a⟩

/-- **It attains the value 1.**  For the pure product state `(b ⊗ a ⊗ r)(b ⊗ a ⊗ r)ᴴ` given on `B ⊗ A ⊗ R` (unit vectors `b, a, r`, any
dimensions) the objective of that point is exactly 1, at every level. -/
theorem fos_obj_product (ℓ : ℕ) (vb : β → ℂ) (va : Fin d → ℂ) (vr : m → ℂ) (hb : vb ⬝ᵥ star vb = 1)
    (ha : va ⬝ᵥ star va = 1) (hr : vr ⬝ᵥ star vr = 1) :
    obj ℓ (permBAR (prodState vb va vr)) (replChoi m (ℓ + 1) va) = 1 := by
  -- the operator inside the objective is `(a ⊗ a)(a ⊗ a)ᴴ`, and `Π_sym` fixes the symmetric unit vector `a ⊗ a`
  rw [obj, omega_product ℓ vb va vr hb ha hr, Matrix.mul_vecMulVec, Matrix.trace_vecMulVec,
    sym2_mulVec_of_symm fun x => mul_comm _ _, dotProduct_star_prod va va, ha, mul_one, Complex.one_re]

/-- **No feasible point exceeds 1.**  For every density operator `ψ` on `R ⊗ A ⊗ B` (pure or not, product or not) and every `choi ⪰ 0`
with `Tr_{A'^k} choi = 1_R` the objective is at most 1: the operator inside the objective is then a density operator on `A ⊗ A'` and
`Π_sym` is a projector.  (The other two constraint families are not needed for this bound.) -/
theorem fos_obj_le_one (ℓ : ℕ) {ψ : Matrix (m × Fin d × β) (m × Fin d × β) ℂ} (hψ : ψ.PosSemidef) (htr : ψ.trace = 1)
    {Γ : Matrix (HIdx m d (ℓ + 1)) (HIdx m d (ℓ + 1)) ℂ} (hΓ : Γ.PosSemidef) (hm : margAll Γ = 1) :
    obj ℓ ψ Γ ≤ 1 := by
  have hω := omega_posSemidef hψ (choi1_posSemidef ℓ hΓ)
  have ht : (omega ψ (choi1 ℓ Γ)).trace = 1 := by
    rw [trace_omega ψ _ fun r r' => by rw [choi1_marg, hm, Matrix.one_apply], htr]
  have h0 := psd_trace_mul_nonneg (one_sub_sym2_posSemidef d) hω
  rw [Matrix.sub_mul, Matrix.one_mul, Matrix.trace_sub, ht, Complex.sub_re, Complex.one_re] at h0
  unfold obj
  linarith

set_option linter.unusedSectionVars false in
theorem fos_obj_nonneg (ℓ : ℕ) {ψ : Matrix (m × Fin d × β) (m × Fin d × β) ℂ} (hψ : ψ.PosSemidef)
    {Γ : Matrix (HIdx m d (ℓ + 1)) (HIdx m d (ℓ + 1)) ℂ} (hΓ : Γ.PosSemidef) : 0 ≤ obj ℓ ψ Γ :=
  psd_trace_mul_nonneg (sym2_posSemidef d) (omega_posSemidef hψ (choi1_posSemidef ℓ hΓ))

/-- **The optimum for a pure product state is exactly 1** at every level `k ≥ 1` and for all local dimensions: 1 is a value of a
feasible point and an upper bound of all of them. -/
theorem fos_optimum_product (ℓ : ℕ) (vb : β → ℂ) (va : Fin d → ℂ) (vr : m → ℂ) (hb : vb ⬝ᵥ star vb = 1)
    (ha : va ⬝ᵥ star va = 1) (hr : vr ⬝ᵥ star vr = 1) :
    IsGreatest {v : ℝ | ∃ Γ : Matrix (HIdx m d (ℓ + 1)) (HIdx m d (ℓ + 1)) ℂ, Feasible ℓ Γ ∧
      obj ℓ (permBAR (prodState vb va vr)) Γ = v} 1 := by
  refine ⟨⟨replChoi m (ℓ + 1) va, fos_feasible_product ℓ va ha, fos_obj_product ℓ vb va vr hb ha hr⟩, ?_⟩
  rintro v ⟨Γ, hΓ, rfl⟩
  refine fos_obj_le_one ℓ (permBAR_posSemidef (prodState_posSemidef vb va vr)) ?_ hΓ.2.1 hΓ.1
  rw [trace_permBAR, trace_prodState vb va vr hb ha hr]

/-- the optimum of the program at level `k = ℓ + 1` for the input `psi` on `B ⊗ A ⊗ R` -/
noncomputable def fosOpt (ℓ : ℕ) (psi : Matrix (β × Fin d × m) (β × Fin d × m) ℂ) : ℝ :=
  sSup {v : ℝ | ∃ Γ : Matrix (HIdx m d (ℓ + 1)) (HIdx m d (ℓ + 1)) ℂ, Feasible ℓ Γ ∧ obj ℓ (permBAR psi) Γ = v}

/-- **The channel fidelity of separability of every pure tripartite product state is 1**: the value `2·optimum − 1` the function returns
is 1 at every level `k ≥ 1` and for all local dimensions. -/
theorem fos_product_eq_one (ℓ : ℕ) (vb : β → ℂ) (va : Fin d → ℂ) (vr : m → ℂ) (hb : vb ⬝ᵥ star vb = 1)
    (ha : va ⬝ᵥ star va = 1) (hr : vr ⬝ᵥ star vr = 1) :
    2 * fosOpt (m := m) ℓ (prodState vb va vr) - 1 = 1 := by
  unfold fosOpt
  rw [(fos_optimum_product ℓ vb va vr hb ha hr).csSup_eq]
  norm_num

theorem fos_return_one : fosReturn 1 = 1 := by decide +kernel

/-- **The levels are nested.**  Tracing out the last copy of `A'` maps a feasible point of level `k + 1` to a feasible point of level `k`
with the same objective; so the optimum cannot increase with `k`. -/
theorem fos_level_pred {ℓ : ℕ} {Γ : Matrix (HIdx m d (ℓ + 2)) (HIdx m d (ℓ + 2)) ℂ} (h : Feasible (ℓ + 1) Γ)
    (ψ : Matrix (m × Fin d × β) (m × Fin d × β) ℂ) :
    Feasible ℓ (margLast Γ) ∧ obj ℓ ψ (margLast Γ) = obj (ℓ + 1) ψ Γ := by
  obtain ⟨h1, h2⟩ := feasible_iff.mp h
  exact ⟨feasible_iff.mpr ⟨by rw [margAll_margLast, h1], h2.margLast Fin.castSucc fun _ _ => Fin.castSucc_le_castSucc_iff⟩, rfl⟩

/-- the support constraint `(1 ⊗ Π_sym) choi (1 ⊗ Π_sym) = choi` says that the entries of `choi` do not change when the copies of `A'` are
permuted in the row index or in the column index (C12's `sym_iff_isBoseSym`); `Π_sym(dA, k)` is C18's specification of
`symmetric_projection(dA, k)`, and the `Π_sym(dA, 2)` of the objective is the same projector at `p = 2` -/
theorem fos_projectors (L : ℕ) (X : Matrix (HIdx m d L) (HIdx m d L) ℂ) :
    (((1 : Matrix m m ℂ) ⊗ₖ symPC d L) * X * ((1 : Matrix m m ℂ) ⊗ₖ symPC d L) = X ↔ IsBoseSym X) ∧
    symPC d L = (Toq.Combinat.Spec.symSpec d L).map (fun q : ℚ => (q : ℂ)) ∧
    sym2 d = (symPC d 2).submatrix pairFn pairFn :=
  ⟨sym_iff_isBoseSym X, symPC_eq_symSpec d L, sym2_eq_symPC d⟩

/-! The guards in front of the program: `Toq.ChanMetrics.Fos.fosPath` mirrors their cascade on the verdicts of the mirrored
`is_density` / `is_pure`. -/

/-- **Accepted ⇔ density operator, three dimensions, pure.**  The cascade of guards reaches the program, with the dimensions read as
`dim_b, dim_a, dim_r = psi_dims`, exactly when `is_density` holds, `psi_dims` has three entries and `is_pure` holds. -/
theorem fosPath_program_iff (dens pure : Verdict) (dims : List ℕ) (dR dA dB : ℕ) :
    fosPath dens dims pure = .program dR dA dB ↔ dens = .yes ∧ dims = [dB, dA, dR] ∧ pure = .yes := by
  -- the leaves of the cascade are distinct constructors; `.program` is the leaf behind `yes`, three dimensions, `yes`
  cases dens with
  | no => simp [fosPath]
  | unknown => simp [fosPath]
  | yes =>
    by_cases hl : dims.length = 3
    · obtain ⟨b, a, r, rfl⟩ := List.length_eq_three.mp hl
      cases pure <;> simp [fosPath]
      exact ⟨fun ⟨h1, h2, h3⟩ => ⟨h3, h2, h1⟩, fun ⟨h1, h2, h3⟩ => ⟨h3, h2, h1⟩⟩
    · have hne : dims ≠ [dB, dA, dR] := fun h => hl (h ▸ rfl)
      simp [fosPath_yes_of_length_ne hl, hne]

/-- **Which input raises which error**: `ValueError("… not a density matrix.")` exactly when `is_density` fails (whatever the
dimensions); `AssertionError("… require tripartite state dims.")` exactly when it holds and `psi_dims` does not have three entries
(whatever the purity); `ValueError("… only works for pure states.")` exactly when both earlier guards pass and `is_pure` fails. -/
theorem fosPath_errors (dens pure : Verdict) (dims : List ℕ) :
    (fosPath dens dims pure = .notDensity ↔ dens = .no) ∧
    (fosPath dens dims pure = .notTripartite ↔ dens = .yes ∧ dims.length ≠ 3) ∧
    (fosPath dens dims pure = .notPure ↔ dens = .yes ∧ dims.length = 3 ∧ pure = .no) := by
  cases dens with
  | no => simp [fosPath]
  | unknown => simp [fosPath]
  | yes =>
    by_cases hl : dims.length = 3
    · obtain ⟨b, a, r, rfl⟩ := List.length_eq_three.mp hl
      cases pure <;> simp [fosPath]
    · simp [fosPath_yes_of_length_ne hl, hl]

/-- **What the exact verdicts mean.**  On an exact rational matrix `ρ` (certificates: a factor `L`, a vector `v`): density `yes` ⇒ the
denotation is positive semidefinite with trace 1; density `no` ⇒ it is not; and for a density operator, purity `yes` ⇒ it is `w wᴴ` for a
unit vector `w`; purity `no` ⇒ it is not of that form. -/
theorem fos_verdicts_sound {n k : ℕ} (ρ : EMat n n) (L : Option (EMat n k)) (v : Option (EMat n 1)) :
    (densityV ρ L v = .yes → ρ.toM.PosSemidef ∧ ρ.toM.trace = 1) ∧
    (densityV ρ L v = .no → ¬ (ρ.toM.PosSemidef ∧ ρ.toM.trace = 1)) ∧
    (densityV ρ L v = .yes → pureV ρ = .yes → ∃ w : Fin n → ℂ, w ⬝ᵥ star w = 1 ∧ ρ.toM = vecMulVec w (star w)) ∧
    (pureV ρ = .no → ¬ ∃ w : Fin n → ℂ, w ⬝ᵥ star w = 1 ∧ ρ.toM = vecMulVec w (star w)) := by
  refine ⟨densityV_yes_sound ρ L v, densityV_no_sound ρ L v, fun hd hp => ?_, pureV_no_sound ρ⟩
  obtain ⟨h1, h2⟩ := densityV_yes_sound ρ L v hd
  exact pure_of_density_idem h1.isHermitian (pureV_yes_sound ρ hp) h2

/-- **Exact pure states are accepted.**  For an exact unit column vector `w` (`wᴴw = 1` in `ℚ[i]`) the state `w wᴴ`, certified by `L = w`,
passes the density and the purity guard; with three dimensions the cascade builds the program. -/
theorem fos_accepts_pure {n : ℕ} (w : EMat n 1) (hw : (w.ct.mul w).trace = 1) (dB dA dR : ℕ) :
    fosPath (densityV (w.mul w.ct) (some w) none) [dB, dA, dR] (pureV (w.mul w.ct)) = .program dR dA dB := by
  obtain ⟨h1, h2⟩ := accepts_pure w hw
  rw [h1, h2]
  rfl

end Fos

/-! ## The checkers accept concrete instances (so the hypotheses of the soundness theorems are satisfiable)

* the transpose map on a qubit (`J = SWAP`, Hermiticity-preserving, not CP): cb trace norm `2 = dX`, attained by both certificates;
* the CP, non-TP map with `J = diag(2,1,0,1)` (index `x·2 + y`): `Tr_Y J = diag(3,1)`, cb trace norm `3 = λ_max` — not the trace `4`
  (what the CP shortcut of toqito returns) and not `λ_max(Tr_X J) = 2` (wrong subsystem);
* completely dephasing versus completely depolarizing qubit channel: channel fidelity `1/√2`, bracketed by `7/10` and `1141/1600`. -/

section Examples
open EMat

/-- real diagonal matrix -/
private def dg {n : Nat} (l : List Rat) : EMat n n := ofFn fun i j => if i = j then ⟨l.getD i.val 0, 0⟩ else 0
/-- real sparse matrix from `(row, column, value)` triples -/
private def spm {n m : Nat} (l : List (Nat × Nat × Rat)) : EMat n m :=
  ofFn fun i j => match l.find? fun e => e.1 == i.val && e.2.1 == j.val with
    | some e => ⟨e.2.2, 0⟩
    | none => 0

private def swapJ : EMat (2 * 2) (2 * 2) := spm [(0, 0, 1), (1, 2, 1), (2, 1, 1), (3, 3, 1)]

example : checkCbPrimal 2 2 swapJ (dg [1/2, 1/2]) (dg [1/2, 1/2]) (smul (1/2) swapJ) zero zero zero = some 2 := by
  decide +kernel

example : checkCbDual 2 2 swapJ one one 2 2 zero zero zero = some 2 := by decide +kernel

private def cpJ : EMat (2 * 2) (2 * 2) := dg [2, 1, 0, 1]

example : checkCbPrimal 2 2 cpJ (dg [1, 0]) (dg [1, 0]) (dg [1, 1, 0, 0]) zero zero zero = some 3 := by decide +kernel

example : checkCbDual 2 2 cpJ cpJ cpJ 3 3 zero zero zero = some 3 := by decide +kernel

/-- with `c = 2 < 3` the certificate is rejected -/
example : checkCbDual 2 2 cpJ cpJ cpJ 2 2 zero zero zero = none := by decide +kernel

private def dephJ : EMat (2 * 2) (2 * 2) := dg [1, 0, 0, 1]
private def depolJ : EMat (2 * 2) (2 * 2) := dg [1/2, 1/2, 1/2, 1/2]

example : checkCfPrimal 2 2 dephJ depolJ (dg [7/10, 0, 0, 7/10]) (7/10)
    (spm [(0, 0, 1), (4, 0, 7/10), (4, 4, 1/10), (3, 3, 1), (7, 3, 7/10), (7, 7, 1/10)]) zero = some (7/10) := by
  decide +kernel

example : checkCfDual 2 2 dephJ depolJ (dg [1, 0]) (dg [16/25, 100, 0, 0]) (dg [25/16, 1/100, 0, 0]) zero
    (spm [(0, 0, 4/5), (4, 0, -5/4), (1, 1, 10), (5, 1, -1/10)]) = some (1141/1600) := by
  decide +kernel

/-! the code paths on concrete instances: the completely dephasing channel takes `return 1`, the CP map `diag(2,1,0,1)` the CP
shortcut (coded value `tr J = 4`, cb trace norm 3), the transpose map (not CP: `v = e01 − e10` is a negative witness) the SDP with
subsystem dimension 2 -/

example : cbPath (2 * 2) (2 * 2) (Toq.ChannelProps.psdV dephJ (some dephJ) none) (Toq.ChannelProps.tpV dephJ)
    = CbPath.channelOne := by decide +kernel

example : cbPath (2 * 2) (2 * 2) (Toq.ChannelProps.psdV cpJ (some (dg [1, 1, 0, 1] : EMat (2 * 2) (2 * 2))) none)
    (Toq.ChannelProps.tpV cpJ) = CbPath.cpShortcut ∧ cpShortcutAsCoded 2 cpJ = ⟨4, 0⟩ := by decide +kernel

example : cbPath (2 * 2) (2 * 2)
    (Toq.ChannelProps.psdV swapJ (none : Option (EMat (2 * 2) 0)) (some (spm [(1, 0, 1), (2, 0, -1)])))
    (Toq.ChannelProps.tpV swapJ) = CbPath.sdp 2 := by decide +kernel

example : cfPath 25 25 25 25 = CfPath.sdp 25 5 ∧ cfPath 4 4 9 9 = CfPath.shapeMismatch ∧ cfPath 4 6 4 6 = CfPath.notSquare := by
  decide +kernel

/-- the hypotheses of the two-unitary formula are satisfiable: identity versus the phase gate `diag(1, i)` -/
example : ∃ (U V S : Matrix (Fin 2) (Fin 2) ℂ) (lam : Fin 2 → ℂ), Uᴴ * U = 1 ∧ Vᴴ * V = 1 ∧ Sᴴ * S = 1 ∧ S * Sᴴ = 1 ∧
    Uᴴ * V = S * diagonal lam * Sᴴ ∧ lam 0 ≠ lam 1 := by
  refine ⟨1, diagonal ![1, Complex.I], 1, ![1, Complex.I], by simp, ?_, by simp, by simp, by simp, ?_⟩
  · rw [Matrix.diagonal_conjTranspose, Matrix.diagonal_mul_diagonal, ← Matrix.diagonal_one]
    congr 1
    funext i
    fin_cases i <;> simp
  · simp only [Matrix.cons_val_zero, Matrix.cons_val_one]
    intro h
    have := congrArg Complex.re h
    simp at this

/-- a Hermiticity-preserving map for `diamond_choi_bounds` and `cb_ge_sandwich_traceNorm` -/
example : (1 : Choi (Fin 2) (Fin 2)).IsHermitian := Matrix.isHermitian_one

/-- a reduced state for `cb_ge_sandwich_traceNorm` -/
example : ((diagonal ![1, 0] : Matrix (Fin 2) (Fin 2) ℂ) * (diagonal ![1, 0])ᴴ).trace = 1 := by
  rw [Matrix.diagonal_conjTranspose, Matrix.diagonal_mul_diagonal, Matrix.trace_diagonal]
  simp

/-- the identity channel: both completely bounded norms are 1 -/
example : cbNorm (choiK (1 : Matrix (Fin 2) (Fin 2) ℂ)) = 1 ∧ cbSpectral (choiK (1 : Matrix (Fin 2) (Fin 2) ℂ)) = 1 :=
  ⟨cb_isometry_channel_one (by simp), cbSpectral_unitary_channel_one (by simp)⟩

/-- a unit vector with complex amplitudes for `fos_feasible_product` / `fos_obj_product`: `(3/5, 4i/5)` -/
example : (![3 / 5, 4 / 5 * Complex.I] : Fin 2 → ℂ) ⬝ᵥ star ![3 / 5, 4 / 5 * Complex.I] = 1 := by
  simp only [dotProduct, Fin.sum_univ_two, Pi.star_apply, Matrix.cons_val_zero, Matrix.cons_val_one, star_mul', star_div₀]
  simp only [Complex.star_def, Complex.conj_I, map_ofNat]
  ring_nf
  rw [Complex.I_sq]
  norm_num

/-- so the level-2 program for qubits has the feasible point of `fos_feasible_product` -/
example : Toq.ChanMetrics.Fos.Feasible 1 (Toq.ChanMetrics.Fos.replChoi (Fin 2) 2 (![1, 0] : Fin 2 → ℂ)) :=
  fos_feasible_product 1 _ (by simp [dotProduct, Fin.sum_univ_two])

private def w8 : EMat 8 1 := ofFn fun i _ => if i.val = 1 then ⟨3 / 5, 0⟩ else if i.val = 6 then ⟨0, 4 / 5⟩ else 0

/-- the exact pure state `w wᴴ`, `w = (3/5)|001⟩ + (4i/5)|110⟩`, passes the guards with `psi_dims = [2, 2, 2]` (it is not a product
state: the guards do not look at that); the same matrix scaled by 3/4 is rejected as not a density matrix, the maximally mixed state as not pure,
and two dimensions are rejected for a valid state -/
example : (w8.ct.mul w8).trace = 1 ∧
    Toq.ChanMetrics.Fos.fosPath (Toq.ChanMetrics.Fos.densityV (w8.mul w8.ct) (some w8) none) [2, 2, 2]
      (Toq.ChanMetrics.Fos.pureV (w8.mul w8.ct)) = .program 2 2 2 ∧
    Toq.ChanMetrics.Fos.fosPath (Toq.ChanMetrics.Fos.densityV (smul (3 / 4) (w8.mul w8.ct)) (none : Option (EMat 8 1)) none) [2, 2, 2]
      (Toq.ChanMetrics.Fos.pureV (smul (3 / 4) (w8.mul w8.ct))) = .notDensity ∧
    Toq.ChanMetrics.Fos.fosPath (Toq.ChanMetrics.Fos.densityV (dg [1/8, 1/8, 1/8, 1/8, 1/8, 1/8, 1/8, 1/8] : EMat 8 8) (some (zero : EMat 8 1)) none)
      [2, 2, 2] (Toq.ChanMetrics.Fos.pureV (dg [1/8, 1/8, 1/8, 1/8, 1/8, 1/8, 1/8, 1/8] : EMat 8 8)) = .notPure ∧
    Toq.ChanMetrics.Fos.fosPath (Toq.ChanMetrics.Fos.densityV (w8.mul w8.ct) (some w8) none) [2, 4]
      (Toq.ChanMetrics.Fos.pureV (w8.mul w8.ct)) = .notTripartite := by
  decide +kernel

end Examples

end Toq.C20
