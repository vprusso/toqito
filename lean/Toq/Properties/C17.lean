import Toq.Model.States
import Toq.Model.Combinat
import Toq.Spec.States
import Toq.Proofs.States
import Toq.Proofs.StatesHoro
import Toq.Proofs.StatesMub
import Toq.Proofs.StatesMore
import Toq.Proofs.StatesMisc
import Toq.Proofs.StatesTensor
import Toq.Proofs.StatesScale
import Mathlib.RingTheory.RootsOfUnity.Complex
/-!
# C17 — named states and standard matrices satisfy their defining identities

The property theorems (general lemmas they rest on: `Toq/Proofs/States*.lean`; vocabulary: `Toq/Spec/States.lean`,
`Toq/Spec/StatesExtra.lean`).  The models (`Toq/Model/Matrices.lean`, `Toq/Model/States.lean`,
`Toq/Model/StatesExtra.lean`) are the closed forms the driver evaluates and the harness compares with toqito's
arrays on every run.  Root-of-unity matrices are stated over an arbitrary commutative ring (domain where a primitive
root is needed) with `ω` a `d`-th root of unity and `ωc` its inverse (= complex conjugate for `ω = exp(2πi/d)`);
integer-structured objects are stated on their integer numerators, the real normalisation `1/√den2` being carried
separately.  Where a proof over the Gaussian integers `GI` needs Mathlib's ring lemmas it says `open scoped Toq.ChannelOps in`:
that namespace holds the commutative-ring instance of `GI` (`Toq/Proofs/Scalar.lean`), nothing about channels is used.
-/
namespace Toq.C17
open Toq.Matrices Toq.States Toq.Spec17

section roots
variable {α : Type} [CommRing α]

/-- The exponent model (what the driver prints: `none` = 0, `some k` = `ω^k`) denotes the valued model:
    shift matrix. -/
theorem shiftE_eval (ω : α) (d i j : Nat) : RU.eval ω (shiftE d i j) = shiftX d i j := by
  unfold shiftE shiftX
  by_cases h : i = (j + 1) % d
  · rw [if_pos h, if_pos h]; simp [RU.eval]
  · rw [if_neg h, if_neg h]; rfl

/-- The exponent model denotes the valued model: clock matrix (`ω^d = 1`). -/
theorem clockE_eval (ω : α) (d : Nat) (hω : ω ^ d = 1) (i j : Nat) :
    RU.eval ω (clockE d i j) = clockZ ω i j :=
  RU.eval_ite ω d hω (i = j) i

/-- The exponent model denotes the valued model: generalised Pauli operators (`ω^d = 1`). -/
theorem genPauliE_eval (ω : α) (d : Nat) (hω : ω ^ d = 1) (a b i j : Nat) :
    RU.eval ω (genPauliE d a b i j) = genPauli ω d a b i j :=
  RU.eval_ite ω d hω (i = (j + a) % d) (b * j)

/-- The exponent model denotes the valued model: (unnormalised) Fourier matrix (`ω^d = 1`). -/
theorem fourierE_eval (ω : α) (d : Nat) (hω : ω ^ d = 1) (i j : Nat) :
    RU.eval ω (fourierE d i j) = fourierU ω i j :=
  (pow_eq_pow_mod (i * j) hω).symm

/-- **Mirror = closed form.**  The code `matrix_power(X, a) @ matrix_power(Z, b)` has entry `(i, j)`
    equal to `ω^{b j}` if `i = j + a (mod d)` and `0` otherwise — for every dimension and all exponents. -/
theorem genPauli_mirror_eq (ω : α) (d : Nat) (hd : 0 < d) (a b i j : Nat) (hj : j < d) :
    genPauliMirror ω d a b i j = genPauli ω d a b i j := by
  unfold genPauliMirror matMul
  rw [sumN_eq_single _ j d hj]
  · rw [matPow_shift d hd a i j hj, matPow_clock ω d b j j hj, if_pos rfl]
    unfold genPauli
    by_cases h : i = (j + a) % d
    · rw [if_pos h, if_pos h, one_mul]
    · rw [if_neg h, if_neg h, zero_mul]
  · intro k _ hne
    rw [matPow_clock ω d b k j hj, if_neg hne, mul_zero]

/-- `cyclic_permutation_matrix(n, k)`: the `k`-th power of the cyclic shift has a `1` exactly at
    `(j + k mod n, j)` — mirror (`matrix_power`) = closed form, every `n ≥ 1`, every `k`. -/
theorem cyclicPerm_mirror_eq (n : Nat) (hn : 0 < n) (k i j : Nat) (hj : j < n) :
    cyclicPermMirror n k i j = cyclicPerm n k i j :=
  matPow_shift (α := Int) n hn k i j hj

/-- **Weyl relation** `Z X = ω X Z`, entrywise, for every dimension `d` and every `d`-th root of unity. -/
theorem weyl_relation (ω : α) (d : Nat) (hω : ω ^ d = 1) (i j : Nat) (hi : i < d) (hj : j < d) :
    matMul d (clockZ ω) (shiftX d) i j = ω * matMul d (shiftX d) (clockZ ω) i j := by
  rw [clock_mul ω d _ i j hi, mul_clock ω d _ i j hj]
  unfold shiftX
  by_cases h : i = (j + 1) % d
  · rw [if_pos h, mul_one, one_mul, h, ← pow_eq_pow_mod _ hω, pow_succ, mul_comm]
  · rw [if_neg h, mul_zero, zero_mul, mul_zero]

/-- **Fourier intertwining** `F X = Z F` (so `F X F† = Z`), entrywise on the unnormalised Fourier matrix
    `ω^{ij}`, for every dimension. -/
theorem fourier_intertwines (ω : α) (d : Nat) (hd : 0 < d) (hω : ω ^ d = 1) (i j : Nat) (hi : i < d) :
    matMul d (fourierU ω) (shiftX d) i j = matMul d (clockZ ω) (fourierU ω) i j := by
  rw [mul_shift d hd, clock_mul ω d _ i j hi]
  unfold fourierU
  have h1 : (ω ^ i) ^ d = 1 := by rw [← pow_mul, mul_comm, pow_mul, hω, one_pow]
  rw [pow_mul, ← pow_eq_pow_mod _ h1, ← pow_mul, ← pow_add]
  congr 1; ring

/-- **Fourier matrix is unitary**: `Σ_k ω^{ik} ω̄^{jk} = d·δ_ij` for a primitive `d`-th root of unity
    (rows of `√d·F` are orthogonal with squared norm `d`). -/
theorem fourier_unitary [IsDomain α] (ω ωc : α) (d : Nat) (hω : IsPrimitiveRoot ω d) (hc : ω * ωc = 1)
    (i j : Nat) (hi : i < d) (hj : j < d) :
    sumN d (fun k => fourierU ω i k * fourierU ωc j k) = if i = j then (d : α) else 0 :=
  char_orth ω ωc d hω hc i j hi hj

/-- `F X F† = Z` with the normalisation made explicit: `(√d F) X (√d F)† = d · Z`. -/
theorem fourier_conjugates_shift_to_clock [IsDomain α] (ω ωc : α) (d : Nat) (hd : 0 < d)
    (hω : IsPrimitiveRoot ω d) (hc : ω * ωc = 1) (i j : Nat) (hi : i < d) (hj : j < d) :
    sumN d (fun k => matMul d (fourierU ω) (shiftX d) i k * fourierU ωc j k) = (d : α) * clockZ ω i j := by
  rw [sumN_congr _ (fun k => ω ^ i * (fourierU ω i k * fourierU ωc j k)) d (fun k _ => by
    rw [fourier_intertwines ω d hd hω.pow_eq_one i k hi, clock_mul ω d _ i k hi, mul_assoc])]
  rw [sumN_mul_left, fourier_unitary ω ωc d hω hc i j hi hj]
  unfold clockZ
  by_cases h : i = j
  · rw [if_pos h, if_pos h, mul_comm]
  · rw [if_neg h, if_neg h, mul_zero, mul_zero]

/-- **Generalised Pauli operators are unitary** (rows): `W W† = I`. -/
theorem genPauli_unitary (ω ωc : α) (d : Nat) (hd : 0 < d) (hc : ω * ωc = 1) (a b : Nat) :
    RowOrthonormal d (genPauli ω d a b) (genPauli ωc d a b) := by
  intro i i' hi hi'
  rw [genPauli_row ω d a b hd _ i hi]
  unfold genPauli δ
  by_cases h : i = i'
  · subst h
    rw [if_pos (shift_unshift d a i hi).symm, if_pos rfl, pow_mul_inv_pow ω ωc hc]
  · rw [if_neg fun h' => h (by rw [h', shift_unshift d a i hi]), if_neg h, mul_zero]

/-- Generalised Pauli operators are unitary (columns): `W† W = I`. -/
theorem genPauli_unitary_cols (ω ωc : α) (d : Nat) (hd : 0 < d) (hc : ω * ωc = 1) (a b j j' : Nat)
    (hj : j < d) (hj' : j' < d) :
    sumN d (fun i => genPauli ωc d a b i j * genPauli ω d a b i j') = δ j j' := by
  rw [genPauli_col_gram ω ωc d a b a b hd j j']
  unfold δ
  by_cases h : j = j'
  · subst h
    rw [if_pos rfl, if_pos rfl, mul_comm, pow_mul_inv_pow ω ωc hc]
  · rw [if_neg fun h' => h (add_mod_inj d a j j' hj hj' h'.symm), if_neg h]

/-- **Trace-orthogonality of the generalised Pauli family**: for a primitive `d`-th root of unity the `d²`
    operators `X^a Z^b` (`a, b < d`) satisfy `tr(P_{ab}† P_{a'b'}) = d·δ_{aa'}δ_{bb'}` — every dimension. -/
theorem genPauli_trace_orthogonal [IsDomain α] (ω ωc : α) (d : Nat) (hd : 0 < d) (hω : IsPrimitiveRoot ω d)
    (hc : ω * ωc = 1) (a b a' b' : Nat) (ha : a < d) (hb : b < d) (ha' : a' < d) (hb' : b' < d) :
    hsInner d (genPauli ωc d a b) (genPauli ω d a' b') = if a = a' ∧ b = b' then (d : α) else 0 := by
  unfold hsInner
  -- column `i` of the two operators: the ones stand in the same row iff `a = a'`
  rw [sumN_congr _ (fun i => if a = a' then ω ^ (b' * i) * ωc ^ (b * i) else 0) d fun i _ =>
    (genPauli_col_gram ω ωc d a b a' b' hd i i).trans
      (if_congr ⟨fun h => shift_mod_inj d a a' i ha ha' h.symm, fun h => by rw [h]⟩ (mul_comm _ _) rfl)]
  by_cases h : a = a'
  · simp only [if_pos h]
    rw [char_orth ω ωc d hω hc b' b hb' hb]
    exact if_congr ⟨fun h2 => ⟨h, h2.symm⟩, fun hh => hh.2.symm⟩ rfl rfl
  · simp only [if_neg h]
    rw [sumN_eq_zero _ d (fun _ _ => rfl), if_neg (fun hh => h hh.1)]

/-- `X^d = I`: the shift matrix has order `d`. -/
theorem shift_pow_order (d : Nat) (hd : 0 < d) (i j : Nat) (hj : j < d) :
    matPow d (shiftX (α := α) d) d i j = matId i j := by
  rw [matPow_shift d hd d i j hj, Nat.add_mod_right, Nat.mod_eq_of_lt hj]
  rfl

/-- `Z^d = I`: the clock matrix has order `d` (for a `d`-th root of unity). -/
theorem clock_pow_order (ω : α) (d : Nat) (hω : ω ^ d = 1) (i j : Nat) (hj : j < d) :
    matPow d (clockZ ω) d i j = matId i j := by
  rw [matPow_clock ω d d i j hj, pow_mul, hω, one_pow]
  rfl

/-- The hypotheses on `ω`, `ωc` are satisfiable in every dimension: `ω = exp(2πi/d) ∈ ℂ` is a primitive `d`-th
    root of unity and `ωc = ω⁻¹` (its complex conjugate) satisfies `ω ωc = 1`. -/
example (d : ℕ) (hd : d ≠ 0) : ∃ ω ωc : ℂ, IsPrimitiveRoot ω d ∧ ω * ωc = 1 :=
  ⟨_, _, Complex.isPrimitiveRoot_exp d hd, mul_inv_cancel₀ ((Complex.isPrimitiveRoot_exp d hd).ne_zero hd)⟩

end roots

/-- `σ_a² = I` for `a = 0..3`. -/
theorem pauli_sq : ∀ a, a < 4 → ∀ i, i < 2 → ∀ j, j < 2 →
    matMul 2 (pauli a) (pauli a) i j = if i = j then 1 else 0 := by decide +kernel

/-- **Pauli product rule** `σ_x σ_y = i σ_z`, `σ_y σ_z = i σ_x`, `σ_z σ_x = i σ_y`. -/
theorem pauli_product : ∀ i, i < 2 → ∀ j, j < 2 →
    matMul 2 (pauli 1) (pauli 2) i j = (⟨0, 1⟩ : GI) * pauli 3 i j ∧
    matMul 2 (pauli 2) (pauli 3) i j = (⟨0, 1⟩ : GI) * pauli 1 i j ∧
    matMul 2 (pauli 3) (pauli 1) i j = (⟨0, 1⟩ : GI) * pauli 2 i j := by decide +kernel

/-- **Pauli anticommutation** `σ_a σ_b + σ_b σ_a = 0` for `a ≠ b ∈ {1,2,3}` (indices shifted by one). -/
theorem pauli_anticommute : ∀ a, a < 3 → ∀ b, b < 3 → ∀ i, i < 2 → ∀ j, j < 2 → a ≠ b →
    matMul 2 (pauli (a + 1)) (pauli (b + 1)) i j + matMul 2 (pauli (b + 1)) (pauli (a + 1)) i j = 0 := by decide +kernel

/-- **Pauli matrices are a trace-orthogonal operator basis**: `tr(σ_a† σ_b) = 2 δ_ab`, `a, b = 0..3`. -/
theorem pauli_trace_orthogonal : ∀ a, a < 4 → ∀ b, b < 4 →
    hsInner 2 (conjM (pauli a)) (pauli b) = if a = b then ⟨2, 0⟩ else 0 := by decide +kernel

/-- Pauli matrices are Hermitian. -/
theorem pauli_hermitian : ∀ a, a < 4 → ∀ i, i < 2 → ∀ j, j < 2 → (pauli a j i).conj = pauli a i j := by decide +kernel

/-- **Gell-Mann matrices are trace-orthogonal**: with `λ_a = gellMann a / √(gellMannDen2 a)`,
    `tr(λ_a λ_b) = 0` for `a ≠ b`, `tr(λ_0²) = 3`, `tr(λ_a²) = 2` for `a = 1..8`
    (stated on the integer numerators: `tr(num_a num_a) = 2·den2_a`). -/
theorem gellMann_trace_orthogonal : ∀ a, a < 9 → ∀ b, b < 9 →
    trMul 3 (gellMann a) (gellMann b)
      = if a = b then (if a = 0 then ⟨3, 0⟩ else ⟨2 * (gellMannDen2 a : Int), 0⟩) else 0 := by decide +kernel

/-- Gell-Mann matrices are Hermitian. -/
theorem gellMann_hermitian : ∀ a, a < 9 → ∀ i, i < 3 → ∀ j, j < 3 → (gellMann a j i).conj = gellMann a i j := by
  decide +kernel

/-- Gell-Mann matrices `λ_1 … λ_8` are traceless. -/
theorem gellMann_traceless : ∀ a, a < 9 → 0 < a → trace 3 (gellMann a) = 0 := by decide +kernel

/-- **CNOT** maps `|x, y⟩` to `|x, x ⊕ y⟩`: column `2x + y` of the matrix is the basis vector `2x + (x xor y)`. -/
theorem cnot_action : ∀ x, x < 2 → ∀ y, y < 2 → ∀ r, r < 4 →
    cnot r (2 * x + y) = if r = 2 * x + (x ^^^ y) then 1 else 0 := by decide +kernel

/-- CNOT is a unitary (a permutation matrix equal to its own inverse). -/
theorem cnot_involution : ∀ i, i < 4 → ∀ j, j < 4 → matMul 4 cnot cnot i j = if i = j then 1 else 0 := by decide +kernel

/-- `standard_basis(d)[j]` is the `j`-th computational basis vector, every `d`. -/
theorem standardBasis_eq (d i j : Nat) (hi : i < d) (hj : j < d) :
    standardBasis d j i = if i = j then 1 else 0 := by
  unfold standardBasis
  by_cases h : i = j
  · subst h
    rw [if_pos rfl, if_pos]
    rw [Nat.add_sub_cancel_left, Nat.mod_self]
  · rw [if_neg h, if_neg]
    by_cases c : j ≤ i
    · rw [Nat.mod_eq_sub_mod (by omega), Nat.mod_eq_of_lt (by omega)]; omega
    · rw [Nat.mod_eq_of_lt (by omega)]; omega

/-- **Bell states are orthonormal**: `⟨√2 b_a, √2 b_b⟩ = 2 δ_ab`. -/
theorem bell_orthonormal : ∀ a, a < 4 → ∀ b, b < 4 →
    inner 4 (bellS a) (bellS b) = if a = b then 2 else 0 := by decide +kernel

/-- **Bell states are maximally entangled**: both reduced operators of `|b_a⟩⟨b_a|` are `I/2`
    (on the numerators `√2·b_a`: the identity). -/
theorem bell_maximally_entangled : ∀ a, a < 4 → ∀ i, i < 2 → ∀ j, j < 2 →
    marginalA 2 (bellS a) (bellS a) i j = (if i = j then 1 else 0) ∧
    marginalB 2 (bellS a) (bellS a) i j = (if i = j then 1 else 0) := by decide +kernel

/-- **Tile states are orthonormal** (`tile(a) = tileS a / √(tileDen2 a)`); each is a product vector by
    construction (`kronV`). -/
theorem tile_orthonormal : ∀ a, a < 5 → ∀ b, b < 5 →
    inner 9 (tileS a) (tileS b) = if a = b then (tileDen2 a : Int) else 0 := by decide +kernel

/-- **Domino states are an orthonormal product basis** of `C³ ⊗ C³` (nine vectors). -/
theorem domino_orthonormal : ∀ a, a < 9 → ∀ b, b < 9 →
    inner 9 (dominoS a) (dominoS b) = if a = b then (dominoDen2 a : Int) else 0 := by decide +kernel

/-- **Maximally entangled state has maximally mixed marginals**, every `d`: for `ψ = Σ_i |ii⟩/√d` both reduced
    operators of `|ψ⟩⟨ψ|` are `I/d` (on the numerators `√d·ψ`: the identity). -/
theorem maxEnt_marginal_mixed (d i j : Nat) (hi : i < d) (hj : j < d) :
    marginalA d (maxEntS d) (maxEntS d) i j = (if i = j then 1 else 0) ∧
    marginalB d (maxEntS d) (maxEntS d) i j = (if i = j then 1 else 0) := by
  constructor
  · unfold marginalA
    rw [sumN_congr _ (fun k => (if i = k then 1 else 0) * (if j = k then 1 else 0)) d fun k hk => by
      rw [maxEntS_flat d i k hi hk, maxEntS_flat d j k hj hk]]
    exact sumN_ite_ite_row i j d hi
  · unfold marginalB
    rw [sumN_congr _ (fun k => (if i = k then 1 else 0) * (if j = k then 1 else 0)) d fun k hk => by
      rw [maxEntS_flat d k i hk hi, maxEntS_flat d k j hk hj, if_congr (eq_comm (a := k)) rfl rfl,
        if_congr (eq_comm (a := k)) rfl rfl]]
    exact sumN_ite_ite_row i j d hi

/-- `max_entangled(d)` has squared norm `d` before normalisation (so `1` after dividing by `√d`). -/
theorem maxEnt_norm (d : Nat) : inner (d * d) (maxEntS d) (maxEntS d) = (d : Int) :=
  maxEntS_sq_sum d

/-- The loop index of `ghz` is the index of the basis state `|i i … i⟩`. -/
theorem ghz_index (d n i : Nat) : ghzIdx d n i = index d n (fun _ => i) := ghzIdx_eq_enc d i n

/-- **GHZ support and amplitudes**, every local dimension `d` and number of parties `n ≥ 1`: the amplitude of
    `|x_0 … x_{n-1}⟩` in `ghz(d, n, c)` (before normalisation) is `c[x_0]` if all digits are equal and `0`
    otherwise; with the default coefficients all `d` non-zero amplitudes are equal. -/
theorem ghz_support (d n : Nat) (hn : 0 < n) (c : Nat → Int) (x : Nat → Nat) (hx : ∀ k, k < n → x k < d) :
    ghzGen d n c (index d n x) = if (∀ k, k < n → x k = x 0) then c (x 0) else 0 := by
  rw [ghzGen_eq_pickG]
  by_cases h : ∀ k, k < n → x k = x 0
  · rw [if_pos h]
    apply pickG_unique _ _ _ (x 0)
    · rw [ghzIdx_eq_enc]; exact enc_congr _ _ _ _ n (fun _ _ => rfl) (fun k hk => (h k hk).symm)
    · exact hx 0 hn
    · intro i hi hidx
      rw [ghzIdx_eq_enc] at hidx
      exact enc_injective _ _ _ n (fun _ _ => hi) hx hidx 0 hn
  · rw [if_neg h]
    apply pickG_none
    intro i hi hidx
    apply h
    rw [ghzIdx_eq_enc] at hidx
    have e := enc_injective _ _ _ n (fun _ _ => hi) hx hidx
    intro k hk
    rw [← e k hk, ← e 0 hn]

/-- **GHZ is permutation symmetric**: relabelling the parties by any permutation `σ` does not change any
    amplitude. -/
theorem ghz_symmetric (d n : Nat) (hn : 0 < n) (x σ : Nat → Nat) (hx : ∀ k, k < n → x k < d) (hσ : IsPermN n σ) :
    ghzS d n (index d n (fun k => x (σ k))) = ghzS d n (index d n x) := by
  unfold ghzS
  rw [ghz_support d n hn _ _ (fun k hk => hx _ (hσ.lt k hk)), ghz_support d n hn _ _ hx]
  have hiff : (∀ k, k < n → x (σ k) = x (σ 0)) ↔ (∀ k, k < n → x k = x 0) := by
    constructor
    · intro h k hk
      obtain ⟨a, ha, rfl⟩ := Toq.Perms.surj_of_inj n σ hσ.lt hσ.inj k hk
      obtain ⟨b, hb, hb0⟩ := Toq.Perms.surj_of_inj n σ hσ.lt hσ.inj 0 hn
      rw [h a ha, ← h b hb, hb0]
    · intro h k hk
      rw [h _ (hσ.lt k hk), h _ (hσ.lt 0 hn)]
  exact if_congr hiff rfl rfl

/-- **W-state amplitudes (1)**: in `w_state(n, c)` (before normalisation) the basis state with the single
    excitation at party `p` has amplitude `c[p]` — the documented `c_0|10…0⟩ + c_1|01…0⟩ + … `. -/
theorem w_amplitude (n : Nat) (c : Nat → Int) (p : Nat) (hp : p < n) :
    wGen n c (index 2 n (unit p)) = c p := by
  rw [wGen_eq_pickG]
  show pickG n _ _ (enc (fun _ => 2) (unit p) n) = _
  rw [enc_unit p n hp]
  have : c p = (fun i => c (n - i - 1)) (n - 1 - p) := by
    show c p = c (n - (n - 1 - p) - 1); congr 1; omega
  rw [this]
  apply pickG_unique _ _ _ (n - 1 - p) rfl n (by omega)
  intro i _ hi
  exact Nat.pow_right_injective (le_refl 2) hi

/-- **W-state support (2)**: every basis state whose number of excitations is not `1` has amplitude `0`. -/
theorem w_support (n : Nat) (c : Nat → Int) (x : Nat → Nat) (hx : ∀ k, k < n → x k < 2)
    (hw : weight n x ≠ 1) : wGen n c (index 2 n x) = 0 := by
  rw [wGen_eq_pickG]
  apply pickG_none
  intro i hi hidx
  apply hw
  have hu : enc (fun _ => 2) (unit (n - 1 - i)) n = 2 ^ i := by
    rw [enc_unit _ n (by omega)]; congr 1; omega
  have e := enc_injective (fun _ => 2) (unit (n - 1 - i)) x n
    (fun k _ => by unfold unit; split <;> omega) hx (hu.trans hidx)
  unfold weight
  rw [← sumN_congr _ _ n e]
  exact weight_unit _ n (by omega)

/-- **Dicke support**: the amplitude of `|x_0 … x_{n-1}⟩` in `√C(n,k)·dicke(n, k)` is `1` if exactly `k` parties are
    excited and `0` otherwise — every `n`, `k`. -/
theorem dicke_support (n k : Nat) (x : Nat → Nat) (hx : ∀ k, k < n → x k < 2) :
    dickeS n k (index 2 n x) = if weight n x = k then 1 else 0 := by
  unfold dickeS index weight
  rw [popcount_enc x n hx]
  have hlt : enc (fun _ => 2) x n < 2 ^ n := enc_lt_pow 2 x n hx
  by_cases h : sumN n x = k
  · rw [if_pos ⟨hlt, h⟩, if_pos h]
  · rw [if_neg (fun hh => h hh.2), if_neg h]

/-- **Dicke states are permutation symmetric**, every `n`, `k`, every permutation of the qubits. -/
theorem dicke_symmetric (n k : Nat) (x σ : Nat → Nat) (hx : ∀ k, k < n → x k < 2) (hσ : IsPermN n σ) :
    dickeS n k (index 2 n (fun m => x (σ m))) = dickeS n k (index 2 n x) := by
  rw [dicke_support n k _ (fun m hm => hx _ (hσ.lt m hm)), dicke_support n k x hx]
  unfold weight
  rw [sumN_reindex x σ n hσ.lt hσ.inj]

/-- **`w_state(n)` (documented normalisation) is the Dicke state with one excitation**, hence has the stated
    support, equal amplitudes and permutation symmetry. -/
theorem w_eq_dicke_one (n : Nat) (x : Nat → Nat) (hx : ∀ k, k < n → x k < 2) :
    wS n (index 2 n x) = dickeS n 1 (index 2 n x) := by
  rw [dicke_support n 1 x hx]
  by_cases h : weight n x = 1
  · rw [if_pos h]
    obtain ⟨p, hp, hpk⟩ := weight_one_unit x n hx h
    have : index 2 n x = index 2 n (unit p) := enc_congr _ _ _ _ n (fun _ _ => rfl) hpk
    rw [this]
    exact w_amplitude n (fun _ => 1) p hp
  · rw [if_neg h]
    exact w_support n _ x hx h

/-- **W states are permutation symmetric.** -/
theorem w_symmetric (n : Nat) (x σ : Nat → Nat) (hx : ∀ k, k < n → x k < 2) (hσ : IsPermN n σ) :
    wS n (index 2 n (fun m => x (σ m))) = wS n (index 2 n x) := by
  rw [w_eq_dicke_one n _ (fun m hm => hx _ (hσ.lt m hm)), w_eq_dicke_one n x hx]
  exact dicke_symmetric n 1 x σ hx hσ

/-- `IsPermN` at the cyclic relabelling `(2 0 1)` of three parties -/
example : IsPermN 3 (fun k => [2, 0, 1].getD k 0) :=
  (isPermN_iff 3 _).mpr ((Toq.Perms.isPerm_eq_true_iff 3 _).mp (by decide))

/-- **SWAP commutes with `U ⊗ U`** for *every* matrix `U` over a commutative semiring and every `d`:
    `((U⊗U)·S)[r,c] = (S·(U⊗U))[r,c]`. -/
theorem swap_commutes_UU {α : Type} [CommSemiring α] (d : Nat) (U : Nat → Nat → α) (r c : Nat)
    (hr : r < d * d) (hc : c < d * d) :
    matMul (d * d) (kron2 d U U) (swapOp d) r c = matMul (d * d) (swapOp d) (kron2 d U U) r c := by
  rw [kron_mul_swap d U U r c hc, swap_mul_kron d U U r c hr, mul_comm]

/-- **Werner states are `U ⊗ U` invariant**: `ρ_α = (I − α S)/(d(d−α))` commutes with `U ⊗ U` for every matrix `U`
    (for unitary `U` this is `(U⊗U) ρ_α (U⊗U)† = ρ_α`) — every `d`, every `α`. -/
theorem werner_UU_invariant {α : Type} [Field α] (d : Nat) (a : α) (U : Nat → Nat → α) (r c : Nat)
    (hr : r < d * d) (hc : c < d * d) :
    matMul (d * d) (kron2 d U U) (werner d a) r c = matMul (d * d) (werner d a) (kron2 d U U) r c := by
  unfold werner
  rw [matMul_div_right, matMul_div_left, matMul_sub_smul_right, matMul_sub_smul_left, matMul_delta_right _ _ r c hc,
    matMul_delta_left _ _ r c hr,
    swap_commutes_UU d U r c hr hc]

/-- `|Ω⟩⟨Ω|` is the model's `omegaProj`. -/
theorem omegaProj_eq {α : Type} [CommSemiring α] (d r c : Nat) :
    omegaProj (α := α) d r c = omegaVec d r * omegaVec d c :=
  omegaProj_eq_outer d r c

/-- **`(U ⊗ Ū) Ω = Ω`** whenever `U U† = I` (`Uc` = entrywise conjugate of `U`), every `d`. -/
theorem omega_UUbar_invariant {α : Type} [CommSemiring α] (d : Nat) (U Uc : Nat → Nat → α)
    (hU : RowOrthonormal d U Uc) (r : Nat) (hr : r < d * d) :
    sumN (d * d) (fun m => kron2 d U Uc r m * omegaVec d m) = omegaVec d r := by
  have hd := pos_of_lt_sq d r hr
  rw [sumN_mul_flat_diag d _ _ fun i j _ hj => omegaVec_flat d i j hj,
    sumN_congr _ (fun i => U (r / d) i * Uc (r % d) i) d fun i hi => by
      unfold kron2
      rw [Nat.mul_add_div_of_lt hi, Nat.mul_add_mod_of_lt hi],
    hU (r / d) (r % d) (Nat.div_lt_of_lt_mul hr) (Nat.mod_lt _ hd)]
  rfl

/-- **Isotropic states are `U ⊗ Ū` invariant**: `(U ⊗ Ū) ρ_α (U ⊗ Ū)† = ρ_α` for every `U` with `U U† = I`
    (`Uc` = entrywise conjugate of `U`), every `d`, every `α`. -/
theorem isotropic_UUbar_invariant {α : Type} [Field α] (d : Nat) (a : α) (U Uc : Nat → Nat → α)
    (hU : RowOrthonormal d U Uc) (r c : Nat) (hr : r < d * d) (hc : c < d * d) :
    sumN (d * d) (fun m => sumN (d * d) (fun m' => kron2 d U Uc r m * isotropic d a m m' * kron2 d Uc U c m'))
      = isotropic d a r c := by
  have hUc : RowOrthonormal d Uc U := by
    intro i j hi hj
    rw [sumN_congr _ (fun k => U j k * Uc i k) d (fun k _ => mul_comm _ _), hU j i hj hi]
    exact delta_comm j i
  rw [sumN_congr _ _ (d * d) (fun m _ => sumN_congr _ _ (d * d) (fun m' _ => by rw [isotropic_eq d a m m']))]
  rw [bilin_rank_one, kron2_rowOrthonormal d U Uc hU r c hr hc, omega_UUbar_invariant d U Uc hU r hr,
    omega_UUbar_invariant d Uc U hUc c hc, isotropic_eq]
  rfl

/-- `RowOrthonormal` is satisfiable by a genuinely complex unitary: `U = [[0, i], [i, 0]]`, `Uc = conj U`. -/
example : RowOrthonormal 2 (fun i j => if i = j then (0 : GI) else ⟨0, 1⟩) (fun i j => if i = j then (0 : GI) else ⟨0, -1⟩) := by
  have h : ∀ i, i < 2 → ∀ j, j < 2 →
      sumN 2 (fun k => (if i = k then (0 : GI) else ⟨0, 1⟩) * (if j = k then (0 : GI) else ⟨0, -1⟩))
        = δ i j := by decide +kernel
  intro i j hi hj
  exact h i hi j hj

/-- The partial transpose of SWAP is `|Ω⟩⟨Ω|` (unnormalised `Ω`), every `d`. -/
theorem pT_swap {α : Type} [Zero α] [One α] (d r c : Nat) (hr : r < d * d) (_hc : c < d * d) :
    pT2 d (swapOp (α := α) d) r c = omegaProj d r c :=
  pT2_swapOp d r c (pos_of_lt_sq d r hr)

/-- The partial transpose of `|Ω⟩⟨Ω|` is SWAP. -/
theorem pT_omega {α : Type} [Zero α] [One α] (d r c : Nat) (hr : r < d * d) (_hc : c < d * d) :
    pT2 d (omegaProj (α := α) d) r c = swapOp d r c :=
  pT2_omegaProj d r c (pos_of_lt_sq d r hr)

/-- The partial transpose fixes the identity. -/
theorem pT_delta {α : Type} [Zero α] [One α] (d r c : Nat) (hr : r < d * d) (_hc : c < d * d) :
    pT2 d (delta (α := α)) r c = delta r c :=
  pT2_delta d r c (pos_of_lt_sq d r hr)

/-- **Partial transpose of the Werner state**: `ρ_α^Γ = (I − α |Ω⟩⟨Ω|)/(d(d−α))`, every `d`. -/
theorem werner_pt_closed {α : Type} [Field α] (d : Nat) (a : α) (r c : Nat) (hr : r < d * d) (hc : c < d * d) :
    pT2 d (werner d a) r c = (delta r c - a * omegaProj d r c) / ((d : α) * ((d : α) - a)) :=
  pT2_werner_closed d (pos_of_lt_sq d r hr) a r c

/-- **Partial transpose of the isotropic state**: `ρ_α^Γ = (1−α) I/d² + α S/d`, every `d`. -/
theorem isotropic_pt_closed {α : Type} [Field α] (d : Nat) (a : α) (r c : Nat) (hr : r < d * d) (hc : c < d * d) :
    pT2 d (isotropic d a) r c = (1 - a) * delta r c / ((d : α) * (d : α)) + a * swapOp d r c / (d : α) :=
  pT2_isotropic_closed d (pos_of_lt_sq d r hr) a r c

/-- The numerator of the documented one-parameter list form is `I − α·P_{(1 0)} = I − α·SWAP`. -/
theorem wernerListNum_one {α : Type} [Field α] (d : Nat) (a : α) (argsort : Bool) (r c : Nat)
    (hr : r < d * d) (hc : c < d * d) :
    wernerListNum d 2 [a] argsort r c = delta r c - a * swapOp d r c := by
  unfold wernerListNum
  have hp : (lexPerms 2 (List.range 2)).drop 1 = [[1, 0]] := by decide
  have ha : argsortL [1, 0] = [1, 0] := by decide
  simp only [hp, List.zip_cons_cons, List.zip_nil_right, List.foldl_cons, List.foldl_nil]
  cases argsort
  · simp only [Bool.false_eq_true, if_false]
    rw [permOp_swap d r c hr]
  · simp only [if_true]
    rw [ha, permOp_swap d r c hr]

/-- **The one-parameter list form of a bipartite Werner state equals the scalar form** (for the list form
    *as documented*: `I − alpha[0]·P(second permutation)`, normalised to trace one) — every `d`, every `α`,
    both conventions for the permutation operator. -/
theorem werner_list_eq_scalar {α : Type} [Field α] (d : Nat) (a : α) (argsort : Bool) (r c : Nat)
    (hr : r < d * d) (hc : c < d * d) :
    wernerList d 2 [a] argsort r c = werner d a r c := by
  unfold wernerList werner
  rw [wernerListNum_one d a argsort r c hr hc]
  congr 1
  rw [Nat.pow_two, trace_congr _ _ _ fun i hi j hj => wernerListNum_one d a argsort i j hi hj, trace_sub, trace_smul,
    trace_delta, trace_swap]
  push_cast
  ring

/-- **Werner states have trace one** whenever the normalisation `d(d−α)` is non-zero. -/
theorem werner_trace_one {α : Type} [Field α] (d : Nat) (a : α) (h : (d : α) * ((d : α) - a) ≠ 0) :
    trace (d * d) (werner d a) = 1 := by
  unfold werner
  rw [trace_div, trace_sub, trace_smul, trace_delta, trace_swap]
  push_cast
  rw [div_eq_one_iff_eq h]
  ring

/-- **Isotropic states have trace one** (`d ≠ 0` in the field). -/
theorem isotropic_trace_one {α : Type} [Field α] (d : Nat) (a : α) (h : (d : α) ≠ 0) :
    trace (d * d) (isotropic d a) = 1 := by
  unfold isotropic
  rw [trace_add, trace_div, trace_div, trace_smul, trace_smul, trace_delta, trace_omegaProj]
  push_cast
  field_simp
  ring

/-- `singlet(d) = werner(d, 1)`. -/
theorem singlet_eq_werner_one {α : Type} [Field α] (d r c : Nat) :
    singlet (α := α) d r c = werner d 1 r c := by
  unfold singlet werner
  rw [one_mul, mul_sub, mul_one]

section genbell
variable {α : Type} [CommRing α]

/-- The exponent model of `gen_bell(a, b, d)` denotes `vec(W) vec(W)†` (the driver reports the factor `1/d`
    as `den2 = d²`): entry `(r, c)` is `vec(W)[r] · conj(vec(W)[c])`. -/
theorem genBellE_eval (ω ωc : α) (d : Nat) (hd : 0 < d) (hω : ω ^ d = 1) (hc : ω * ωc = 1) (a b r c : Nat) :
    RU.eval ω (genBellE d a b r c)
      = vecF d (genPauli ω d a b) r * vecF d (genPauli ωc d a b) c := by
  unfold genBellE vecF genPauliE genPauli
  by_cases h1 : r % d = (r / d + a) % d <;> by_cases h2 : c % d = (c / d + a) % d
  · simp only [if_pos h1, if_pos h2]
    show ω ^ ((b * (r / d) % d + d - b * (c / d) % d % d) % d) = _
    rw [Nat.mod_mod]
    exact pow_sub_mod ω ωc d hd hω hc _ _
  · simp only [if_pos h1, if_neg h2]; simp [RU.eval]
  · simp only [if_neg h1, if_pos h2]; simp [RU.eval]
  · simp only [if_neg h1, if_neg h2]; simp [RU.eval]

/-- **Generalised Bell states are orthonormal**, every `d`: `⟨vec W_{ab}, vec W_{a'b'}⟩ = d·δ_{aa'}δ_{bb'}`
    (so the `d²` states `vec(W_{ab})/√d` form an orthonormal basis of `C^d ⊗ C^d`). -/
theorem genBell_orthonormal [IsDomain α] (ω ωc : α) (d : Nat) (hd : 0 < d) (hω : IsPrimitiveRoot ω d)
    (hc : ω * ωc = 1) (a b a' b' : Nat) (ha : a < d) (hb : b < d) (ha' : a' < d) (hb' : b' < d) :
    inner (d * d) (vecF d (genPauli ωc d a b)) (vecF d (genPauli ω d a' b'))
      = if a = a' ∧ b = b' then (d : α) else 0 :=
  (inner_vecF d _ _).trans (genPauli_trace_orthogonal ω ωc d hd hω hc a b a' b' ha hb ha' hb')

/-- **Generalised Bell states are maximally entangled**, every `d`: both reduced operators of
    `|ψ⟩⟨ψ|`, `ψ = vec(W_{ab})/√d`, are `I/d` (on the numerators: the identity). -/
theorem genBell_marginal_mixed (ω ωc : α) (d : Nat) (hd : 0 < d) (hc : ω * ωc = 1) (a b i j : Nat)
    (hi : i < d) (hj : j < d) :
    marginalA d (vecF d (genPauli ω d a b)) (vecF d (genPauli ωc d a b)) i j = δ i j ∧
    marginalB d (vecF d (genPauli ω d a b)) (vecF d (genPauli ωc d a b)) i j = δ i j :=
  ⟨(marginalA_vecF d _ _ i j).trans (genPauli_unitary_cols ωc ω d hd ((mul_comm ωc ω).trans hc) a b i j hi hj),
    (marginalB_vecF d _ _ i j hi hj).trans (genPauli_unitary ω ωc d hd hc a b i j hi hj)⟩

end genbell

/-- **Hadamard matrices are unitary**, every `n`: the sign matrix `(-1)^{popcount(i & k)}` (the numerator of
    `hadamard(n)`, normalisation `2^{-n/2}`) has orthogonal rows of squared norm `2^n`: `H Hᵀ = 2^n I`. -/
theorem hadamard_orthogonal (n i j : Nat) (hi : i < 2 ^ n) (hj : j < 2 ^ n) :
    sumN (2 ^ n) (fun k => hadamardS n i k * hadamardS n j k) = if i = j then (2 : Int) ^ n else 0 := by
  -- the Gram matrix of a tensor product is the product of the Gram matrices, and `i = j` iff the leading bits and the
  -- remainders agree
  induction n generalizing i j with
  | zero =>
    obtain rfl : i = 0 := by omega
    obtain rfl : j = 0 := by omega
    rfl
  | succ n ih =>
    have hp := Nat.two_pow_pos n
    have h1 : ∀ a, a < 2 → ∀ b, b < 2 → sumN 2 (fun k => hadamardS 1 a k * hadamardS 1 b k) = if a = b then 2 else 0 := by
      decide
    rw [Nat.pow_succ, Nat.mul_comm] at hi hj ⊢
    rw [sumN_kron' 2 (2 ^ n) _ (fun k => hadamardS 1 (i / 2 ^ n) k * hadamardS 1 (j / 2 ^ n) k)
        (fun k => hadamardS n (i % 2 ^ n) k * hadamardS n (j % 2 ^ n) k) fun k => by
          rw [hadamardS_succ n i k, hadamardS_succ n j k, mul_mul_mul_comm],
      h1 _ (Nat.div_lt_of_lt_mul (by rwa [Nat.mul_comm])) _ (Nat.div_lt_of_lt_mul (by rwa [Nat.mul_comm])),
      ih _ _ (Nat.mod_lt _ hp) (Nat.mod_lt _ hp)]
    rw [ite_div_mul_ite_mod, pow_succ, mul_comm]

/-- The Hadamard sign matrix is symmetric. -/
theorem hadamard_symmetric (n i k : Nat) : hadamardS n i k = hadamardS n k i := by
  unfold hadamardS
  apply prodFn_congr
  intro b _
  rw [Bool.and_comm]

/-- **Generalised Gell-Mann matrices are Hermitian** (all indices, all entries). -/
theorem genGellMann_hermitian (a b i j : Nat) : (genGellMann a b j i).conj = genGellMann a b i j := by
  by_cases hab : a = b
  · rw [hab, genGellMann_diag, genGellMann_diag]
    by_cases h : i = j
    · rw [if_pos h.symm, if_pos h, h]; rfl
    · rw [if_neg (Ne.symm h), if_neg h]; rfl
  · rw [genGellMann_off a b j i hab, genGellMann_off a b i j hab]
    by_cases h1 : i = a ∧ j = b
    · rw [if_neg (by omega), if_pos ⟨h1.2, h1.1⟩, if_pos h1]
      open scoped Toq.ChannelOps in exact star_star _
    · by_cases h2 : i = b ∧ j = a
      · rw [if_pos ⟨h2.2, h2.1⟩, if_neg h1, if_pos h2]
      · rw [if_neg (by omega), if_neg (by omega), if_neg h1, if_neg h2]; rfl

/-- **Generalised Gell-Mann matrices other than the identity are traceless**, every `d`. -/
theorem genGellMann_traceless (d a b : Nat) (ha : a < d) (_hb : b < d) (hne : ¬(a = 0 ∧ b = 0)) :
    trace d (genGellMann a b) = 0 := by
  unfold trace
  by_cases hab : a = b
  · subst hab
    rw [sumN_congr _ (fun i => GI.ofInt (dvec a i)) d (fun i _ => by rw [genGellMann_diag, if_pos rfl]),
      sumN_ofInt, sumN_dvec a d (by omega) ha]
    rfl
  · open scoped Toq.ChannelOps in
    exact sumN_eq_zero _ d fun i _ => by rw [genGellMann_off a b i i hab, if_neg (by omega), if_neg (by omega)]

/-- **Generalised Gell-Mann matrices are a trace-orthogonal operator basis**, every `d`: with
    `G_{ab} = genGellMann a b / √(genGellMannDen2 a b)`, `tr(G_{ab} G_{a'b'}) = 0` unless `(a,b) = (a',b')`,
    `tr(G_{00}²) = d` and `tr(G_{ab}²) = 2` otherwise (on the numerators: `2·den2`). -/
theorem genGellMann_trace_orthogonal (d a b a' b' : Nat) (ha : a < d) (hb : b < d) (ha' : a' < d) (hb' : b' < d) :
    trMul d (genGellMann a b) (genGellMann a' b')
      = if a = a' ∧ b = b' then
          (if a = 0 ∧ b = 0 then (⟨(d : Int), 0⟩ : GI) else ⟨2 * (genGellMannDen2 a b : Int), 0⟩)
        else 0 := by
  have den1 : ∀ p q, p ≠ q → genGellMannDen2 p q = 1 := by
    intro p q hpq; unfold genGellMannDen2; rw [if_neg (fun hh => hpq hh.1)]
  have off := fun p q p' q' hp hq hpq => trMul_off_genGellMann d p q p' q' hp hq hpq
  by_cases hab : a = b
  · by_cases hab' : a' = b'
    · subst hab; subst hab'
      rw [trMul_diag_diag d a a' ha ha']
      by_cases h : a = a'
      · subst h
        rw [if_pos rfl, if_pos ⟨rfl, rfl⟩]
        by_cases h0 : a = 0
        · subst h0
          rw [if_pos ⟨rfl, rfl⟩]
          rfl
        · rw [if_neg (fun hh => h0 hh.1), dnorm_eq_two_mul_den2 d a (Nat.pos_of_ne_zero h0)]
          rfl
      · rw [if_neg h, if_neg (fun hh => h hh.1)]
        rfl
    · rw [trMul_comm, off a' b' a b ha' hb' hab', if_neg (show ¬(a' = a ∧ b' = b) by omega),
        if_neg (show ¬(a = a' ∧ b = b') by omega)]
  · rw [off a b a' b' ha hb hab, den1 a b hab]
    by_cases h : a = a' ∧ b = b'
    · rw [if_pos h, if_pos h, if_neg (show ¬(a = 0 ∧ b = 0) by omega)]; rfl
    · rw [if_neg h, if_neg h]

section ppt
variable {α : Type} [Field α] [LinearOrder α] [IsStrictOrderedRing α]

/-- **Werner states are PPT exactly for `α ≤ 1/d`** (every `d ≥ 1`, every `α < d`): the partial transpose
    `(I − α|Ω⟩⟨Ω|)/(d(d−α))` is positive semidefinite iff `α·d ≤ 1`. -/
theorem werner_ppt_iff (d : Nat) (hd : 0 < d) (a : α) (ha : a < (d : α)) :
    PSD (d * d) (pT2 d (werner d a)) ↔ a * (d : α) ≤ 1 := by
  have hN : (0 : α) < (d : α) * ((d : α) - a) := mul_pos (Nat.cast_pos.mpr hd) (sub_pos.mpr ha)
  rw [psd_div_iff (d * d) _ hN _ (fun r c => 1 * delta r c + -a * (omegaVec d r * omegaVec d c))
      (fun r hr c hc => by rw [werner_pt_closed d a r c hr hc, omegaProj_eq, one_mul, neg_mul, sub_eq_add_neg]),
    psd_omega_iff_of_nonneg d hd 1 (-a) zero_le_one, neg_mul, ← sub_eq_add_neg, sub_nonneg]

/-- **Isotropic states are PPT exactly for `−1/(d−1) ≤ α ≤ 1/(d+1)`** (every `d ≥ 2`): the partial transpose
    `(1−α) I/d² + α S/d` is positive semidefinite iff `α(d+1) ≤ 1` and `−1 ≤ α(d−1)`.  On the admissible range
    `α ≥ −1/(d²−1)` (where `ρ_α` is a state) the second condition holds, so PPT ⇔ `α ≤ 1/(d+1)`. -/
theorem isotropic_ppt_iff (d : Nat) (hd : 2 ≤ d) (a : α) :
    PSD (d * d) (pT2 d (isotropic d a)) ↔ (a * ((d : α) + 1) ≤ 1 ∧ -1 ≤ a * ((d : α) - 1)) := by
  have hdpos : (0 : α) < (d : α) := Nat.cast_pos.mpr (Nat.lt_of_lt_of_le Nat.zero_lt_two hd)
  rw [psd_div_iff (d * d) _ (mul_pos hdpos hdpos) _ (fun r c => (1 - a) * delta r c + a * (d : α) * swapOp d r c)
      (fun r hr c hc => by
        rw [isotropic_pt_closed d a r c hr hc, add_div, mul_right_comm a, mul_div_mul_right _ _ hdpos.ne']),
    psd_swap_iff d hd]
  -- the two eigenvalue conditions are linear rearrangements of the two bounds on `a`
  exact ⟨fun h => ⟨by linear_combination h.1, by linear_combination h.2⟩,
    fun h => ⟨by linear_combination h.1, by linear_combination h.2⟩⟩

/-- **Admissible range of the Werner parameter**: `(I − αS)/(d(d−α))` is positive semidefinite iff
    `−1 ≤ α ≤ 1` (every `d ≥ 2`, `α < d`). -/
theorem werner_psd_iff (d : Nat) (hd : 2 ≤ d) (a : α) (ha : a < (d : α)) :
    PSD (d * d) (werner d a) ↔ (-1 ≤ a ∧ a ≤ 1) := by
  have hN : (0 : α) < (d : α) * ((d : α) - a) :=
    mul_pos (Nat.cast_pos.mpr (Nat.lt_of_lt_of_le Nat.zero_lt_two hd)) (sub_pos.mpr ha)
  rw [psd_div_iff (d * d) _ hN _ (fun r c => 1 * delta r c + -a * swapOp d r c)
      (fun r _ c _ => by
        unfold werner
        rw [one_mul, neg_mul, sub_eq_add_neg]),
    psd_swap_iff d hd, sub_neg_eq_add, ← sub_eq_add_neg, sub_nonneg, ← neg_le_iff_add_nonneg']

/-- **Admissible range of the isotropic parameter**: `(1−α) I/d² + α|ψ₊⟩⟨ψ₊|` is positive semidefinite iff
    `−1/(d²−1) ≤ α ≤ 1` (every `d ≥ 2`). -/
theorem isotropic_psd_iff (d : Nat) (hd : 2 ≤ d) (a : α) :
    PSD (d * d) (isotropic d a) ↔ (a ≤ 1 ∧ -1 ≤ a * ((d : α) * (d : α) - 1)) := by
  have hdpos : (0 : α) < (d : α) := Nat.cast_pos.mpr (Nat.lt_of_lt_of_le Nat.zero_lt_two hd)
  rw [psd_div_iff (d * d) _ (mul_pos hdpos hdpos) _
      (fun r c => (1 - a) * delta r c + a * (d : α) * (omegaVec d r * omegaVec d c))
      (fun r _ c _ => by
        unfold isotropic
        rw [omegaProj_eq, add_div, mul_right_comm a, mul_div_mul_right _ _ hdpos.ne']),
    psd_omega_iff d hd, sub_nonneg]
  -- the second eigenvalue condition is a linear rearrangement of the lower bound on `a`
  exact ⟨fun h => ⟨h.1, by linear_combination h.2⟩, fun h => ⟨h.1, by linear_combination h.2⟩⟩

end ppt

/-- **Pauli strings are a trace-orthogonal operator basis, every number of qubits**: for index lists `l, l'` of
    the same length `n` (entries `0..3`), `tr(P_l† P_{l'}) = 2^n` if `l = l'` and `0` otherwise
    (`pauli([i_1, …, i_n]) = σ_{i_1} ⊗ … ⊗ σ_{i_n}`). -/
theorem pauliString_trace_orthogonal (l l' : List Nat) (hlen : l.length = l'.length)
    (hl : ∀ a ∈ l, a < 4) (hl' : ∀ a ∈ l', a < 4) :
    hsInner (2 ^ l.length) (conjM (pauliList l)) (pauliList l')
      = if l = l' then (⟨(2 : Int) ^ l.length, 0⟩ : GI) else 0 := by
  -- the Hilbert–Schmidt product of Kronecker products is the product of the Hilbert–Schmidt products (`hsInner_kron`)
  induction l generalizing l' with
  | nil =>
    cases l' with
    | nil => decide
    | cons _ _ => simp at hlen
  | cons a r ih =>
    cases l' with
    | nil => simp at hlen
    | cons a' r' =>
      open scoped Toq.ChannelOps in
      have hlen' : r.length = r'.length := by simpa using hlen
      have e3 : 2 ^ (a :: r).length = 2 * 2 ^ r.length := by rw [List.length_cons, Nat.pow_succ, Nat.mul_comm]
      rw [pauliList_cons, pauliList_cons, conjM_kron, ← hlen', e3, hsInner_kron 2 (2 ^ r.length),
        ih r' hlen' (fun x hx => hl x (List.mem_cons_of_mem _ hx)) (fun x hx => hl' x (List.mem_cons_of_mem _ hx)),
        pauli_trace_orthogonal a (hl a (List.mem_cons_self)) a' (hl' a' (List.mem_cons_self))]
      refine (ite_zero_mul_ite_zero ..).trans (if_congr List.cons_eq_cons.symm ?_ rfl)
      show GI.ofInt 2 * GI.ofInt (2 ^ r.length) = GI.ofInt (2 ^ (r.length + 1))
      rw [ofInt_mul, pow_succ, mul_comm]

/-- **GHZ normalisation**: the squared norm of the un-normalised `ghz(d, n, c)` is `Σ_i c_i²` (`= d` for the default
    coefficients), so dividing by `‖c‖` gives a unit vector — every `d`, `n ≥ 1`. -/
theorem ghz_norm (d n : Nat) (hn : 0 < n) (c : Nat → Int) :
    inner (d ^ n) (ghzGen d n c) (ghzGen d n c) = sumN d (fun i => c i * c i) :=
  pickG_sq_sum (d ^ n) (ghzIdx d n) c d (fun i hi => ghzIdx_lt d n i hi)
    (fun i j hi hj h => ghzIdx_inj d n hn i j hi hj h)

/-- **W-state normalisation**: the squared norm of the un-normalised, un-rounded `w_state(n, c)` is `Σ_i c_i²`
    (`= n` for the default coefficients). -/
theorem w_norm (n : Nat) (c : Nat → Int) :
    inner (2 ^ n) (wGen n c) (wGen n c) = sumN n (fun i => c (n - i - 1) * c (n - i - 1)) :=
  pickG_sq_sum (2 ^ n) (fun i => 2 ^ i) (fun i => c (n - i - 1)) n
    (fun i hi => Nat.pow_lt_pow_right (by omega) hi)
    (fun i j _ _ h => Nat.pow_right_injective (le_refl 2) h)

/-- **Dicke normalisation**: exactly `C(n, k)` basis states have amplitude `1` in `√C(n,k)·dicke(n, k)`, so
    `dicke(n, k)` is a unit vector — every `n`, `k`. -/
theorem dicke_norm (n k : Nat) : inner (2 ^ n) (dickeS n k) (dickeS n k) = (choose n k : Int) := by
  unfold inner
  -- Pascal's rule on the two halves of `range (2 ^ (n + 1))`
  induction n generalizing k with
  | zero =>
    cases k with
    | zero => decide
    | succ k =>
      have : dickeS 0 (k + 1) 0 = 0 := by
        unfold dickeS popcount
        rw [if_neg]; rintro ⟨_, h⟩; simp [sumN] at h
      show (0 : Int) + dickeS 0 (k + 1) 0 * dickeS 0 (k + 1) 0 = 0
      rw [this]; rfl
  | succ n ih =>
    rw [Nat.pow_succ, Nat.mul_two, sumN_add_range, sumN_congr _ _ _ fun j hj => by rw [dickeS_low n k j hj], ih k]
    cases k with
    | zero =>
      rw [sumN_eq_zero _ _ fun j hj => by rw [dickeS_high_zero n j hj]; rfl]
      simp [choose]
    | succ k =>
      rw [sumN_congr _ _ _ fun j hj => by rw [dickeS_high n k j hj], ih k]
      show ((choose n (k + 1) : Nat) : Int) + (choose n k : Int) = ((choose n k + choose n (k + 1) : Nat) : Int)
      push_cast; ring

/-- **Cyclic shift matrices are unitary** (permutation matrices): `P P† = I`, every `n ≥ 1`, every power `k`. -/
theorem cyclicPerm_unitary (n k : Nat) (hn : 0 < n) : RowOrthonormal n (cyclicPerm n k) (cyclicPerm n k) := by
  have e : cyclicPerm n k = genPauli (1 : Int) n k 0 := by
    funext i j
    unfold cyclicPerm genPauli
    rw [Nat.zero_mul, pow_zero]
  rw [e]
  exact genPauli_unitary (1 : Int) 1 n hn (by norm_num) k 0

/-- **Horodecki `3 ⊗ 3` states have trace one**, every parameter with non-zero normalisation
    (in a field where `2 ≠ 0`). -/
theorem horodecki_trace_one {α : Type} [Field α] (a c : α) :
    ((2 : Nat) : α) ≠ 0 → ((8 : Nat) : α) * a + 1 ≠ 0 → trace 9 (horodecki33 a c) = 1 := by
  intro h2 h
  rw [Nat.cast_ofNat] at h2 h
  simp only [trace, sumN, horodecki33, table_eval, table_eval_proc]
  -- seven entries `n·a` and two `n·b`, with `n·(8a + 1) = 1` and `2·b = 1 + a`
  linear_combination one_div_mul_cancel h + (1 / (8 * a + 1)) * mul_div_cancel₀ (1 + a) h2

/-- Horodecki `2 ⊗ 4` states have trace one. -/
theorem horodecki24_trace_one {α : Type} [Field α] (a c : α) :
    ((2 : Nat) : α) ≠ 0 → ((7 : Nat) : α) * a + 1 ≠ 0 → trace 8 (horodecki24 a c) = 1 := by
  intro h2 h
  rw [Nat.cast_ofNat] at h2 h
  simp only [trace, sumN, horodecki24, table_eval, table_eval_proc]
  -- six entries `n·a` and two `n·b`, with `n·(7a + 1) = 1` and `2·b = 1 + a`
  linear_combination one_div_mul_cancel h + (1 / (7 * a + 1)) * mul_div_cancel₀ (1 + a) h2

section horodecki
variable {α : Type} [Field α] [LinearOrder α] [IsStrictOrderedRing α]

/-- **`horodecki(a, [3,3])` is a positive semidefinite matrix for every `a ≥ 0`** (so for the whole admissible range
    `0 ≤ a ≤ 1`), `c = √(1-a²)/2` entering only through `4c² = 1 - a²` (either sign of `c`). -/
theorem horodecki33_psd (a c : α) (ha0 : 0 ≤ a) (hc : 4 * c * c = 1 - a * a) : PSD 9 (horodecki33 a c) := fun v => by
  rw [quadForm_horodecki33]
  exact horo_form_nonneg a c ha0 hc 8 _ (v 6) (v 8) (Nat.ofNat_nonneg _)
    (add_sq_nonneg _ (add_sq_nonneg _ (add_sq_nonneg _ (add_sq_nonneg _ (add_sq_nonneg _ (sq_nonneg _))))))

/-- **`horodecki(a, [3,3])` is PPT for every admissible `a`**: its partial transpose (second factor, `3 ⊗ 3`) is
    positive semidefinite — a symbolic statement for all `a`, not a sampled one. -/
theorem horodecki33_ppt (a c : α) (ha0 : 0 ≤ a) (hc : 4 * c * c = 1 - a * a) : PSD 9 (pT2 3 (horodecki33 a c)) := fun v => by
  rw [quadForm_horodecki33_pt]
  exact horo_form_nonneg a c ha0 hc 8 _ (v 8) (v 6) (Nat.ofNat_nonneg _)
    (add_sq_nonneg _ (add_sq_nonneg _ (add_sq_nonneg _ (add_sq_nonneg _ (sq_nonneg _)))))

/-- **`horodecki(a, [2,4])` is positive semidefinite for every admissible `a`.** -/
theorem horodecki24_psd (a c : α) (ha0 : 0 ≤ a) (hc : 4 * c * c = 1 - a * a) : PSD 8 (horodecki24 a c) := fun v => by
  rw [quadForm_horodecki24]
  exact horo_form_nonneg a c ha0 hc 7 _ (v 4) (v 7) (Nat.ofNat_nonneg _)
    (add_sq_nonneg _ (add_sq_nonneg _ (add_sq_nonneg _ (sq_nonneg _))))

/-- **`horodecki(a, [2,4])` is PPT for every admissible `a`**: the partial transpose on the second (`4`-dimensional) factor
    of the `2 ⊗ 4` state is positive semidefinite. -/
theorem horodecki24_ppt (a c : α) (ha0 : 0 ≤ a) (hc : 4 * c * c = 1 - a * a) : PSD 8 (pT2 4 (horodecki24 a c)) := fun v => by
  rw [quadForm_horodecki24_pt]
  exact horo_form_nonneg a c ha0 hc 7 _ (v 7) (v 4) (Nat.ofNat_nonneg _)
    (add_sq_nonneg _ (add_sq_nonneg _ (add_sq_nonneg _ (sq_nonneg _))))

omit [LinearOrder α] [IsStrictOrderedRing α] in
/-- Horodecki states are real symmetric matrices (both supported dimensions), so `PSD` in `horodecki33_psd` …
    `horodecki24_ppt` is positivity of a Hermitian operator. -/
theorem horodecki_symmetric (a c : α) :
    (∀ i, i < 9 → ∀ j, j < 9 → horodecki33 a c i j = horodecki33 a c j i) ∧
    (∀ i, i < 8 → ∀ j, j < 8 → horodecki24 a c i j = horodecki24 a c j i) :=
  ⟨fun i _ j _ => horodecki33_symm a c i j, fun i _ j _ => horodecki24_symm a c i j⟩

/-- the hypotheses are satisfiable at a non-trivial rational parameter: `a = 3/5`, `c = 2/5` -/
example : (0 : ℚ) ≤ 3 / 5 ∧ 4 * (2 / 5 : ℚ) * (2 / 5) = 1 - (3 / 5) * (3 / 5) := by norm_num

end horodecki

/-- **Mirror = closed form for `hadamard`**, every `n`: `(-1) ** _hamming_distance(i & j)` with Kernighan's loop
    `x &= x - 1` equals `(-1)^{popcount(i & j)}` (the product over the bits). -/
theorem hadamardMirror_eq (n i j : Nat) (hi : i < 2 ^ n) : hadamardMirror n i j = hadamardS n i j := by
  unfold hadamardMirror
  have hlt : i &&& j < 2 ^ n := Nat.lt_of_le_of_lt Nat.and_le_left hi
  rw [hammingLoop_eq_popcount n (n + 1) _ hlt (Nat.lt_succ_of_le (popcount_le n _)), hadamardS_eq_pow, neg_one_pow_eq_ite]
  exact if_congr Nat.even_iff.symm rfl rfl

/-- **`hadamard(n+1) = hadamard(1) ⊗ hadamard(n)`**, every `n`: the sign matrix is the `n`-fold tensor power of
    `[[1, 1], [1, -1]]`. -/
theorem hadamard_tensor_power (n i j : Nat) :
    hadamardS (n + 1) i j = kron (2 ^ n) (2 ^ n) (hadamardS 1) (hadamardS n) i j :=
  hadamardS_succ n i j

section mub
variable {α : Type} [CommRing α]

/-- The exponent model of the eigenvectors of `X Z^j` (what the driver prints) denotes the valued model. -/
theorem mubE_eval (ω : α) (d : Nat) (hω : ω ^ d = 1) (j m x : Nat) :
    RU.eval ω (mubE d j m x) = mubVec ω j m x :=
  (pow_eq_pow_mod _ hω).symm

/-- **Mirror = closed form**: the matrix the code hands to `eig`, `gen_pauli(1,0,d) @ gen_pauli(0,1,d) ** j` with NumPy's
    *elementwise* power, is `X Z^j` for every `j ≥ 1` (for `j = 0` the elementwise power would give the all-ones matrix;
    the loop runs over `j = d, …, 1`). -/
theorem mubMatMirror_eq (ω : α) (d j : Nat) (hj : 0 < j) (i k : Nat) (hk : k < d) :
    mubMatMirror ω d j i k = genPauli ω d 1 j i k := by
  unfold mubMatMirror matMul
  rw [sumN_eq_single _ k d hk]
  · unfold genPauli
    simp only [Nat.add_zero, Nat.mod_eq_of_lt hk, Nat.zero_mul, pow_zero, Nat.one_mul, if_true]
    rw [← pow_mul, Nat.mul_comm k j]
    by_cases h : i = (k + 1) % d
    · rw [if_pos h, if_pos h, one_mul]
    · rw [if_neg h, if_neg h, zero_mul]
  · intro l hl hne
    unfold genPauli
    simp only [Nat.add_zero, Nat.mod_eq_of_lt hk, if_neg hne]
    rw [zero_pow (by omega), mul_zero]

/-- **The model vectors are eigenvectors**: for odd `d`, `v_{j,m}[x] = ω^{j x(x-1)/2 + m x}` satisfies
    `(X Z^j) v_{j,m} = ω̄^m v_{j,m}`. -/
theorem mub_eigenvector (ω ωc : α) (d : Nat) (hodd : Odd d) (j m : Nat) (hω : ω ^ d = 1) (hc : ω * ωc = 1)
    (i : Nat) (hi : i < d) :
    sumN d (fun l => genPauli ω d 1 j i l * mubVec ω j m l) = ωc ^ m * mubVec ω j m i := by
  obtain ⟨k, rfl⟩ := hodd
  -- row `i` picks the column `c` with `c + 1 ≡ i`, the recurrence moves to `v[c + 1]`, and `v` has period `2k + 1`
  have hp : ∀ n, (ω ^ n) ^ (2 * k + 1) = 1 := fun n => by rw [← pow_mul, mul_comm, pow_mul, hω, one_pow]
  rw [genPauli_row ω _ 1 j (by omega) _ i hi, mubVec_succ ω ωc hc, mubVec_eq_qphase, mubVec_eq_qphase,
    ← qphase_mod _ _ k (hp j) (hp m) (unshift _ 1 i + 1), shift_unshift _ 1 i hi]

/-- **Eigenvectors of `X Z^j` are unique up to a scalar**: any `u` with `(X Z^j) u = λ u`, `λ` invertible, is
    `u[i] = λ⁻ⁱ ω^{j i(i-1)/2} u[0]`; for `λ = ω̄^m` this is `u[0]·v_{j,m}`.  This is why the harness may compare LAPACK's
    eigenvectors with the model up to order and phase. -/
theorem mub_eigenvector_unique (ω lam lamc : α) (d j : Nat) (u : Nat → α) (hl : lam * lamc = 1)
    (h : ∀ i, i < d → sumN d (fun k => genPauli ω d 1 j i k * u k) = lam * u i) (i : Nat) (hi : i < d) :
    u i = lamc ^ i * ω ^ (j * tri i) * u 0 := by
  induction i with
  | zero => simp [tri]
  | succ i ih =>
    have h1 := h (i + 1) hi
    rw [genPauli_row ω d 1 j (by omega) u (i + 1) hi,
      ← (shift_eq_iff d 1 (i + 1) i hi (by omega)).mp (Nat.mod_eq_of_lt hi).symm] at h1
    have h2 : u (i + 1) = lamc * (ω ^ (j * i) * u i) := by
      rw [h1, ← mul_assoc, mul_comm lamc lam, hl, one_mul]
    rw [h2, ih (by omega)]
    show _ = lamc ^ (i + 1) * ω ^ (j * (tri i + i)) * u 0
    rw [Nat.mul_add, pow_add ω, pow_succ]; ring

/-- **Each basis is orthonormal**, every `d`: `⟨v_{j,m}, v_{j,m'}⟩ = d·δ_{mm'}` (numerators; the vectors carry `1/√d`). -/
theorem mub_basis_orthonormal [IsDomain α] (ω ωc : α) (d : Nat) (hω : IsPrimitiveRoot ω d) (hc : ω * ωc = 1)
    (j m m' : Nat) (hm : m < d) (hm' : m' < d) :
    inner d (mubVec ωc j m) (mubVec ω j m') = if m = m' then (d : α) else 0 := by
  -- within one basis the quadratic phases cancel (`ω^j ω̄^j = 1`) and character orthogonality remains
  rw [inner_mubVec ω ωc, pow_mul_inv_pow ω ωc hc,
    sumN_congr _ (fun x => ω ^ (m' * x) * ωc ^ (m * x)) d fun x _ => by
      unfold qphase
      rw [one_pow, one_mul, mul_pow, ← pow_mul, ← pow_mul],
    char_orth ω ωc d hω hc m' m hm' hm]
  exact if_congr eq_comm rfl rfl

/-- **Mutual unbiasedness for every odd prime `p`** (quadratic Gauss sum): for `j ≠ j'` the eigenvectors of `X Z^j` and
    `X Z^{j'}` satisfy `|⟨v_{j,m}, v_{j',m'}⟩|² = p` on the numerators, i.e. `1/p` for the normalised vectors — all `m, m'`.
    (The second factor is the complex conjugate of the first when `ωc = conj ω`.) -/
theorem mub_unbiased [IsDomain α] (ω ωc : α) (p : Nat) (hp : p.Prime) (hp2 : p ≠ 2) (hω : IsPrimitiveRoot ω p)
    (hc : ω * ωc = 1) (j j' m m' : Nat) (hj : j < p) (hj' : j' < p) (hne : j ≠ j') :
    inner p (mubVec ωc j m) (mubVec ω j' m') * inner p (mubVec ω j m) (mubVec ωc j' m') = (p : α) := by
  rcases hp.eq_two_or_odd' with h | h
  · exact absurd h hp2
  · obtain ⟨k, rfl⟩ := h
    -- the inner product is the Gauss sum of the primitive root `ω^{j'-j}`
    have hω1 : ω ^ (2 * k + 1) = 1 := hω.pow_eq_one
    have hωc1 := pow_eq_one_of_mul_eq_one ω ωc hc _ hω1
    have hinv : ∀ a b, ω ^ a * ωc ^ b * (ωc ^ a * ω ^ b) = 1 := fun a b => by
      rw [mul_mul_mul_comm, pow_mul_inv_pow ω ωc hc, mul_comm (ωc ^ b), pow_mul_inv_pow ω ωc hc, one_mul]
    rw [inner_mubVec ω ωc, inner_mubVec ωc ω]
    apply gauss_sum_sq _ _ _ _ k (prim_root_ratio ω ωc _ hp hω hc j j' hj hj' hne) (hinv j' j) _ (hinv m' m)
    rw [mul_pow, ← pow_mul, ← pow_mul, Nat.mul_comm m', Nat.mul_comm m, pow_mul, pow_mul, hω1, hωc1, one_pow, one_pow,
      one_mul]

/-- **Unbiased with respect to the standard basis**: every component of `v_{j,m}` has modulus one (`1/√d` after
    normalisation). -/
theorem mub_unbiased_standard (ω ωc : α) (hc : ω * ωc = 1) (j m x : Nat) :
    mubVec ω j m x * mubVec ωc j m x = 1 :=
  pow_mul_inv_pow ω ωc hc _

end mub

/-- **`dim = 2`** (the even prime; the eigenvalues of `X Z` are `±i`, not square roots of unity): the table vectors are
    eigenvectors of the mirrored matrices `pauli_x @ pauli_z ** j` (`g = 1, 2`, i.e. `j = 2, 1`). -/
theorem mub2_eigenvector : ∀ g, g < 3 → 0 < g → ∀ m, m < 2 → ∀ i, i < 2 →
    sumN 2 (fun k => mub2Mat g i k * mub2 g m k) = mub2Eig g m * mub2 g m i := by decide +kernel

/-- **`dim = 2`: each of the three bases is orthonormal**: `⟨u_m, u_{m'}⟩ = den2·δ_{mm'}` on the numerators. -/
theorem mub2_orthonormal : ∀ g, g < 3 → ∀ m, m < 2 → ∀ m', m' < 2 →
    inner 2 (fun x => (mub2 g m x).conj) (mub2 g m') = if m = m' then ⟨(mub2Den2 g : Int), 0⟩ else 0 := by decide +kernel

/-- **`dim = 2`: the three bases are mutually unbiased**: across bases `|⟨u, v⟩|²·2 = den2_g·den2_h`, i.e.
    `|⟨u, v⟩|² = 1/2` after normalisation. -/
theorem mub2_unbiased : ∀ g, g < 3 → ∀ h, h < 3 → ∀ m, m < 2 → ∀ m', m' < 2 → g ≠ h →
    (inner 2 (fun x => (mub2 g m x).conj) (mub2 h m') * (inner 2 (fun x => (mub2 g m x).conj) (mub2 h m')).conj)
        * ⟨2, 0⟩ = (⟨(mub2Den2 g * mub2Den2 h : Nat), 0⟩ : GI) := by decide +kernel

/-- an odd prime with a primitive root exists in `ℂ` for the hypotheses of `mub_unbiased`: `p = 3` -/
example : ∃ ω ωc : ℂ, IsPrimitiveRoot ω 3 ∧ ω * ωc = 1 ∧ Nat.Prime 3 :=
  ⟨_, _, Complex.isPrimitiveRoot_exp 3 (by norm_num),
    mul_inv_cancel₀ ((Complex.isPrimitiveRoot_exp 3 (by norm_num)).ne_zero (by norm_num)), Nat.prime_three⟩

/-- **`Ω` is an eigenvector of the partially transposed Werner state** with eigenvalue `(1 − α d)/(d(d−α))`
    (`wernerPTEigs.2`) — every `d`. -/
theorem werner_pt_eig_omega {α : Type} [Field α] (d : Nat) (a : α) (r : Nat) (hr : r < d * d) :
    sumN (d * d) (fun c => pT2 d (werner d a) r c * omegaVec d c) = (wernerPTEigs d a).2 * omegaVec d r := by
  rw [sumN_congr _ _ (d * d) fun c _ => by rw [pT2_werner_eq d (pos_of_lt_sq d r hr) a r c],
    matvec_rank_one (d * d) _ _ _ _ r hr, omegaVec_sq_sum]
  unfold wernerPTEigs
  ring

/-- **Every vector orthogonal to `Ω` is an eigenvector of the partially transposed Werner state** with eigenvalue
    `1/(d(d−α))` (`wernerPTEigs.1`); together with `werner_pt_eig_omega` this is the whole spectrum. -/
theorem werner_pt_eig_perp {α : Type} [Field α] (d : Nat) (a : α) (v : Nat → α)
    (hv : sumN (d * d) (fun c => omegaVec d c * v c) = 0) (r : Nat) (hr : r < d * d) :
    sumN (d * d) (fun c => pT2 d (werner d a) r c * v c) = (wernerPTEigs d a).1 * v r := by
  rw [sumN_congr _ _ (d * d) fun c _ => by rw [pT2_werner_eq d (pos_of_lt_sq d r hr) a r c],
    matvec_rank_one (d * d) _ _ _ _ r hr, hv]
  unfold wernerPTEigs
  ring

/-- **Symmetric vectors (`v ∘ swap = v`) are eigenvectors of the partially transposed isotropic state** with eigenvalue
    `(1−α)/d² + α/d` (`isotropicPTEigs.1`). -/
theorem isotropic_pt_eig_sym {α : Type} [Field α] (d : Nat) (a : α) (v : Nat → α)
    (hv : ∀ r, r < d * d → v (swapIdx d r) = v r) (r : Nat) (hr : r < d * d) :
    sumN (d * d) (fun c => pT2 d (isotropic d a) r c * v c) = (isotropicPTEigs d a).1 * v r := by
  rw [sumN_congr _ _ (d * d) fun c _ => by rw [pT2_isotropic_eq d (pos_of_lt_sq d r hr) a r c],
    matvec_swap d v _ _ r hr, hv r hr]
  unfold isotropicPTEigs
  ring

/-- **Antisymmetric vectors (`v ∘ swap = −v`) are eigenvectors of the partially transposed isotropic state** with
    eigenvalue `(1−α)/d² − α/d` (`isotropicPTEigs.2`); symmetric and antisymmetric vectors span the space. -/
theorem isotropic_pt_eig_antisym {α : Type} [Field α] (d : Nat) (a : α) (v : Nat → α)
    (hv : ∀ r, r < d * d → v (swapIdx d r) = -v r) (r : Nat) (hr : r < d * d) :
    sumN (d * d) (fun c => pT2 d (isotropic d a) r c * v c) = (isotropicPTEigs d a).2 * v r := by
  rw [sumN_congr _ _ (d * d) fun c _ => by rw [pT2_isotropic_eq d (pos_of_lt_sq d r hr) a r c],
    matvec_swap d v _ _ r hr, hv r hr]
  unfold isotropicPTEigs
  ring

/-- **Generalised Pauli operators span all matrices**, every `d`: the matrix unit `E_{ij}` is
    `(1/d) Σ_b ω̄^{b j} X^a Z^b` with `a = i − j (mod d)`; entrywise, for any `a`:
    `Σ_b ω̄^{b j} (X^a Z^b)[i', j'] = d·[i' = j + a mod d]·[j' = j]`. -/
theorem genPauli_spans {α : Type} [CommRing α] [IsDomain α] (ω ωc : α) (d : Nat) (hω : IsPrimitiveRoot ω d)
    (hc : ω * ωc = 1) (a j i' j' : Nat) (hj : j < d) (hj' : j' < d) :
    sumN d (fun b => ωc ^ (b * j) * genPauli ω d a b i' j') = if i' = (j + a) % d ∧ j' = j then (d : α) else 0 := by
  unfold genPauli
  by_cases h : i' = (j' + a) % d
  · simp only [if_pos h]
    rw [sumN_congr _ (fun b => ω ^ (j' * b) * ωc ^ (j * b)) d (fun b _ => by
      rw [Nat.mul_comm b j, Nat.mul_comm b j', mul_comm])]
    rw [char_orth ω ωc d hω hc j' j hj' hj]
    exact if_congr ⟨fun h2 => ⟨by rw [h, h2], h2⟩, fun hh => hh.2⟩ rfl rfl
  · simp only [if_neg h, mul_zero]
    rw [sumN_eq_zero _ d (fun _ _ => rfl), if_neg]
    rintro ⟨h1, h2⟩
    exact h (by rw [h1, h2])

/-- **The generalised Bell states resolve the identity**, every `d`: `Σ_{a,b<d} |ψ_{ab}⟩⟨ψ_{ab}| = I` (on the numerators
    `vec(W_{ab})`: `d·δ_{rc}`), so the `d²` orthonormal vectors are a complete basis of `C^d ⊗ C^d`. -/
theorem genBell_complete {α : Type} [CommRing α] [IsDomain α] (ω ωc : α) (d : Nat) (hd : 0 < d)
    (hω : IsPrimitiveRoot ω d) (hc : ω * ωc = 1) (r c : Nat) (hr : r < d * d) (hcc : c < d * d) :
    sumN d (fun a => sumN d (fun b => vecF d (genPauli ω d a b) r * vecF d (genPauli ωc d a b) c))
      = if r = c then (d : α) else 0 := by
  have hrd := Nat.div_lt_of_lt_mul hr
  have hcd := Nat.div_lt_of_lt_mul hcc
  -- the sum over `b` is `genPauli_spans` for the matrix unit `E_{·, c/d}`
  have hb : ∀ a, a < d → sumN d (fun b => vecF d (genPauli ω d a b) r * vecF d (genPauli ωc d a b) c)
      = if c % d = (c / d + a) % d then (if r = c then (d : α) else 0) else 0 := by
    intro a _
    by_cases h : c % d = (c / d + a) % d
    · rw [if_pos h, sumN_congr _ (fun b => ωc ^ (b * (c / d)) * genPauli ω d a b (r % d) (r / d)) d fun b _ => by
          unfold vecF; rw [mul_comm]; congr 1; unfold genPauli; rw [if_pos h],
        genPauli_spans ω ωc d hω hc a (c / d) (r % d) (r / d) hcd hrd, ← h]
      exact if_congr (and_comm.trans (Nat.ext_div_mod_iff d r c).symm) rfl rfl
    · rw [if_neg h]
      exact sumN_eq_zero _ d fun b _ => by unfold vecF genPauli; rw [if_neg h, mul_zero]
  -- for each `c` exactly one `a` contributes
  rw [sumN_congr _ _ d hb]
  exact sumN_ite_shift d (c % d) (c / d) hd (Nat.mod_lt _ hd) _

/-- **Generalised Gell-Mann matrices span the off-diagonal matrix units**: for `a < b`, `G_{ab} + i·G_{ba} = 2E_{ab}` and
    `G_{ab} − i·G_{ba} = 2E_{ba}` (all entries). -/
theorem genGellMann_spans_offdiag (a b i j : Nat) (hab : a < b) :
    genGellMann a b i j + (⟨0, 1⟩ : GI) * genGellMann b a i j = (if i = a ∧ j = b then ⟨2, 0⟩ else 0) ∧
    genGellMann a b i j + (⟨0, -1⟩ : GI) * genGellMann b a i j = (if i = b ∧ j = a then ⟨2, 0⟩ else 0) := by
  rw [genGellMann_off a b i j (by omega), genGellMann_off b a i j (by omega), gmUnit_of_lt hab, gmUnit_of_gt hab]
  by_cases h1 : i = a ∧ j = b
  · simp only [if_pos h1, if_neg (show ¬(i = b ∧ j = a) by omega)]
    constructor <;> rfl
  · by_cases h2 : i = b ∧ j = a
    · simp only [if_neg h1, if_pos h2]
      constructor <;> rfl
    · simp only [if_neg h1, if_neg h2]
      constructor <;> rfl

/-- **… and the diagonal matrix units**, every `d ≥ 1`: with `D_l = diag(genGellMann l l)`,
    `E_{kk} = (1/d)·G_{00} + Σ_{l=1}^{d-1} D_l[k]/(l(l+1))·(numerator of G_{ll})`; entrywise
    `1/d + Σ_{l=1}^{d-1} D_l[k] D_l[i]/(l(l+1)) = δ_{ki}`.  Together with trace-orthogonality the `d²` matrices are an
    operator basis. -/
theorem genGellMann_spans_diag {α : Type} [Field α] [CharZero α] (d : Nat) (hd : 0 < d) (k i : Nat)
    (hk : k < d) (hi : i < d) :
    1 / (d : α) + sumN d (fun l => if l = 0 then 0 else
        (((genGellMann l l k k).re : Int) : α) * (((genGellMann l l i i).re : Int) : α) / ((l : α) * ((l : α) + 1)))
      = if k = i then 1 else 0 := by
  obtain ⟨n, rfl⟩ : ∃ n, d = n + 1 := ⟨d - 1, by omega⟩
  -- `gm_diag_complete` with the `l = 0` term `1·1/d` split off
  rw [← gm_diag_complete (n + 1) hd k i hk hi, sumN_succ_front, sumN_succ_front, if_pos rfl, zero_add]
  congr 1
  · unfold dvec dnorm
    rw [if_pos rfl, if_pos rfl, if_pos rfl, Int.cast_one, mul_one, Int.cast_natCast]
  · refine sumN_congr _ _ n fun l _ => ?_
    rw [if_neg (Nat.succ_ne_zero l), genGellMann_diag, genGellMann_diag, if_pos rfl, if_pos rfl]
    unfold dnorm
    rw [if_neg (Nat.succ_ne_zero l), Int.cast_mul, Int.cast_add, Int.cast_one, Int.cast_natCast]
    rfl

/-- **The dimension guard of `mutually_unbiased_basis` is a primality test**: the model takes the "build the bases" branch
    exactly for prime `d` (so the hypothesis `p.Prime` of `mub_unbiased` is what the code checks). -/
theorem mub_guard_prime (d : Nat) : mubGuard d = 0 ↔ d.Prime := by
  unfold mubGuard
  rw [← isPrimeB_iff]
  by_cases h : isPrimeB d = true
  · simp [h]
  · simp only [h, if_false, Bool.false_eq_true, iff_false]
    split <;> omega

/-- **BB84: both bases are orthonormal** (`⟨u_m, u_{m'}⟩ = den2·δ`). -/
theorem bb84_orthonormal : ∀ b, b < 2 → ∀ m, m < 2 → ∀ m', m' < 2 →
    inner 2 (bb84S b m) (bb84S b m') = if m = m' then (bb84Den2 b : Int) else 0 := by decide +kernel

/-- **BB84: the two bases are mutually unbiased**: `|⟨z_m, x_{m'}⟩|²·2 = 1·2`, i.e. `1/2` after normalisation. -/
theorem bb84_unbiased : ∀ m, m < 2 → ∀ m', m' < 2 →
    inner 2 (bb84S 0 m) (bb84S 1 m') * inner 2 (bb84S 0 m) (bb84S 1 m') * 2 = (bb84Den2 0 * bb84Den2 1 : Nat) := by decide +kernel

/-- **Trine states: Gram matrix** `⟨ψ_i, ψ_j⟩ = 1` for `i = j` and `-1/2` otherwise (components are `(p + q√3)/2`; the
    products are computed in `ℤ[√3]` and carry the factor `1/4`). -/
theorem trine_gram : ∀ i, i < 3 → ∀ j, j < 3 →
    addR3 (mulR3 (trineS i 0) (trineS j 0)) (mulR3 (trineS i 1) (trineS j 1)) = if i = j then (4, 0) else (-2, 0) := by
  decide +kernel

/-- **Trine states sum to zero** (they form a symmetric frame). -/
theorem trine_sum_zero : ∀ x, x < 2 → addR3 (addR3 (trineS 0 x) (trineS 1 x)) (trineS 2 x) = (0, 0) := by decide +kernel

/-- **Gisin states are the documented mixture**: `ρ_{λ,θ} = λ|ψ_θ⟩⟨ψ_θ| + (1−λ)(|00⟩⟨00| + |11⟩⟨11|)/2` with
    `ψ_θ = sin θ|01⟩ − cos θ|10⟩` (the code's `-sin(2θ)/2` is `-sin θ cos θ`). -/
theorem gisin_mixture {α : Type} [Field α] (lam s c : α) (h2 : (2 : α) ≠ 0) (i j : Nat) (hi : i < 4) (hj : j < 4) :
    gisin lam s c i j = lam * (gisinPsi s c i * gisinPsi s c j)
      + (1 - lam) * (if i = j ∧ (i = 0 ∨ i = 3) then 1 else 0) / 2 := by
  unfold gisin
  rw [Nat.cast_ofNat, gisin_rt s c h2]

/-- **Gisin states have trace one** for every `λ` and every angle (`cos² + sin² = 1`). -/
theorem gisin_trace_one {α : Type} [Field α] (lam s c : α) (h2 : (2 : α) ≠ 0) (h : c * c + s * s = 1) :
    trace 4 (gisin lam s c) = 1 := by
  simp only [trace, sumN, gisin, table_eval, table_eval_proc]
  field_simp
  linear_combination (2 * lam) * h

/-- **Gisin states are positive semidefinite for every admissible `λ ∈ [0, 1]`** and every angle. -/
theorem gisin_psd {α : Type} [Field α] [LinearOrder α] [IsStrictOrderedRing α] (lam s c : α) (h0 : 0 ≤ lam)
    (h1 : lam ≤ 1) : PSD 4 (gisin lam s c) := by
  -- the mixture of the pure state `ψ_θ` and a diagonal state
  rw [psd_congr 4 _ (fun i j => lam * (gisinPsi s c i * gisinPsi s c j)
      + (1 - lam) / 2 * (if i = j then (if i = 0 ∨ i = 3 then 1 else 0) else 0)) fun i hi j hj => by
    rw [gisin_mixture lam s c two_ne_zero i j hi hj, mul_div_right_comm, ← ite_and]]
  exact psd_add (psd_smul h0 (psd_outer 4 _))
    (psd_smul (div_nonneg (sub_nonneg.mpr h1) zero_le_two) (psd_diag 4 _ fun i => by
      split
      · exact zero_le_one
      · exact le_rfl))

/-- **PBR states: the Gram matrix factorises over the qubits**, every `n`: `⟨Ψ_t, Ψ_{t'}⟩ = Π_k g(t_k, t'_k)` with
    `g = c² + s²` for equal bits and `c² − s²` for different bits (`c = cos(θ/2)`, `s = sin(θ/2)`). -/
theorem pbr_gram {α : Type} [CommRing α] (c s : α) (n t t' : Nat) :
    inner (2 ^ n) (pbrVec c s n t) (pbrVec c s n t') = pbrGram c s n t t' := by
  induction n generalizing t t' with
  | zero => simp [inner, sumN, pbrVec, pbrGram]
  | succ n ih =>
    rw [Nat.pow_succ]
    exact (inner_kronV (2 ^ n) 2 _ _ _ _).trans (congrArg₂ _ (ih _ _)
      (pbrAmp_gram c s _ _ (Nat.mod_lt _ Nat.two_pos) (Nat.mod_lt _ Nat.two_pos)))

/-- **PBR states: `⟨Ψ_t, Ψ_{t'}⟩ = cos(θ)^{Hamming distance(t, t')}`** (`cos θ = c² − s²`), every `n`; in particular all
    states are normalised. -/
theorem pbr_gram_cos {α : Type} [CommRing α] (c s : α) (h : c * c + s * s = 1) (n t t' : Nat) :
    inner (2 ^ n) (pbrVec c s n t) (pbrVec c s n t') = (c * c - s * s) ^ popcount n (t ^^^ t') := by
  rw [pbr_gram, pbrGram_pow c s h]

/-- the hypothesis `c² + s² = 1` of `pbr_gram_cos` at the rational point `c = 4/5`, `s = 3/5` -/
example : (4 / 5 : ℚ) * (4 / 5) + (3 / 5) * (3 / 5) = 1 := by norm_num

/-- **Breuer: mirror = closed form** for the pure component: `kron(I, V) @ max_entangled(d)` has the amplitude
    `(-1)^{j+1}/√d` at `|i, j⟩` with `i + j = d − 1` and `0` elsewhere — every `d`. -/
theorem breuerPsi_mirror_eq (d r : Nat) (hr : r < d * d) : breuerPsiMirror d r = breuerPsi d r := by
  have hrd := Nat.div_lt_of_lt_mul hr
  unfold breuerPsiMirror
  -- `max_entangled` picks the columns `i·d + i`, the identity factor of the Kronecker product the one with `i = r / d`
  rw [sumN_mul_flat_diag d _ _ (maxEntS_flat d)]
  unfold kron matId
  rw [sumN_congr _ (fun i => if r / d = i then breuerV d (r % d) i else 0) d fun i hi => by
      rw [Nat.mul_add_div_of_lt hi, Nat.mul_add_mod_of_lt hi, ite_mul, one_mul, zero_mul],
    sumN_ite_eq (fun i => breuerV d (r % d) i) _ d hrd]
  unfold breuerV breuerPsi
  generalize r % d = a
  generalize r / d = b
  by_cases h : a + b + 1 = d
  · rw [if_pos h, if_pos h]
    rcases Nat.mod_two_eq_zero_or_one a with h2 | h2
    · rw [if_pos h2, if_neg (show ¬ (a + 1) % 2 = 0 by omega)]
    · rw [if_neg (show ¬ a % 2 = 0 by omega), if_pos (show (a + 1) % 2 = 0 by omega)]
  · rw [if_neg h, if_neg h]

/-- The pure component of the Breuer state is normalised (`Σ ψ² = d` on the numerators), every `d`. -/
theorem breuer_psi_normalised (d : Nat) : inner (d * d) (breuerPsi d) (breuerPsi d) = (d : Int) := by
  unfold inner
  rw [sumN_mul_range _ d d]
  rw [sumN_congr _ (fun _ => (1 : Int)) d (fun i hi => by
    rw [sumN_eq_single _ (d - 1 - i) d (by omega)]
    · rw [breuerPsi_flat d i _ (by omega), if_pos (by omega)]
      split <;> rfl
    · intro j hj hne
      rw [breuerPsi_flat d i j hj, if_neg (by omega), mul_zero])]
  rw [sumN_const, mul_one]

/-- **For even `d` the pure component is antisymmetric** under exchange of the two parties (it lies in the
    antisymmetric subspace, orthogonal to the support of the symmetric projection). -/
theorem breuer_psi_antisymmetric (d r : Nat) (hd : d % 2 = 0) (hr : r < d * d) :
    breuerPsi d (swapIdx d r) = -breuerPsi d r := by
  have hd0 := pos_of_lt_sq d r hr
  have hrd := Nat.div_lt_of_lt_mul hr
  unfold swapIdx
  rw [breuerPsi_flat d _ _ hrd]
  unfold breuerPsi
  generalize r % d = a
  generalize r / d = b
  by_cases h : a + b + 1 = d
  · rw [if_pos (show b + a + 1 = d by omega), if_pos h]
    rcases Nat.mod_two_eq_zero_or_one a with h2 | h2
    · rw [if_pos h2, if_neg (show ¬ b % 2 = 0 by omega)]; rfl
    · rw [if_neg (show ¬ a % 2 = 0 by omega), if_pos (show b % 2 = 0 by omega)]
  · rw [if_neg (show ¬ b + a + 1 = d by omega), if_neg h]; rfl

/-- **Breuer states have trace one**, every `d`, every `λ`. -/
theorem breuer_trace_one {α : Type} [Field α] (d : Nat) (lam : α) (h2 : (2 : α) ≠ 0) (hd : (d : α) ≠ 0)
    (hd1 : (d : α) + 1 ≠ 0) : trace (d * d) (breuer d (breuerPsi d) lam) = 1 := by
  have hn : trace (d * d) (fun r c => ((breuerPsi d r : Int) : α) * ((breuerPsi d c : Int) : α)) = (d : α) := by
    have h := (sumN_intCast (α := α) _ (d * d)).symm.trans (congrArg Int.cast (breuer_psi_normalised d))
    unfold trace
    simpa only [Int.cast_mul, Int.cast_natCast] using h
  rw [trace_congr _ _ _ fun r _ c _ => breuer_entry d lam h2 r c, trace_add, trace_add, trace_smul, trace_smul, trace_smul,
    trace_delta, trace_swap, hn]
  push_cast
  field_simp
  ring

/-- **Breuer states are positive semidefinite for every `λ ∈ [0, 1]`**, every `d ≥ 1`. -/
theorem breuer_psd {α : Type} [Field α] [LinearOrder α] [IsStrictOrderedRing α] (d : Nat) (hd : 0 < d) (lam : α)
    (h0 : 0 ≤ lam) (h1 : lam ≤ 1) : PSD (d * d) (breuer d (breuerPsi d) lam) := by
  have hdp : (0 : α) < (d : α) := Nat.cast_pos.mpr hd
  have ht : 0 ≤ (1 - lam) / ((d : α) * ((d : α) + 1)) :=
    div_nonneg (sub_nonneg.mpr h1) (mul_nonneg hdp.le (add_nonneg hdp.le zero_le_one))
  rw [psd_congr (d * d) _ _ fun r _ c _ => breuer_entry d lam two_ne_zero r c]
  exact psd_add (psd_swap_of_nonneg d _ _ (by rw [sub_self]) (add_nonneg ht ht))
    (psd_smul (div_nonneg h0 hdp.le) (psd_outer _ _))

/-- **Brauer: the `p`-fold tensor power of `Σ_i |ii⟩`** has amplitude `1` on `|x_0 … x_{2p−1}⟩` iff `x_{2k} = x_{2k+1}` for all
    `k`, else `0` — every `d`, `p`. -/
theorem brauer_phi (d : Nat) (x : Nat → Nat) (p : Nat) (hx : ∀ k, k < 2 * p → x k < d) :
    brauerPhi d p (index d (2 * p) x) = if ∀ k, k < p → x (2 * k) = x (2 * k + 1) then 1 else 0 :=
  brauerPhi_enc d x p hx

/-- **Brauer columns (mirror = spec)**: for every permutation `σ` of the `2p` parties (every row of
    `perfect_matchings(2p)` is one), `permute_systems(phi, σ)` has amplitude `1` on `|y_0 … y_{2p−1}⟩` iff
    `y_{σ⁻¹(2k)} = y_{σ⁻¹(2k+1)}` for all `k < p` — the parties sitting at the positions whose `σ`-values are `2k`, `2k+1` are
    maximally entangled — and `0` otherwise. -/
theorem brauer_column (d p : Nat) (hd : 0 < d) (mt : List Nat)
    (hlt : ∀ k, k < 2 * p → (fnOfList mt) k < 2 * p)
    (hinj : ∀ a b, a < 2 * p → b < 2 * p → (fnOfList mt) a = (fnOfList mt) b → a = b) (j : Nat) :
    brauerCol d p mt j
      = if ∀ k, k < p → digit d (2 * p) j (invPerm (2 * p) (fnOfList mt) (2 * k))
            = digit d (2 * p) j (invPerm (2 * p) (fnOfList mt) (2 * k + 1)) then 1 else 0 := by
  unfold brauerCol digit
  rw [Toq.Perms.permuteVec_false_eq _ _ _ _ ⟨hlt, hinj⟩]
  unfold Toq.Perms.specIndex
  rw [brauerPhi_enc d _ p (fun k hk =>
    Toq.Perms.specIndex_digit_lt (2 * p) (fnOfList mt) (fun _ => d) ⟨hlt, hinj⟩ (fun _ _ => hd) j k hk)]

/-- **Every Brauer column has squared norm `d^p`** (documented: unnormalised states). -/
theorem brauer_column_norm (d p : Nat) (hd : 0 < d) (mt : List Nat)
    (hlt : ∀ k, k < 2 * p → (fnOfList mt) k < 2 * p)
    (hinj : ∀ a b, a < 2 * p → b < 2 * p → (fnOfList mt) a = (fnOfList mt) b → a = b) :
    inner ((d * d) ^ p) (brauerCol d p mt) (brauerCol d p mt) = (d : Int) ^ p := by
  have hN : prodN (fun _ => d) (2 * p) = (d * d) ^ p := by
    rw [prodN_const, ← Nat.pow_two, ← Nat.pow_mul]
  rw [← brauerPhi_sq_sum d p, ← hN]
  unfold inner brauerCol
  rw [sumN_congr _ _ _ fun j _ => by rw [Toq.Perms.permuteVec_false_eq _ _ _ _ ⟨hlt, hinj⟩]]
  exact Toq.Perms.sumN_specIndex (2 * p) (fnOfList mt) (fun _ => d) ⟨hlt, hinj⟩ (fun _ _ => hd)
    (fun r => brauerPhi d p r * brauerPhi d p r)

/-- the hypotheses of `brauer_column` hold for the rows of `perfect_matchings(4)` -/
example : ∀ mt ∈ Toq.Combinat.perfectMatchings (List.range 4),
    (∀ k, k < 4 → (fnOfList mt) k < 4) ∧ (∀ a, a < 4 → ∀ b, b < 4 → (fnOfList mt) a = (fnOfList mt) b → a = b) := by
  decide +kernel

/-- **Chessboard states have trace one** whenever the normalisation `tr Σ_k v_k† v_k` is non-zero. -/
theorem chessboard_trace_one {α : Type} [Field α] [HasConj α] (pr : Nat → α) (s t : α)
    (h : trace 9 (chessNum pr s t) ≠ 0) : trace 9 (chessboard pr s t) = 1 := by
  unfold chessboard
  show sumN 9 (fun i => chessNum pr s t i i / trace 9 (chessNum pr s t)) = 1
  rw [sumN_div]
  exact div_self h

/-- **Chessboard states are Hermitian** (`conj` any involutive ring homomorphism, e.g. complex conjugation), all parameters
    including explicitly passed `s`, `t`. -/
theorem chessboard_hermitian {α : Type} [Field α] [HasConj α] (σ : α →+* α) (hσ : ∀ x : α, HasConj.conj x = σ x)
    (hinv : ∀ x, σ (σ x) = x) (pr : Nat → α) (s t : α) (i j : Nat) :
    HasConj.conj (chessboard pr s t i j) = chessboard pr s t j i := by
  have hnum : ∀ i j, σ (chessNum pr s t i j) = chessNum pr s t j i := by
    intro i j
    unfold chessNum
    rw [map_sumN σ]
    apply sumN_congr
    intro k _
    rw [map_mul, hσ, hσ, hinv, mul_comm]
  have htr : σ (trace 9 (chessNum pr s t)) = trace 9 (chessNum pr s t) := by
    unfold trace
    rw [map_sumN σ]
    apply sumN_congr
    intro k _
    exact hnum k k
  unfold chessboard
  rw [hσ, map_div₀, hnum, htr]

/-- **The party-count loop of `werner` (list form) accepts exactly the lengths `p! − 1`** (checked for every length
    `1 … 129`, i.e. `p = 2 … 5`): the mirrored loop `n_var //= i …` together with the later row access `sorted_perms[i]`
    agrees with the specification "`len(alpha) + 1 = p!`".  (Lengths such as `6` or `24 … 28` pass the loop itself and die with
    an `IndexError` in the row access; the model counts that as a rejection.) -/
theorem wernerParties_spec : ∀ len, len < 130 → 0 < len → wernerParties len = factInv (len + 1) := by decide +kernel

/-- **`bell(idx)` as written in the code** (`kron(e_a, e_b) ± kron(e_c, e_d)`) is the table `bellS`. -/
theorem bellMirror_eq : ∀ idx, idx < 4 → ∀ k, k < 4 → bellMirror idx k = bellS idx k := by decide +kernel

/-- **For `d = 2` the generalised Bell states are the Bell states**: `gen_bell(a, b, 2) = |bell(2a + b)⟩⟨bell(2a + b)|`
    (`ω = −1`; numerators, both sides carry the factor `1/2`). -/
theorem genBell_two_eq_bell : ∀ a, a < 2 → ∀ b, b < 2 → ∀ r, r < 4 → ∀ c, c < 4 →
    vecF 2 (genPauli (-1 : Int) 2 a b) r * vecF 2 (genPauli (-1 : Int) 2 a b) c
      = bellS (2 * a + b) r * bellS (2 * a + b) c := by decide +kernel

/-- **The Gell-Mann matrices are the generalised Gell-Mann matrices for `d = 3`**: `λ_1 … λ_8 =
    G_{01}, G_{10}, G_{11}, G_{02}, G_{20}, G_{12}, G_{21}, G_{22}` (numerators; the normalisations agree:
    `gellMannDen2 8 = genGellMannDen2 2 2 = 3`). -/
theorem gellMann_eq_genGellMann : ∀ i, i < 3 → ∀ j, j < 3 →
    gellMann 1 i j = genGellMann 0 1 i j ∧ gellMann 2 i j = genGellMann 1 0 i j ∧ gellMann 3 i j = genGellMann 1 1 i j ∧
    gellMann 4 i j = genGellMann 0 2 i j ∧ gellMann 5 i j = genGellMann 2 0 i j ∧ gellMann 6 i j = genGellMann 1 2 i j ∧
    gellMann 7 i j = genGellMann 2 1 i j ∧ gellMann 8 i j = genGellMann 2 2 i j ∧ gellMann 0 i j = genGellMann 0 0 i j := by
  decide +kernel

/-- **The Pauli matrices are the generalised Gell-Mann matrices for `d = 2`.** -/
theorem pauli_eq_genGellMann : ∀ i, i < 2 → ∀ j, j < 2 →
    pauli 1 i j = genGellMann 0 1 i j ∧ pauli 2 i j = genGellMann 1 0 i j ∧ pauli 3 i j = genGellMann 1 1 i j ∧
    pauli 0 i j = genGellMann 0 0 i j := by decide +kernel

/-- **Tile states are product vectors**: each is `u ⊗ w` for explicit `u, w ∈ C³`. -/
theorem tile_product : ∀ a, a < 5 → ∃ u w : Nat → Int, ∀ k, tileS a k = u (k / 3) * w (k % 3) := by
  intro a ha
  interval_cases a
  exacts [⟨e3 0, e3m 0 1, fun _ => rfl⟩, ⟨e3m 0 1, e3 2, fun _ => rfl⟩, ⟨e3 2, e3m 1 2, fun _ => rfl⟩,
    ⟨e3m 1 2, e3 0, fun _ => rfl⟩, ⟨fun _ => 1, fun _ => 1, fun _ => rfl⟩]

/-- **Domino states are product vectors.** -/
theorem domino_product : ∀ a, a < 9 → ∃ u w : Nat → Int, ∀ k, dominoS a k = u (k / 3) * w (k % 3) := by
  intro a ha
  interval_cases a <;> exact ⟨_, _, fun _ => rfl⟩

/-- `U^{⊗2}` in the digit form used below is the Kronecker square `U ⊗ U` of the bipartite theorems. -/
theorem tensorPow_two_eq_kron {α : Type} [CommRing α] (d : Nat) (U : Nat → Nat → α) (r c : Nat) (hr : r < d * d)
    (hc : c < d * d) : tensorPow d 2 U r c = kron2 d U U r c := by
  unfold tensorPow kron2 digit
  simp only [prodFn, dec]
  rw [Nat.mod_eq_of_lt (Nat.div_lt_of_lt_mul hr), Nat.mod_eq_of_lt (Nat.div_lt_of_lt_mul hc)]
  simp

/-- **toqito's permutation operators commute with `U^{⊗p}`** — every matrix `U`, every local dimension `d ≥ 1`, every
    number of parties `p`, every permutation of the parties: `P_σ U^{⊗p} = U^{⊗p} P_σ` (entries of the mirror model of
    `permutation_operator`). -/
theorem permOp_commutes_tensor {α : Type} [CommRing α] (d p : Nat) (hd : 0 < d) (U : Nat → Nat → α) (f : Nat → Nat)
    (hlt : ∀ k, k < p → f k < p) (hinj : ∀ a b, a < p → b < p → f a = f b → a = b) (r c : Nat)
    (hr : r < d ^ p) (hc : c < d ^ p) :
    matMul (d ^ p) (Toq.Perms.permOp p f (fun _ => d) false) (tensorPow d p U) r c
      = matMul (d ^ p) (tensorPow d p U) (Toq.Perms.permOp p f (fun _ => d) false) r c := by
  have hf : Toq.C01.IsPermN p f := ⟨hlt, hinj⟩
  have hπ := Toq.Perms.permIndex_isPermN p f (fun _ => d) false hf (fun _ _ => hd)
  rw [prodN_const] at hπ
  -- row `r` of `P` has its one in column `π r`, column `c` in row `π⁻¹ c`, and `U^{⊗p}[π r, c] = U^{⊗p}[r, π⁻¹ c]`
  unfold matMul
  rw [sumN_eq_single _ _ (d ^ p) (hπ.lt r hr) fun k _ hne => by
      rw [Toq.Perms.permOp_apply, if_neg (Ne.symm hne), zero_mul],
    sumN_eq_single _ _ (d ^ p) (Toq.Perms.invPerm_lt _ _ hπ.lt hπ.inj c hc) fun k hk hne => by
      rw [Toq.Perms.permOp_apply, if_neg fun h => hne ((Toq.Perms.perm_eq_iff_eq_invPerm _ _ hπ hk hc).mp h), mul_zero],
    Toq.Perms.permOp_apply, Toq.Perms.permOp_apply, if_pos rfl, if_pos (Toq.Perms.perm_invPerm _ _ hπ.lt hπ.inj c hc), one_mul,
    mul_one]
  conv_lhs => rw [← Toq.Perms.perm_invPerm _ _ hπ.lt hπ.inj c hc]
  exact tensorPow_perm d p hd U f hf r _

/-- **Multipartite Werner states (list form) are `U^{⊗p}` invariant**: `I − Σ_k α_k P(σ_k)`, normalised, commutes with
    `U^{⊗p}` for every matrix `U` (for unitary `U`: `U^{⊗p} ρ (U^{⊗p})† = ρ`) — every `d`, every coefficient list, both
    conventions for the permutation operator, every `p` for which the enumerated index lists are permutations
    (`WernerPermsValid`, which holds by evaluation for `p = 2, 3, 4`: `wernerPerms_valid`). -/
theorem wernerList_tensor_invariant {α : Type} [Field α] (d p : Nat) (hd : 0 < d) (alphas : List α) (argsort : Bool)
    (hperm : WernerPermsValid p argsort) (U : Nat → Nat → α) (r c : Nat) (hr : r < d ^ p) (hc : c < d ^ p) :
    matMul (d ^ p) (wernerList d p alphas argsort) (tensorPow d p U) r c
      = matMul (d ^ p) (tensorPow d p U) (wernerList d p alphas argsort) r c := by
  show matMul (d ^ p) (fun r c => wernerListNum d p alphas argsort r c / _) _ r c
    = matMul (d ^ p) _ (fun r c => wernerListNum d p alphas argsort r c / _) r c
  rw [matMul_div_left, matMul_div_right]
  congr 1
  exact foldl_commutes (d ^ p) (tensorPow d p U)
    (fun σ => Toq.Perms.permOp (α := α) p (wernerPerm argsort σ) (fun _ => d) false)
    (((lexPerms p (List.range p)).drop 1).zip alphas) (fun r' c' => delta r' c')
    (fun r c hr hc => by rw [matMul_delta_left _ _ r c hr, matMul_delta_right _ _ r c hc])
    (fun t ht r c hr hc => by
      have hmem := (List.of_mem_zip ht).1
      obtain ⟨h1, h2⟩ := hperm t.1 hmem
      exact permOp_commutes_tensor d p hd U _ h1 (fun a b ha hb h => h2 a ha b hb h) r c hr hc)
    r c hr hc

/-- The enumeration `itertools.permutations(range(p))[1:]` (and its `argsort`) consists of permutations for `p = 2, 3, 4`,
    so `wernerList_tensor_invariant` applies to every bi-, tri- and four-partite Werner state. -/
theorem wernerPerms_valid : WernerPermsValid 2 true ∧ WernerPermsValid 2 false ∧ WernerPermsValid 3 true ∧
    WernerPermsValid 3 false ∧ WernerPermsValid 4 true ∧ WernerPermsValid 4 false := by
  unfold WernerPermsValid wernerPerm
  decide +kernel

/-- **`ghz(d, n, coeff)` does not depend on the scale of `coeff`**: normalising `t·c` (divide by `‖t·c‖`) and filling gives,
    entry by entry, the state obtained from `c` — every `d`, `n`, real coefficient vector `c`, every `t > 0` (norms far
    below or above 1 included: no threshold on `‖coeff‖` is part of the definition). -/
theorem ghz_coeff_scale_invariant (d n : Nat) (c : Nat → ℝ) (t : ℝ) (ht : 0 < t) (j : Nat) :
    ghzGenG d n (fun i => t * c i) j / Real.sqrt (sumN d (fun i => (t * c i) * (t * c i)))
      = ghzGenG d n c j / Real.sqrt (sumN d (fun i => c i * c i)) := by
  rw [sumN_scale_sq]
  exact pickG_normalised_scale t ht d (ghzIdx d n) c _ j

/-- **`w_state(n, coeff)` does not depend on the scale of `coeff`** — every `n`, real `c`, `t > 0`. -/
theorem w_coeff_scale_invariant (n : Nat) (c : Nat → ℝ) (t : ℝ) (ht : 0 < t) (j : Nat) :
    wGenG n (fun i => t * c i) j / Real.sqrt (sumN n (fun i => (t * c i) * (t * c i)))
      = wGenG n c j / Real.sqrt (sumN n (fun i => c i * c i)) := by
  rw [sumN_scale_sq]
  exact pickG_normalised_scale t ht n (fun i => 2 ^ i) (fun i => c (n - i - 1)) _ j

/-- **Oracle of the scaled-coefficient check (GHZ)**: for an integer vector `c` and any `t > 0` the state built from the
    coefficients `t·c` is `ghzGen d n c / √(Σ c_i²)` — exactly what the driver reports for `c` (numerators `ghzGen`,
    `den2 = Σ c_i²`), to which `ghz_support` / `ghz_norm` apply. -/
theorem ghz_scaled_coeff_model (d n : Nat) (c : Nat → Int) (t : ℝ) (ht : 0 < t) (j : Nat) :
    ghzGenG d n (fun i => t * (c i : ℝ)) j / Real.sqrt (sumN d (fun i => (t * (c i : ℝ)) * (t * (c i : ℝ))))
      = ((ghzGen d n c j : Int) : ℝ) / Real.sqrt ((sumN d (fun i => c i * c i) : Int) : ℝ) := by
  rw [ghz_coeff_scale_invariant d n (fun i => (c i : ℝ)) t ht j, ghzGenG_cast, sumN_intCast]
  simp only [Int.cast_mul]

/-- **Oracle of the scaled-coefficient check (W state)**: likewise `wGen n c / √(Σ c_i²)`. -/
theorem w_scaled_coeff_model (n : Nat) (c : Nat → Int) (t : ℝ) (ht : 0 < t) (j : Nat) :
    wGenG n (fun i => t * (c i : ℝ)) j / Real.sqrt (sumN n (fun i => (t * (c i : ℝ)) * (t * (c i : ℝ))))
      = ((wGen n c j : Int) : ℝ) / Real.sqrt ((sumN n (fun i => c i * c i) : Int) : ℝ) := by
  rw [w_coeff_scale_invariant n (fun i => (c i : ℝ)) t ht j, wGenG_cast, sumN_intCast]
  simp only [Int.cast_mul]

/-- a scale `t > 0` far below the magnitudes a tolerance would cut off: `t = 2⁻⁶⁰` -/
example : (0 : ℝ) < (2 : ℝ)⁻¹ ^ 60 := by positivity

end Toq.C17
