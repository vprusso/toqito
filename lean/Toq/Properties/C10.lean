import Toq.Proofs.Discrim
import Toq.Proofs.DiscrimStrong
import Toq.Proofs.DiscrimEldar
import Toq.Proofs.RandBK
import Toq.Proofs.RandPgm
import Toq.Proofs.DiscrimArgs
import Toq.Proofs.DiscrimTwo
import Toq.Proofs.DiscrimGram
import Toq.Proofs.DiscrimCall
import Toq.Proofs.PovmTwo
/-!
# C10 — quantum state discrimination (minimum error, and unambiguous in Gram form)

The optimisation problems are stated over `Matrix (Fin d) (Fin d) ℂ` with Mathlib's
`Matrix.PosSemidef`.  The executable checkers (`Toq.Model.Discrim`) work over exact Gaussian
rationals; `EMat.toM` is the denotation of an exact matrix, `Rat.cast` that of an exact number.

* minimum-error discrimination of `{(p_i, ρ_i)}`: maximise `successProb ρ p M = Σ_i p_i Re tr(ρ_i M_i)`
  over POVMs `M`; dual: minimise `Re tr Y` subject to `Y − p_i ρ_i ⪰ 0`;
* unambiguous discrimination in Gram form: maximise `Σ_i p_i q_i` subject to `q ≥ 0`,
  `G − diag q ⪰ 0`; dual: minimise `Re tr(G Z)` subject to `Z ⪰ 0`, `Re Z_ii ≥ p_i`.

`IsPOVM`, `successProb`, `minErrValues` have the bodies of `Toq.Rand.IsPOVM`, `successProb`, `successValues` (`Toq.Spec.Rand`) at `Fin`, and
`UnambFeasible`, `UnambDualFeasible`, `unambValues`, `unambDualValues` those of `Toq.Discrim.UaFeasible`, `UaDualFeasible`, `uaValues`,
`uaDualValues` (`Proofs/Discrim`), `lagrangeOp ρ p M` that of `meGamma` (`Proofs/DiscrimStrong`) on the weighted states `p_i ρ_i`, so the
lemmas stated with the latter apply as they stand.

Certified side: weak duality for both programs and soundness of the four certificate checkers (an accepted primal
certificate is a lower bound, an accepted dual certificate an upper bound of the optimum).

Closed forms and laws, for all dimensions and numbers of states: the value is `≥` every prior and `≤ 1`, `= 1` exactly
for mutually orthogonal states (`minErr_eq_one_iff_orthogonal`), invariant under a common unitary and under relabelling
(as equality of the sets of attainable values `minErrValues`); the pretty good measurement is a POVM below every dual
bound and Barnum–Knill `P_opt² ≤ P_pgm` holds (`minErr_sq_le_pgm`, from `Toq.Rand.barnum_knill` of C19); the Helstrom
formula for two states (with the trace norm of C13).  For the Gram-form unambiguous program: value `0` for linearly
dependent states, `≤ Σ p_i`, and the value for two pure states with arbitrary priors (Jaeger–Shimony, three regimes).

Duality: **strong duality with attainment on both sides** for minimum-error discrimination (`minErr_strong_duality`,
`minErr_primal_dual_agree`), the duality gap and complementary slackness, the **Holevo–Yuen–Kennedy–Lax optimality
conditions as an iff** (`minErr_hykl_iff`); **Eldar's reduction in both directions** – the Gram-form program toqito solves
has exactly the success probabilities of unambiguous measurements as its values, for arbitrary (also linearly dependent)
pure states (`unamb_values_eq_measurement_values`) – and with it **unambiguous `≤` minimum-error** (`unamb_le_minErr`);
gap formula / KKT conditions for the Gram program; **strong duality of the Gram-form program for linearly independent
states and positive priors** (`unamb_strong_duality`, `unamb_primal_dual_agree`) and **no duality gap for every PSD Gram
matrix and every prior `≥ 0`** (`unamb_no_gap`: the primal maximum is attained and equals the dual infimum; for dependent
states the dual infimum need not be attained).

The code around the solver call, mirrored in `Toq.Model.DiscrimArgs` and `Toq.Model.DiscrimCall`: argument check and
dispatch (`sd_front_eq`, `sd_dispatch`), default prior, `to_density_matrix` / `vectors_to_gram_matrix` denote `|ψ_j⟩⟨ψ_j|` /
`VᴴV` (`sd_gram_and_density`), the certified form of "unambiguous `≤` minimum-error" on the code's own data
(`sd_unamb_le_minErr_certified`), `is_distinguishable`'s `np.isclose(·, 1)` (`sd_dist_test_*`), and the binding of
positional and keyword options (`sd_bind_*`).
-/

open Matrix
open scoped ComplexOrder MatrixOrder

namespace Toq.C10
open Toq.Discrim

variable {d k : Nat}

/-- `M` is a `k`-outcome measurement on `ℂ^d` -/
def IsPOVM (M : Fin k → Matrix (Fin d) (Fin d) ℂ) : Prop := (∀ i, (M i).PosSemidef) ∧ ∑ i, M i = 1

/-- `Σ_i p_i · Re tr(ρ_i M_i)`: probability of identifying the state correctly with measurement `M` -/
noncomputable def successProb (ρ : Fin k → Matrix (Fin d) (Fin d) ℂ) (p : Fin k → ℝ)
    (M : Fin k → Matrix (Fin d) (Fin d) ℂ) : ℝ :=
  ∑ i, p i * (ρ i * M i).trace.re

/-- `Y` is feasible for the dual of minimum-error discrimination -/
def MinErrDualFeasible (ρ : Fin k → Matrix (Fin d) (Fin d) ℂ) (p : Fin k → ℝ)
    (Y : Matrix (Fin d) (Fin d) ℂ) : Prop :=
  ∀ i, (Y - (p i : ℂ) • ρ i).PosSemidef

/-- `q` is feasible for unambiguous discrimination with Gram matrix `G` -/
def UnambFeasible (G : Matrix (Fin k) (Fin k) ℂ) (q : Fin k → ℝ) : Prop :=
  (∀ i, 0 ≤ q i) ∧ (G - Matrix.diagonal fun i => (q i : ℂ)).PosSemidef

/-- `Z` is feasible for the dual of unambiguous discrimination with priors `p` -/
def UnambDualFeasible (p : Fin k → ℝ) (Z : Matrix (Fin k) (Fin k) ℂ) : Prop :=
  Z.PosSemidef ∧ ∀ i, p i ≤ (Z i i).re

/-- the states of an exact ensemble as complex matrices -/
def ensStates (ens : Ensemble d) : Fin ens.size → Matrix (Fin d) (Fin d) ℂ := fun i => (ens.state i).toM
/-- the prior probabilities of an exact ensemble as reals -/
def ensProbs (ens : Ensemble d) : Fin ens.size → ℝ := fun i => ((ens.prob i : Rat) : ℝ)
/-- first `k` matrices of a list as complex matrices -/
def mats (k : Nat) (M : List (EMat d d)) : Fin k → Matrix (Fin d) (Fin d) ℂ := fun i => (matAt M i).toM
/-- first `k` rationals of a list as reals -/
def rats (k : Nat) (p : List Rat) : Fin k → ℝ := fun i => ((ratAt p i : Rat) : ℝ)

/-- Weak duality: every measurement succeeds with probability at most `Re tr Y` for dual-feasible `Y`.
(No assumption on `ρ`, `p` or Hermiticity of `Y` is needed beyond the constraints themselves.) -/
theorem minErr_weak_duality (ρ : Fin k → Matrix (Fin d) (Fin d) ℂ) (p : Fin k → ℝ)
    (M : Fin k → Matrix (Fin d) (Fin d) ℂ) (Y : Matrix (Fin d) (Fin d) ℂ)
    (hM : IsPOVM M) (hY : MinErrDualFeasible ρ p Y) :
    successProb ρ p M ≤ Y.trace.re :=
  (meVal_smul ρ p M).ge.trans (meVal_le_of_dual hM hY)

/-- If the primal checker accepts with value `lo`, the candidate is a POVM (with one element per state)
whose success probability is exactly `lo`; hence `lo` is a lower bound of the optimum. -/
theorem checkMinErrPrimal_sound (ens : Ensemble d) (M LM : List (EMat d d)) (lo : Rat)
    (h : checkMinErrPrimal ens M LM = some lo) :
    ens.probs.length = ens.size ∧ M.length = ens.size ∧
      IsPOVM (mats ens.size M) ∧
      successProb (ensStates ens) (ensProbs ens) (mats ens.size M) = (lo : ℝ) := by
  rw [checkMinErrPrimal, Option.ite_none_right_eq_some, lens3Ok_iff] at h
  obtain ⟨⟨h1, h2, -⟩, h⟩ := h
  exact ⟨h1, h2, checkMinErrPrimalFn_sound _ _ _ _ _ _ h⟩

/-- If the dual checker accepts with value `hi`, every measurement on the ensemble succeeds with
probability at most `hi`. -/
theorem checkMinErrDual_sound (ens : Ensemble d) (Y : EMat d d) (LY : List (EMat d d)) (hi : Rat)
    (h : checkMinErrDual ens Y LY = some hi) :
    ∀ M' : Fin ens.size → Matrix (Fin d) (Fin d) ℂ, IsPOVM M' →
      successProb (ensStates ens) (ensProbs ens) M' ≤ (hi : ℝ) := by
  rw [checkMinErrDual, Option.ite_none_right_eq_some] at h
  obtain ⟨hf, hv⟩ := checkMinErrDualFn_sound _ _ _ _ _ _ h.2
  intro M' hM'
  rw [← hv]
  exact minErr_weak_duality (ensStates ens) (ensProbs ens) M' Y.toM hM' hf

/-- Accepted primal and dual certificates bracket the optimum. -/
theorem minErr_lo_le_hi (ens : Ensemble d) (M LM : List (EMat d d)) (Y : EMat d d)
    (LY : List (EMat d d)) (lo hi : Rat)
    (hlo : checkMinErrPrimal ens M LM = some lo) (hhi : checkMinErrDual ens Y LY = some hi) :
    (lo : ℝ) ≤ (hi : ℝ) := by
  obtain ⟨-, -, hM, hv⟩ := checkMinErrPrimal_sound ens M LM lo hlo
  rw [← hv]
  exact checkMinErrDual_sound ens Y LY hi hhi _ hM

/-- Weak duality: `Σ_i p_i q_i ≤ Re tr(G Z)` for primal-feasible `q` and dual-feasible `Z`.
(`G` is arbitrary; `G − diag q ⪰ 0` already forces it to be Hermitian.) -/
theorem unamb_weak_duality (G Z : Matrix (Fin k) (Fin k) ℂ) (p q : Fin k → ℝ)
    (hq : UnambFeasible G q) (hZ : UnambDualFeasible p Z) :
    ∑ i, p i * q i ≤ (G * Z).trace.re :=
  unamb_weak_duality_gen hq hZ

/-- If the primal checker accepts with value `lo`, then `q` is feasible and has objective value `lo`. -/
theorem checkUnambPrimal_sound (G : EMat k k) (p q : List Rat) (L : EMat k k) (lo : Rat)
    (h : checkUnambPrimal G p q L = some lo) :
    p.length = k ∧ q.length = k ∧ UnambFeasible G.toM (rats k q) ∧
      ∑ i, rats k p i * rats k q i = (lo : ℝ) := by
  rw [checkUnambPrimal, Option.ite_none_right_eq_some, lens3Ok_iff] at h
  obtain ⟨⟨h1, h2, -⟩, h⟩ := h
  obtain ⟨hq, hv⟩ := checkUnambPrimalFn_sound _ _ _ _ _ h
  exact ⟨h1, h2, hq, hv⟩

/-- If the dual checker accepts with value `hi`, every feasible `q` has `Σ_i p_i q_i ≤ hi`. -/
theorem checkUnambDual_sound (G : EMat k k) (p : List Rat) (Z LZ : EMat k k) (hi : Rat)
    (h : checkUnambDual G p Z LZ = some hi) :
    ∀ q : Fin k → ℝ, UnambFeasible G.toM q → ∑ i, rats k p i * q i ≤ (hi : ℝ) := by
  rw [checkUnambDual, Option.ite_none_right_eq_some] at h
  obtain ⟨hZ, hv⟩ := checkUnambDualFn_sound _ _ _ _ _ h.2
  intro q hq
  rw [← hv]
  exact unamb_weak_duality G.toM Z.toM (rats k p) q hq hZ

/-- Accepted primal and dual certificates bracket the optimum. -/
theorem unamb_lo_le_hi (G : EMat k k) (p q : List Rat) (L Z LZ : EMat k k) (lo hi : Rat)
    (hlo : checkUnambPrimal G p q L = some lo) (hhi : checkUnambDual G p Z LZ = some hi) :
    (lo : ℝ) ≤ (hi : ℝ) := by
  obtain ⟨-, -, hq, hv⟩ := checkUnambPrimal_sound G p q L lo hlo
  rw [← hv]
  exact checkUnambDual_sound G p Z LZ hi hhi _ hq

/-! The checkers accept concrete instances: `|0⟩⟨0|` and `|+⟩⟨+|` with equal priors (optimum `(1 + 1/√2)/2 ≈ 0.8536`): an
explicit rational POVM with value `17/20` and a dual point with value `87/100`; and a complex Gram matrix with overlap
`3i/5` (optimum `2/5`, attained by both certificates). -/

section

private def c2 (a b c d : QI) : EMat 2 2 := EMat.ofRows #[#[a, b], #[c, d]] 2 2
private def r2 (a b c d : Rat) : EMat 2 2 := c2 ⟨a, 0⟩ ⟨b, 0⟩ ⟨c, 0⟩ ⟨d, 0⟩

private def exEns : Ensemble 2 := ⟨[r2 1 0 0 0, r2 (1/2) (1/2) (1/2) (1/2)], [1/2, 1/2]⟩

example : checkMinErrPrimal exEns
    [r2 (17/20) (-7/20) (-7/20) (3/20), r2 (3/20) (7/20) (7/20) (17/20)]
    [r2 (23/25) 0 (-35/92) 0, r2 0 (35/92) 0 (23/25)] = some (17/20) := by decide +kernel

example : checkMinErrDual exEns (r2 (14/25) (1/8) (1/8) (31/100))
    [r2 (6/25) 0 (25/48) 0, r2 0 (-25/48) 0 (6/25)] = some (87/100) := by decide +kernel

private def exG : EMat 2 2 := c2 ⟨1, 0⟩ ⟨0, 3/5⟩ ⟨0, -3/5⟩ ⟨1, 0⟩

example : checkUnambPrimal exG [1/2, 1/2] [2/5, 2/5] (c2 ⟨3/4, 0⟩ ⟨0, 0⟩ ⟨0, -3/4⟩ ⟨0, 0⟩)
    = some (2/5) := by decide +kernel

example : checkUnambDual exG [1/2, 1/2] (c2 ⟨1/2, 0⟩ ⟨0, -1/2⟩ ⟨0, 1/2⟩ ⟨1/2, 0⟩)
    (c2 ⟨7/10, 0⟩ ⟨0, 0⟩ ⟨0, 7/10⟩ ⟨0, 0⟩) = some (2/5) := by decide +kernel

end

/-- the set of success probabilities attained by measurements on the ensemble `(ρ, p)`; the
minimum-error discrimination value is its supremum -/
def minErrValues (ρ : Fin k → Matrix (Fin d) (Fin d) ℂ) (p : Fin k → ℝ) : Set ℝ :=
  {v | ∃ M : Fin k → Matrix (Fin d) (Fin d) ℂ, IsPOVM M ∧ successProb ρ p M = v}

/-- the set of objective values of feasible points of the unambiguous (Gram-form) program -/
def unambValues (G : Matrix (Fin k) (Fin k) ℂ) (p : Fin k → ℝ) : Set ℝ :=
  {v | ∃ q : Fin k → ℝ, UnambFeasible G q ∧ ∑ i, p i * q i = v}

/-- The success probability of every measurement is non-negative (states PSD, priors `≥ 0`). -/
theorem minErr_nonneg (ρ : Fin k → Matrix (Fin d) (Fin d) ℂ) (p : Fin k → ℝ)
    (M : Fin k → Matrix (Fin d) (Fin d) ℂ) (hρ : ∀ i, (ρ i).PosSemidef) (hp : ∀ i, 0 ≤ p i)
    (hM : IsPOVM M) : 0 ≤ successProb ρ p M :=
  me_nonneg ρ p M hρ hp hM.1

/-- **At least the largest prior.**  For a unit-trace state `ρ_j` the measurement "always answer `j`"
(`M_j = 1`, the others `0`) is a POVM with success probability exactly `p_j`; hence the optimum is at least
every prior, in particular the largest one. -/
theorem minErr_ge_prior (ρ : Fin k → Matrix (Fin d) (Fin d) ℂ) (p : Fin k → ℝ) (j : Fin k)
    (hj : (ρ j).trace = 1) :
    ∃ M : Fin k → Matrix (Fin d) (Fin d) ℂ, IsPOVM M ∧ successProb ρ p M = p j :=
  ⟨meConstPovm j, Toq.Rand.isPOVM_const j, meConstPovm_value_of_trace_one ρ p j hj⟩

/-- Consequently every dual-feasible `Y` – in particular every upper bound `hi` accepted by the dual checker –
has `Re tr Y ≥ p_j` for every unit-trace state `ρ_j`. -/
theorem minErr_dual_ge_prior (ρ : Fin k → Matrix (Fin d) (Fin d) ℂ) (p : Fin k → ℝ) (j : Fin k)
    (hj : (ρ j).trace = 1) (Y : Matrix (Fin d) (Fin d) ℂ) (hY : MinErrDualFeasible ρ p Y) :
    p j ≤ Y.trace.re := by
  obtain ⟨M, hM, hv⟩ := minErr_ge_prior ρ p j hj
  rw [← hv]
  exact minErr_weak_duality ρ p M Y hM hY

/-- For PSD states and non-negative priors the average state `Y = Σ_j p_j ρ_j` is dual feasible. -/
theorem minErr_sum_dual_feasible (ρ : Fin k → Matrix (Fin d) (Fin d) ℂ) (p : Fin k → ℝ)
    (hρ : ∀ i, (ρ i).PosSemidef) (hp : ∀ i, 0 ≤ p i) :
    MinErrDualFeasible ρ p (∑ j, (p j : ℂ) • ρ j) := fun i => by
  rw [← Finset.sum_erase_eq_sub (Finset.mem_univ i)]
  exact Matrix.posSemidef_sum _ fun j _ => (hρ j).smul_ofReal (hp j)

/-- **At most one.**  For density operators (PSD, unit trace) and a probability vector `p`, every measurement
succeeds with probability at most `1` (dual certificate `Y = Σ_j p_j ρ_j`, `tr Y = 1`). -/
theorem minErr_le_one (ρ : Fin k → Matrix (Fin d) (Fin d) ℂ) (p : Fin k → ℝ)
    (M : Fin k → Matrix (Fin d) (Fin d) ℂ) (hρ : ∀ i, (ρ i).PosSemidef)
    (htr : ∀ i, (ρ i).trace = 1) (hp : ∀ i, 0 ≤ p i) (hsum : ∑ i, p i = 1) (hM : IsPOVM M) :
    successProb ρ p M ≤ 1 :=
  (minErr_weak_duality ρ p M _ hM (minErr_sum_dual_feasible ρ p hρ hp)).trans_eq
    (re_trace_ensemble_eq_one ρ p htr hsum)

/-- **Perfect discrimination with orthogonal projectors.**  Given Hermitian idempotents `Π_i` with
`Π_i Π_j = 0` (`i ≠ j`) and `ρ_i Π_i = ρ_i`, the measurement `M_i = Π_i` (`i ≠ j₀`),
`M_{j₀} = Π_{j₀} + (1 − Σ_l Π_l)` is a POVM with `ρ_i M_i = ρ_i`, so its success probability is
`Σ_i p_i Re tr ρ_i` (`= 1` for normalised states and priors). -/
theorem minErr_orthogonal_projectors (ρ Pr : Fin k → Matrix (Fin d) (Fin d) ℂ) (p : Fin k → ℝ)
    (j0 : Fin k) (hH : ∀ i, (Pr i).IsHermitian) (hI : ∀ i, Pr i * Pr i = Pr i)
    (hO : ∀ i j, i ≠ j → Pr i * Pr j = 0) (hρ : ∀ i, ρ i * Pr i = ρ i) :
    ∃ M : Fin k → Matrix (Fin d) (Fin d) ℂ, IsPOVM M ∧ (∀ i, ρ i * M i = ρ i) ∧
      successProb ρ p M = ∑ i, p i * (ρ i).trace.re := by
  have hrest : ∀ i, ρ i * (1 - ∑ l, Pr l) = 0 := fun i => by
    rw [Matrix.mul_sub, Matrix.mul_one, me_mul_sum_proj Pr hO (ρ i) i (hρ i), sub_self]
  have hmul : ∀ i, ρ i * meAbsorb Pr (1 - ∑ l, Pr l) j0 i = ρ i := fun i => by rw [meAbsorb_mul (hrest i), hρ i]
  have hpovm : IsPOVM (meAbsorb Pr (1 - ∑ l, Pr l) j0) :=
    isPOVM_meAbsorb (fun i => Toq.Metrics.posSemidef_of_isHermitian_idem (hH i) (hI i)) (me_sum_proj_compl_psd Pr hH hI hO)
      (add_sub_cancel _ _) j0
  exact ⟨_, hpovm, hmul, Finset.sum_congr rfl fun i _ => by rw [hmul i]⟩

/-- **Mutually orthogonal states: value 1.**  For `k ≥ 1` Hermitian states with `ρ_i ρ_j = 0` for `i ≠ j`
(the projectors are the support projectors `ρ_i ρ_i⁺`, obtained from the functional calculus) some POVM
has `ρ_i M_i = ρ_i` for every `i` and success probability `Σ_i p_i Re tr ρ_i`. -/
theorem minErr_orthogonal_attained (ρ : Fin k → Matrix (Fin d) (Fin d) ℂ) (p : Fin k → ℝ)
    (j0 : Fin k) (hH : ∀ i, (ρ i).IsHermitian) (hO : ∀ i j, i ≠ j → ρ i * ρ j = 0) :
    ∃ M : Fin k → Matrix (Fin d) (Fin d) ℂ, IsPOVM M ∧ (∀ i, ρ i * M i = ρ i) ∧
      successProb ρ p M = ∑ i, p i * (ρ i).trace.re :=
  minErr_orthogonal_projectors ρ (fun i => (hH i).suppProj) p j0
    (fun i => (hH i).suppProj_isHermitian) (fun i => (hH i).suppProj_idem)
    (fun i j hij => (hH i).suppProj_mul_suppProj_of_mul_eq_zero (hH j) (hO i j hij)) (fun i => (hH i).mul_suppProj)

/-- **States outside an orthogonal part cannot hurt.**  If the states singled out by `S` are mutually orthogonal, some
measurement identifies every one of them with certainty, so its success probability is at least the prior mass
`Σ_{i ∈ S} p_i tr ρ_i` of that part — whatever the remaining states are (they may overlap everything). -/
theorem minErr_ge_orthogonal_part (ρ : Fin k → Matrix (Fin d) (Fin d) ℂ) (p : Fin k → ℝ)
    (S : Fin k → Prop) [DecidablePred S] (j0 : Fin k)
    (hρ : ∀ i, (ρ i).PosSemidef) (hp : ∀ i, 0 ≤ p i)
    (hO : ∀ i j, i ≠ j → S i → S j → ρ i * ρ j = 0) :
    ∃ M : Fin k → Matrix (Fin d) (Fin d) ℂ, IsPOVM M ∧
      (∑ i, if S i then p i * (ρ i).trace.re else 0) ≤ successProb ρ p M := by
  -- the states outside `S` are replaced by `0`, which is orthogonal to everything
  obtain ⟨M, hM, hkeep, -⟩ := minErr_orthogonal_attained (fun i => if S i then ρ i else 0) p j0
    (fun i => by
      split
      exacts [(hρ i).isHermitian, Matrix.isHermitian_zero])
    (fun i j hij => by
      split_ifs with hi hj
      exacts [hO i j hij hi hj, Matrix.mul_zero _, Matrix.zero_mul _, Matrix.zero_mul _])
  refine ⟨M, hM, Finset.sum_le_sum fun i _ => ?_⟩
  split_ifs with h
  · have := hkeep i
    rw [if_pos h] at this
    rw [this]
  · exact mul_nonneg (hp i) (psd_trace_mul_nonneg (hρ i) (hM.1 i))

/-- **Only the states that can occur matter: value exactly 1.**  For density operators and a probability vector such that
the states with NON-ZERO prior are mutually orthogonal, the optimum is exactly `1` — a listed state with prior `0` may be
non-orthogonal to all the others (`[|0⟩, |1⟩, |+⟩]` with prior `(1/2, 1/2, 0)`); `is_distinguishable(states, probs)` has to
answer `True` there (`sd_dist_test_true_of_near_one`), although the same states with the uniform prior are not
perfectly distinguishable. -/
theorem minErr_support_orthogonal_eq_one (ρ : Fin k → Matrix (Fin d) (Fin d) ℂ) (p : Fin k → ℝ)
    (hρ : ∀ i, (ρ i).PosSemidef) (htr : ∀ i, (ρ i).trace = 1) (hp : ∀ i, 0 ≤ p i)
    (hsum : ∑ i, p i = 1) (hO : ∀ i j, i ≠ j → p i ≠ 0 → p j ≠ 0 → ρ i * ρ j = 0) :
    IsGreatest (minErrValues ρ p) 1 := by
  constructor
  · obtain ⟨M, hM, hv⟩ := minErr_ge_orthogonal_part ρ p (fun i => p i ≠ 0) ⟨0, me_pos_of_sum_eq_one p hsum⟩ hρ hp hO
    refine ⟨M, hM, le_antisymm (minErr_le_one ρ p M hρ htr hp hsum hM) ?_⟩
    refine le_trans (le_of_eq ?_) hv
    rw [← hsum]
    refine Finset.sum_congr rfl fun i _ => ?_
    by_cases h : p i = 0 <;> simp [h, htr]
  · exact mem_upperBounds_values.mpr fun M hM => minErr_le_one ρ p M hρ htr hp hsum hM

/-- **Mutually orthogonal density operators with a probability vector: the optimum is exactly 1** (it is
attained, and no measurement exceeds it). -/
theorem minErr_orthogonal_eq_one (ρ : Fin k → Matrix (Fin d) (Fin d) ℂ) (p : Fin k → ℝ)
    (hρ : ∀ i, (ρ i).PosSemidef) (htr : ∀ i, (ρ i).trace = 1) (hp : ∀ i, 0 ≤ p i)
    (hsum : ∑ i, p i = 1) (hO : ∀ i j, i ≠ j → ρ i * ρ j = 0) :
    IsGreatest (minErrValues ρ p) 1 :=
  minErr_support_orthogonal_eq_one ρ p hρ htr hp hsum fun i j hij _ _ => hO i j hij

/-- the ensemble or the measurement rotated by a common `U` -/
def rot (U : Matrix (Fin d) (Fin d) ℂ) (A : Fin k → Matrix (Fin d) (Fin d) ℂ) :
    Fin k → Matrix (Fin d) (Fin d) ℂ := fun i => U * A i * Uᴴ

/-- Conjugating the states and the measurement by the same unitary `U` maps POVMs to POVMs and preserves
the success probability. -/
theorem minErr_unitary_invariant (U : Matrix (Fin d) (Fin d) ℂ)
    (hU : U ∈ Matrix.unitaryGroup (Fin d) ℂ) (ρ : Fin k → Matrix (Fin d) (Fin d) ℂ) (p : Fin k → ℝ)
    (M : Fin k → Matrix (Fin d) (Fin d) ℂ) (hM : IsPOVM M) :
    IsPOVM (rot U M) ∧ successProb (rot U ρ) p (rot U M) = successProb ρ p M :=
  ⟨Toq.Rand.IsPOVM.conj hM (Unitary.mul_star_self_of_mem hU),
    Toq.Rand.successProb_conj ρ M p (Unitary.star_mul_self_of_mem hU)⟩

/-- **Unitary invariance of the value.**  The set of success probabilities attained by POVMs is the same for
the rotated ensemble `U ρ_i Uᴴ` and for the original one (`M ↦ U M Uᴴ` is a bijection of the feasible
set); in particular the optima agree. -/
theorem minErr_values_unitary_invariant (U : Matrix (Fin d) (Fin d) ℂ)
    (hU : U ∈ Matrix.unitaryGroup (Fin d) ℂ) (ρ : Fin k → Matrix (Fin d) (Fin d) ℂ) (p : Fin k → ℝ) :
    minErrValues (rot U ρ) p = minErrValues ρ p :=
  Toq.Rand.successValues_conj ρ p hU

/-- Relabelling states, priors and measurement operators by the same permutation `σ` maps POVMs to POVMs
and preserves the success probability. -/
theorem minErr_relabel_invariant (σ : Equiv.Perm (Fin k)) (ρ : Fin k → Matrix (Fin d) (Fin d) ℂ)
    (p : Fin k → ℝ) (M : Fin k → Matrix (Fin d) (Fin d) ℂ) (hM : IsPOVM M) :
    IsPOVM (M ∘ σ) ∧ successProb (ρ ∘ σ) (p ∘ σ) (M ∘ σ) = successProb ρ p M :=
  ⟨Toq.Rand.IsPOVM.comp_equiv hM σ, Toq.Rand.successProb_comp_equiv ρ M p σ⟩

/-- **Relabelling invariance of the value.**  The set of attained success probabilities of the relabelled
ensemble `(ρ ∘ σ, p ∘ σ)` equals that of `(ρ, p)`; in particular the optima agree. -/
theorem minErr_values_relabel_invariant (σ : Equiv.Perm (Fin k))
    (ρ : Fin k → Matrix (Fin d) (Fin d) ℂ) (p : Fin k → ℝ) :
    minErrValues (ρ ∘ σ) (p ∘ σ) = minErrValues ρ p :=
  Toq.Rand.successValues_comp_perm ρ p σ

/-- **The pretty good measurement is a POVM, so its success probability is below every dual bound.**  For PSD
states, priors `≥ 0` and a Hermitian `S` with `S (Σ_i p_i ρ_i) S = 1` (`S = (Σ_i p_i ρ_i)^{-1/2}`), the
operators `S (p_i ρ_i) S` form a POVM; its success probability is therefore a member of `minErrValues` and is
at most `Re tr Y` for every dual-feasible `Y` (in particular at most every accepted `hi`). -/
theorem pgm_le_dual (ρ : Fin k → Matrix (Fin d) (Fin d) ℂ) (p : Fin k → ℝ)
    (S : Matrix (Fin d) (Fin d) ℂ) (hρ : ∀ i, (ρ i).PosSemidef) (hp : ∀ i, 0 ≤ p i) (hS : Sᴴ = S)
    (hSPS : S * (∑ i, (p i : ℂ) • ρ i) * S = 1) :
    IsPOVM (fun i => S * ((p i : ℂ) • ρ i) * S) ∧
      ∀ Y, MinErrDualFeasible ρ p Y →
        successProb ρ p (fun i => S * ((p i : ℂ) • ρ i) * S) ≤ Y.trace.re := by
  have hP : IsPOVM (fun i => S * ((p i : ℂ) • ρ i) * S) := Toq.Rand.pgm_is_povm ρ p S hρ hp hS hSPS
  exact ⟨hP, fun Y hY => minErr_weak_duality ρ p _ Y hP hY⟩

/-- **Helstrom, upper half.**  For two states and any decomposition `p₀ρ₀ − p₁ρ₁ = P − Q` with `P, Q ⪰ 0`
the operator `Y = p₁ρ₁ + P` (`= p₀ρ₀ + Q`) is dual feasible; hence every measurement succeeds with
probability at most `p₁ Re tr ρ₁ + Re tr P`. -/
theorem helstrom_upper (ρ : Fin 2 → Matrix (Fin d) (Fin d) ℂ) (p : Fin 2 → ℝ)
    (P Q : Matrix (Fin d) (Fin d) ℂ) (hP : P.PosSemidef) (hQ : Q.PosSemidef)
    (hPQ : (p 0 : ℂ) • ρ 0 - (p 1 : ℂ) • ρ 1 = P - Q)
    (M : Fin 2 → Matrix (Fin d) (Fin d) ℂ) (hM : IsPOVM M) :
    successProb ρ p M ≤ p 1 * (ρ 1).trace.re + P.trace.re := by
  have hY : MinErrDualFeasible ρ p ((p 1 : ℂ) • ρ 1 + P) := by
    refine Fin.forall_fin_two.mpr ⟨?_, ?_⟩
    · have e : (p 1 : ℂ) • ρ 1 + P - (p 0 : ℂ) • ρ 0 = Q := by
        have : (p 0 : ℂ) • ρ 0 = (p 1 : ℂ) • ρ 1 + (P - Q) := by rw [← hPQ]; abel
        rw [this]; abel
      rw [e]; exact hQ
    · have e : (p 1 : ℂ) • ρ 1 + P - (p 1 : ℂ) • ρ 1 = P := by abel
      rw [e]; exact hP
  have := minErr_weak_duality ρ p M _ hM hY
  rwa [Matrix.trace_add, Complex.add_re, Matrix.re_trace_smul] at this

/-- **Helstrom, lower half.**  For every test `0 ⪯ E ⪯ 1` the pair `(E, 1 − E)` is a POVM with success
probability `p₁ Re tr ρ₁ + Re tr((p₀ρ₀ − p₁ρ₁) E)`.  (With `E` the projector on the positive part `P` of
`p₀ρ₀ − p₁ρ₁` this is the bound of `helstrom_upper`.) -/
theorem helstrom_lower (ρ : Fin 2 → Matrix (Fin d) (Fin d) ℂ) (p : Fin 2 → ℝ)
    (E : Matrix (Fin d) (Fin d) ℂ) (hE : E.PosSemidef) (hE' : (1 - E).PosSemidef) :
    IsPOVM ![E, 1 - E] ∧
      successProb ρ p ![E, 1 - E]
        = p 1 * (ρ 1).trace.re + (((p 0 : ℂ) • ρ 0 - (p 1 : ℂ) • ρ 1) * E).trace.re := by
  refine ⟨⟨Fin.forall_fin_two.mpr ⟨hE, hE'⟩, ?_⟩, ?_⟩
  · rw [Fin.sum_univ_two]
    exact add_sub_cancel E 1
  · rw [successProb, Fin.sum_univ_two]
    show p 0 * (ρ 0 * E).trace.re + p 1 * (ρ 1 * (1 - E)).trace.re = _
    rw [Matrix.sub_mul, Matrix.trace_sub, Complex.sub_re, re_trace_smul_mul, re_trace_smul_mul, Matrix.mul_sub, Matrix.mul_one,
      Matrix.trace_sub, Complex.sub_re]
    ring

/-- **Helstrom formula.**  For two Hermitian states the attainable success probabilities are exactly the
numbers `½(p₀ tr ρ₀ + p₁ tr ρ₁) + ½ Re tr(W (p₀ρ₀ − p₁ρ₁))` with `W` a contraction (`−1 ⪯ W ⪯ 1`; the
measurement is `((1+W)/2, (1−W)/2)`), so their least upper bound – the minimum-error value – is
`½(p₀ tr ρ₀ + p₁ tr ρ₁) + ½ ‖p₀ρ₀ − p₁ρ₁‖₁`, with the trace norm in the max form of C13
(`Toq.C13.traceNorm = Toq.Metrics.traceNormV`); for normalised states and priors: `½ + ½ ‖p₀ρ₀ − p₁ρ₁‖₁`. -/
theorem helstrom_isLUB (ρ : Fin 2 → Matrix (Fin d) (Fin d) ℂ) (p : Fin 2 → ℝ)
    (hρ : ∀ i, (ρ i).IsHermitian) :
    IsLUB (minErrValues ρ p)
      ((p 0 * (ρ 0).trace.re + p 1 * (ρ 1).trace.re) / 2
        + Toq.Metrics.traceNormV ((p 0 : ℂ) • ρ 0 - (p 1 : ℂ) • ρ 1) / 2) :=
  isLUB_successValues_two ρ p hρ

/-- **Helstrom formula, normalised.**  For two unit-trace Hermitian states and priors `p₀ + p₁ = 1` the
minimum-error value (least upper bound of the attainable success probabilities) is `½ + ½ ‖p₀ρ₀ − p₁ρ₁‖₁`. -/
theorem helstrom_isLUB_normalised (ρ : Fin 2 → Matrix (Fin d) (Fin d) ℂ) (p : Fin 2 → ℝ)
    (hρ : ∀ i, (ρ i).IsHermitian) (htr : ∀ i, (ρ i).trace = 1) (hp : p 0 + p 1 = 1) :
    IsLUB (minErrValues ρ p)
      (1 / 2 + Toq.Metrics.traceNormV ((p 0 : ℂ) • ρ 0 - (p 1 : ℂ) • ρ 1) / 2) := by
  have := helstrom_isLUB ρ p hρ
  rwa [htr, htr, Complex.one_re, mul_one, mul_one, hp] at this

/-- `q = 0` is feasible for a PSD Gram matrix: the unambiguous value is `≥ 0`. -/
theorem unamb_zero_feasible (G : Matrix (Fin k) (Fin k) ℂ) (hG : G.PosSemidef) :
    UnambFeasible G (fun _ => 0) :=
  ⟨fun _ => le_refl _, by simpa using hG⟩

/-- For priors `≥ 0` the dual point `Z = diag p` shows `Σ_i p_i q_i ≤ Σ_i p_i Re G_ii` for every feasible `q`
(`= Σ_i p_i ≤ 1` for unit vectors). -/
theorem unamb_le_sum_prior (G : Matrix (Fin k) (Fin k) ℂ) (p q : Fin k → ℝ) (hp : ∀ i, 0 ≤ p i)
    (hq : UnambFeasible G q) : ∑ i, p i * q i ≤ ∑ i, p i * (G i i).re := by
  have h := unamb_weak_duality G _ p q hq (uaDualFeasible_diagonal p hp)
  rwa [Matrix.trace_mul_comm, Matrix.re_trace_diagonal_ofReal_mul] at h

/-- **Linearly dependent states cannot be identified unambiguously.**  If the Gram matrix has a kernel vector
`c` (`G c = 0`, i.e. `Σ_i c_i |ψ_i⟩ = 0`) with `c_j ≠ 0` – state `j` lies in the span of the others – then every
feasible `q` has `q_j = 0`. -/
theorem unamb_zero_of_dependent (G : Matrix (Fin k) (Fin k) ℂ) (q : Fin k → ℝ) (c : Fin k → ℂ)
    (hq : UnambFeasible G q) (hc : G *ᵥ c = 0) (j : Fin k) (hj : c j ≠ 0) : q j = 0 :=
  ua_zero_of_kernel G q c hq hc j hj

/-- The same for the Gram matrix `VᴴV` of the columns of `V`: a linear relation `V c = 0` with `c_j ≠ 0`
forces `q_j = 0`. -/
theorem unamb_zero_of_dependent_vectors (V : Matrix (Fin d) (Fin k) ℂ) (q : Fin k → ℝ)
    (c : Fin k → ℂ) (hq : UnambFeasible (Vᴴ * V) q) (hc : V *ᵥ c = 0) (j : Fin k) (hj : c j ≠ 0) :
    q j = 0 := by
  refine unamb_zero_of_dependent (Vᴴ * V) q c hq ?_ j hj
  rw [← Matrix.mulVec_mulVec, hc, Matrix.mulVec_zero]

/-- If every state is dependent on the others (for every `j` some kernel vector has `c_j ≠ 0`), the
unambiguous value vanishes: every feasible point has objective `0`. -/
theorem unamb_value_zero_of_all_dependent (G : Matrix (Fin k) (Fin k) ℂ) (p q : Fin k → ℝ)
    (hq : UnambFeasible G q) (hdep : ∀ j, ∃ c : Fin k → ℂ, G *ᵥ c = 0 ∧ c j ≠ 0) :
    ∑ i, p i * q i = 0 := by
  refine Finset.sum_eq_zero fun j _ => ?_
  obtain ⟨c, hc, hj⟩ := hdep j
  rw [unamb_zero_of_dependent G q c hq hc j hj, mul_zero]

/-- Gram matrix of two unit vectors with overlap `s = ⟨ψ|φ⟩` -/
def gram2 (s : ℂ) : Matrix (Fin 2) (Fin 2) ℂ := !![1, s; (starRingEnd ℂ) s, 1]

/-- **Two equiprobable pure states: value `1 − |⟨ψ|φ⟩|`.**  For the Gram matrix of two unit vectors with
overlap `s` (`|s| ≤ 1`) and priors `(½, ½)`: `q = (1 − |s|, 1 − |s|)` is feasible with objective `1 − |s|`, and the
dual point `Z = ½ [[1, −u], [−ū, 1]]`, `u = s/|s|`, shows that no feasible point does better. -/
theorem unamb_two_states (s : ℂ) (hs : ‖s‖ ≤ 1) :
    IsGreatest (unambValues (gram2 s) fun _ => 1 / 2) (1 - ‖s‖) := by
  have hn := norm_nonneg s
  exact ua_two_isGreatest s (fun _ => 1 / 2)
    -- the primal point, in `[0, 1]²` with `|s|² ≤ (1 − q₀)(1 − q₁)`
    (q0 := 1 - ‖s‖) (q1 := 1 - ‖s‖)
    (h0 := sub_nonneg.mpr hs) (h0' := sub_le_self _ hn) (h1 := sub_nonneg.mpr hs) (h1' := sub_le_self _ hn)
    (hq := by rw [sub_sub_cancel, sq])
    -- the dual point, with `x ≥ p₀`, `y ≥ p₁`, `t² ≤ xy`
    (x := 1 / 2) (y := 1 / 2) (t := 1 / 2)
    (hx := by norm_num) (hy := by norm_num) (hpx := le_rfl) (hpy := le_rfl) (ht := by norm_num)
    -- both have the value `1 − |s|`
    (hv := by ring) (hv' := by ring)

/-- The same for two unit vectors given as the columns of `V` (Gram matrix `VᴴV`, overlap
`s = (VᴴV)₀₁ = ⟨ψ|φ⟩`; `|s| ≤ 1` is Cauchy–Schwarz): the unambiguous value for equal priors is `1 − |⟨ψ|φ⟩|`. -/
theorem unamb_two_unit_vectors (V : Matrix (Fin d) (Fin 2) ℂ) (h0 : (Vᴴ * V) 0 0 = 1)
    (h1 : (Vᴴ * V) 1 1 = 1) :
    IsGreatest (unambValues (Vᴴ * V) fun _ => 1 / 2) (1 - ‖(Vᴴ * V) 0 1‖) := by
  have hG : (Vᴴ * V).PosSemidef := Matrix.posSemidef_conjTranspose_mul_self V
  have e : Vᴴ * V = gram2 ((Vᴴ * V) 0 1) := ua_gram2_eq _ hG.isHermitian h0 h1
  have hs : ‖(Vᴴ * V) 0 1‖ ≤ 1 :=
    hG.norm_apply_le 1 (Fin.forall_fin_two.mpr ⟨by rw [h0, Complex.one_re], by rw [h1, Complex.one_re]⟩) 0 1
  have := unamb_two_states ((Vᴴ * V) 0 1) hs
  rwa [← e] at this

section

/-- hypotheses of `minErr_orthogonal_eq_one` / `helstrom_upper`: `|0⟩⟨0|`, `|1⟩⟨1|` with priors `(1/4, 3/4)`;
`p₀ρ₀ − p₁ρ₁ = P − Q` with `P = diag(1/4, 0)`, `Q = diag(0, 3/4)` -/
example : let ρ : Fin 2 → Matrix (Fin 2) (Fin 2) ℂ := fun i => Matrix.diagonal fun j => if j = i then 1 else 0
    let p : Fin 2 → ℝ := ![1 / 4, 3 / 4]
    (∀ i, (ρ i).PosSemidef) ∧ (∀ i, (ρ i).trace = 1) ∧ (∀ i, 0 ≤ p i) ∧ ∑ i, p i = 1 ∧
      (∀ i j, i ≠ j → ρ i * ρ j = 0) ∧
      (p 0 : ℂ) • ρ 0 - (p 1 : ℂ) • ρ 1
        = Matrix.diagonal ![(1 / 4 : ℂ), 0] - Matrix.diagonal ![(0 : ℂ), 3 / 4] := by
  intro ρ p
  refine ⟨Toq.Rand.isPOVM_basis.1, fun i => ?_, ?_, ?_, fun i j hij => ?_, ?_⟩
  · show (Matrix.diagonal fun j => if j = i then (1 : ℂ) else 0).trace = 1
    rw [Matrix.trace_diagonal, Finset.sum_ite_eq' Finset.univ i, if_pos (Finset.mem_univ i)]
  · exact Fin.forall_fin_two.mpr ⟨by norm_num [p], by norm_num [p]⟩
  · rw [Fin.sum_univ_two]; norm_num [p]
  · show (Matrix.diagonal fun l => if l = i then (1 : ℂ) else 0) * (Matrix.diagonal fun l => if l = j then (1 : ℂ) else 0) = 0
    rw [Matrix.diagonal_mul_diagonal, ← Matrix.diagonal_zero]
    refine congrArg _ (funext fun l => ?_)
    by_cases hl : l = i
    · rw [if_neg (fun h => hij (hl.symm.trans h)), mul_zero]
    · rw [if_neg hl, zero_mul]
  · show ((1 / 4 : ℝ) : ℂ) • Matrix.diagonal (fun j : Fin 2 => if j = 0 then (1 : ℂ) else 0)
        - ((3 / 4 : ℝ) : ℂ) • Matrix.diagonal (fun j : Fin 2 => if j = 1 then (1 : ℂ) else 0) = _
    rw [← Matrix.diagonal_smul, ← Matrix.diagonal_smul, Matrix.diagonal_sub, Matrix.diagonal_sub]
    refine congrArg _ (funext fun l => ?_)
    fin_cases l <;> norm_num

/-- hypotheses of `unamb_value_zero_of_all_dependent`: `ψ₀ = ψ₁` (Gram matrix all ones, kernel vector `(1, −1)`) -/
example : let G : Matrix (Fin 2) (Fin 2) ℂ := !![1, 1; 1, 1]
    UnambFeasible G (fun _ => 0) ∧ ∀ j, ∃ c : Fin 2 → ℂ, G *ᵥ c = 0 ∧ c j ≠ 0 := by
  intro G
  constructor
  · refine unamb_zero_feasible G ?_
    have := ua_psd_two 1 1 (by simp)
    simpa [G] using this
  · intro j
    refine ⟨![1, -1], ?_, ?_⟩
    · ext i; fin_cases i <;> simp [G, Matrix.mulVec, dotProduct, Fin.sum_univ_two]
    · fin_cases j <;> simp

/-- hypothesis of `unamb_two_states`: overlap `3i/5` (value `2/5`, cf. the checker example above) -/
example : ‖(⟨0, 3 / 5⟩ : ℂ)‖ ≤ 1 := by
  have : (⟨0, 3 / 5⟩ : ℂ) = ((3 / 5 : ℝ) : ℂ) * Complex.I := by
    apply Complex.ext <;> simp
  rw [this, norm_mul, Complex.norm_I, Complex.norm_real]
  norm_num

end

/-- the set of objective values `Re tr Y` of dual-feasible operators -/
def minErrDualValues (ρ : Fin k → Matrix (Fin d) (Fin d) ℂ) (p : Fin k → ℝ) : Set ℝ :=
  {v | ∃ Y : Matrix (Fin d) (Fin d) ℂ, MinErrDualFeasible ρ p Y ∧ Y.trace.re = v}

/-- `Γ = Σ_i p_i ρ_i M_i`, the Lagrange operator of a measurement -/
def lagrangeOp (ρ : Fin k → Matrix (Fin d) (Fin d) ℂ) (p : Fin k → ℝ)
    (M : Fin k → Matrix (Fin d) (Fin d) ℂ) : Matrix (Fin d) (Fin d) ℂ :=
  ∑ i, ((p i : ℂ) • ρ i) * M i

/-- `M` attains the minimum-error value: no measurement succeeds more often -/
def IsOptimalMeasurement (ρ : Fin k → Matrix (Fin d) (Fin d) ℂ) (p : Fin k → ℝ)
    (M : Fin k → Matrix (Fin d) (Fin d) ℂ) : Prop :=
  IsPOVM M ∧ ∀ M', IsPOVM M' → successProb ρ p M' ≤ successProb ρ p M

/-- The success probability is the generic linear functional `Σ_i Re tr(A_i M_i)` of `Toq.Proofs.Povm` at the weighted
states `A_i = p_i ρ_i` (the bridge through which the index-type generic results are applied here). -/
theorem successProb_eq_meVal (ρ : Fin k → Matrix (Fin d) (Fin d) ℂ) (p : Fin k → ℝ)
    (M : Fin k → Matrix (Fin d) (Fin d) ℂ) :
    successProb ρ p M = meVal (fun i => (p i : ℂ) • ρ i) M :=
  (meVal_smul ρ p M).symm

/-- Real multiples of Hermitian states are Hermitian (the only property of `p_i ρ_i` the duality theorems use). -/
theorem weighted_hermitian (ρ : Fin k → Matrix (Fin d) (Fin d) ℂ) (p : Fin k → ℝ)
    (hρ : ∀ i, (ρ i).IsHermitian) (i : Fin k) : ((p i : ℂ) • ρ i)ᴴ = (p i : ℂ) • ρ i :=
  (hρ i).smul_ofReal (p i)

/-- **The optimum is attained.**  For `k ≥ 1` states (no assumption on `ρ`, `p`) some measurement succeeds at least as
often as every other one: the minimum-error value is a maximum, not only a supremum. -/
theorem minErr_max_attained (ρ : Fin k → Matrix (Fin d) (Fin d) ℂ) (p : Fin k → ℝ) (hk : 0 < k) :
    ∃ M, IsOptimalMeasurement ρ p M := by
  have : Nonempty (Fin k) := ⟨⟨0, hk⟩⟩
  obtain ⟨M, hM, hopt⟩ := me_max_attained (fun i => (p i : ℂ) • ρ i)
  refine ⟨M, hM, fun M' hM' => ?_⟩
  rw [successProb_eq_meVal, successProb_eq_meVal]
  exact hopt M' hM'

/-- The set of attainable success probabilities has a greatest element (`k ≥ 1`). -/
theorem minErr_values_has_greatest (ρ : Fin k → Matrix (Fin d) (Fin d) ℂ) (p : Fin k → ℝ) (hk : 0 < k) :
    ∃ v, IsGreatest (minErrValues ρ p) v := by
  obtain ⟨M, hM, hopt⟩ := minErr_max_attained ρ p hk
  exact ⟨successProb ρ p M, (isGreatest_values_iff hM).mpr hopt⟩

/-- **The duality gap.**  For operators `M_i` summing to the identity and any `Y`:
`Re tr Y − Σ_i p_i Re tr(ρ_i M_i) = Σ_i Re tr((Y − p_i ρ_i) M_i)`; for a measurement and a dual-feasible `Y` every term on the
right is non-negative. -/
theorem minErr_gap_eq (ρ : Fin k → Matrix (Fin d) (Fin d) ℂ) (p : Fin k → ℝ)
    (M : Fin k → Matrix (Fin d) (Fin d) ℂ) (Y : Matrix (Fin d) (Fin d) ℂ) (hsum : ∑ i, M i = 1) :
    Y.trace.re - successProb ρ p M = ∑ i, ((Y - (p i : ℂ) • ρ i) * M i).trace.re := by
  rw [successProb_eq_meVal]
  exact me_gap_eq _ M Y hsum

/-- **Primal and dual agree exactly under complementary slackness.**  For a measurement `M` and a dual-feasible `Y`: the
success probability of `M` equals `Re tr Y` iff `(Y − p_i ρ_i) M_i = 0` for every `i`. -/
theorem minErr_primal_eq_dual_iff (ρ : Fin k → Matrix (Fin d) (Fin d) ℂ) (p : Fin k → ℝ)
    (M : Fin k → Matrix (Fin d) (Fin d) ℂ) (Y : Matrix (Fin d) (Fin d) ℂ) (hM : IsPOVM M)
    (hY : MinErrDualFeasible ρ p Y) :
    successProb ρ p M = Y.trace.re ↔ ∀ i, (Y - (p i : ℂ) • ρ i) * M i = 0 := by
  rw [successProb_eq_meVal]
  exact me_zero_gap_iff hM hY

/-- **Optimality certificate.**  If a measurement `M` and a dual-feasible `Y` satisfy complementary slackness, `Re tr Y` is
the greatest attainable success probability (attained by `M`) and the least dual value (attained by `Y`). -/
theorem minErr_optimal_of_slackness (ρ : Fin k → Matrix (Fin d) (Fin d) ℂ) (p : Fin k → ℝ)
    (M : Fin k → Matrix (Fin d) (Fin d) ℂ) (Y : Matrix (Fin d) (Fin d) ℂ) (hM : IsPOVM M)
    (hY : MinErrDualFeasible ρ p Y) (hs : ∀ i, (Y - (p i : ℂ) • ρ i) * M i = 0) :
    IsGreatest (minErrValues ρ p) Y.trace.re ∧ IsLeast (minErrDualValues ρ p) Y.trace.re :=
  isGreatest_isLeast_of_weak hM hY ((minErr_primal_eq_dual_iff ρ p M Y hM hY).mpr hs)
    fun M' hM' Y' hY' => minErr_weak_duality ρ p M' Y' hM' hY'

/-- **Strong duality with attainment on both sides.**  For `k ≥ 1` Hermitian states and real priors there are a measurement
`M` and a Hermitian dual-feasible operator `Y` (`Y ⪰ p_i ρ_i` for all `i`) with `Σ_i p_i Re tr(ρ_i M_i) = Re tr Y`.  (`Y` is the
Hermitian part of `Σ_i p_i ρ_i M_i` at a maximiser `M`; were `Y − p_j ρ_j` not PSD, moving `M` by
`M_i ↦ (1 − t xx†) M_i (1 − t xx†) + δ_ij t(2 − t‖x‖²) xx†` along a negative direction `x` would increase the value.) -/
theorem minErr_strong_duality (ρ : Fin k → Matrix (Fin d) (Fin d) ℂ) (p : Fin k → ℝ)
    (hρ : ∀ i, (ρ i).IsHermitian) (hk : 0 < k) :
    ∃ (M : Fin k → Matrix (Fin d) (Fin d) ℂ) (Y : Matrix (Fin d) (Fin d) ℂ),
      IsPOVM M ∧ Y.IsHermitian ∧ MinErrDualFeasible ρ p Y ∧ successProb ρ p M = Y.trace.re := by
  have : Nonempty (Fin k) := ⟨⟨0, hk⟩⟩
  obtain ⟨M, Y, hM, hYh, hY, hv⟩ := me_strong_duality_gen (fun i => (p i : ℂ) • ρ i) (weighted_hermitian ρ p hρ)
  exact ⟨M, Y, hM, hYh, hY, by rw [successProb_eq_meVal]; exact hv⟩

/-- **Primal and dual formulations agree.**  For `k ≥ 1` Hermitian states: one number `v` is at the same time the greatest
success probability attained by a measurement and the least value `Re tr Y` of a dual-feasible operator. -/
theorem minErr_primal_dual_agree (ρ : Fin k → Matrix (Fin d) (Fin d) ℂ) (p : Fin k → ℝ)
    (hρ : ∀ i, (ρ i).IsHermitian) (hk : 0 < k) :
    ∃ v, IsGreatest (minErrValues ρ p) v ∧ IsLeast (minErrDualValues ρ p) v := by
  obtain ⟨M, Y, hM, -, hY, hv⟩ := minErr_strong_duality ρ p hρ hk
  exact ⟨Y.trace.re, minErr_optimal_of_slackness ρ p M Y hM hY
    ((minErr_primal_eq_dual_iff ρ p M Y hM hY).mp hv)⟩

/-- Consequently the certified intervals can be arbitrarily tight: the supremum of the lower bounds `successProb ρ p M`
equals the infimum of the upper bounds `Re tr Y`. -/
theorem minErr_sSup_eq_sInf (ρ : Fin k → Matrix (Fin d) (Fin d) ℂ) (p : Fin k → ℝ)
    (hρ : ∀ i, (ρ i).IsHermitian) (hk : 0 < k) :
    sSup (minErrValues ρ p) = sInf (minErrDualValues ρ p) := by
  obtain ⟨v, h1, h2⟩ := minErr_primal_dual_agree ρ p hρ hk
  rw [h1.csSup_eq, h2.csInf_eq]

/-- **Holevo–Yuen–Kennedy–Lax conditions.**  For Hermitian states, a measurement `M` attains the minimum-error value **iff**
its Lagrange operator `Γ = Σ_i p_i ρ_i M_i` is Hermitian and `Γ ⪰ p_j ρ_j` for every `j`.  (Then `Γ` is the optimal dual
operator and `Re tr Γ` the value.) -/
theorem minErr_hykl_iff (ρ : Fin k → Matrix (Fin d) (Fin d) ℂ) (p : Fin k → ℝ)
    (hρ : ∀ i, (ρ i).IsHermitian) (M : Fin k → Matrix (Fin d) (Fin d) ℂ) (hM : IsPOVM M) :
    IsOptimalMeasurement ρ p M ↔
      (lagrangeOp ρ p M).IsHermitian ∧ MinErrDualFeasible ρ p (lagrangeOp ρ p M) := by
  rw [IsOptimalMeasurement, and_iff_right hM]
  simp only [successProb_eq_meVal]
  exact me_hykl_iff_gen (weighted_hermitian ρ p hρ) hM

/-- `Re tr Γ` is the success probability of `M`, for every family `M` (so at an optimal measurement the Lagrange operator,
dual feasible by `minErr_hykl_iff`, attains the dual optimum). -/
theorem minErr_lagrange_value (ρ : Fin k → Matrix (Fin d) (Fin d) ℂ) (p : Fin k → ℝ)
    (M : Fin k → Matrix (Fin d) (Fin d) ℂ) : (lagrangeOp ρ p M).trace.re = successProb ρ p M := by
  rw [successProb_eq_meVal, meVal_eq_trace_gamma]
  rfl

/-- **Barnum–Knill: the pretty good measurement is nearly optimal.**  For PSD states, priors `≥ 0` and PSD `S` with
`S (Σ_i p_i ρ_i) S = 1`: every measurement `M` has `P(M)² ≤ P_pgm · Re tr(Σ_i p_i ρ_i)` (`= P_pgm` for normalised ensembles),
where `P_pgm` is the success probability of `S (p_i ρ_i) S`.  With `pgm_le_dual`: `P_opt² ≤ P_pgm ≤ P_opt`. -/
theorem minErr_sq_le_pgm (ρ : Fin k → Matrix (Fin d) (Fin d) ℂ) (p : Fin k → ℝ)
    (S : Matrix (Fin d) (Fin d) ℂ) (hρ : ∀ i, (ρ i).PosSemidef) (hp : ∀ i, 0 ≤ p i) (hS : S.PosSemidef)
    (hSPS : S * (∑ i, (p i : ℂ) • ρ i) * S = 1) (M : Fin k → Matrix (Fin d) (Fin d) ℂ) (hM : IsPOVM M) :
    successProb ρ p M ^ 2
      ≤ successProb ρ p (fun i => S * ((p i : ℂ) • ρ i) * S) * (∑ i, p i * (ρ i).trace.re) := by
  have h := Toq.Rand.barnum_knill_successProb ρ p S M hρ hp hS hSPS hM
  rwa [Matrix.re_trace_sum_smul] at h

/-- Normalised form: for density operators and a probability vector, `P(M)² ≤ P_pgm` for every measurement `M`. -/
theorem minErr_sq_le_pgm_normalised (ρ : Fin k → Matrix (Fin d) (Fin d) ℂ) (p : Fin k → ℝ)
    (S : Matrix (Fin d) (Fin d) ℂ) (hρ : ∀ i, (ρ i).PosSemidef) (htr : ∀ i, (ρ i).trace = 1)
    (hp : ∀ i, 0 ≤ p i) (hsum : ∑ i, p i = 1) (hS : S.PosSemidef)
    (hSPS : S * (∑ i, (p i : ℂ) • ρ i) * S = 1) (M : Fin k → Matrix (Fin d) (Fin d) ℂ) (hM : IsPOVM M) :
    successProb ρ p M ^ 2 ≤ successProb ρ p (fun i => S * ((p i : ℂ) • ρ i) * S) := by
  have h := minErr_sq_le_pgm ρ p S hρ hp hS hSPS M hM
  rwa [me_sum_trace_eq_one ρ p htr hsum, mul_one] at h

/-- **The pretty good measurement exists and is nearly optimal.**  For density operators whose average state
`Σ_i p_i ρ_i` is positive definite (the states span the space) and a probability vector: the normaliser
`S = (Σ_i p_i ρ_i)^{-1/2}` exists, `S (p_i ρ_i) S` is a measurement, and with `v` the minimum-error value (greatest attained
success probability) `v² ≤ P_pgm ≤ v`. -/
theorem minErr_pgm_sandwich (ρ : Fin k → Matrix (Fin d) (Fin d) ℂ) (p : Fin k → ℝ)
    (hρ : ∀ i, (ρ i).PosSemidef) (htr : ∀ i, (ρ i).trace = 1) (hp : ∀ i, 0 ≤ p i) (hsum : ∑ i, p i = 1)
    (hP : (∑ i, (p i : ℂ) • ρ i).PosDef) (v : ℝ) (hv : IsGreatest (minErrValues ρ p) v) :
    ∃ S : Matrix (Fin d) (Fin d) ℂ, S.PosSemidef ∧ S * (∑ i, (p i : ℂ) • ρ i) * S = 1 ∧
      IsPOVM (fun i => S * ((p i : ℂ) • ρ i) * S) ∧
      v ^ 2 ≤ successProb ρ p (fun i => S * ((p i : ℂ) • ρ i) * S) ∧
      successProb ρ p (fun i => S * ((p i : ℂ) • ρ i) * S) ≤ v := by
  obtain ⟨S, hS, hSPS⟩ := Toq.Rand.inv_sqrt_exists _ hP
  exact ⟨S, hS, hSPS, Toq.Rand.pgm_is_povm ρ p S hρ hp hS.isHermitian.eq hSPS,
    Toq.Rand.pgm_between ρ p S hρ hp hS hSPS (re_trace_ensemble_eq_one ρ p htr hsum) v hv.isLUB⟩

/-- **Helstrom's bound is attained.**  For two Hermitian states the minimum-error value
`½(p₀ tr ρ₀ + p₁ tr ρ₁) + ½ ‖p₀ρ₀ − p₁ρ₁‖₁` is the success probability of some measurement (a greatest element, not only a
least upper bound). -/
theorem helstrom_isGreatest (ρ : Fin 2 → Matrix (Fin d) (Fin d) ℂ) (p : Fin 2 → ℝ)
    (hρ : ∀ i, (ρ i).IsHermitian) :
    IsGreatest (minErrValues ρ p)
      ((p 0 * (ρ 0).trace.re + p 1 * (ρ 1).trace.re) / 2
        + Toq.Metrics.traceNormV ((p 0 : ℂ) • ρ 0 - (p 1 : ℂ) • ρ 1) / 2) := by
  obtain ⟨v, hv⟩ := minErr_values_has_greatest ρ p (by norm_num : 0 < 2)
  have := (helstrom_isLUB ρ p hρ).unique hv.isLUB
  rwa [← this] at hv

/-- **Perfect discrimination iff mutual orthogonality.**  For density operators with strictly positive priors summing to
one: the minimum-error value is `1` (some measurement always identifies the state) **iff** `ρ_i ρ_j = 0` for all `i ≠ j`.
This is what `is_distinguishable` decides (up to its tolerance). -/
theorem minErr_eq_one_iff_orthogonal (ρ : Fin k → Matrix (Fin d) (Fin d) ℂ) (p : Fin k → ℝ)
    (hρ : ∀ i, (ρ i).PosSemidef) (htr : ∀ i, (ρ i).trace = 1) (hp : ∀ i, 0 < p i) (hsum : ∑ i, p i = 1) :
    IsGreatest (minErrValues ρ p) 1 ↔ ∀ i j, i ≠ j → ρ i * ρ j = 0 := by
  constructor
  · rintro ⟨⟨M, hM, hv⟩, -⟩ i j hij
    exact me_orthogonal_of_value_one ρ p hρ htr hp hsum hM hv i j hij
  · intro hO
    exact minErr_orthogonal_eq_one ρ p hρ htr (fun i => (hp i).le) hsum hO

/-- the pure state `|ψ_j⟩⟨ψ_j|` of the `j`-th column of `V` -/
def pureState (V : Matrix (Fin d) (Fin k) ℂ) (j : Fin k) : Matrix (Fin d) (Fin d) ℂ := uaPure V j

/-- `(M₀; M_1 … M_k)` is an unambiguous measurement for the columns `ψ_j` of `V`: PSD operators summing to the identity
(`M₀` = "inconclusive") such that outcome `i` never occurs on a state `ψ_j`, `j ≠ i` -/
def IsUnambMeasurement (V : Matrix (Fin d) (Fin k) ℂ) (M0 : Matrix (Fin d) (Fin d) ℂ)
    (M : Fin k → Matrix (Fin d) (Fin d) ℂ) : Prop :=
  M0.PosSemidef ∧ (∀ i, (M i).PosSemidef) ∧ M0 + ∑ i, M i = 1 ∧
    ∀ i j, j ≠ i → (pureState V j * M i).trace = 0

/-- success probabilities of unambiguous measurements: `Σ_i p_i ⟨ψ_i|M_i|ψ_i⟩` -/
def unambMeasurementValues (V : Matrix (Fin d) (Fin k) ℂ) (p : Fin k → ℝ) : Set ℝ :=
  {v | ∃ M0 M, IsUnambMeasurement V M0 M ∧ successProb (pureState V) p M = v}

/-- **Eldar's reduction, measurement ⇒ Gram program.**  The conclusive probabilities `q_i = ⟨ψ_i|M_i|ψ_i⟩` of an unambiguous
measurement form a feasible point of the Gram-form program (`q ≥ 0`, `VᴴV − diag q ⪰ 0`) with the same objective value. -/
theorem unamb_gram_of_measurement (V : Matrix (Fin d) (Fin k) ℂ) (M0 : Matrix (Fin d) (Fin d) ℂ)
    (M : Fin k → Matrix (Fin d) (Fin d) ℂ) (hM : IsUnambMeasurement V M0 M) :
    UnambFeasible (Vᴴ * V) (fun i => (pureState V i * M i).trace.re) ∧
      ∀ p : Fin k → ℝ, ∑ i, p i * (pureState V i * M i).trace.re = successProb (pureState V) p M := by
  obtain ⟨h0, hpsd, hsum, hz⟩ := hM
  have hrest : (1 - ∑ i, M i).PosSemidef := by
    have : 1 - ∑ i, M i = M0 := by rw [← hsum]; abel
    rw [this]; exact h0
  exact ⟨ua_gram_of_povm V M hpsd hrest hz, fun p => rfl⟩

/-- **Eldar's reduction, Gram program ⇒ measurement.**  Every feasible point `q` of the Gram-form program is realised by an
unambiguous measurement: with `W = V (VᴴV)⁺` (reciprocal states) and `M_i = q_i W e_i e_iᴴ Wᴴ`, `M₀ = 1 − Σ_i M_i`, one has
`⟨ψ_j|M_i|ψ_j⟩ = q_i δ_ij`.  No independence assumption: for dependent states feasibility forces the `q_i` to vanish where
needed. -/
theorem unamb_measurement_of_gram (V : Matrix (Fin d) (Fin k) ℂ) (q : Fin k → ℝ)
    (hq : UnambFeasible (Vᴴ * V) q) :
    ∃ M0 M, IsUnambMeasurement V M0 M ∧ ∀ i, (pureState V i * M i).trace = (q i : ℂ) := by
  refine ⟨1 - ∑ i, uaPovm V q i, uaPovm V q, ⟨uaPovm_rest_psd V q hq.2, uaPovm_psd V q hq.1, by abel, ?_⟩, ?_⟩
  · intro i j hji
    rw [pureState, uaPovm_trace V q hq, if_neg hji]
  · intro i
    rw [pureState, uaPovm_trace V q hq, if_pos rfl]

/-- **The Gram-form program toqito solves is unambiguous discrimination.**  For arbitrary state vectors (columns of `V`) and
priors, the objective values of feasible points of `max p·q, q ≥ 0, VᴴV − diag q ⪰ 0` are exactly the success probabilities of
unambiguous measurements. -/
theorem unamb_values_eq_measurement_values (V : Matrix (Fin d) (Fin k) ℂ) (p : Fin k → ℝ) :
    unambValues (Vᴴ * V) p = unambMeasurementValues V p := by
  ext v
  constructor
  · rintro ⟨q, hq, rfl⟩
    obtain ⟨M0, M, hM, hv⟩ := unamb_measurement_of_gram V q hq
    refine ⟨M0, M, hM, ?_⟩
    unfold successProb
    exact Finset.sum_congr rfl fun i _ => by rw [hv i, Complex.ofReal_re]
  · rintro ⟨M0, M, hM, rfl⟩
    obtain ⟨hf, hv⟩ := unamb_gram_of_measurement V M0 M hM
    exact ⟨_, hf, hv p⟩

/-- Merging the inconclusive outcome into outcome `j₀` turns an unambiguous measurement into an ordinary one that succeeds
at least as often (priors `≥ 0`). -/
theorem unamb_measurement_le_minErr (V : Matrix (Fin d) (Fin k) ℂ) (p : Fin k → ℝ) (hp : ∀ i, 0 ≤ p i)
    (j0 : Fin k) (M0 : Matrix (Fin d) (Fin d) ℂ) (M : Fin k → Matrix (Fin d) (Fin d) ℂ)
    (hM : IsUnambMeasurement V M0 M) :
    ∃ M', IsPOVM M' ∧ successProb (pureState V) p M ≤ successProb (pureState V) p M' := by
  obtain ⟨h0, hpsd, hsum, -⟩ := hM
  exact ⟨meAbsorb M M0 j0, isPOVM_meAbsorb hpsd h0 ((add_comm _ _).trans hsum) j0,
    successProb_le_meAbsorb _ p (uaPure_psd V) hp M h0 j0⟩

/-- **The unambiguous value never exceeds the minimum-error value.**  For `k ≥ 1` pure states with priors `≥ 0`, every
objective value of the Gram-form program is at most the success probability of some ordinary measurement on the states
`|ψ_i⟩⟨ψ_i|`. -/
theorem unamb_le_minErr (V : Matrix (Fin d) (Fin k) ℂ) (p : Fin k → ℝ) (hp : ∀ i, 0 ≤ p i) (hk : 0 < k)
    (u : ℝ) (hu : u ∈ unambValues (Vᴴ * V) p) : ∃ m ∈ minErrValues (pureState V) p, u ≤ m := by
  rw [unamb_values_eq_measurement_values] at hu
  obtain ⟨M0, M, hM, rfl⟩ := hu
  obtain ⟨M', hM', hle⟩ := unamb_measurement_le_minErr V p hp ⟨0, hk⟩ M0 M hM
  exact ⟨_, ⟨M', hM', rfl⟩, hle⟩

/-- Hence every minimum-error dual bound – in particular every `hi` accepted by `checkMinErrDual` – also bounds the
unambiguous program. -/
theorem unamb_le_minErr_dual (V : Matrix (Fin d) (Fin k) ℂ) (p q : Fin k → ℝ) (hp : ∀ i, 0 ≤ p i) (hk : 0 < k)
    (hq : UnambFeasible (Vᴴ * V) q) (Y : Matrix (Fin d) (Fin d) ℂ)
    (hY : MinErrDualFeasible (pureState V) p Y) : ∑ i, p i * q i ≤ Y.trace.re := by
  obtain ⟨m, ⟨M, hM, rfl⟩, hle⟩ := unamb_le_minErr V p hp hk _ ⟨q, hq, rfl⟩
  exact hle.trans (minErr_weak_duality _ p M Y hM hY)

/-- The greatest unambiguous value is at most the greatest minimum-error value. -/
theorem unamb_greatest_le_minErr_greatest (V : Matrix (Fin d) (Fin k) ℂ) (p : Fin k → ℝ) (hp : ∀ i, 0 ≤ p i)
    (hk : 0 < k) (u m : ℝ) (hu : IsGreatest (unambValues (Vᴴ * V) p) u)
    (hm : IsGreatest (minErrValues (pureState V) p) m) : u ≤ m := by
  obtain ⟨m', hm', hle⟩ := unamb_le_minErr V p hp hk u hu.1
  exact hle.trans (hm.2 hm')

/-- **The duality gap of the Gram-form program.**  `Re tr(G Z) − Σ_i p_i q_i = Re tr((G − diag q) Z) + Σ_i q_i (Re Z_ii − p_i)`;
for feasible `q`, `Z` both terms are non-negative. -/
theorem unamb_gap_eq (G Z : Matrix (Fin k) (Fin k) ℂ) (p q : Fin k → ℝ) :
    (G * Z).trace.re - ∑ i, p i * q i
      = ((G - Matrix.diagonal fun i => (q i : ℂ)) * Z).trace.re + ∑ i, q i * ((Z i i).re - p i) :=
  ua_gap_eq G Z p q

/-- **Primal and dual of the Gram-form program agree exactly under the Karush–Kuhn–Tucker conditions**: for feasible `q` and
`Z`, `Σ_i p_i q_i = Re tr(G Z)` iff `(G − diag q) Z = 0` and `q_i (Re Z_ii − p_i) = 0` for every `i` (then `q` attains the
maximum and `Z` the minimum: `unamb_optimal_of_kkt`). -/
theorem unamb_primal_eq_dual_iff (G Z : Matrix (Fin k) (Fin k) ℂ) (p q : Fin k → ℝ)
    (hq : UnambFeasible G q) (hZ : UnambDualFeasible p Z) :
    ∑ i, p i * q i = (G * Z).trace.re ↔
      (G - Matrix.diagonal fun i => (q i : ℂ)) * Z = 0 ∧ ∀ i, q i * ((Z i i).re - p i) = 0 :=
  ua_zero_gap_iff hq hZ

/-- Feasible `q`, `Z` satisfying the KKT conditions are both optimal. -/
theorem unamb_optimal_of_kkt (G Z : Matrix (Fin k) (Fin k) ℂ) (p q : Fin k → ℝ)
    (hq : UnambFeasible G q) (hZ : UnambDualFeasible p Z)
    (h : (G - Matrix.diagonal fun i => (q i : ℂ)) * Z = 0 ∧ ∀ i, q i * ((Z i i).re - p i) = 0) :
    IsGreatest (unambValues G p) (G * Z).trace.re ∧
      ∀ Z', UnambDualFeasible p Z' → (G * Z).trace.re ≤ (G * Z').trace.re :=
  optimal_of_weak hq hZ ((unamb_primal_eq_dual_iff G Z p q hq hZ).mpr h) fun _ hq' _ hZ' => unamb_weak_duality_gen hq' hZ'

/-- **Orthonormal states are identified unambiguously with certainty**: for `G = 1` the greatest value of the Gram-form
program is `Σ_i p_i` (priors `≥ 0`). -/
theorem unamb_orthonormal (p : Fin k → ℝ) (hp : ∀ i, 0 ≤ p i) :
    IsGreatest (unambValues (1 : Matrix (Fin k) (Fin k) ℂ) p) (∑ i, p i) := by
  constructor
  · refine ⟨fun _ => 1, ⟨fun _ => zero_le_one, ?_⟩, Finset.sum_congr rfl fun i _ => mul_one _⟩
    simp only [Complex.ofReal_one, Matrix.diagonal_one, sub_self]
    exact Matrix.PosSemidef.zero
  · refine mem_upperBounds_values.mpr fun q hq => (unamb_le_sum_prior 1 p q hp hq).trans_eq (Finset.sum_congr rfl fun i _ => ?_)
    rw [Matrix.one_apply_eq, Complex.one_re, mul_one]

/-- the set of objective values `Re tr(G Z)` of dual-feasible points of the Gram-form program -/
def unambDualValues (G : Matrix (Fin k) (Fin k) ℂ) (p : Fin k → ℝ) : Set ℝ :=
  {v | ∃ Z : Matrix (Fin k) (Fin k) ℂ, UnambDualFeasible p Z ∧ (G * Z).trace.re = v}

/-- Strong duality of the Gram-form program under `G ⪰ λ·1`, `λ > 0` (a lower bound on the smallest eigenvalue of the Gram
matrix) and strictly positive priors. -/
theorem unamb_strong_duality_of_lower (G : Matrix (Fin k) (Fin k) ℂ) (p : Fin k → ℝ) (lam : ℝ) (hlam : 0 < lam)
    (hGl : (G - (lam : ℂ) • (1 : Matrix (Fin k) (Fin k) ℂ)).PosSemidef) (hp : ∀ i, 0 < p i) :
    ∃ (q : Fin k → ℝ) (Z : Matrix (Fin k) (Fin k) ℂ), UnambFeasible G q ∧ UnambDualFeasible p Z ∧
      ∑ i, p i * q i = (G * Z).trace.re :=
  ug_strong_duality_gen G p lam hlam hGl hp

/-- **Strong duality of the Gram-form program with attainment on both sides**, for a positive definite Gram matrix (linearly
independent states – the case in which unambiguous discrimination is possible at all) and strictly positive priors: some
primal-feasible `q` and some dual-feasible `Z` have `Σ_i p_i q_i = Re tr(G Z)`.  (`Z` is a minimiser of the dual – it exists because
`Re tr(G Z) ≥ λ_min(G) tr Z` makes the sublevel sets compact – and `q_i = Re (G Z)_ii / Re Z_ii`; `G − diag q ⪰ 0` is first-order
optimality of `Z` along `t ↦ (1 − tC)(Z + t xxᴴ)(1 − tC) + t²K` for suitable real diagonal `C`, `K`.) -/
theorem unamb_strong_duality (G : Matrix (Fin k) (Fin k) ℂ) (p : Fin k → ℝ) (hG : G.PosDef)
    (hp : ∀ i, 0 < p i) :
    ∃ (q : Fin k → ℝ) (Z : Matrix (Fin k) (Fin k) ℂ), UnambFeasible G q ∧ UnambDualFeasible p Z ∧
      ∑ i, p i * q i = (G * Z).trace.re := by
  obtain ⟨lam, hlam, hGl⟩ := hG.exists_pos_smul_one_le
  exact unamb_strong_duality_of_lower G p lam hlam hGl hp

/-- **Primal and dual of the unambiguous program agree**: for a positive definite Gram matrix and positive priors one number
is both the greatest primal value and the least dual value. -/
theorem unamb_primal_dual_agree (G : Matrix (Fin k) (Fin k) ℂ) (p : Fin k → ℝ) (hG : G.PosDef)
    (hp : ∀ i, 0 < p i) :
    ∃ v, IsGreatest (unambValues G p) v ∧ IsLeast (unambDualValues G p) v := by
  obtain ⟨q, Z, hq, hZ, hv⟩ := unamb_strong_duality G p hG hp
  exact ⟨(G * Z).trace.re, isGreatest_isLeast_of_weak hq hZ hv fun _ hq' _ hZ' => unamb_weak_duality_gen hq' hZ'⟩

/-- The same for the Gram matrix `VᴴV` of linearly independent state vectors (the columns of `V`: `V c = 0` only for
`c = 0`) – what `vectors_to_gram_matrix` builds (`sd_gram_and_density`). -/
theorem unamb_primal_dual_agree_vectors (V : Matrix (Fin d) (Fin k) ℂ) (p : Fin k → ℝ)
    (hV : Function.Injective V.mulVec) (hp : ∀ i, 0 < p i) :
    ∃ v, IsGreatest (unambValues (Vᴴ * V) p) v ∧ IsLeast (unambDualValues (Vᴴ * V) p) v :=
  unamb_primal_dual_agree _ p (Matrix.PosDef.conjTranspose_mul_self V hV) hp

/-- **No duality gap for any ensemble of pure states and any prior.**  For every PSD Gram matrix (linearly dependent states
included) and priors `≥ 0` (zeros included), the maximum of the primal Gram-form program is attained and equals the infimum of
the dual values `Re tr(G Z)`: primal and dual of the unambiguous program agree.  (Limit `ε → 0` of `unamb_strong_duality` for
`G + ε·1`, `p + ε`; the dual infimum need not be attained for dependent states.) -/
theorem unamb_no_gap (G : Matrix (Fin k) (Fin k) ℂ) (p : Fin k → ℝ) (hG : G.PosSemidef) (hp : ∀ i, 0 ≤ p i) :
    IsGreatest (unambValues G p) (sInf (unambDualValues G p)) ∧
      sSup (unambValues G p) = sInf (unambDualValues G p) := by
  have hgr := ug_no_gap_gen G p hG hp
  exact ⟨hgr, hgr.csSup_eq⟩

/-- **Two pure states, one of them too unlikely to be worth identifying.**  For the Gram matrix of two unit vectors with
overlap `s` (`|s| ≤ 1`) and priors with `p₀ ≤ |s|² p₁`, the greatest value of the Gram-form program is `p₁ (1 − |s|²)`: it is
attained at `q = (0, 1 − |s|²)` (state 0 is never announced), and the dual point `Z = p₁ (−s, 1)(−s, 1)ᴴ` shows that no feasible
point does better. -/
theorem unamb_two_states_unbalanced (s : ℂ) (hs : ‖s‖ ≤ 1) (p : Fin 2 → ℝ) (hp1 : 0 ≤ p 1)
    (h : p 0 ≤ ‖s‖ ^ 2 * p 1) : IsGreatest (unambValues (gram2 s) p) (p 1 * (1 - ‖s‖ ^ 2)) := by
  have hs2 : ‖s‖ ^ 2 ≤ 1 := pow_le_one₀ (norm_nonneg s) hs
  exact ua_two_isGreatest s p
    (q0 := 0) (q1 := 1 - ‖s‖ ^ 2)
    (h0 := le_rfl) (h0' := zero_le_one) (h1 := sub_nonneg.mpr hs2) (h1' := sub_le_self _ (sq_nonneg _))
    (hq := by rw [sub_zero, one_mul, sub_sub_cancel])
    (x := p 1 * ‖s‖ ^ 2) (y := p 1) (t := p 1 * ‖s‖)
    (hx := mul_nonneg hp1 (sq_nonneg _)) (hy := hp1) (hpx := by rw [mul_comm]; exact h) (hpy := le_rfl)
    (ht := le_of_eq (by ring))
    (hv := by ring) (hv' := by ring)

/-- The mirror case `p₁ ≤ |s|² p₀`: the value is `p₀ (1 − |s|²)`. -/
theorem unamb_two_states_unbalanced_swap (s : ℂ) (hs : ‖s‖ ≤ 1) (p : Fin 2 → ℝ) (hp0 : 0 ≤ p 0)
    (h : p 1 ≤ ‖s‖ ^ 2 * p 0) : IsGreatest (unambValues (gram2 s) p) (p 0 * (1 - ‖s‖ ^ 2)) := by
  have hs2 : ‖s‖ ^ 2 ≤ 1 := pow_le_one₀ (norm_nonneg s) hs
  exact ua_two_isGreatest s p
    (q0 := 1 - ‖s‖ ^ 2) (q1 := 0)
    (h0 := sub_nonneg.mpr hs2) (h0' := sub_le_self _ (sq_nonneg _)) (h1 := le_rfl) (h1' := zero_le_one)
    (hq := by rw [sub_zero, mul_one, sub_sub_cancel])
    (x := p 0) (y := p 0 * ‖s‖ ^ 2) (t := p 0 * ‖s‖)
    (hx := hp0) (hy := mul_nonneg hp0 (sq_nonneg _)) (hpx := le_rfl) (hpy := by rw [mul_comm]; exact h)
    (ht := le_of_eq (by ring))
    (hv := by ring) (hv' := by ring)

/-- **Two pure states, both worth identifying (Jaeger–Shimony).**  For priors `p₀ = a²`, `p₁ = b²` (`a, b > 0`) and overlap `s`
with `|s| b ≤ a` and `|s| a ≤ b` (i.e. `|s| ≤ √(p₀/p₁)` and `|s| ≤ √(p₁/p₀)`), the greatest value of the Gram-form program is
`p₀ + p₁ − 2 |s| √(p₀ p₁) = a² + b² − 2|s|ab`, attained at `q = (1 − |s| b/a, 1 − |s| a/b)`; the dual point is
`Z = (a, −ūb)(a, −ūb)ᴴ`, `u = s/|s|`.  For `a = b` this is `unamb_two_states`. -/
theorem unamb_two_states_balanced (s : ℂ) (a b : ℝ) (ha : 0 < a) (hb : 0 < b) (h0 : ‖s‖ * b ≤ a)
    (h1 : ‖s‖ * a ≤ b) :
    IsGreatest (unambValues (gram2 s) ![a ^ 2, b ^ 2]) (a ^ 2 + b ^ 2 - 2 * ‖s‖ * a * b) := by
  have hn := norm_nonneg s
  have ha' := ha.ne'
  have hb' := hb.ne'
  exact ua_two_isGreatest s ![a ^ 2, b ^ 2]
    (q0 := 1 - ‖s‖ * b / a) (q1 := 1 - ‖s‖ * a / b)
    (h0 := sub_nonneg.mpr ((div_le_one ha).mpr h0)) (h0' := sub_le_self _ (div_nonneg (mul_nonneg hn hb.le) ha.le))
    (h1 := sub_nonneg.mpr ((div_le_one hb).mpr h1)) (h1' := sub_le_self _ (div_nonneg (mul_nonneg hn ha.le) hb.le))
    (hq := by rw [sub_sub_cancel, sub_sub_cancel]; exact le_of_eq (by field_simp))
    (x := a ^ 2) (y := b ^ 2) (t := a * b)
    (hx := sq_nonneg a) (hy := sq_nonneg b) (hpx := le_rfl) (hpy := le_rfl) (ht := le_of_eq (mul_pow a b 2))
    (hv := by simp only [Matrix.cons_val_zero, Matrix.cons_val_one]; field_simp; ring) (hv' := by ring)

/-- The same in terms of the priors: for `p₀, p₁ > 0` with `|s|² p₁ ≤ p₀` and `|s|² p₀ ≤ p₁` the unambiguous value is
`p₀ + p₁ − 2 |s| √(p₀ p₁)`.  Together with `unamb_two_states_unbalanced` / `unamb_two_states_unbalanced_swap` this gives the value
for every pair of pure states and every prior, and in all three cases primal and dual optimum coincide. -/
theorem unamb_two_states_jaeger_shimony (s : ℂ) (p0 p1 : ℝ) (hp0 : 0 < p0) (hp1 : 0 < p1)
    (h0 : ‖s‖ ^ 2 * p1 ≤ p0) (h1 : ‖s‖ ^ 2 * p0 ≤ p1) :
    IsGreatest (unambValues (gram2 s) ![p0, p1]) (p0 + p1 - 2 * ‖s‖ * Real.sqrt (p0 * p1)) := by
  have ha : 0 < Real.sqrt p0 := Real.sqrt_pos.mpr hp0
  have hb : 0 < Real.sqrt p1 := Real.sqrt_pos.mpr hp1
  have ea : Real.sqrt p0 ^ 2 = p0 := Real.sq_sqrt hp0.le
  have eb : Real.sqrt p1 ^ 2 = p1 := Real.sq_sqrt hp1.le
  have hle : ∀ x y : ℝ, 0 < x → 0 < y → ‖s‖ ^ 2 * y ^ 2 ≤ x ^ 2 → ‖s‖ * y ≤ x := by
    intro x y hx hy hxy
    have : (‖s‖ * y) ^ 2 ≤ x ^ 2 := by rw [mul_pow]; exact hxy
    exact (pow_le_pow_iff_left₀ (by positivity) hx.le (by norm_num)).mp this
  have := unamb_two_states_balanced s (Real.sqrt p0) (Real.sqrt p1) ha hb
    (hle _ _ ha hb (by rw [ea, eb]; exact h0)) (hle _ _ hb ha (by rw [ea, eb]; exact h1))
  rw [ea, eb] at this
  rw [Real.sqrt_mul hp0.le]
  convert this using 2
  ring

section

/-- `minErr_hykl_iff` on a concrete non-trivial instance: for `|0⟩⟨0|`, `|1⟩⟨1|` with priors `(1/4, 3/4)` the projective
measurement `(|0⟩⟨0|, |1⟩⟨1|)` has Lagrange operator `diag(1/4, 3/4)`, which is Hermitian and dominates both `p_i ρ_i`. -/
example : let ρ : Fin 2 → Matrix (Fin 2) (Fin 2) ℂ := fun i => Matrix.diagonal fun j => if j = i then 1 else 0
    let p : Fin 2 → ℝ := ![1 / 4, 3 / 4]
    lagrangeOp ρ p ρ = Matrix.diagonal ![(1 / 4 : ℂ), 3 / 4] := by
  intro ρ p
  show ∑ i : Fin 2, ((p i : ℂ) • Matrix.diagonal fun j => if j = i then (1 : ℂ) else 0)
      * (Matrix.diagonal fun j => if j = i then (1 : ℂ) else 0) = _
  simp only [← Matrix.diagonal_smul, Matrix.diagonal_mul_diagonal, Fin.sum_univ_two, Matrix.diagonal_add]
  refine congrArg _ (funext fun l => ?_)
  fin_cases l <;> norm_num [p]

/-- hypotheses of `unamb_measurement_of_gram` / `unamb_le_minErr`: the unit vectors `(1, 0)`, `(3/5, 4/5)` (overlap `3/5`) with
`q = (2/5, 2/5)`: `VᴴV − diag q = [[3/5, 3/5], [3/5, 3/5]]` is PSD -/
example : let V : Matrix (Fin 2) (Fin 2) ℂ := !![1, 3 / 5; 0, 4 / 5]
    UnambFeasible (Vᴴ * V) (fun _ => 2 / 5) := by
  intro V
  have h00 : (Vᴴ * V) 0 0 = 1 := by simp [V, Matrix.mul_apply, Fin.sum_univ_two]
  have h11 : (Vᴴ * V) 1 1 = 1 := by
    simp [V, Matrix.mul_apply, Fin.sum_univ_two, Complex.conj_ofNat]; norm_num
  have h01 : (Vᴴ * V) 0 1 = ((3 / 5 : ℝ) : ℂ) := by
    simp [V, Matrix.mul_apply, Fin.sum_univ_two]
  refine ⟨fun _ => by norm_num, ?_⟩
  rw [ua_gram2_eq _ (Matrix.isHermitian_conjTranspose_mul_self V) h00 h11, h01]
  refine ua_gram2_slack_psd _ (fun _ => 2 / 5) (by norm_num) (by norm_num) ?_
  rw [Complex.norm_real]
  norm_num

/-- hypothesis of `unamb_strong_duality_of_lower`: the Gram matrix with overlap `3i/5` dominates `2/5 · 1`
(`G − 2/5 = [[3/5, s], [s̄, 3/5]]`, `|s| = 3/5`) -/
example : (gram2 (⟨0, 3 / 5⟩ : ℂ) - (((2 / 5 : ℝ)) : ℂ) • (1 : Matrix (Fin 2) (Fin 2) ℂ)).PosSemidef := by
  rw [Matrix.smul_one_eq_diagonal]
  refine ua_gram2_slack_psd _ (fun _ => 2 / 5) (by norm_num) (by norm_num) ?_
  rw [Complex.sq_norm, Complex.normSq_mk]
  norm_num

end

/-- **`vectors_to_gram_matrix` and `to_density_matrix` describe the same states.**  For vector arguments `ψ_j` (columns of
`V = sdVecs k vs`) the Gram matrix the unambiguous programs use denotes `VᴴV`, and the density operator the minimum-error
programs use for the `j`-th state denotes `|ψ_j⟩⟨ψ_j|` – exactly (whatever rounding the normalisation of the float vector
suffered), PSD, so that all theorems above about `Vᴴ * V` and `pureState V` apply to what the code builds. -/
theorem sd_gram_and_density (vs : Fin k → EMat d 1) :
    (sdGramFn k vs).toM = (sdVecs k vs)ᴴ * sdVecs k vs ∧
      (∀ j, (sdToDensityVec (vs j)).toM = pureState (sdVecs k vs) j) ∧
      ∀ j, (sdToDensityVec (vs j)).toM.PosSemidef :=
  ⟨toM_sdGramFn k vs, fun j => toM_sdToDensityVec k vs j, fun j => sdToDensityVec_psd (vs j)⟩

/-- **Certified form of "unambiguous `≤` minimum-error" on the code's own data.**  For vector arguments and priors `≥ 0`: a
lower bound `lo` accepted by the unambiguous primal checker on `vectors_to_gram_matrix(vectors)` never exceeds an upper
bound `hi` accepted by the minimum-error dual checker on `[to_density_matrix(v) …]`. -/
theorem sd_unamb_le_minErr_certified (vs : Fin k → EMat d 1) (p q : Fin k → Rat) (L : EMat k k)
    (Y : EMat d d) (LY : Fin k → EMat d d) (lo hi : Rat) (hp : ∀ i, 0 ≤ p i) (hk : 0 < k)
    (hlo : checkUnambPrimalFn (sdGramFn k vs) p q L = some lo)
    (hhi : checkMinErrDualFn k (fun i => sdToDensityVec (vs i)) p Y LY = some hi) : (lo : ℝ) ≤ (hi : ℝ) := by
  obtain ⟨hq, hv⟩ := checkUnambPrimalFn_sound _ _ _ _ _ hlo
  obtain ⟨hY, hvY⟩ := checkMinErrDualFn_sound _ _ _ _ _ _ hhi
  rw [toM_sdGramFn] at hq
  rw [← hv, ← hvY]
  refine unamb_le_minErr_dual (sdVecs k vs) (fun i => ((p i : Rat) : ℝ)) (fun i => ((q i : Rat) : ℝ))
    (fun i => by exact_mod_cast hp i) hk hq Y.toM fun i => ?_
  have := hY i
  rwa [toM_sdToDensityVec] at this

/-- The default prior `[1/n]*n` of `state_distinguishability` (`probs=None`) has `n` entries summing to `1`, and `sdPrepare`
keeps the number of states. -/
theorem sd_prepare_default (states : List (SdState d)) (hn : states.length ≠ 0) :
    (sdPrepare states none).size = states.length ∧ (sdPrepare states none).probs.length = states.length ∧
      (sdPrepare states none).probs.sum = 1 :=
  ⟨sdPrepare_none_size states, sdDefaultProbs_none_length _, sdDefaultProbs_none_sum _ hn⟩

/-- Omitted keyword arguments select the minimum-error dual program; the four documented argument pairs select the four
programs. -/
theorem sd_dispatch :
    sdDispatch sdDefaultStrategy sdDefaultPrimalDual = .meDual ∧
      sdDispatch "min_error" "primal" = .mePrimal ∧ sdDispatch "min_error" "dual" = .meDual ∧
      sdDispatch "unambiguous" "primal" = .uaPrimal ∧ sdDispatch "unambiguous" "dual" = .uaDual := by
  decide

/-- **Argument check.**  A non-empty list of arrays is accepted exactly when every array has the same
`has_same_dimension`-size as the first one, the first one is a vector or a square matrix and – for the two Gram-form
programs, whose worker starts with `vectors_to_gram_matrix` – all arrays have the shape of the first one; then the programs
are built for `n = len(vectors)` states in the dimension of the first array. -/
theorem sd_front_eq (s : SdShape) (rest : List SdShape) (probs : Option (List Rat)) (strategy pd : String) :
    sdFront (s :: rest) probs strategy pd =
      if (∀ t ∈ rest, t.cmpDim = s.cmpDim) ∧ ((sdDispatch strategy pd).isUnamb = true → ∀ t ∈ rest, t = s) then
        s.vecMatDim.map fun dim =>
          ⟨rest.length + 1, sdDefaultProbs (rest.length + 1) probs, dim, sdDispatch strategy pd⟩
      else none := by
  unfold sdFront
  by_cases h : ∀ t ∈ rest, t.cmpDim = s.cmpDim
  · rw [(sdHasSameDimension_true_iff s rest).mpr h]
    cases hd : s.vecMatDim with
    | none => simp only [List.head?_cons, hd, Option.map_none, ite_self]
    | some dim =>
      simp only [List.head?_cons, hd, Option.map_some, List.length_cons, sdFront_guard_iff, ite_not, and_iff_right h]
  · rw [if_neg fun hh => h hh.1]
    split
    · next hh => exact absurd ((sdHasSameDimension_true_iff s rest).mp hh) h
    · rfl

/-- 1-D vectors of length `d`, `d × 1` columns and `1 × d` rows (`d ≥ 1`) are all accepted together by the argument check for the
minimum-error programs, and for the Gram-form programs when they all have the same layout; `dim = d`. -/
theorem sd_front_vectors (s : SdShape) (rest : List SdShape) (probs : Option (List Rat)) (strategy pd : String)
    (hd : 0 < d) (hs : ∀ t ∈ s :: rest, t = .d1 d ∨ t = .d2 d 1 ∨ t = .d2 1 d)
    (hu : (sdDispatch strategy pd).isUnamb = true → ∀ t ∈ rest, t = s) :
    sdFront (s :: rest) probs strategy pd =
      some ⟨rest.length + 1, sdDefaultProbs (rest.length + 1) probs, d, sdDispatch strategy pd⟩ := by
  have hc : ∀ t ∈ s :: rest, t.cmpDim = d := by
    intro t ht
    rcases hs t ht with h | h | h <;> subst h <;> simp [SdShape.cmpDim]
  have hv : s.vecMatDim = some d := by
    rcases hs s (List.mem_cons_self) with h | h | h <;> subst h
    · rfl
    · simp [SdShape.vecMatDim, Nat.max_eq_left hd]
    · simp [SdShape.vecMatDim, Nat.max_eq_right hd]
  rw [sd_front_eq, if_pos, hv]
  · rfl
  · refine ⟨fun t ht => ?_, hu⟩
    rw [hc t (List.mem_cons_of_mem _ ht), hc s List.mem_cons_self]

/-- `is_distinguishable`'s test `np.isclose(opt_val, 1)` is `|opt_val − 1| ≤ 10⁻⁸ + 10⁻⁵`. -/
theorem sd_dist_test_iff (v : Rat) : sdDistTest v = true ↔ |v - 1| ≤ 1 / 100000000 + 1 / 100000 := by
  unfold sdDistTest
  rw [sdIsclose_iff]
  simp

/-- **`is_distinguishable` answers `False` on values separated from 1.**  A value `v ≤ hi + τ` with
`hi + τ < 1 − 10⁻⁵ − 10⁻⁸` fails the test; in use `hi` is an upper bound accepted by the dual checker (`checkMinErrDual_sound`)
and `τ` the solver tolerance. -/
theorem sd_dist_test_false_of_dual (v hi τ : Rat) (hv : v ≤ hi + τ)
    (hgap : hi + τ < 1 - 1 / 100000 - 1 / 100000000) : sdDistTest v = false := by
  rw [Bool.eq_false_iff, Ne, sd_dist_test_iff, abs_le]
  intro h
  linarith [h.1]

/-- `is_distinguishable`'s test answers `True` for every value within `10⁻⁵` of `1` (in particular for a value within the solver tolerance of the
optimum `1` of mutually orthogonal states, `minErr_orthogonal_eq_one`). -/
theorem sd_dist_test_true_of_near_one (v : Rat) (hv : |v - 1| ≤ 1 / 100000) : sdDistTest v = true := by
  rw [sd_dist_test_iff]
  linarith

/-- **Positional options in the documented order.**  `state_distinguishability(vectors, probs, s, v, p)` binds
`strategy = s`, `solver = v`, `primal_dual = p`; shorter positional calls leave the remaining options at their defaults
(`"min_error"`, `"cvxopt"`, `"dual"`). -/
theorem sd_bind_documented_order (s v p : String) :
    sdBind [s, v, p] [] = some ⟨s, v, p⟩ ∧ sdBind [s, v] [] = some ⟨s, v, "dual"⟩ ∧
      sdBind [s] [] = some ⟨s, "cvxopt", "dual"⟩ ∧ sdBind [] [] = some ⟨"min_error", "cvxopt", "dual"⟩ := by
  have h0 : ∀ pos : List String, ∀ n ∈ sdOptNames.take pos.length, ∀ e ∈ ([] : List (String × String)), e.1 ≠ n :=
    fun _ _ _ _ he => absurd he List.not_mem_nil
  exact ⟨sdBind_eq_some (Nat.le_refl 3) (h0 _), sdBind_eq_some (Nat.le_succ 2) (h0 _),
    sdBind_eq_some (Nat.one_le_of_lt (Nat.lt_succ_self 2)) (h0 _), sdBind_eq_some (Nat.zero_le 3) (h0 _)⟩

/-- **A positional call is the keyword call.**  For every well-formed call (at most three positional options, none of them
repeated by keyword) the options bound are those of the call that passes the positional values under the keywords
`strategy`, `solver`, `primal_dual` (in this order) instead. -/
theorem sd_bind_positional_eq_keyword (pos : List String) (kw : List (String × String)) (hl : pos.length ≤ 3)
    (hk : ∀ n ∈ sdOptNames.take pos.length, ∀ e ∈ kw, e.1 ≠ n) :
    sdBind pos kw = sdBind [] (sdOptNames.zip pos ++ kw) := by
  rw [sdBind_eq_some hl hk, sdBind_eq_some (pos := []) (Nat.zero_le 3) (fun _ h => absurd h List.not_mem_nil)]
  exact congrArg some (congr (congr (congrArg SdOpts.mk (sdOptValue_zip pos kw 0 (by decide) _))
    (sdOptValue_zip pos kw 1 (by decide) _)) (sdOptValue_zip pos kw 2 (by decide) _))

/-- The positional and the keyword form of a call reach the same program, prior, dimension and solver (or the same
`ValueError`). -/
theorem sd_front_call_positional_eq_keyword (shapes : List SdShape) (probs : Option (List Rat)) (pos : List String)
    (kw : List (String × String)) (hl : pos.length ≤ 3)
    (hk : ∀ n ∈ sdOptNames.take pos.length, ∀ e ∈ kw, e.1 ≠ n) :
    sdFrontCall shapes probs pos kw = sdFrontCall shapes probs [] (sdOptNames.zip pos ++ kw) := by
  unfold sdFrontCall
  rw [sd_bind_positional_eq_keyword pos kw hl hk]

/-- The binding fails (`TypeError`) exactly when more than three options are given by position or an option is given
both by position and by keyword. -/
theorem sd_bind_type_error_iff (pos : List String) (kw : List (String × String)) :
    sdBind pos kw = none ↔ 3 < pos.length ∨ ∃ n ∈ sdOptNames.take pos.length, ∃ e ∈ kw, e.1 = n := by
  unfold sdBind
  by_cases h : 3 < pos.length
  · rw [if_pos h]
    exact iff_of_true rfl (Or.inl h)
  · rw [if_neg h, ite_eq_left_iff, List.any_eq_true]
    simp only [any_key_iff, reduceCtorEq, imp_false, not_not, h, false_or]

/-- The four programs are reached by the documented positional calls: `(…, "unambiguous")` is the Gram-form dual,
`(…, "unambiguous", "cvxopt", "primal")` the Gram-form primal, `(…, "min_error", "cvxopt", "primal")` the measurement
program. -/
theorem sd_call_dispatch_positional :
    (sdBind ["unambiguous"] []).map (fun o => sdDispatch o.strategy o.primalDual) = some .uaDual ∧
      (sdBind ["unambiguous", "cvxopt", "primal"] []).map (fun o => sdDispatch o.strategy o.primalDual) = some .uaPrimal ∧
      (sdBind ["min_error", "cvxopt", "primal"] []).map (fun o => sdDispatch o.strategy o.primalDual) = some .mePrimal ∧
      (sdBind ["min_error"] [("primal_dual", "primal")]).map (fun o => sdDispatch o.strategy o.primalDual) = some .mePrimal ∧
      (sdBind [] []).map (fun o => sdDispatch o.strategy o.primalDual) = some .meDual := by
  decide

end Toq.C10
