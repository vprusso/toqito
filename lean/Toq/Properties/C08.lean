import Toq.Proofs.Xor
import Toq.Proofs.XorTsirelson
import Toq.Proofs.XorMult
import Toq.Proofs.XorNpa1
import Toq.Proofs.XorClassical
import Toq.Proofs.XorRepLower
/-!
# C08 — XOR games: Tsirelson's optimum, classical / non-signalling values, conversion to a general
game, repetitions; two-outcome Bell expressions

Vocabulary (the executable definitions `dMat`, `nlgPred`, `xorValue`, the enumerations and the checkers are in `Toq.Model.Xor`; the
rest is in the proof files: `XorExact` for bit strategies, sign pairs and behaviours, `Xor` for `tsirelsonDual`, moment matrices,
strategies and the real images `castD`, `castV`, `XorNpa1` for `corrBeh`, `XorMult` for `kronD`, `XorRep` for `andWin`, `costB`,
`predBit` and POVM / projective strategies, `XorRepLower` for `prodProj` and for `piKron`, which is `Toq.ExtGames.piKron` of
`Proofs/PiKron.lean` under a second name):

* `dMat prob pred x y = prob x y · (-1)^(pred x y)` — the cost matrix `D` of `XORGame.quantum_value`;
* `IsMoment Γ` — `Γ` positive semidefinite with unit diagonal (the Gram matrix of Alice's and Bob's unit
  vectors is such a matrix, and so is the matrix `tr(ρ O_i O_j)` of a quantum strategy);
* `tsirelsonDual D a b = [[diag a, −D], [−Dᵀ, diag b]]` — the matrix constrained to be PSD in
  `quantum_value`; the code minimises `Σa + Σb` and returns `(Σa + Σb)/4 + 1/2`, i.e. `1/2 + β/2` with
  `β = (Σa + Σb)/2`;
* `IsStrategy ρ A B` — density matrix `ρ`, Hermitian involutions `A_x`, `B_y` with `[A_x, B_y] = 0`;
* `nlgPred pred a b x y = [pred x y = a ⊕ b]` — the predicate of `XORGame.to_nonlocal_game`.

Proved here for all sizes and dimensions: both directions of Tsirelson's theorem in finite dimension
(`quantum_strategy_le_dual` / `tsirelson_theorem`: a correlation matrix is quantum iff it is a Gram matrix of unit vectors;
the construction uses Clifford generators and a maximally entangled state, `Toq.Proofs.XorTsirelson`), so the vector optimum
of the semidefinite program IS the quantum optimum; multiplicativity of the optimum under tensor products of cost matrices
at the certificate level (`xor_sum_multiplicative`); the level-1 NPA relaxation has the Tsirelson optimum: its correlators
obey every dual bound (`npa1_eq_tsirelson`, `npa1_projector_le_dual`) and every vector correlation is level-1 feasible
(`npa1_feasible_of_tsirelson`).

Also proved for every number of repetitions `r`: perfect parallel repetition at the certificate level
(Cleve–Slofstra–Unger–Upadhyay; `xor_parallel_repetition`, `xor_repetition_bracket`): every strategy (general POVMs, any finite
dimension) of the `r`-fold AND-repetition wins with probability at most `(1/2 + hi/2)^r` for every dual-feasible value `hi` of the
single game (Fourier expansion over subsets of rounds + product certificates + the correlators of Hermitian contractions are
vector correlations), and independent play of a strategy with bias `β` wins with
probability exactly `(1/2 + β/2)^r`.

Cited, not proved: strong duality of the semidefinite program (not needed: every instance is bracketed by a primal and a
dual certificate), Grothendieck's inequality `β_Q ≤ K_G β_C`.
-/

open Matrix
open scoped ComplexOrder MatrixOrder

namespace Toq.C08
open Toq.Xor EMat

section Duality
variable {X Y : Type*} [Fintype X] [Fintype Y] [DecidableEq X] [DecidableEq Y]

/-- **Weak duality of the Tsirelson program, all finite question sets.**  For every real cost matrix `D`,
every positive semidefinite `Γ` on `X ⊕ Y` with unit diagonal (a Gram matrix of unit vectors `u_x`, `v_y`,
with `Γ[x,y] = ⟨u_x, v_y⟩`) and every `(a, b)` such that `[[diag a, −D], [−Dᵀ, diag b]]` is positive
semidefinite: `Σ D[x,y] Γ[x,y] ≤ (Σa + Σb)/2`. -/
theorem tsirelson_weak_duality (D : X → Y → ℝ) (a : X → ℝ) (b : Y → ℝ) (Γ : Matrix (X ⊕ Y) (X ⊕ Y) ℂ)
    (hΓ : IsMoment Γ) (hZ : (tsirelsonDual D a b).PosSemidef) :
    ∑ x, ∑ y, D x y * (Γ (.inl x) (.inr y)).re ≤ (∑ x, a x + ∑ y, b y) / 2 :=
  hΓ.isVectorCorr.le_dual hZ

/-- **Unit vectors never beat a dual-feasible point.**  For unit vectors `u_x, v_y ∈ ℝ^d` (any dimension)
the bias `Σ D[x,y] ⟨u_x, v_y⟩` is at most `(Σa + Σb)/2` for every dual-feasible `(a, b)`. -/
theorem tsirelson_vectors_le_dual {d : Type*} [Fintype d] (D : X → Y → ℝ) (a : X → ℝ) (b : Y → ℝ)
    (u : X → d → ℝ) (v : Y → d → ℝ) (hu : ∀ x, ∑ k, u x k ^ 2 = 1) (hv : ∀ y, ∑ k, v y k ^ 2 = 1)
    (hZ : (tsirelsonDual D a b).PosSemidef) :
    ∑ x, ∑ y, D x y * ∑ k, u x k * v y k ≤ (∑ x, a x + ∑ y, b y) / 2 :=
  (isVectorCorr_of_vectors u v hu hv).le_dual hZ

/-- **Quantum strategies never beat a dual-feasible point.**  For every finite-dimensional state `ρ` and
±1-valued observables `A_x`, `B_y` (Hermitian involutions), the bias `Σ D[x,y] Re tr(ρ A_x B_y)` is at most
`(Σa + Σb)/2` for every dual-feasible `(a, b)`. -/
theorem quantum_strategy_le_dual {d : Type*} [Fintype d] [DecidableEq d] (D : X → Y → ℝ) (a : X → ℝ)
    (b : Y → ℝ) (ρ : Matrix d d ℂ) (A : X → Matrix d d ℂ) (B : Y → Matrix d d ℂ) (h : IsStrategy ρ A B)
    (hZ : (tsirelsonDual D a b).PosSemidef) :
    ∑ x, ∑ y, D x y * (ρ * A x * B y).trace.re ≤ (∑ x, a x + ∑ y, b y) / 2 :=
  h.isVectorCorr.le_dual hZ

/-- **Every sign assignment is a feasible point** (`Γ = z zᵀ` with `z = (s, t)`): the classical bias
`Σ D[x,y] s_x t_y` is at most every dual bound — classical value ≤ quantum value. -/
theorem xor_signs_le_dual (D : X → Y → ℝ) (a : X → ℝ) (b : Y → ℝ) (s : X → ℝ) (t : Y → ℝ)
    (hs : ∀ x, s x = 1 ∨ s x = -1) (ht : ∀ y, t y = 1 ∨ t y = -1) (hZ : (tsirelsonDual D a b).PosSemidef) :
    ∑ x, ∑ y, D x y * (s x * t y) ≤ (∑ x, a x + ∑ y, b y) / 2 :=
  (isVectorCorr_of_signs s t hs ht).le_dual hZ

/-- **Level-1 NPA moment matrices give the same optimum (±1-observable basis).**  The level-1 moment matrix `R` of
the converted game in the basis of ±1 observables lives on `{1} ⊕ X ⊕ Y`, is positive semidefinite with unit
diagonal, and the winning probability is `1/2 + 1/2 Σ D[x,y] R[x,y]` (`xor_win_eq_bias`).  (i) Every such `R` obeys
every dual bound of the Tsirelson program; (ii) every feasible `Γ` of the Tsirelson program extends to such an `R`
with the same correlations.  Hence both programs have the same optimum. -/
theorem npa1_eq_tsirelson (D : X → Y → ℝ) (a : X → ℝ) (b : Y → ℝ) :
    (∀ R : Matrix (Unit ⊕ (X ⊕ Y)) (Unit ⊕ (X ⊕ Y)) ℂ, IsMoment R → (tsirelsonDual D a b).PosSemidef →
      ∑ x, ∑ y, D x y * (R (.inr (.inl x)) (.inr (.inr y))).re ≤ (∑ x, a x + ∑ y, b y) / 2) ∧
    (∀ Γ : Matrix (X ⊕ Y) (X ⊕ Y) ℂ, IsMoment Γ →
      ∃ R : Matrix (Unit ⊕ (X ⊕ Y)) (Unit ⊕ (X ⊕ Y)) ℂ, IsMoment R ∧
        ∀ x y, R (.inr (.inl x)) (.inr (.inr y)) = Γ (.inl x) (.inr y)) :=
  ⟨fun _ hR hZ => (isVectorCorr_level1 hR).le_dual hZ,
    fun Γ hΓ => ⟨_, isMoment_extend Γ hΓ, fun _ _ => rfl⟩⟩

/-- **Level-1 NPA matrix in toqito's projector basis.**  toqito's level-1 matrix `R` is indexed by the words
`1, A_x^0, B_y^0` (projectors on outcome 0): positive semidefinite, `R[1,1] = 1`, `R[P,P] = R[1,P]`, and
`R[A_x^0, B_y^0] = p(0,0|x,y)`, `R[1, A_x^0] = p_A(0|x)`, `R[1, B_y^0] = p_B(0|y)`.  The correlators
`E[x,y] = 4 p(0,0|x,y) − 2 p_A(0|x) − 2 p_B(0|y) + 1` of every such matrix obey every dual bound of the Tsirelson
program: the level-1 NPA value of the converted game is at most `1/2 + 1/2 · (Σa + Σb)/2`. -/
theorem npa1_projector_le_dual (D : X → Y → ℝ) (a : X → ℝ) (b : Y → ℝ)
    (R : Matrix (Unit ⊕ (X ⊕ Y)) (Unit ⊕ (X ⊕ Y)) ℂ) (hR : R.PosSemidef) (h1 : R (.inl ()) (.inl ()) = 1)
    (hp : ∀ i, R (.inr i) (.inr i) = R (.inl ()) (.inr i)) (hZ : (tsirelsonDual D a b).PosSemidef) :
    ∑ x, ∑ y, D x y * (4 * R (.inr (.inl x)) (.inr (.inr y)) - 2 * R (.inr (.inl x)) (.inl ())
        - 2 * R (.inl ()) (.inr (.inr y)) + 1).re ≤ (∑ x, a x + ∑ y, b y) / 2 := by
  have h := (isVectorCorr_level1 (isMoment_basisChange R hR h1 hp)).le_dual hZ
  simp only [basisChange_entry, h1] at h
  exact h

end Duality

section Tsirelson
open scoped Kronecker
variable {X Y : Type*}

/-- **Tsirelson's construction, every number of questions and every vector dimension.**  For unit vectors
`u_x, v_y ∈ ℝⁿ` there is a quantum strategy in tensor-product form — a state `ρ` (the maximally entangled state) of two
`D`-dimensional systems, ±1-valued observables `A_x ⊗ 1` for Alice and `1 ⊗ B_y` for Bob — whose correlators are exactly the
inner products: `Re tr(ρ (A_x ⊗ B_y)) = ⟨u_x, v_y⟩`.  (Construction: `n` anticommuting Hermitian involutions `G_i`,
`A_x = Σ_i u_x(i) G_i`, `B_y = (Σ_i v_y(i) G_i)ᵀ`, `D = 2ⁿ`.) -/
theorem tsirelson_vectors_realised (n : Nat) (u : X → Fin n → ℝ) (v : Y → Fin n → ℝ)
    (hu : ∀ x, ∑ k, u x k ^ 2 = 1) (hv : ∀ y, ∑ k, v y k ^ 2 = 1) :
    ∃ (ι : Type) (_ : Fintype ι) (_ : DecidableEq ι) (ρ : Matrix (ι × ι) (ι × ι) ℂ)
      (A : X → Matrix ι ι ℂ) (B : Y → Matrix ι ι ℂ),
      IsStrategy ρ (fun x => A x ⊗ₖ (1 : Matrix ι ι ℂ)) (fun y => (1 : Matrix ι ι ℂ) ⊗ₖ B y) ∧
      ∀ x y, (ρ * (A x ⊗ₖ (1 : Matrix ι ι ℂ)) * ((1 : Matrix ι ι ℂ) ⊗ₖ B y)).trace.re = ∑ k, u x k * v y k :=
  tsirelson_realise u v hu hv

variable [Fintype X] [Fintype Y] [DecidableEq X] [DecidableEq Y]

/-- **Tsirelson's theorem (finite dimension), all question sets.**  For a real matrix `c[x,y]` the following are
equivalent: (i) `c` is the correlation matrix `⟨A_x B_y⟩` of a quantum strategy (finite-dimensional state, commuting
±1-valued observables); (ii) `c` is the off-diagonal block of a positive semidefinite matrix with unit diagonal — the
feasible set of the semidefinite program of `quantum_value`; (iii) `c[x,y] = ⟨u_x, v_y⟩` for unit vectors.  Hence the
optimum of the program is the optimal quantum bias, attained by explicit unit vectors. -/
theorem tsirelson_theorem (c : X → Y → ℝ) :
    (IsQuantumCorr c ↔ IsVectorCorr c) ∧
    (IsVectorCorr c ↔ ∃ (n : Nat) (u : X → Fin n → ℝ) (v : Y → Fin n → ℝ),
      (∀ x, ∑ k, u x k ^ 2 = 1) ∧ (∀ y, ∑ k, v y k ^ 2 = 1) ∧ ∀ x y, ∑ k, u x k * v y k = c x y) :=
  ⟨⟨isVectorCorr_of_quantum, isQuantumCorr_of_vector⟩, isVectorCorr_iff_vectors c⟩

/-- the hypotheses are satisfiable: the correlations `[[3/5, 3/5], [4/5, −4/5]]` (CHSH value `14/5 > 2`) come from the unit
vectors `u = (1,0), (0,1)`, `v = (3/5, 4/5), (3/5, −4/5)`, hence from a quantum strategy -/
example : IsQuantumCorr (fun x y : Fin 2 => if x = 0 then (3 / 5 : ℝ) else if y = 0 then 4 / 5 else -(4 / 5)) := by
  refine isQuantumCorr_of_vector ((isVectorCorr_iff_vectors _).mpr ⟨2,
    fun x k => if x = k then 1 else 0, fun y k => if k = 0 then 3 / 5 else if y = 0 then 4 / 5 else -(4 / 5), ?_, ?_, ?_⟩)
  · intro x; simp
  · intro y
    simp only [Fin.sum_univ_two, if_true, Fin.one_eq_zero_iff, OfNat.ofNat_ne_one, if_false]
    split <;> norm_num
  · intro x y; simp only [ite_mul, one_mul, zero_mul, Finset.sum_ite_eq, Finset.mem_univ, if_true]

/-- **Level-1 NPA, converse direction (projector basis).**  Every point of the Tsirelson program (unit vectors with
`⟨u_x, v_y⟩ = c[x,y]`) gives a feasible point of toqito's level-1 NPA program of the converted game: with the behaviour
`K(a,b|x,y) = (1 + (-1)^{a+b} c[x,y])/4` (non-negative, normalised, unbiased marginals — hence non-signalling — and correlators
`c`), there is a positive semidefinite `R` on the words `1, A_x^0, B_y^0` with `R[1,1] = 1`, `R[A_x^0, B_y^0] = K(0,0|x,y)`,
`R[1, A_x^0] = R[A_x^0, A_x^0] = Σ_b K(0,b|x,y)` and `R[1, B_y^0] = R[B_y^0, B_y^0] = Σ_a K(a,0|x,y)` for all `x, y`.
Together with `npa1_projector_le_dual`: the level-1 NPA bound of the converted game equals the Tsirelson optimum. -/
theorem npa1_feasible_of_tsirelson (c : X → Y → ℝ) (h : IsVectorCorr c) :
    ((∀ a b x y, 0 ≤ corrBeh c a b x y) ∧ (∀ x y, ∑ a, ∑ b, corrBeh c a b x y = 1) ∧
      (∀ a x y, ∑ b, corrBeh c a b x y = 1 / 2) ∧ (∀ b x y, ∑ a, corrBeh c a b x y = 1 / 2) ∧
      (∀ x y, ∑ a, ∑ b, sgn a * sgn b * corrBeh c a b x y = c x y)) ∧
    ∃ R : Matrix (Unit ⊕ (X ⊕ Y)) (Unit ⊕ (X ⊕ Y)) ℂ, R.PosSemidef ∧ R (.inl ()) (.inl ()) = 1 ∧
      (∀ x y, R (.inr (.inl x)) (.inr (.inr y)) = ((corrBeh c 0 0 x y : ℝ) : ℂ)) ∧
      (∀ x y, R (.inl ()) (.inr (.inl x)) = ((∑ b, corrBeh c 0 b x y : ℝ) : ℂ)) ∧
      (∀ x y, R (.inr (.inl x)) (.inr (.inl x)) = ((∑ b, corrBeh c 0 b x y : ℝ) : ℂ)) ∧
      (∀ x y, R (.inl ()) (.inr (.inr y)) = ((∑ a, corrBeh c a 0 x y : ℝ) : ℂ)) ∧
      (∀ x y, R (.inr (.inr y)) (.inr (.inr y)) = ((∑ a, corrBeh c a 0 x y : ℝ) : ℂ)) := by
  obtain ⟨n, u, v, hu, hv, hc⟩ := (isVectorCorr_iff_vectors c).mp h
  obtain ⟨g11, g1, g⟩ := gram_npa1Vec (Sum.elim u v)
  refine ⟨⟨fun a b x y => corrBeh_nonneg c (hc x y ▸ abs_inner_le_one _ _ (hu x) (hv y)) a b, sum_sum_corrBeh c,
    sum_corrBeh_right c, sum_corrBeh_left c, sum_sum_sgn_mul_corrBeh c⟩, gram (npa1Vec (Sum.elim u v)), gram_psd _, g11,
    fun x y => ?_, fun x y => ?_, fun x y => ?_, fun x y => ?_, fun x y => ?_⟩
  · rw [g, corrBeh, sgn_zero, one_mul, one_mul, ← hc x y]; rfl
  · rw [g1, sum_corrBeh_right]
  · rw [gram_npa1Vec_unit (Sum.elim u v) (.inl x) (hu x), sum_corrBeh_right]
  · rw [g1, sum_corrBeh_left]
  · rw [gram_npa1Vec_unit (Sum.elim u v) (.inr y) (hv y), sum_corrBeh_left]

end Tsirelson

section Multiplicative
variable {X Y X' Y' : Type*} [Fintype X] [Fintype Y] [DecidableEq X] [DecidableEq Y]
  [Fintype X'] [Fintype Y'] [DecidableEq X'] [DecidableEq Y']

/-- **Multiplicativity of the Tsirelson optimum at the certificate level.**  `kronD D D'` is the cost matrix of the XOR-sum of
two games (questions `(x,x')`, `(y,y')`, distribution `π ⊗ π'`, predicate `f ⊕ f'`).
(i) Primal: if `c`, `c'` are quantum (= vector) correlations then so is `c ⊗ c'`, and its bias is the product of the biases
— independent play.  (ii) Dual: if `(a, b)` and `(a', b')` are dual feasible for `D` and `D'`, then `(a ⊗ a', b ⊗ b')` is dual
feasible for `D ⊗ D'`, and EVERY positive semidefinite unit-diagonal matrix of the product game has bias at most
`(Σa + Σb)/2 · (Σa' + Σb')/2`, the product of the two dual values (perfect parallel repetition of the bias of XOR-sums,
Cleve–Slofstra–Unger–Upadhyay). -/
theorem xor_sum_multiplicative (D : X → Y → ℝ) (D' : X' → Y' → ℝ) :
    (∀ (c : X → Y → ℝ) (c' : X' → Y' → ℝ), IsQuantumCorr c → IsQuantumCorr c' →
      IsQuantumCorr (kronD c c') ∧
      ∑ p, ∑ q, kronD D D' p q * kronD c c' p q = (∑ x, ∑ y, D x y * c x y) * ∑ x, ∑ y, D' x y * c' x y) ∧
    (∀ (a : X → ℝ) (b : Y → ℝ) (a' : X' → ℝ) (b' : Y' → ℝ), (tsirelsonDual D a b).PosSemidef →
      (tsirelsonDual D' a' b').PosSemidef →
      (tsirelsonDual (kronD D D') (fun p => a p.1 * a' p.2) (fun q => b q.1 * b' q.2)).PosSemidef ∧
      ∀ Γ : Matrix ((X × X') ⊕ (Y × Y')) ((X × X') ⊕ (Y × Y')) ℂ, IsMoment Γ →
        ∑ p, ∑ q, kronD D D' p q * (Γ (.inl p) (.inr q)).re
          ≤ ((∑ x, a x + ∑ y, b y) / 2) * ((∑ x, a' x + ∑ y, b' y) / 2)) :=
  ⟨fun c c' h h' => ⟨isQuantumCorr_of_vector (isVectorCorr_kron (isVectorCorr_of_quantum h) (isVectorCorr_of_quantum h')),
      kronD_bias D D' c c'⟩,
    fun _ _ _ _ hZ hZ' => ⟨tsirelsonDual_kron_psd hZ hZ', fun _ hΓ => hΓ.isVectorCorr.le_dual_kron hZ hZ'⟩⟩

/-- **Weak duality, geometric-mean form.**  `(λa, b/λ)` is dual feasible for every `λ > 0` whenever `(a, b)` is; optimising
over `λ`, every feasible `Γ` has bias at most `√(Σa · Σb) ≤ (Σa + Σb)/2`. -/
theorem tsirelson_weak_duality_geometric (D : X → Y → ℝ) (a : X → ℝ) (b : Y → ℝ) (Γ : Matrix (X ⊕ Y) (X ⊕ Y) ℂ)
    (hΓ : IsMoment Γ) (hZ : (tsirelsonDual D a b).PosSemidef) :
    (∀ lam : ℝ, 0 < lam → (tsirelsonDual D (fun x => lam * a x) (fun y => lam⁻¹ * b y)).PosSemidef) ∧
    ∑ x, ∑ y, D x y * (Γ (.inl x) (.inr y)).re ≤ Real.sqrt ((∑ x, a x) * ∑ y, b y) ∧
    Real.sqrt ((∑ x, a x) * ∑ y, b y) ≤ (∑ x, a x + ∑ y, b y) / 2 :=
  ⟨fun lam hl => tsirelsonDual_rebalance hZ lam hl, hΓ.isVectorCorr.le_geo hZ, sqrt_dual_le hZ⟩

end Multiplicative

/-- **Cost matrix.**  For a 0/1 predicate, `d_mat[x,y] = prob[x,y] · (-1)^pred[x,y]` is `+prob[x,y]` where the
players must answer equal bits and `−prob[x,y]` where they must answer different bits. -/
theorem dMat_sign (prob : Nat → Nat → Rat) (pred : Nat → Nat → Nat) (x y : Nat) (hf : pred x y < 2) :
    dMat prob pred x y = if pred x y = 0 then prob x y else -prob x y := by
  have h : pred x y = 0 ∨ pred x y = 1 := by omega
  rcases h with h | h <;> simp [dMat, h, negOnePow_zero, negOnePow_one]

/-- **Constraint matrix.**  The matrix assembled by `cvxpy.bmat([[diag(u), -D], [-Dᵀ, diag(v)]])` (rows and columns
`0 … m-1` Alice, `m … m+n-1` Bob) is, up to the canonical identification `Fin m ⊕ Fin n ≃ Fin (m+n)`, the block
matrix `tsirelsonDual D u v` of the weak-duality theorem. -/
theorem xor_dual_matrix_mirror {m n : Nat} (D : Nat → Nat → Rat) (u v : Nat → Rat) :
    (xorDualMat m n D u v).toM.submatrix finSumFinEquiv finSumFinEquiv
      = tsirelsonDual (castD D) (castV (m := m) u) (castV (m := n) v) :=
  toM_xorDualMat_submatrix D u v

section Checkers
variable {m n k : Nat}

/-- **Primal checker.**  If `checkXorPrimal` accepts `Γ` with value `lo`, then `Γ` denotes a positive
semidefinite matrix with unit diagonal whose bias `Σ D[x,y] Re Γ[x, m+y]` is exactly `lo`: `lo` is a lower
bound of the Tsirelson optimum of `D`. -/
theorem checkXorPrimal_sound (D : Nat → Nat → Rat) (Γ : EMat (m + n) (m + n)) (L : EMat (m + n) k) (lo : Rat)
    (h : checkXorPrimal m n D Γ L = some lo) :
    IsMoment Γ.toM ∧ xorObjective (castD D) Γ.toM = (lo : ℝ) :=
  checkXorPrimal_eq_some D Γ L lo h

/-- **Dual checker.**  If `checkXorDual` accepts `(a, b)` with value `hi`, then EVERY positive semidefinite
`Γ'` with unit diagonal has bias at most `hi`. -/
theorem checkXorDual_sound (D : Nat → Nat → Rat) (a b : Nat → Rat) (L : EMat (m + n) k) (hi : Rat)
    (h : checkXorDual m n D a b L = some hi) :
    ∀ Γ' : Matrix (Fin (m + n)) (Fin (m + n)) ℂ, IsMoment Γ' → xorObjective (castD D) Γ' ≤ (hi : ℝ) :=
  fun _ hΓ' => checkXorDual_bound h (isVectorCorr_fin hΓ')

/-- **Dual checker, unit vectors and quantum strategies.**  An accepted dual certificate bounds the bias of
every family of unit vectors (any dimension) and of every quantum strategy (any dimension). -/
theorem checkXorDual_sound_strategies (D : Nat → Nat → Rat) (a b : Nat → Rat) (L : EMat (m + n) k) (hi : Rat)
    (h : checkXorDual m n D a b L = some hi) :
    (∀ (d : Type) [Fintype d] (u : Fin m → d → ℝ) (v : Fin n → d → ℝ),
        (∀ x, ∑ i, u x i ^ 2 = 1) → (∀ y, ∑ i, v y i ^ 2 = 1) →
        ∑ x, ∑ y, castD D x y * ∑ i, u x i * v y i ≤ (hi : ℝ)) ∧
    (∀ (d : Type) [Fintype d] [DecidableEq d] (ρ : Matrix d d ℂ) (A : Fin m → Matrix d d ℂ)
        (B : Fin n → Matrix d d ℂ), IsStrategy ρ A B →
        ∑ x, ∑ y, castD D x y * (ρ * A x * B y).trace.re ≤ (hi : ℝ)) :=
  ⟨fun _ _ u v hu hv => checkXorDual_bound h (isVectorCorr_of_vectors u v hu hv),
    fun _ _ _ _ _ _ hs => checkXorDual_bound h hs.isVectorCorr⟩

/-- Accepted primal and dual certificates bracket the optimum. -/
theorem xor_lo_le_hi (D : Nat → Nat → Rat) (Γ : EMat (m + n) (m + n)) (L : EMat (m + n) k) (a b : Nat → Rat)
    {k' : Nat} (L' : EMat (m + n) k') (lo hi : Rat) (hlo : checkXorPrimal m n D Γ L = some lo)
    (hhi : checkXorDual m n D a b L' = some hi) : (lo : ℝ) ≤ (hi : ℝ) := by
  obtain ⟨hΓ, hv⟩ := checkXorPrimal_sound D Γ L lo hlo
  rw [← hv]
  exact checkXorDual_sound D a b L' hi hhi _ hΓ

/-- **Primal checker, quantum reading.**  An accepted primal certificate of value `lo` is the correlation matrix of a quantum
strategy (finite-dimensional state, commuting ±1 observables) whose bias is exactly `lo`; an accepted dual certificate of
value `hi` bounds the bias of every quantum strategy.  So the optimal quantum bias of `D` lies in `[lo, hi]`: the lower end
is attained by an explicit strategy, the upper end is a bound for all strategies in all dimensions. -/
theorem xor_quantum_optimum_bracket (D : Nat → Nat → Rat) (Γ : EMat (m + n) (m + n)) (L : EMat (m + n) k)
    (a b : Nat → Rat) {k' : Nat} (L' : EMat (m + n) k') (lo hi : Rat)
    (hlo : checkXorPrimal m n D Γ L = some lo) (hhi : checkXorDual m n D a b L' = some hi) :
    (∃ c : Fin m → Fin n → ℝ, IsQuantumCorr c ∧ ∑ x, ∑ y, castD D x y * c x y = (lo : ℝ)) ∧
    ∀ c : Fin m → Fin n → ℝ, IsQuantumCorr c → ∑ x, ∑ y, castD D x y * c x y ≤ (hi : ℝ) :=
  ⟨checkXorPrimal_quantum D Γ L lo hlo, fun _ hc => checkXorDual_bound hhi (isVectorCorr_of_quantum hc)⟩

end Checkers

/-- **The classical bias is the maximum over ±1 assignments.**  `xorClassicalBias m n D` (computed by
enumerating `2^(m+n)` codes) is attained by a pair of sign vectors and dominates `Σ D[x,y] s_x t_y` for every
pair of sign vectors. -/
theorem xor_classical_eq_sign_max (m n : Nat) (D : Nat → Nat → Rat) :
    (∃ s t, IsSignPair m n s t ∧ signBias m n D s t = xorClassicalBias m n D) ∧
      ∀ s t, IsSignPair m n s t → signBias m n D s t ≤ xorClassicalBias m n D := by
  rw [xorClassicalBias_eq]
  exact sign_enum_spec m n (signBias m n D) (signBias_congr m n D)

/-- **The classical value is the maximum over deterministic strategies of the converted game.**
`xorClassicalValue` is attained by a pair of answer functions and dominates the winning probability
`Σ prob x y · [pred x y = α x ⊕ β y]` of every pair of bit-valued answer functions. -/
theorem xor_classical_value_is_max (m n : Nat) (prob : Nat → Nat → Rat) (pred : Nat → Nat → Nat) :
    (∃ α β, IsBitStrategy m n α β ∧ detWin m n prob pred α β = xorClassicalValue m n prob pred) ∧
      ∀ α β, IsBitStrategy m n α β → detWin m n prob pred α β ≤ xorClassicalValue m n prob pred :=
  xorClassicalValue_spec m n prob pred

/-- **Conversion to a general game.**  With the predicate `V(a,b|x,y) = [pred x y = a ⊕ b]`, the winning
probability of the deterministic strategy `a = α x`, `b = β y` equals `Σπ/2 + (Σ D[x,y] s_x t_y)/2` with
`s = (-1)^α`, `t = (-1)^β` (for a 0/1 predicate; `Σπ = 1` for a distribution). -/
theorem xor_conversion (m n : Nat) (prob : Nat → Nat → Rat) (pred : Nat → Nat → Nat) (α β : Nat → Nat)
    (hf : ∀ x y, x < m → y < n → pred x y < 2) (h : IsBitStrategy m n α β) :
    detWin m n prob pred α β
      = totalProb m n prob / 2
        + signBias m n (dMat prob pred) (fun x => negOnePow (α x)) (fun y => negOnePow (β y)) / 2 :=
  detWin_eq_bias m n prob pred α β hf h.1 h.2

/-- **Classical value = 1/2 + 1/2 · classical bias** for a distribution and a 0/1 predicate: the XOR game and
its conversion have the same classical value. -/
theorem xor_classical_value_formula (m n : Nat) (prob : Nat → Nat → Rat) (pred : Nat → Nat → Nat)
    (hf : ∀ x y, x < m → y < n → pred x y < 2) (hp : totalProb m n prob = 1) :
    xorClassicalValue m n prob pred = 1 / 2 + xorClassicalBias m n (dMat prob pred) / 2 := by
  rw [xorClassicalValue_eq_bias m n prob pred hf, hp]

/-- **Classical ≤ quantum.**  The classical bias is at most every accepted dual bound. -/
theorem xor_classical_le_quantum {m n k : Nat} (D : Nat → Nat → Rat) (a b : Nat → Rat) (L : EMat (m + n) k)
    (hi : Rat) (h : checkXorDual m n D a b L = some hi) : ((xorClassicalBias m n D : Rat) : ℝ) ≤ (hi : ℝ) := by
  obtain ⟨s, t, hst, e⟩ := (xor_classical_eq_sign_max m n D).1
  rw [← e, signBias_cast]
  exact checkXorDual_bound h (isVectorCorr_of_signs _ _ (castV_sign s hst.1) (castV_sign t hst.2))

/-- **One-sided enumeration.**  Enumerating only Alice's `2^m` sign vectors and letting Bob answer optimally
(`max_s Σ_y |Σ_x s_x D[x,y]|` — the scheme of `NonlocalGame.classical_value`: one player's answer functions are enumerated, the
other's best answer is taken per question) gives, for all sizes and cost matrices, the same number as the enumeration of all
`2^(m+n)` sign pairs; hence `xorClassicalValueBR = Σπ/2 + bias/2` is the classical value of every XOR game with a 0/1
predicate.  This is the oracle the driver uses (`c08_classical`). -/
theorem xor_classical_one_sided (m n : Nat) (D : Nat → Nat → Rat) (prob : Nat → Nat → Rat) (pred : Nat → Nat → Nat) :
    xorClassicalBiasBR m n D = xorClassicalBias m n D ∧
    ((∀ x y, x < m → y < n → pred x y < 2) → xorClassicalValueBR m n prob pred = xorClassicalValue m n prob pred) :=
  ⟨xorClassicalBiasBR_eq m n D, xorClassicalValueBR_eq m n prob pred⟩

/-- **`XORGame.classical_value` as the code computes it.**  The method is `to_nonlocal_game().classical_value()`; the mirror of
that composition (`nlgPred`, then `NonlocalGame.classical_value`: scaled copy, role swap when Alice has fewer strategies,
transposes, `process_iteration` with best response per question, running maximum) returns, for all sizes, distributions and
predicates, the maximum `xorClassicalValue` of the winning probability over all pairs of bit-valued answer functions; the
mirror of the `else` branch of `NonlocalGame.__init__` (`xorClassicalPathReps`, taken by the code when `reps ≠ 1`) returns, for
every `reps`, the classical value of the product game the constructor builds (entries characterised by
`C07.productGame_pred` / `productGame_prob`).  The model is faithful for `reps ≥ 1`: at `reps = 0` the Python code returns `-inf`. -/
theorem xor_classical_path (m n : Nat) (prob : Nat → Nat → Rat) (pred : Nat → Nat → Nat) :
    xorClassicalCall m n 1 prob pred = some (xorClassicalValue m n prob pred) ∧
    ∀ reps, xorClassicalPathReps m n reps prob pred
      = some (Toq.Games.Spec.maxDetValue (2 ^ reps) (2 ^ reps) (m ^ reps) (n ^ reps)
          (Toq.Games.productProb m n reps prob) (Toq.Games.productPred 2 2 m n reps (nlgPred pred))) :=
  ⟨xorClassicalCall_one m n prob pred, fun reps => xorClassicalPathReps_eq m n reps prob pred⟩

/-- **`XORGame.__init__` accepts every XOR game.**  With `tol` defaulted (`eps · q0² · q1²`) or given (`≥ 0`), a
distribution with non-negative entries summing to 1 and a predicate of the same shape pass the three guards, and `self.tol` is
the stated tolerance; in general the constructor accepts iff the shapes agree, no entry is below `−tol` and the total is
within `tol` of 1 (the guards are tried in this order: size, sign, normalisation). -/
theorem xor_init_accepts (q0 q1 : Nat) (h0 : 0 < q0) (h1 : 0 < q1) (prob : Nat → Nat → Rat) (tol : Option Rat) :
    ((∀ t, tol = some t → 0 ≤ t) → (∀ x y, x < q0 → y < q1 → 0 ≤ prob x y) → totalProb q0 q1 prob = 1 →
      xorInit q0 q1 q0 q1 prob tol = .ok (xorTol q0 q1 tol)) ∧
    ∀ p0 p1, xorInit q0 q1 p0 p1 prob tol = .ok (xorTol q0 q1 tol) ↔
      (q0 = p0 ∧ q1 = p1) ∧ (∀ x y, x < q0 → y < q1 → -(xorTol q0 q1 tol) ≤ prob x y) ∧
        |totalProb q0 q1 prob - 1| ≤ xorTol q0 q1 tol := by
  refine ⟨fun htol hp hs => ?_, fun p0 p1 => xorInit_ok_iff q0 q1 p0 p1 h0 h1 prob tol⟩
  have ht : 0 ≤ xorTol q0 q1 tol := by
    cases tol with
    | none => exact xorTol_default_nonneg q0 q1
    | some t => exact htol t rfl
  rw [xorInit_ok_iff q0 q1 q0 q1 h0 h1]
  refine ⟨⟨rfl, rfl⟩, fun x y hx hy => le_trans (by linarith) (hp x y hx hy), ?_⟩
  rw [hs, sub_self, abs_zero]; exact ht

/-- **Value formula.**  When the solver returns `s = Σa + Σb = 2β`, `quantum_value` (one repetition) returns
`1/2 + β/2`. -/
theorem xor_value_formula (β : Rat) : xorValue (2 * β) 1 = 1 / 2 + β / 2 := by
  rw [xorValue_two_mul, pow_one]

/-- **Repetitions.**  With `reps = r`, `quantum_value` returns the `r`-th power of the single-shot value (that this power is
the quantum value of the repeated game is `xor_parallel_repetition` / `xor_repetition_bracket`). -/
theorem xor_reps_power (s : Rat) (r : Nat) : xorValue s r = xorValue s 1 ^ r := by
  simp only [xorValue, powN_eq_pow, pow_one]

/-- **Certified interval for the returned value.**  If `lo ≤ β ≤ hi` and `-1 ≤ lo`, the exact value for `r`
repetitions lies between `(1/2 + lo/2)^r` and `(1/2 + hi/2)^r`. -/
theorem xor_value_bounds (lo β hi : Rat) (r : Nat) (h0 : -1 ≤ lo) (h1 : lo ≤ β) (h2 : β ≤ hi) :
    (1 / 2 + lo / 2) ^ r ≤ xorValue (2 * β) r ∧ xorValue (2 * β) r ≤ (1 / 2 + hi / 2) ^ r := by
  have mono : ∀ p q : Rat, -1 ≤ p → p ≤ q → (1 / 2 + p / 2) ^ r ≤ (1 / 2 + q / 2) ^ r := fun p q hp hpq =>
    pow_le_pow_left₀ (by linarith) (by linarith) r
  rw [xorValue_two_mul]
  exact ⟨mono lo β h0 h1, mono β hi (h0.trans h1) h2⟩

section Repetition
variable {X Y : Type*} [Fintype X] [Fintype Y] [DecidableEq X] [DecidableEq Y] {d : Type*} [Fintype d] [DecidableEq d]

/-- **Perfect parallel repetition of XOR games (Cleve–Slofstra–Unger–Upadhyay), every `r`, every dimension.**
`andWin π f ρ E F` is the winning probability in the `r`-fold AND-repetition of the XOR game `(π, f)`: questions `x⃗ ∈ X^r`,
`y⃗ ∈ Y^r` drawn from `π^{⊗r}`, answers `a⃗, b⃗ ∈ {0,1}^r` produced by commuting measurements `E^{x⃗}_{a⃗}`, `F^{y⃗}_{b⃗}` (general POVMs) on a
state `ρ`, the players win iff `a_k ⊕ b_k = f(x_k, y_k)` in every round.  For a distribution `π`:
(i) if `(a, b)` is dual feasible for the single game (`[[diag a, −D], [−Dᵀ, diag b]] ⪰ 0`, `D = π·(-1)^f`), EVERY strategy wins
with probability at most `((1 + √(Σa·Σb))/2)^r ≤ (1/2 + 1/2·(Σa + Σb)/2)^r`;
(ii) for every single-round strategy `(ρ, A_x, B_y)` with ±1 observables, independent play (`ρ^{⊗r}`, projectors
`⊗_k (1 + (-1)^{a_k} A_{x_k})/2`) is a projective strategy of the repeated game (in particular a POVM strategy) and wins with
probability exactly `((1 + β)/2)^r`, `β = Σ D[x,y]⟨A_x B_y⟩` its single-round bias. -/
theorem xor_parallel_repetition (π : X → Y → ℝ) (f : X → Y → Bool) (hπ0 : ∀ x y, 0 ≤ π x y)
    (hπ1 : ∑ x, ∑ y, π x y = 1) (r : Nat) :
    (∀ (a : X → ℝ) (b : Y → ℝ), (tsirelsonDual (costB π f) a b).PosSemidef →
      ∀ (ρ : Matrix d d ℂ) (E : (Fin r → X) → (Fin r → Bool) → Matrix d d ℂ)
        (F : (Fin r → Y) → (Fin r → Bool) → Matrix d d ℂ), IsPovmStrategy ρ E F →
        andWin π f ρ E F ≤ ((1 + Real.sqrt ((∑ x, a x) * ∑ y, b y)) / 2) ^ r ∧
        ((1 + Real.sqrt ((∑ x, a x) * ∑ y, b y)) / 2) ^ r ≤ (1 / 2 + (∑ x, a x + ∑ y, b y) / 2 / 2) ^ r) ∧
    (∀ (ρ : Matrix d d ℂ) (A : X → Matrix d d ℂ) (B : Y → Matrix d d ℂ), IsStrategy ρ A B →
      IsProjStrategy (piKron fun _ : Fin r => ρ) (prodProj A) (prodProj B) ∧
      IsPovmStrategy (piKron fun _ : Fin r => ρ) (prodProj A) (prodProj B) ∧
      andWin (r := r) π f (piKron fun _ => ρ) (prodProj A) (prodProj B)
        = ((1 + ∑ x, ∑ y, costB π f x y * corrQ ρ A B x y) / 2) ^ r) :=
  ⟨fun a b hZ ρ E F hs => ⟨andWin_le_povm π f hπ0 hπ1 a b hZ ρ E F hs, geo_value_le hZ r⟩,
    fun _ _ _ hs => ⟨isProjStrategy_prod hs, isPovmStrategy_of_proj (isProjStrategy_prod hs), andWin_prod π f hπ1 hs⟩⟩

/-- **What `quantum_value` returns for `reps = r` brackets the value of the repeated game.**  If the checkers accept a primal
certificate (value `lo`) and a dual certificate (value `hi`) of the single game `(prob, pred)` (a distribution, `pred` read
modulo 2), then for every `r`: some projective strategy of the `r`-fold repetition wins with probability exactly
`xorValue (2·lo) r = (1/2 + lo/2)^r`, and every strategy (general measurements, any dimension) wins with probability at most
`xorValue (2·hi) r = (1/2 + hi/2)^r` — the interval against which the harness compares `XORGame(…, reps=r).quantum_value()`. -/
theorem xor_repetition_bracket {m n k k' : Nat} (prob : Nat → Nat → Rat) (pred : Nat → Nat → Nat)
    (hp0 : ∀ x y, x < m → y < n → 0 ≤ prob x y) (hp1 : totalProb m n prob = 1)
    (Γ : EMat (m + n) (m + n)) (L : EMat (m + n) k) (a b : Nat → Rat) (L' : EMat (m + n) k') (lo hi : Rat)
    (hlo : checkXorPrimal m n (dMat prob pred) Γ L = some lo) (hhi : checkXorDual m n (dMat prob pred) a b L' = some hi)
    (r : Nat) :
    (∃ (d : Type) (_ : Fintype d) (_ : DecidableEq d) (ρ : Matrix d d ℂ)
      (P : (Fin r → Fin m) → (Fin r → Bool) → Matrix d d ℂ) (Q : (Fin r → Fin n) → (Fin r → Bool) → Matrix d d ℂ),
      IsProjStrategy ρ P Q ∧ andWin (castD prob) (predBit pred) ρ P Q = ((xorValue (2 * lo) r : Rat) : ℝ)) ∧
    ∀ (d : Type) [Fintype d] [DecidableEq d] (ρ : Matrix d d ℂ) (E : (Fin r → Fin m) → (Fin r → Bool) → Matrix d d ℂ)
      (F : (Fin r → Fin n) → (Fin r → Bool) → Matrix d d ℂ), IsPovmStrategy ρ E F →
      andWin (castD prob) (predBit pred) ρ E F ≤ ((xorValue (2 * hi) r : Rat) : ℝ) :=
  ⟨checkXorPrimal_repetition_proj prob pred hp1 Γ L lo hlo r,
    fun _ _ _ ρ E F hs => checkXorDual_repetition_povm prob pred hp0 hp1 a b L' hi hhi r ρ E F hs⟩

end Repetition

/-- **Winning probability through correlators.**  For every behaviour `p(a,b|x,y)` (normalised for each
question pair; classical, quantum, NPA or non-signalling alike) the winning probability in the converted game
is `Σπ/2 + (Σ D[x,y] E[x,y])/2` with `E[x,y] = Σ_{a,b} (-1)^{a+b} p(a,b|x,y)`. -/
theorem xor_win_eq_bias (m n : Nat) (prob : Nat → Nat → Rat) (pred : Nat → Nat → Nat)
    (p : Nat → Nat → Nat → Nat → Rat) (hf : ∀ x y, x < m → y < n → pred x y < 2)
    (hp : ∀ x y, x < m → y < n → behTotal p x y = 1) :
    behWin m n prob pred p
      = totalProb m n prob / 2 + (sumN m fun x => sumN n fun y => dMat prob pred x y * corr p x y) / 2 := by
  refine sumN_sumN_half_add m n _ _ _ fun x y hx hy => ?_
  have h1 := hp x y hx hy
  simp only [behTotal, sumN_two] at h1
  simp only [corr, sumN_two, dMat, nlgPred_eq, hf x y hx hy, Nat.zero_lt_two, Nat.one_lt_two, negOnePow_zero,
    negOnePow_one]
  -- with `Σ_{a,b} p = 1` the constant parts of the four indicators add up to `1/2`
  linear_combination (prob x y / 2) * h1

/-- **The non-signalling value of every XOR game is `Σπ = 1`.**  The behaviour
`p(a,b|x,y) = 1/2 · [a ⊕ b = pred x y]` is non-negative, normalised, has uniform marginals (hence is
non-signalling) and wins with probability `Σπ`; no normalised non-negative behaviour wins with more. -/
theorem xor_ns_value_eq_one (m n : Nat) (prob : Nat → Nat → Rat) (pred : Nat → Nat → Nat)
    (hf : ∀ x y, x < m → y < n → pred x y < 2) (hprob : ∀ x y, x < m → y < n → 0 ≤ prob x y) :
    (∀ a b x y, 0 ≤ prBox pred a b x y) ∧
    (∀ x y, x < m → y < n → behTotal (prBox pred) x y = 1) ∧
    (∀ a x y, a < 2 → x < m → y < n → (sumN 2 fun b => prBox pred a b x y) = 1 / 2) ∧
    (∀ b x y, b < 2 → x < m → y < n → (sumN 2 fun a => prBox pred a b x y) = 1 / 2) ∧
    behWin m n prob pred (prBox pred) = totalProb m n prob ∧
    ∀ p : Nat → Nat → Nat → Nat → Rat, (∀ a b x y, 0 ≤ p a b x y) →
      (∀ x y, x < m → y < n → behTotal p x y = 1) → behWin m n prob pred p ≤ totalProb m n prob :=
  ⟨prBox_nonneg pred, fun x y hx hy => prBox_total pred x y (hf x y hx hy),
    fun a x y ha hx hy => prBox_marginalA pred a x y ha (hf x y hx hy),
    fun b x y hb hx hy => prBox_marginalB pred b x y hb (hf x y hx hy),
    behWin_prBox m n prob pred hf,
    fun p hp0 hp => behWin_le_total m n prob pred p hprob hp0 hp⟩

section Bell
variable {m n k : Nat}

/-- **Upper bound with marginal terms.**  If `checkBellDual` accepts with value `hi` (a Tsirelson dual
certificate of the extended coefficient matrix `[[t, bᵀ], [a, J]]`, value `(Σu + Σv)/2 − t`), then every
quantum strategy (any dimension) has
`Σ J[x,y]⟨A_x B_y⟩ + Σ a_x⟨A_x⟩ + Σ b_y⟨B_y⟩ ≤ hi`. -/
theorem checkBellDual_sound (J : Nat → Nat → Rat) (a b : Nat → Rat) (t : Rat) (u v : Nat → Rat)
    (L : EMat (m + 1 + (n + 1)) k) (hi : Rat) (hc : checkBellDual m n J a b t u v L = some hi)
    {d : Type*} [Fintype d] [DecidableEq d] (ρ : Matrix d d ℂ) (A : Fin m → Matrix d d ℂ)
    (B : Fin n → Matrix d d ℂ) (h : IsStrategy ρ A B) :
    bellValueR (castD J) (castV a) (castV b) ρ A B ≤ (hi : ℝ) := by
  obtain ⟨hZ, hv⟩ := checkBellDual_eq_some J a b t u v L hi hc
  exact hv ▸ bell_strategy_le_dual J a b t _ _ ρ A B h hZ

/-- **Lower bound by an explicit strategy.**  If `checkBellStrategy` accepts with value `lo`, the matrices
denote a quantum strategy (density matrix, commuting Hermitian involutions) whose Bell value is exactly `lo`. -/
theorem checkBellStrategy_sound {N : Nat} (J : Nat → Nat → Rat) (a b : Nat → Rat) (ρ : EMat N N)
    (Lρ : EMat N k) (A : Fin m → EMat N N) (B : Fin n → EMat N N) (lo : Rat)
    (h : checkBellStrategy m n J a b ρ Lρ A B = some lo) :
    IsStrategy ρ.toM (fun x => (A x).toM) (fun y => (B y).toM) ∧
      bellValueR (castD J) (castV a) (castV b) ρ.toM (fun x => (A x).toM) (fun y => (B y).toM) = (lo : ℝ) := by
  obtain ⟨hc, rfl⟩ := check_eq_some.mp h
  rw [Bool.and_eq_true] at hc
  exact ⟨isStrategy_of_checks hc.1 hc.2, (bellValue_cast ..).symm⟩

/-- Accepted strategy and dual certificates bracket the quantum maximum of the Bell expression. -/
theorem bell_lo_le_hi {N k' : Nat} (J : Nat → Nat → Rat) (a b : Nat → Rat) (ρ : EMat N N) (Lρ : EMat N k)
    (A : Fin m → EMat N N) (B : Fin n → EMat N N) (t : Rat) (u v : Nat → Rat)
    (L : EMat (m + 1 + (n + 1)) k') (lo hi : Rat) (hlo : checkBellStrategy m n J a b ρ Lρ A B = some lo)
    (hhi : checkBellDual m n J a b t u v L = some hi) : (lo : ℝ) ≤ (hi : ℝ) := by
  obtain ⟨hs, hv⟩ := checkBellStrategy_sound J a b ρ Lρ A B lo hlo
  rw [← hv]
  exact checkBellDual_sound J a b t u v L hi hhi _ _ _ hs

/-- **The best deterministic assignment is attained by a quantum strategy and is a maximum.**
`bellDetMax` (enumeration of `2^(m+n)` sign pairs) is attained by a pair of sign vectors, dominates every
pair, and each sign pair `(s, t)` is the Bell value of a (one-dimensional) quantum strategy — so a correct
quantum maximiser never returns less than `bellDetMax`, and `bellDetMax ≤` every accepted dual bound. -/
theorem bell_det_le_opt (J : Nat → Nat → Rat) (a b : Nat → Rat) :
    (∃ s t, IsSignPair m n s t ∧ bellDet m n J a b s t = bellDetMax m n J a b) ∧
    (∀ s t, IsSignPair m n s t → bellDet m n J a b s t ≤ bellDetMax m n J a b) ∧
    (∀ s t, IsSignPair m n s t →
      ∃ (ρ : Matrix (Fin 1) (Fin 1) ℂ) (A : Fin m → Matrix (Fin 1) (Fin 1) ℂ)
        (B : Fin n → Matrix (Fin 1) (Fin 1) ℂ), IsStrategy ρ A B ∧
        bellValueR (castD J) (castV a) (castV b) ρ A B = ((bellDet m n J a b s t : Rat) : ℝ)) ∧
    ∀ (t : Rat) (u v : Nat → Rat) (L : EMat (m + 1 + (n + 1)) k) (hi : Rat),
      checkBellDual m n J a b t u v L = some hi → ((bellDetMax m n J a b : Rat) : ℝ) ≤ (hi : ℝ) := by
  obtain ⟨hatt, hle⟩ := bellDetMax_spec m n J a b
  refine ⟨hatt, hle, fun _ _ => exists_strategy_of_signPair J a b, fun t u v L hi hc => ?_⟩
  obtain ⟨s, t', hst, e⟩ := hatt
  obtain ⟨ρ, A, B, hs, hv⟩ := exists_strategy_of_signPair J a b hst
  rw [← e, ← hv]
  exact checkBellDual_sound J a b t u v L hi hc ρ A B hs

/-- **Affine change of outcome labels** (0/1 outcomes, Clauser–Horne form, or any two values).  If Alice's
observable takes the values `α0, α1` then `A_x = ca + da·S_x` for a ±1 observable `S_x`
(`ca = (α0+α1)/2`, `da = (α0−α1)/2`), likewise `B_y = cb + db·T_y`.  For all correlators `e[x,y] = ⟨S_x T_y⟩`
and marginals `p_x = ⟨S_x⟩`, `q_y = ⟨T_y⟩`, the Bell expression in the original labels equals the constant
plus the Bell expression with the coefficients `bellAffine` in ±1 labels. -/
theorem bell_affine_change (J : Nat → Nat → Rat) (a b : Nat → Rat) (α0 α1 β0 β1 : Rat)
    (e : Nat → Nat → Rat) (p q : Nat → Rat) :
    (sumN m fun x => sumN n fun y => J x y *
          ((α0 + α1) / 2 * ((β0 + β1) / 2) + (α0 + α1) / 2 * ((β0 - β1) / 2) * q y
            + (α0 - α1) / 2 * ((β0 + β1) / 2) * p x + (α0 - α1) / 2 * ((β0 - β1) / 2) * e x y))
        + (sumN m fun x => a x * ((α0 + α1) / 2 + (α0 - α1) / 2 * p x))
        + (sumN n fun y => b y * ((β0 + β1) / 2 + (β0 - β1) / 2 * q y))
      = (bellAffine m n J a b α0 α1 β0 β1).2.2.2
        + (sumN m fun x => sumN n fun y => (bellAffine m n J a b α0 α1 β0 β1).1 x y * e x y)
        + (sumN m fun x => (bellAffine m n J a b α0 α1 β0 β1).2.1 x * p x)
        + (sumN n fun y => (bellAffine m n J a b α0 α1 β0 β1).2.2.1 y * q y) :=
  bellAffineC_spec m n J a b _ _ _ _ e p q

end Bell

/-! The checkers accept concrete instances.  CHSH game: `prob = 1/4`, `pred x y = x ∧ y`, `D = 1/4 · [[1, 1], [1, −1]]`; classical bias `1/2`, quantum
bias `1/√2 ≈ 0.7071`.  A rational Gram matrix with correlations `±7/10` certifies `β ≥ 7/10`; the dual point
`a = b = (9/25, 9/25)` certifies `β ≤ 18/25`. -/

section Examples

private def chshProb : Nat → Nat → Rat := fun _ _ => 1 / 4
private def chshPred : Nat → Nat → Nat := fun x y => x * y
private def r4 (rows : Array (Array Rat)) : EMat 4 4 := EMat.ofRows (rows.map fun r => r.map QI.ofRat) 4 4

example : xorClassicalBias 2 2 (dMat chshProb chshPred) = 1 / 2 := by decide +kernel

example : xorClassicalValue 2 2 chshProb chshPred = 3 / 4 := by decide +kernel

example : xorClassicalCall 2 2 1 chshProb chshPred = some (3 / 4) := by decide +kernel

example : xorClassicalBiasBR 2 2 (dMat chshProb chshPred) = 1 / 2 ∧ xorClassicalValueBR 2 2 chshProb chshPred = 3 / 4 := by
  decide +kernel

example : xorInit 2 2 2 2 chshProb none = .ok (1 / 281474976710656) ∧ xorInit 2 2 2 3 chshProb none = .sizeMismatch
    ∧ xorInit 2 2 2 2 (fun x y => if x = 0 ∧ y = 0 then -1 / 4 else if x = 1 ∧ y = 1 then 3 / 4 else 1 / 4) none = .negative
    ∧ xorInit 2 2 2 2 (fun _ _ => 1 / 8) (some (1 / 1000)) = .notNormalised := by decide +kernel

example : checkXorPrimal 2 2 (dMat chshProb chshPred)
    (r4 #[#[1, 0, 7/10, 7/10], #[0, 1, 7/10, -7/10], #[7/10, 7/10, 1, 0], #[7/10, -7/10, 0, 1]])
    (r4 #[#[1, 0, 0, 0], #[0, 1, 0, 0], #[7/10, 7/10, 0, 0], #[7/10, -7/10, 0, 0]]) = some (7 / 10) := by
  decide +kernel

example : checkXorDual 2 2 (dMat chshProb chshPred) (fun _ => 9 / 25) (fun _ => 9 / 25)
    (r4 #[#[3/5, 0, 0, 0], #[0, 3/5, 0, 0], #[-5/12, -5/12, 0, 0], #[-5/12, 5/12, 0, 0]]) = some (18 / 25) := by
  decide +kernel

/-- the hypotheses of `xor_parallel_repetition` are satisfiable: the CHSH game (uniform questions, `f = x ∧ y`) with the dual
point `a = b = (9/25, 9/25)` of the example above; so every strategy (general measurements) wins `r` parallel CHSH games with
probability at most `(1/2 + 9/25)^r = (43/50)^r` -/
example : (∀ x y : Fin 2, (0 : ℝ) ≤ (castD chshProb : Fin 2 → Fin 2 → ℝ) x y) ∧
    (∑ x : Fin 2, ∑ y : Fin 2, (castD chshProb : Fin 2 → Fin 2 → ℝ) x y = 1) ∧
    (tsirelsonDual (costB (castD chshProb) (predBit (m := 2) (n := 2) chshPred)) (castV (m := 2) fun _ => 9 / 25)
      (castV (m := 2) fun _ => 9 / 25)).PosSemidef := by
  refine ⟨fun x y => by simp [castD, chshProb], by simp [castD, chshProb]; norm_num, ?_⟩
  have h : checkXorDual 2 2 (dMat chshProb chshPred) (fun _ => 9 / 25) (fun _ => 9 / 25)
      (r4 #[#[3/5, 0, 0, 0], #[0, 3/5, 0, 0], #[-5/12, -5/12, 0, 0], #[-5/12, 5/12, 0, 0]]) = some (18 / 25) := by
    decide +kernel
  have := (checkXorDual_eq_some _ _ _ _ _ h).1
  rwa [castD_dMat] at this

/-- the hypotheses of `xor_classical_value_formula` hold for CHSH -/
example : (∀ x y, x < 2 → y < 2 → chshPred x y < 2) ∧ totalProb 2 2 chshProb = 1 := by
  refine ⟨fun x y hx hy => ?_, by decide +kernel⟩
  have : x * y ≤ 1 * 1 := Nat.mul_le_mul (by omega) (by omega)
  simp only [chshPred]; omega

/-! CHSH expression `⟨A₀B₀⟩ + ⟨A₀B₁⟩ + ⟨A₁B₀⟩ − ⟨A₁B₁⟩`: the maximally entangled state with the rational
observables `A₀ = Z⊗1`, `A₁ = X⊗1`, `B₀ = 1⊗(3Z+4X)/5`, `B₁ = 1⊗(3Z−4X)/5` is accepted as a strategy of value
`14/5 > 2`; the dual point `u = v = (0, 3/2, 3/2)`, `t = 0` certifies `≤ 3`. -/

private def chshJ : Nat → Nat → Rat := fun x y => if x = 1 ∧ y = 1 then -1 else 1
private def zero1 : Nat → Rat := fun _ => 0
private def r6 (rows : Array (Array Rat)) : EMat 6 6 := EMat.ofRows (rows.map fun r => r.map QI.ofRat) 6 6

private def exA : Fin 2 → EMat 4 4 := fun x =>
  if x.val = 0 then r4 #[#[1, 0, 0, 0], #[0, 1, 0, 0], #[0, 0, -1, 0], #[0, 0, 0, -1]]
  else r4 #[#[0, 0, 1, 0], #[0, 0, 0, 1], #[1, 0, 0, 0], #[0, 1, 0, 0]]
private def exB : Fin 2 → EMat 4 4 := fun y =>
  if y.val = 0 then r4 #[#[3/5, 4/5, 0, 0], #[4/5, -3/5, 0, 0], #[0, 0, 3/5, 4/5], #[0, 0, 4/5, -3/5]]
  else r4 #[#[3/5, -4/5, 0, 0], #[-4/5, -3/5, 0, 0], #[0, 0, 3/5, -4/5], #[0, 0, -4/5, -3/5]]

example : checkBellStrategy 2 2 chshJ zero1 zero1
    (r4 #[#[1/2, 0, 0, 1/2], #[0, 0, 0, 0], #[0, 0, 0, 0], #[1/2, 0, 0, 1/2]]) (EMat.zero : EMat 4 1) exA exB
    = some (14 / 5) := by decide +kernel

example : checkBellDual 2 2 chshJ zero1 zero1 0 (fun i => if i = 0 then 0 else 3 / 2) (fun i => if i = 0 then 0 else 3 / 2)
    (r6 #[#[0, 0, 0, 0, 0, 0], #[0, 6/5, 0, 0, 0, 0], #[0, 0, 6/5, 0, 0, 0], #[0, 0, 0, 0, 0, 0],
      #[0, -5/6, -5/6, 0, 0, 0], #[0, -5/6, 5/6, 0, 0, 0]]) = some 3 := by decide +kernel

example : bellDetMax 2 2 chshJ zero1 zero1 = 2 := by decide +kernel

end Examples

end Toq.C08
