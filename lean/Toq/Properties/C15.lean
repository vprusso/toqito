import Toq.Proofs.Sep
import Toq.Proofs.PartialTranspose
import Toq.Proofs.SepCascade
import Toq.Proofs.SepExtra
import Toq.Proofs.SepArgs
/-!
# C15 — PPT and separability verdicts are sound

Vocabulary (`Toq/Proofs/SepCriteria.lean`): matrices on `ℂ^dA ⊗ ℂ^dB` are indexed by pairs `(a, b)`;
`ptBM`/`ptAM` are the partial transposes, `swapM` exchanges the parties, `IsSepMix ρ` says that `ρ` is a
finite mixture `Σ_k w_k (a_k a_kᴴ) ⊗ (b_k b_kᴴ)` with `w_k ≥ 0`.  The executable model
(`Toq/Model/Sep.lean`) works on exact matrices over `ℚ[i]` with the flat index `a * dB + b` that toqito
uses; `unflat` (`Toq/Proofs/Sep.lean`) reads a flat matrix as a pair-indexed one and `EMat.toM` is the complex matrix denoted by
an exact matrix.  "`λ_min(A) ≥ c`" is expressed as `(A − c·1).PosSemidef`.

Three kinds of statement.  (1) Criteria: every test by which `is_separable` answers "entangled" (PPT, realignment, the bound of
Zhang et al., positive maps) is a necessary criterion, i.e. no `IsSepMix` operator fails it; the trace norm of those tests is
`nucNorm`, the dual form, proved equal to the sum of the singular values of any singular value decomposition.  (2) Bridges: the
executable operators on flat indices compute the pair-indexed ones (`…_exec_eq_spec`).  (3) Decision logic
(`Toq/Model/SepCascade.lean`): which statement of `is_ppt`, `is_separable`, `has_symmetric_extension` returns what, given the
evaluated quantities; only necessary criteria can answer `False`, so with exact quantities no separable state is rejected before
the late stage.  The positivity of the Ha–Kye qutrit maps is a cited hypothesis.

What the correspondence harness uses: the float matrix handed to toqito has an exact dyadic image `X`;
certificates `(c, L)` and `v` for `pt sys X` are checked by the compiled `checkLamMinLower/Upper`, and
the theorems below say what an accepted certificate means for `X`.
-/

open Matrix
open scoped ComplexOrder MatrixOrder Kronecker

namespace Toq.C15
open Toq.Sep

/-! ## Peres' criterion and the party of the transpose -/

/-- **Peres.**  Every finite mixture of product states `Σ_k w_k (a_k a_kᴴ) ⊗ (b_k b_kᴴ)`, `w_k ≥ 0`, has
a positive semidefinite partial transpose with respect to either party, for all local index types
(in particular all local dimensions). -/
theorem peres {m n : Type*} [Finite m] [Finite n] (ρ : Matrix (m × n) (m × n) ℂ) (h : IsSepMix ρ) :
    (ptBM ρ).PosSemidef ∧ (ptAM ρ).PosSemidef :=
  ⟨h.ptBM_posSemidef, h.ptAM_posSemidef⟩

/-- The same for mixtures of products of arbitrary (mixed) local states: `Σ_k w_k A_k ⊗ B_k` with
`w_k ≥ 0` and `A_k, B_k ⪰ 0` is PSD and has PSD partial transposes. -/
theorem peres_products {m n : Type*} [Finite m] [Finite n] {K : ℕ} (w : Fin K → ℝ)
    (A : Fin K → Matrix m m ℂ) (B : Fin K → Matrix n n ℂ) (hw : ∀ k, 0 ≤ w k)
    (hA : ∀ k, (A k).PosSemidef) (hB : ∀ k, (B k).PosSemidef) :
    (∑ k, (w k : ℂ) • (A k ⊗ₖ B k)).PosSemidef ∧
      (ptBM (∑ k, (w k : ℂ) • (A k ⊗ₖ B k))).PosSemidef ∧
      (ptAM (∑ k, (w k : ℂ) • (A k ⊗ₖ B k))).PosSemidef :=
  have h : IsSepMix (∑ k, (w k : ℂ) • (A k ⊗ₖ B k)) :=
    .sum _ _ fun k _ => (isSepMix_kron_of_posSemidef (hA k) (hB k)).smul (hw k)
  ⟨h.posSemidef, h.ptBM_posSemidef, h.ptAM_posSemidef⟩

/-- Transposing the first party is the full transpose of transposing the second party, and positive
semidefiniteness does not see the difference: the PPT verdict does not depend on `sys`. -/
theorem ppt_party_irrelevant {m n : Type*} (X : Matrix (m × n) (m × n) ℂ) :
    ptAM X = (ptBM X)ᵀ ∧ ((ptAM X).PosSemidef ↔ (ptBM X).PosSemidef) :=
  ⟨rfl, posSemidef_pTL_iff⟩

/-- **Bridge.**  The executable partial transposes on the flat index `a * dB + b` are the partial
transposes: entrywise `(T_B X)[a·dB+b, a'·dB+b'] = X[a·dB+b', a'·dB+b]`,
`(T_A X)[a·dB+b, a'·dB+b'] = X[a'·dB+b, a·dB+b']`, and `pt sys` selects `T_A` for `sys = 1`, `T_B`
otherwise. -/
theorem pt_exec_eq_spec {dA dB : Nat} (X : EMat (dA * dB) (dA * dB)) (sys : Nat) :
    unflat (pt sys X).toM = (if sys = 1 then ptAM (unflat X.toM) else ptBM (unflat X.toM)) ∧
    (∀ (a a' : Fin dA) (b b' : Fin dB),
      (ptB X).toM (pair a b) (pair a' b') = X.toM (pair a b') (pair a' b) ∧
      (ptA X).toM (pair a b) (pair a' b') = X.toM (pair a' b) (pair a b')) := by
  exact ⟨unflat_pt sys X, fun a a' b b' =>
    ⟨congrFun₂ (unflat_ptB X) (a, b) (a', b'), congrFun₂ (unflat_ptA X) (a, b) (a', b')⟩⟩

/-! ## Certified enclosure of the smallest eigenvalue -/

/-- If the lower checker accepts, it returns the proposed `c`, `A − c·1` is positive semidefinite, and
hence `c · xᴴx ≤ Re xᴴAx` for every vector `x`: every eigenvalue of `A` is at least `c`. -/
theorem checkLamMinLower_sound {n k : Nat} (A : EMat n n) (c : Rat) (L : EMat n k) (lo : Rat)
    (h : checkLamMinLower A c L = some lo) :
    lo = c ∧ (A.toM - (((lo : ℝ) : ℂ)) • (1 : Matrix (Fin n) (Fin n) ℂ)).PosSemidef ∧
      ∀ x : Fin n → ℂ, (lo : ℝ) * (star x ⬝ᵥ x).re ≤ (star x ⬝ᵥ (A.toM *ᵥ x)).re :=
  ⟨(checkLamMinLower_eq h).2, checkLamMinLower_psd h,
    (checkLamMinLower_psd h).le_re_quad⟩

/-- If the upper checker accepts with value `hi` (the Rayleigh quotient `vᴴAv / vᴴv` of a non-zero
exact vector), then no `c > hi` has `A − c·1 ⪰ 0`: the smallest eigenvalue of `A` is at most `hi`. -/
theorem checkLamMinUpper_sound {n : Nat} (A : EMat n n) (v : EMat n 1) (hi : Rat)
    (h : checkLamMinUpper A v = some hi) :
    ∀ c : ℝ, (A.toM - (c : ℂ) • (1 : Matrix (Fin n) (Fin n) ℂ)).PosSemidef → c ≤ (hi : ℝ) :=
  fun c hc => checkLamMinUpper_bound h c hc

/-- Accepted lower and upper certificates enclose an interval. -/
theorem lamMin_lo_le_hi {n k : Nat} (A : EMat n n) (c : Rat) (L : EMat n k) (v : EMat n 1)
    (lo hi : Rat) (hlo : checkLamMinLower A c L = some lo) (hhi : checkLamMinUpper A v = some hi) :
    lo ≤ hi := by
  have := checkLamMinUpper_bound hhi (lo : ℝ) (checkLamMinLower_psd hlo)
  exact_mod_cast this

/-- **The PPT verdict decided by certificates is the mathematical one.**  `pptVerdict … = some true`
implies `T_sys X + tol·1 ⪰ 0` (the smallest eigenvalue of the exact partial transpose is `≥ −tol`);
`some false` implies that this fails. -/
theorem pptVerdict_sound {dA dB k : Nat} (sys : Nat) (X : EMat (dA * dB) (dA * dB)) (tol c : Rat)
    (L : EMat (dA * dB) k) (v : EMat (dA * dB) 1) (b : Bool)
    (h : pptVerdict sys X tol c L v = some b) :
    (b = true ↔ ((pt sys X).toM
        + (((tol : ℝ) : ℂ)) • (1 : Matrix (Fin (dA * dB)) (Fin (dA * dB)) ℂ)).PosSemidef) :=
  lamMinVerdict_sound h

/-- **A certified negative partial transpose excludes separability.**  If some exact vector has a
negative Rayleigh quotient for the exact partial transpose (either party) of `X`, then `X` is not a
mixture of product states.  (This is what makes "`is_separable` must not answer True" an oracle.) -/
theorem negative_rayleigh_not_separable {dA dB : Nat} (sys : Nat) (X : EMat (dA * dB) (dA * dB))
    (v : EMat (dA * dB) 1) (hi : Rat) (h : checkLamMinUpper (pt sys X) v = some hi) (hneg : hi < 0) :
    ¬ IsSepMix (unflat X.toM) :=
  fun hsep => checkLamMinUpper_neg_not_psd h hneg (hsep.pt_posSemidef sys)

/-! ## The separable class: exact constructions and closure properties -/

/-- The exact matrix `Σ_k w_k (a_k a_kᴴ) ⊗ (b_k b_kᴴ)` computed by the model from rational data with
non-negative weights is a mixture of product states, it is PSD, and both of its executable partial
transposes are PSD. -/
theorem sepMix_separable {dA dB : Nat} (ws : List Rat) (as : List (EMat dA 1)) (bs : List (EMat dB 1))
    (hw : ∀ w ∈ ws, 0 ≤ w) :
    IsSepMix (unflat (sepMix ws as bs).toM) ∧ (sepMix ws as bs).toM.PosSemidef ∧
      ∀ sys, (pt sys (sepMix ws as bs)).toM.PosSemidef := by
  have h := sepMix_isSepMix ws as bs hw
  exact ⟨h, (unflat_posSemidef_iff _).mp h.posSemidef, h.pt_posSemidef⟩

/-- The class of mixtures of product states is closed under local maps `ρ ↦ (U ⊗ V) ρ (U ⊗ V)ᴴ` (any
matrices `U`, `V`); that the executable `localConj` computes this map is `localConj_exec_eq_spec`. -/
theorem sep_local_unitary_closed {m n : Type*} [Fintype m] [Fintype n]
    (ρ : Matrix (m × n) (m × n) ℂ) (U : Matrix m m ℂ) (V : Matrix n n ℂ) (h : IsSepMix ρ) :
    IsSepMix ((U ⊗ₖ V) * ρ * (U ⊗ₖ V)ᴴ) :=
  h.induction (P := fun ρ => IsSepMix ((U ⊗ₖ V) * ρ * (U ⊗ₖ V)ᴴ)) (by rw [Matrix.mul_zero, Matrix.zero_mul]; exact isSepMix_zero)
    (fun _ _ h1 h2 => by rw [Matrix.mul_add, Matrix.add_mul]; exact h1.add h2)
    fun a b => by
      rw [conjTranspose_kronecker, ← mul_kronecker_mul, ← mul_kronecker_mul, conj_proj, conj_proj]
      exact isSepMix_kron_proj _ _

/-- For unitary `U`, `V` the local map is a bijection of the class: `ρ` is a mixture of product states
iff `(U ⊗ V) ρ (U ⊗ V)ᴴ` is.  Hence a correct separability verdict is invariant under local unitaries. -/
theorem sep_local_unitary_iff {m n : Type*} [Fintype m] [Fintype n] [DecidableEq m] [DecidableEq n]
    (ρ : Matrix (m × n) (m × n) ℂ) (U : Matrix m m ℂ) (V : Matrix n n ℂ)
    (hU : Uᴴ * U = 1) (hV : Vᴴ * V = 1) :
    IsSepMix ((U ⊗ₖ V) * ρ * (U ⊗ₖ V)ᴴ) ↔ IsSepMix ρ := by
  refine ⟨fun h => ?_, sep_local_unitary_closed ρ U V⟩
  -- conjugate back by `(U ⊗ V)ᴴ = Uᴴ ⊗ Vᴴ`
  have h2 := sep_local_unitary_closed _ Uᴴ Vᴴ h
  rwa [← conjTranspose_kronecker, conjTranspose_conjTranspose, Matrix.conj_conj_cancel (kronecker_conjTranspose_mul_self hU hV)] at h2

/-- The executable local conjugation on the flat index is `(U ⊗ V) X (U ⊗ V)ᴴ`. -/
theorem localConj_exec_eq_spec {dA dB : Nat} (U : EMat dA dA) (V : EMat dB dB)
    (X : EMat (dA * dB) (dA * dB)) :
    unflat (localConj U V X).toM = (U.toM ⊗ₖ V.toM) * unflat X.toM * (U.toM ⊗ₖ V.toM)ᴴ :=
  by simp only [localConj, EMat.toM_mul, EMat.toM_ct, unflat_mul, unflat_conjTranspose, unflat_kron]

/-- Exchanging the parties maps mixtures of product states to mixtures of product states, in both
directions (`swapM` is an involution); that the executable `swapAB` on flat indices computes `swapM` is `swapAB_exec_eq_spec`. -/
theorem sep_swap_closed {m n : Type*} (ρ : Matrix (m × n) (m × n) ℂ) :
    (IsSepMix (swapM ρ) ↔ IsSepMix ρ) ∧ swapM (swapM ρ) = ρ :=
  ⟨⟨fun h => (show swapM (swapM ρ) = ρ from rfl) ▸ h.swap, fun h => h.swap⟩, rfl⟩

/-- The executable exchange of parties on the flat index is `swapM`. -/
theorem swapAB_exec_eq_spec {dA dB : Nat} (X : EMat (dA * dB) (dA * dB)) :
    unflat (swapAB X).toM = swapM (unflat X.toM) := by
  ext ⟨b, a⟩ ⟨b', a'⟩
  simp [swapAB, swapM]

/-! ## The Gurvits–Barnum ball -/

/-- **`in_separable_ball` is a rational inequality.**  For an exact `n × n` matrix `M` (`n ≥ 2`) and a
positive trace threshold `thr` (toqito: `n·ε`), the decider accepts iff `Re tr M ≥ thr` and the
normalised operator `ρ = M / tr M` lies in the Gurvits–Barnum ball
`‖ρ − 1/n‖_F² ≤ 1/(n(n−1))` around the maximally mixed state. -/
theorem ball_exact {n : Nat} (hn : 2 ≤ n) (thr : Rat) (hthr : 0 < thr) (M : EMat n n) :
    inSepBall thr M = true ↔
      (thr : ℝ) ≤ (Matrix.trace M.toM).re ∧
      frobSq (((1 / (Matrix.trace M.toM).re : ℝ) : ℂ) • M.toM
          - ((1 / (n : ℝ) : ℝ) : ℂ) • (1 : Matrix (Fin n) (Fin n) ℂ))
        ≤ 1 / ((n : ℝ) * ((n : ℝ) - 1)) := by
  have hthr' : (0 : ℝ) < (thr : ℝ) := by exact_mod_cast hthr
  rw [inSepBall_iff]
  exact and_congr_right fun ha => (sepBall_frobSq_iff M.toM (hthr'.trans_le ha) hn).symm

/-- **The line-by-line mirror of `in_separable_ball` computes the same verdict** as the rational
inequality, for every exact matrix and every positive threshold. -/
theorem inSepBallMirror_eq {n : Nat} (thr : Rat) (hthr : 0 < thr) (M : EMat n n) :
    inSepBallMirror thr M = inSepBall thr M := by
  have hthr' : (0 : ℝ) < (thr : ℝ) := by exact_mod_cast hthr
  rw [Bool.eq_iff_iff, inSepBallMirror_iff, inSepBall_iff]
  exact and_congr_right fun h => sepBallMirror_frobSq_iff M.toM (hthr'.trans_le h)

/-- **Eigenvalue form of the ball test.**  `in_separable_ball` applied to a vector of eigenvalues
`λ` (it builds `diag λ`) accepts iff `Σλ ≥ thr` and `(n − 1) Σλ² ≤ (Σλ)²`. -/
theorem ball_eig_exact (thr : Rat) (lam : List Rat) :
    inSepBallEig thr lam = true ↔
      (thr : ℝ) ≤ ∑ i : Fin lam.length, ((lam.getD i.val 0 : Rat) : ℝ) ∧
      ((lam.length : ℝ) - 1) * ∑ i : Fin lam.length, ((lam.getD i.val 0 : Rat) : ℝ) ^ 2
        ≤ (∑ i : Fin lam.length, ((lam.getD i.val 0 : Rat) : ℝ)) ^ 2 := by
  unfold inSepBallEig
  -- the exact matrix built from the list denotes `diag λ`
  rw [inSepBall_iff, EMat.toM_ofFn_diagRat, frobSq_diagonal, trace_diagonal, ← Complex.ofReal_sum, Complex.ofReal_re, ← sq]
  simp only [nsq, Complex.normSq_ofReal, ← sq]

private def r4 (f : Fin 4 → Fin 4 → Rat) : EMat 4 4 := EMat.ofFn fun i j => ⟨f i j, 0⟩

/-- the two-qubit isotropic-like state `p |Φ⁺⟩⟨Φ⁺| + (1 − p) 1/4` with `p = 1/2` (entangled):
its partial transpose has the eigenvalue `(1 − 3p)/4 = −1/8` -/
private def rhoIso : EMat (2 * 2) (2 * 2) :=
  r4 fun i j =>
    (if i = j then 1/8 else 0) + (if (i.val = 0 ∨ i.val = 3) ∧ (j.val = 0 ∨ j.val = 3) then 1/4 else 0)

private def vSing : EMat (2 * 2) 1 := EMat.ofFn fun i _ => if i.val = 1 then ⟨1, 0⟩ else if i.val = 2 then ⟨-1, 0⟩ else 0

example : checkLamMinUpper (pt 2 rhoIso) vSing = some (-1/8) := by decide +kernel
example : checkLamMinLower (pt 2 rhoIso) (-1/8) (EMat.zero : EMat (2 * 2) 1) = some (-1/8) := by
  decide +kernel
example : pptVerdict 2 rhoIso (1/100000000) (-1/8) (EMat.zero : EMat (2 * 2) 1) vSing = some false := by
  decide +kernel
example : pptVerdict 1 rhoIso (1/4) (-1/8) (EMat.zero : EMat (2 * 2) 1) vSing = some true := by
  decide +kernel

/-- `diag(3,2,2,1)/8`: inside the ball (`3·18 ≤ 64`); `diag(5,1,1,1)/8`: outside (`3·28 > 64`) -/
example : inSepBall (n := 4) (1/1000000) (r4 fun i j => if i = j then (if i.val = 0 then 3/8 else if i.val = 3 then 1/8 else 1/4) else 0) = true := by
  decide +kernel
example : inSepBall (n := 4) (1/1000000) (r4 fun i j => if i = j then (if i.val = 0 then 5/8 else 1/8) else 0) = false := by
  decide +kernel
example : inSepBallMirror (n := 4) (1/1000000) (r4 fun i j => if i = j then (if i.val = 0 then 5/8 else 1/8) else 0) = false := by
  decide +kernel

/-! ## Necessary criteria evaluated after the PPT test: no separable state is rejected by them

`IsContr W` says `1 − WᴴW ⪰ 0` (operator norm at most one, `W` rectangular).  The trace (nuclear) norm is used in
its dual form `‖M‖₁ = sup { Re tr(Wᴴ M) : IsContr W }`: "`‖M‖₁ ≤ c`" is stated as
"`Re tr(Wᴴ M) ≤ c` for every contraction `W`", and — matching what `numpy.linalg.norm(·, "nuc")` computes — as
"`Σ_i σ_i ≤ c` for every singular value decomposition `M = U diag(σ) Vᴴ`" (`UᴴU = 1`, `VᴴV = 1`).
`realignM X ((a,a'),(b,b')) = X ((a,b),(a',b'))`, `ptrB`/`ptrA` are the partial traces `ρ_A`/`ρ_B`,
`frobSq` is the squared Frobenius norm, `applyB Λ = id ⊗ Λ`, `applyA Λ = Λ ⊗ id`, `choiMap J` is the linear map
whose Choi matrix (toqito convention `J = Σ_ij E_ij ⊗ Φ(E_ij)`) is `J`. -/

/-- **Bridge for the realignment.**  (1) The line-by-line model of `toqito.channels.realignment` (C03,
`Toq.PartialOps.realignment`, called with `dim = [dA, dB]` as `is_separable` does) has the entry
`X[a·dB + b, a'·dB + b']` at row `a·dA + a'`, column `b·dB + b'`; (2) the executable `realignE` on exact matrices,
read on pair indices, is `realignM` of the pair-indexed operator. -/
theorem realign_exec_eq_spec {dA dB : Nat} :
    (∀ (X : Nat → Nat → ℂ) (a a' : Fin dA) (b b' : Fin dB),
      Toq.PartialOps.realignment X dA dB dA dB (a.val * dA + a'.val) (b.val * dB + b'.val)
        = X (a.val * dB + b.val) (a'.val * dB + b'.val)) ∧
    (∀ X : EMat (dA * dB) (dA * dB),
      (realignE X).toM.submatrix (pairEquiv dA dA) (pairEquiv dB dB) = realignM (unflat X.toM)) := by
  refine ⟨fun X a a' b b' => ?_, fun X => by ext ⟨a, a'⟩ ⟨b, b'⟩; simp [realignE, realignM]⟩
  rw [Toq.PartialOps.realignment_eq_spec X dA dB dA dB _ _
    (Toq.Sep.pair_lt a.isLt a'.isLt) (Toq.Sep.pair_lt b.isLt b'.isLt)]
  unfold Toq.Spec.realignSpec
  rw [(Nat.mul_add_divMod_of_lt a'.isLt).1, (Nat.mul_add_divMod_of_lt a'.isLt).2, (Nat.mul_add_divMod_of_lt b'.isLt).1,
    (Nat.mul_add_divMod_of_lt b'.isLt).2]

/-- **Realignment (CCNR) criterion** (Chen–Wu, Rudolph).  For every mixture of product states `ρ`
(any local index types, in particular all local dimensions; weights `≥ 0`, not necessarily normalised) and every
contraction `W`: `Re tr(Wᴴ R(ρ)) ≤ tr ρ`, i.e. `‖R(ρ)‖₁ ≤ tr ρ`.  Consequently a state with
`Re tr(Wᴴ R(ρ)) > tr ρ` for some contraction `W` is not a mixture of product states. -/
theorem realignment_criterion {m n : Type*} [Fintype m] [Fintype n] [DecidableEq n]
    (ρ : Matrix (m × n) (m × n) ℂ) (W : Matrix (m × m) (n × n) ℂ) (hW : IsContr W) :
    (IsSepMix ρ → (Wᴴ * realignM ρ).trace.re ≤ ρ.trace.re) ∧
    (ρ.trace.re < (Wᴴ * realignM ρ).trace.re → ¬ IsSepMix ρ) :=
  ⟨fun h => h.re_trace_realign_le hW, fun hlt h => absurd (h.re_trace_realign_le hW) (not_le.mpr hlt)⟩

/-- **The test `trace_norm(realignment(ρ)) > 1 + tol` cannot fire on a separable state.**  Whatever singular value
decomposition `R(ρ) = U diag(σ) Vᴴ` (`UᴴU = 1`, `VᴴV = 1`) of the realigned mixture of product states is taken,
the sum of the singular values is at most `tr ρ` (`= 1` after the normalisation done by `is_separable`). -/
theorem realignment_criterion_svd {m n r : Type*} [Fintype m] [Fintype n] [Fintype r] [DecidableEq n]
    [DecidableEq r] (ρ : Matrix (m × n) (m × n) ℂ) (h : IsSepMix ρ) (U : Matrix (m × m) r ℂ)
    (V : Matrix (n × n) r ℂ) (σ : r → ℝ) (hU : Uᴴ * U = 1) (hV : Vᴴ * V = 1)
    (hsvd : realignM ρ = U * diagonal (fun i => (σ i : ℂ)) * Vᴴ) : ∑ i, σ i ≤ ρ.trace.re :=
  sum_singular_le_of_contr_bound (fun _ hW => h.re_trace_realign_le hW) U V σ hU hV hsvd

/-- **Zhang–Zhang–Zhang–Guo bound** ("beyond realignment", the second test of the cascade).  For every mixture
of product states `ρ` with `tr ρ = 1`, marginals `ρ_A = tr_B ρ`, `ρ_B = tr_A ρ`: both `1 − tr ρ_A²` and
`1 − tr ρ_B²` are non-negative (so the `max(0, ·)` in the code is inactive), and for every contraction `W`
`Re tr(Wᴴ R(ρ − ρ_A ⊗ ρ_B)) ≤ √((1 − tr ρ_A²)(1 − tr ρ_B²))`, i.e.
`‖R(ρ − ρ_A ⊗ ρ_B)‖₁ ≤ √((1 − tr ρ_A²)(1 − tr ρ_B²))`; the purities are in the form the code computes,
`Re tr(ρ_A ρ_A)`. -/
theorem zhang_criterion {m n : Type*} [Fintype m] [Fintype n] [DecidableEq n]
    (ρ : Matrix (m × n) (m × n) ℂ) (h : IsSepMix ρ) (ht : ρ.trace = 1) :
    0 ≤ 1 - (ptrB ρ * ptrB ρ).trace.re ∧ 0 ≤ 1 - (ptrA ρ * ptrA ρ).trace.re ∧
    ∀ W : Matrix (m × m) (n × n) ℂ, IsContr W →
      (Wᴴ * realignM (ρ - ptrB ρ ⊗ₖ ptrA ρ)).trace.re
        ≤ √((1 - (ptrB ρ * ptrB ρ).trace.re) * (1 - (ptrA ρ * ptrA ρ).trace.re)) := by
  have hH := h.posSemidef.1
  rw [re_trace_mul_self_of_isHermitian (ptrB_eq ρ ▸ hH.ptrR), re_trace_mul_self_of_isHermitian (ptrA_eq ρ ▸ hH.ptrL)]
  exact h.zhang ht

/-- **The test `trace_norm(realignment(ρ − ρ_A ⊗ ρ_B)) > tol + sqrt(…)` cannot fire on a separable state**: for
every singular value decomposition of `R(ρ − ρ_A ⊗ ρ_B)` the sum of the singular values is at most
`√((1 − tr ρ_A²)(1 − tr ρ_B²))`. -/
theorem zhang_criterion_svd {m n r : Type*} [Fintype m] [Fintype n] [Fintype r] [DecidableEq n]
    [DecidableEq r] (ρ : Matrix (m × n) (m × n) ℂ) (h : IsSepMix ρ) (ht : ρ.trace = 1)
    (U : Matrix (m × m) r ℂ) (V : Matrix (n × n) r ℂ) (σ : r → ℝ) (hU : Uᴴ * U = 1) (hV : Vᴴ * V = 1)
    (hsvd : realignM (ρ - ptrB ρ ⊗ₖ ptrA ρ) = U * diagonal (fun i => (σ i : ℂ)) * Vᴴ) :
    ∑ i, σ i ≤ √((1 - (ptrB ρ * ptrB ρ).trace.re) * (1 - (ptrA ρ * ptrA ρ).trace.re)) :=
  sum_singular_le_of_contr_bound (zhang_criterion ρ h ht).2.2 U V σ hU hV hsvd

/-- The same bound for mixtures `Σ_k p_k α_k ⊗ β_k` of products of arbitrary normalised local operators
(`tr α_k = tr β_k = 1`, `‖α_k‖_F, ‖β_k‖_F ≤ 1`: every density operator qualifies), with `p` a probability vector:
the marginals are `Σ_k p_k α_k`, `Σ_k p_k β_k` and
`‖R(ρ − ρ_A ⊗ ρ_B)‖₁ ≤ √((1 − ‖ρ_A‖_F²)(1 − ‖ρ_B‖_F²))`. -/
theorem zhang_products {m n K : Type*} [Fintype m] [Fintype n] [DecidableEq n] (s : Finset K) (p : K → ℝ)
    (α : K → Matrix m m ℂ) (β : K → Matrix n n ℂ) (hp : ∀ k ∈ s, 0 ≤ p k) (hsum : ∑ k ∈ s, p k = 1)
    (htα : ∀ k ∈ s, (α k).trace = 1) (htβ : ∀ k ∈ s, (β k).trace = 1)
    (hfα : ∀ k ∈ s, frobSq (α k) ≤ 1) (hfβ : ∀ k ∈ s, frobSq (β k) ≤ 1)
    (W : Matrix (m × m) (n × n) ℂ) (hW : IsContr W) :
    let ρ := ∑ k ∈ s, (p k : ℂ) • (α k ⊗ₖ β k)
    ptrB ρ = ∑ k ∈ s, (p k : ℂ) • α k ∧ ptrA ρ = ∑ k ∈ s, (p k : ℂ) • β k ∧
    0 ≤ 1 - frobSq (ptrB ρ) ∧ 0 ≤ 1 - frobSq (ptrA ρ) ∧
    (Wᴴ * realignM (ρ - ptrB ρ ⊗ₖ ptrA ρ)).trace.re
      ≤ √((1 - frobSq (ptrB ρ)) * (1 - frobSq (ptrA ρ))) :=
  by
  intro ρ
  have hA : ptrB ρ = ∑ k ∈ s, (p k : ℂ) • α k := ptrB_sum_smul_kron s p α β htβ
  have hB : ptrA ρ = ∑ k ∈ s, (p k : ℂ) • β k := ptrA_sum_smul_kron s p α β htα
  rw [hA, hB]
  exact ⟨rfl, rfl, frobSq_mean_le_one s p α hp hsum hfα, frobSq_mean_le_one s p β hp hsum hfβ,
    zhang_general s p α β hp hsum hfα hfβ hW⟩

/-- **Partial traces, executable = spec**: `ptrBE`/`ptrAE` on the flat index compute `ρ_A`/`ρ_B`, and the partial
traces preserve the trace. -/
theorem ptrace_exec_eq_spec {dA dB : Nat} (X : EMat (dA * dB) (dA * dB)) :
    (ptrBE X).toM = ptrB (unflat X.toM) ∧ (ptrAE X).toM = ptrA (unflat X.toM) ∧
    (ptrB (unflat X.toM)).trace = (unflat X.toM).trace ∧ (ptrA (unflat X.toM)).trace = (unflat X.toM).trace :=
  ⟨ptrBE_toM X, ptrAE_toM X, trace_ptrR _, trace_ptrL _⟩

/-- Every positive map (PSD operators to PSD operators) is positive on pure states: the hypothesis `IsPosOnPure` of the
positive-map criterion is the weakest form of positivity. -/
theorem positive_map_isPosOnPure {n k : Type*} [Finite n] (Λ : Matrix n n ℂ →ₗ[ℂ] Matrix k k ℂ)
    (hΛ : ∀ P : Matrix n n ℂ, P.PosSemidef → (Λ P).PosSemidef) : IsPosOnPure Λ :=
  fun b => hΛ _ (proj_posSemidef b)

/-- **Positive-map criterion** (Horodecki).  If the linear map `Λ` sends every `b bᴴ` to a positive semidefinite
operator (every positive map does), then `(id ⊗ Λ)(ρ) ⪰ 0` and, for `Λ` acting on the first party,
`(Λ ⊗ id)(ρ) ⪰ 0` for every mixture of product states `ρ`: a test
`not is_positive_semidefinite(partial_channel(ρ, J, sys, dim))` with the Choi matrix `J` of such a map cannot fire
on a separable state. -/
theorem positive_map_criterion {m n k : Type*} [Finite m] [Finite n] [Finite k]
    (ρ : Matrix (m × n) (m × n) ℂ) (h : IsSepMix ρ) :
    (∀ Λ : Matrix n n ℂ →ₗ[ℂ] Matrix k k ℂ, IsPosOnPure Λ → (applyB Λ ρ).PosSemidef) ∧
    (∀ Λ : Matrix m m ℂ →ₗ[ℂ] Matrix k k ℂ, IsPosOnPure Λ → (applyA Λ ρ).PosSemidef) :=
  ⟨fun _ hΛ => h.applyB_posSemidef hΛ, fun _ hΛ => h.applyA_posSemidef hΛ⟩

/-- **`partial_channel` with a Choi matrix, executable = spec**: on the flat indices, `choiApplyB J X` is
`(id ⊗ Φ_J)(X)` and `choiApplyA J X` is `(Φ_J ⊗ id)(X)`, where `Φ_J(Y) = Σ_kl Y_kl J[(k,·),(l,·)]` is the map with
Choi matrix `J`. -/
theorem partial_channel_exec_eq_spec {dA dB dO : Nat} (X : EMat (dA * dB) (dA * dB)) :
    (∀ J : EMat (dB * dO) (dB * dO),
      unflat (choiApplyB J X).toM = applyB (choiMap (unflat J.toM)) (unflat X.toM)) ∧
    (∀ J : EMat (dA * dO) (dA * dO),
      unflat (choiApplyA J X).toM = applyA (choiMap (unflat J.toM)) (unflat X.toM)) :=
  ⟨fun J => by
    ext ⟨a, o⟩ ⟨a', o'⟩
    simp only [choiApplyB, unflat_apply, EMat.toM_apply, EMat.get_ofFn, fstI_pair, sndI_pair, EMat.sumFin_toC, QI.toC_mul,
      applyB, blockB, choiMap_apply],
   fun J => by
    ext ⟨o, b⟩ ⟨o', b'⟩
    simp only [choiApplyA, unflat_apply, EMat.toM_apply, EMat.get_ofFn, fstI_pair, sndI_pair, EMat.sumFin_toC, QI.toC_mul,
      applyA, blockA, choiMap_apply]⟩

/-- **Transposition is a positive map and `id ⊗ T` is the partial transpose**: Peres' criterion is the instance
`Λ = T` of the positive-map criterion. -/
theorem transposition_instance {m n : Type*} [Finite n] (X : Matrix (m × n) (m × n) ℂ) :
    IsPosOnPure (transposeL (n := n)) ∧ applyB transposeL X = ptBM X :=
  ⟨transposeL_pos, applyB_transposeL X⟩

/-- **Reduction criterion** (Horodecki, Cerf–Adami–Gingrich).  The reduction map `X ↦ tr(X)·1 − X` is positive on
pure states (Cauchy–Schwarz), `(id ⊗ R)(ρ) = ρ_A ⊗ 1 − ρ`, `(R ⊗ id)(ρ) = 1 ⊗ ρ_B − ρ`, and both are positive
semidefinite for every mixture of product states. -/
theorem reduction_criterion {m n : Type*} [Fintype m] [Fintype n] [DecidableEq m] [DecidableEq n]
    (ρ : Matrix (m × n) (m × n) ℂ) (h : IsSepMix ρ) :
    (ptrB ρ ⊗ₖ (1 : Matrix n n ℂ) - ρ).PosSemidef ∧ ((1 : Matrix m m ℂ) ⊗ₖ ptrA ρ - ρ).PosSemidef := by
  rw [← applyB_reductionL, ← applyA_reductionL]
  exact ⟨h.applyB_posSemidef reductionL_pos, h.applyA_posSemidef reductionL_pos⟩

/-- **Breuer–Hall criterion.**  For every antisymmetric (`Uᵀ = −U`) contraction `U` — in particular every
antisymmetric unitary, which exists in even dimension — the map `X ↦ tr(X)·1 − X − U Xᵀ Uᴴ` is positive on pure
states (`U b̄ ⟂ b`, `‖U b̄‖ ≤ ‖b‖`, Bessel), hence applying it to either party of a mixture of product states gives
a positive semidefinite operator. -/
theorem breuer_hall_criterion {m n : Type*} [Fintype m] [Fintype n] [DecidableEq m] [DecidableEq n]
    (ρ : Matrix (m × n) (m × n) ℂ) (h : IsSepMix ρ) :
    (∀ U : Matrix n n ℂ, Uᵀ = -U → IsContr U →
      IsPosOnPure (breuerHallL U) ∧ (applyB (breuerHallL U) ρ).PosSemidef) ∧
    (∀ U : Matrix m m ℂ, Uᵀ = -U → IsContr U →
      IsPosOnPure (breuerHallL U) ∧ (applyA (breuerHallL U) ρ).PosSemidef) :=
  ⟨fun _ ha hU => ⟨breuerHallL_pos ha hU, h.applyB_posSemidef (breuerHallL_pos ha hU)⟩,
   fun _ ha hU => ⟨breuerHallL_pos ha hU, h.applyA_posSemidef (breuerHallL_pos ha hU)⟩⟩

/-- **The qutrit maps of the cascade.**  The Choi matrix `diag(a+1, c, b, b, a+1, c, c, b, a+1) − |Ω⟩⟨Ω|` that
`is_separable` hands to `partial_channel` is the Choi matrix of the generalised Choi map
`Φ[a,b,c](X) = diag(a x₀₀ + b x₁₁ + c x₂₂, a x₁₁ + b x₂₂ + c x₀₀, a x₂₂ + b x₀₀ + c x₁₁) − offdiag(X)`; if that map is
positive on pure states (Cho–Kye–Lee: `a + b + c ≥ 2` and `bc ≥ (1 − a)²` for `0 ≤ a ≤ 1`, which the parameters
`a = (1−t)²/(1−t+t²)`, `b = t²/(1−t+t²)`, `c = 1/(1−t+t²)` of the code satisfy with equality — cited, a hypothesis
here), the test built from it accepts every mixture of product states on `3 ⊗ 3`. -/
theorem ha_maps_branch (a b c : ℝ) (ρ : Matrix (Fin 3 × Fin 3) (Fin 3 × Fin 3) ℂ) (h : IsSepMix ρ) :
    (∀ (X : Matrix (Fin 3) (Fin 3) ℂ) (k l : Fin 3), choiMap (haChoi a b c) X k l
      = (if k = l then (a : ℂ) * X k k + b * X (k + 1) (k + 1) + c * X (k + 2) (k + 2) else 0)
        - (if k = l then 0 else X k l)) ∧
    (IsPosOnPure (choiMap (haChoi a b c)) → (applyB (choiMap (haChoi a b c)) ρ).PosSemidef) :=
  ⟨choiMap_haChoi a b c, fun hΛ => h.applyB_posSemidef hΛ⟩

/-- **The trace norm of the statements above is the one numpy computes.**  `nucNorm M = sup { Re tr(Wᴴ M) : 1 − WᴴW ⪰ 0 }`
equals `Σ_i σ_i` for EVERY singular value decomposition `M = U diag(σ) Vᴴ` (`UᴴU = 1`, `VᴴV = 1`, `σ ≥ 0`), and a bound
`Re tr(Wᴴ M) ≤ c` for all contractions is a bound `nucNorm M ≤ c`. -/
theorem nucNorm_spec {ι κ r : Type*} [Fintype ι] [Fintype κ] [Fintype r] [DecidableEq κ] [DecidableEq r]
    (U : Matrix ι r ℂ) (V : Matrix κ r ℂ) (σ : r → ℝ) (hU : Uᴴ * U = 1) (hV : Vᴴ * V = 1)
    (hσ : ∀ i, 0 ≤ σ i) :
    nucNorm (U * diagonal (fun i => (σ i : ℂ)) * Vᴴ) = ∑ i, σ i ∧
    ∀ (M : Matrix ι κ ℂ) (c : ℝ), (∀ W : Matrix ι κ ℂ, IsContr W → (Wᴴ * M).trace.re ≤ c) → nucNorm M ≤ c :=
  ⟨nucNorm_eq_sum_of_svd U V σ hU hV hσ, fun _ _ h => nucNorm_le h⟩

/-- **Realignment and Zhang criteria in norm form**: `‖R(ρ)‖₁ ≤ tr ρ` for every mixture of product states, and
`‖R(ρ − ρ_A ⊗ ρ_B)‖₁ ≤ √((1 − tr ρ_A²)(1 − tr ρ_B²))` when `tr ρ = 1`. -/
theorem realignment_zhang_norm {m n : Type*} [Fintype m] [Fintype n] [DecidableEq n]
    (ρ : Matrix (m × n) (m × n) ℂ) (h : IsSepMix ρ) :
    nucNorm (realignM ρ) ≤ ρ.trace.re ∧
    (ρ.trace = 1 → nucNorm (realignM (ρ - ptrB ρ ⊗ₖ ptrA ρ))
      ≤ √((1 - (ptrB ρ * ptrB ρ).trace.re) * (1 - (ptrA ρ * ptrA ρ).trace.re))) :=
  ⟨nucNorm_le fun _ hW => h.re_trace_realign_le hW,
   fun ht => nucNorm_le fun W hW => (zhang_criterion ρ h ht).2.2 W hW⟩

/-- the two-qubit Bell state `|Φ⁺⟩⟨Φ⁺|` on pair indices -/
private noncomputable def bell : Matrix (Fin 2 × Fin 2) (Fin 2 × Fin 2) ℂ :=
  fun i j => if i.1 = i.2 ∧ j.1 = j.2 then 1 / 2 else 0

/-- the identity is a contraction; pairing `R(|Φ⁺⟩⟨Φ⁺|) = 1/2` with it gives `2 > 1 = tr`: the realignment
criterion detects the Bell state -/
example : ¬ IsSepMix bell := by
  refine (realignment_criterion bell 1 (isContr_of_isometry (by rw [conjTranspose_one, Matrix.one_mul]))).2 ?_
  rw [conjTranspose_one, Matrix.one_mul]
  simp only [Matrix.trace, diag_apply, Fintype.sum_prod_type, Fin.sum_univ_two, bell, realignM]
  norm_num

/-- an antisymmetric unitary in dimension two -/
example : (!![0, 1; -1, 0] : Matrix (Fin 2) (Fin 2) ℂ)ᵀ = -!![0, 1; -1, 0] ∧
    IsContr (!![0, 1; -1, 0] : Matrix (Fin 2) (Fin 2) ℂ) := by
  have hU : (!![0, 1; -1, 0] : Matrix (Fin 2) (Fin 2) ℂ)ᴴ = !![0, -1; 1, 0] := by
    rw [eta_fin_two (!![0, 1; -1, 0] : Matrix (Fin 2) (Fin 2) ℂ)ᴴ]
    simp
  refine ⟨by rw [eta_fin_two (!![0, 1; -1, 0] : Matrix (Fin 2) (Fin 2) ℂ)ᵀ]; simp, isContr_of_isometry ?_⟩
  rw [hU, mul_fin_two, one_fin_two]
  simp

/-- the hypotheses of `zhang_criterion` are satisfiable: the equal mixture of `|00⟩⟨00|` and `|11⟩⟨11|` is a mixture of
product states of trace one -/
example : ∃ ρ : Matrix (Fin 2 × Fin 2) (Fin 2 × Fin 2) ℂ, IsSepMix ρ ∧ ρ.trace = 1 := by
  refine ⟨_, ⟨2, fun _ => 1 / 2, fun k => Pi.single k 1, fun k => Pi.single k 1, fun _ => by norm_num, rfl⟩, ?_⟩
  have h1 : ∀ k : Fin 2, nsq (Pi.single k (1 : ℂ)) = 1 := fun k => by
    simp [nsq, Pi.single_apply, apply_ite Complex.normSq]
  simp only [trace_sum, trace_smul, trace_proj_kron, h1]
  norm_num

private def x23 : EMat (2 * 3) (2 * 3) := EMat.ofFn fun i j => ⟨(10 * i.val + j.val : Nat), 0⟩

/-- the executable realignment of the `6 × 6` matrix with entry `10 i + j` (dims `2 ⊗ 3`): a `4 × 9` matrix whose
row `a·2 + a'` lists the `3 × 3` block `(a, a')` in row-major order -/
example : (List.finRange 4).map (fun i => (List.finRange 9).map fun j => ((realignE x23).get i j).re)
    = [[0, 1, 2, 10, 11, 12, 20, 21, 22], [3, 4, 5, 13, 14, 15, 23, 24, 25],
       [30, 31, 32, 40, 41, 42, 50, 51, 52], [33, 34, 35, 43, 44, 45, 53, 54, 55]] := by decide +kernel

example : (List.finRange 2).map (fun i => (List.finRange 2).map fun j => ((ptrBE x23).get i j).re)
    = [[0 + 11 + 22, 3 + 14 + 25], [30 + 41 + 52, 33 + 44 + 55]] := by decide +kernel

/-! ## Decision logic: what the functions do with the evaluated quantities (`Toq/Model/SepCascade.lean`) -/

open Toq.PartialOps in
/-- **Which operator `is_ppt` tests, for every form of `dim`.**  For local dimensions `dA, dB ≥ 1`, `sys ∈ {1, 2}` and an
`N × N` input with `N = dA·dB`, the call `partial_transpose(mat, [sys − 1], dim)` made by `is_ppt` is accepted for
`dim = [dA, dB]`, returns an `N × N` array `Y`, and `Y[a·dB + b, a'·dB + b'] = mat[a·dB + b', a'·dB + b]` for `sys = 2`
(second party transposed), `= mat[a'·dB + b, a·dB + b']` for `sys = 1` (first party) — the entries of `pt sys`
(`pt_exec_eq_spec`).  The forms `[[dA, dB], [dA, dB]]`, the scalar `dA`, `[dA]`, and the omitted `dim` when `dA = dB`
(`is_ppt` substitutes `[[s, s], [s, s]]`, `s = round √N`) denote the same call. -/
theorem is_ppt_operand_forms {α : Type} (X : Nat → Nat → α) (dA dB : Nat) (hA : 0 < dA) (hB : 0 < dB) (sys : Nat)
    (hs : sys = 1 ∨ sys = 2) :
    (∃ Y, isPptOperand X (dA * dB) (sys : Int) (.list [dA, dB]) = .ok (dA * dB, dA * dB, Y) ∧
      ∀ a b a' b', a < dA → b < dB → a' < dA → b' < dB →
        Y (a * dB + b) (a' * dB + b')
          = if sys = 1 then X (a' * dB + b) (a * dB + b') else X (a * dB + b') (a' * dB + b)) ∧
    isPptOperand X (dA * dB) (sys : Int) (.two [dA, dB] [dA, dB]) = isPptOperand X (dA * dB) (sys : Int) (.list [dA, dB]) ∧
    isPptOperand X (dA * dB) (sys : Int) (.scalar dA) = isPptOperand X (dA * dB) (sys : Int) (.list [dA, dB]) ∧
    isPptOperand X (dA * dB) (sys : Int) (.list [dA]) = isPptOperand X (dA * dB) (sys : Int) (.list [dA, dB]) ∧
    (dA = dB → isPptOperand X (dA * dB) (sys : Int) .omitted = isPptOperand X (dA * dB) (sys : Int) (.list [dA, dB])) := by
  obtain ⟨Y, h1, h2⟩ := isPptOperand_list X dA dB hA hB sys hs
  obtain ⟨f1, f2, f3, f4⟩ := isPptOperand_forms X dA dB hA (sys : Int)
  exact ⟨⟨Y, h1, fun a b a' b' ha hb ha' hb' => by rw [h2 a b a' b' ha hb ha' hb']; rfl⟩, f1, f2, f3, f4⟩

/-- **The decision of `is_ppt`, and `is_npt` is its negation.**  With `herm` the outcome of the Hermiticity test of the
partial transpose and `lamMin` its smallest eigenvalue: for a tolerance `tol ≥ 0` (or the default `√ε = 2⁻²⁶` when `tol`
is omitted) `is_ppt` answers `True` iff the partial transpose is Hermitian and `lamMin ≥ −tol`; `is_npt` answers the
opposite in every case. -/
theorem is_ppt_decision (herm : Bool) (lamMin : Rat) (tol : Option Rat) (ht : ∀ t, tol = some t → 0 ≤ t) :
    (isPptDecide herm lamMin tol = true ↔ herm = true ∧ -(pptTol tol) ≤ lamMin) ∧
    isNptDecide herm lamMin tol = !isPptDecide herm lamMin tol ∧
    pptTol none = 1 / 2 ^ 26 := by
  have hpos : ¬ pptTol tol < 0 := by
    cases tol with
    | none => simp [pptTol, sqrtEps]
    | some t => simpa [pptTol] using ht t rfl
  refine ⟨?_, rfl, by norm_num [pptTol, sqrtEps]⟩
  unfold isPptDecide
  rw [if_neg hpos, Bool.and_eq_true, decide_eq_true_eq]

/-- **The `dim` block of `is_separable` and `has_symmetric_extension`.**  A list `[a, b]` is taken as it is; an integer
`d ≥ 1` that divides the side `N` means `[d, N/d]` and one that does not is rejected (`ValueError`); an omitted `dim`
means `d = round √N`, so `N = d²` gives `[d, d]` (and `N = 6` gives `[2, 3]`, `N = 8` is rejected). -/
theorem sep_dim_forms (N a b d : Nat) :
    sepDecodeDim N (.pair a b) = .ok (a, b) ∧
    (0 < d → d ∣ N → sepDecodeDim N (.scalar d) = .ok (d, N / d)) ∧
    (0 < d → ¬ d ∣ N → sepDecodeDim N (.scalar d) = .error .InvalidDim) ∧
    (0 < d → sepDecodeDim (d * d) .omitted = .ok (d, d)) ∧
    sepDecodeDim 6 .omitted = .ok (2, 3) ∧ sepDecodeDim 8 .omitted = .error .InvalidDim := by
  refine ⟨rfl, fun hd hdiv => ?_, fun hd hdiv => ?_, fun hd => ?_, by decide, by decide⟩
  · simp [sepDecodeDim, scalarDim, Nat.ne_of_gt hd, Nat.mod_eq_zero_of_dvd hdiv]
  · have : N % d ≠ 0 := fun h => hdiv (Nat.dvd_of_mod_eq_zero h)
    simp [sepDecodeDim, scalarDim, Nat.ne_of_gt hd, this]
  · simp [sepDecodeDim, scalarDim, Toq.PartialOps.roundSqrt_mul_self, Nat.ne_of_gt hd, Nat.mul_div_cancel _ hd]

/-- **On two-qubit and qubit–qutrit states `is_separable` agrees with the PPT test.**  For local dimensions `≥ 2` with
`dA·dB ≤ 6` the cascade returns the outcome of `is_ppt(state, 2, dim, tol)` — `False` at the PPT statement, `True` at the
small-dimension statement — whatever all the later quantities are. -/
theorem cascade_small_dims_is_ppt (dA dB : Nat) (hA : 2 ≤ dA) (hB : 2 ≤ dB) (h6 : dA * dB ≤ 6) (tol : Rat) (q : Quant) :
    sepCascade dA dB tol q = .verdict (if q.ppt = true then .pptSufficient else .pptReject) q.ppt := by
  have hmin : min dA dB ≠ 1 := by omega
  cases hp : q.ppt
  · rw [sepCascade_of_not_ppt tol hmin hp]; rfl
  · rw [sepCascade_of_small tol hmin hp h6, hp]; rfl

/-- **A state that fails the PPT test is never declared separable**: for local dimensions `≥ 2` and a negative outcome
of `is_ppt` the cascade answers `False` at the PPT statement, whatever the other quantities are. -/
theorem cascade_npt_rejected (dA dB : Nat) (hA : 2 ≤ dA) (hB : 2 ≤ dB) (tol : Rat) (q : Quant) (h : q.ppt = false) :
    sepCascade dA dB tol q = .verdict .pptReject false :=
  sepCascade_of_not_ppt tol (by omega) h

/-- **Only necessary criteria answer "entangled".**  If the cascade returns `False` at statement `b`, then `b` is the PPT
test (and `is_ppt` was negative), the realignment test (and `‖R(ρ)‖₁ > 1 + tol`), the Zhang test (and its inequality
fires), the rank-4 determinant test on `3 ⊗ 3` (and `|F| ≥ max(tol², ε^{3/4})`), or one of the qutrit maps on `3 ⊗ 3`
(and some `(id ⊗ Φ)(ρ)` was found not PSD).  No sufficient-criterion statement can produce `False`. -/
theorem cascade_false_only_by_necessary_criteria (dA dB : Nat) (tol : Rat) (q : Quant) (b : Branch)
    (h : sepCascade dA dB tol q = .verdict b false) :
    (b = .pptReject ∧ q.ppt = false) ∨
    (b = .realignment ∧ 1 + tol < q.realignNorm) ∨
    (b = .zhang ∧ gtAddSqrt q.zhangNorm tol (zhangRadicand q) = true) ∨
    (b = .rank4 ∧ q.rank = 4 ∧ dA = 3 ∧ dB = 3 ∧ max (tol * tol) eps34 ≤ q.absF) ∨
    (b = .haMaps ∧ dA = 3 ∧ dB = 3 ∧ ∃ x ∈ q.haPsd, x = false) := by
  rcases stage_false (mem_stages_of_sepCascade h) with h1 | h2 | h3
  · exact .inl h1
  · -- the small-dimension statement returns `is_ppt_state`, which is `True` there: the PPT statement comes first
    exfalso
    obtain ⟨rfl, hp⟩ := h2
    by_cases hd : min dA dB = 1
    · rw [sepCascade_of_dim1 tol q hd] at h; cases h
    · rw [sepCascade_of_not_ppt tol hd hp] at h; cases h
  · exact .inr h3

/-- **No mixture of product states is declared entangled by the early statements.**  Let `ρ` be a mixture of product
states of trace one (any local index types), and let the quantities handed to the cascade be the exact ones:
`realignNorm = ‖R(ρ)‖₁`, `zhangNorm = ‖R(ρ − ρ_A ⊗ ρ_B)‖₁`, `purA = tr ρ_A²`, `purB = tr ρ_B²`, a positive PPT outcome
(Peres: `peres`), PSD outcomes for the qutrit maps (`positive_map_criterion`; their positivity is cited), and the rank-4
determinant test not applicable.  Then for every tolerance `tol ≥ 0` the cascade does not answer `False`: it answers
`True` at one of its statements or falls through to the late stage (the known finding). -/
theorem separable_never_rejected_early {m n : Type*} [Fintype m] [Fintype n] [DecidableEq n]
    (ρ : Matrix (m × n) (m × n) ℂ) (hsep : IsSepMix ρ) (htr : ρ.trace = 1) (dA dB : Nat) (tol : Rat) (htol : 0 ≤ tol)
    (q : Quant) (hppt : q.ppt = true)
    (hR : (q.realignNorm : ℝ) = nucNorm (realignM ρ))
    (hZ : (q.zhangNorm : ℝ) = nucNorm (realignM (ρ - ptrB ρ ⊗ₖ ptrA ρ)))
    (hpA : (q.purA : ℝ) = (ptrB ρ * ptrB ρ).trace.re) (hpB : (q.purB : ℝ) = (ptrA ρ * ptrA ρ).trace.re)
    (hrank : ¬ (q.rank = 4 ∧ dA = 3 ∧ dB = 3)) (hha : ∀ x ∈ q.haPsd, x = true) (b : Branch) :
    sepCascade dA dB tol q ≠ .verdict b false := by
  intro h
  have htol' : (0 : ℝ) ≤ (tol : ℝ) := by exact_mod_cast htol
  obtain ⟨hn1, hn2⟩ := realignment_zhang_norm ρ hsep
  obtain ⟨hz1, hz2, _⟩ := zhang_criterion ρ hsep htr
  rcases cascade_false_only_by_necessary_criteria dA dB tol q b h with h1 | h1 | h1 | h1 | h1
  · rw [hppt] at h1; exact absurd h1.2 (by simp)
  · have := (Rat.cast_lt (K := ℝ)).mpr h1.2
    rw [Rat.cast_add, Rat.cast_one, hR] at this
    have h2 : ρ.trace.re = 1 := by rw [htr]; rfl
    linarith
  · have hlt := (gtAddSqrt_iff _ _ _).mp h1.2
    have e : ((zhangRadicand q : Rat) : ℝ)
        = (1 - (ptrB ρ * ptrB ρ).trace.re) * (1 - (ptrA ρ * ptrA ρ).trace.re) := by
      rw [zhangRadicand, Rat.cast_mul, Rat.cast_max, Rat.cast_max, Rat.cast_sub, Rat.cast_sub, Rat.cast_zero,
        Rat.cast_one, hpA, hpB, max_eq_right hz1, max_eq_right hz2]
    rw [e, hZ] at hlt
    have := hn2 htr
    linarith
  · exact hrank ⟨h1.2.1, h1.2.2.1, h1.2.2.2.1⟩
  · obtain ⟨_, _, _, x, hx, hx2⟩ := h1
    rw [hha x hx] at hx2; exact absurd hx2 (by simp)

/-- **The spectrum test uses the eigenvalues of Johnston's theorem.**  With `λ_k` the `k`-th largest eigenvalue
(`λ_k = lam[k − 1]`), `n = max_dim ≥ 2` and either party the qubit, the statement
`(lam[0] − lam[2n−2])² ≤ 4·lam[2n−3]·lam[2n−1] + tol²` fires iff `(λ₁ − λ_{2n−1})² ≤ 4 λ_{2n−2} λ_{2n} + tol²`; for
`tol = 0` and a sorted non-negative spectrum this is Johnston's condition `λ₁ − λ_{2n−1} ≤ 2 √(λ_{2n−2} λ_{2n})`. -/
theorem johnston_spectrum_indices (dA dB n : Nat) (hn : 2 ≤ n) (hd : (dA = 2 ∧ dB = n) ∨ (dA = n ∧ dB = 2)) (tol : Rat)
    (q : Quant) :
    (stSpectrum dA dB tol q = some (.spectrum2n, true) ↔
      (ev1 q 1 - ev1 q (2 * n - 1)) ^ 2 ≤ 4 * ev1 q (2 * n - 2) * ev1 q (2 * n) + (tol : ℝ) ^ 2) ∧
    (ev1 q (2 * n - 1) ≤ ev1 q 1 → 0 ≤ ev1 q (2 * n - 2) → 0 ≤ ev1 q (2 * n) →
      (stSpectrum dA dB 0 q = some (.spectrum2n, true) ↔
        ev1 q 1 - ev1 q (2 * n - 1) ≤ 2 * √(ev1 q (2 * n - 2) * ev1 q (2 * n)))) := by
  refine ⟨stSpectrum_iff dA dB n hn hd tol q, fun h1 h2 h3 => ?_⟩
  rw [stSpectrum_iff dA dB n hn hd 0 q, ← sq_le_four_mul_iff _ _ _ _ h1 h2 h3]
  simp

/-- **The rank-one-perturbation test compares the second largest with the smallest eigenvalue**:
`lam[1] − lam[prod_dim − 1] < tol²` is `λ₂ − λ_D < tol²`, `D = dA·dB`. -/
theorem rank_one_perturbation_indices (dA dB : Nat) (tol : Rat) (q : Quant) :
    stRank1 dA dB tol q = some (.rank1, true) ↔ ev1 q 2 - ev1 q (dA * dB) < (tol : ℝ) ^ 2 := by
  unfold stRank1 ev1
  rw [check_eq_some, and_iff_left rfl, sq]
  simp only [← Rat.cast_lt (K := ℝ), Rat.cast_sub, Rat.cast_mul]

/-- **The square-root-free form of the Zhang test is the test of the code**: for a radicand `r ≥ 0`
(`max(0, ·)·max(0, ·)` always is), `x > tol + √r` iff `x − tol > 0` and `(x − tol)² > r`. -/
theorem zhang_test_arithmetic (tol : Rat) (q : Quant) :
    0 ≤ zhangRadicand q ∧
    (stZhang tol q = some (.zhang, false) ↔ (tol : ℝ) + √((zhangRadicand q : Rat) : ℝ) < (q.zhangNorm : ℝ)) := by
  refine ⟨mul_nonneg (le_max_left _ _) (le_max_left _ _), ?_⟩
  rw [← gtAddSqrt_iff]
  unfold stZhang
  rw [check_eq_some, and_iff_left rfl]

/-- **The blocks of the `2 ⊗ n` tests belong to the qubit, whichever party it is.**  With the qubit first,
`A = state[:n, :n]`, `B = state[:n, n:2n]`, `C = state[n:2n, n:2n]` are the blocks `⟨i|_qubit ρ |j⟩_qubit` for
`(i, j) = (0,0), (0,1), (1,1)`; with the qubit second the code first exchanges the parties (`swap(state, [1, 2], dim)`
when `dim[0] > 2`) and the same slices are again the blocks of the qubit. -/
theorem qubit_blocks_spec {n : Nat} (i j : Fin 2) :
    (∀ Y : EMat (2 * n) (2 * n), (blk Y i j).toM = blockB (unflat Y.toM) i j) ∧
    (∀ X : EMat (n * 2) (n * 2), (blk (qubitFirst X) i j).toM = blockA (unflat X.toM) i j) :=
  ⟨fun Y => by ext b b'; simp [blk, blockB], fun X => by ext b b'; simp [blk, qubitFirst, swapAB, blockA]⟩

/-- **The block matrix of the homothetic-image test is `ρ − (1/6)·(1 ⊗ ρ_B)`**: for a Hermitian `ρ` on `ℂ² ⊗ ℂⁿ`,
`[[5/6·A − C/6, B], [Bᴴ, 5/6·C − A/6]] = ρ − (1/6)(1₂ ⊗ tr_A ρ)` — Hildebrand's homothety of the cone with centre
`1 ⊗ ρ_B`. -/
theorem homothetic_image_spec {n : Nat} (Y : EMat (2 * n) (2 * n)) (hY : Y.toM.IsHermitian) :
    unflat (homothetic Y).toM
      = unflat Y.toM - ((1 / 6 : ℝ) : ℂ) • ((1 : Matrix (Fin 2) (Fin 2) ℂ) ⊗ₖ ptrA (unflat Y.toM)) :=
  by
  ext ⟨i, b⟩ ⟨j, b'⟩
  fin_cases i <;> fin_cases j
  · -- `5/6·A − C/6 = A − (A + C)/6`
    simp [homothetic, blk, ptrA, Fin.sum_univ_two, kroneckerMap_apply, QI.toC_sub, QI.toC_smul]
    ring
  · simp [homothetic, blk, kroneckerMap_apply]
  · -- the code writes `Bᴴ` here; for Hermitian `Y` that is the block `(1, 0)` of `Y`
    have hl : (Y.get (pair 1 b) (pair 0 b')).toC = (starRingEnd ℂ) (Y.get (pair 0 b') (pair 1 b)).toC :=
      (hY.apply (pair 1 b) (pair 0 b')).symm
    simp [homothetic, blk, kroneckerMap_apply, QI.toC_conj, hl]
  · simp [homothetic, blk, ptrA, Fin.sum_univ_two, kroneckerMap_apply, QI.toC_sub, QI.toC_smul]
    ring

/-- **The Lemma-1 test is at least as strict as Johnston's Lemma 1.**  The code compares the FROBENIUS norm `‖B‖_F²` with
`λ_min(A)·λ_min(C) + tol²`; the lemma needs the operator norm, and `‖B x‖² ≤ ‖B‖_F² ‖x‖²` for every vector `x`. -/
theorem lemma1_frobenius_dominates {ι κ : Type*} [Fintype ι] [Fintype κ] (B : Matrix ι κ ℂ) (x : κ → ℂ) :
    nsq (B *ᵥ x) ≤ frobSq B * nsq x := by
  unfold frobSq
  rw [Finset.sum_mul]
  -- row by row, Cauchy–Schwarz: `(B x)_i = ⟨conj B_i, x⟩`
  refine Finset.sum_le_sum fun i _ => ?_
  have h := normSq_dot_le (star (B i)) x
  rwa [star_star, nsq_star] at h

/-- **The qutrit maps of the cascade lie on the boundary of the Cho–Kye–Lee positivity region.**  For every `t ≥ 0`,
`a = (1−t)²/(1−t+t²)`, `b = t²/(1−t+t²)`, `c = 1/(1−t+t²)` satisfy `0 ≤ a ≤ 1`, `a + b + c = 2`, `bc = (1 − a)²`; the loop
of the code builds the maps for the 19 values `t = 0, 10, 1/10, 5, 1/5, …, 10/9, 9/10`, all `≥ 0`. -/
theorem ha_parameters_in_region :
    (∀ t : ℝ, 0 ≤ t →
      let D := 1 - t + t ^ 2
      0 < D ∧ 0 ≤ (1 - t) ^ 2 / D ∧ (1 - t) ^ 2 / D ≤ 1 ∧ (1 - t) ^ 2 / D + t ^ 2 / D + 1 / D = 2 ∧
        t ^ 2 / D * (1 / D) = (1 - (1 - t) ^ 2 / D) ^ 2) ∧
    haTs.length = 19 ∧ (∀ t ∈ haTs, 0 ≤ t) ∧ haABC 0 = (1, 0, 1) ∧ haABC (1 / 2) = (1 / 3, 1 / 3, 4 / 3) := by
  refine ⟨fun t ht => ?_, by decide, by decide +kernel, by decide +kernel, by decide +kernel⟩
  intro D
  have hD : 0 < D := by
    have : D = (t - 1 / 2) ^ 2 + 3 / 4 := by ring
    rw [this]; positivity
  have hD' : D ≠ 0 := hD.ne'
  have e : 1 - (1 - t) ^ 2 / D = t / D := by
    rw [eq_div_iff hD', sub_mul, div_mul_cancel₀ _ hD']; ring
  refine ⟨hD, div_nonneg (sq_nonneg _) hD.le, ?_, ?_, ?_⟩
  · linarith [div_nonneg ht hD.le]
  · rw [← add_div, ← add_div, div_eq_iff hD']; ring
  · rw [e, div_mul_div_comm, mul_one, div_pow, sq D]

/-- **`has_symmetric_extension` accepts every state that is PSD and PPT when it decides at its first statement**: at
`level = 1`, or for `N ≤ 6` with the PPT option, the verdict is `is_ppt(rho) and is_positive_semidefinite(rho)` (with the
option) resp. `is_positive_semidefinite(rho)` (without); both hold for every mixture of product states (`peres`). -/
theorem symext_shortcuts_accept_separable (N dA dB level : Nat) (ppt : Bool) (tol : Rat) (q : SymQuant)
    (hpsd : q.psd = true) (hppt : q.ppt = true) (hbr : level = 1 ∨ (N ≤ 6 ∧ ppt = true)) :
    (symExtCascade N dA dB level ppt tol q).2 = true ∧
    (symExtCascade N dA dB level ppt tol q).1 = (if ppt = true then .pptShortcut else .level1NoPpt) := by
  unfold symExtCascade
  rw [if_pos hbr]
  cases ppt <;> simp [hpsd, hppt]

/-- **The two-qubit analytic test** `tr ρ_B² ≥ tr ρ² − 4√(max(det ρ, 0)) − tol` is decided exactly by its
square-root-free form, and it is reached exactly for `level = 2`, no PPT option, `dim = [2, 2]`. -/
theorem symext_analytic_arithmetic (N : Nat) (tol : Rat) (q : SymQuant) :
    symExtCascade N 2 2 2 false tol q = (.analytic2qubit, geSubSqrt q.purB q.purRho q.detRho tol) ∧
    (geSubSqrt q.purB q.purRho q.detRho tol = true ↔
      (q.purRho : ℝ) - 4 * √(max (q.detRho : ℝ) 0) - (tol : ℝ) ≤ (q.purB : ℝ)) :=
  ⟨by simp [symExtCascade], geSubSqrt_iff _ _ _ _⟩

/-- **The SDP statement of `has_symmetric_extension` answers `True` iff the hierarchy value is below `1 − tol`.**  (The
program it evaluates, `symmetric_extension_hierarchy([rho])`, is a state-discrimination program with a single state, whose
optimum is `tr ρ = 1`: hence the known finding `c15-symext-sdp-constant-false`.) -/
theorem symext_sdp_branch_constant (val tol : Rat) (htol : 0 ≤ tol) :
    (sdpVerdict val tol = true ↔ val < 1 - tol) ∧ (1 - tol ≤ val → sdpVerdict val tol = false) := by
  have key : sdpVerdict val tol = true ↔ val < 1 - tol := by
    unfold sdpVerdict
    -- `1 − min val 1 ≥ 0` is its own absolute value; it exceeds `tol` iff `min val 1 < 1 − tol`, and `1 < 1 − tol` is excluded by `tol ≥ 0`
    have hx : ¬ (1 - min val 1 < 0) := not_lt.mpr (sub_nonneg.mpr (min_le_right val 1))
    simp only [Bool.not_eq_true', decide_eq_false_iff_not, not_le, if_neg hx]
    rw [lt_sub_comm, min_lt_iff, or_iff_left (not_lt.mpr (sub_le_self 1 htol))]
  exact ⟨key, fun h => Bool.eq_false_iff.mpr fun hs => absurd (key.mp hs) (not_lt.mpr h)⟩

/-- **Every mixture of product states has a symmetric PPT extension of every order.**  For `ρ = Σ_i w_i (a_i a_iᴴ) ⊗ (b_i b_iᴴ)`
and every `k ≥ 0` there is an operator `σ` on the first party and `k + 1` copies of the second party (a basis vector of the
copies is a function `Fin (k+1) → n`) that (1) reduces to `ρ` when the copies `1 … k` are traced out, (2) is invariant under
every permutation of the copies applied on the left or on the right (it is supported on the symmetric subspace), (3) after
the partial transpose of ANY set `S` of copies is still a mixture of product states across the cut `A | copies`, hence (4)
positive semidefinite with positive semidefinite partial transposes with respect to `S` and to `A ∪ S`, for every `S`.
These are the constraints of a symmetric-extension search with or without the PPT option, so a correct
`has_symmetric_extension` accepts every separable state at every level. -/
theorem separable_has_symmetric_extensions {m n : Type*} [Finite m] [Fintype n] (k : Nat)
    (ρ : Matrix (m × n) (m × n) ℂ) (h : IsSepMix ρ) :
    ∃ σ : Matrix (m × (Fin (k + 1) → n)) (m × (Fin (k + 1) → n)) ℂ,
      reduce1 σ = ρ ∧ IsBoseSym σ ∧
      ∀ S : Finset (Fin (k + 1)), IsSepMix (ptCopies S σ) ∧ (ptCopies S σ).PosSemidef ∧
        (ptAM (ptCopies S σ)).PosSemidef ∧ ptCopies ∅ σ = σ := by
  obtain ⟨σ, h1, h2, h3⟩ := h.exists_symmetric_extension k
  exact ⟨σ, h1, h2, fun S => ⟨h3 S, (h3 S).posSemidef, (h3 S).ptAM_posSemidef, ptCopies_empty σ⟩⟩

/-- **The statement `if min_dim == 1: return True` is sound.**  When one party has dimension one, every positive
semidefinite operator is a mixture of product states (whichever party it is), and the cascade answers `True` when the first
party has dimension one (for the second party exchange the dimensions: `cascade_exchange_symmetric`). -/
theorem dim1_statement_sound {m n : Type*} [Unique m] [Finite n] :
    (∀ ρ : Matrix (m × n) (m × n) ℂ, ρ.PosSemidef → IsSepMix ρ) ∧
    (∀ ρ : Matrix (n × m) (n × m) ℂ, ρ.PosSemidef → IsSepMix ρ) ∧
    (∀ (d : Nat) (tol : Rat) (q : Quant), sepCascade 1 d tol q = .verdict .dim1 true ∨ d = 0) := by
  refine ⟨fun ρ h => isSepMix_of_unique_left ρ h, fun ρ h => ?_, fun d tol q => ?_⟩
  · exact (isSepMix_of_unique_left (swapM ρ) (swapM_eq ρ ▸ h.submatrix Prod.swap)).swap
  · rcases Nat.eq_zero_or_pos d with h0 | hpos
    · exact Or.inr h0
    · exact .inl (sepCascade_of_dim1 tol q (by omega))

/-- **The decision logic treats the two parties alike.**  Exchanging the local dimensions and the two marginal purities
(all other quantities of the cascade are the same numbers for `ρ` and for `ρ` with the parties exchanged) does not change
the statement that returns nor the verdict: a dependence of the verdict on the order of the parties can only come from the
quantities themselves (the qutrit maps and the Breuer–Hall maps act on one party). -/
theorem cascade_exchange_symmetric (dA dB : Nat) (tol : Rat) (q : Quant) :
    sepCascade dB dA tol { q with purA := q.purB, purB := q.purA } = sepCascade dA dB tol q := by
  unfold sepCascade
  rw [stages_swap]

/-- **The float constants of the code are the exact rationals of the model**: `√ε = 2⁻²⁶` (default tolerance of `is_ppt`) and
`ε^{3/4} = 2⁻³⁹` (floor of the rank-4 determinant test), for `ε = 2⁻⁵²`. -/
theorem float_constants :
    sqrtEps * sqrtEps = 1 / 2 ^ 52 ∧ eps34 * eps34 * eps34 * eps34 = (1 / 2 ^ 52) * (1 / 2 ^ 52) * (1 / 2 ^ 52) ∧
    0 < sqrtEps ∧ 0 < eps34 := by
  unfold sqrtEps eps34
  norm_num

/-- quantities of a `2 ⊗ 4` state with the flat spectrum `1/8`: PPT, realignment and Zhang silent, spectrum test fires -/
private def qFlat : Quant :=
  { psd := true, rank := 8, ppt := true, realignNorm := 1 / 2, zhangNorm := 0, purA := 1 / 2, purB := 1 / 4,
    lam := List.replicate 8 (1 / 8), hankelRank := 0, homPsd := true, homPpt := true, normB2 := 0, minA := 1 / 8,
    minC := 1 / 8, absF := 0, ball := true, osr := 1, haPsd := [] }

example : sepCascade 2 4 (1 / 100000000) qFlat = .verdict .spectrum2n true := by decide +kernel
example : sepCascade 4 2 (1 / 100000000) qFlat = .verdict .spectrum2n true := by decide +kernel
/-- the same quantities with a spectrum `(1/2, 1/2, 0, …)`: spectrum, Hankel (rank 2), homothetic tests silent, Lemma 1 fires -/
example : sepCascade 2 4 (1 / 100000000)
    { qFlat with lam := [1 / 2, 1 / 2, 0, 0, 0, 0, 0, 0], hankelRank := 2, homPsd := false } = .verdict .lemma12n true := by
  decide +kernel
/-- on `3 ⊗ 3` with all early tests silent and one qutrit map not PSD: `False` at the Ha–Kye statement -/
example : sepCascade 3 3 (1 / 100000000)
    { qFlat with lam := [1 / 2, 1 / 2, 0, 0, 0, 0, 0, 0, 0], ball := false, osr := 3, haPsd := [true, false] }
      = .verdict .haMaps false := by decide +kernel
/-- nothing fires on `4 ⊗ 4`: the late stage -/
example : sepCascade 4 4 (1 / 100000000)
    { qFlat with lam := [1 / 2, 1 / 2] ++ List.replicate 14 0, ball := false, osr := 3 } = .late := by decide +kernel
example : isSeparableModel 8 (.scalar 2) (1 / 100000000) qFlat = .ok (.verdict .spectrum2n true) := by decide +kernel
example : isSeparableModel 8 .omitted (1 / 100000000) qFlat = .error .InvalidDim := by decide +kernel
example : isSeparableModel 8 (.scalar 2) (1 / 100000000) { qFlat with psd := false } = .error .NotPSD := by decide +kernel
example : hasSymExtModel 9 2 .omitted true (1 / 10000) ⟨true, true, 0, 0, 0, 1⟩ = .ok (.sdp, false) := by decide +kernel
example : hasSymExtModel 4 2 (.pair 2 2) false (1 / 10000) ⟨true, true, 1 / 2, 1 / 4, 1 / 256, 1⟩
    = .ok (.analytic2qubit, true) := by decide +kernel

end Toq.C15
