import Toq.Model.ChannelOps
import Toq.Spec.ChannelOps
import Toq.Proofs.ChannelOps
import Toq.Model.ChannelOpsExtra
import Toq.Proofs.ChannelOpsExtra
/-!
# C04 — one linear map, many representations: all of them act identically

The mirror models in `Toq/Model/ChannelOps.lean` follow `apply_channel.py`, `kraus_to_choi.py`, `partial_channel.py`,
`natural_representation.py` and `helper/channel_dim.py` line by line; the specification
(`Toq/Spec/ChannelOps.lean`) is `Φ(X) = Σ_k A_k X B_kᴴ` and `J(Φ) = Σ_ij E_ij ⊗ Φ(E_ij)`.

Everything is stated for an arbitrary commutative star-semiring of scalars (ℂ, ℝ with trivial star, the
Gaussian integers the driver runs on, …), arbitrary numbers of Kraus operators and arbitrary (also
unequal, also rectangular) input and output dimensions.  A list of matrices `l` is read as the family
`fam l k = (l[k]).e`; `Shaped l r c` says that every listed matrix has shape `r × c`.
-/
namespace Toq.C04
open Toq.ChannelOps Toq.ChannelSpec Toq.ChannelOps.Mat

variable {α : Type} [CommSemiring α] [StarRing α]

/-- **Kraus form = Σ A X Bᴴ.**  Whatever list the `isinstance` cascade of `apply_channel` extracts
    (`phi.split = some (as, bs)`: left operators `as`, right operators `bs`), the concatenate / kron /
    matmul evaluation of the code returns the matrix with entries `Σ_k Σ_i Σ_j A_k[a,i] X[i,j] conj(B_k[b,j])`,
    of shape `do0 × do1`, for every number of operators and all (also rectangular) shapes. -/
theorem applyKraus_eq_spec (X : Mat α) (phi : KrausArg α) (as bs : List (Mat α)) (do0 do1 : Nat)
    (hsplit : phi.split = some (as, bs)) (ha : Shaped as do0 X.r) (hb : Shaped bs do1 X.c)
    (hl : as.length = bs.length) (hne : as ≠ []) :
    ∃ M, applyKraus X phi = some M ∧ M.r = do0 ∧ M.c = do1 ∧
      ∀ a b, M.e a b = applySpec as.length (fam as) (fam bs) X.r X.c X.e a b := by
  obtain ⟨hr, hc⟩ := applyKrausLists_shape X as bs do0 do1 _ _ ha hb hl hne
  exact ⟨_, applyKraus_of_split X phi as bs hsplit, hr, hc, fun a b => by rw [applyKrausLists_eq X as bs do0 do1 ha hb hl]⟩

omit [CommSemiring α] [StarRing α] in
/-- The flat list `[K_1, …, K_r]` denotes the completely positive map with `A = B = K`. -/
theorem cascade_flat (ks : List (Mat α)) (h : ks ≠ []) : (KrausArg.flat ks).split = some (ks, ks) :=
  split_flat ks h

omit [CommSemiring α] [StarRing α] in
/-- The column form `[[K_1], …, [K_r]]` denotes the same completely positive map. -/
theorem cascade_column (ks : List (Mat α)) (h : ks ≠ []) : (KrausArg.column ks).split = some (ks, ks) :=
  split_column ks h

omit [CommSemiring α] [StarRing α] in
/-- The row form `[[K_1, …, K_r]]` denotes the same completely positive map when `r = 1` or `r > 2`
    (`[[K_1, K_2]]` is, as documented in the code, one left/right pair). -/
theorem cascade_row (ks : List (Mat α)) (h : ks.length = 1 ∨ 2 < ks.length) :
    (KrausArg.row ks).split = some (ks, ks) :=
  split_row ks h

omit [CommSemiring α] [StarRing α] in
/-- The paired form `[[A_1, B_1], …, [A_r, B_r]]` denotes `X ↦ Σ_k A_k X B_kᴴ`. -/
theorem cascade_pairs (as bs : List (Mat α)) (hl : as.length = bs.length) (h : as ≠ []) :
    (KrausArg.pairs as bs).split = some (as, bs) :=
  split_pairs as bs hl h

/-- The same statement in Mathlib's matrix vocabulary: the returned array, read as a
    `Matrix (Fin do0) (Fin do1) α`, is `Σ_k A_k * X * (B_k)ᴴ`. -/
theorem applyKraus_eq_matrix (X : Mat α) (phi : KrausArg α) (as bs : List (Mat α)) (do0 do1 : Nat)
    (hsplit : phi.split = some (as, bs)) (ha : Shaped as do0 X.r) (hb : Shaped bs do1 X.c)
    (hl : as.length = bs.length) :
    ∃ M, applyKraus X phi = some M ∧
      toM do0 do1 M.e = ∑ k : Fin as.length,
        toM do0 X.r (fam as k) * toM X.r X.c X.e * (toM do1 X.c (fam bs k)).conjTranspose :=
  ⟨_, applyKraus_of_split X phi as bs hsplit, toM_applyKrausLists X as bs do0 do1 ha hb hl⟩

/-- **Kraus → Choi (pairs).**  `kraus_to_choi([[A_1,B_1],…])` (through `channel_dim`, the unnormalised
    maximally entangled operator and `partial_channel` on its second half) is the `(di0·do0) × (di1·do1)`
    matrix whose entry at row `(i, a)`, column `(j, b)` is `Φ(E_ij)[a, b]`: it is `Σ_ij E_ij ⊗ Φ(E_ij)`,
    for unequal and rectangular input/output dimensions. -/
theorem krausToChoi_eq_spec (as bs : List (Mat α)) (di0 di1 do0 do1 : Nat)
    (ha : Shaped as do0 di0) (hb : Shaped bs do1 di1) (hl : as.length = bs.length) (h : as ≠ []) :
    ∃ J, krausToChoi (KrausArg.pairs as bs) = some J ∧ J.r = di0 * do0 ∧ J.c = di1 * do1 ∧
      ∀ i a j b, i < di0 → a < do0 → j < di1 → b < do1 →
        J.e (i * do0 + a) (j * do1 + b) = applySpec as.length (fam as) (fam bs) di0 di1 (unit i j) a b :=
  krausToChoi_of_split _ as bs di0 di1 do0 do1 (split_pairs as bs hl h) ha hb

/-- The entries of `kraus_to_choi` are those of the specification `choiSpec` at every position. -/
theorem krausToChoi_eq_choiSpec (as bs : List (Mat α)) (di0 di1 do0 do1 : Nat)
    (ha : Shaped as do0 di0) (hb : Shaped bs do1 di1) (hl : as.length = bs.length) (h : as ≠ []) :
    ∃ J, krausToChoi (KrausArg.pairs as bs) = some J ∧
      ∀ p q, p < di0 * do0 → q < di1 * do1 →
        J.e p q = choiSpec as.length (fam as) (fam bs) di0 di1 do0 do1 p q := by
  obtain ⟨J, hJ, _, _, he⟩ := krausToChoi_eq_spec as bs di0 di1 do0 do1 ha hb hl h
  exact ⟨J, hJ, (forall_lt_mul_iff₂ di0 do0 di1 do1).mpr fun i a j b hi ha' hj hb' =>
    (he i a j b hi ha' hj hb').trans (choiSpec_entry _ _ _ _ _ _ _ i a j b ha' hb').symm⟩

/-- **Kraus → Choi (completely positive forms).**  For the flat, column and row forms the result is the
    Choi matrix of `X ↦ Σ_k K_k X K_kᴴ`. -/
theorem krausToChoi_cp_eq_spec (ks : List (Mat α)) (d_in d_out : Nat) (hs : Shaped ks d_out d_in) (h : ks ≠ [])
    (phi : KrausArg α)
    (hform : phi = .flat ks ∨ phi = KrausArg.column ks ∨ (phi = KrausArg.row ks ∧ (ks.length = 1 ∨ 2 < ks.length))) :
    ∃ J, krausToChoi phi = some J ∧ J.r = d_in * d_out ∧ J.c = d_in * d_out ∧
      ∀ i a j b, i < d_in → a < d_out → j < d_in → b < d_out →
        J.e (i * d_out + a) (j * d_out + b) = applySpec ks.length (fam ks) (fam ks) d_in d_in (unit i j) a b :=
  krausToChoi_of_split phi ks ks d_in d_in d_out d_out (split_cp_forms ks h phi hform).1 hs hs

omit [StarRing α] in
/-- **Choi evaluation.**  For *any* matrix `J` of shape `(X.r·p0) × (X.c·p1)` the vec / kron / row-swap /
    reshape evaluation of `apply_channel` returns `Σ_ij X[i,j] · J[(i,·),(j,·)]`, the sum of the blocks of
    `J` weighted by the entries of `X` (rectangular `X`, unequal input and output dimensions). -/
theorem applyChoi_eq_sum (X J : Mat α) (p0 p1 : Nat) (hxr : 0 < X.r) (hxc : 0 < X.c)
    (hJr : J.r = X.r * p0) (hJc : J.c = X.c * p1) (a b : Nat) (ha : a < p0) (hb : b < p1) :
    (applyChoi X J).e a b = applyChoiSpec J.e X.r X.c p0 p1 X.e a b :=
  applyChoi_e X J p0 p1 hxr hxc hJr hJc a b ha hb

/-- **Choi form acts as the map.**  If the entries of `J` are those of `J(Φ) = Σ_ij E_ij ⊗ Φ(E_ij)` for
    `Φ = Σ_k A_k · B_kᴴ`, then `apply_channel(X, J) = Φ(X)`. -/
theorem applyChoi_eq_spec_of_choi (r : Nat) (A B : Nat → Nat → Nat → α) (X J : Mat α) (do0 do1 : Nat)
    (hxr : 0 < X.r) (hxc : 0 < X.c) (hJr : J.r = X.r * do0) (hJc : J.c = X.c * do1)
    (hJ : ∀ i a j b, i < X.r → a < do0 → j < X.c → b < do1 →
      J.e (i * do0 + a) (j * do1 + b) = applySpec r A B X.r X.c (unit i j) a b)
    (a b : Nat) (ha : a < do0) (hb : b < do1) :
    (applyChoi X J).e a b = applySpec r A B X.r X.c X.e a b := by
  rw [applyChoi_e X J do0 do1 hxr hxc hJr hJc a b ha hb]
  exact applyChoiSpec_of_choi r A B X.r X.c do0 do1 J.e X.e hJ a b ha hb

/-- **Representation independence.**  For every family `(A_k, B_k)` (any rank, any shapes) and every
    input `X`: applying the paired Kraus list and applying the Choi matrix computed by `kraus_to_choi`
    from that list give the same matrix. -/
theorem apply_repr_independent (X : Mat α) (as bs : List (Mat α)) (do0 do1 : Nat)
    (hxr : 0 < X.r) (hxc : 0 < X.c)
    (ha : Shaped as do0 X.r) (hb : Shaped bs do1 X.c) (hl : as.length = bs.length) (h : as ≠ []) :
    ∃ M J, applyKraus X (KrausArg.pairs as bs) = some M ∧ krausToChoi (KrausArg.pairs as bs) = some J ∧
      ∀ a b, a < do0 → b < do1 → (applyChoi X J).e a b = M.e a b := by
  obtain ⟨M, hM, _, _, hMe⟩ := applyKraus_eq_spec X _ as bs do0 do1 (split_pairs as bs hl h) ha hb hl h
  obtain ⟨J, hJ, hJr, hJc, hJe⟩ := krausToChoi_eq_spec as bs X.r X.c do0 do1 ha hb hl h
  refine ⟨M, J, hM, hJ, ?_⟩
  intro a b ha' hb'
  rw [hMe a b]
  exact applyChoi_eq_spec_of_choi as.length (fam as) (fam bs) X J do0 do1 hxr hxc hJr hJc hJe a b ha' hb'

/-- **What `choi_to_kraus` must deliver.**  Let `J` be any matrix of shape `(di0·do0) × (di1·do1)`
    (Hermitian positive semidefinite, Hermitian indefinite or not Hermitian at all) and `(A_k, B_k)` any
    family with `Σ_k vec(A_k) vec(B_k)ᴴ = J`, `vec` being the column-major vectorisation the code un-does
    with `unvec(·, shape=(d_out, d_in))`.  Then the paired Kraus list acts on every `X` exactly as the Choi
    matrix does. -/
theorem kraus_of_choi_reproduces (X J : Mat α) (as bs : List (Mat α)) (do0 do1 : Nat)
    (hxr : 0 < X.r) (hxc : 0 < X.c) (hJr : J.r = X.r * do0) (hJc : J.c = X.c * do1)
    (ha : Shaped as do0 X.r) (hb : Shaped bs do1 X.c) (hl : as.length = bs.length) (h : as ≠ [])
    (hvec : ∀ p q, p < J.r → q < J.c →
      sumN as.length (fun k => (⟨do0, X.r, fam as k⟩ : Mat α).vecF p
        * HasConj.conj ((⟨do1, X.c, fam bs k⟩ : Mat α).vecF q)) = J.e p q) :
    ∃ M, applyKraus X (KrausArg.pairs as bs) = some M ∧
      ∀ a b, a < do0 → b < do1 → M.e a b = (applyChoi X J).e a b := by
  obtain ⟨M, hM, _, _, hMe⟩ := applyKraus_eq_spec X _ as bs do0 do1 (split_pairs as bs hl h) ha hb hl h
  refine ⟨M, hM, ?_⟩
  intro a b ha' hb'
  rw [hMe a b]
  symm
  exact applyChoi_eq_spec_of_choi as.length (fam as) (fam bs) X J do0 do1 hxr hxc hJr hJc
    ((reproduces_iff J as bs X.r X.c do0 do1 hJr hJc).mp hvec) a b ha' hb'

/-- **Partial application = id ⊗ Φ ⊗ id (Kraus pairs).**  With `pre`/`post` the products of the
    dimensions before/after the target subsystem `sys` (1-indexed, any number `n` of subsystems, separate row
    and column dimension vectors `rd`, `cd`), entry `((p,a,q),(p',b,q'))` of `partial_channel(ρ, [[A,B]…], sys, dim)`
    is `Σ_k Σ_i Σ_j A_k[a,i] · ρ[(p,i,q),(p',j,q')] · conj(B_k[b,j])`: the map acts on the target factor only
    and the surrounding labels are carried along. -/
theorem partialChannel_eq_id_tensor (rho : Mat α) (as bs : List (Mat α)) (sys n : Nat) (rd cd : Nat → Nat)
    (do0 do1 : Nat) (ha : Shaped as do0 (rd (sys - 1))) (hb : Shaped bs do1 (cd (sys - 1)))
    (hl : as.length = bs.length) (h : as ≠ [])
    (hr : rho.r = prodBefore rd sys * rd (sys - 1) * prodAfter rd n sys)
    (hc : rho.c = prodBefore cd sys * cd (sys - 1) * prodAfter cd n sys) :
    ∃ M, partialChannelKraus rho (KrausArg.pairs as bs) sys n rd cd = some M ∧
      ∀ p a q p' b q', p < prodBefore rd sys → a < do0 → q < prodAfter rd n sys →
        p' < prodBefore cd sys → b < do1 → q' < prodAfter cd n sys →
        M.e ((p * do0 + a) * prodAfter rd n sys + q) ((p' * do1 + b) * prodAfter cd n sys + q')
          = sumN as.length fun k => sumN (rd (sys - 1)) fun i => sumN (cd (sys - 1)) fun j =>
              fam as k a i
                * rho.e ((p * rd (sys - 1) + i) * prodAfter rd n sys + q) ((p' * cd (sys - 1) + j) * prodAfter cd n sys + q')
                * HasConj.conj (fam bs k b j) := by
  refine ⟨_, partialChannelKraus_of_split rho _ as bs (split_pairs as bs hl h) sys n rd cd, ?_⟩
  rw [isCP_pairs as bs, if_neg Bool.false_ne_true]
  intro p a q p' b q' hp ha' hq hp' hb' hq'
  exact partialKrausLists_e rho as bs _ _ _ _ _ _ do0 do1 ha hb hl hr hc p a q p' b q' hp ha' hq hp' hb' hq'

/-- The dimension bookkeeping of `partial_channel`: the size of the whole space is
    `prod(dim[:sys-1]) · dim[sys-1] · prod(dim[sys:])`, so the shape hypotheses above are exactly
    `ρ.shape = (prod rd, prod cd)`. -/
theorem partialChannel_dims_split (d : Nat → Nat) (n sys : Nat) (h1 : 1 ≤ sys) (h2 : sys ≤ n) :
    prodN d n = prodBefore d sys * d (sys - 1) * prodAfter d n sys := by
  obtain ⟨s, rfl⟩ : ∃ s, sys = s + 1 := ⟨sys - 1, by omega⟩
  obtain ⟨m, rfl⟩ : ∃ m, n = s + 1 + m := ⟨n - (s + 1), by omega⟩
  rw [prodN_add_range, prodAfter, Nat.add_sub_cancel_left]
  rfl

/-- **Completely positive forms.**  For the flat, column and row forms `partial_channel` applies
    `id ⊗ (Σ_k K_k · K_kᴴ) ⊗ id` (same dimension vector for rows and columns). -/
theorem partialChannel_cp_eq_id_tensor (rho : Mat α) (ks : List (Mat α)) (sys n : Nat) (rd cd : Nat → Nat)
    (d_out : Nat) (hs : Shaped ks d_out (rd (sys - 1))) (h : ks ≠ [])
    (phi : KrausArg α)
    (hform : phi = .flat ks ∨ phi = KrausArg.column ks ∨ (phi = KrausArg.row ks ∧ (ks.length = 1 ∨ 2 < ks.length)))
    (hr : rho.r = prodBefore rd sys * rd (sys - 1) * prodAfter rd n sys)
    (hc : rho.c = prodBefore rd sys * rd (sys - 1) * prodAfter rd n sys) :
    ∃ M, partialChannelKraus rho phi sys n rd cd = some M ∧
      ∀ p a q p' b q', p < prodBefore rd sys → a < d_out → q < prodAfter rd n sys →
        p' < prodBefore rd sys → b < d_out → q' < prodAfter rd n sys →
        M.e ((p * d_out + a) * prodAfter rd n sys + q) ((p' * d_out + b) * prodAfter rd n sys + q')
          = sumN ks.length fun k => sumN (rd (sys - 1)) fun i => sumN (rd (sys - 1)) fun j =>
              fam ks k a i
                * rho.e ((p * rd (sys - 1) + i) * prodAfter rd n sys + q) ((p' * rd (sys - 1) + j) * prodAfter rd n sys + q')
                * HasConj.conj (fam ks k b j) := by
  obtain ⟨hsplit, hcp⟩ := split_cp_forms ks h phi hform
  refine ⟨_, partialChannelKraus_of_split rho phi ks ks hsplit sys n rd cd, ?_⟩
  rw [if_pos hcp]
  intro p a q p' b q' hp ha' hq hp' hb' hq'
  exact partialKrausLists_e rho ks ks _ _ _ _ _ _ d_out d_out hs hs rfl hr hc p a q p' b q' hp ha' hq hp' hb' hq'

/-- **Product operators.**  On `ρ = P ⊗ X ⊗ Q` (entries `P[p,p'] · X[i,j] · Q[q,q']`) the result is
    `P ⊗ Φ(X) ⊗ Q`; in particular for two subsystems (`pre = 1` or `post = 1`) it is `Φ(X) ⊗ Q`
    or `P ⊗ Φ(X)`. -/
theorem partialChannel_product (rho : Mat α) (as bs : List (Mat α)) (sys n : Nat) (rd cd : Nat → Nat)
    (do0 do1 : Nat) (ha : Shaped as do0 (rd (sys - 1))) (hb : Shaped bs do1 (cd (sys - 1)))
    (hl : as.length = bs.length) (h : as ≠ [])
    (hr : rho.r = prodBefore rd sys * rd (sys - 1) * prodAfter rd n sys)
    (hc : rho.c = prodBefore cd sys * cd (sys - 1) * prodAfter cd n sys)
    (P X Q : Nat → Nat → α)
    (hprod : ∀ p i q p' j q', p < prodBefore rd sys → i < rd (sys - 1) → q < prodAfter rd n sys →
      p' < prodBefore cd sys → j < cd (sys - 1) → q' < prodAfter cd n sys →
      rho.e ((p * rd (sys - 1) + i) * prodAfter rd n sys + q) ((p' * cd (sys - 1) + j) * prodAfter cd n sys + q')
        = P p p' * X i j * Q q q') :
    ∃ M, partialChannelKraus rho (KrausArg.pairs as bs) sys n rd cd = some M ∧
      ∀ p a q p' b q', p < prodBefore rd sys → a < do0 → q < prodAfter rd n sys →
        p' < prodBefore cd sys → b < do1 → q' < prodAfter cd n sys →
        M.e ((p * do0 + a) * prodAfter rd n sys + q) ((p' * do1 + b) * prodAfter cd n sys + q')
          = P p p' * applySpec as.length (fam as) (fam bs) (rd (sys - 1)) (cd (sys - 1)) X a b * Q q q' := by
  obtain ⟨M, hM, hMe⟩ := partialChannel_eq_id_tensor rho as bs sys n rd cd do0 do1 ha hb hl h hr hc
  refine ⟨M, hM, ?_⟩
  intro p a q p' b q' hp ha' hq hp' hb' hq'
  rw [hMe p a q p' b q' hp ha' hq hp' hb' hq', ← applySpec_mul_left_right]
  exact applySpec_congr _ _ _ _ _ _ _ (fun i j hi hj => hprod p i q p' j q' hp hi hq hp' hj hq') a b

/-- **The Choi matrix of `id ⊗ Φ ⊗ id`.**  The matrix that the Choi branch of `partial_channel` hands to
    `apply_channel` (Kronecker product of `J` with the two maximally entangled operators, permuted by
    `[0,2,4,1,3,5]`) has, at input labels `(p,i,q)`/`(p',j,q')` and output labels `(p2,a,q2)`/`(p2',b,q2')`, the
    entry `δ_{p p2} δ_{p' p2'} · J[(i,a),(j,b)] · δ_{q q2} δ_{q' q2'}`: it is the Choi matrix of `id ⊗ Φ_J ⊗ id`. -/
theorem partialChannel_choi_embedding (J : Mat α) (sys n : Nat) (rd cd : Nat → Nat) (o0 o1 : Nat)
    (hd0 : 0 < rd (sys - 1)) (hd1 : 0 < cd (sys - 1))
    (hJr : J.r = rd (sys - 1) * o0) (hJc : J.c = cd (sys - 1) * o1)
    (p i q p2 a q2 p' j q' p2' b q2' : Nat)
    (hp : p < prodBefore rd sys) (hi : i < rd (sys - 1)) (hq : q < prodAfter rd n sys)
    (hp2 : p2 < prodBefore rd sys) (ha : a < o0) (hq2 : q2 < prodAfter rd n sys)
    (hp' : p' < prodBefore cd sys) (hj : j < cd (sys - 1)) (hq' : q' < prodAfter cd n sys)
    (hp2' : p2' < prodBefore cd sys) (hb : b < o1) (hq2' : q2' < prodAfter cd n sys) :
    (embedChoi J sys n rd cd).e
        (((((p * rd (sys - 1) + i) * prodAfter rd n sys + q) * prodBefore rd sys + p2) * o0 + a) * prodAfter rd n sys + q2)
        (((((p' * cd (sys - 1) + j) * prodAfter cd n sys + q') * prodBefore cd sys + p2') * o1 + b) * prodAfter cd n sys + q2')
      = unit p p' p2 p2' * J.e (i * o0 + a) (j * o1 + b) * unit q q' q2 q2' := by
  rw [embedChoi_eq]
  exact embedChoiAt_e J _ _ _ _ _ _ o0 o1 hd0 hd1 hJr hJc p i q p2 a q2 p' j q' p2' b q2'
    hp hi hq hp2 ha hq2 hp' hj hq' hp2' hb hq2'

/-- **Partial application with a Choi matrix.**  For *any* matrix `J` of shape `(d0·o0) × (d1·o1)` the
    Choi branch of `partial_channel` (6-factor `dim` array, Kronecker product with the two maximally entangled
    operators, `permute_systems` by `[0,2,4,1,3,5]`, then `apply_channel`) returns
    `Σ_ij ρ[(p,i,q),(p',j,q')] · J[(i,a),(j,b)]`, i.e. `id ⊗ Φ_J ⊗ id`. -/
theorem partialChannel_choi_eq_id_tensor (rho J : Mat α) (sys n : Nat) (rd cd : Nat → Nat) (o0 o1 : Nat)
    (hd0 : 0 < rd (sys - 1)) (hd1 : 0 < cd (sys - 1))
    (hJr : J.r = rd (sys - 1) * o0) (hJc : J.c = cd (sys - 1) * o1)
    (hr : rho.r = prodBefore rd sys * rd (sys - 1) * prodAfter rd n sys)
    (hc : rho.c = prodBefore cd sys * cd (sys - 1) * prodAfter cd n sys)
    (p a q p' b q' : Nat)
    (hp : p < prodBefore rd sys) (ha : a < o0) (hq : q < prodAfter rd n sys)
    (hp' : p' < prodBefore cd sys) (hb : b < o1) (hq' : q' < prodAfter cd n sys) :
    (partialChannelChoi rho J sys n rd cd).e ((p * o0 + a) * prodAfter rd n sys + q) ((p' * o1 + b) * prodAfter cd n sys + q')
      = sumN (rd (sys - 1)) fun i => sumN (cd (sys - 1)) fun j =>
          rho.e ((p * rd (sys - 1) + i) * prodAfter rd n sys + q) ((p' * cd (sys - 1) + j) * prodAfter cd n sys + q')
            * J.e (i * o0 + a) (j * o1 + b) := by
  unfold partialChannelChoi
  rw [embedChoi_eq]
  exact applyChoi_embedChoiAt_e rho J _ _ _ _ _ _ o0 o1 hd0 hd1 hJr hJc hr hc p a q p' b q' hp ha hq hp' hb hq'

/-- **Kraus and Choi branches of `partial_channel` agree.**  If `J` has the entries of the Choi matrix of
    `Φ = Σ_k A_k · B_kᴴ`, both branches return the same matrix. -/
theorem partialChannel_repr_independent (rho J : Mat α) (as bs : List (Mat α)) (sys n : Nat) (rd cd : Nat → Nat)
    (do0 do1 : Nat) (hd0 : 0 < rd (sys - 1)) (hd1 : 0 < cd (sys - 1))
    (ha : Shaped as do0 (rd (sys - 1))) (hb : Shaped bs do1 (cd (sys - 1)))
    (hl : as.length = bs.length) (h : as ≠ [])
    (hJr : J.r = rd (sys - 1) * do0) (hJc : J.c = cd (sys - 1) * do1)
    (hJ : ∀ i a j b, i < rd (sys - 1) → a < do0 → j < cd (sys - 1) → b < do1 →
      J.e (i * do0 + a) (j * do1 + b) = applySpec as.length (fam as) (fam bs) (rd (sys - 1)) (cd (sys - 1)) (unit i j) a b)
    (hr : rho.r = prodBefore rd sys * rd (sys - 1) * prodAfter rd n sys)
    (hc : rho.c = prodBefore cd sys * cd (sys - 1) * prodAfter cd n sys) :
    ∃ M, partialChannelKraus rho (KrausArg.pairs as bs) sys n rd cd = some M ∧
      ∀ p a q p' b q', p < prodBefore rd sys → a < do0 → q < prodAfter rd n sys →
        p' < prodBefore cd sys → b < do1 → q' < prodAfter cd n sys →
        (partialChannelChoi rho J sys n rd cd).e ((p * do0 + a) * prodAfter rd n sys + q) ((p' * do1 + b) * prodAfter cd n sys + q')
          = M.e ((p * do0 + a) * prodAfter rd n sys + q) ((p' * do1 + b) * prodAfter cd n sys + q') := by
  obtain ⟨M, hM, hMe⟩ := partialChannel_eq_id_tensor rho as bs sys n rd cd do0 do1 ha hb hl h hr hc
  refine ⟨M, hM, ?_⟩
  intro p a q p' b q' hp ha' hq hp' hb' hq'
  rw [hMe p a q p' b q' hp ha' hq hp' hb' hq',
    partialChannel_choi_eq_id_tensor rho J sys n rd cd do0 do1 hd0 hd1 hJr hJc hr hc p a q p' b q' hp ha' hq hp' hb' hq']
  -- both sides are the Choi and the Kraus evaluation of `Φ` on the slice `ρ[(p,·,q),(p',·,q')]`
  exact applyChoiSpec_of_choi as.length (fam as) (fam bs) _ _ do0 do1 J.e
    (fun i j => rho.e ((p * rd (sys - 1) + i) * prodAfter rd n sys + q) ((p' * cd (sys - 1) + j) * prodAfter cd n sys + q'))
    hJ a b ha' hb'

/-- **Natural representation.**  `natural_representation([K_1,…,K_r]) = Σ_k K_k ⊗ conj(K_k)` satisfies
    `K · vec_r(X) = vec_r(Φ(X))` with the row-major vectorisation `vec_r(X)[i·n + j] = X[i,j]`, for
    `Φ(X) = Σ_k K_k X K_kᴴ`, rectangular `K_k` allowed. -/
theorem naturalRep_vec (ks : List (Mat α)) (d_out d_in : Nat) (hs : Shaped ks d_out d_in) (h : ks ≠ [])
    (X : Nat → Nat → α) :
    ∃ N, naturalRep ks = some N ∧ N.r = d_out * d_out ∧ N.c = d_in * d_in ∧
      ∀ a b, a < d_out → b < d_out →
        sumN (d_in * d_in) (fun q => N.e (a * d_out + b) q * vecR d_in X q)
          = vecR d_out (applySpec ks.length (fam ks) (fam ks) d_in d_in X) (a * d_out + b) := by
  obtain ⟨N, hN, hr, hc, he⟩ := naturalRep_e ks d_out d_in hs h
  refine ⟨N, hN, hr, hc, ?_⟩
  intro a b ha hb
  rw [naturalRep_vec_e N.e ks.length (fam ks) d_out d_in X he a b ha hb]
  obtain ⟨h1, h2⟩ := Nat.mul_add_divMod_of_lt (q := a) hb
  simp only [vecR, h1, h2]

omit [CommSemiring α] [StarRing α] in
/-- **Dimension inference (pairs).**  For a well-formed paired list `channel_dim` returns the row/column
    dimensions of the input and output spaces read off the first pair, and the number of pairs. -/
theorem channelDim_pairs (as bs : List (Mat α)) (di0 di1 do0 do1 : Nat)
    (ha : Shaped as do0 di0) (hb : Shaped bs do1 di1) (hl : as.length = bs.length) (h : as ≠ []) :
    channelDimKraus (KrausArg.pairs as bs) true .none = .ok ⟨di0, di1, do0, do1, some as.length⟩ :=
  channelDimKraus_of_split _ as bs (split_pairs as bs hl h) di0 di1 do0 do1 ha hb

omit [CommSemiring α] [StarRing α] in
/-- **Dimension inference (one list).**  For a flat list the input and output spaces are square. -/
theorem channelDim_flat (ks : List (Mat α)) (d_in d_out : Nat) (hs : Shaped ks d_out d_in) (h : ks ≠ []) :
    channelDimKraus (KrausArg.flat ks) true .none = .ok ⟨d_in, d_in, d_out, d_out, some ks.length⟩ :=
  channelDimKraus_of_split _ ks ks (split_flat ks h) d_in d_in d_out d_out hs hs

/-! ## `choi_to_kraus`

`choiToKraus` (`Toq/Model/ChannelOpsExtra.lean`) mirrors everything `choi_to_kraus` does around its call of
`np.linalg.eigh` / `np.linalg.svd`; the factors are inputs, and the theorems hold for any factors that reproduce `J`. -/

/-- **Defining relation ⇔ Choi matrix.**  For a family `(A_k, B_k)` and a matrix `J` of shape
    `(di0·do0) × (di1·do1)`: `Σ_k vec(A_k) vec(B_k)ᴴ = J` holds exactly when `J` has the entries of
    `Σ_ij E_ij ⊗ Φ(E_ij)` for `Φ = Σ_k A_k · B_kᴴ` (all dimensions, rectangular included, `J` Hermitian or not). -/
theorem reproduces_iff_choi (J : Mat α) (as bs : List (Mat α)) (di0 di1 do0 do1 : Nat)
    (hJr : J.r = di0 * do0) (hJc : J.c = di1 * do1) :
    Reproduces J as bs do0 di0 do1 di1 ↔
      ∀ i a j b, i < di0 → a < do0 → j < di1 → b < do1 →
        J.e (i * do0 + a) (j * do1 + b) = applySpec as.length (fam as) (fam bs) di0 di1 (unit i j) a b :=
  reproduces_iff J as bs di0 di1 do0 do1 hJr hJc

/-- **`choi_to_kraus`, general (SVD) branch.**  `J` not Hermitian, `dim` decoded by `channel_dim` to
    `d`; let `(U, S, Vh)` be *any* factors with as many singular values as columns of `U` and rows of `Vh`
    whose kept terms (`abs(s) > tol`) reproduce `J`, `Σ_{i kept} s_i·U[p,i]·Vh[i,q] = J[p,q]`, and let `sqrt`
    be any function with `sqrt(s)·conj(sqrt(s)) = s` on the kept values.  Then the model returns the list of
    pairs `[[A_i, B_i]]` with `A_i = sqrt(s_i)·unvec(U[:,i])` (`d_out[0] × d_in[0]`, column-major),
    `B_i = sqrt(s_i)·unvec(conj(Vh[i,:]))` (`d_out[1] × d_in[1]`), and they satisfy the defining relation
    `Σ_i vec(A_i) vec(B_i)ᴴ = J` — for all dimensions, rectangular included. -/
theorem choiToKraus_general_branch [DecidableEq α] (ops : RealOps α) (J : Mat α) (tol atol : α) (dim : DimArg)
    (eig : Eigh α) (svd : Svd α) (d : ChanDim)
    (hd : channelDimChoi J.r J.c true dim = .ok d) (hnh : isHermitianExact J = false)
    (hU : svd.S.length = svd.U.c) (hV : svd.S.length = svd.Vh.r)
    (hsqrt : ∀ i, i < svd.S.length → c2kKeep ops tol (svd.S.getD i 0) = true →
      ops.sqrt (svd.S.getD i 0) * star (ops.sqrt (svd.S.getD i 0)) = svd.S.getD i 0)
    (hdec : ∀ p q, p < J.r → q < J.c →
      sumN svd.S.length (fun i => if c2kKeep ops tol (svd.S.getD i 0) then
        svd.S.getD i 0 * svd.U.e p i * svd.Vh.e i q else 0) = J.e p q) :
    ∃ as bs, choiToKraus ops J tol atol dim eig svd = .ok (KrausArg.pairs as bs) ∧
      Shaped as d.out0 d.in0 ∧ Shaped bs d.out1 d.in1 ∧ as.length = bs.length ∧
      Reproduces J as bs d.out0 d.in0 d.out1 d.in1 := by
  obtain ⟨s1, s2, s3⟩ := c2kSvd_shapes ops tol svd d.out0 d.in0 d.out1 d.in1 hU hV
  refine ⟨_, _, choiToKraus_general ops J tol atol dim eig svd d hd hnh, s1, s2, s3, ?_⟩
  obtain ⟨eL, eR⟩ := c2kSvd_lists ops tol svd d.out0 d.in0 d.out1 d.in1 hU hV
  rw [eL, eR]
  exact reproduces_of_kept_scaled ops tol svd.S J _ _ _ _ _ _ ops.sqrt ops.sqrt (fun i => svd.U.colv i)
    (fun i t => HasConj.conj (svd.Vh.rowv i t)) (fun x p => by rw [vecF_smul, vecF_unvecF]) (fun x q => by rw [vecF_smul, vecF_unvecF])
    hsqrt (fun p q hp hq => by simpa only [conj_eq_star, star_star, colv, rowv] using hdec p q hp hq)

/-- **`choi_to_kraus`, Hermitian indefinite branch.**  `J` Hermitian on a square operator space
    (`d_in[0] = d_in[1]`, `d_out[0] = d_out[1]`), not positive semidefinite by the eigenvalue test; `(λ, V)`
    any factors whose kept terms reproduce `J`, `Σ_{i kept} λ_i·V[p,i]·conj(V[q,i]) = J[p,q]`, and `sqrt`,
    `abs`, `sign` any functions with `sqrt(|λ|)·conj(sqrt(|λ|))·conj(sign λ) = λ` on the kept values.  Then
    the model returns the pairs `[[A_i, sign(λ_i)·A_i]]`, `A_i = sqrt(|λ_i|)·unvec(V[:,i])`, and they satisfy the
    defining relation. -/
theorem choiToKraus_hermitian_branch [DecidableEq α] (ops : RealOps α) (J : Mat α) (tol atol : α) (dim : DimArg)
    (eig : Eigh α) (svd : Svd α) (d : ChanDim)
    (hd : channelDimChoi J.r J.c true dim = .ok d) (hh : isHermitianExact J = true)
    (hpsd : isPsdFrom ops true atol eig.evals = false) (hin : d.in1 = d.in0) (hout : d.out1 = d.out0)
    (hV : eig.evals.length = eig.V.c)
    (hsqrt : ∀ i, i < eig.evals.length → c2kKeep ops tol (eig.evals.getD i 0) = true →
      ops.sqrt (ops.abs (eig.evals.getD i 0)) * star (ops.sqrt (ops.abs (eig.evals.getD i 0)))
        * star (ops.sign (eig.evals.getD i 0)) = eig.evals.getD i 0)
    (hdec : ∀ p q, p < J.r → q < J.c →
      sumN eig.evals.length (fun i => if c2kKeep ops tol (eig.evals.getD i 0) then
        eig.evals.getD i 0 * eig.V.e p i * star (eig.V.e q i) else 0) = J.e p q) :
    ∃ as bs, choiToKraus ops J tol atol dim eig svd = .ok (KrausArg.pairs as bs) ∧
      Shaped as d.out0 d.in0 ∧ Shaped bs d.out1 d.in1 ∧ as.length = bs.length ∧
      Reproduces J as bs d.out0 d.in0 d.out1 d.in1 := by
  obtain ⟨s1, s2, s3⟩ := c2kHerm_shapes ops tol eig d.out0 d.in0 hV
  rw [hin, hout]
  refine ⟨_, _, choiToKraus_hermitian ops J tol atol dim eig svd d hd hh hpsd, s1, s2, s3, ?_⟩
  obtain ⟨eL, eR⟩ := c2kHerm_lists ops tol eig d.out0 d.in0 hV
  rw [eR, eL]
  exact reproduces_of_kept_scaled ops tol eig.evals J _ _ _ _ _ _ (fun s => ops.sqrt (ops.abs s))
    (fun s => ops.sign s * ops.sqrt (ops.abs s)) (fun i => eig.V.colv i) (fun i => eig.V.colv i)
    (fun x p => by rw [vecF_smul, vecF_unvecF]) (fun x q => by rw [vecF_smul, vecF_smul, vecF_unvecF, mul_assoc])
    (fun i hi hkeep => Eq.trans (by rw [star_mul']; ring) (hsqrt i hi hkeep)) hdec

/-- **`choi_to_kraus`, positive semidefinite branch.**  `J` Hermitian and positive semidefinite by the
    eigenvalue test; factors as before with `sqrt(|λ|)·conj(sqrt(|λ|)) = λ` on the kept eigenvalues.  Then the
    model returns the *flat* list `[A_i]`, `A_i = sqrt(|λ_i|)·unvec(V[:,i])`, and `Σ_i vec(A_i) vec(A_i)ᴴ = J`. -/
theorem choiToKraus_psd_branch [DecidableEq α] (ops : RealOps α) (J : Mat α) (tol atol : α) (dim : DimArg)
    (eig : Eigh α) (svd : Svd α) (d : ChanDim)
    (hd : channelDimChoi J.r J.c true dim = .ok d) (hh : isHermitianExact J = true)
    (hpsd : isPsdFrom ops true atol eig.evals = true)
    (hV : eig.evals.length = eig.V.c)
    (hsqrt : ∀ i, i < eig.evals.length → c2kKeep ops tol (eig.evals.getD i 0) = true →
      ops.sqrt (ops.abs (eig.evals.getD i 0)) * star (ops.sqrt (ops.abs (eig.evals.getD i 0)))
        = eig.evals.getD i 0)
    (hdec : ∀ p q, p < J.r → q < J.c →
      sumN eig.evals.length (fun i => if c2kKeep ops tol (eig.evals.getD i 0) then
        eig.evals.getD i 0 * eig.V.e p i * star (eig.V.e q i) else 0) = J.e p q) :
    ∃ as, choiToKraus ops J tol atol dim eig svd = .ok (KrausArg.flat as) ∧
      Shaped as d.out0 d.in0 ∧ Reproduces J as as d.out0 d.in0 d.out0 d.in0 := by
  obtain ⟨s1, _, _⟩ := c2kHerm_shapes ops tol eig d.out0 d.in0 hV
  refine ⟨_, choiToKraus_psd ops J tol atol dim eig svd d hd hh hpsd, s1, ?_⟩
  rw [(c2kHerm_lists ops tol eig d.out0 d.in0 hV).1]
  exact reproduces_of_kept_scaled ops tol eig.evals J _ _ _ _ _ _ (fun s => ops.sqrt (ops.abs s)) (fun s => ops.sqrt (ops.abs s))
    (fun i => eig.V.colv i) (fun i => eig.V.colv i) (fun x p => by rw [vecF_smul, vecF_unvecF])
    (fun x q => by rw [vecF_smul, vecF_unvecF]) hsqrt hdec

/-- **Round trip `kraus_to_choi ∘ choi_to_kraus = id` (pairs).**  For any family with
    `Σ_k vec(A_k) vec(B_k)ᴴ = J` (in particular the one returned by any branch of `choi_to_kraus`),
    `kraus_to_choi` of the paired list is a matrix of the shape of `J` with the entries of `J`. -/
theorem krausToChoi_of_reproduces (J : Mat α) (as bs : List (Mat α)) (di0 di1 do0 do1 : Nat)
    (hJr : J.r = di0 * do0) (hJc : J.c = di1 * do1)
    (ha : Shaped as do0 di0) (hb : Shaped bs do1 di1) (hl : as.length = bs.length) (h : as ≠ [])
    (hvec : Reproduces J as bs do0 di0 do1 di1) :
    ∃ J', krausToChoi (KrausArg.pairs as bs) = some J' ∧ J'.r = J.r ∧ J'.c = J.c ∧
      ∀ p q, p < J.r → q < J.c → J'.e p q = J.e p q :=
  krausToChoi_of_reproduces_split J _ as bs (split_pairs as bs hl h) di0 di1 do0 do1 hJr hJc ha hb hvec

/-- **Round trip (flat list).**  The same for the flat list returned in the positive semidefinite case. -/
theorem krausToChoi_of_reproduces_flat (J : Mat α) (ks : List (Mat α)) (d_in d_out : Nat)
    (hJr : J.r = d_in * d_out) (hJc : J.c = d_in * d_out)
    (hs : Shaped ks d_out d_in) (h : ks ≠ []) (hvec : Reproduces J ks ks d_out d_in d_out d_in) :
    ∃ J', krausToChoi (KrausArg.flat ks) = some J' ∧ J'.r = J.r ∧ J'.c = J.c ∧
      ∀ p q, p < J.r → q < J.c → J'.e p q = J.e p q :=
  krausToChoi_of_reproduces_split J _ ks ks (split_flat ks h) d_in d_in d_out d_out hJr hJc hs hs hvec

/-- **Kraus → Choi with `sys = 1`.**  The map is applied to the *first* half of the unnormalised maximally
    entangled operator: the result is the `(do0·di0) × (do1·di1)` matrix `Σ_ij Φ(E_ij) ⊗ E_ij`, whose entry at
    row `(a, i)`, column `(b, j)` is `Φ(E_ij)[a, b]` (the other ordering convention of the Choi matrix). -/
theorem krausToChoi_sys1_eq_spec (as bs : List (Mat α)) (di0 di1 do0 do1 : Nat)
    (ha : Shaped as do0 di0) (hb : Shaped bs do1 di1) (hl : as.length = bs.length) (h : as ≠ []) :
    ∃ J, krausToChoi (KrausArg.pairs as bs) 1 = some J ∧ J.r = do0 * di0 ∧ J.c = do1 * di1 ∧
      ∀ a i b j, a < do0 → i < di0 → b < do1 → j < di1 →
        J.e (a * di0 + i) (b * di1 + j) = applySpec as.length (fam as) (fam bs) di0 di1 (unit i j) a b :=
  krausToChoi_sys1_of_split _ as bs di0 di1 do0 do1 (split_pairs as bs hl h) ha hb

/-- **`sys = 1`, completely positive forms** (flat, column, row). -/
theorem krausToChoi_sys1_cp_eq_spec (ks : List (Mat α)) (d_in d_out : Nat) (hs : Shaped ks d_out d_in) (h : ks ≠ [])
    (phi : KrausArg α)
    (hform : phi = .flat ks ∨ phi = KrausArg.column ks ∨ (phi = KrausArg.row ks ∧ (ks.length = 1 ∨ 2 < ks.length))) :
    ∃ J, krausToChoi phi 1 = some J ∧ J.r = d_out * d_in ∧ J.c = d_out * d_in ∧
      ∀ a i b j, a < d_out → i < d_in → b < d_out → j < d_in →
        J.e (a * d_in + i) (b * d_in + j) = applySpec ks.length (fam ks) (fam ks) d_in d_in (unit i j) a b :=
  krausToChoi_sys1_of_split phi ks ks d_in d_in d_out d_out (split_cp_forms ks h phi hform).1 hs hs

omit [CommSemiring α] [StarRing α] in
/-- **Forms of `dim` in `partial_channel`.**  A 1-d `dim` is used for rows and columns alike; a 2-row `dim`
    gives row and column dimensions separately; `dim=None` means two subsystems with row dimensions `√rows` and
    column dimensions `√cols`, i.e. the 2-row form `[[√rows, √rows], [√cols, √cols]]` (also for a non-square operator). -/
theorem partialChannel_dim_forms (rho : Mat α) (d rd cd : List Nat) :
    partialDimNorm rho (.one d) = some (d, d) ∧ partialDimNorm rho (.two rd cd) = some (rd, cd) ∧
    (Nat.sqrt rho.r * Nat.sqrt rho.r = rho.r → Nat.sqrt rho.c * Nat.sqrt rho.c = rho.c →
      partialDimNorm rho .none
        = partialDimNorm rho (.two [Nat.sqrt rho.r, Nat.sqrt rho.r] [Nat.sqrt rho.c, Nat.sqrt rho.c])) := by
  refine ⟨rfl, rfl, ?_⟩
  intro h1 h2
  simp [partialDimNorm, h1, h2, defaultDim]

/-- **Dimension inference (Choi matrix; the helper both `choi_to_kraus` and `dual_channel` call).**  With
    `dim = [[r, x], [c, y]]` whose products match the shape, `channel_dim` returns `d_in = (r, c)`,
    `d_out = (x, y)` (and no environment dimension when `compute_env_dim=False`); `[m, n]` means `[[m, n], [m, n]]`, an
    integer `d` means `[[d, d], [d, d]]`, `None` means the square roots of the shape; a `dim` whose products do not match
    the shape is rejected. -/
theorem channelDim_choi (rows cols r x c y m n d : Nat) :
    (r * x = rows → c * y = cols → channelDimChoi rows cols true (.mat r x c y) = .ok ⟨r, c, x, y, none⟩) ∧
    channelDimChoi rows cols true (.vec m n) = channelDimChoi rows cols true (.mat m n m n) ∧
    channelDimChoi rows cols true (.int d) = channelDimChoi rows cols true (.mat d d d d) ∧
    channelDimChoi rows cols true .none
      = channelDimChoi rows cols true (.mat (Nat.sqrt rows) (Nat.sqrt rows) (Nat.sqrt cols) (Nat.sqrt cols)) ∧
    ((r * x ≠ rows ∨ c * y ≠ cols) → channelDimChoi rows cols true (.mat r x c y) = .error DimErr.choiDim) := by
  refine ⟨?_, rfl, rfl, rfl, ?_⟩
  · intro h1 h2; subst h1; subst h2; exact channelDimChoi_mat r x c y
  · intro h
    rcases h with h | h <;> simp [channelDimChoi, expandDim, h]

/-- **The driver's Gaussian integers are an instance of the theorems' hypotheses.**  `GI` with the core-class
    instances of `Toq/Core/Scalar.lean` (the ones the compiled driver computes with) is a commutative
    star-ring (`giCommRing`, `giStarRing`), and its `+`, `*`, `0`, `1` and conjugation are *definitionally* the
    ones these ring instances provide — so every theorem of this file speaks about the very functions the
    correspondence check runs. -/
theorem driver_scalars_are_a_star_ring :
    (inferInstanceAs (Add GI)) = giCommRing.toAdd ∧ (inferInstanceAs (Mul GI)) = giCommRing.toMul ∧
    (inferInstanceAs (Zero GI)) = giCommRing.toZero ∧ (inferInstanceAs (One GI)) = giCommRing.toOne ∧
    (instHasConjGI : HasConj GI) = starHasConj :=
  ⟨rfl, rfl, rfl, rfl, rfl⟩

/-- the hypotheses are satisfiable and the model computes: the transpose map on 2×2 matrices given by the
    four pairs `(E_ij, E_ji)`; its Choi matrix is the swap operator and both representations transpose `X` -/
example :
    let E : Nat → Nat → Mat Int := fun i j => ⟨2, 2, fun a b => if a = i ∧ b = j then 1 else 0⟩
    let as := [E 0 0, E 0 1, E 1 0, E 1 1]
    let bs := [E 0 0, E 1 0, E 0 1, E 1 1]
    let X : Mat Int := ⟨2, 2, fun a b => 2 * a + b + 1⟩
    ((applyKraus X (KrausArg.pairs as bs)).map (fun M => listOfFn 4 (fun p => M.e (p / 2) (p % 2)))) = some [1, 3, 2, 4] ∧
    ((krausToChoi (KrausArg.pairs as bs)).map (fun J => listOfFn 16 (fun p => J.e (p / 4) (p % 4))))
      = some [1, 0, 0, 0, 0, 0, 1, 0, 0, 1, 0, 0, 0, 0, 0, 1] ∧
    ((krausToChoi (KrausArg.pairs as bs)).map (fun J => listOfFn 4 (fun p => (applyChoi X J).e (p / 2) (p % 2))))
      = some [1, 3, 2, 4] := by
  decide +kernel

/-- the assembly model computes and its hypotheses are satisfiable: `J = diag(4, 0, 0, -9)` (Hermitian, indefinite)
    with the exact factors `λ = (-9, 0, 0, 4)`, `V` the corresponding permutation matrix, `sqrt` the integer square
    root table `{9 ↦ 3, 4 ↦ 2}`: the model returns the two pairs `(3·E_11, -3·E_11)`, `(2·E_00, 2·E_00)` and
    `kraus_to_choi` of them is `J` again -/
example :
    let ops : RealOps Int := ⟨fun x => if x = 9 then 3 else if x = 4 then 2 else 0, fun x => (Int.natAbs x : Int), Int.sign, Int.neg,
      fun x y => decide (x > y), fun x y => decide (x ≥ y)⟩
    let J : Mat Int := ⟨4, 4, fun i j => if i = j then (if i = 0 then 4 else if i = 3 then -9 else 0) else 0⟩
    let V : Mat Int := ⟨4, 4, fun p i => if (p = 3 ∧ i = 0) ∨ (p = 1 ∧ i = 1) ∨ (p = 2 ∧ i = 2) ∨ (p = 0 ∧ i = 3) then 1 else 0⟩
    let out := choiToKraus ops J 0 0 (.mat 2 2 2 2) ⟨[-9, 0, 0, 4], V⟩ ⟨⟨0, 0, fun _ _ => 0⟩, [], ⟨0, 0, fun _ _ => 0⟩⟩
    (match out with
      | .ok phi => (phi.split.map fun ab => (ab.1.map fun m => listOfFn 4 (fun p => m.e (p / 2) (p % 2)),
                                              ab.2.map fun m => listOfFn 4 (fun p => m.e (p / 2) (p % 2))))
      | .error _ => none) = some ([[0, 0, 0, 3], [2, 0, 0, 0]], [[0, 0, 0, -3], [2, 0, 0, 0]]) ∧
    (match out with
      | .ok phi => (krausToChoi phi).map (fun K => listOfFn 16 (fun p => K.e (p / 4) (p % 4)))
      | .error _ => none) = some [4, 0, 0, 0, 0, 0, 0, 0, 0, 0, 0, 0, 0, 0, 0, -9] := by
  decide +kernel

end Toq.C04
