import Toq.Proofs.PPTDisc
import Toq.Proofs.PPTDiscHier
import Toq.Proofs.PPTDiscOpt
import Toq.Model.PPTDiscHier
import Toq.Properties.C10
/-!
# C12 — discrimination with PPT measurements: ordering, duality, invariances, certificate checkers

Bipartite space `A ⊗ B` of dimensions `(dA, dB)`, composite index `i = a·dB + b` (toqito's Kronecker
convention).  `pTf sys X` is the partial transpose of `X : Matrix (Fin (dA*dB)) (Fin (dA*dB)) ℂ` on party
`sys` (`0` = first party, otherwise second party; the code accepts `0` and `1`): `pTBf X [(a,b),(a',b')] = X [(a,b'),(a',b)]`.
`kronF A B` is the Kronecker product on composite indices.

`ppt_distinguishability(…, subsystems=[sys], dimensions=[dA,dB], strategy="min_error")` solves

* primal: maximise `successProb ρ p M = Σ_i p_i Re tr(ρ_i M_i)` over POVMs `M` with `T_sys(M_i) ⪰ 0`  (`IsPPTPOVM`);
* dual:   minimise `Re tr Y` subject to `Q_i ⪰ 0`, `Y − p_i ρ_i − T_sys(Q_i) ⪰ 0`                  (`PPTDualFeasible`).

`IsPOVM`, `successProb`, `MinErrDualFeasible` and the denotations `ensStates`, `ensProbs`, `mats` are those
of C10 (`Toq.Properties.C10`).

`IsSymExtPOVM ℓ` is the feasible set of level `ℓ + 1` of the symmetric-extension hierarchy (constraint set `SymExtAt`, copies of `Y`
as a digit vector); `separable_meas_feasible` speaks of levels 1 and 2 written out on index triples of arbitrary index types (`SymExt2`).

Not proved (cited / certified per instance): strong duality of the PPT program for every ensemble (Slater: `M_i = 1/k` is strictly
feasible; per instance the harness certifies `hi − lo ≤ 10⁻⁴`, and `ppt_optimal_of_slackness` turns any exactly slack pair into a proof);
attainment of the hierarchy values for `ℓ ≥ 1` (the values are suprema); that `SymExt2` is `SymExtAt 1`; that the flattened-index expressions of the mirror model
`symExtExprs` are the index-tuple constraints `SymExtAt` (compared with the code's expressions on every run); PPT = separable on
`2 ⊗ 2`, `2 ⊗ 3` (Horodecki), used by the harness only for the one-sided check level 2 ≥ PPT value.
-/

open Matrix
open scoped ComplexOrder MatrixOrder

namespace Toq.C12
open Toq.Discrim Toq.PPTDisc Toq.C10

variable {dA dB k : Nat}

def IsPPTPOVM (sys : Nat) (M : Fin k → Matrix (Fin (dA * dB)) (Fin (dA * dB)) ℂ) : Prop :=
  IsPOVM M ∧ ∀ i, (pTf sys (M i)).PosSemidef

def PPTDualFeasible (sys : Nat) (ρ : Fin k → Matrix (Fin (dA * dB)) (Fin (dA * dB)) ℂ) (p : Fin k → ℝ)
    (Y : Matrix (Fin (dA * dB)) (Fin (dA * dB)) ℂ) (Q : Fin k → Matrix (Fin (dA * dB)) (Fin (dA * dB)) ℂ) :
    Prop :=
  ∀ i, (Q i).PosSemidef ∧ (Y - (p i : ℂ) • ρ i - pTf sys (Q i)).PosSemidef

/-- The executable partial transpose of the model denotes the mathematical partial transpose. -/
theorem pT_model_eq_spec (sys : Nat) (X : EMat (dA * dB) (dA * dB)) : (pT sys X).toM = pTf sys X.toM :=
  toM_pT sys X

/-- Entry formula: `T_B(X)[(a,b),(a',b')] = X[(a,b'),(a',b)]` with composite index `(a,b) ↦ a·dB + b`. -/
theorem pTB_entry (X : Matrix (Fin (dA * dB)) (Fin (dA * dB)) ℂ) (a a' : Fin dA) (b b' : Fin dB) :
    pTf 1 X (finProdFinEquiv (a, b)) (finProdFinEquiv (a', b'))
      = X (finProdFinEquiv (a, b')) (finProdFinEquiv (a', b)) := by
  rw [pTf_sys_one, pTBf_apply, Equiv.symm_apply_apply, Equiv.symm_apply_apply]

theorem pT_add (sys : Nat) (X Y : Matrix (Fin (dA * dB)) (Fin (dA * dB)) ℂ) :
    pTf sys (X + Y) = pTf sys X + pTf sys Y :=
  pTf_add sys X Y

theorem pT_smul (sys : Nat) (c : ℂ) (X : Matrix (Fin (dA * dB)) (Fin (dA * dB)) ℂ) :
    pTf sys (c • X) = c • pTf sys X :=
  pTf_smul sys c X

theorem pT_involutive (sys : Nat) (X : Matrix (Fin (dA * dB)) (Fin (dA * dB)) ℂ) :
    pTf sys (pTf sys X) = X :=
  pTf_pTf sys X

theorem pT_trace (sys : Nat) (X : Matrix (Fin (dA * dB)) (Fin (dA * dB)) ℂ) :
    (pTf sys X).trace = X.trace :=
  trace_pTf sys X

/-- The partial transpose is self-adjoint for the trace form: `tr(T(A)·B) = tr(A·T(B))`. -/
theorem pT_trace_adjoint (sys : Nat) (A B : Matrix (Fin (dA * dB)) (Fin (dA * dB)) ℂ) :
    (pTf sys A * B).trace = (A * pTf sys B).trace :=
  trace_pTf_mul sys A B

/-- Transposing the first party is transposing the second party followed by a full transpose. -/
theorem pTA_eq_transpose_pTB (X : Matrix (Fin (dA * dB)) (Fin (dA * dB)) ℂ) :
    pTf 0 X = (pTf 1 X)ᵀ := by
  rw [pTf_sys_zero, pTf_sys_one, pTAf_eq_transpose]

/-- Which party is transposed is irrelevant for the PPT condition. -/
theorem ppt_party_irrelevant (s s' : Nat) (X : Matrix (Fin (dA * dB)) (Fin (dA * dB)) ℂ) :
    (pTf s X).PosSemidef ↔ (pTf s' X).PosSemidef := by
  rw [pTf_posSemidef_iff s, pTf_posSemidef_iff s']

/-- Hence the feasible sets (and optimal values) of PPT discrimination do not depend on the party. -/
theorem isPPTPOVM_party_irrelevant (s s' : Nat) (M : Fin k → Matrix (Fin (dA * dB)) (Fin (dA * dB)) ℂ) :
    IsPPTPOVM s M ↔ IsPPTPOVM s' M := by
  unfold IsPPTPOVM
  exact and_congr Iff.rfl (forall_congr' fun i => ppt_party_irrelevant s s' (M i))

/-- Weak duality: every PPT measurement succeeds with probability at most `Re tr Y` for dual-feasible `(Y, Q)`. -/
theorem ppt_weak_duality (sys : Nat) (ρ : Fin k → Matrix (Fin (dA * dB)) (Fin (dA * dB)) ℂ) (p : Fin k → ℝ)
    (M : Fin k → Matrix (Fin (dA * dB)) (Fin (dA * dB)) ℂ) (Y : Matrix (Fin (dA * dB)) (Fin (dA * dB)) ℂ)
    (Q : Fin k → Matrix (Fin (dA * dB)) (Fin (dA * dB)) ℂ)
    (hM : IsPPTPOVM sys M) (hYQ : PPTDualFeasible sys ρ p Y Q) :
    successProb ρ p M ≤ Y.trace.re :=
  ppt_weak_duality_gen (pTf sys) (trace_pTf_mul sys) ρ p hM.1 hM.2 hYQ

/-- PPT value ≤ global value: a PPT measurement is a measurement, so every bound `Re tr Y` from the dual of
unrestricted minimum-error discrimination (C10) bounds its success probability. -/
theorem ppt_le_global (sys : Nat) (ρ : Fin k → Matrix (Fin (dA * dB)) (Fin (dA * dB)) ℂ) (p : Fin k → ℝ)
    (M : Fin k → Matrix (Fin (dA * dB)) (Fin (dA * dB)) ℂ) (Y : Matrix (Fin (dA * dB)) (Fin (dA * dB)) ℂ)
    (hM : IsPPTPOVM sys M) (hY : MinErrDualFeasible ρ p Y) :
    successProb ρ p M ≤ Y.trace.re :=
  minErr_weak_duality ρ p M Y hM.1 hY

/-- Every feasible point of the global dual is a feasible point of the PPT dual (with `Q = 0`), so the
PPT dual optimum is at most the global dual optimum as well. -/
theorem global_dual_feasible_is_ppt_dual_feasible (sys : Nat)
    (ρ : Fin k → Matrix (Fin (dA * dB)) (Fin (dA * dB)) ℂ) (p : Fin k → ℝ)
    (Y : Matrix (Fin (dA * dB)) (Fin (dA * dB)) ℂ) (hY : MinErrDualFeasible ρ p Y) :
    PPTDualFeasible sys ρ p Y (fun _ => 0) := by
  intro i
  refine ⟨Matrix.PosSemidef.zero, ?_⟩
  rw [pTf_zero, sub_zero]
  exact hY i

/-- `T_B(A ⊗ B) = A ⊗ Bᵀ`. -/
theorem pTB_kron (A : Matrix (Fin dA) (Fin dA) ℂ) (B : Matrix (Fin dB) (Fin dB) ℂ) :
    pTf 1 (kronF A B) = kronF A Bᵀ := by
  rw [pTf_sys_one, pTBf_kronF]

/-- A finite sum of Kronecker products of positive semidefinite matrices is positive semidefinite and has a
positive semidefinite partial transpose (on either party). -/
theorem product_meas_is_ppt {ι : Type*} [Fintype ι] (sys : Nat) (A : ι → Matrix (Fin dA) (Fin dA) ℂ)
    (B : ι → Matrix (Fin dB) (Fin dB) ℂ) (hA : ∀ j, (A j).PosSemidef) (hB : ∀ j, (B j).PosSemidef) :
    (∑ j, kronF (A j) (B j)).PosSemidef ∧ (pTf sys (∑ j, kronF (A j) (B j))).PosSemidef := by
  refine ⟨Matrix.posSemidef_sum _ fun j _ => kronF_posSemidef (hA j) (hB j), ?_⟩
  rw [pTf_posSemidef_iff, pTBf_sum]
  simp only [pTBf_kronF]
  exact Matrix.posSemidef_sum _ fun j _ => kronF_posSemidef (hA j) (hB j).transpose

/-- A POVM whose elements are sums of products `A ⊗ B` of positive semidefinite matrices (every one-way
LOCC / separable measurement written in product form) is a PPT measurement. -/
theorem product_povm_is_ppt {ι : Type*} [Fintype ι] (sys : Nat)
    (A : Fin k → ι → Matrix (Fin dA) (Fin dA) ℂ) (B : Fin k → ι → Matrix (Fin dB) (Fin dB) ℂ)
    (hA : ∀ i j, (A i j).PosSemidef) (hB : ∀ i j, (B i j).PosSemidef)
    (hsum : ∑ i, ∑ j, kronF (A i j) (B i j) = 1) :
    IsPPTPOVM sys (fun i => ∑ j, kronF (A i j) (B i j)) :=
  ⟨⟨fun i => (product_meas_is_ppt sys (A i) (B i) (hA i) (hB i)).1, hsum⟩,
    fun i => (product_meas_is_ppt sys (A i) (B i) (hA i) (hB i)).2⟩

/-- `T_B((U ⊗ V) X (U ⊗ V)ᴴ) = (U ⊗ V̄) T_B(X) (U ⊗ V̄)ᴴ` where `V̄ = (Vᴴ)ᵀ` is the entrywise conjugate. -/
theorem pTB_conj_kron (U : Matrix (Fin dA) (Fin dA) ℂ) (V : Matrix (Fin dB) (Fin dB) ℂ)
    (X : Matrix (Fin (dA * dB)) (Fin (dA * dB)) ℂ) :
    pTf 1 (kronF U V * X * (kronF U V)ᴴ) = kronF U Vᴴᵀ * pTf 1 X * (kronF U Vᴴᵀ)ᴴ := by
  have h : (Vᴴᵀ)ᴴ = Vᵀ :=
    (Matrix.conjTranspose_transpose_eq_transpose_conjTranspose Vᴴ).trans (congrArg Matrix.transpose (Matrix.conjTranspose_conjTranspose V))
  simp only [pTf_sys_one, kronF_conjTranspose, pTBf_kron_mul_kron, h]

/-- Conjugating states and measurement by a local unitary `U ⊗ V` maps PPT measurements to PPT
measurements and leaves the success probability unchanged. -/
theorem ppt_local_unitary_invariant (sys : Nat) (U : Matrix (Fin dA) (Fin dA) ℂ)
    (V : Matrix (Fin dB) (Fin dB) ℂ) (hU : Uᴴ * U = 1) (hV : Vᴴ * V = 1)
    (ρ : Fin k → Matrix (Fin (dA * dB)) (Fin (dA * dB)) ℂ) (p : Fin k → ℝ)
    (M : Fin k → Matrix (Fin (dA * dB)) (Fin (dA * dB)) ℂ) (hM : IsPPTPOVM sys M) :
    IsPPTPOVM sys (fun i => kronF U V * M i * (kronF U V)ᴴ) ∧
      successProb (fun i => kronF U V * ρ i * (kronF U V)ᴴ) p (fun i => kronF U V * M i * (kronF U V)ᴴ)
        = successProb ρ p M := by
  obtain ⟨hP, hv⟩ := minErr_unitary_invariant (kronF U V) (kronF_mem_unitaryGroup hU hV) ρ p M hM.1
  refine ⟨⟨hP, fun i => ?_⟩, hv⟩
  rw [ppt_party_irrelevant sys 1, pTB_conj_kron]
  exact ((ppt_party_irrelevant sys 1 (M i)).mp (hM.2 i)).mul_mul_conjTranspose_same _

/-- If the PPT primal checker accepts with value `lo`, the candidate is a PPT measurement (one element per
state) whose success probability is exactly `lo`; hence `lo` is a lower bound of the PPT optimum. -/
theorem checkPPTPrimal_sound (sys : Nat) (ens : Ensemble (dA * dB)) (M LM LT : List (EMat (dA * dB) (dA * dB)))
    (lo : Rat) (h : checkPPTPrimal sys ens M LM LT = some lo) :
    ens.probs.length = ens.size ∧ M.length = ens.size ∧
      IsPPTPOVM sys (mats ens.size M) ∧
      successProb (ensStates ens) (ensProbs ens) (mats ens.size M) = (lo : ℝ) := by
  rw [checkPPTPrimal, Option.ite_none_right_eq_some, lens4Ok_iff] at h
  obtain ⟨⟨h1, h2, -, -⟩, h⟩ := h
  exact ⟨h1, h2, checkPPTPrimalFn_sound _ _ _ _ _ _ _ _ h⟩

/-- If the PPT dual checker accepts with value `hi`, every PPT measurement on the ensemble succeeds with
probability at most `hi`. -/
theorem checkPPTDual_sound (sys : Nat) (ens : Ensemble (dA * dB)) (Y : EMat (dA * dB) (dA * dB))
    (Q LQ LS : List (EMat (dA * dB) (dA * dB))) (hi : Rat)
    (h : checkPPTDual sys ens Y Q LQ LS = some hi) :
    ∀ M' : Fin ens.size → Matrix (Fin (dA * dB)) (Fin (dA * dB)) ℂ, IsPPTPOVM sys M' →
      successProb (ensStates ens) (ensProbs ens) M' ≤ (hi : ℝ) := by
  rw [checkPPTDual, Option.ite_none_right_eq_some] at h
  obtain ⟨hYQ, hv⟩ := checkPPTDualFn_sound _ _ _ _ _ _ _ _ _ h.2
  intro M' hM'
  rw [← hv]
  exact ppt_weak_duality sys (ensStates ens) (ensProbs ens) M' Y.toM (fun i => (matAt Q i).toM) hM' hYQ

/-- Accepted primal and dual certificates bracket the PPT optimum — also when the two certificates
transpose different parties. -/
theorem ppt_lo_le_hi (s s' : Nat) (ens : Ensemble (dA * dB)) (M LM LT : List (EMat (dA * dB) (dA * dB)))
    (Y : EMat (dA * dB) (dA * dB)) (Q LQ LS : List (EMat (dA * dB) (dA * dB))) (lo hi : Rat)
    (hlo : checkPPTPrimal s ens M LM LT = some lo) (hhi : checkPPTDual s' ens Y Q LQ LS = some hi) :
    (lo : ℝ) ≤ (hi : ℝ) := by
  obtain ⟨-, -, hM, hv⟩ := checkPPTPrimal_sound s ens M LM LT lo hlo
  rw [← hv]
  exact checkPPTDual_sound s' ens Y Q LQ LS hi hhi _ ((isPPTPOVM_party_irrelevant s s' _).mp hM)

/-- An accepted certificate for the *global* minimum-error dual (C10) bounds every PPT measurement:
certified PPT lower bounds never exceed certified global upper bounds. -/
theorem ppt_lo_le_global_hi (sys : Nat) (ens : Ensemble (dA * dB)) (M LM LT : List (EMat (dA * dB) (dA * dB)))
    (Y : EMat (dA * dB) (dA * dB)) (LY : List (EMat (dA * dB) (dA * dB))) (lo hi : Rat)
    (hlo : checkPPTPrimal sys ens M LM LT = some lo) (hhi : checkMinErrDual ens Y LY = some hi) :
    (lo : ℝ) ≤ (hi : ℝ) := by
  obtain ⟨-, -, hM, hv⟩ := checkPPTPrimal_sound sys ens M LM LT lo hlo
  rw [← hv]
  exact checkMinErrDual_sound ens Y LY hi hhi _ hM.1

/-- An accepted PPT dual certificate bounds the success probability of every product-form measurement
(`M_i = Σ_j A_ij ⊗ B_ij`, all factors positive semidefinite): PPT value ≥ value of any explicit product measurement. -/
theorem product_meas_le_ppt_bound {ι : Type*} [Fintype ι] (sys : Nat) (ens : Ensemble (dA * dB))
    (Y : EMat (dA * dB) (dA * dB)) (Q LQ LS : List (EMat (dA * dB) (dA * dB))) (hi : Rat)
    (h : checkPPTDual sys ens Y Q LQ LS = some hi)
    (A : Fin ens.size → ι → Matrix (Fin dA) (Fin dA) ℂ) (B : Fin ens.size → ι → Matrix (Fin dB) (Fin dB) ℂ)
    (hA : ∀ i j, (A i j).PosSemidef) (hB : ∀ i j, (B i j).PosSemidef)
    (hsum : ∑ i, ∑ j, kronF (A i j) (B i j) = 1) :
    successProb (ensStates ens) (ensProbs ens) (fun i => ∑ j, kronF (A i j) (B i j)) ≤ (hi : ℝ) :=
  checkPPTDual_sound sys ens Y Q LQ LS hi h _ (product_povm_is_ppt sys A B hA hB hsum)

/-! ## Symmetric-extension hierarchy: separable measurements are feasible at levels 1 and 2

Stated on index pairs `(x, y)` / triples `(x, y, y₂)` (toqito's composite index is `(x·dY + y)·dY + y₂`). -/

/-- Every operator of a separable measurement, `M = Σ_j A_j ⊗ b_j b_jᴴ` with `A_j ⪰ 0` and unit vectors `b_j`,
satisfies the constraints of level 1 (`M ⪰ 0`, `T_X(M) ⪰ 0`) and of level 2 (extension `Σ_j A_j ⊗ b_j b_jᴴ ⊗ b_j b_jᴴ`)
of the symmetric-extension hierarchy; so the hierarchy value at these levels is at least the value of any
explicit separable measurement.  Level 2 is here `Toq.PPTDisc.SymExt2` (index triples, any index types), not the `SymExtAt 1` of the
hierarchy section below (`separable_povm_symExt` has the same content at every level in that vocabulary); no theorem relates the two. -/
theorem separable_meas_feasible {m n ι : Type*} [Fintype m] [Fintype n] [DecidableEq m] [DecidableEq n]
    [Fintype ι] (A : ι → Matrix m m ℂ) (b : ι → n → ℂ) (hA : ∀ j, (A j).PosSemidef)
    (hb : ∀ j, b j ⬝ᵥ star (b j) = 1) :
    (∑ j, kroneckerMap (· * ·) (A j) (vecMulVec (b j) (star (b j)))).PosSemidef ∧
      (pTAp (∑ j, kroneckerMap (· * ·) (A j) (vecMulVec (b j) (star (b j))))).PosSemidef ∧
      SymExt2 (∑ j, kroneckerMap (· * ·) (A j) (vecMulVec (b j) (star (b j)))) := by
  have hB : ∀ j, (vecMulVec (b j) (star (b j))).PosSemidef := fun j => Matrix.posSemidef_vecMulVec_self_star _
  refine ⟨Matrix.posSemidef_sum _ fun j _ => (hA j).kronecker (hB j), ?_,
    symExt2_sum _ _ fun j _ => symExt2_product (hA j) (b j) (hb j)⟩
  have h : pTAp (∑ j, kroneckerMap (· * ·) (A j) (vecMulVec (b j) (star (b j))))
      = ∑ j, kroneckerMap (· * ·) (A j)ᵀ (vecMulVec (b j) (star (b j))) := by
    rw [pTAp_eq, pTBp_eq, pTR_sum, Matrix.transpose_sum]
    exact Finset.sum_congr rfl fun j _ => pTAp_kronecker (A j) _
  rw [h]
  exact Matrix.posSemidef_sum _ fun j _ => (hA j).transpose.kronecker (hB j)

/-! ## The four Bell states: the PPT optimum is exactly 1/2

`bellEns` is the ensemble `toqito.states.bell(0..3)` = `Φ⁺, Φ⁻, Ψ⁺, Ψ⁻` with uniform priors.  Lower bound: the
product measurement `M₀ = |00⟩⟨00| + |11⟩⟨11|`, `M₂ = |01⟩⟨01| + |10⟩⟨10|`, `M₁ = M₃ = 0`.  Upper bound: `Y = 1/8`,
`Q_i = ¼·(Bell state whose partial transpose is ½ − ρ_i)`, for which every slack matrix vanishes. -/

section Bell

private def r4 (a : Array (Array Rat)) : EMat (2 * 2) (2 * 2) :=
  EMat.ofRows (a.map fun r => r.map QI.ofRat) (2 * 2) (2 * 2)

private def phiP (c : Rat) : EMat (2 * 2) (2 * 2) := r4 #[#[c, 0, 0, c], #[0, 0, 0, 0], #[0, 0, 0, 0], #[c, 0, 0, c]]
private def phiM (c : Rat) : EMat (2 * 2) (2 * 2) := r4 #[#[c, 0, 0, -c], #[0, 0, 0, 0], #[0, 0, 0, 0], #[-c, 0, 0, c]]
private def psiP (c : Rat) : EMat (2 * 2) (2 * 2) := r4 #[#[0, 0, 0, 0], #[0, c, c, 0], #[0, c, c, 0], #[0, 0, 0, 0]]
private def psiM (c : Rat) : EMat (2 * 2) (2 * 2) := r4 #[#[0, 0, 0, 0], #[0, c, -c, 0], #[0, -c, c, 0], #[0, 0, 0, 0]]
private def dg (a b c d : Rat) : EMat (2 * 2) (2 * 2) := r4 #[#[a, 0, 0, 0], #[0, b, 0, 0], #[0, 0, c, 0], #[0, 0, 0, d]]

/-- `bell(0), bell(1), bell(2), bell(3)` as density matrices, uniform priors -/
def bellEns : Ensemble (2 * 2) := ⟨[phiP (1/2), phiM (1/2), psiP (1/2), psiM (1/2)], [1/4, 1/4, 1/4, 1/4]⟩

private def bellM : List (EMat (2 * 2) (2 * 2)) := [dg 1 0 0 1, dg 0 0 0 0, dg 0 1 1 0, dg 0 0 0 0]
private def bellQ : List (EMat (2 * 2) (2 * 2)) := [psiM (1/8), psiP (1/8), phiM (1/8), phiP (1/8)]
private def bellLQ : List (EMat (2 * 2) (2 * 2)) := [psiM (1/4), psiP (1/4), phiM (1/4), phiP (1/4)]
private def zeros4 : List (EMat (2 * 2) (2 * 2)) := [dg 0 0 0 0, dg 0 0 0 0, dg 0 0 0 0, dg 0 0 0 0]

private theorem bell_primal_accept : checkPPTPrimal 1 bellEns bellM bellM bellM = some (1/2) := by
  decide +kernel

private theorem bell_dual_accept :
    checkPPTDual 1 bellEns (dg (1/8) (1/8) (1/8) (1/8)) bellQ bellLQ zeros4 = some (1/2) := by
  decide +kernel

/-- The optimal probability of discriminating the four Bell states (uniform priors) with PPT measurements
is exactly `1/2`, whichever party is transposed: a PPT measurement attains `1/2` and none exceeds it. -/
theorem bell_ppt_value_eq_half (sys : Nat) :
    (∃ M : Fin bellEns.size → Matrix (Fin (2 * 2)) (Fin (2 * 2)) ℂ, IsPPTPOVM sys M ∧
        successProb (ensStates bellEns) (ensProbs bellEns) M = 1 / 2) ∧
      ∀ M : Fin bellEns.size → Matrix (Fin (2 * 2)) (Fin (2 * 2)) ℂ, IsPPTPOVM sys M →
        successProb (ensStates bellEns) (ensProbs bellEns) M ≤ 1 / 2 := by
  constructor
  · obtain ⟨-, -, hM, hv⟩ := checkPPTPrimal_sound 1 bellEns bellM bellM bellM _ bell_primal_accept
    refine ⟨_, (isPPTPOVM_party_irrelevant 1 sys _).mp hM, ?_⟩
    rw [hv]; norm_num
  · intro M hM
    have := checkPPTDual_sound 1 bellEns _ bellQ bellLQ zeros4 _ bell_dual_accept M
      ((isPPTPOVM_party_irrelevant sys 1 _).mp hM)
    refine this.trans (le_of_eq ?_)
    norm_num

end Bell

/-! ## Concrete instances on `2 ⊗ 3`

The index convention on unequal dimensions (`X[i,j] = 6 i + j`: `T_B(X)[(0,1),(1,0)] = X[(0,0),(1,1)] = X[0,4]`,
`T_A(X)[(0,1),(1,0)] = X[(1,1),(0,0)] = X[4,0]`), and an ensemble of two diagonal states with unequal priors whose
optimum `15/16` is attained by both certificates (which transpose different parties). -/

section Example23

private def d6 (a : Array Rat) : EMat (2 * 3) (2 * 3) :=
  EMat.ofFn fun i j => if i = j then QI.ofRat a[i.val]! else 0

private def lab6 : EMat (2 * 3) (2 * 3) := EMat.ofFn fun i j => QI.ofRat ((6 * i.val + j.val : Nat) : Rat)

example : (pT 1 lab6).get ⟨1, by decide⟩ ⟨3, by decide⟩ = QI.ofRat 4 := by decide +kernel
example : (pT 0 lab6).get ⟨1, by decide⟩ ⟨3, by decide⟩ = QI.ofRat 24 := by decide +kernel

private def ens23 : Ensemble (2 * 3) := ⟨[d6 #[1/2, 1/2, 0, 0, 0, 0], d6 #[0, 1/4, 1/4, 1/4, 1/4, 0]], [3/4, 1/4]⟩

example : checkPPTPrimal 0 ens23 [d6 #[1, 1, 0, 0, 0, 0], d6 #[0, 0, 1, 1, 1, 1]]
    [d6 #[1, 1, 0, 0, 0, 0], d6 #[0, 0, 1, 1, 1, 1]] [d6 #[1, 1, 0, 0, 0, 0], d6 #[0, 0, 1, 1, 1, 1]]
    = some (15/16) := by decide +kernel

example : checkPPTDual 1 ens23 (d6 #[3/8, 3/8, 1/16, 1/16, 1/16, 0]) [d6 #[0, 0, 0, 0, 0, 0], d6 #[0, 0, 0, 0, 0, 0]]
    [d6 #[0, 0, 0, 0, 0, 0], d6 #[0, 0, 0, 0, 0, 0]] [d6 #[0, 0, 0, 0, 0, 0], d6 #[0, 1/4, 0, 0, 0, 0]]
    = some (15/16) := by decide +kernel

end Example23

/-! ## One-way LOCC measurements are PPT measurements

Alice measures a POVM `{A_a}`; Bob, told her outcome `a`, measures a POVM `{B_{b|a}}` that may depend on it; the pair
`(a, b)` is decoded to a guess `g(a, b)`.  The measurement operators are `M_i = Σ_{(a,b) : g(a,b) = i} A_a ⊗ B_{b|a}`. -/

/-- Every one-way LOCC measurement (any local POVM of the first party, any conditional POVMs of the second party, any
decoding of the outcome pairs) is a PPT measurement; product POVMs are the case where `B` does not depend on `a`. -/
theorem one_way_locc_is_ppt {α β : Type*} [Fintype α] [Fintype β] (sys : Nat)
    (A : α → Matrix (Fin dA) (Fin dA) ℂ) (B : α → β → Matrix (Fin dB) (Fin dB) ℂ)
    (hA : ∀ a, (A a).PosSemidef) (hAsum : ∑ a, A a = 1)
    (hB : ∀ a b, (B a b).PosSemidef) (hBsum : ∀ a, ∑ b, B a b = 1) (g : α × β → Fin k) :
    IsPPTPOVM sys (fun i => ∑ ab : α × β, kronF (if g ab = i then A ab.1 else 0) (B ab.1 ab.2)) :=
  product_povm_is_ppt sys (fun i ab => if g ab = i then A ab.1 else 0) (fun _ ab => B ab.1 ab.2)
    (fun _ ab => (hA ab.1).ite_zero) (fun _ ab => hB ab.1 ab.2) (kronF_locc_sum hAsum hBsum g)

/-- Hence every accepted PPT dual certificate bounds the success probability of every one-way LOCC measurement. -/
theorem one_way_locc_le_ppt_bound {α β : Type*} [Fintype α] [Fintype β] (sys : Nat) (ens : Ensemble (dA * dB))
    (Y : EMat (dA * dB) (dA * dB)) (Q LQ LS : List (EMat (dA * dB) (dA * dB))) (hi : Rat)
    (h : checkPPTDual sys ens Y Q LQ LS = some hi)
    (A : α → Matrix (Fin dA) (Fin dA) ℂ) (B : α → β → Matrix (Fin dB) (Fin dB) ℂ)
    (hA : ∀ a, (A a).PosSemidef) (hAsum : ∑ a, A a = 1)
    (hB : ∀ a b, (B a b).PosSemidef) (hBsum : ∀ a, ∑ b, B a b = 1) (g : α × β → Fin ens.size) :
    successProb (ensStates ens) (ensProbs ens)
      (fun i => ∑ ab : α × β, kronF (if g ab = i then A ab.1 else 0) (B ab.1 ab.2)) ≤ (hi : ℝ) :=
  checkPPTDual_sound sys ens Y Q LQ LS hi h _ (one_way_locc_is_ppt sys A B hA hAsum hB hBsum g)

/-- the set of success probabilities attained by PPT measurements; the PPT value is its supremum (a maximum, see
`ppt_max_attained`) -/
def pptValues (sys : Nat) (ρ : Fin k → Matrix (Fin (dA * dB)) (Fin (dA * dB)) ℂ) (p : Fin k → ℝ) : Set ℝ :=
  {v | ∃ M : Fin k → Matrix (Fin (dA * dB)) (Fin (dA * dB)) ℂ, IsPPTPOVM sys M ∧ successProb ρ p M = v}

/-- The set of attainable values does not depend on the transposed party. -/
theorem pptValues_party_irrelevant (s s' : Nat) (ρ : Fin k → Matrix (Fin (dA * dB)) (Fin (dA * dB)) ℂ)
    (p : Fin k → ℝ) : pptValues s ρ p = pptValues s' ρ p :=
  Set.ext fun _ => exists_congr fun M => and_congr_left' (isPPTPOVM_party_irrelevant s s' M)

/-- Every value attained by a PPT measurement is attained by a measurement: PPT value ≤ global value as sets. -/
theorem pptValues_subset_global (sys : Nat) (ρ : Fin k → Matrix (Fin (dA * dB)) (Fin (dA * dB)) ℂ)
    (p : Fin k → ℝ) : pptValues sys ρ p ⊆ minErrValues ρ p :=
  fun _ ⟨M, hM, hv⟩ => ⟨M, hM.1, hv⟩

/-- The measurement "always answer `j`" is a PPT measurement. -/
theorem const_povm_is_ppt (sys : Nat) (j : Fin k) :
    IsPPTPOVM sys (meConstPovm (ι := Fin (dA * dB)) j) :=
  ⟨Toq.Rand.isPOVM_const j,
    meConstPovm_forall (P := fun A => (pTf sys A).PosSemidef) (pTf_one_posSemidef sys) (pTf_zero_posSemidef sys) j⟩

/-- **At least every prior**: for a unit-trace state `ρ_j` the PPT measurement "always answer `j`" succeeds with
probability `p_j`. -/
theorem ppt_ge_prior (sys : Nat) (ρ : Fin k → Matrix (Fin (dA * dB)) (Fin (dA * dB)) ℂ) (p : Fin k → ℝ)
    (j : Fin k) (hj : (ρ j).trace = 1) : p j ∈ pptValues sys ρ p :=
  ⟨meConstPovm j, const_povm_is_ppt sys j, meConstPovm_value_of_trace_one ρ p j hj⟩

/-- **At most one** for density operators and a probability vector. -/
theorem ppt_le_one (sys : Nat) (ρ : Fin k → Matrix (Fin (dA * dB)) (Fin (dA * dB)) ℂ) (p : Fin k → ℝ)
    (hρ : ∀ i, (ρ i).PosSemidef) (htr : ∀ i, (ρ i).trace = 1) (hp : ∀ i, 0 ≤ p i) (hsum : ∑ i, p i = 1) :
    ∀ v ∈ pptValues sys ρ p, v ≤ 1 :=
  mem_upperBounds_values.mpr fun M hM => minErr_le_one ρ p M hρ htr hp hsum hM.1

/-- **The PPT optimum is attained**: the PPT measurements form a compact set, so some PPT measurement succeeds with the
largest probability (for at least one state). -/
theorem ppt_max_attained (sys : Nat) (hk : 0 < k) (ρ : Fin k → Matrix (Fin (dA * dB)) (Fin (dA * dB)) ℂ)
    (p : Fin k → ℝ) :
    ∃ M : Fin k → Matrix (Fin (dA * dB)) (Fin (dA * dB)) ℂ, IsPPTPOVM sys M ∧
      IsGreatest (pptValues sys ρ p) (successProb ρ p M) := by
  have : Nonempty (Fin k) := ⟨⟨0, hk⟩⟩
  obtain ⟨M, hM, hT, hmax⟩ := ppt_max_attained_gen (pTf sys) (continuous_pTf sys)
    (pTf_zero_posSemidef sys) (pTf_one_posSemidef sys) ρ p
  exact ⟨M, ⟨hM, hT⟩, (isGreatest_values_iff (P := IsPPTPOVM sys) ⟨hM, hT⟩).mpr fun M' hM' => hmax M' hM'.1 hM'.2⟩

/-- **Duality gap.**  For a measurement `M` and any `(Y, Q)`:
`Re tr Y − P_succ(M) = Σ_i Re tr((Y − p_i ρ_i − T(Q_i)) M_i) + Σ_i Re tr(Q_i T(M_i))`. -/
theorem ppt_gap_eq (sys : Nat) (ρ : Fin k → Matrix (Fin (dA * dB)) (Fin (dA * dB)) ℂ) (p : Fin k → ℝ)
    (M Q : Fin k → Matrix (Fin (dA * dB)) (Fin (dA * dB)) ℂ) (Y : Matrix (Fin (dA * dB)) (Fin (dA * dB)) ℂ)
    (hsum : ∑ i, M i = 1) :
    Y.trace.re - successProb ρ p M
      = ∑ i, ((Y - (p i : ℂ) • ρ i - pTf sys (Q i)) * M i).trace.re + ∑ i, (Q i * pTf sys (M i)).trace.re :=
  ppt_gap_gen (pTf sys) (trace_pTf_mul sys) ρ p M Q Y hsum

/-- **Primal and dual agree exactly under complementary slackness.**  For a PPT measurement `M` and a dual-feasible
`(Y, Q)`: the success probability of `M` equals `Re tr Y` iff `(Y − p_i ρ_i − T(Q_i)) M_i = 0` and `Q_i T(M_i) = 0`
for every `i`. -/
theorem ppt_primal_eq_dual_iff (sys : Nat) (ρ : Fin k → Matrix (Fin (dA * dB)) (Fin (dA * dB)) ℂ)
    (p : Fin k → ℝ) (M Q : Fin k → Matrix (Fin (dA * dB)) (Fin (dA * dB)) ℂ)
    (Y : Matrix (Fin (dA * dB)) (Fin (dA * dB)) ℂ) (hM : IsPPTPOVM sys M) (hYQ : PPTDualFeasible sys ρ p Y Q) :
    successProb ρ p M = Y.trace.re ↔
      ∀ i, (Y - (p i : ℂ) • ρ i - pTf sys (Q i)) * M i = 0 ∧ Q i * pTf sys (M i) = 0 :=
  ppt_gap_zero_iff_gen (pTf sys) (trace_pTf_mul sys) ρ p hM.1 hM.2 hYQ

/-- **Optimality certificate.**  If a PPT measurement and a dual-feasible point satisfy complementary slackness, then
`Re tr Y` is the greatest attained PPT value (attained by `M`) and no dual-feasible point has a smaller trace: the primal
and the dual formulation have the same optimal value. -/
theorem ppt_optimal_of_slackness (sys : Nat) (ρ : Fin k → Matrix (Fin (dA * dB)) (Fin (dA * dB)) ℂ)
    (p : Fin k → ℝ) (M Q : Fin k → Matrix (Fin (dA * dB)) (Fin (dA * dB)) ℂ)
    (Y : Matrix (Fin (dA * dB)) (Fin (dA * dB)) ℂ) (hM : IsPPTPOVM sys M) (hYQ : PPTDualFeasible sys ρ p Y Q)
    (hs : ∀ i, (Y - (p i : ℂ) • ρ i - pTf sys (Q i)) * M i = 0 ∧ Q i * pTf sys (M i) = 0) :
    IsGreatest (pptValues sys ρ p) Y.trace.re ∧
      ∀ (Y' : Matrix (Fin (dA * dB)) (Fin (dA * dB)) ℂ) (Q' : Fin k → Matrix (Fin (dA * dB)) (Fin (dA * dB)) ℂ),
        PPTDualFeasible sys ρ p Y' Q' → Y.trace.re ≤ Y'.trace.re := by
  -- the dual points are the pairs `(Y, Q)`
  obtain ⟨hg, hl⟩ := optimal_of_weak (D := fun YQ : _ × _ => PPTDualFeasible sys ρ p YQ.1 YQ.2) (g := fun YQ => YQ.1.trace.re)
    hM (b := (Y, Q)) hYQ ((ppt_primal_eq_dual_iff sys ρ p M Q Y hM hYQ).mpr hs)
    fun M' hM' YQ h' => ppt_weak_duality sys ρ p M' YQ.1 YQ.2 hM' h'
  exact ⟨hg, fun Y' Q' h' => hl (Y', Q') h'⟩

/-- `1/2` is the greatest value PPT measurements attain on the four Bell states. -/
theorem bell_ppt_isGreatest (sys : Nat) :
    IsGreatest (pptValues (dA := 2) (dB := 2) sys (ensStates bellEns) (ensProbs bellEns)) (1 / 2) := by
  obtain ⟨⟨M, hM, hv⟩, hle⟩ := bell_ppt_value_eq_half sys
  exact ⟨⟨M, hM, hv⟩, mem_upperBounds_values.mpr hle⟩

/-! ## The symmetric-extension hierarchy at every level

`SymExtAt ℓ` (`Toq/Proofs/PPTDiscHier.lean`) is the constraint set `symmetric_extension_hierarchy(level = ℓ + 1, dim = [dA, dB])` puts on
one measurement operator, read on index pairs `(x, y)` through `toP` (composite index `x·dB + y`). -/

/-- the feasible set of `symmetric_extension_hierarchy` at level `ℓ + 1` -/
def IsSymExtPOVM (ℓ : Nat) (M : Fin k → Matrix (Fin (dA * dB)) (Fin (dA * dB)) ℂ) : Prop :=
  IsPOVM M ∧ ∀ i, SymExtAt ℓ (toP (M i))

/-- the values attained at level `ℓ + 1`; the hierarchy value is the supremum -/
def symExtValues (ℓ : Nat) (ρ : Fin k → Matrix (Fin (dA * dB)) (Fin (dA * dB)) ℂ) (p : Fin k → ℝ) : Set ℝ :=
  {v | ∃ M : Fin k → Matrix (Fin (dA * dB)) (Fin (dA * dB)) ℂ, IsSymExtPOVM ℓ M ∧ successProb ρ p M = v}

noncomputable def pptValue (sys : Nat) (ρ : Fin k → Matrix (Fin (dA * dB)) (Fin (dA * dB)) ℂ) (p : Fin k → ℝ) : ℝ :=
  sSup (pptValues sys ρ p)

/-- the value of the hierarchy at level `ℓ + 1` -/
noncomputable def symExtValue (ℓ : Nat) (ρ : Fin k → Matrix (Fin (dA * dB)) (Fin (dA * dB)) ℂ) (p : Fin k → ℝ) : ℝ :=
  sSup (symExtValues ℓ ρ p)

/-- The support constraint of the hierarchy uses the projector that C18 proves `symmetric_projection(dB, L)` to be. -/
theorem symExt_projector_is_C18 (d L : Nat) :
    symPC d L = (Toq.Combinat.Spec.symSpec d L).map (fun q : ℚ => (q : ℂ)) :=
  symPC_eq_symSpec d L

/-- **Level one is the PPT program**: the level-1 feasible set of the hierarchy is the set of PPT measurements
(whichever party the PPT program transposes). -/
theorem symExt_level_one_iff_ppt (sys : Nat) (M : Fin k → Matrix (Fin (dA * dB)) (Fin (dA * dB)) ℂ) :
    IsSymExtPOVM 0 M ↔ IsPPTPOVM sys M := by
  have key : ∀ X : Matrix (Fin (dA * dB)) (Fin (dA * dB)) ℂ,
      (pTf sys X).PosSemidef ↔ (pTAp (toP X)).PosSemidef := by
    intro X
    rw [ppt_party_irrelevant sys 0, pTf_sys_zero, pTAf_posSemidef_iff]
  constructor
  · rintro ⟨hP, hS⟩
    exact ⟨hP, fun i => (key _).mpr ((symExtAt_zero_iff _).mp (hS i)).2⟩
  · rintro ⟨hP, hT⟩
    exact ⟨hP, fun i => (symExtAt_zero_iff _).mpr ⟨toP_posSemidef.mpr (hP.1 i), (key _).mp (hT i)⟩⟩

/-- **One level down**: every feasible point of level `ℓ + 2` (trace out the last copy of its extensions) is a feasible
point of level `ℓ + 1` with the same measurement, hence the same objective value. -/
theorem symExt_level_succ (ℓ : Nat) (M : Fin k → Matrix (Fin (dA * dB)) (Fin (dA * dB)) ℂ)
    (h : IsSymExtPOVM (ℓ + 1) M) : IsSymExtPOVM ℓ M :=
  ⟨h.1, fun i => (h.2 i).pred⟩

/-- The feasible sets shrink with the level. -/
theorem symExt_antitone {ℓ ℓ' : Nat} (hl : ℓ ≤ ℓ') (M : Fin k → Matrix (Fin (dA * dB)) (Fin (dA * dB)) ℂ)
    (h : IsSymExtPOVM ℓ' M) : IsSymExtPOVM ℓ M :=
  ⟨h.1, fun i => (h.2 i).of_le hl⟩

/-- Every measurement feasible at some level of the hierarchy is a PPT measurement. -/
theorem symExt_is_ppt (ℓ sys : Nat) (M : Fin k → Matrix (Fin (dA * dB)) (Fin (dA * dB)) ℂ)
    (h : IsSymExtPOVM ℓ M) : IsPPTPOVM sys M :=
  (symExt_level_one_iff_ppt sys M).mp (symExt_antitone (Nat.zero_le ℓ) M h)

/-- **Level-one value = PPT value** (equal sets of attained values, hence equal suprema). -/
theorem symExtValues_level_one (sys : Nat) (ρ : Fin k → Matrix (Fin (dA * dB)) (Fin (dA * dB)) ℂ)
    (p : Fin k → ℝ) : symExtValues 0 ρ p = pptValues sys ρ p :=
  Set.ext fun _ => exists_congr fun M => and_congr_left' (symExt_level_one_iff_ppt sys M)

/-- The hierarchy value at level one is the PPT value. -/
theorem symExtValue_level_one (sys : Nat) (ρ : Fin k → Matrix (Fin (dA * dB)) (Fin (dA * dB)) ℂ)
    (p : Fin k → ℝ) : symExtValue 0 ρ p = pptValue sys ρ p := by
  unfold symExtValue pptValue
  rw [symExtValues_level_one sys]

/-- **Non-increasing in the level** (sets of attained values). -/
theorem symExtValues_antitone {ℓ ℓ' : Nat} (hl : ℓ ≤ ℓ') (ρ : Fin k → Matrix (Fin (dA * dB)) (Fin (dA * dB)) ℂ)
    (p : Fin k → ℝ) : symExtValues ℓ' ρ p ⊆ symExtValues ℓ ρ p :=
  fun _ ⟨M, hM, hv⟩ => ⟨M, symExt_antitone hl M hM, hv⟩

/-- **Separable measurements are feasible at every level**: a POVM whose elements are sums of products `A ⊗ B` of positive
semidefinite operators (all LOCC measurements are of this form) satisfies the constraints of every level. -/
theorem separable_povm_symExt {ι : Type*} [Fintype ι] (ℓ : Nat)
    (A : Fin k → ι → Matrix (Fin dA) (Fin dA) ℂ) (B : Fin k → ι → Matrix (Fin dB) (Fin dB) ℂ)
    (hA : ∀ i j, (A i j).PosSemidef) (hB : ∀ i j, (B i j).PosSemidef)
    (hsum : ∑ i, ∑ j, kronF (A i j) (B i j) = 1) :
    IsSymExtPOVM ℓ (fun i => ∑ j, kronF (A i j) (B i j)) := by
  refine ⟨⟨fun i => Matrix.posSemidef_sum _ fun j _ => kronF_posSemidef (hA i j) (hB i j), hsum⟩, fun i => ?_⟩
  rw [toP_sum]
  simp only [toP_kronF]
  exact symExtAt_sum _ _ fun j _ => symExtAt_kron ℓ (hA i j) (hB i j)

/-- Hence the value of every explicit separable measurement is attained at every level: hierarchy value ≥ separable value. -/
theorem separable_value_mem_symExtValues {ι : Type*} [Fintype ι] (ℓ : Nat)
    (ρ : Fin k → Matrix (Fin (dA * dB)) (Fin (dA * dB)) ℂ) (p : Fin k → ℝ)
    (A : Fin k → ι → Matrix (Fin dA) (Fin dA) ℂ) (B : Fin k → ι → Matrix (Fin dB) (Fin dB) ℂ)
    (hA : ∀ i j, (A i j).PosSemidef) (hB : ∀ i j, (B i j).PosSemidef)
    (hsum : ∑ i, ∑ j, kronF (A i j) (B i j) = 1) :
    successProb ρ p (fun i => ∑ j, kronF (A i j) (B i j)) ∈ symExtValues ℓ ρ p :=
  ⟨_, separable_povm_symExt ℓ A B hA hB hsum, rfl⟩

/-- One-way LOCC measurements are feasible at every level of the hierarchy. -/
theorem one_way_locc_symExt {α β : Type*} [Fintype α] [Fintype β] (ℓ : Nat)
    (A : α → Matrix (Fin dA) (Fin dA) ℂ) (B : α → β → Matrix (Fin dB) (Fin dB) ℂ)
    (hA : ∀ a, (A a).PosSemidef) (hAsum : ∑ a, A a = 1)
    (hB : ∀ a b, (B a b).PosSemidef) (hBsum : ∀ a, ∑ b, B a b = 1) (g : α × β → Fin k) :
    IsSymExtPOVM ℓ (fun i => ∑ ab : α × β, kronF (if g ab = i then A ab.1 else 0) (B ab.1 ab.2)) :=
  separable_povm_symExt ℓ (fun i ab => if g ab = i then A ab.1 else 0) (fun _ ab => B ab.1 ab.2)
    (fun _ ab => (hA ab.1).ite_zero) (fun _ ab => hB ab.1 ab.2)
    (kronF_locc_sum hAsum hBsum g)

/-- The measurement "always answer `j`" is feasible at every level. -/
theorem const_povm_symExt (ℓ : Nat) (j : Fin k) : IsSymExtPOVM ℓ (meConstPovm (ι := Fin (dA * dB)) j) := by
  refine ⟨Toq.Rand.isPOVM_const j,
    meConstPovm_forall (P := fun A => SymExtAt ℓ (toP A)) ?_ (SymExtAt.zero ℓ) j⟩
  rw [← kronF_one, toP_kronF]
  exact symExtAt_kron ℓ Matrix.PosSemidef.one Matrix.PosSemidef.one

/-- **At least every prior, at every level.** -/
theorem symExt_ge_prior (ℓ : Nat) (ρ : Fin k → Matrix (Fin (dA * dB)) (Fin (dA * dB)) ℂ) (p : Fin k → ℝ)
    (j : Fin k) (hj : (ρ j).trace = 1) : p j ∈ symExtValues ℓ ρ p :=
  ⟨meConstPovm j, const_povm_symExt ℓ j, meConstPovm_value_of_trace_one ρ p j hj⟩

/-- Every PPT dual point bounds every level of the hierarchy (weak duality through level one). -/
theorem symExt_le_ppt_dual (ℓ sys : Nat) (ρ : Fin k → Matrix (Fin (dA * dB)) (Fin (dA * dB)) ℂ) (p : Fin k → ℝ)
    (M : Fin k → Matrix (Fin (dA * dB)) (Fin (dA * dB)) ℂ) (Y : Matrix (Fin (dA * dB)) (Fin (dA * dB)) ℂ)
    (Q : Fin k → Matrix (Fin (dA * dB)) (Fin (dA * dB)) ℂ)
    (hM : IsSymExtPOVM ℓ M) (hYQ : PPTDualFeasible sys ρ p Y Q) : successProb ρ p M ≤ Y.trace.re :=
  ppt_weak_duality sys ρ p M Y Q (symExt_is_ppt ℓ sys M hM) hYQ

/-- An accepted PPT dual certificate bounds the hierarchy at every level (this is what the harness uses for level 2). -/
theorem symExt_le_checked_ppt_dual (ℓ sys : Nat) (ens : Ensemble (dA * dB)) (Y : EMat (dA * dB) (dA * dB))
    (Q LQ LS : List (EMat (dA * dB) (dA * dB))) (hi : Rat) (h : checkPPTDual sys ens Y Q LQ LS = some hi)
    (M : Fin ens.size → Matrix (Fin (dA * dB)) (Fin (dA * dB)) ℂ) (hM : IsSymExtPOVM ℓ M) :
    successProb (ensStates ens) (ensProbs ens) M ≤ (hi : ℝ) :=
  checkPPTDual_sound sys ens Y Q LQ LS hi h M (symExt_is_ppt ℓ sys M hM)

/-- For density operators and a probability vector: every prior `≤` hierarchy value at level `ℓ' + 1` `≤` hierarchy value
at level `ℓ + 1` (`ℓ ≤ ℓ'`) `≤` PPT value `≤ 1`. -/
theorem symExtValue_chain {ℓ ℓ' : Nat} (hl : ℓ ≤ ℓ') (sys : Nat)
    (ρ : Fin k → Matrix (Fin (dA * dB)) (Fin (dA * dB)) ℂ) (p : Fin k → ℝ)
    (hρ : ∀ i, (ρ i).PosSemidef) (htr : ∀ i, (ρ i).trace = 1) (hp : ∀ i, 0 ≤ p i) (hsum : ∑ i, p i = 1)
    (j : Fin k) :
    p j ≤ symExtValue ℓ' ρ p ∧ symExtValue ℓ' ρ p ≤ symExtValue ℓ ρ p ∧
      symExtValue ℓ ρ p ≤ pptValue sys ρ p ∧ pptValue sys ρ p ≤ 1 := by
  have hb0 : BddAbove (pptValues sys ρ p) := ⟨1, ppt_le_one sys ρ p hρ htr hp hsum⟩
  have hsub : ∀ n, symExtValues n ρ p ⊆ pptValues sys ρ p := by
    intro n
    rw [← symExtValues_level_one sys]
    exact symExtValues_antitone (Nat.zero_le n) ρ p
  have hb : ∀ n, BddAbove (symExtValues n ρ p) := fun n => hb0.mono (hsub n)
  have hne : ∀ n, (symExtValues n ρ p).Nonempty := fun n => ⟨p j, symExt_ge_prior n ρ p j (htr j)⟩
  refine ⟨le_csSup (hb ℓ') (symExt_ge_prior ℓ' ρ p j (htr j)),
    csSup_le_csSup (hb ℓ) (hne ℓ') (symExtValues_antitone hl ρ p),
    csSup_le_csSup hb0 (hne ℓ) (hsub ℓ), csSup_le (⟨p j, ppt_ge_prior sys ρ p j (htr j)⟩) ?_⟩
  exact ppt_le_one sys ρ p hρ htr hp hsum

/-- The PPT value is at most the global minimum-error value (suprema of the attained values). -/
theorem pptValue_le_global (sys : Nat) (ρ : Fin k → Matrix (Fin (dA * dB)) (Fin (dA * dB)) ℂ) (p : Fin k → ℝ)
    (hρ : ∀ i, (ρ i).PosSemidef) (htr : ∀ i, (ρ i).trace = 1) (hp : ∀ i, 0 ≤ p i) (hsum : ∑ i, p i = 1)
    (hk : 0 < k) : pptValue sys ρ p ≤ sSup (minErrValues ρ p) := by
  exact csSup_le_csSup ⟨1, mem_upperBounds_values.mpr fun M hM => minErr_le_one ρ p M hρ htr hp hsum hM⟩
    ⟨p ⟨0, hk⟩, ppt_ge_prior sys ρ p _ (htr _)⟩ (pptValues_subset_global sys ρ p)

/-- Hypotheses of the hierarchy theorems are satisfiable on a non-trivial instance: the computational-basis measurement of two
qubits (a product measurement) is feasible at level 3. -/
example : IsSymExtPOVM (dA := 2) (dB := 2) (k := 2) 2
    (fun i => ∑ j : Fin 2, kronF (Matrix.diagonal fun a => if a = i then 1 else 0)
      (Matrix.diagonal fun b => if b = j then 1 else 0)) := by
  obtain ⟨hd, h1⟩ := Toq.Rand.isPOVM_basis (ι := Fin 2)
  refine separable_povm_symExt 2 _ _ (fun i _ => hd i) (fun _ j => hd j) ?_
  simp only [← kronF_sum_right, ← kronF_sum_left, h1, kronF_one]

/-! ## The programs the code hands to the solver (`Toq.PPTDisc.primalPsdExprs`, `primalEqResidual`, `dualPsdExprs`)

The driver operation `c12_ppt_program` evaluates these expression lists at exact points; the harness compares them with the
constraint expressions of the picos programs `ppt_distinguishability` builds (captured at `Problem.solve`). -/

/-- The constraint expressions of the modelled primal program describe exactly the PPT measurements: every operator of
`primalPsdExprs` is positive semidefinite and `primalEqResidual` vanishes iff `M` is a PPT measurement. -/
theorem primal_program_feasible_iff (sys : Nat) (M : Fin k → EMat (dA * dB) (dA * dB)) :
    ((∀ E ∈ primalPsdExprs sys k M, E.toM.PosSemidef) ∧ (primalEqResidual k M).toM = 0) ↔
      IsPPTPOVM sys (fun i => (M i).toM) := by
  rw [forall_mem_primalPsdExprs, primalEqResidual, EMat.toM_sub, toM_sumMats, EMat.toM_one, sub_eq_zero]
  simp only [toM_pT]
  exact and_right_comm

/-- The constraint expressions of the modelled dual program describe exactly the dual-feasible points. -/
theorem dual_program_feasible_iff (sys : Nat) (ρ : Fin k → EMat (dA * dB) (dA * dB)) (p : Fin k → Rat)
    (Y : EMat (dA * dB) (dA * dB)) (Q : Fin k → EMat (dA * dB) (dA * dB)) :
    (∀ E ∈ dualPsdExprs sys k ρ p Y Q, E.toM.PosSemidef) ↔
      PPTDualFeasible sys (fun i => (ρ i).toM) (fun i => ((p i : Rat) : ℝ)) Y.toM (fun i => (Q i).toM) := by
  rw [forall_mem_dualPsdExprs, and_comm, ← forall_and]
  simp only [toM_dualSlack, PPTDualFeasible]

/-- `M_0 … M_{k-1}, M_k` is a PPT measurement that never names a wrong state: `tr(p_j ρ_j M_i) = 0` for `i ≠ j` -/
def IsPPTUnambPOVM (sys : Nat) (ρ : Fin k → Matrix (Fin (dA * dB)) (Fin (dA * dB)) ℂ) (p : Fin k → ℝ)
    (M : Fin (k + 1) → Matrix (Fin (dA * dB)) (Fin (dA * dB)) ℂ) : Prop :=
  IsPPTPOVM sys M ∧ ∀ i j : Fin k, i ≠ j → (((p j : ℂ) • ρ j) * M i.castSucc).trace = 0

/-- the probability of a conclusive (and then correct) answer -/
noncomputable def unambSuccessProb (ρ : Fin k → Matrix (Fin (dA * dB)) (Fin (dA * dB)) ℂ) (p : Fin k → ℝ)
    (M : Fin (k + 1) → Matrix (Fin (dA * dB)) (Fin (dA * dB)) ℂ) : ℝ :=
  ∑ i : Fin k, p i * (ρ i * M i.castSucc).trace.re

/-- If the unambiguous PPT checker accepts with value `lo`, the candidate is a feasible point of the program
`ppt_distinguishability(strategy="unambig", primal_dual="primal")` builds and `lo` is exactly its objective value. -/
theorem checkPPTUnambPrimal_sound (sys : Nat) (ens : Ensemble (dA * dB)) (M LM LT : List (EMat (dA * dB) (dA * dB)))
    (lo : Rat) (h : checkPPTUnambPrimal sys ens M LM LT = some lo) :
    M.length = ens.size + 1 ∧
      IsPPTUnambPOVM sys (ensStates ens) (ensProbs ens) (mats (ens.size + 1) M) ∧
      unambSuccessProb (ensStates ens) (ensProbs ens) (mats (ens.size + 1) M) = (lo : ℝ) := by
  rw [checkPPTUnambPrimal, Option.ite_none_right_eq_some, Bool.and_eq_true, lens3Ok_iff] at h
  obtain ⟨⟨-, h1, -, -⟩, h⟩ := h
  exact ⟨h1, checkPPTUnambPrimalFn_sound _ _ _ _ _ _ _ _ h⟩

/-- **The unambiguous PPT value is at most the minimum-error PPT value**: merging the inconclusive outcome into outcome `0`
turns every feasible point of the unambiguous program into a PPT measurement that succeeds at least as often. -/
theorem ppt_unamb_le_min_error (sys : Nat) (hk : 0 < k) (ρ : Fin k → Matrix (Fin (dA * dB)) (Fin (dA * dB)) ℂ)
    (p : Fin k → ℝ) (hρ : ∀ i, (ρ i).PosSemidef) (hp : ∀ i, 0 ≤ p i)
    (M : Fin (k + 1) → Matrix (Fin (dA * dB)) (Fin (dA * dB)) ℂ) (hM : IsPPTUnambPOVM sys ρ p M) :
    ∃ M' : Fin k → Matrix (Fin (dA * dB)) (Fin (dA * dB)) ℂ, IsPPTPOVM sys M' ∧
      unambSuccessProb ρ p M ≤ successProb ρ p M' :=
  unamb_merge hk (pTf sys) (pTf_add sys) ρ p hρ hp hM.1.1 hM.1.2

/-- Hence every accepted PPT dual certificate also bounds the unambiguous value. -/
theorem ppt_unamb_le_checked_dual (sys : Nat) (ens : Ensemble (dA * dB)) (Y : EMat (dA * dB) (dA * dB))
    (Q LQ LS : List (EMat (dA * dB) (dA * dB))) (hi : Rat) (h : checkPPTDual sys ens Y Q LQ LS = some hi)
    (hk : 0 < ens.size) (hρ : ∀ i, (ensStates ens i).PosSemidef) (hp : ∀ i, 0 ≤ ensProbs ens i)
    (M : Fin (ens.size + 1) → Matrix (Fin (dA * dB)) (Fin (dA * dB)) ℂ)
    (hM : IsPPTUnambPOVM sys (ensStates ens) (ensProbs ens) M) :
    unambSuccessProb (ensStates ens) (ensProbs ens) M ≤ (hi : ℝ) := by
  obtain ⟨M', hM', hle⟩ := ppt_unamb_le_min_error sys hk _ _ hρ hp M hM
  exact hle.trans (checkPPTDual_sound sys ens Y Q LQ LS hi h M' hM')

/-- The unambiguous checker accepts a non-trivial exact point: for `|00⟩` (prior `3/4`) and `|+1⟩` (prior `1/4`) on two qubits the
product operators `M_0 = |0⟩⟨0| ⊗ |0⟩⟨0|`, `M_1 = 1 ⊗ |1⟩⟨1|`, `M_2 = |1⟩⟨1| ⊗ |0⟩⟨0|` identify the states without error with
probability `3/4 + 1/4 = 1`. -/
example : checkPPTUnambPrimal 1
    (⟨[EMat.ofFn fun i j => if i.val = 0 ∧ j.val = 0 then 1 else 0,
       EMat.ofFn fun i j => if i.val % 2 = 1 ∧ j.val % 2 = 1 then QI.ofRat (1/2) else 0], [3/4, 1/4]⟩ : Ensemble (2 * 2))
    [EMat.ofFn fun i j => if i.val = 0 ∧ j.val = 0 then 1 else 0,
     EMat.ofFn fun i j => if i = j ∧ i.val % 2 = 1 then 1 else 0,
     EMat.ofFn fun i j => if i.val = 2 ∧ j.val = 2 then 1 else 0]
    [EMat.ofFn fun i j => if i.val = 0 ∧ j.val = 0 then 1 else 0,
     EMat.ofFn fun i j => if i = j ∧ i.val % 2 = 1 then 1 else 0,
     EMat.ofFn fun i j => if i.val = 2 ∧ j.val = 2 then 1 else 0]
    [EMat.ofFn fun i j => if i.val = 0 ∧ j.val = 0 then 1 else 0,
     EMat.ofFn fun i j => if i = j ∧ i.val % 2 = 1 then 1 else 0,
     EMat.ofFn fun i j => if i.val = 2 ∧ j.val = 2 then 1 else 0] = some 1 := by decide +kernel

/-- The four combinations of `primal_dual ∈ {"primal", "dual"}` and `strategy ∈ {"min_error", "unambig"}`: the primal program
gets one more operator and the zero-overlap constraints for `"unambig"`; the dual program rejects `"unambig"` (`ValueError`). -/
theorem pptDispatch_cases :
    pptDispatch "primal" "min_error" = .ok (.primal false false) ∧
      pptDispatch "primal" "unambig" = .ok (.primal true true) ∧
      pptDispatch "dual" "min_error" = .ok .dual ∧
      pptDispatch "dual" "unambig" = .error "ValueError" := by
  decide

/-- A list `dim = [dA, dB]` is taken as it is. -/
theorem symExtDims_pair (D a b : Nat) : symExtDims D (.pair a b) = .ok (a, b) := rfl

/-- A scalar `dim = d` that divides `dim_xy` denotes the cut `[d, dim_xy / d]` (also for unequal dimensions), whose product is
`dim_xy`. -/
theorem symExtDims_scalar (D d : Nat) (hd : 0 < d) (hdiv : d ∣ D) :
    symExtDims D (.scalar d) = .ok (d, D / d) ∧ d * (D / d) = D := by
  refine ⟨?_, Nat.mul_div_cancel' hdiv⟩
  simp [symExtDims, scalarDims, Nat.ne_of_gt hd, Nat.mod_eq_zero_of_dvd hdiv]

/-- A scalar `dim` that does not divide `dim_xy` is rejected (`ValueError`). -/
theorem symExtDims_scalar_rejects (D d : Nat) (hd : 0 < d) (hdiv : ¬ d ∣ D) :
    symExtDims D (.scalar d) = .error "ValueError" := by
  have : D % d ≠ 0 := fun h => hdiv (Nat.dvd_of_mod_eq_zero h)
  simp [symExtDims, scalarDims, Nat.ne_of_gt hd, this]

/-- An omitted `dim` on a square system `dim_xy = r²` denotes the cut `[r, r]`. -/
theorem symExtDims_omitted_square (r : Nat) (hr : 0 < r) : symExtDims (r * r) .omitted = .ok (r, r) := by
  have h1 : roundSqrtN (r * r) = r := by
    simp [roundSqrtN, Nat.sqrt_eq]
  simp [symExtDims, h1, scalarDims, Nat.ne_of_gt hr, Nat.mul_div_cancel _ hr]

/-- The extension variables have size `dX · dY^level`, the traced-out copies are `2 … level`, and the transposed subsystems are
`0` and `2 … level`. -/
theorem symExt_shape (dx dy level : Nat) :
    symExtSize dx dy level = dx * dy ^ level ∧ (symExtDimList dx dy level).length = level + 1 ∧
      (∀ t, t ∈ symExtSysList level ↔ 2 ≤ t ∧ t ≤ level) ∧
      (∀ t, t ∈ symExtPTList level ↔ t = 0 ∨ (2 ≤ t ∧ t ≤ level)) := by
  refine ⟨?_, List.length_cons.trans (by rw [List.length_replicate]), fun t => ?_, fun t => ?_⟩
  · rw [symExtSize, symExtDimList, ← List.prod_eq_foldl, List.prod_cons, List.prod_replicate]
  · rw [symExtSysList, List.mem_range'_1]
    omega
  · simp only [symExtPTList, List.mem_cons, List.mem_map, List.mem_range]
    exact or_congr Iff.rfl ⟨fun ⟨s, hs, h⟩ => by omega, fun h => ⟨t - 2, by omega, by omega⟩⟩

/-! ## The mirror model of the hierarchy's constraint expressions (`Toq.PPTDisc.symExtExprs`)

`symExtExprs` composes the mirror models of `partial_trace` (C02), `partial_transpose` (C03) and `symmetric_projection` (C18) exactly as
`symmetric_extension_hierarchy` composes the library calls; the harness compares its values with the values of the captured cvxpy
expressions at generic integer points on every run (each library call is proved equal to its own specification by the property
that owns it). -/

/-- One partial-transpose constraint per transposed subsystem: `level` of them (`X`, and the copies `2 … level`). -/
theorem symExtExprs_pts_length (dx dy level : Nat) (hl : 1 ≤ level) (meas x : Nat → Nat → Int) :
    (symExtExprs dx dy level meas x).pts.length = level := by
  simp only [symExtExprs, symExtPTList, List.length_map, List.length_cons, List.length_range]
  omega

/-- `1 ⊗ (1 + SWAP)` on `2 ⊗ 2 ⊗ 2` (twice the projector onto `X ⊗ Sym²(Y)`) -/
private def xSym : Nat → Nat → Int := kronIdLeft 4 (Toq.Combinat.symProjN 2 2)
private def m3 : Nat → Nat → Int := fun i j => if i = j then 3 else 0

/-- At level 2 on two qubits the point `x = 1 ⊗ (1 + SWAP)`, `meas = 3·1` satisfies both equality constraints of the mirror model
exactly: the partial trace over the second copy is `3·1`, and `x` is fixed by the symmetric projector on both sides. -/
example : ((List.range 4).all fun i => (List.range 4).all fun j => (symExtExprs 2 2 2 m3 xSym).traceRes i j == 0) = true ∧
    ((List.range 8).all fun i => (List.range 8).all fun j => (symExtExprs 2 2 2 m3 xSym).symRes i j == 0) = true := by
  constructor <;> decide +kernel

end Toq.C12
