import Toq.Proofs.ExtGames
import Toq.Proofs.ExtGamesRep
import Toq.Proofs.ExtGamesClosed
import Toq.Proofs.ExtGamesNpaQ
import Toq.Proofs.ExtGamesSpec
import Toq.Properties.C07
/-!
# C09 — extended nonlocal games, quantum hedging, optimal cloning

**Extended games.**  A game has answer sets `A`, `B`, question sets `X`, `Y`, a distribution `π` on `X × Y`
and referee operators `P a b x y` on `ℂ^d`.  A deterministic unentangled strategy is a pair of answer
functions `f : X → A`, `g : Y → B` and a state `ρ` of the referee; its value is
`Re tr(M_{f,g} ρ)` with the question-averaged operator `M_{f,g} = Σ_{x,y} π(x,y) P (f x) (g y) x y`
(`avgMat`).  `unentangled_eq_max_over_functions` says that a number bounds the value of every such strategy iff
it bounds `λ_max(M_{f,g})` for every pair of *functions* — i.e. the unentangled value is
`max_{f,g} λ_max(M_{f,g})`.  The executable checkers enclose this number (`checkUnentLower`, `checkUnentUpper`)
and, separately, its restriction to *constant* answers (`checkUnentConst…`): the number that the loop of `unentangled_value`
computed before it was repaired in /repo (commit `dbe41b6`).

**Hedging and cloning.**  On `ℂ^a ⊗ ℂ^b` (first factor: the systems that are traced out):
primal `max/min Re tr(Q X)` s.t. `Tr_1 X = 1`, `X ⪰ 0`; dual `min tr Y` s.t. `1 ⊗ Y ⪰ Q` resp.
`max tr Y` s.t. `1 ⊗ Y ⪯ Q`.  Weak duality holds for all `a, b, Q` and for every arrangement of the tensor
factors (`hedging_weak_duality_reps`, which covers toqito's `Y₁X₁Y₂X₂` order for two repetitions), and the
checkers certify primal-feasible points and dual bounds exactly.

**Repetitions.**  Tensor products of primal-feasible points are primal feasible and their values multiply; for positive
semidefinite `Q` tensor products of dual-feasible points are dual feasible (`hedging_reps_product_feasible`,
`hedging_reps_dual_product`) — for every number of repetitions, in toqito's order of the tensor factors; hence the maximum is
multiplicative whenever single-shot strong duality is certified (`hedging_reps_multiplicative`, `cloning_reps_multiplicative`),
with the model-level form for two repetitions on toqito's arrays (`hedge2_product_bracket`, `clone2_product_bracket`).
Closed forms: Wiesner's money `3/4` and `(3/4)ⁿ` (`wiesner_three_quarters`, `wiesner_n_fold`), rank-one operators in Schmidt form
`(Σ aᵢ)²` and the Molina–Watrous value `cos²(π/8)`, `cos²ⁿ(π/8)` (`hedging_rank_one_closed_form`, `molina_watrous_cos_sq`,
`molina_watrous_n_fold`).

**Ordering.**  Deterministic (`ext_npa_sound_det`) and quantum commuting-measurement strategies (`ext_npa_sound_quantum`,
`ext_npa_objective_quantum`) are feasible points of the NPA relaxation with referee blocks, every NPA-feasible assemblage is
non-signalling in the `Nat`-indexed block form `Toq.Npa.NsBlocksFeasible` (`ext_npa_le_ns`; no statement carries it to the
`NSFeasible` of `unent_le_ns` and `ns_le_of_pred_le`, so the chain to the bound `c` is not composed here), higher levels are tighter
(`ext_npa_level_mono`, `ext_npa_levels_chain`); product strategies in the product game of `ExtendedNonlocalGame(…, reps)`
(`ext_reps_product_strategy`).
-/

open Matrix Kronecker
open scoped ComplexOrder MatrixOrder

namespace Toq.C09
open Toq.ExtGames EMat

section GameSpec
variable {d : Nat} {A B X Y : Type*} [Fintype X] [Fintype Y]

/-- The question-averaged operator of Hermitian referee operators (real weights) is Hermitian, so that its
largest eigenvalue is defined. -/
theorem avgMat_isHermitian (π : X → Y → ℝ) (P : A → B → X → Y → Matrix (Fin d) (Fin d) ℂ)
    (hP : ∀ a b x y, (P a b x y).IsHermitian) (f : X → A) (g : Y → B) : (avgMat π P f g).IsHermitian :=
  isSelfAdjoint_sum _ fun x _ => isSelfAdjoint_sum _ fun y _ => (hP _ _ x y).smul_ofReal (π x y)

/-- **The unentangled value is the maximum over answer functions of the largest eigenvalue.**
For Hermitian referee operators: `c` is an upper bound for the value of every deterministic unentangled
strategy (answer functions `f`, `g` and a referee state `ρ`) if and only if `c·1 − M_{f,g} ⪰ 0`, i.e.
`λ_max(M_{f,g}) ≤ c`, for every pair of answer functions.  (Both suprema have the same upper bounds, hence
are equal.) -/
theorem unentangled_eq_max_over_functions (π : X → Y → ℝ)
    (P : A → B → X → Y → Matrix (Fin d) (Fin d) ℂ) (hP : ∀ a b x y, (P a b x y).IsHermitian) (c : ℝ) :
    (∀ (f : X → A) (g : Y → B) (ρ : Matrix (Fin d) (Fin d) ℂ), IsDensity ρ → unentValue π P f g ρ ≤ c) ↔
      ∀ (f : X → A) (g : Y → B), ((c : ℂ) • (1 : Matrix (Fin d) (Fin d) ℂ) - avgMat π P f g).PosSemidef :=
  forall₂_congr fun f g => (psd_sub_iff_forall_density (avgMat_isHermitian π P hP f g) c).symm

end GameSpec

section NS
variable {d : Nat} {A B X Y : Type*} [Fintype A] [Fintype B] [Fintype X] [Fintype Y]

/-- **Unentangled ≤ non-signalling**: every deterministic unentangled strategy `(f, g, ρ)` is a feasible point
of the non-signalling program with the same value (`K a b x y = ρ` if `a = f x` and `b = g y`, else `0`). -/
theorem unent_le_ns [DecidableEq A] [DecidableEq B] (π : X → Y → ℝ)
    (P : A → B → X → Y → Matrix (Fin d) (Fin d) ℂ) (f : X → A) (g : Y → B)
    (ρ : Matrix (Fin d) (Fin d) ℂ) (hρ : IsDensity ρ) :
    ∃ K : A → B → X → Y → Matrix (Fin d) (Fin d) ℂ, NSFeasible K ∧ nsValue π P K = unentValue π P f g ρ := by
  refine ⟨fun a b x y => if a = f x ∧ b = g y then ρ else 0, ⟨?_, ?_⟩, ?_⟩
  · intro a b x y
    show (if a = f x ∧ b = g y then ρ else 0).PosSemidef
    split
    exacts [hρ.1, Matrix.PosSemidef.zero]
  · refine ⟨fun a x => if a = f x then ρ else 0, fun b y => if b = g y then ρ else 0, ρ, fun a x y => ?_,
      fun b x y => ?_, fun x => ?_, fun y => ?_, hρ⟩
    -- every marginal is a sum of indicators
    all_goals simp only [ite_and, Finset.sum_ite_irrel, Finset.sum_const_zero, Finset.sum_ite_eq', Finset.mem_univ, if_true]
  · unfold nsValue unentValue avgMat
    rw [re_trace_avg_mul]
    exact Finset.sum_congr rfl fun x _ => Finset.sum_congr rfl fun y _ =>
      congrArg _ (sum_re_trace_mul_ite_pair (fun a b => P a b x y) (f x) (g y) ρ)

/-- **Non-signalling value ≤ operator-norm bound**: if `π` is a probability distribution and every referee
operator satisfies `P a b x y ⪯ c·1`, every feasible point of the non-signalling program has value at most `c`. -/
theorem ns_le_of_pred_le (π : X → Y → ℝ) (P K : A → B → X → Y → Matrix (Fin d) (Fin d) ℂ) (c : ℝ)
    (hπ : ∀ x y, 0 ≤ π x y) (hsum : ∑ x, ∑ y, π x y = 1)
    (hP : ∀ a b x y, ((c : ℂ) • (1 : Matrix (Fin d) (Fin d) ℂ) - P a b x y).PosSemidef)
    (hK : NSFeasible K) : nsValue π P K ≤ c := by
  obtain ⟨hpsd, σ, ρ, τ, hσ, -, hστ, -, hτ⟩ := hK
  have hxy : ∀ x y, ∑ a, ∑ b, (P a b x y * K a b x y).trace.re ≤ c := fun x y => by
    have h2 : ∑ a, ∑ b, (K a b x y).trace.re = 1 := by
      rw [← Complex.one_re, ← hτ.2, ← hστ x]
      simp only [← hσ _ x y, Matrix.trace_sum, Complex.re_sum]
    calc ∑ a, ∑ b, (P a b x y * K a b x y).trace.re
        ≤ ∑ a, ∑ b, c * (K a b x y).trace.re := Finset.sum_le_sum fun a _ => Finset.sum_le_sum fun b _ =>
          re_trace_mul_le_of_smul_one_sub_psd (hP a b x y) (hpsd a b x y)
      _ = c := by simp only [← Finset.mul_sum, h2, mul_one]
  calc nsValue π P K
      ≤ ∑ x, ∑ y, π x y * c :=
        Finset.sum_le_sum fun x _ => Finset.sum_le_sum fun y _ => mul_le_mul_of_nonneg_left (hxy x y) (hπ x y)
    _ = c := by simp only [← Finset.sum_mul, hsum, one_mul]

end NS

section LamMax
variable {n k : Nat}

/-- An accepted upper certificate bounds every Rayleigh quotient: `Re vᴴ A v ≤ c · vᴴ v`. -/
theorem checkLamMaxUpper_sound (A : EMat n n) (c : Rat) (L : EMat n k) (h : checkLamMaxUpper A c L = true)
    (V : Matrix (Fin n) (Fin 1) ℂ) : (Vᴴ * A.toM * V).trace.re ≤ (c : ℝ) * (Vᴴ * V).trace.re :=
  rayleigh_le_of_psd (checkLamMaxUpper_spec A c L h) V

/-- An accepted lower certificate is the Rayleigh quotient of a non-zero vector of a Hermitian matrix. -/
theorem checkLamMaxLower_sound (A : EMat n n) (v : EMat n 1) (lo : Rat) (h : checkLamMaxLower A v = some lo) :
    A.toM.IsHermitian ∧ 0 < (v.toMᴴ * v.toM).trace.re ∧
      (v.toMᴴ * A.toM * v.toM).trace.re = (lo : ℝ) * (v.toMᴴ * v.toM).trace.re :=
  checkLamMaxLower_rayleigh A v lo h

/-- The two certificates enclose `λ_max`: a Rayleigh quotient never exceeds a certified upper bound. -/
theorem lambdaMax_enclosure (A : EMat n n) (v : EMat n 1) (lo c : Rat) (L : EMat n k)
    (hlo : checkLamMaxLower A v = some lo) (hhi : checkLamMaxUpper A c L = true) : (lo : ℝ) ≤ (c : ℝ) := by
  obtain ⟨-, hpos, hq⟩ := checkLamMaxLower_sound A v lo hlo
  have h := checkLamMaxUpper_sound A c L hhi v.toM
  rw [hq] at h
  exact le_of_mul_le_mul_right h hpos

end LamMax

section GameCheck
variable {d : Nat}

/-- Model = specification: the executable `avgOperator` (exact arithmetic over `ℚ[i]`, loops over `x < nX`,
`y < nY`) denotes the mathematical operator `Σ_{x,y} π(x,y) P (f x) (g y) x y` of the game. -/
theorem avgOperator_eq_avgMat (G : Game d) (f : Fin G.nX → Fin G.nA) (g : Fin G.nY → Fin G.nB) :
    (avgOperator G (extFn f) (extFn g)).toM = avgMat (gProb G) (gPred G) f g := by
  rw [extFn_eq_ext, extFn_eq_ext]
  exact toM_avgOperator_of_agree G _ _ f g (Toq.Games.ext_val f) (Toq.Games.ext_val g)

/-- If the upper checker accepts `c`, every deterministic unentangled strategy — any answer functions, any
referee state — has value at most `c`. -/
theorem checkUnentUpper_sound (G : Game d) (c : Rat) (Ls : Nat → EMat d d) (h : checkUnentUpper G c Ls = true) :
    ∀ (f : Fin G.nX → Fin G.nA) (g : Fin G.nY → Fin G.nB) (ρ : Matrix (Fin d) (Fin d) ℂ), IsDensity ρ →
      unentValue (gProb G) (gPred G) f g ρ ≤ (c : ℝ) :=
  fun f g _ hρ => hρ.trace_mul_le (checkUnentUpper_avgMat G c Ls h f g)

/-- If the lower checker accepts with value `lo`, there are answer functions and a referee state whose
strategy has value exactly `lo`. -/
theorem checkUnentLower_sound (G : Game d) (fl gl : List Nat) (v : EMat d 1) (lo : Rat)
    (h : checkUnentLower G fl gl v = some lo) :
    ∃ (f : Fin G.nX → Fin G.nA) (g : Fin G.nY → Fin G.nB) (ρ : Matrix (Fin d) (Fin d) ℂ),
      IsDensity ρ ∧ unentValue (gProb G) (gPred G) f g ρ = (lo : ℝ) := by
  obtain ⟨hf, hg, h⟩ := checkUnentLower_eq_some h
  obtain ⟨ρ, hρ, hval⟩ := checkLamMaxLower_density _ v lo h
  exact ⟨fun x => ⟨_, hf x.1 x.2⟩, fun y => ⟨_, hg y.1 y.2⟩, ρ, hρ,
    by rw [unentValue, ← toM_avgOperator_of_agree G (fnOfList fl) (fnOfList gl) _ _ (fun _ => rfl) fun _ => rfl, hval]⟩

/-- Accepted certificates bracket the unentangled value. -/
theorem unent_lo_le_hi (G : Game d) (fl gl : List Nat) (v : EMat d 1) (lo c : Rat) (Ls : Nat → EMat d d)
    (hlo : checkUnentLower G fl gl v = some lo) (hhi : checkUnentUpper G c Ls = true) : (lo : ℝ) ≤ (c : ℝ) := by
  obtain ⟨f, g, ρ, hρ, hv⟩ := checkUnentLower_sound G fl gl v lo hlo
  rw [← hv]
  exact checkUnentUpper_sound G c Ls hhi f g ρ hρ

/-- Constant answers: if the constant-answer upper checker accepts `c`, every strategy with *constant* answers `(a, b)` has value at
most `c` (the quantity that `unentangled_value` maximised before its repair in /repo, commit `dbe41b6`). -/
theorem checkUnentConstUpper_sound (G : Game d) (c : Rat) (Ls : Nat → EMat d d)
    (h : checkUnentConstUpper G c Ls = true) :
    ∀ (a : Fin G.nA) (b : Fin G.nB) (ρ : Matrix (Fin d) (Fin d) ℂ), IsDensity ρ →
      unentValue (gProb G) (gPred G) (fun _ => a) (fun _ => b) ρ ≤ (c : ℝ) :=
  fun a b _ hρ => hρ.trace_mul_le (checkUnentConstUpper_avgMat G c Ls h a b)

/-- An accepted constant-answer lower certificate is the value of a strategy with constant answers. -/
theorem checkUnentConstLower_sound (G : Game d) (a b : Nat) (v : EMat d 1) (lo : Rat)
    (h : checkUnentConstLower G a b v = some lo) :
    ∃ (a' : Fin G.nA) (b' : Fin G.nB) (ρ : Matrix (Fin d) (Fin d) ℂ),
      IsDensity ρ ∧ unentValue (gProb G) (gPred G) (fun _ => a') (fun _ => b') ρ = (lo : ℝ) := by
  obtain ⟨ha, hb, h⟩ := checkUnentConstLower_eq_some h
  obtain ⟨ρ, hρ, hval⟩ := checkLamMaxLower_density _ v lo h
  exact ⟨⟨a, ha⟩, ⟨b, hb⟩, ρ, hρ,
    by rw [unentValue, ← toM_avgOperator_of_agree G (fun _ => a) (fun _ => b) _ _ (fun _ => rfl) fun _ => rfl]; exact hval⟩

/-- The maximum over constant answers never exceeds the unentangled value: a bound for all answer functions is a bound for
constant answers.  (The converse fails — see the `echoGame` examples at the end of the file — which was the defect of
`unentangled_value` before commit `dbe41b6` of /repo.) -/
theorem unentConst_le_unent (G : Game d) (c : ℝ)
    (h : ∀ (f : Fin G.nX → Fin G.nA) (g : Fin G.nY → Fin G.nB) (ρ : Matrix (Fin d) (Fin d) ℂ), IsDensity ρ →
      unentValue (gProb G) (gPred G) f g ρ ≤ c) :
    ∀ (a : Fin G.nA) (b : Fin G.nB) (ρ : Matrix (Fin d) (Fin d) ℂ), IsDensity ρ →
      unentValue (gProb G) (gPred G) (fun _ => a) (fun _ => b) ρ ≤ c :=
  fun _ _ ρ hρ => h _ _ ρ hρ

end GameCheck

section Hedging
variable {a b k : Nat}

/-- Adjointness of `Y ↦ 1 ⊗ Y` and the partial trace over the first factor:
`tr((1 ⊗ Y) X) = tr(Y · Tr_1 X)`. -/
theorem partial_trace_adjoint (Y : Matrix (Fin b) (Fin b) ℂ) (X : Matrix (Fin a × Fin b) (Fin a × Fin b) ℂ) :
    (((1 : Matrix (Fin a) (Fin a) ℂ) ⊗ₖ Y) * X).trace = (Y * ptrace1 X).trace :=
  trace_one_kronecker_mul Y X

/-- **Weak duality of the maximisation programs** (`max_prob_outcome_a_*`, cloning): for `X ⪰ 0` with
`Tr_1 X = 1` and any `Y` with `1 ⊗ Y − Q ⪰ 0`, `Re tr(Q X) ≤ Re tr Y`.  All dimensions, all `Q`. -/
theorem hedging_weak_duality (Q X : Matrix (Fin a × Fin b) (Fin a × Fin b) ℂ) (Y : Matrix (Fin b) (Fin b) ℂ)
    (hX : HedgeFeasible X) (hY : (((1 : Matrix (Fin a) (Fin a) ℂ) ⊗ₖ Y) - Q).PosSemidef) :
    (Q * X).trace.re ≤ Y.trace.re :=
  hedge_max_weak_duality (Equiv.refl _) Q X Y hX hY

/-- **Weak duality of the minimisation programs** (`min_prob_outcome_a_*`): `Re tr Y ≤ Re tr(Q X)` for
primal-feasible `X` and `Q − 1 ⊗ Y ⪰ 0`. -/
theorem hedging_min_weak_duality (Q X : Matrix (Fin a × Fin b) (Fin a × Fin b) ℂ) (Y : Matrix (Fin b) (Fin b) ℂ)
    (hX : HedgeFeasible X) (hY : (Q - ((1 : Matrix (Fin a) (Fin a) ℂ) ⊗ₖ Y)).PosSemidef) :
    Y.trace.re ≤ (Q * X).trace.re :=
  hedge_min_weak_duality (Equiv.refl _) Q X Y hX hY

/-- Any primal-feasible `X` separates the two programs: every min-dual value is at most `Re tr(Q X)`, which is
at most every max-dual value. -/
theorem hedging_min_le_max (Q X : Matrix (Fin a × Fin b) (Fin a × Fin b) ℂ) (Y₁ Y₂ : Matrix (Fin b) (Fin b) ℂ)
    (hX : HedgeFeasible X) (h₁ : (Q - ((1 : Matrix (Fin a) (Fin a) ℂ) ⊗ₖ Y₁)).PosSemidef)
    (h₂ : (((1 : Matrix (Fin a) (Fin a) ℂ) ⊗ₖ Y₂) - Q).PosSemidef) :
    Y₁.trace.re ≤ (Q * X).trace.re ∧ (Q * X).trace.re ≤ Y₂.trace.re :=
  ⟨hedging_min_weak_duality Q X Y₁ hX h₁, hedging_weak_duality Q X Y₂ hX h₂⟩

/-- The minimal probability is at most the maximal one: the primal feasible set is never empty (`a > 0`), so
every min-dual value is at most every max-dual value. -/
theorem hedging_min_dual_le_max_dual [NeZero a] (Q : Matrix (Fin a × Fin b) (Fin a × Fin b) ℂ)
    (Y₁ Y₂ : Matrix (Fin b) (Fin b) ℂ) (h₁ : (Q - ((1 : Matrix (Fin a) (Fin a) ℂ) ⊗ₖ Y₁)).PosSemidef)
    (h₂ : (((1 : Matrix (Fin a) (Fin a) ℂ) ⊗ₖ Y₂) - Q).PosSemidef) : Y₁.trace.re ≤ Y₂.trace.re := by
  obtain ⟨X, hX⟩ := hedgeFeasible_exists (α := Fin a) (β := Fin b)
  exact (hedging_min_le_max Q X Y₁ Y₂ hX h₁ h₂).1.trans (hedging_min_le_max Q X Y₁ Y₂ hX h₁ h₂).2

/-- **Weak duality for any arrangement of the tensor factors** (parallel repetitions): the operators live on
an index set `ι` identified with (outputs) × (inputs) by `e`; toqito's `π(1 ⊗ Y)πᴴ ⪰ Q` and
`Tr_{outputs}(X) = 1` are the constraints below read through `e`. -/
theorem hedging_weak_duality_reps {ι : Type*} [Fintype ι] [DecidableEq ι] (e : Fin a × Fin b ≃ ι)
    (Q X : Matrix ι ι ℂ) (Y : Matrix (Fin b) (Fin b) ℂ) (hX : HedgeFeasible (X.submatrix e e))
    (hY : (((1 : Matrix (Fin a) (Fin a) ℂ) ⊗ₖ Y) - Q.submatrix e e).PosSemidef) :
    (Q * X).trace.re ≤ Y.trace.re :=
  hedge_max_weak_duality e Q X Y hX hY

theorem hedging_min_weak_duality_reps {ι : Type*} [Fintype ι] [DecidableEq ι] (e : Fin a × Fin b ≃ ι)
    (Q X : Matrix ι ι ℂ) (Y : Matrix (Fin b) (Fin b) ℂ) (hX : HedgeFeasible (X.submatrix e e))
    (hY : (Q.submatrix e e - ((1 : Matrix (Fin a) (Fin a) ℂ) ⊗ₖ Y)).PosSemidef) :
    Y.trace.re ≤ (Q * X).trace.re :=
  hedge_min_weak_duality e Q X Y hX hY

/-- If the primal checker accepts with value `v`, the candidate is a feasible point (`X ⪰ 0`, `Tr_1 X = 1`)
with objective value exactly `v`: `v` is a lower bound of the maximum (`max_prob_outcome_a_primal`,
cloning `primal_problem`). -/
theorem checkHedgeMaxPrimal_sound (Q X : EMat (a * b) (a * b)) (L : EMat (a * b) k) (v : Rat)
    (h : checkHedgeMaxPrimal a b Q X L = some v) :
    ∃ X' : Matrix (Fin a × Fin b) (Fin a × Fin b) ℂ, HedgeFeasible X' ∧ (opOf Q * X').trace.re = (v : ℝ) := by
  obtain ⟨-, hf, hv⟩ := checkHedgePrimal_sound Q X L v h
  exact ⟨_, hf, hv⟩

/-- Same certificate read for the minimisation: `v` is an upper bound of the minimum. -/
theorem checkHedgeMinPrimal_sound (Q X : EMat (a * b) (a * b)) (L : EMat (a * b) k) (v : Rat)
    (h : checkHedgeMinPrimal a b Q X L = some v) :
    ∃ X' : Matrix (Fin a × Fin b) (Fin a × Fin b) ℂ, HedgeFeasible X' ∧ (opOf Q * X').trace.re = (v : ℝ) :=
  checkHedgeMaxPrimal_sound Q X L v h

/-- If the max-dual checker accepts with value `hi`, EVERY primal-feasible point has objective at most `hi`. -/
theorem checkHedgeMaxDual_sound (Q : EMat (a * b) (a * b)) (Y : EMat b b) (L : EMat (a * b) k) (hi : Rat)
    (h : checkHedgeMaxDual a b Q Y L = some hi) :
    ∀ X : Matrix (Fin a × Fin b) (Fin a × Fin b) ℂ, HedgeFeasible X → (opOf Q * X).trace.re ≤ (hi : ℝ) :=
  checkHedgeMaxDual_le h (Equiv.refl _) rfl

/-- If the min-dual checker accepts with value `lo`, EVERY primal-feasible point has objective at least `lo`. -/
theorem checkHedgeMinDual_sound (Q : EMat (a * b) (a * b)) (Y : EMat b b) (L : EMat (a * b) k) (lo : Rat)
    (h : checkHedgeMinDual a b Q Y L = some lo) :
    ∀ X : Matrix (Fin a × Fin b) (Fin a × Fin b) ℂ, HedgeFeasible X → (lo : ℝ) ≤ (opOf Q * X).trace.re :=
  checkHedgeMinDual_le h (Equiv.refl _) rfl

/-- Accepted primal and dual certificates bracket the maximum. -/
theorem hedge_max_lo_le_hi (Q X : EMat (a * b) (a * b)) (L L' : EMat (a * b) k) (Y : EMat b b) (lo hi : Rat)
    (hlo : checkHedgeMaxPrimal a b Q X L = some lo) (hhi : checkHedgeMaxDual a b Q Y L' = some hi) :
    (lo : ℝ) ≤ (hi : ℝ) := by
  obtain ⟨X', hX, hv⟩ := checkHedgeMaxPrimal_sound Q X L lo hlo
  rw [← hv]
  exact checkHedgeMaxDual_sound Q Y L' hi hhi X' hX

/-- Accepted dual and primal certificates bracket the minimum. -/
theorem hedge_min_lo_le_hi (Q X : EMat (a * b) (a * b)) (L L' : EMat (a * b) k) (Y : EMat b b) (lo hi : Rat)
    (hlo : checkHedgeMinDual a b Q Y L' = some lo) (hhi : checkHedgeMinPrimal a b Q X L = some hi) :
    (lo : ℝ) ≤ (hi : ℝ) := by
  obtain ⟨X', hX, hv⟩ := checkHedgeMinPrimal_sound Q X L hi hhi
  rw [← hv]
  exact checkHedgeMinDual_sound Q Y L' lo hlo X' hX

/-- Max-dual certificate for an operator `Q` given in the implementation's order: accepted on the reindexed
operator ⇒ bound for every `X` (in the implementation's order) whose reindexing is primal feasible. -/
theorem checkHedgeMaxDual_reindex_sound (σ : Fin (a * b) → Fin (a * b)) (hσ : isSurj σ = true)
    (Q : EMat (a * b) (a * b)) (Y : EMat b b) (L : EMat (a * b) k) (hi : Rat)
    (h : checkHedgeMaxDual a b (reindex σ Q) Y L = some hi) :
    ∀ X : Matrix (Fin (a * b)) (Fin (a * b)) ℂ,
      HedgeFeasible (X.submatrix (arrangement σ hσ) (arrangement σ hσ)) → (Q.toM * X).trace.re ≤ (hi : ℝ) :=
  checkHedgeMaxDual_le h (arrangement σ hσ) (toM_submatrix_arrangement σ hσ Q)

theorem checkHedgeMinDual_reindex_sound (σ : Fin (a * b) → Fin (a * b)) (hσ : isSurj σ = true)
    (Q : EMat (a * b) (a * b)) (Y : EMat b b) (L : EMat (a * b) k) (lo : Rat)
    (h : checkHedgeMinDual a b (reindex σ Q) Y L = some lo) :
    ∀ X : Matrix (Fin (a * b)) (Fin (a * b)) ℂ,
      HedgeFeasible (X.submatrix (arrangement σ hσ) (arrangement σ hσ)) → (lo : ℝ) ≤ (Q.toM * X).trace.re :=
  checkHedgeMinDual_le h (arrangement σ hσ) (toM_submatrix_arrangement σ hσ Q)

/-- Primal certificate for operators given in the implementation's order: the candidate is feasible (after
reindexing) and has objective value `v`. -/
theorem checkHedgePrimal_reindex_sound (σ : Fin (a * b) → Fin (a * b)) (hσ : isSurj σ = true)
    (Q X : EMat (a * b) (a * b)) (L : EMat (a * b) k) (v : Rat)
    (h : checkHedgePrimal a b (reindex σ Q) (reindex σ X) L = some v) :
    HedgeFeasible (X.toM.submatrix (arrangement σ hσ) (arrangement σ hσ)) ∧
      (Q.toM * X.toM).trace.re = (v : ℝ) := by
  obtain ⟨-, hf, hv⟩ := checkHedgePrimal_sound (reindex σ Q) (reindex σ X) L v h
  rw [toM_reindex] at hf
  refine ⟨hf, ?_⟩
  rw [← hv, toM_reindex, toM_reindex]
  exact congrArg Complex.re (trace_mul_submatrix_equiv (arrangement σ hσ) Q.toM X.toM).symm

/-- toqito's order `Y₁X₁Y₂X₂` of the hedging systems for two repetitions is a permutation of the order
(outputs `Y₁Y₂`, inputs `X₁X₂`). -/
theorem hedgeSigma2_isSurj : isSurj hedgeSigma2 = true :=
  isSurj_of_rightInverse hedgeSigma2 hedgeSigma2 hedgeSigma2_hedgeSigma2

/-- the order `Y₁Z₁X₁Y₂Z₂X₂` of the cloning systems for two repetitions is a permutation of
(outputs `Y₁Z₁Y₂Z₂`, inputs `X₁X₂`). -/
theorem cloneSigma2_isSurj : isSurj cloneSigma2 = true :=
  isSurj_of_rightInverse cloneSigma2
    (fun q => finProdFinEquiv (hedgeSigma2 ((repArrangement (a₁ := 4) (b₁ := 2) (a₂ := 4) (b₂ := 2)).symm q).1,
      ((repArrangement (a₁ := 4) (b₁ := 2) (a₂ := 4) (b₂ := 2)).symm q).2))
    fun q => by rw [cloneSigma2_apply, Prod.mk.eta, Equiv.apply_symm_apply]

/-- **Cloning (counterfeiting) weak duality**: with `Q = Σ_k p_k |ψ_kψ_kψ̄_k⟩⟨ψ_kψ_kψ̄_k|` on
`(ℂ^m ⊗ ℂ^m) ⊗ ℂ^m`, every cloning channel (`X ⪰ 0`, `Tr_{YZ} X = 1`) succeeds with probability at most
`Re tr Y` for any `Y` with `1 ⊗ Y ⪰ Q`. -/
theorem cloning_weak_duality {m : Nat} (states : List (EMat m 1)) (probs : List Rat)
    (X : Matrix (Fin (m * m) × Fin m) (Fin (m * m) × Fin m) ℂ) (Y : Matrix (Fin m) (Fin m) ℂ)
    (hX : HedgeFeasible X)
    (hY : (((1 : Matrix (Fin (m * m)) (Fin (m * m)) ℂ) ⊗ₖ Y) - opOf (cloneQ states probs)).PosSemidef) :
    (opOf (cloneQ states probs) * X).trace.re ≤ Y.trace.re :=
  hedging_weak_duality _ X Y hX hY

end Hedging

/-! ## Parallel repetition of the hedging / cloning programs (all numbers of repetitions)

`n` repetitions act on `n` copies of `ℂ^α ⊗ ℂ^β`; in toqito's order `Y₁X₁ Y₂X₂ …` an index is a digit sequence
`k ↦ (i k, j k) : Fin n → α × β`, `Q₁ ⊗ … ⊗ Qₙ` is `piKron Q`, and the constraints `Tr_{Y₁…Yₙ} X = 1`,
`π (1 ⊗ Y) πᴴ ⪰ Q` read the index through `regroup` (the subsystem permutation `_pperm` / `pperm` of the code).
`HedgeFeasible (regroup X)` is "X is primal feasible for the `n`-fold program". -/

section Reps
variable {α β : Type*} [Fintype α] [Fintype β] [DecidableEq α] [DecidableEq β]

/-- **Product strategies.**  For every `n`, all dimensions and all operators `Q_k`: if every `X_k` is primal feasible
(`X_k ⪰ 0`, `Tr_1 X_k = 1`) then `X₁ ⊗ … ⊗ Xₙ` is primal feasible for the `n`-fold program, and its objective value is the
product `∏ tr(Q_k X_k)`.  Hence `opt(n) ≥ ∏ opt_k` for the maximisation and `opt(n) ≤ ∏ opt_k` for the minimisation. -/
theorem hedging_reps_product_feasible {n : ℕ} (Q X : Fin n → Matrix (α × β) (α × β) ℂ) (hX : ∀ k, HedgeFeasible (X k)) :
    HedgeFeasible (regroup (piKron X)) ∧ (piKron Q * piKron X).trace = ∏ k, (Q k * X k).trace :=
  ⟨hedge_primal_piKron X hX, by rw [piKron_mul, piKron_trace]⟩

/-- **Products of dual-feasible points** (maximisation programs, positive semidefinite `Q_k` — probabilities of outcomes,
the counterfeiting operator): `1 ⊗ Y_k ⪰ Q_k ⪰ 0` for every `k` implies `1 ⊗ (Y₁ ⊗ … ⊗ Yₙ) ⪰ Q₁ ⊗ … ⊗ Qₙ` in the order
(outputs, inputs), and `tr(Y₁ ⊗ … ⊗ Yₙ) = ∏ tr Y_k`.  Hence `opt(n) ≤ ∏ dual_k`. -/
theorem hedging_reps_dual_product {n : ℕ} (Q : Fin n → Matrix (α × β) (α × β) ℂ) (Y : Fin n → Matrix β β ℂ)
    (hQ : ∀ k, (Q k).PosSemidef) (hY : ∀ k, (((1 : Matrix α α ℂ) ⊗ₖ Y k) - Q k).PosSemidef) :
    (((1 : Matrix (Fin n → α) (Fin n → α) ℂ) ⊗ₖ piKron Y) - regroup (piKron Q)).PosSemidef ∧
      (piKron Y).trace = ∏ k, (Y k).trace :=
  ⟨hedge_maxdual_piKron Q Y hQ hY, piKron_trace Y⟩

/-- **The maximal probability is multiplicative under independent repetitions whenever single-shot strong duality is
certified.**  For every `n`, positive semidefinite `Q_k`, primal-feasible `X_k` and Hermitian dual-feasible `Y_k` with
`Re tr(Q_k X_k) = Re tr Y_k = v_k` (the optimum of factor `k`): the `n`-fold program has a feasible point of value `∏ v_k`
and no feasible point of larger value — its optimum is `∏ v_k` (`v^n` for `n` copies of one instance). -/
theorem hedging_reps_multiplicative {n : ℕ} (Q X : Fin n → Matrix (α × β) (α × β) ℂ) (Y : Fin n → Matrix β β ℂ)
    (v : Fin n → ℝ) (hQ : ∀ k, (Q k).PosSemidef) (hX : ∀ k, HedgeFeasible (X k)) (hYh : ∀ k, (Y k).IsHermitian)
    (hY : ∀ k, (((1 : Matrix α α ℂ) ⊗ₖ Y k) - Q k).PosSemidef)
    (hprimal : ∀ k, (Q k * X k).trace.re = v k) (hdual : ∀ k, (Y k).trace.re = v k) :
    (∃ X' : Matrix (Fin n → α × β) (Fin n → α × β) ℂ, HedgeFeasible (regroup X') ∧
        (piKron Q * X').trace.re = ∏ k, v k) ∧
      ∀ X' : Matrix (Fin n → α × β) (Fin n → α × β) ℂ, HedgeFeasible (regroup X') →
        (piKron Q * X').trace.re ≤ ∏ k, v k :=
  (HedgeCert.pi fun k => .of_re (hQ k) (hX k) (hYh k) (hY k) (hprimal k) (hdual k)).isMax_submatrix (splitIdx n).symm

/-- **Minimisation programs: products of dual points with `Y_k ⪰ 0`.**  `Q_k ⪰ 1 ⊗ Y_k ⪰ 0` implies
`Q₁ ⊗ … ⊗ Qₙ ⪰ 1 ⊗ (Y₁ ⊗ … ⊗ Yₙ)`.  Without `Y_k ⪰ 0` the product of dual points is not dual feasible and the minimum is NOT
multiplicative: this is quantum hedging (Molina–Watrous: minimum `sin²(π/8)` for one game, `0` for two). -/
theorem hedging_min_reps_dual_product {n : ℕ} (Q : Fin n → Matrix (α × β) (α × β) ℂ) (Y : Fin n → Matrix β β ℂ)
    (hY0 : ∀ k, (Y k).PosSemidef) (hY : ∀ k, (Q k - ((1 : Matrix α α ℂ) ⊗ₖ Y k)).PosSemidef) :
    (regroup (piKron Q) - ((1 : Matrix (Fin n → α) (Fin n → α) ℂ) ⊗ₖ piKron Y)).PosSemidef := by
  rw [← regroup_piKron_one_kron]
  exact (piKron_sub_psd _ _ (fun k => Matrix.PosSemidef.one.kronecker (hY0 k)) hY).submatrix _

end Reps

/-- **Counterfeiting: `n`-fold value = (single-shot value)ⁿ.**  For every ensemble (states of dimension `m`, non-negative
priors; `Q = cloneQ`) and every certified single-shot optimum `v` (a cloning channel `X` and a Hermitian `Y` with
`1 ⊗ Y ⪰ Q`, `Re tr(Q X) = Re tr Y = v`), the attack on `n` independent banknotes succeeds with probability exactly `vⁿ`:
`X^{⊗n}` is feasible for the `n`-fold program with value `vⁿ` and no feasible point does better — for every `n`. -/
theorem cloning_reps_multiplicative {m : Nat} (states : List (EMat m 1)) (probs : List Rat) (hp : ∀ q ∈ probs, 0 ≤ q)
    (X : Matrix (Fin (m * m) × Fin m) (Fin (m * m) × Fin m) ℂ) (Y : Matrix (Fin m) (Fin m) ℂ) (v : ℝ)
    (hX : HedgeFeasible X) (hYh : Y.IsHermitian)
    (hY : (((1 : Matrix (Fin (m * m)) (Fin (m * m)) ℂ) ⊗ₖ Y) - opOf (cloneQ states probs)).PosSemidef)
    (hv1 : (opOf (cloneQ states probs) * X).trace.re = v) (hv2 : Y.trace.re = v) (n : ℕ) :
    (∃ X' : Matrix (Fin n → Fin (m * m) × Fin m) (Fin n → Fin (m * m) × Fin m) ℂ, HedgeFeasible (regroup X') ∧
        (piKron (fun _ : Fin n => opOf (cloneQ states probs)) * X').trace.re = v ^ n) ∧
      ∀ X' : Matrix (Fin n → Fin (m * m) × Fin m) (Fin n → Fin (m * m) × Fin m) ℂ, HedgeFeasible (regroup X') →
        (piKron (fun _ : Fin n => opOf (cloneQ states probs)) * X').trace.re ≤ v ^ n :=
  ((HedgeCert.of_re ((cloneQ_psd states probs hp).submatrix _) hX hYh hY hv1 hv2).pow n).isMax_submatrix (splitIdx n).symm

/-- **The permutations and traced systems the code builds are the stated reshuffles, for every number `n ≥ 2` of repetitions.**
`QuantumHedging.__init__`: `perm = [*sum(zip(range(n), range(n, n²)), ())]` is the interleaving — position `2k` of
`Y₁X₁…YₙXₙ` holds system `k` of `Y₁…YₙX₁…Xₙ` and position `2k+1` holds system `n+k` — and `_sys` is the set of even positions
(the `Y_k`); `optimal_clone`: position `i·n + j` of `Y₁…YₙZ₁…ZₙX₁…Xₙ` holds system `i + 3j` of `Y₁Z₁X₁…YₙZₙXₙ`, and the primal
traces the positions `≢ 2 (mod 3)` (the `Y_k`, `Z_k`).  On digit sequences the same reshuffle is `splitIdx` / `regroup` of the repetition
theorems; no statement links the lists to them. -/
theorem pperm_is_interleaving (n : ℕ) (hn : 2 ≤ n) :
    (∀ k, k < n → (hedgePerm n)[2 * k]? = some k ∧ (hedgePerm n)[2 * k + 1]? = some (n + k)) ∧
      (∀ e, e ∈ hedgeSys n ↔ e < 2 * n ∧ e % 2 = 0) ∧
      (∀ i j, i < 3 → j < n → (clonePerm n)[i * n + j]? = some (i + 3 * j)) ∧
      (∀ e, e ∈ cloneSys n ↔ e + 1 < 3 * n ∧ e % 3 ≠ 2) :=
  ⟨fun k hk => hedgePerm_getElem n hn k hk, mem_hedgeSys n, fun i j hi hj => clonePerm_getElem n i j hi hj, mem_cloneSys n⟩

/-- **Real ensembles: `Q` is invariant under exchanging the systems `Z` and `X`.**  `optimal_clone`'s primal program for two
repetitions pairs the objective operator `pperm (Q ⊗ Q) ppermᴴ` (order `Y₁Y₂Z₁Z₂X₁X₂`) with the constraint
`partial_trace(X, [0, 1, 3, 4], [2]*6) == 1`, which in that order keeps the positions of `Z₁` and `X₂`: it is the correct program
with `Z₁` and `X₁` exchanged.  The function accepts real state vectors only, and for those the exchange of `Z` and `X` leaves the
single-copy `Q` unchanged: `Q[(i₁ i₃ i₂), (j₁ j₃ j₂)] = Q[(i₁ i₂ i₃), (j₁ j₂ j₃)]` for every dimension `m`, every list of real states and all
priors.  (That the two-repetition program then has the same optimum is not derived here; the harness stream `prog_embedding` plugs the
certified points with the two positions exchanged.) -/
theorem cloneQ_exchange_invariant_real {m : Nat} (states : List (EMat m 1)) (probs : List Rat)
    (hreal : ∀ s ∈ states, ∀ i, (s.get i ⟨0, Nat.one_pos⟩).im = 0) (p q : Fin (m * m * m)) :
    (cloneQ states probs).toM (swap23 p) (swap23 q) = (cloneQ states probs).toM p q := by
  have hget : ∀ k : Fin states.length, ∀ i, ((states.getD k.val zero).get i ⟨0, Nat.one_pos⟩).im = 0 := by
    intro k i
    rw [List.getD_eq_getElem?_getD, List.getElem?_eq_getElem k.isLt]
    exact hreal _ (List.getElem_mem k.isLt) i
  rw [toM_cloneQ]
  simp only [Matrix.sum_apply, Matrix.smul_apply, Matrix.vecMulVec_apply, Pi.star_apply]
  refine Finset.sum_congr rfl fun k _ => ?_
  rw [cloneVec_swap23_real _ (hget k) p, cloneVec_swap23_real _ (hget k) q]

section Reps2
variable {kq kp kd : Nat}

/-- toqito's order `Y₁X₁Y₂X₂` read through the checked permutation `hedgeSigma2` is the order (outputs `Y₁Y₂`, inputs
`X₁X₂`) of `np.kron(Q₁, Q₂)` -/
theorem hedgeSigma2_isRepArrangement :
    IsRepArrangement (a₁ := 2) (b₁ := 2) (a₂ := 2) (b₂ := 2) (arrangement hedgeSigma2 hedgeSigma2_isSurj) := by
  intro y x
  show hedgeSigma2 (finProdFinEquiv (y, x)) = _
  revert y x
  decide

theorem swapMid_involutive : Function.Involutive swapMid :=
  swapMid_eq_hedgeSigma2 ▸ hedgeSigma2_hedgeSigma2

/-- the order `Y₁Y₂Z₁Z₂ X₁X₂` produced by the code's `permutation_operator(2, [0, 3, 1, 4, 2, 5])`, read through the
checked permutation `cloneSigma2`, is — up to the order of the output systems, which the constraints do not see — the order
(outputs `(Y₁Z₁)(Y₂Z₂)`, inputs `X₁X₂`) of `np.kron(Q₁, Q₂)` -/
theorem cloneSigma2_isRepArrangement :
    IsRepArrangement (a₁ := 4) (b₁ := 2) (a₂ := 4) (b₂ := 2)
      ((Equiv.prodCongr swapMid_involutive.toPerm (Equiv.refl (Fin (2 * 2)))).trans
        (arrangement cloneSigma2 cloneSigma2_isSurj)) :=
  fun y x => cloneSigma2_apply y x

/-- **Hedging, two repetitions, on toqito's arrays.**  Let `Q₁, Q₂` be `4 × 4` operators certified positive semidefinite,
with accepted single-shot certificates: primal `X_i` of value `v_i`, dual `Y_i` of value `w_i`.  For `Q = np.kron(Q₁, Q₂)`
(the argument of `QuantumHedging(Q, 2)`, order `Y₁X₁Y₂X₂`): `np.kron(X₁, X₂)` is feasible for the two-fold primal program with
value `v₁ v₂`, and every feasible point has value at most `w₁ w₂`.  (With `v_i = w_i`: the two-fold optimum is the product.) -/
theorem hedge2_product_bracket (Q₁ X₁ Q₂ X₂ : EMat (2 * 2) (2 * 2)) (Y₁ Y₂ : EMat 2 2)
    (LQ₁ LQ₂ : EMat (2 * 2) kq) (L₁ L₂ : EMat (2 * 2) kp) (L₁' L₂' : EMat (2 * 2) kd) (v₁ w₁ v₂ w₂ : Rat)
    (hQ₁ : psdCert Q₁ LQ₁ = true) (hQ₂ : psdCert Q₂ LQ₂ = true)
    (hp₁ : checkHedgeMaxPrimal 2 2 Q₁ X₁ L₁ = some v₁) (hd₁ : checkHedgeMaxDual 2 2 Q₁ Y₁ L₁' = some w₁)
    (hp₂ : checkHedgeMaxPrimal 2 2 Q₂ X₂ L₂ = some v₂) (hd₂ : checkHedgeMaxDual 2 2 Q₂ Y₂ L₂' = some w₂) :
    HedgeFeasible ((kronE X₁ X₂).toM.submatrix (arrangement hedgeSigma2 hedgeSigma2_isSurj)
        (arrangement hedgeSigma2 hedgeSigma2_isSurj)) ∧
      ((kronE Q₁ Q₂).toM * (kronE X₁ X₂).toM).trace.re = (v₁ : ℝ) * (v₂ : ℝ) ∧
      ∀ X : Matrix (Fin (4 * 4)) (Fin (4 * 4)) ℂ,
        HedgeFeasible (X.submatrix (arrangement hedgeSigma2 hedgeSigma2_isSurj) (arrangement hedgeSigma2 hedgeSigma2_isSurj)) →
        ((kronE Q₁ Q₂).toM * X).trace.re ≤ (w₁ : ℝ) * (w₂ : ℝ) :=
  rep2_bracket_of_certs (a₁ := 2) (b₁ := 2) (a₂ := 2) (b₂ := 2) (arrangement hedgeSigma2 hedgeSigma2_isSurj)
    (Equiv.refl _) (fun y x => hedgeSigma2_isRepArrangement y x) (psdCert_sound _ _ hQ₁) (psdCert_sound _ _ hQ₂) hp₁ hd₁ hp₂ hd₂

/-- **Cloning, two repetitions, on toqito's arrays** (`Q = tensor(Q₁, 2)`-style product `np.kron(Q₁, Q₂)` in the order
`Y₁Z₁X₁Y₂Z₂X₂`, read through `cloneSigma2`): same statement as `hedge2_product_bracket` with `a = 4`, `b = 2`. -/
theorem clone2_product_bracket (Q₁ X₁ Q₂ X₂ : EMat (4 * 2) (4 * 2)) (Y₁ Y₂ : EMat 2 2)
    (LQ₁ LQ₂ : EMat (4 * 2) kq) (L₁ L₂ : EMat (4 * 2) kp) (L₁' L₂' : EMat (4 * 2) kd) (v₁ w₁ v₂ w₂ : Rat)
    (hQ₁ : psdCert Q₁ LQ₁ = true) (hQ₂ : psdCert Q₂ LQ₂ = true)
    (hp₁ : checkHedgeMaxPrimal 4 2 Q₁ X₁ L₁ = some v₁) (hd₁ : checkHedgeMaxDual 4 2 Q₁ Y₁ L₁' = some w₁)
    (hp₂ : checkHedgeMaxPrimal 4 2 Q₂ X₂ L₂ = some v₂) (hd₂ : checkHedgeMaxDual 4 2 Q₂ Y₂ L₂' = some w₂) :
    HedgeFeasible ((kronE X₁ X₂).toM.submatrix (arrangement cloneSigma2 cloneSigma2_isSurj)
        (arrangement cloneSigma2 cloneSigma2_isSurj)) ∧
      ((kronE Q₁ Q₂).toM * (kronE X₁ X₂).toM).trace.re = (v₁ : ℝ) * (v₂ : ℝ) ∧
      ∀ X : Matrix (Fin (16 * 4)) (Fin (16 * 4)) ℂ,
        HedgeFeasible (X.submatrix (arrangement cloneSigma2 cloneSigma2_isSurj) (arrangement cloneSigma2 cloneSigma2_isSurj)) →
        ((kronE Q₁ Q₂).toM * X).trace.re ≤ (w₁ : ℝ) * (w₂ : ℝ) :=
  rep2_bracket_of_certs (a₁ := 4) (b₁ := 2) (a₂ := 4) (b₂ := 2) (arrangement cloneSigma2 cloneSigma2_isSurj)
    swapMid_involutive.toPerm cloneSigma2_isRepArrangement (psdCert_sound _ _ hQ₁) (psdCert_sound _ _ hQ₂) hp₁ hd₁ hp₂ hd₂

end Reps2

section Closed

/-- **Wiesner's quantum money: the optimal counterfeiting probability is exactly 3/4.**  For the ensemble
`{|0⟩, |1⟩, |+⟩, |−⟩}` with uniform priors (`wiesnerQ` is its operator `Q = cloneQ …`, see `Toq/Proofs/ExtGamesClosed.lean`)
there is a cloning channel of success probability `3/4` (the Molina–Vidick–Watrous cloner, exact rational Choi operator) and
no channel does better (dual point `Y = (3/8)·1`; exact certificate). -/
theorem wiesner_three_quarters :
    (∃ X : Matrix (Fin 4 × Fin 2) (Fin 4 × Fin 2) ℂ, HedgeFeasible X ∧ (opOf wiesnerQ * X).trace.re = 3 / 4) ∧
      ∀ X : Matrix (Fin 4 × Fin 2) (Fin 4 × Fin 2) ℂ, HedgeFeasible X → (opOf wiesnerQ * X).trace.re ≤ 3 / 4 :=
  wiesner_cert.isMax

/-- **`n` Wiesner banknotes: exactly `(3/4)ⁿ`, for every `n`.**  The `n`-fold counterfeiting program
(operator `Q^{⊗n}` in toqito's order `Y₁Z₁X₁ … YₙZₙXₙ`) has a feasible point of value `(3/4)ⁿ` and none of larger value. -/
theorem wiesner_n_fold (n : ℕ) :
    (∃ X' : Matrix (Fin n → Fin 4 × Fin 2) (Fin n → Fin 4 × Fin 2) ℂ, HedgeFeasible (regroup X') ∧
        (piKron (fun _ : Fin n => opOf wiesnerQ) * X').trace.re = (3 / 4 : ℝ) ^ n) ∧
      ∀ X' : Matrix (Fin n → Fin 4 × Fin 2) (Fin n → Fin 4 × Fin 2) ℂ, HedgeFeasible (regroup X') →
        (piKron (fun _ : Fin n => opOf wiesnerQ) * X').trace.re ≤ (3 / 4 : ℝ) ^ n :=
  (wiesner_cert.pow n).isMax_submatrix (splitIdx n).symm

/-- **Rank-one operators in Schmidt form.**  For every dimension `m` and every `a ≥ 0`, with `Q = |w⟩⟨w|`,
`w = Σ_i a_i |i i⟩`: the maximum of `⟨Q, X⟩` over `X ⪰ 0`, `Tr_1 X = 1` is exactly `(Σ_i a_i)²` — attained at the Choi operator of
the identity channel, bounded by the dual point `Y = (Σ a)·diag(a)` (weighted Cauchy–Schwarz). -/
theorem hedging_rank_one_closed_form {m : ℕ} (a : Fin m → ℝ) (ha : ∀ i, 0 ≤ a i) :
    (∃ X : Matrix (Fin m × Fin m) (Fin m × Fin m) ℂ, HedgeFeasible X ∧ (rankOneQ a * X).trace.re = (∑ i, a i) ^ 2) ∧
      ∀ X : Matrix (Fin m × Fin m) (Fin m × Fin m) ℂ, HedgeFeasible X → (rankOneQ a * X).trace.re ≤ (∑ i, a i) ^ 2 :=
  (rankOne_cert a ha).isMax

/-- **Molina–Watrous: the single-shot optimum is `cos²(π/8)`.**  For `Q = q₁ = w wᵀ`,
`w = cos(π/8)/√2 |00⟩ + sin(π/8)/√2 |11⟩` (the operator of the docstring of `QuantumHedging`, `α = 1/√2`, `θ = π/8`) the
program `max_prob_outcome_a_primal` / `_dual` has optimum exactly `cos²(π/8)`. -/
theorem molina_watrous_cos_sq :
    (∃ X : Matrix (Fin 2 × Fin 2) (Fin 2 × Fin 2) ℂ, HedgeFeasible X ∧
        (rankOneQ mwCoeff * X).trace.re = Real.cos (Real.pi / 8) ^ 2) ∧
      ∀ X : Matrix (Fin 2 × Fin 2) (Fin 2 × Fin 2) ℂ, HedgeFeasible X →
        (rankOneQ mwCoeff * X).trace.re ≤ Real.cos (Real.pi / 8) ^ 2 :=
  mw_cert.isMax

/-- **Molina–Watrous, `n` repetitions: `cos²ⁿ(π/8)` for every `n`** (the probability of winning ALL of `n` games cannot be
hedged). -/
theorem molina_watrous_n_fold (n : ℕ) :
    (∃ X' : Matrix (Fin n → Fin 2 × Fin 2) (Fin n → Fin 2 × Fin 2) ℂ, HedgeFeasible (regroup X') ∧
        (piKron (fun _ : Fin n => rankOneQ mwCoeff) * X').trace.re = (Real.cos (Real.pi / 8) ^ 2) ^ n) ∧
      ∀ X' : Matrix (Fin n → Fin 2 × Fin 2) (Fin n → Fin 2 × Fin 2) ℂ, HedgeFeasible (regroup X') →
        (piKron (fun _ : Fin n => rankOneQ mwCoeff) * X').trace.re ≤ (Real.cos (Real.pi / 8) ^ 2) ^ n :=
  (mw_cert.pow n).isMax_submatrix (splitIdx n).symm

/-- **Molina–Watrous: the outcome `q₁` can be avoided with certainty** (`min_prob_outcome_a = 0` for `Q = q₁`, and for every
`Q = |w⟩⟨w|`, `w = a₀|00⟩ + a₁|11⟩`): the channel that answers the flipped basis state is feasible with value `0`, and no
feasible point has a negative value. -/
theorem molina_watrous_min_zero (a : Fin 2 → ℝ) :
    (∃ X : Matrix (Fin 2 × Fin 2) (Fin 2 × Fin 2) ℂ, HedgeFeasible X ∧ (rankOneQ a * X).trace.re = 0) ∧
      ∀ X : Matrix (Fin 2 × Fin 2) (Fin 2 × Fin 2) ℂ, HedgeFeasible X → 0 ≤ (rankOneQ a * X).trace.re :=
  rankOne_min_zero a (σ := Equiv.swap 0 1) (by decide)

end Closed

/-! ## Feasibility embedding: unentangled strategies are feasible points of the NPA relaxation for extended games

`commuting_measurement_value_upper_bound(k)` calls `npa_constraints(mat, k, referee_dim = d)`: the moment matrix has
`d × d` blocks indexed by pairs of words, `mat[x, y]` has the blocks `K(a,b|x,y)`.  An unentangled strategy — answer
functions `f`, `g` and a referee state `ρ` — defines the point `R = ρ ⊗ z zᵀ` (`extR`; `z` = word values),
`K(a,b|x,y) = [a = f x][b = g y] ρ`.  The theorems below say that this point satisfies what the generator emits and that
the objective there is the strategy's value; the harness stream `ext_embedding` evaluates the captured cvxpy constraints
at the same point.  (`unent_le_ns` above is the corresponding statement for `nonsignaling_value`.) -/

section ExtEmbedding
open Toq.Npa Toq.Games

variable {d : Nat}

/-- **The embedded moment matrix is positive semidefinite.**  For every PSD referee operator `ρ` (in particular every
state), every number `n` of words and every vector `z` of word values, the matrix `ρ ⊗ z zᵀ` laid out as the code lays
out `r_var` (flat index `i + n·p`: block `(i, j)` is `r_var[i::n, j::n]`) is positive semidefinite — a Kronecker product
of positive semidefinite matrices.  This is the constraint `r_var >> 0` at the embedded point. -/
theorem ext_embed_psd (n : Nat) (z : Nat → ℚ) (ρ : Matrix (Fin d) (Fin d) ℂ) (hρ : ρ.PosSemidef) :
    (extR n z ρ).PosSemidef :=
  (hρ.kronecker (psdQ_of_rank_one n z)).submatrix _

/-- **Blocks of the embedded moment matrix satisfy the block equations of `npa_constraints(…, referee_dim = d)`.**
For all answer functions `f`, `g`, every word list and every `ρ`, with `R = ρ ⊗ z zᵀ`, `z_i = val(words[i])`, and
`blk i j` the sub-matrix `r_var[i::dim, j::dim]` (rows `i + dim·p`, columns `j + dim·q`):
(1) the flat index of `(p, i)` is `i + dim·p`;
(2) `blk i j = val(wᵢ)·val(wⱼ) · ρ`;
(3) if the product word `wᵢ† wⱼ` reduces to the zero word (empty tuple, `wᵢ` containing a measurement) the block vanishes
    (constraint `sub_mat == 0`);
(4) two entries whose product words have the same non-empty reduced word have equal blocks (`sub_mat == old_sub_mat`);
(5) if the product word reduces to `A_{a|x} B_{b|y}` the block is `[f x = a][g y = b] · ρ`, i.e. the block `K(a,b|x,y)` of the
    assemblage of the unentangled strategy (`sub_mat == assemblage[x, y][a·d:(a+1)·d, b·d:(b+1)·d]`).
Rests on `Toq.Npa.evalRed_det`: the fact of `Toq.C07.reduce_preserves_val` for the entries of a word list, read through `q ↦ q · ρ`. -/
theorem ext_embed_blocks (f g : Nat → Nat) (words : List Word) (ρ : Matrix (Fin d) (Fin d) ℂ)
    (i j i' j' : Fin words.length) :
    let R := extR words.length (detZ f g words) ρ
    let blk := fun i j : Fin words.length =>
      Matrix.of fun p q : Fin d => R (finProdFinEquiv (p, i)) (finProdFinEquiv (q, j))
    (∀ p : Fin d, (finProdFinEquiv (p, i) : Fin (d * words.length)).val = i.val + words.length * p.val) ∧
    blk i j = (((val f g (wordAt words i) * val f g (wordAt words j) : ℚ)) : ℂ) • ρ ∧
    (entryWord words i j = [] → hasMeas (wordAt words i) → blk i j = 0) ∧
    (entryWord words i j ≠ [] → entryWord words i j = entryWord words i' j' → blk i j = blk i' j') ∧
    (∀ sa sb : Sym, sa.player = Player.alice → sb.player = Player.bob → entryWord words i j = [sa, sb] →
      blk i j = if f sa.question = sa.answer ∧ g sb.question = sb.answer then ρ else 0) := by
  intro R blk
  have hblk : ∀ i j : Fin words.length, blk i j = (blkOf ρ (detR f g words i j)).mat := fun i j =>
    Matrix.ext fun p q => extR_apply _ _ ρ p q i j
  -- the 0/1 values read through `q ↦ q · ρ` are compatible with `_reduce`, for all `f`, `g`, `words`
  have hev := evalRed_det f g (blkOf ρ) (blkOf_zero ρ) words
  refine ⟨fun p => by simp [finProdFinEquiv], hblk i j, fun hnil hm => ?_, fun hne heq => ?_, fun sa sb ha hb hw => ?_⟩
  · rw [hblk, hev.entryWord_nil i j hnil hm]
    rfl
  · rw [hblk, hblk, ← hev.entryWord_ne i j hne, ← hev.entryWord_ne i' j' (heq ▸ hne), heq]
  · rw [hblk, ← hev.entryWord_ne i j (by rw [hw]; simp), hw, val_pair f g sa sb ha hb]
    exact detK_smul f g _ _ _ _ ρ

/-- **Normalisation.**  For the word list of every level and all alphabet sizes the first word is the identity word, so
the `(0,0)` block of the embedded moment matrix is `ρ` and the code's normalisation
`sum(r_var[i * dim, i * dim] for i in range(referee_dim)) == 1` holds: the diagonal entries at flat indices `0 + dim·p`
sum to `tr ρ = 1`. -/
theorem ext_embed_normalised (f g : Nat → Nat) (base : Nat) (conf : List (Nat × Nat)) (ao ai bo bi : Nat)
    (ρ : Matrix (Fin d) (Fin d) ℂ) (htr : ρ.trace = 1) :
    let words := genWords base conf ao ai bo bi
    let i0 : Fin words.length := ⟨0, (wordAt_genWords_zero base conf ao ai bo bi).2⟩
    ∑ p : Fin d, extR words.length (detZ f g words) ρ (finProdFinEquiv (p, i0)) (finProdFinEquiv (p, i0)) = 1 := by
  intro words i0
  have hz : detZ f g words i0.val = 1 := val_ident f g
  simp only [extR_apply, hz, mul_one, Rat.cast_one, one_mul]
  exact htr

/-- **Objective.**  The objective of `commuting_measurement_value_upper_bound` / `nonsignaling_value`,
`Σ_{a,b,x,y} π(x,y) · Re tr(P(a,b,x,y)ᴴ · K(a,b|x,y))` (the code multiplies by `pred_mat[...].conj().T`), evaluated at the
assemblage `K(a,b|x,y) = [a = f x][b = g y] · ρ` of an unentangled strategy is the strategy's value
`Re tr(M_{f,g} ρ)`, `M_{f,g} = Σ_{x,y} π(x,y) P(f x, g y, x, y)`, for Hermitian referee operators. -/
theorem ext_embed_objective {A B X Y : Type*} [Fintype A] [Fintype B] [Fintype X] [Fintype Y] [DecidableEq A]
    [DecidableEq B] (π : X → Y → ℝ) (P : A → B → X → Y → Matrix (Fin d) (Fin d) ℂ)
    (hP : ∀ a b x y, (P a b x y).IsHermitian) (f : X → A) (g : Y → B) (ρ : Matrix (Fin d) (Fin d) ℂ) :
    ∑ a, ∑ b, ∑ x, ∑ y, π x y * ((P a b x y)ᴴ * (if a = f x ∧ b = g y then ρ else 0)).trace.re
      = unentValue π P f g ρ := by
  rw [Finset.sum_comm₄, unentValue, avgMat, re_trace_avg_mul]
  refine Finset.sum_congr rfl fun x _ => Finset.sum_congr rfl fun y _ => ?_
  simp only [(hP _ _ x y).eq, ← Finset.mul_sum]
  exact congrArg _ (sum_re_trace_mul_ite_pair (fun a b => P a b x y) (f x) (g y) ρ)

/-- **Every constraint of `npa_constraints(…, referee_dim = d)` holds at every unentangled strategy — all sizes, all
levels, all referee dimensions.**  The generator runs the same loop as for `referee_dim = 1` and emits one block equation
per scalar equation; so its mirror `npaConstraints` is read with values in `d × d` blocks (`Blk d ρ`: the scalar `1` is
the block `ρ`, `≤` is the Loewner order).  For a density operator `ρ` and answer functions `f`, `g`, with
`z_i = val(words[i])`, moment blocks `Rb i j = z_i z_j · ρ` and assemblage blocks `Kb a b x y = [f x = a][g y = b] · ρ`:
* every emitted constraint holds blockwise: `Rb 0 0 = ρ` and `Σ_{a,b} Kb a b x y = ρ` (the code asks only for the traces of
  these two, `= tr ρ = 1`, last conjunct), forced zero blocks, blocks tied to the assemblage and to its marginals, equal
  blocks, `Kb ⪰ 0`, no-signalling marginals; and `r_var >> 0` holds for the flat matrix `ρ ⊗ z zᵀ`;
* the flat matrix has exactly these blocks at the positions `r_var[i::dim, j::dim]`;
* every assemblage block is Hermitian (the constraints `block == block.H` added by
  `commuting_measurement_value_upper_bound`) and positive semidefinite.
The point of the commuting measurements `[f x = a]`, `[g y = b]` in ℚ read through `q ↦ q · ρ` (`Toq.Npa.evalOK_det`).  The harness (`ext_embedding`) plugs exactly this point
into the constraint objects toqito builds. -/
theorem ext_npa_sound_det (ao bo ai bi : Nat) (hai : 0 < ai) (hbi : 0 < bi) (k : LevelArg) (hwf : LevelWF k)
    (base : Nat) (conf : List (Nat × Nat)) (hk : levelSpec k = some (base, conf))
    (ρ : Matrix (Fin d) (Fin d) ℂ) (hρ : IsDensity ρ) (f : Fin ai → Fin ao) (g : Fin bi → Fin bo) :
    let words := genWords base conf ao ai bo bi
    let z := detZ (ext f) (ext g) words
    let Rb : Nat → Nat → Blk d ρ := fun i j => blkOf ρ (z i * z j)
    let Kb : Nat → Nat → Nat → Nat → Blk d ρ := fun a b x y => blkOf ρ (detK (ext f) (ext g) a b x y)
    (∀ c ∈ npaConstraints ao bo ai bi base conf, Sat (extR words.length z ρ).PosSemidef ao bo Rb Kb c) ∧
      (∀ (i j : Fin words.length) (p q : Fin d),
        extR words.length z ρ (finProdFinEquiv (p, i)) (finProdFinEquiv (q, j)) = (Rb i j).mat p q) ∧
      (∀ a b x y, (Kb a b x y).mat = if ext f x = a ∧ ext g y = b then ρ else 0) ∧
      (∀ a b x y, (Kb a b x y).mat.IsHermitian ∧ (Kb a b x y).mat.PosSemidef) ∧
      (1 : Blk d ρ).mat.trace = 1 := by
  intro words z Rb Kb
  have hK : ∀ a b x y, (Kb a b x y).mat = if ext f x = a ∧ ext g y = b then ρ else 0 := fun a b x y =>
    detK_smul (ext f) (ext g) a b x y ρ
  have hφ : IsUnitalAdd (blkOf ρ) := ⟨blkOf_zero ρ, blkOf_add ρ, blkOf_one ρ⟩
  have hf : ∀ x, x < ai → ext f x < ao := fun x hx => ext_lt f x hx
  have hg : ∀ y, y < bi → ext g y < bo := fun y hy => ext_lt g y hy
  refine ⟨?_, fun i j p q => ?_, hK, fun a b x y => ?_, hρ.2⟩
  · exact npa_sound_of_evalOK (levelSpec_confOK k hwf base conf hk) (evalOK_det hf hg hφ words rfl hai hbi)
      (assemblageOK_det hf hg hφ fun _ h => blkOf_nonneg hρ.1 h) _ (ext_embed_psd _ _ ρ hρ.1)
  · rw [extR_apply]; rfl
  · rw [hK]
    split
    · exact ⟨hρ.1.isHermitian, hρ.1⟩
    · exact ⟨Matrix.isHermitian_zero, Matrix.PosSemidef.zero⟩

/-- the hypothesis `IsDensity ρ` is satisfiable: the maximally mixed qubit state -/
example : IsDensity (((1 / 2 : ℝ) : ℂ) • (1 : Matrix (Fin 2) (Fin 2) ℂ)) := by
  refine ⟨Matrix.PosSemidef.one.smul (Complex.zero_le_real.mpr (by norm_num)), ?_⟩
  simp [Matrix.trace_smul]

end ExtEmbedding

/-! ## Quantum (commuting-measurement) strategies of an extended game: quantum ≤ NPA(k), NPA(k) ≤ non-signalling (block form), level monotonicity

`ExtQStrategy d D ao bo ai bi`: projective measurements `A x a`, `B y b` on one space `ℂ^D`, every operator of Alice commuting
with every operator of Bob, and a unit vector `u = Σ_p |p⟩ ⊗ ψ_p ∈ ℂ^d ⊗ ℂ^D` shared with the referee.  Its point of the
relaxation: assemblage `K(a,b|x,y)[p,q] = ⟨ψ_q| A B |ψ_p⟩`, moment blocks `R[i,j][p,q] = ⟨W_j ψ_q, W_i ψ_p⟩`, referee state
`ρ = K`-block of the identity.  (Helper lemmas: `Toq/Proofs/ExtGamesNpaQ.lean`.) -/

section ExtQuantum
open Toq.Npa Toq.Games
variable {d : Nat}

/-- **Every constraint that `npa_constraints(…, referee_dim = d)` emits holds at every commuting-measurement strategy** — every
referee dimension `d`, every dimension `D` of the players' space, all alphabet sizes, every level (integer or `'1+ab…'`).  The
flat moment matrix (layout `r_var[i::dim, j::dim]` = block `(i, j)`) is positive semidefinite (a Gram matrix), every block equation
of the generator holds, every assemblage block is Hermitian and positive semidefinite, and the referee's state is a density
operator.  Hence the value of every quantum strategy — in particular every value returned by `quantum_value_lower_bound` — is at
most the optimum of `commuting_measurement_value_upper_bound(k)` in the model.  Mirror of `Toq.C07.npa_sound_quantum`: both are
`Toq.Npa.IsHermCommMeas.npa_sound` (`_reduce` is sound for commuting projectors, `SymRep.reduceWord_op`). -/
theorem ext_npa_sound_quantum (D ao bo ai bi : Nat) (hai : 0 < ai) (hbi : 0 < bi) (k : LevelArg) (hwf : LevelWF k)
    (base : Nat) (conf : List (Nat × Nat)) (hk : levelSpec k = some (base, conf)) (S : ExtQStrategy d D ao bo ai bi) :
    let words := genWords base conf ao ai bo bi
    (∀ c ∈ npaConstraints ao bo ai bi base conf, Sat (S.Rflat words).PosSemidef ao bo (S.R words) S.K c) ∧
      (S.Rflat words).PosSemidef ∧
      (∀ (i j : Fin words.length) (p q : Fin d),
        S.Rflat words (finProdFinEquiv (p, i)) (finProdFinEquiv (q, j)) = (S.R words i j).mat p q) ∧
      (∀ a b x y, (S.K a b x y).mat.IsHermitian ∧ (S.K a b x y).mat.PosSemidef) ∧
      IsDensity S.rho := by
  intro words
  have hpsd := S.Rflat_psd words
  refine ⟨?_, hpsd, S.Rflat_apply words, fun a b x y => ⟨(S.K_psd a b x y).isHermitian, S.K_psd a b x y⟩, S.rho_density⟩
  rw [S.K_eq]
  exact S.isHermCommMeas.npa_sound S.blkH_unital S.blkH_gram_nonneg hai hbi (levelSpec_confOK k hwf base conf hk) hpsd

/-- **The objective of the relaxation at the point of a quantum strategy is the strategy's winning probability**:
`Re Σ_{a,b,x,y} π(x,y) tr(P(a,b,x,y)ᴴ K(a,b|x,y)) = Σ π(x,y) Re ⟨u| P(a,b,x,y)ᴴ ⊗ A_a^x B_b^y |u⟩` (loop order of the code), and
`Pᴴ = P` for Hermitian referee operators. -/
theorem ext_npa_objective_quantum {D ao bo ai bi : Nat} (S : ExtQStrategy d D ao bo ai bi)
    (P : Nat → Nat → Nat → Nat → Matrix (Fin d) (Fin d) ℂ) (π : Nat → Nat → ℝ) :
    ((sumN ao fun a => sumN bo fun b => sumN ai fun x => sumN bi fun y =>
        (π x y : ℂ) * ((P a b x y)ᴴ * (S.K a b x y).mat).trace).re
      = sumN ao fun a => sumN bo fun b => sumN ai fun x => sumN bi fun y =>
        π x y * (star S.uvec ⬝ᵥ (((P a b x y)ᴴ ⊗ₖ (S.A x a * S.B y b)) *ᵥ S.uvec)).re) ∧
    ((∀ a b x y, (P a b x y).IsHermitian) →
      (sumN ao fun a => sumN bo fun b => sumN ai fun x => sumN bi fun y =>
        (π x y : ℂ) * ((P a b x y)ᴴ * (S.K a b x y).mat).trace).re
      = sumN ao fun a => sumN bo fun b => sumN ai fun x => sumN bi fun y =>
        π x y * (star S.uvec ⬝ᵥ ((P a b x y ⊗ₖ (S.A x a * S.B y b)) *ᵥ S.uvec)).re) :=
  ⟨by simp only [sumN_map Complex.re Complex.zero_re Complex.add_re, Complex.re_ofReal_mul, S.objective_term],
    fun hP => by
      simp only [(hP _ _ _ _).eq, sumN_map Complex.re Complex.zero_re Complex.add_re, Complex.re_ofReal_mul,
        S.objective_term]⟩

/-- **NPA ≤ non-signalling (model).**  The assemblage part of every feasible point of the block-valued NPA relaxation — any
level, any moment matrix — is a feasible point of the program solved by `nonsignaling_value` (`K ⪰ 0`, marginals `σ(a|x)`,
`ρ(b|y)` independent of the other question, summing to one density operator `τ = ρ`), with the same objective (which only reads
`K`).  Hence the optimum of `commuting_measurement_value_upper_bound(k)` is at most `nonsignaling_value()` in the model. -/
theorem ext_npa_le_ns {ρ : Matrix (Fin d) (Fin d) ℂ} (hρ : IsDensity ρ) (psd : Prop) (ao bo ai bi : Nat) (hai : 0 < ai)
    (hbi : 0 < bi) (R : Nat → Nat → Blk d ρ) (K : Nat → Nat → Nat → Nat → Blk d ρ)
    (h : ∀ c ∈ assemblageConstrs ao bo ai bi, Sat psd ao bo R K c) :
    NsBlocksFeasible d ao bo ai bi (fun a b x y => (K a b x y).mat) := by
  have hK := (assemblage_sat_iff psd R).mp h
  refine ⟨fun x y a b hx hy ha hb => (Blk.nonneg_iff _).mp (hK.nonneg x y a b hx hy ha hb), ?_⟩
  refine ⟨fun a x => sumN bo (fun b => (K a b x 0).mat), fun b y => sumN ao (fun a => (K a b 0 y).mat), ρ,
    fun x y a hx hy ha => ?_, fun x y b hx hy hb => ?_, fun x hx => ?_, fun y hy => ?_, hρ.2⟩
  · simpa only [Blk.mat_sumN] using (congrArg Blk.mat (hK.nsAlice x a y hx ha hy)).symm
  · simpa only [Blk.mat_sumN] using (congrArg Blk.mat (hK.nsBob y b x hy hb hx)).symm
  · simpa only [Blk.mat_sumN, Blk.one_mat] using congrArg Blk.mat (hK.norm x 0 hx hbi)
  · rw [sumN_comm]
    simpa only [Blk.mat_sumN, Blk.one_mat] using congrArg Blk.mat (hK.norm 0 y hai hy)

/-- **Level monotonicity with referee blocks (model).**  If the word list of the lower level is a sub-list of the word list of
the higher level, every feasible point `(R, K)` of the higher level restricts (blocks `R (φ i) (φ j)` for a strictly increasing
position map `φ`, the SAME `K`, hence the same objective) to a feasible point of the lower level: the bound of a higher level is
at most the bound of a lower level. -/
theorem ext_npa_level_mono {ρ : Matrix (Fin d) (Fin d) ℂ} (ao bo ai bi baseLo baseHi : Nat)
    (confLo confHi : List (Nat × Nat)) (hHi : ConfOK confHi)
    (hsub : List.Sublist (genWords baseLo confLo ao ai bo bi) (genWords baseHi confHi ao ai bo bi)) :
    ∃ φ : Nat → Nat, φ 0 = 0 ∧ (∀ i j, i < j → φ i < φ j) ∧
      (∀ i, i < (genWords baseLo confLo ao ai bo bi).length → φ i < (genWords baseHi confHi ao ai bo bi).length) ∧
      (∀ i, wordAt (genWords baseLo confLo ao ai bo bi) i = wordAt (genWords baseHi confHi ao ai bo bi) (φ i)) ∧
      ∀ (R : Nat → Nat → Blk d ρ) (K : Nat → Nat → Nat → Nat → Blk d ρ),
        (∀ c ∈ npaConstraints ao bo ai bi baseHi confHi,
          Sat (flatBlk (genWords baseHi confHi ao ai bo bi).length R).PosSemidef ao bo R K c) →
        ∀ c ∈ npaConstraints ao bo ai bi baseLo confLo,
          Sat (flatBlk (genWords baseLo confLo ao ai bo bi).length (fun i j => R (φ i) (φ j))).PosSemidef ao bo
            (fun i j => R (φ i) (φ j)) K c := by
  obtain ⟨φ, hφ0, hφmono, hφlt, hφw⟩ := exists_embedding_of_sublist baseLo baseHi confLo confHi ao ai bo bi hHi hsub
  exact ⟨φ, hφ0, hφmono, hφlt, hφw, fun _ _ =>
    npaConstraints_restrict (fun n R => (flatBlk n R).PosSemidef) ext_flat_psd_restrict φ hφ0 hφmono hφlt hφw⟩

/-- **The levels the property names are nested**: a feasible point of level `2` restricts to one of level `'1+ab'`, and one of
level `'1+ab'` to one of level `1`, with the same assemblage — all alphabet sizes, every referee dimension. -/
theorem ext_npa_levels_chain {ρ : Matrix (Fin d) (Fin d) ℂ} (ao bo ai bi : Nat) (K : Nat → Nat → Nat → Nat → Blk d ρ) :
    ((∃ R : Nat → Nat → Blk d ρ, ∀ c ∈ npaConstraints ao bo ai bi 2 [],
        Sat (flatBlk (genWords 2 [] ao ai bo bi).length R).PosSemidef ao bo R K c) →
      ∃ R : Nat → Nat → Blk d ρ, ∀ c ∈ npaConstraints ao bo ai bi 1 [(1, 1)],
        Sat (flatBlk (genWords 1 [(1, 1)] ao ai bo bi).length R).PosSemidef ao bo R K c) ∧
    ((∃ R : Nat → Nat → Blk d ρ, ∀ c ∈ npaConstraints ao bo ai bi 1 [(1, 1)],
        Sat (flatBlk (genWords 1 [(1, 1)] ao ai bo bi).length R).PosSemidef ao bo R K c) →
      ∃ R : Nat → Nat → Blk d ρ, ∀ c ∈ npaConstraints ao bo ai bi 1 [],
        Sat (flatBlk (genWords 1 [] ao ai bo bi).length R).PosSemidef ao bo R K c) := by
  refine ⟨npa_feasible_of_sublist (fun n R => (flatBlk n R).PosSemidef) ext_flat_psd_restrict (fun c hc => by simp at hc)
      (genWords_nested ao ai bo bi).2.1 K,
    npa_feasible_of_sublist (fun n R => (flatBlk n R).PosSemidef) ext_flat_psd_restrict (fun c hc => ?_)
      (genWords_nested ao ai bo bi).1 K⟩
  rw [List.mem_singleton.mp hc]
  norm_num

/-- **Why the moment blocks carry the adjoint.**  With the "naive" convention `R[i,j] = block of W_i† W_j` the flat matrix is the
partial transpose (in the referee index) of a Gram matrix and need not be positive semidefinite — there is a two-dimensional
counterexample; the harness and `ExtQStrategy.R` therefore use `R[i,j][p,q] = ⟨W_j ψ_q, W_i ψ_p⟩`. -/
theorem ext_moment_blocks_need_adjoint :
    ∃ (psi : Fin 2 → Fin 2 → ℂ) (W : Nat → Matrix (Fin 2) (Fin 2) ℂ),
      ¬ (flatBlk (ρ := blockOf psi 1) 2 (fun i j => Blk.of _ (blockOf psi ((W i)ᴴ * W j)))).PosSemidef := by
  -- `psi_p = e_p` (a maximally entangled `u`, up to the norm), `W_0 = |0⟩⟨1|`, `W_1 = -|0⟩⟨0|` (combinations of level-1 words):
  -- the principal `2 × 2` submatrix on the flat indices `(p, i) = (0, 0), (1, 1)` is `[[0, -1], [-1, 0]]`
  refine ⟨fun p k => if p = k then 1 else 0,
    fun i => if i = 0 then !![0, 1; 0, 0] else !![-1, 0; 0, 0], fun h => ?_⟩
  have h2 := (h.submatrix (fun t : Fin 2 => finProdFinEquiv (t, t))).dotProduct_mulVec_nonneg (fun _ => 1)
  -- the entry `(s, t)` of that submatrix is `⟨W_s ψ_t, W_t ψ_s⟩` (`blockOf_gram_apply`); the quadratic form at `(1, 1)` is their sum `-2`
  simp only [dotProduct, mulVec, submatrix_apply, flatBlk_apply, Blk.mat_of, blockOf_gram_apply, Fin.sum_univ_two,
    Pi.star_apply, star_one, one_mul, mul_one] at h2
  norm_num [Complex.le_def] at h2

end ExtQuantum

section ExtReps
variable {d d' : Nat}

/-- **Product strategies in the product game.**  `tensorGame G H` mirrors the arrays that `ExtendedNonlocalGame.__init__` stores
for `reps > 1` (`prob_mat ⊗ prob_mat`, `pred_mat2[:, :, a, b, x, y] = pred[…a₁b₁x₁y₁] ⊗ pred[…a₂b₂x₂y₂]` with big-endian digits of the
labels; `repGame` iterates it).  For the digit-wise answer functions `f = f₁ ⊗ f₂`, `g = g₁ ⊗ g₂` and the product state `ρ₁ ⊗ ρ₂`:
the question-averaged operator is `M_{f₁,g₁}(G) ⊗ M_{f₂,g₂}(H)`, `ρ₁ ⊗ ρ₂` is a state, and the value of the product strategy is the
product of the values.  Hence the unentangled value of the product of two games is at least the product of their values. -/
theorem ext_reps_product_strategy (G : Game d) (H : Game d') (f₁ g₁ f₂ g₂ : Nat → Nat)
    (hf₂ : ∀ x, x < H.nX → f₂ x < H.nA) (hg₂ : ∀ y, y < H.nY → g₂ y < H.nB)
    (ρ₁ : Matrix (Fin d) (Fin d) ℂ) (ρ₂ : Matrix (Fin d') (Fin d') ℂ) (h₁ : IsDensity ρ₁) (h₂ : IsDensity ρ₂) :
    (avgOperator (tensorGame G H) (prodFn H.nX H.nA f₁ f₂) (prodFn H.nY H.nB g₁ g₂)).toM
        = flatKron (avgOperator G f₁ g₁).toM (avgOperator H f₂ g₂).toM ∧
      IsDensity (flatKron ρ₁ ρ₂) ∧
      ((avgOperator (tensorGame G H) (prodFn H.nX H.nA f₁ f₂) (prodFn H.nY H.nB g₁ g₂)).toM * flatKron ρ₁ ρ₂).trace
        = ((avgOperator G f₁ g₁).toM * ρ₁).trace * ((avgOperator H f₂ g₂).toM * ρ₂).trace := by
  have h := toM_avgOperator_tensorGame G H f₁ g₁ f₂ g₂ hf₂ hg₂
  refine ⟨h, ⟨(h₁.1.kronecker h₂.1).submatrix _, by rw [trace_flatKron, h₁.2, h₂.2, one_mul]⟩, ?_⟩
  rw [h, trace_flatKron_mul]

end ExtReps

section Examples

/-- the game "Alice must echo her question" (`pred[:, :, x, b, x, 0] = 1₂`, two questions for Alice, one for
Bob, uniform): answer function `f = id` wins with certainty, constant answers win with probability `1/2` -/
private def echoGame : Game 2 :=
  { nA := 2, nB := 2, nX := 2, nY := 1, prob := fun _ _ => 1 / 2,
    pred := fun a _ x _ => if a = x then one else zero }

private def e0 : EMat 2 1 := EMat.ofRows #[#[1], #[0]] 2 1

/-- the unentangled value of the echo game is at least 1 … -/
example : checkUnentLower echoGame [0, 1] [0] e0 = some 1 := by decide +kernel
/-- … and at most 1 … -/
example : checkUnentUpper echoGame 1 (fun _ => zero) = true := by decide +kernel
/-- … while the number computed by the loop over constant answers is at most 1/2 (and at least 1/2). -/
example : checkUnentConstUpper echoGame (1 / 2) (fun _ => zero) = true := by decide +kernel
example : checkUnentConstLower echoGame 0 0 e0 = some (1 / 2) := by decide +kernel

private def r4 (rows : Array (Array Rat)) : EMat (2 * 2) (2 * 2) :=
  EMat.ofRows (rows.map fun r => r.map fun q => (⟨q, 0⟩ : QI)) (2 * 2) (2 * 2)
private def r2 (rows : Array (Array Rat)) : EMat 2 2 :=
  EMat.ofRows (rows.map fun r => r.map fun q => (⟨q, 0⟩ : QI)) 2 2

/-- `Q = |Φ⟩⟨Φ|`, `Φ = |00⟩ + |11⟩` -/
private def exQ : EMat (2 * 2) (2 * 2) := r4 #[#[1, 0, 0, 1], #[0, 0, 0, 0], #[0, 0, 0, 0], #[1, 0, 0, 1]]
private def exXmin : EMat (2 * 2) (2 * 2) := r4 #[#[0, 0, 0, 0], #[0, 1, 0, 0], #[0, 0, 1, 0], #[0, 0, 0, 0]]
private def z4 : EMat (2 * 2) (2 * 2) := zero

/-- maximum 4: `X = Q` is feasible with value 4 and `Y = 2·1` is dual feasible with `tr Y = 4` -/
example : checkHedgeMaxPrimal 2 2 exQ exQ z4 = some 4 := by decide +kernel
example : checkHedgeMaxDual 2 2 exQ (r2 #[#[2, 0], #[0, 2]]) z4 = some 4 := by decide +kernel
/-- minimum 0 -/
example : checkHedgeMinPrimal 2 2 exQ exXmin z4 = some 0 := by decide +kernel
example : checkHedgeMinDual 2 2 exQ (r2 #[#[0, 0], #[0, 0]]) z4 = some 0 := by decide +kernel

/-- the hypotheses of `hedge2_product_bracket` are satisfiable: two copies of `Q = |Φ⟩⟨Φ|` with the certificates above; the
two-fold maximum for `np.kron(Q, Q)` is therefore exactly `16` -/
example : ∀ X : Matrix (Fin (4 * 4)) (Fin (4 * 4)) ℂ,
    HedgeFeasible (X.submatrix (arrangement hedgeSigma2 hedgeSigma2_isSurj) (arrangement hedgeSigma2 hedgeSigma2_isSurj)) →
      ((kronE exQ exQ).toM * X).trace.re ≤ ((4 : Rat) : ℝ) * ((4 : Rat) : ℝ) := by
  -- both factors are `exQ`: three facts, evaluated in one declaration so that the kernel reads `exQ` once
  have h : psdCert exQ z4 = true ∧ checkHedgeMaxPrimal 2 2 exQ exQ z4 = some 4 ∧
      checkHedgeMaxDual 2 2 exQ (r2 #[#[2, 0], #[0, 2]]) z4 = some 4 := by decide +kernel
  exact (hedge2_product_bracket exQ exQ exQ exQ _ _ z4 z4 z4 z4 z4 z4 4 4 4 4 h.1 h.1 h.2.1 h.2.2 h.2.1 h.2.2).2.2

end Examples

end Toq.C09
