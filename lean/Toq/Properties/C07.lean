import Toq.Model.Games
import Toq.Spec.Games
import Toq.Proofs.Games
import Toq.Model.Npa
import Toq.Proofs.Npa
import Toq.Proofs.NpaPovm
import Toq.Proofs.NpaSeesaw
import Toq.Proofs.NpaMixed
import Toq.Model.GamesExtra
import Toq.Proofs.GamesExtra
import Toq.Model.GamesSeesaw
import Toq.Proofs.GamesSeesaw
import Mathlib.Tactic.NormNum.Basic
import Mathlib.Tactic.Positivity
/-!
# C07 — nonlocal game: the classical value is exact; product and BCS games; purity of the value methods; ordering of the values

`NonlocalGame.classical_value` iterates over `num_bob_outputs ** num_bob_inputs` counters (mirror `classicalValueFixed`, used
by the state machine `step`); it is proved to return the maximum over all strategy pairs for all sizes
(`classicalValueFixed_eq_maxDet`).  `classicalValue` is the same enumeration with the bound
`num_alice_outputs ** num_bob_inputs`: it skips strategies when (after the role swap) the enumerated
player has more answers than the other one, so `∀ sizes, classicalValue = maxDetValue` is **false**
(`classicalValue_counterexample`); it holds under the completeness condition `EnumComplete`
(`classicalValue_eq_maxDet_partial`).  The harness compares the implementation with the specification `maxDetValue`
(through `classicalValueFixed` and the brute force `maxDetBrute`), so an implementation with that bound is caught.

Ordering ("classical value ≤ every NPA-level bound ≤ non-signalling value ≤ 1"): the mirror of the constraint generator
`npa_constraints` is proved **sound** for every deterministic strategy at every level (`reduce_preserves_val`,
`npa_sound_det`, `classical_le_npa_model`) and for every quantum strategy, its assemblage part is the non-signalling
polytope (`npa_le_ns_model`, `ns_contains_det`) and the non-signalling objective is at most 1 (`ns_le_one`).  The tie to
the code is the feasibility-embedding stream of the harness: the points of these theorems are plugged into the constraint
objects that toqito actually builds.

Beyond projective strategies (section `Povm`): strategies with general measurements, the feasible points of the see-saw programs
and strategies on mixed states realise behaviours of commuting projective strategies (Naimark dilation by the explicit Halmos unitary,
the Gisin–Hughston–Jozsa–Wootters realisation of an assemblage by the spectral calculus of `τ`, the partial trace of a mixed state to a
see-saw point), so they lie inside every NPA level as well.  Section `Extra`: the multiprocessing branch of `classical_value` returns
what the loop returns, the product game at arbitrary indices, the distribution of `from_bcs_game`.  Section `SeesawPrograms`: the two
programs of `quantum_value_lower_bound` as data (same objective, deterministic strategies feasible) and what its loop returns.
-/
namespace Toq.C07
open Toq.Games Toq.Games.Spec

/-- **`classical_value` = classical value, all sizes.**  For all numbers of answers (`ao`, `bo` ≥ 1)
    and questions, every rational distribution and predicate, the enumeration returns the maximum of
    `Σ_{x,y} prob x y · pred (f x) (g y) x y` over all pairs of answer functions. -/
theorem classicalValueFixed_eq_maxDet (ao bo ai bi : Nat) [NeZero ao] [NeZero bo] (prob : Prob) (pred : Pred) :
    classicalValueFixed ao bo ai bi prob pred = some (maxDetValue ao bo ai bi prob pred) :=
  eq_some_maxDetValue
    (classicalValueGen_isMaxDet true ao bo ai bi prob pred (NeZero.pos ao) (NeZero.pos bo) (Or.inl rfl))

/-- **`classical_value` with the bound `num_alice_outputs ** num_bob_inputs` = classical value, when the enumeration is complete**: if Alice has fewer
    strategies (`ao^ai < bo^bi`, roles swapped) the condition is `ao^ai ≤ bo^ai`, otherwise `bo^bi ≤ ao^bi`
    (e.g. whenever both players have the same number of answers). -/
theorem classicalValue_eq_maxDet_partial (ao bo ai bi : Nat) [NeZero ao] [NeZero bo] (prob : Prob) (pred : Pred)
    (hc : EnumComplete ao bo ai bi) :
    classicalValue ao bo ai bi prob pred = some (maxDetValue ao bo ai bi prob pred) :=
  eq_some_maxDetValue
    (classicalValueGen_isMaxDet false ao bo ai bi prob pred (NeZero.pos ao) (NeZero.pos bo) (Or.inr hc))

/-- equal answer alphabets (every game of toqito's own test-suite) satisfy the completeness condition -/
theorem enumComplete_of_eq (ao ai bi : Nat) : EnumComplete ao ao ai bi := by
  unfold EnumComplete; split <;> exact le_refl _

/-- the completeness condition is satisfiable with unequal sizes, and fails on the counterexample sizes -/
example : EnumComplete 3 2 2 3 ∧ EnumComplete 2 3 1 2 ∧ ¬ EnumComplete 2 3 2 1 ∧ ¬ EnumComplete 3 2 1 2 := by
  decide

/-- counterexample game: Alice 2 answers / 2 questions, Bob 3 answers / 1 question, uniform questions,
    the players win iff Bob answers `2` -/
def cexProb : Prob := fun _ _ => 1 / 2
def cexPred : Pred := fun _ b _ _ => if b = 2 then 1 else 0

/-- **The bound `num_alice_outputs ** num_bob_inputs` violates the property**: on the `(2,3,2,1)` game where Bob wins by answering `2`
    the enumeration with that bound returns 0 (it only tries Bob's answers 0 and 1: `2**1` iterations instead
    of `3**1`), while the classical value is 1. -/
theorem classicalValue_counterexample :
    classicalValue 2 3 2 1 cexProb cexPred = some 0 ∧ maxDetValue 2 3 2 1 cexProb cexPred = 1 := by
  refine ⟨by decide +kernel, ?_⟩
  -- the complete enumeration returns 1 (evaluation), and what it returns is the maximum (`classicalValueFixed_eq_maxDet`)
  have h := classicalValueFixed_eq_maxDet 2 3 2 1 cexProb cexPred
  have h2 : classicalValueFixed 2 3 2 1 cexProb cexPred = some 1 := by decide +kernel
  rw [h2] at h
  exact (Option.some.inj h).symm

/-- **An incomplete enumeration never overshoots**: for all sizes, what `classical_value` returns is the value of
    *some* pair of answer functions, hence at most the classical value (a skipped strategy can only lose). -/
theorem classicalValue_le_maxDet (ao bo ai bi : Nat) [NeZero ao] [NeZero bo] (prob : Prob) (pred : Pred) :
    ∃ v, classicalValue ao bo ai bi prob pred = some v ∧ v ≤ maxDetValue ao bo ai bi prob pred := by
  obtain ⟨v, hv, ⟨f, g, hfg⟩, _⟩ := classicalValueGen_spec false ao bo ai bi prob pred
    (NeZero.pos ao) (NeZero.pos bo)
  exact ⟨v, hv, by rw [← hfg]; exact (maxDetValue_isMaxDet ao bo ai bi prob pred).2 f g⟩

/-- **The executable brute force is the specification**: enumerating all `ao^ai · bo^bi` pairs of answer
    functions by their digit codes gives `maxDetValue` (this is the oracle `c07_max_det` of the driver). -/
theorem maxDetBrute_eq_maxDet (ao bo ai bi : Nat) [NeZero ao] [NeZero bo] (prob : Prob) (pred : Pred) :
    maxDetBrute ao bo ai bi prob pred = some (maxDetValue ao bo ai bi prob pred) :=
  eq_some_maxDetValue (maxDetBrute_isMaxDet ao bo ai bi prob pred (NeZero.pos ao) (NeZero.pos bo))

/-- **`classical_value ≤ 1`** (either iteration bound): if `prob` is a probability distribution and the
    predicate has entries in `[0, 1]`, the returned value lies in `[0, 1]`. -/
theorem classical_le_one (fixed : Bool) (ao bo ai bi : Nat) (hao : 0 < ao) (hbo : 0 < bo) (prob : Prob) (pred : Pred)
    (hp : IsDistribution ai bi prob) (hv : PredIn01 ao bo ai bi pred) :
    ∃ v, classicalValueGen fixed ao bo ai bi prob pred = some v ∧ 0 ≤ v ∧ v ≤ 1 := by
  obtain ⟨v, h, ⟨f, g, hfg⟩, _⟩ := classicalValueGen_spec fixed ao bo ai bi prob pred hao hbo
  exact ⟨v, h, by rw [← hfg]; exact detValue_nonneg ao bo ai bi prob pred hp hv f g,
    by rw [← hfg]; exact detValue_le_one ao bo ai bi prob pred hp hv f g⟩

/-- the hypotheses of `classical_le_one` are satisfiable on a non-trivial instance -/
example : IsDistribution 2 1 cexProb ∧ PredIn01 2 3 2 1 cexPred := by
  refine ⟨⟨fun _ _ _ _ => by unfold cexProb; positivity, by simp [cexProb]⟩, ?_⟩
  intro a b x y _ _ _ _
  unfold cexPred; split <;> norm_num

/-- **`update_odometer` counts**: after `i` calls starting from the zero vector, position `k` of a length-`n`
    odometer with limits `d` holds digit `k` of `i` (big-endian mixed radix `d`, modulo the capacity
    `d 0 · … · d (n-1)`: the odometer wraps to zero). -/
theorem odometer_counts (d : Nat → Nat) (hd : ∀ k, 0 < d k) (n i k : Nat) (hk : k < n) :
    iterOdo n d i k = dec d n (i % prodN d n) k :=
  iterOdo_eq_dec d n (fun k _ => hd k) i k hk

/-- **Product game, predicate**: for `r = m + 1` repetitions, the entry of the constructed tensor at the
    codes (big-endian base `ao`, `bo`, `ai`, `bi`) of the per-round answers `a k`, `b k` and questions `x k`,
    `y k` is the product over the rounds of the base predicate entries. -/
theorem productGame_pred (ao bo ai bi m : Nat) (pred : Pred) (a b x y : Nat → Nat)
    (ha : ∀ k, k ≤ m → a k < ao) (hb : ∀ k, k ≤ m → b k < bo)
    (hx : ∀ k, k ≤ m → x k < ai) (hy : ∀ k, k ≤ m → y k < bi) :
    productPred ao bo ai bi (m + 1) pred (enc (fun _ => ao) a (m + 1)) (enc (fun _ => bo) b (m + 1))
        (enc (fun _ => ai) x (m + 1)) (enc (fun _ => bi) y (m + 1))
      = prodFn (m + 1) (fun k => pred (a k) (b k) (x k) (y k)) := by
  have lt : ∀ {d : Nat} {s : Nat → Nat}, (∀ k, k ≤ m → s k < d) → ∀ k, k < m + 1 → s k < d :=
    fun h k hk => h k (Nat.le_of_lt_succ hk)
  -- product form in the answers at the question codes; the question digits of the codes are `x k`, `y k`
  refine (productPred_isProdForm ao bo ai bi (m + 1) (Nat.succ_pos m) pred _ _ (enc_lt_pow ai x _ (lt hx))
    (enc_lt_pow bi y _ (lt hy)) a b (lt ha) (lt hb)).trans (prodFn_congr _ _ _ fun k hk => ?_)
  show pred _ _ (dec _ _ (enc _ x _) k) (dec _ _ (enc _ y _) k) = _
  rw [dec_enc _ x _ (lt hx) k hk, dec_enc _ y _ (lt hy) k hk]

/-- **Product game, distribution**: `tensor(prob_mat, reps)` (exponentiation by squaring with `np.kron`) has,
    at the codes of the per-round questions, the product of the base probabilities — for every `reps ≥ 1`. -/
theorem productGame_prob (ai bi reps : Nat) (hr : 0 < reps) (prob : Prob) (x y : Nat → Nat)
    (hx : ∀ k, k < reps → x k < ai) (hy : ∀ k, k < reps → y k < bi) :
    productProb ai bi reps prob (enc (fun _ => ai) x reps) (enc (fun _ => bi) y reps)
      = prodFn reps (fun k => prob (x k) (y k)) :=
  fastExp_isProdForm ai bi prob reps hr x y hx hy

/-- the hypotheses of the product-game theorems are satisfiable with unequal sizes (2 rounds) -/
example : ∃ a b x y : Nat → Nat, (∀ k, k ≤ 1 → a k < 2) ∧ (∀ k, k ≤ 1 → b k < 3) ∧
    (∀ k, k ≤ 1 → x k < 3) ∧ (∀ k, k ≤ 1 → y k < 2) ∧ enc (fun _ => 3) b 2 = 5 :=
  ⟨fun _ => 1, fun k => if k = 0 then 1 else 2, fun _ => 2, fun _ => 1,
    by intro k _; dsimp only; omega, by intro k _; dsimp only; split <;> omega,
    by intro k _; dsimp only; omega, by intro k _; dsimp only; omega, by decide⟩

/-- **BCS game scores exactly the satisfying consistent assignments**: for every assignment `s` of the `n`
    binary variables (Alice's answer is its binary code, first variable most significant), Bob's answer `b`,
    constraint `x` and variable `y < n`, the predicate entry is 1 if Bob's bit equals Alice's value of
    variable `y` *and* constraint `x` evaluates to 1 at `s`, and 0 otherwise. -/
theorem bcs_pred_iff (n : Nat) (c : Nat → Nat → Int) (s : Nat → Nat) (hs : ∀ k, k < n → s k < 2)
    (b x y : Nat) (hy : y < n) :
    (bcsPred n c (enc (fun _ => 2) s n) b x y = 1 ↔ (b = s y ∧ c x (enc (fun _ => 2) s n) = 1)) ∧
    (bcsPred n c (enc (fun _ => 2) s n) b x y = 0 ↔ ¬ (b = s y ∧ c x (enc (fun _ => 2) s n) = 1)) := by
  rw [bcsPred_enc n c s hs b x y hy]
  simp only [ite_eq_left_iff, ite_eq_right_iff, zero_ne_one, one_ne_zero, imp_false, not_not, and_self]

/-- **Value methods are pure**: a call of any value method returns the object it was given (no attribute
    is assigned; in particular `classical_value` scales a *copy* of the predicate). -/
theorem methods_pure (sdp : Game → Op → Option Rat) (g : Game) (op : Op) : (step sdp g op).1 = g := by
  cases op <;> rfl

/-- **Values do not depend on evaluation order**: for any method semantics that is pure, the value a
    method returns after an arbitrary history of method calls on the object is the value it returns on the
    fresh object; instantiated with `step` via `methods_pure`. -/
theorem value_order_independent (sdp : Game → Op → Option Rat) (g : Game) (history : List Op) (op : Op) :
    (step sdp (run sdp g history).1 op).2 = (step sdp g op).2 := by
  unfold run
  rw [runWith_fst_of_pure (step sdp) (methods_pure sdp) g history]

/-! `Toq/Model/Npa.lean` mirrors `toqito/helper/npa_hierarchy.py`.  A level is `k : LevelArg` (an integer or a string like `'1+ab+aab'`), parsed by `levelSpec` into `(base, conf)`;
`LevelWF k` says that the extra terms of a string level consist of the letters `a`, `b` (documented form). -/
section Npa
open Toq.Npa

/-- **`_reduce` preserves the value of a word under every deterministic strategy** (the heart of the soundness
    of the hierarchy): for all answer functions `f`, `g` and every word `w`, with `val` = product of the
    indicator values `[f x = a]`, `[g y = b]` of its symbols (identity symbol ↦ 1):
    if `_reduce(w)` is a non-empty tuple it has the same value as `w`; if it is the empty tuple and `w`
    contains a measurement symbol then `w` has value 0 (the code's "zero word"); a word without any
    measurement symbol has value 1. -/
theorem reduce_preserves_val (f g : Nat → Nat) (w : Word) :
    (reduceWord w ≠ [] → val f g (reduceWord w) = val f g w) ∧
    (reduceWord w = [] → hasMeas w → val f g w = 0) ∧
    (¬ hasMeas w → val f g w = 1) := by
  rw [val_eq_opW]
  exact ⟨((valSym_symRep f g).reduceWord_op w).1, ((valSym_symRep f g).reduceWord_op w).2,
    (valSym_symRep f g).opW_of_not_hasMeas⟩

/-- **The NPA constraint generator is sound for deterministic strategies, every size, every level.**
    For all numbers of answers and questions (`ai`, `bi` ≥ 1), every level `k` of the documented form, every
    game `(prob, pred)` and every pair of answer functions `(f, g)`: with `z_i = val(words[i])`, the moment
    matrix `R = z zᵀ` and the behaviour `K(a,b|x,y) = [a = f x][b = g y]` satisfy **every** constraint that the
    mirror of `npa_constraints` emits (normalisation, forced zeros, entries tied to the assemblage and its
    marginals, equal entries, `K ≥ 0`, `Σ K = 1`, no-signalling marginals; `R ⪰ 0` holds as a complex Hermitian
    matrix), and the objective `Σ prob·pred·K` equals the winning probability of `(f, g)`. -/
theorem npa_sound_det (ao bo ai bi : Nat) (hai : 0 < ai) (hbi : 0 < bi) (k : LevelArg) (hwf : LevelWF k)
    (base : Nat) (conf : List (Nat × Nat)) (hk : levelSpec k = some (base, conf))
    (prob : Prob) (pred : Pred) (f : Fin ai → Fin ao) (g : Fin bi → Fin bo) :
    let words := genWords base conf ao ai bo bi
    let z := detZ (ext f) (ext g) words
    let R : Nat → Nat → ℚ := fun i j => z i * z j
    let K := detK (ext f) (ext g)
    (∀ c ∈ npaConstraints ao bo ai bi base conf, Sat (PsdQ words.length R) ao bo R K c) ∧
      PsdQ words.length R ∧
      objective ao bo ai bi prob pred K = detValue ao bo ai bi prob pred f g := by
  intro words z R K
  have hconf := levelSpec_confOK k hwf base conf hk
  have hpsd : PsdQ words.length R := psdQ_of_rank_one words.length z
  exact ⟨npa_sound_of_evalOK hconf (evalOK_det (ext_lt f) (ext_lt g) IsUnitalAdd.id words rfl hai hbi)
    (assemblageOK_det (ext_lt f) (ext_lt g) IsUnitalAdd.id fun _ h => h) _ hpsd, hpsd,
    objective_detK_ext ao bo ai bi prob pred f g⟩

/-- the levels of the property's quantifier are of the documented form and parse as expected -/
example : levelSpec (.int 2) = some (2, []) ∧ levelSpec (.str "1+ab") = some (1, [(1, 1)]) ∧
    levelSpec (.str "1+ab+aab") = some (1, [(1, 1), (2, 1)]) ∧ LevelWF (.int 1) ∧ LevelWF (.str "1+ab") := by
  refine ⟨rfl, by decide, by decide, trivial, ?_⟩
  simp only [LevelWF]
  decide

/-- why `LevelWF` is a hypothesis: a level string with a term without letters `a`/`b` (`'1+xy'`, `'1+22'`) parses to
    the configuration `(0, 0)`, `_gen_words` then appends the **empty** word (position 5 for 2×2×2×2 alphabets), and
    the generator emits both `R[5,5] = 0` and `R[0,5] = R[0,0]` (`= 1`): no positive semidefinite `R` satisfies them,
    so the program is infeasible (toqito returns `-inf` for such a level; outside the property's quantifier) -/
example : levelSpec (.str "1+xy") = some (1, [(0, 0)]) ∧ ¬ ConfOK [(0, 0)] ∧
    wordAt (genWords 1 [(0, 0)] 2 2 2 2) 5 = [] ∧
    Constr.zero 5 5 ∈ npaConstraints 2 2 2 2 1 [(0, 0)] ∧ Constr.same 0 5 0 0 ∈ npaConstraints 2 2 2 2 1 [(0, 0)] := by
  refine ⟨by decide, ?_, by decide +kernel, by decide +kernel, by decide +kernel⟩
  intro h
  have := h (0, 0) (by simp)
  simp at this

/-- **classical value ≤ every NPA-level bound (model).**  At every level the relaxation has a feasible point
    whose objective is the classical value; hence every number `B` that bounds the objective on the feasible set
    of the level-`k` relaxation (in particular its optimum) is at least the classical value. -/
theorem classical_le_npa_model (ao bo ai bi : Nat) [NeZero ao] [NeZero bo] (hai : 0 < ai) (hbi : 0 < bi)
    (k : LevelArg) (hwf : LevelWF k) (base : Nat) (conf : List (Nat × Nat)) (hk : levelSpec k = some (base, conf))
    (prob : Prob) (pred : Pred) :
    (∃ (R : Nat → Nat → ℚ) (K : Pred),
      (∀ c ∈ npaConstraints ao bo ai bi base conf,
        Sat (PsdQ (genWords base conf ao ai bo bi).length R) ao bo R K c) ∧
      objective ao bo ai bi prob pred K = maxDetValue ao bo ai bi prob pred) ∧
    ∀ B : ℚ, (∀ (R : Nat → Nat → ℚ) (K : Pred),
        (∀ c ∈ npaConstraints ao bo ai bi base conf,
          Sat (PsdQ (genWords base conf ao ai bo bi).length R) ao bo R K c) →
        objective ao bo ai bi prob pred K ≤ B) → maxDetValue ao bo ai bi prob pred ≤ B := by
  obtain ⟨⟨f, g, hfg⟩, _⟩ := maxDetValue_isMaxDet ao bo ai bi prob pred
  obtain ⟨h1, _, h3⟩ := npa_sound_det ao bo ai bi hai hbi k hwf base conf hk prob pred f g
  refine ⟨⟨_, _, h1, h3.trans hfg⟩, fun B hB => ?_⟩
  rw [← hfg, ← h3]
  exact hB _ _ h1

/-- **Every deterministic behaviour is non-signalling**: `K(a,b|x,y) = [a = f x][b = g y]` satisfies the
    constraint system of `nonsignaling_value` (marginals `σ(a|x) = [a = f x]`, `ρ(b|y) = [b = g y]`), and the
    non-signalling objective at it is the strategy's winning probability. -/
theorem ns_contains_det (ao bo ai bi : Nat) (prob : Prob) (pred : Pred) (f : Fin ai → Fin ao) (g : Fin bi → Fin bo) :
    NsFeasible ao bo ai bi (detK (ext f) (ext g)) ∧
      objG ao bo ai bi prob pred (detK (ext f) (ext g)) = detValue ao bo ai bi prob pred f g := by
  exact ⟨nsFeasible_det (ext_lt f) (ext_lt g), objective_detK_ext ao bo ai bi prob pred f g⟩

/-- **NPA-level bound ≤ non-signalling value (model), any level, any ordered field of values.**  The assemblage
    part of the constraints emitted by `npa_constraints` *is* the description of the non-signalling polytope used
    by `nonsignaling_value`: a point `(R, K)` that satisfies the level-`k` constraints (whatever `R ⪰ 0` means)
    has a non-signalling `K` — and the two programs have the same objective `Σ prob·pred·K` — and conversely every
    non-signalling `K` satisfies the assemblage constraints. -/
theorem npa_le_ns_model {α : Type} [Field α] [LinearOrder α] [IsStrictOrderedRing α]
    (psd : Prop) (ao bo ai bi : Nat) (hai : 0 < ai) (hbi : 0 < bi) (base : Nat) (conf : List (Nat × Nat))
    (R : Nat → Nat → α) (K : Nat → Nat → Nat → Nat → α) :
    ((∀ c ∈ npaConstraints ao bo ai bi base conf, Sat psd ao bo R K c) → NsFeasible ao bo ai bi K) ∧
    (NsFeasible ao bo ai bi K → ∀ c ∈ assemblageConstrs ao bo ai bi, Sat psd ao bo R K c) :=
  ⟨fun h => nsFeasible_of_assemblageOK hai hbi ((npaConstraints_sat_iff psd).mp h).2,
    fun h => (assemblage_sat_iff psd R).mpr (assemblageOK_of_nsFeasible h)⟩

/-- **non-signalling value ≤ 1 (and ≥ 0), any ordered field of values.**  If `prob` is a probability distribution
    on the question pairs and the predicate has entries in `[0, 1]`, the objective `Σ prob·pred·K` of every
    non-signalling behaviour `K` (hence of every NPA-feasible point, by `npa_le_ns_model`) lies in `[0, 1]`. -/
theorem ns_le_one {α : Type} [Field α] [LinearOrder α] [IsStrictOrderedRing α]
    (ao bo ai bi : Nat) (prob : Nat → Nat → α) (pred K : Nat → Nat → Nat → Nat → α)
    (hp0 : ∀ x y, x < ai → y < bi → 0 ≤ prob x y)
    (hp1 : sumN ai (fun x => sumN bi (fun y => prob x y)) = 1)
    (hv : ∀ a b x y, a < ao → b < bo → x < ai → y < bi → 0 ≤ pred a b x y ∧ pred a b x y ≤ 1)
    (h : NsFeasible ao bo ai bi K) :
    0 ≤ objG ao bo ai bi prob pred K ∧ objG ao bo ai bi prob pred K ≤ 1 :=
  ⟨ns_objective_nonneg ao bo ai bi prob pred K hp0 hv h, ns_objective_le_one ao bo ai bi prob pred K hp0 hp1 hv h⟩

/-- **The block form of `nonsignaling_value` is the scalar non-signalling program.**  The code writes the
    non-signalling constraints with `2 × 2` Hermitian blocks (`K(a,b|x,y) ⪰ 0`, `Σ_b K = σ(a|x)`, `Σ_a K = ρ(b|y)`,
    `Σ_a σ = τ`, `Σ_b ρ = τ`, `tr τ = 1`) and maximises `Σ prob·pred·tr K`.  For blocks of any size `d`: the traces
    `k(a,b|x,y) = tr K(a,b|x,y)` of a feasible point of that program form a non-signalling behaviour in the sense of
    `NsFeasible` (over ℝ), with the same objective; so by `ns_le_one` the value of the block program is at most 1.
    (Conversely the harness embeds a scalar behaviour `k` as the blocks `k · τ₀`.) -/
theorem ns_blocks_trace_feasible (d ao bo ai bi : Nat)
    (Kb : Nat → Nat → Nat → Nat → Matrix (Fin d) (Fin d) ℂ) (h : NsBlocksFeasible d ao bo ai bi Kb)
    (prob : Nat → Nat → ℝ) (pred : Nat → Nat → Nat → Nat → ℝ)
    (hp0 : ∀ x y, x < ai → y < bi → 0 ≤ prob x y)
    (hp1 : sumN ai (fun x => sumN bi (fun y => prob x y)) = 1)
    (hv : ∀ a b x y, a < ao → b < bo → x < ai → y < bi → 0 ≤ pred a b x y ∧ pred a b x y ≤ 1) :
    NsFeasible ao bo ai bi (fun a b x y => (Kb a b x y).trace.re) ∧
      objG ao bo ai bi prob pred (fun a b x y => (Kb a b x y).trace.re) ≤ 1 :=
  have hns := nsFeasible_of_blocks d ao bo ai bi Kb h
  ⟨hns, (ns_le_one ao bo ai bi prob pred _ hp0 hp1 hv hns).2⟩

/-- the hypotheses of `ns_le_one` are those of `classical_le_one` (`IsDistribution`, `PredIn01`), and a
    non-trivial non-signalling behaviour exists: the deterministic one of the counterexample game -/
example : (∀ x y, x < 2 → y < 1 → 0 ≤ cexProb x y) ∧ sumN 2 (fun x => sumN 1 (fun y => cexProb x y)) = 1 ∧
    NsFeasible 2 3 2 1 (detK (ext (fun _ : Fin 2 => (1 : Fin 2))) (ext (fun _ : Fin 1 => (2 : Fin 3)))) :=
  ⟨fun _ _ _ _ => by unfold cexProb; positivity, by simp [sumN, cexProb]; norm_num,
    (ns_contains_det 2 3 2 1 cexProb cexPred _ _).1⟩

/-- a concrete instance of `npa_sound_det` evaluated by the executable model: sizes `(ao, bo, ai, bi) = (2, 3, 2, 2)`,
    level `'1+ab'`, strategy `f = (1, 0)`, `g = (2, 0)`: all 122 generated constraints hold at `(z zᵀ, K)` -/
example :
    let words := genWords 1 [(1, 1)] 2 2 3 2
    let f : Nat → Nat := fun x => if x = 0 then 1 else 0
    let g : Nat → Nat := fun y => if y = 0 then 2 else 0
    (npaConstraints 2 3 2 2 1 [(1, 1)]).length = 122 ∧
      (npaConstraints 2 3 2 2 1 [(1, 1)]).all (fun c => c.check 2 3 (detR f g words) (detK f g)) = true := by
  decide +kernel

/-- **The NPA bound is non-increasing in the level (model).**  If the word list of the lower level is a sub-list
    of the word list of the higher level, every point `(R, K)` that satisfies the constraints of the higher level
    restricts — the principal submatrix of `R` on the rows/columns of the lower level's words, **the same `K`**,
    hence the same objective — to a point that satisfies every constraint of the lower level.  So the feasible
    behaviours shrink and the optimum cannot increase with the level.  Stated for any type of values; `psdOf n R`
    is the meaning of `R ⪰ 0` for an `n × n` matrix and only has to be inherited by principal submatrices
    (`psdQ_restricts` for the notion used in `npa_sound_det`). -/
theorem npa_level_mono {α : Type} [Zero α] [One α] [Add α] [LE α] (psdOf : Nat → (Nat → Nat → α) → Prop)
    (hsubm : ∀ (n m : Nat) (φ : Nat → Nat) (R : Nat → Nat → α), (∀ i, i < m → φ i < n) → psdOf n R →
      psdOf m (fun i j => R (φ i) (φ j)))
    (ao bo ai bi baseLo baseHi : Nat) (confLo confHi : List (Nat × Nat)) (hHi : ConfOK confHi)
    (hsub : List.Sublist (genWords baseLo confLo ao ai bo bi) (genWords baseHi confHi ao ai bo bi))
    (R : Nat → Nat → α) (K : Nat → Nat → Nat → Nat → α)
    (h : ∀ c ∈ npaConstraints ao bo ai bi baseHi confHi,
      Sat (psdOf (genWords baseHi confHi ao ai bo bi).length R) ao bo R K c) :
    ∃ R' : Nat → Nat → α, ∀ c ∈ npaConstraints ao bo ai bi baseLo confLo,
      Sat (psdOf (genWords baseLo confLo ao ai bo bi).length R') ao bo R' K c :=
  npa_feasible_of_sublist psdOf hsubm hHi hsub K ⟨R, h⟩

/-- the hypothesis of `npa_level_mono` on `R ⪰ 0` holds for positive semidefiniteness of the complex matrix with
    the given rational entries: a principal submatrix (rows/columns `φ 0, φ 1, …`) of a positive semidefinite
    matrix is positive semidefinite -/
theorem psdQ_restricts (n m : Nat) (φ : Nat → Nat) (R : Nat → Nat → ℚ) (hφ : ∀ i, i < m → φ i < n)
    (h : PsdQ n R) : PsdQ m (fun i j => R (φ i) (φ j)) := by
  open scoped ComplexOrder in exact h.submatrix (fun i : Fin m => (⟨φ i, hφ i i.2⟩ : Fin n))

/-- **The levels of the property are nested, for all alphabet sizes**: the words of level `1` are a sub-list of
    those of level `'1+ab'`, which are a sub-list of those of level `2`; integer levels `k ≤ k'` are nested
    (prefixes).  With `npa_level_mono`: bound(2) ≤ bound('1+ab') ≤ bound(1) in the model. -/
theorem npa_levels_nested (ao ai bo bi : Nat) :
    levelSpec (.int 1) = some (1, []) ∧ levelSpec (.str "1+ab") = some (1, [(1, 1)]) ∧
    levelSpec (.int 2) = some (2, []) ∧
    List.Sublist (genWords 1 [] ao ai bo bi) (genWords 1 [(1, 1)] ao ai bo bi) ∧
    List.Sublist (genWords 1 [(1, 1)] ao ai bo bi) (genWords 2 [] ao ai bo bi) ∧
    ∀ k k', k ≤ k' → List.Sublist (genWords k [] ao ai bo bi) (genWords k' [] ao ai bo bi) :=
  ⟨rfl, by decide, rfl, (genWords_nested ao ai bo bi).1, (genWords_nested ao ai bo bi).2.1,
    (genWords_nested ao ai bo bi).2.2⟩

open scoped ComplexOrder in
/-- **The NPA constraint generator is sound for quantum strategies with commuting projective measurements, every
    dimension, every size, every level.**  Let `A x a`, `B y b` be projective measurements on `ℂ^d` (Hermitian
    idempotents, orthogonal for different answers to the same question, summing to the identity) such that every
    operator of Alice commutes with every operator of Bob, and `psi` a unit vector (`QStrategy`; tensor-product
    strategies `A ⊗ 1`, `1 ⊗ B` are the special case).  With the moment matrix
    `R[i, j] = ⟨psi| words[i]† · words[j] |psi⟩` and the behaviour `K(a,b|x,y) = ⟨psi| A x a · B y b |psi⟩`
    (whose objective value `Σ prob·pred·K` is by definition the winning probability of the strategy),
    `(R, K)` satisfies **every** constraint that the mirror of `npa_constraints` emits, and `R` is positive
    semidefinite (a Gram matrix).  Hence every value achieved by such a strategy is at most every NPA-level bound
    in the model.  The rule `_reduce` is sound for operators, not only for 0/1 values (`SymRep.reduceFuel_op`). -/
theorem npa_sound_quantum (d ao bo ai bi : Nat) (hai : 0 < ai) (hbi : 0 < bi) (k : LevelArg) (hwf : LevelWF k)
    (base : Nat) (conf : List (Nat × Nat)) (hk : levelSpec k = some (base, conf))
    (S : QStrategy d ao bo ai bi) :
    let words := genWords base conf ao ai bo bi
    (∀ c ∈ npaConstraints ao bo ai bi base conf,
      Sat (Matrix.of fun i j : Fin words.length => S.R words i j).PosSemidef ao bo (S.R words) S.K c) ∧
    (Matrix.of fun i j : Fin words.length => S.R words i j).PosSemidef ∧
    (∀ a b x y, 0 ≤ S.K a b x y) :=
  S.npa_sound hai hbi (levelSpec_confOK k hwf base conf hk)

/-- the structure `QStrategy` is inhabited for every alphabet (here sizes `(2, 3, 2, 2)`, dimension 1: both
    players always answer 0); genuinely quantum instances are exercised numerically by the harness -/
example : Nonempty (QStrategy 1 2 3 2 2) :=
  ⟨.ofHerm (isHermCommMeas_const 2 2 (ca := 0) (cb := 0) (by norm_num) (by norm_num)) (fun _ => 1) (by simp [dotProduct])⟩

end Npa

section Povm
open Toq.Npa Matrix
open scoped ComplexOrder Kronecker

/-- **Naimark's dilation theorem (finite dimension, explicit).**  Every POVM `E 0 … E (k-1)` on `ℂ^ι` (positive
    semidefinite matrices summing to the identity, `k ≥ 1`) is the compression of a *projective* measurement: there are
    Hermitian idempotents `P 0 … P (k-1)` on `ℂ^ι ⊕ (ℂ^k ⊗ ℂ^ι)`, pairwise orthogonal, summing to the identity, with
    `Jᴴ P a J = E a` for the isometric inclusion `J` of the first summand. -/
theorem naimark_dilation {ι : Type} [Fintype ι] [DecidableEq ι] (k : Nat) (hk : 0 < k) (E : Nat → Matrix ι ι ℂ)
    (h : IsPovmN k E) :
    ∃ P : Nat → Matrix (NkIdx ι k) (NkIdx ι k) ℂ,
      (∀ a, (P a)ᴴ = P a) ∧ (∀ a, P a * P a = P a) ∧ (∀ a b, a ≠ b → P a * P b = 0) ∧ sumN k P = 1 ∧
      (nkJ ι k)ᴴ * nkJ ι k = 1 ∧ ∀ a, a < k → (nkJ ι k)ᴴ * P a * nkJ ι k = E a := by
  refine ⟨dilP k E, (dilP_proj k E).herm, (dilP_proj k E).idem, fun a b hab => (dilP_proj k E).orth hab,
    dilP_sum k hk E h, nkJ_isometry, fun a ha => ?_⟩
  rw [dilP_compress k E h, if_pos ha]

/-- **Every POVM strategy is a commuting projective strategy in a larger dimension with the same behaviour.**
    For POVMs `E x a` on `ℂ^dA`, `F y b` on `ℂ^dB` and a unit vector `psi ∈ ℂ^dA ⊗ ℂ^dB` there are a dimension `D`
    and a `QStrategy` on `ℂ^D` (projectors `P x a ⊗ 1`, `1 ⊗ Q y b` from the Naimark dilations, state
    `(J_A ⊗ J_B) psi`) with `⟨psi'| A x a · B y b |psi'⟩ = ⟨psi| E x a ⊗ F y b |psi⟩` for all questions and answers
    of the game. -/
theorem povm_strategy_dilation (dA dB ao bo ai bi : Nat) (hao : 0 < ao) (hbo : 0 < bo)
    (T : PovmStrategy dA dB ao bo ai bi) : ∃ (D : Nat) (S : QStrategy D ao bo ai bi), S.K = T.K :=
  T.exists_dilation hao hbo

/-- **The NPA constraint generator is sound for ALL finite-dimensional quantum strategies (POVMs, any dimensions,
    every size, every level).**  For every tensor-product strategy with POVMs `E x a`, `F y b` and unit vector `psi`
    there is a moment matrix `R` such that `(R, K)` with the strategy's behaviour
    `K(a,b|x,y) = ⟨psi| E x a ⊗ F y b |psi⟩` satisfies **every** constraint the mirror of `npa_constraints` emits at
    level `k`, with `R ⪰ 0`.  Hence the winning probability `Σ prob·pred·K` of every such strategy — in particular of
    the POVMs the see-saw heuristic works with — is at most every NPA-level bound in the model. -/
theorem npa_sound_povm (dA dB ao bo ai bi : Nat) (hao : 0 < ao) (hbo : 0 < bo) (hai : 0 < ai) (hbi : 0 < bi)
    (k : LevelArg) (hwf : LevelWF k) (base : Nat) (conf : List (Nat × Nat)) (hk : levelSpec k = some (base, conf))
    (T : PovmStrategy dA dB ao bo ai bi) :
    let words := genWords base conf ao ai bo bi
    ∃ R : Nat → Nat → ℂ,
      (∀ c ∈ npaConstraints ao bo ai bi base conf,
        Sat (Matrix.of fun i j : Fin words.length => R i j).PosSemidef ao bo R T.K c) ∧
      (Matrix.of fun i j : Fin words.length => R i j).PosSemidef ∧
      (∀ a b x y, 0 ≤ T.K a b x y) :=
  npa_sound_of_realised hai hbi (levelSpec_confOK k hwf base conf hk) T.K (T.exists_dilation hao hbo)

/-- a genuinely non-projective strategy exists for every alphabet (here sizes `(2, 3, 2, 2)`): Alice's POVM is
    `(½, ½)` in dimension 1 -/
example : Nonempty (PovmStrategy 1 1 2 3 2 2) :=
  ⟨{ E := fun _ a => if a < 2 then Matrix.diagonal (fun _ => (1 / 2 : ℂ)) else 0
     F := fun _ => constMeas 0
     psi := fun _ => 1
     E_povm := fun _ _ => ⟨fun a ha => by
         simp only [ha, if_true]
         exact Matrix.PosSemidef.diagonal (fun _ => by
           show (0 : ℂ) ≤ 1 / 2
           exact Complex.nonneg_iff.mpr ⟨by norm_num, by norm_num⟩), by
         ext i j
         simp [sumN, Matrix.diagonal, Matrix.one_apply, Subsingleton.elim i j]
         norm_num⟩
     F_povm := fun _ _ => constMeas_povm 0 3 (by norm_num)
     psi_norm := by simp [dotProduct] }⟩

/-- **Every value a POVM strategy achieves is at most every NPA-level bound (model).**  Let `B` be any number that
    bounds `Re` of the objective `Σ prob·pred·K` on the feasible set of the level-`k` relaxation (complex Hermitian
    moment matrices; in particular `B` = its optimum).  Then the winning probability of every finite-dimensional
    tensor-product POVM strategy is at most `B`. -/
theorem povm_value_le_npa_bound (dA dB ao bo ai bi : Nat) (hao : 0 < ao) (hbo : 0 < bo) (hai : 0 < ai) (hbi : 0 < bi)
    (k : LevelArg) (hwf : LevelWF k) (base : Nat) (conf : List (Nat × Nat)) (hk : levelSpec k = some (base, conf))
    (prob : Nat → Nat → ℝ) (pred : Nat → Nat → Nat → Nat → ℝ) (B : ℝ)
    (hB : ∀ (R : Nat → Nat → ℂ) (K : Nat → Nat → Nat → Nat → ℂ),
      (∀ c ∈ npaConstraints ao bo ai bi base conf,
        Sat (Matrix.of fun i j : Fin (genWords base conf ao ai bo bi).length => R i j).PosSemidef ao bo R K c) →
      objRe ao bo ai bi prob pred K ≤ B)
    (T : PovmStrategy dA dB ao bo ai bi) :
    (sumN ai fun x => sumN bi fun y => sumN ao fun a => sumN bo fun b =>
      prob x y * pred a b x y * (star T.psi ⬝ᵥ ((T.E x a ⊗ₖ T.F y b) *ᵥ T.psi)).re) ≤ B := by
  exact (objRe_ite prob pred _).symm.le.trans
    (objRe_le_of_realised hai hbi (levelSpec_confOK k hwf base conf hk) T.K (T.exists_dilation hao hbo) prob pred B hB)

/-- **Feasible points of the see-saw programs are quantum strategies.**  Let `σ x a`, `τ` satisfy the constraints of
    `__optimize_alice` (`σ x a ⪰ 0`, `Σ_a σ x a = τ` for every question, `tr τ = 1`, `τ ⪰ 0` — an assemblage; `τ` may be
    singular) and `B y b` those of `__optimize_bob` (POVMs), in any dimension `d`.  Then there is a tensor-product POVM
    strategy on `ℂ^d ⊗ ℂ^d` — state `vec √τ`, Alice `(√τ⁺ σ x a √τ⁺ + [a=0](1 − Π))ᵀ`, Bob `B y b` — whose behaviour
    is exactly the coefficient `tr(B y bᴴ σ x a)` of `prob[x,y]·pred[a,b,x,y]` in the objective of both programs; and a
    commuting projective strategy with that behaviour.  So every value the see-saw reports is *achieved*. -/
theorem seesaw_point_is_quantum (d ao bo ai bi : Nat) (hao : 0 < ao) (hbo : 0 < bo) (P : SeesawPoint d ao bo ai bi) :
    (∃ T : PovmStrategy d d ao bo ai bi, T.K = P.K) ∧ ∃ (D : Nat) (S : QStrategy D ao bo ai bi), S.K = P.K :=
  ⟨⟨P.toPovm hao, P.toPovm_K hao⟩, P.exists_strategy hao hbo⟩

/-- **The see-saw programs lie inside every NPA level.**  For every feasible point `(σ, τ, B)` of the two programs
    of `quantum_value_lower_bound` (any dimension) there is a moment matrix `R ⪰ 0` such that `(R, K)` with
    `K(a,b|x,y) = tr(B y bᴴ σ x a)` satisfies every constraint the mirror of `npa_constraints` emits at level `k`. -/
theorem npa_sound_seesaw (d ao bo ai bi : Nat) (hao : 0 < ao) (hbo : 0 < bo) (hai : 0 < ai) (hbi : 0 < bi)
    (k : LevelArg) (hwf : LevelWF k) (base : Nat) (conf : List (Nat × Nat)) (hk : levelSpec k = some (base, conf))
    (P : SeesawPoint d ao bo ai bi) :
    let words := genWords base conf ao ai bo bi
    ∃ R : Nat → Nat → ℂ,
      (∀ c ∈ npaConstraints ao bo ai bi base conf,
        Sat (Matrix.of fun i j : Fin words.length => R i j).PosSemidef ao bo R P.K c) ∧
      (Matrix.of fun i j : Fin words.length => R i j).PosSemidef ∧
      (∀ a b x y, 0 ≤ P.K a b x y) :=
  npa_sound_of_realised hai hbi (levelSpec_confOK k hwf base conf hk) P.K (P.exists_strategy hao hbo)

/-- **Every quantum lower bound is at most every NPA-level bound (model).**  The number both see-saw programs
    maximise, `real(Σ prob[x,y]·pred[a,b,x,y]·trace(bob_povms[y,b]ᴴ @ alice_povms[x,a]))`, evaluated at ANY feasible point
    of the two programs (in particular at the point whose value `quantum_value_lower_bound` returns, a local optimum or
    not), is at most every number `B` that bounds the objective on the feasible set of the level-`k` NPA relaxation. -/
theorem seesaw_value_le_npa_bound (d ao bo ai bi : Nat) (hao : 0 < ao) (hbo : 0 < bo) (hai : 0 < ai) (hbi : 0 < bi)
    (k : LevelArg) (hwf : LevelWF k) (base : Nat) (conf : List (Nat × Nat)) (hk : levelSpec k = some (base, conf))
    (prob : Nat → Nat → ℝ) (pred : Nat → Nat → Nat → Nat → ℝ) (B : ℝ)
    (hB : ∀ (R : Nat → Nat → ℂ) (K : Nat → Nat → Nat → Nat → ℂ),
      (∀ c ∈ npaConstraints ao bo ai bi base conf,
        Sat (Matrix.of fun i j : Fin (genWords base conf ao ai bo bi).length => R i j).PosSemidef ao bo R K c) →
      objRe ao bo ai bi prob pred K ≤ B)
    (P : SeesawPoint d ao bo ai bi) :
    (sumN ai fun x => sumN bi fun y => sumN ao fun a => sumN bo fun b =>
      prob x y * pred a b x y * ((P.B y b)ᴴ * P.sigma x a).trace.re) ≤ B := by
  exact (objRe_ite prob pred _).symm.le.trans
    (objRe_le_of_realised hai hbi (levelSpec_confOK k hwf base conf hk) P.K (P.exists_strategy hao hbo) prob pred B hB)

/-- **Every quantum value is at most the non-signalling value and at most 1.**  The real parts of the behaviour of a
    commuting projective strategy — hence, by the dilation theorems, of every POVM strategy and every see-saw point —
    form a non-signalling behaviour in the sense of `NsFeasible` (the feasible set of `nonsignaling_value`), so for a
    probability distribution `prob` and a predicate with entries in `[0, 1]` the winning probability lies in `[0, 1]`. -/
theorem quantum_le_ns_le_one (dA dB ao bo ai bi : Nat) (hao : 0 < ao) (hbo : 0 < bo)
    (T : PovmStrategy dA dB ao bo ai bi) (prob : Nat → Nat → ℝ) (pred : Nat → Nat → Nat → Nat → ℝ)
    (hp0 : ∀ x y, x < ai → y < bi → 0 ≤ prob x y)
    (hp1 : sumN ai (fun x => sumN bi (fun y => prob x y)) = 1)
    (hv : ∀ a b x y, a < ao → b < bo → x < ai → y < bi → 0 ≤ pred a b x y ∧ pred a b x y ≤ 1) :
    NsFeasible ao bo ai bi (fun a b x y => (T.K a b x y).re) ∧
      0 ≤ objRe ao bo ai bi prob pred T.K ∧ objRe ao bo ai bi prob pred T.K ≤ 1 := by
  obtain ⟨D, S, hS⟩ := T.exists_dilation hao hbo
  have hns : NsFeasible ao bo ai bi (fun a b x y => (T.K a b x y).re) := by
    rw [← hS]; exact S.nsFeasible_re
  rw [objRe_eq_objG]
  exact ⟨hns, ns_le_one ao bo ai bi prob pred _ hp0 hp1 hv hns⟩

/-- the structure `SeesawPoint` is inhabited with a SINGULAR `τ` (dimension 2, `τ = diag(1, 0)`, sizes `(2, 3, 2, 2)`):
    the theorems above do not assume an invertible reduced state -/
example : Nonempty (SeesawPoint 2 2 3 2 2) :=
  have hτ : (Matrix.diagonal fun i : Fin 2 => if i = 0 then (1 : ℂ) else 0).PosSemidef :=
    Matrix.PosSemidef.diagonal fun i => by
      show (0 : ℂ) ≤ if i = 0 then 1 else 0
      split <;> simp
  ⟨{ sigma := fun _ a => if a = 0 then Matrix.diagonal (fun i => if i = 0 then 1 else 0) else 0
     tau := Matrix.diagonal (fun i => if i = 0 then 1 else 0)
     B := fun _ => constMeas 0
     sigma_psd := fun _ a _ _ => by
       split
       · exact hτ
       · exact Matrix.PosSemidef.zero
     sigma_sum := fun _ _ =>
       sumN_ite_eq_swap (fun _ => (Matrix.diagonal (fun i : Fin 2 => if i = 0 then (1 : ℂ) else 0))) 0 2 (by norm_num)
     tau_tr := by simp [Matrix.trace]
     tau_psd := hτ
     B_povm := fun _ _ => constMeas_povm 0 3 (by norm_num) }⟩

/-- **Mixed states: every finite-dimensional quantum strategy is inside every NPA level.**  For a density matrix `ρ`
    on `ℂ^dA ⊗ ℂ^dB` (positive semidefinite, trace 1) and POVMs `E x a`, `F y b`, the behaviour
    `K(a,b|x,y) = tr((E x a ⊗ F y b) ρ)` — Alice's measurements prepare the assemblage `σ x a = tr_A[(E x a ⊗ 1) ρ]` on
    Bob's side, a feasible point of the see-saw programs — comes with a moment matrix `R ⪰ 0` such that `(R, K)` satisfies
    every constraint of the mirror of `npa_constraints` at level `k`; and the winning probability `Σ prob·pred·K` is at
    most every number `B` that bounds the objective on the feasible set of that level. -/
theorem npa_sound_mixed (dA dB ao bo ai bi : Nat) (hao : 0 < ao) (hbo : 0 < bo) (hai : 0 < ai) (hbi : 0 < bi)
    (k : LevelArg) (hwf : LevelWF k) (base : Nat) (conf : List (Nat × Nat)) (hk : levelSpec k = some (base, conf))
    (T : MixedStrategy dA dB ao bo ai bi) :
    (∃ R : Nat → Nat → ℂ,
      (∀ c ∈ npaConstraints ao bo ai bi base conf,
        Sat (Matrix.of fun i j : Fin (genWords base conf ao ai bo bi).length => R i j).PosSemidef ao bo R T.K c) ∧
      (Matrix.of fun i j : Fin (genWords base conf ao ai bo bi).length => R i j).PosSemidef ∧
      (∀ a b x y, 0 ≤ T.K a b x y)) ∧
    ∀ (prob : Nat → Nat → ℝ) (pred : Nat → Nat → Nat → Nat → ℝ) (B : ℝ),
      (∀ (R : Nat → Nat → ℂ) (K : Nat → Nat → Nat → Nat → ℂ),
        (∀ c ∈ npaConstraints ao bo ai bi base conf,
          Sat (Matrix.of fun i j : Fin (genWords base conf ao ai bo bi).length => R i j).PosSemidef ao bo R K c) →
        objRe ao bo ai bi prob pred K ≤ B) →
      (sumN ai fun x => sumN bi fun y => sumN ao fun a => sumN bo fun b =>
        prob x y * pred a b x y * ((T.E x a ⊗ₖ T.F y b) * T.rho).trace.re) ≤ B := by
  have h := npa_sound_of_realised (base := base) hai hbi (levelSpec_confOK k hwf base conf hk) T.K
    (T.exists_strategy hao hbo)
  refine ⟨h, fun prob pred B hB => ?_⟩
  obtain ⟨R, hR, _⟩ := h
  exact (objRe_ite prob pred _).symm.le.trans (hB R T.K hR)

end Povm

section Extra

/-- **`process_iteration` enumerates every strategy exactly once**: decoding the counter `i < b ^ n` into its `n`
    base-`b` digits (`divmod` loop, most significant digit first) is a bijection from `{0, …, b^n − 1}` onto the answer
    functions `Fin n → Fin b` of the enumerated player, for every alphabet size `b ≥ 1` and number of questions `n`. -/
theorem strategy_enumeration_bijective (b n : Nat) (hb : 0 < b) : Function.Bijective (decStrategy b n hb) :=
  decStrategy_eq b n hb ▸ (strategyEquiv b n).bijective

/-- **the multiprocessing branch computes what the loop computes**: `max(pool.starmap(process_iteration, [(i, …) for i
    in range(N)]))` equals the running maximum of the single-core loop, for every number of iterations `N` (both are
    `-inf`/error only for `N = 0`). -/
theorem pool_branch_eq_loop (N nbo nbi : Nat) (t : Pred) (nao nai : Nat) :
    classicalValuePool N nbo nbi t nao nai = classicalValueLoop N nbo nbi t nao nai :=
  classicalValuePool_eq_loop N nbo nbi t nao nai

/-- **`classical_value` as written — with the branch `if num_iterations > 1000: pool else: loop` — is the classical
    value**, for all numbers of answers (≥ 1) and questions, every distribution and predicate: the maximum winning
    probability over all pairs of deterministic answer functions. -/
theorem classicalValueCode_eq_maxDet (ao bo ai bi : Nat) [NeZero ao] [NeZero bo] (prob : Prob) (pred : Pred) :
    classicalValueCode ao bo ai bi prob pred = some (maxDetValue ao bo ai bi prob pred) :=
  (classicalValueCode_eq_fixed ao bo ai bi prob pred).trans (classicalValueFixed_eq_maxDet ao bo ai bi prob pred)

/-- both branches are reachable: 1024 strategies go through the pool, 512 through the loop -/
example : 2 ^ 10 > 1000 ∧ ¬ 2 ^ 9 > 1000 := by decide

/-- **Product game, predicate, EVERY entry**: for `r ≥ 1` repetitions and all indices `a < ao^r`, `b < bo^r`,
    `x < ai^r`, `y < bi^r` of the constructed tensor, the entry is the product over the rounds `k < r` of the base
    predicate at the `k`-th base-`ao`/`bo`/`ai`/`bi` digits (most significant first) of the indices: the constructed
    game is the `r`-fold product game in toqito's tensor layout. -/
theorem productGame_pred_total (ao bo ai bi r : Nat) (hr : 0 < r) (pred : Pred) (a b x y : Nat)
    (ha : a < ao ^ r) (hb : b < bo ^ r) (hx : x < ai ^ r) (hy : y < bi ^ r) :
    productPred ao bo ai bi r pred a b x y
      = prodFn r (fun k => pred (dec (fun _ => ao) r a k) (dec (fun _ => bo) r b k)
          (dec (fun _ => ai) r x k) (dec (fun _ => bi) r y k)) :=
  productPred_total ao bo ai bi r hr pred a b x y ha hb hx hy

/-- **Product game, distribution, EVERY entry**: for `r ≥ 1` and all `x < ai^r`, `y < bi^r` the entry of `tensor(prob_mat, r)`
    is the product over the rounds of the base probabilities at the digits of `x` and `y`. -/
theorem productGame_prob_total (ai bi r : Nat) (hr : 0 < r) (prob : Prob) (x y : Nat)
    (hx : x < ai ^ r) (hy : y < bi ^ r) :
    productProb ai bi r prob x y = prodFn r (fun k => prob (dec (fun _ => ai) r x k) (dec (fun _ => bi) r y k)) :=
  productProb_total ai bi r hr prob x y hx hy

/-- **The product game is a game**: if `prob` is a probability distribution and `pred` has entries in `[0, 1]`, the
    same holds for the tensors the `reps` constructor builds (on the product alphabets). -/
theorem productGame_wellformed (ao bo ai bi r : Nat) (hr : 0 < r) (prob : Prob) (pred : Pred)
    (hp : IsDistribution ai bi prob) (hv : PredIn01 ao bo ai bi pred) :
    IsDistribution (ai ^ r) (bi ^ r) (productProb ai bi r prob) ∧
      PredIn01 (ao ^ r) (bo ^ r) (ai ^ r) (bi ^ r) (productPred ao bo ai bi r pred) :=
  ⟨productProb_isDistribution ai bi r hr prob hp, productPred_in01 ao bo ai bi r hr pred hv⟩

/-- **Playing the rounds independently multiplies the winning probabilities**: the deterministic strategy of the
    `r`-fold game that answers round `k` with the base strategies `(f k, g k)` wins with probability
    `Π_k detValue (f k) (g k)`; consequently the classical value of the `r`-fold game is at least the `r`-th power of
    the classical value of the base game. -/
theorem productGame_strategy_value (ao bo ai bi r : Nat) [NeZero ao] [NeZero bo] (hr : 0 < r) (prob : Prob) (pred : Pred) :
    (∀ (f : Nat → Fin ai → Fin ao) (g : Nat → Fin bi → Fin bo),
      detValue (ao ^ r) (bo ^ r) (ai ^ r) (bi ^ r) (productProb ai bi r prob) (productPred ao bo ai bi r pred)
          (productStrategyFin ai ao r f) (productStrategyFin bi bo r g)
        = prodFn r (fun k => detValue ao bo ai bi prob pred (f k) (g k))) ∧
    (maxDetValue ao bo ai bi prob pred) ^ r
      ≤ maxDetValue (ao ^ r) (bo ^ r) (ai ^ r) (bi ^ r) (productProb ai bi r prob) (productPred ao bo ai bi r pred) :=
  ⟨fun f g => detValue_product ao bo ai bi r hr prob pred f g, (maxDetValue_product_ge ao bo ai bi r hr prob pred).2⟩

/-- **BCS game, question distribution**: with `m ≥ 1` constraints, the referee picks a constraint uniformly and then
    one of the variables it depends on uniformly: `prob_mat[j, i] = 1 / (m · #dep_j)` if constraint `j` depends on
    variable `i` and `0` otherwise (`#dep_j > 0` then); "depends" means that flipping variable `i` changes the value
    of the constraint for some assignment; and if every constraint depends on some variable this is a probability
    distribution. -/
theorem bcs_prob_spec (m n : Nat) (c : Nat → Nat → Int) (hm : 0 < m) :
    (∀ j i, i < n → bcsProb m n c j i
        = (if bcsDepends n c j i = true then 1 / ((m : ℚ) * (bcsDepCount n c j : ℚ)) else 0) ∧
      (bcsDepends n c j i = true → 0 < (m : ℚ) * (bcsDepCount n c j : ℚ))) ∧
    (∀ j i, i < n → (bcsDepends n c j i = true ↔
      ∃ s : Nat → Nat, (∀ k, k < n → s k < 2) ∧
        c j (enc (fun _ => 2) (flipAt s i) n) ≠ c j (enc (fun _ => 2) s n))) ∧
    ((∀ j, j < m → ∃ i, i < n ∧ bcsDepends n c j i = true) → IsDistribution m n (bcsProb m n c)) :=
  ⟨fun j i hi => ⟨bcsProb_formula m n c j i, fun hd =>
      mul_pos (Nat.cast_pos.2 hm) (Nat.cast_pos.2 (bcsDepCount_pos n c j i hi hd))⟩,
    fun j i hi => bcsDepends_iff n c j i hi, fun hdep => bcsProb_isDistribution m n c hm hdep⟩

end Extra

section SeesawPrograms
open Toq.Seesaw

/-- **Both see-saw builders maximise the same bilinear form.**  The objective expression of `__optimize_alice`
    (`bob_povms[y,b].conj().T @ alice_povms[x,a]`, Bob's operators given as arrays in the first round and as solved cvxpy
    variables afterwards) and that of `__optimize_bob` (`bob_povms[y,b].H @ alice_povms[x,a].value`), accumulated in the
    code's loop order with `cvxpy.real` at the end, are the same function of the operators, namely
    `Σ_x Σ_y Σ_a Σ_b prob[x,y]·pred[a,b,x,y]·Re tr(B[y,b]ᴴ A[x,a])` — every term carries the predicate as a WEIGHT. -/
theorem seesaw_objectives_agree (d ao bo ai bi : Nat) (prob : Prob) (pred : Pred) (A B : Fam) :
    aliceObjective d ao bo ai bi prob pred A (fun y b => BobEntry.arr (B y b)) = bobObjective d ao bo ai bi prob pred A B ∧
    aliceObjective d ao bo ai bi prob pred A (fun y b => BobEntry.var (B y b)) = bobObjective d ao bo ai bi prob pred A B ∧
    bobObjective d ao bo ai bi prob pred A B = seesawWin d ao bo ai bi prob pred A B :=
  ⟨aliceObjective_arr_eq_bobObjective d ao bo ai bi prob pred A B,
    aliceObjective_var_eq_bobObjective d ao bo ai bi prob pred A B,
    bobObjective_eq_seesawWin d ao bo ai bi prob pred A B⟩

/-- **Every deterministic strategy is a feasible point of both see-saw programs with its classical winning
    probability.**  For answer functions `f`, `g` into the alphabets and any `τ` with `tr τ = 1`: the assemblage
    `A[x,a] = [a = f x]·τ` satisfies every equality constraint `__optimize_alice` emits (`Σ_a A[x,a] = τ`, `tr τ = 1`), the
    measurements `B[y,b] = [b = g y]·1` every equality constraint of `__optimize_bob` (`Σ_b B[y,b] = 1`), and both
    objectives evaluate to `Σ_{x,y} prob x y · pred (f x) (g y) x y`. -/
theorem seesaw_contains_det (d ao bo ai bi : Nat) (prob : Prob) (pred : Pred) (f g : Nat → Nat) (tau : CMat)
    (hf : ∀ x, x < ai → f x < ao) (hg : ∀ y, y < bi → g y < bo) (htr : trace d tau = 1) :
    (∀ c ∈ aliceConstraints ao ai, c.holdsEq d ao bo (detAlice f tau) (detBob g) tau = true) ∧
    (∀ c ∈ bobConstraints bo bi, c.holdsEq d ao bo (detAlice f tau) (detBob g) tau = true) ∧
    bobObjective d ao bo ai bi prob pred (detAlice f tau) (detBob g) = detValueN ai bi prob pred f g ∧
    aliceObjective d ao bo ai bi prob pred (detAlice f tau) (fun y b => BobEntry.arr (detBob g y b))
      = detValueN ai bi prob pred f g :=
  ⟨det_alice_feasible_eqs d ao bo ai f tau (detBob g) hf htr, det_bob_feasible_eqs d ao bo bi g (detAlice f tau) tau hg,
    bobObjective_det d ao bo ai bi prob pred f g tau hf hg htr, aliceObjective_det d ao bo ai bi prob pred f g tau hf hg htr⟩

/-- the programs have the sizes the code emits: `ai·(ao+1) + 2` constraints for Alice, `bi·(bo+1)` for Bob (how many of them
    are `>> 0` is `aliceConstraints_psd`, `bobConstraints_psd`) -/
example : (aliceConstraints 2 3).length = 3 * (2 + 1) + 2 ∧ (bobConstraints 3 2).length = 2 * (3 + 1) :=
  ⟨aliceConstraints_length 2 3, bobConstraints_length 3 2⟩

/-- **What `quantum_value_lower_bound` returns.**  Given the values `vals i` returned by the successive solves of
    `__optimize_bob` in outer iteration `i` (inputs: the solver and the random start POVMs are not modelled), the loop
    `best_lower_bound = -inf; for _ in range(iters): it_diff = 1; prev_win = -1; best = -inf; while it_diff > tol: …`
    returns the **maximum of all values it consumed** (`none` = `-inf` iff it consumed none) — in particular one of them,
    i.e. the value of the programs at an actual feasible point ("an achieved value") — and it performs exactly two solves
    per consumed value. -/
theorem seesaw_loop_returns_max (tol : Rat) (vals : Nat → List Rat) (iters : Nat) :
    IsListMax (consumed tol vals iters) (seesawLoop tol vals iters).value ∧
    (seesawLoop tol vals iters).solves = 2 * (consumed tol vals iters).length :=
  ⟨seesawLoop_value_isMax tol vals iters, solves_eq tol vals iters⟩

/-- **When the inner loop stops.**  For `tol < 1` every inner loop runs at least one round (if the solver delivers a
    value), and if it terminates it does so at the first round whose increase `lower_bound − prev_win` (starting from
    `prev_win = −1`) is at most `tol`: all earlier increases exceed `tol`.  For `tol ≥ 1` no round runs at all and the
    function returns `-inf` without solving (documented corner outside the property's quantifier). -/
theorem seesaw_loop_stop_rule (tol : Rat) :
    (tol < 1 → ∀ vals : List Rat, (vals ≠ [] → 1 ≤ (innerLoop tol vals).steps) ∧
      ((innerLoop tol vals).terminated = true →
        (innerLoop tol vals).steps = lead tol (-1) vals + 1 ∧
        (∀ δ, (incrs (-1) vals)[lead tol (-1) vals]? = some δ → δ ≤ tol) ∧
        (∀ k δ, k < lead tol (-1) vals → (incrs (-1) vals)[k]? = some δ → δ > tol))) ∧
    (1 ≤ tol → ∀ (vals : Nat → List Rat) (n : Nat),
      (seesawLoop tol vals n).value = none ∧ (seesawLoop tol vals n).solves = 0) :=
  ⟨fun htol vals => ⟨fun hv => innerLoop_steps_pos tol vals htol hv, fun ht => innerLoop_stop_rule tol vals htol ht⟩,
    fun htol vals n => seesawLoop_of_one_le_tol tol vals htol n⟩

end SeesawPrograms

end Toq.C07
