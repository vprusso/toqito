import Toq.Model.Entangle
import Toq.Spec.Entangle
import Toq.Proofs.Entangle
import Toq.Proofs.Cert
import Toq.Proofs.RatReal
import Toq.Proofs.EntangleSk
import Toq.Proofs.EntangleSkDps
import Mathlib.LinearAlgebra.Matrix.Charpoly.Basic
/-!
# C14 — entanglement / entropy quantities: closed forms and local-unitary invariance

Vocabulary in `Toq/Spec/Entangle.lean` and `Toq/Spec/EntangleSk.lean`, executable models in `Toq/Model/Entangle.lean` and
`Toq/Model/EntangleSk{,Dps}.lean`, helper lemmas in `Toq/Proofs/Entangle.lean` and `Toq/Proofs/EntangleSk{,Dps}.lean`.

A bipartite vector `ψ ∈ C^{dA} ⊗ C^{dB}` has the amplitude matrix `A[a,b] = ψ[a·dB + b]`; its **Schmidt rank** is
`Matrix.rank A`, it is a **product vector** iff `A = x yᵀ`.  The planted states of the correspondence harness are
`ψ = (U ⊗ V) Σ_i s_i |i i⟩`, whose amplitude matrix is `U · planted s · Vᵀ`.

"The fixed code" below is `schmidt_rank` of /repo at commit `3fe3678` (`np.reshape(rho, dim)`); "the pre-fix reshape" `reshapeRevC` mirrors
the code before that commit (`np.reshape(rho, dim[::-1])`, C order), which is wrong for unequal local dimensions (DESIGN.md, finding `c14_1`).

Proved here: what the reshapes of `schmidt_rank`, `schmidt_decomposition`, `_operator_schmidt_rank` read, and that the mirrors return the
rank of the amplitude / realigned matrix for every accepted form of `dim` (through `resolveDim`); rank certificates; invariance of the Schmidt
ranks, the negativity, the purity and the spectrum under local unitaries, and their values on planted states (negativity and log-negativity from the
Gram identity of `ρ^{T_B}`, entropy, concurrence, `l1`-coherence); the `sk_vector_norm` mirror (`skVecNormSq`: the `k` largest squared
coefficients); and the certified brackets of the S(k) operator norm: weak duality of the PPT, reduction-map and two-copy relaxations and
soundness of their executable checkers (`checkSkUpperPPT/Red/Dps_sound`, `checkSkLower_sound`).
-/
namespace Toq.C14
open Toq.Entangle Matrix
open scoped ComplexOrder MatrixOrder Kronecker

/-- **`schmidt_rank` reads the amplitude matrix.**  `np.reshape(rho, dim)` with `dim = [dA, dB]` (the fixed code) has
    entry `[a, b] = ψ[a·dB + b]` for all sizes. -/
theorem reshapeDim_eq_ampMat {α : Type} (dA dB : Nat) (ψ : Nat → α) (a b : Nat) :
    reshapeDim dA dB ψ a b = ampMat dB ψ a b :=
  reshapeDim_apply dA dB ψ a b

/-- **`schmidt_decomposition` reads the transposed amplitude matrix.**  `rho.reshape(dim[::-1], order="F")` has shape
    `(dB, dA)` and entry `[b, a] = ψ[a·dB + b]`; its left / right singular vectors are therefore the `B` / `A` side
    factors, which is why the code returns `(s, vt_mat, u_mat)`. -/
theorem reshapeRevF_eq_ampMat_transpose {α : Type} (dA dB : Nat) (ψ : Nat → α) (b a : Nat) :
    reshapeRevF dA dB ψ b a = ampMat dB ψ a b :=
  congrArg ψ ((flatF_two (fnOfList [dB, dA]) (fnOfList [b, a])).trans (Nat.add_comm _ _))

/-- **The pre-fix reshape was wrong for unequal local dimensions** (`np.reshape(rho, dim[::-1])` in C order, entry
    `[r, c] = ψ[r·dA + c]`): the product vector `(1,1) ⊗ (1,2,3)` has a vanishing-minor amplitude matrix, but the
    reversed-dims reading has a non-zero 2×2 minor (rank 2).  For `dA = dB` the two readings coincide. -/
theorem reshapeRevC_counterexample :
    let ψ : Nat → Int := fun k => [1, 2, 3, 1, 2, 3].getD k 0
    minorsVanish 2 3 (ampMat 3 ψ) = true ∧ minorsVanish 3 2 (reshapeRevC 2 3 ψ) = false := by
  decide

/-- for equal local dimensions the pre-fix reshape is the amplitude matrix -/
theorem reshapeRevC_eq_ampMat_of_eq {α : Type} (d : Nat) (ψ : Nat → α) (a b : Nat) :
    reshapeRevC d d ψ a b = ampMat d ψ a b :=
  reshapeRevC_apply d d ψ a b

/-- **Operator Schmidt rank reads the realigned matrix.**  The mirror of `_operator_schmidt_rank` (flatten, swap
    subsystems 2 and 3 of `[dA, dB, dA, dB]`, reshape to `dA² × dB²`) has entry `[(a,a'), (b,b')] = ρ[(a,b), (a',b')]`,
    for all (also unequal) local dimensions. -/
theorem operatorAmp_eq_realign {α : Type} (dA dB : Nat) (ρ : Nat → Nat → α) (hA : 0 < dA) (hB : 0 < dB)
    (i j : Nat) (hi : i < dA * dA) (hj : j < dB * dB) :
    operatorAmp dA dB ρ i j = realignAmp dA dB ρ i j := by
  have h := operatorAmp_flat dA dB ρ (i / dA) (i % dA) (j / dB) (j % dB) ((Nat.div_lt_iff_lt_mul hA).mpr hi) (Nat.mod_lt _ hA)
    ((Nat.div_lt_iff_lt_mul hB).mpr hj) (Nat.mod_lt _ hB)
  rwa [Nat.div_add_mod', Nat.div_add_mod'] at h

/-- the realigned matrix at row `a·dA + a'`, column `b·dB + b'` is `ρ[a·dB + b, a'·dB + b']` -/
theorem realignAmp_entry {α : Type} (dA dB : Nat) (ρ : Nat → Nat → α) (a a' b b' : Nat) (ha' : a' < dA) (hb' : b' < dB) :
    realignAmp dA dB ρ (a * dA + a') (b * dB + b') = ρ (a * dB + b) (a' * dB + b') := by
  unfold realignAmp
  rw [Nat.mul_add_div_of_lt ha', Nat.mul_add_mod_of_lt ha', Nat.mul_add_div_of_lt hb', Nat.mul_add_mod_of_lt hb']

/-- the executable Schmidt rank of the mirror (`np.reshape(rho, dim)`) is the executable rank of the amplitude matrix -/
theorem schmidtRankVec_eq_spec (dA dB : Nat) (ψ : Nat → QI) : schmidtRankVec dA dB ψ = schmidtRankSpec dA dB ψ :=
  rankQ_congr dA dB _ _ (fun a b _ _ => reshapeDim_eq_ampMat dA dB ψ a b)

/-- the executable operator Schmidt rank of the mirror is the executable rank of the realigned matrix -/
theorem schmidtRankOp_eq_spec (dA dB : Nat) (ρ : Nat → Nat → QI) (hA : 0 < dA) (hB : 0 < dB) :
    schmidtRankOp dA dB ρ = schmidtRankOpSpec dA dB ρ :=
  rankQ_congr _ _ _ _ (fun i j hi hj => operatorAmp_eq_realign dA dB ρ hA hB i j hi hj)

/-- the mirror on unequal dimensions `2, 3`: row `(a, a') = (0, 1)`, column `(b, b') = (1, 2)` reads `ρ[(0,1), (1,2)] = ρ[1, 5]` -/
example : operatorAmp 2 3 (fun i j => 100 * i + j) 1 5 = 100 * (0 * 3 + 1) + (1 * 3 + 2) := by decide

/-- **The exact rank routine is correct.**  For every size and every matrix over `ℚ[i]`, the executable rank `rankQ n m A`
    (Gaussian elimination, `Toq/Core/Rank.lean`) equals Mathlib's `Matrix.rank` of the complex `n × m` matrix that `A` denotes. -/
theorem rankQ_eq_rank (n m : Nat) (A : Nat → Nat → QI) :
    rankQ n m A = (toM n m fun i j => (A i j).toC).rank :=
  Toq.Rank.rankFn_eq_rank n m A

/-- the routine on a concrete complex matrix: `[[1, i, 0], [i, -1, 0], [0, 0, 2]]` has rank 2 (the second row is `i` times the first) -/
example : rankQ 3 3 (fun i j => ([[⟨1, 0⟩, ⟨0, 1⟩, 0], [⟨0, 1⟩, ⟨-1, 0⟩, 0], [0, 0, ⟨2, 0⟩]] : List (List QI)).getD i [] |>.getD j 0) = 2 := by
  decide +kernel

/-- **`schmidt_rank` (vector branch) returns the Schmidt rank.**  The mirror of the fixed code, `matrix_rank(np.reshape(rho, dim))`
    with the exact rank, equals the rank of the amplitude matrix `A[a,b] = ψ[a·dB + b]` over `ℂ`, for all local dimensions. -/
theorem schmidtRankVec_eq_rank (dA dB : Nat) (ψ : Nat → QI) :
    schmidtRankVec dA dB ψ = (toM dA dB (ampMat dB fun k => (ψ k).toC)).rank := by
  rw [schmidtRankVec_eq_spec]
  exact rankQ_eq_rank dA dB (ampMat dB ψ)

/-- **`schmidt_rank` (operator branch) returns the operator Schmidt rank.**  The mirror of `_operator_schmidt_rank` with the exact
    rank equals the rank over `ℂ` of the realigned matrix `R[(a,a'),(b,b')] = ρ[(a,b),(a',b')]`, for all (also unequal) local dimensions. -/
theorem schmidtRankOp_eq_rank (dA dB : Nat) (ρ : Nat → Nat → QI) (hA : 0 < dA) (hB : 0 < dB) :
    schmidtRankOp dA dB ρ = (toM (dA * dA) (dB * dB) (realignAmp dA dB fun i j => (ρ i j).toC)).rank := by
  rw [schmidtRankOp_eq_spec dA dB ρ hA hB]
  exact rankQ_eq_rank _ _ (realignAmp dA dB ρ)

/-- **Rank certificate soundness.**  If the executable checker accepts `(B, C, L, R)` for the exact matrix `A` — i.e. `A = B·C` with inner
    size `r` and `L·A·R = 1_r`, both verified by exact arithmetic over `ℚ[i]` — then the rank of `A` (as a complex matrix) is `r`. -/
theorem rankCert_sound {n m r : Nat} (A : EMat n m) (B : EMat n r) (C : EMat r m) (L : EMat r n) (R : EMat m r)
    (h : rankCert A B C L R = true) : A.toM.rank = r := by
  unfold rankCert at h
  rw [Bool.and_eq_true] at h
  have h1 := EMat.beq_sound _ _ h.1
  have h2 := EMat.beq_sound _ _ h.2
  rw [EMat.toM_mul] at h1
  rw [EMat.toM_mul, EMat.toM_mul, EMat.toM_one] at h2
  exact Matrix.rank_eq_of_mul_of_inv h1 h2

/-- a certificate that is accepted: the rank-one matrix `[[1,2,3],[2,4,6]]` -/
example : rankCert (EMat.ofFn (n := 2) (m := 3) fun i j => QI.ofRat ((i.val + 1) * (j.val + 1) : Nat))
    (EMat.ofFn (n := 2) (m := 1) fun i _ => QI.ofRat ((i.val + 1 : Nat))) (EMat.ofFn (n := 1) (m := 3) fun _ j => QI.ofRat ((j.val + 1 : Nat)))
    (EMat.ofFn (n := 1) (m := 2) fun _ j => if j.val = 0 then 1 else 0) (EMat.ofFn (n := 3) (m := 1) fun i _ => if i.val = 0 then 1 else 0) = true := by
  decide +kernel

/-- **The two exact oracles agree.**  Whenever the certificate checker accepts a certificate of rank `r` for `A`, the elimination
    returns `r` on `A` (both are the rank of `A.toM`). -/
theorem rankE_eq_of_rankCert {n m r : Nat} (A : EMat n m) (B : EMat n r) (C : EMat r m) (L : EMat r n) (R : EMat m r)
    (h : rankCert A B C L R = true) : Toq.Rank.rankE A = r := by
  rw [Toq.Rank.rankE_eq_rank]; exact rankCert_sound A B C L R h

/-- `round(sqrt(d²)) = d` -/
theorem roundSqrt_sq (d : Nat) : roundSqrt (d * d) = d := by
  unfold roundSqrt
  rw [Nat.sqrt_eq]
  exact if_pos ((Nat.sub_self (d * d)).trans_le (Nat.zero_le d))

/-- **`dim` given as a single integer.**  For a vector of length `dA·dB` the argument `dim = dA` is normalised to `[dA, dB]`. -/
theorem resolveDim_scalar (dA dB : Nat) (hA : 0 < dA) : resolveDim (dA * dB) (.scalar dA) = some (dA, dB) := by
  rw [resolveDim, if_neg (Nat.pos_iff_ne_zero.mp hA), Nat.mul_div_cancel_left dB hA]

/-- **`dim` omitted.**  For a vector of length `d²` the default is `[d, d]`. -/
theorem resolveDim_omitted (d : Nat) (hd : 0 < d) : resolveDim (d * d) .omitted = some (d, d) := by
  rw [resolveDim, roundSqrt_sq, if_neg (Nat.pos_iff_ne_zero.mp hd), Nat.mul_div_cancel_left d hd]

/-- **Every accepted form of `dim` gives the same Schmidt rank**: the mirror of `schmidt_rank` with the raw argument — here
    the integer `dA` — returns the rank of the `dA × dB` amplitude matrix (the form of `dim` enters through `resolveDim` only). -/
theorem schmidtRankArg_scalar (dA dB : Nat) (hA : 0 < dA) (ψ : Nat → QI) :
    schmidtRankArg (dA * dB) (.scalar dA) ψ = some (schmidtRankSpec dA dB ψ) := by
  unfold schmidtRankArg
  rw [resolveDim_scalar dA dB hA, Option.map_some, schmidtRankVec_eq_spec]

/-- `dim` given as the pair `[dA, dB]` -/
theorem schmidtRankArg_pair (N dA dB : Nat) (ψ : Nat → QI) :
    schmidtRankArg N (.pair dA dB) ψ = some (schmidtRankSpec dA dB ψ) := by
  unfold schmidtRankArg
  rw [resolveDim, Option.map_some, schmidtRankVec_eq_spec]

/-- `dim` omitted, for a vector of length `d²` -/
theorem schmidtRankArg_omitted (d : Nat) (hd : 0 < d) (ψ : Nat → QI) :
    schmidtRankArg (d * d) .omitted ψ = some (schmidtRankSpec d d ψ) := by
  unfold schmidtRankArg
  rw [resolveDim_omitted d hd, Option.map_some, schmidtRankVec_eq_spec]

/-- the same for the operator Schmidt rank: `_operator_schmidt_rank` resolves an integer `dim` in the same way and uses it for rows and columns -/
theorem schmidtRankOpArg_scalar (dA dB : Nat) (hA : 0 < dA) (hB : 0 < dB) (ρ : Nat → Nat → QI) :
    schmidtRankOpArg (dA * dB) (.scalar dA) ρ = some (schmidtRankOpSpec dA dB ρ) := by
  unfold schmidtRankOpArg
  rw [resolveDim_scalar dA dB hA, Option.map_some, schmidtRankOp_eq_spec dA dB ρ hA hB]

/-- `dim` omitted, for an operator of side `d²` (`_operator_schmidt_rank` then takes `round(√N)` for all four dimensions, which agrees with `resolveDim`
    exactly on squares `N = d²`) -/
theorem schmidtRankOpArg_omitted (d : Nat) (hd : 0 < d) (ρ : Nat → Nat → QI) :
    schmidtRankOpArg (d * d) .omitted ρ = some (schmidtRankOpSpec d d ρ) := by
  unfold schmidtRankOpArg
  rw [resolveDim_omitted d hd, Option.map_some, schmidtRankOp_eq_spec d d ρ hd hd]

example : resolveDim 12 (.scalar 3) = some (3, 4) := resolveDim_scalar 3 4 (by decide)
example : resolveDim 9 .omitted = some (3, 3) := resolveDim_omitted 3 (by decide)
/-- rounding, not truncation: `√12 ≈ 3.46 → 3`, `√13 ≈ 3.61 → 4` -/
example : roundSqrt 12 = 3 ∧ roundSqrt 13 = 4 := by decide +kernel

/-- **Amplitude matrix of a locally rotated vector.**  `(U ⊗ V) ψ` has amplitude matrix `U · A · Vᵀ`
    (any commutative semiring, all — also unequal and rectangular — sizes). -/
theorem amplitude_local_unitary {α : Type} [CommSemiring α] (dA dB dA' dB' : Nat) (U V : Nat → Nat → α) (ψ : Nat → α)
    (hB' : 0 < dB') :
    toM dA dB (ampMat dB (kronApply dB dA' dB' U V ψ))
      = toM dA dA' U * toM dA' dB' (ampMat dB' ψ) * (toM dB dB' V)ᵀ := by
  ext a b
  show ampMat dB (kronApply dB dA' dB' U V ψ) a.val b.val = _
  rw [ampMat_kronApply dB dA' dB' U V ψ a.val b.val b.isLt, Matrix.mul_apply]
  simp only [Matrix.mul_apply, Matrix.transpose_apply, toM, Finset.sum_mul]
  rw [Finset.sum_comm, sumN_eq_sum_fin]
  exact Finset.sum_congr rfl fun a' _ => sumN_eq_sum_fin _ _

/-- **Schmidt rank is invariant under local invertible maps** (in particular local unitaries). -/
theorem schmidtRank_local_invariant {K : Type} [Field K] {m n : Nat} (U : Matrix (Fin m) (Fin m) K)
    (V : Matrix (Fin n) (Fin n) K) (A : Matrix (Fin m) (Fin n) K) (hU : IsUnit U.det) (hV : IsUnit V.det) :
    (U * A * Vᵀ).rank = A.rank :=
  Matrix.rank_mul_mul_transpose_of_isUnit_det U V A hU hV

/-- the invertibility hypotheses are satisfiable by a non-trivial matrix -/
example : IsUnit (!![0, 1; 1, 0] : Matrix (Fin 2) (Fin 2) ℚ).det := by simp [Matrix.det_fin_two]

/-- **Schmidt rank counts the non-zero Schmidt coefficients.**  The amplitude matrix of `Σ_i s_i |i i⟩` in
    `C^{dA} ⊗ C^{dB}` (rectangular diagonal, unequal dimensions allowed, complex `s_i` allowed) has rank
    `#{a < min(dA, dB) : s_a ≠ 0}`. -/
theorem schmidtRank_planted (dA dB : Nat) (s : Nat → ℂ) :
    (planted dA dB s).rank = Fintype.card {a : Fin dA // a.val < dB ∧ s a.val ≠ 0} := by
  classical
  rw [← Matrix.rank_self_mul_conjTranspose, planted_mul_ct, Matrix.rank_diagonal]
  apply Fintype.card_congr
  apply Equiv.subtypeEquivRight
  intro a
  by_cases hlt : a.val < dB
  · rw [if_pos hlt, mul_ne_zero_iff, star_ne_zero, and_self]
    exact (and_iff_right hlt).symm
  · rw [if_neg hlt]
    exact iff_of_false (fun h => h rfl) fun h => hlt h.1

/-- **Closed form of the Schmidt rank of a planted state.**  For `ψ = (U ⊗ V) Σ_i s_i |i i⟩` with invertible (e.g. unitary)
    `U`, `V` the rank of the amplitude matrix `U · planted s · Vᵀ` is the number of non-zero `s_i`. -/
theorem schmidtRank_closed_form (dA dB : Nat) (s : Nat → ℂ) (U : Matrix (Fin dA) (Fin dA) ℂ) (V : Matrix (Fin dB) (Fin dB) ℂ)
    (hU : IsUnit U.det) (hV : IsUnit V.det) :
    (U * planted dA dB s * Vᵀ).rank = Fintype.card {a : Fin dA // a.val < dB ∧ s a.val ≠ 0} := by
  rw [schmidtRank_local_invariant U V _ hU hV, schmidtRank_planted]

/-- **Realignment is covariant under local operations**: the realigned matrix of `(U ⊗ V) ρ (U ⊗ V)ᴴ` is
    `(U ⊗ Ū) · R(ρ) · (V ⊗ V̄)ᵀ` (all dimensions, any commutative star ring). -/
theorem realign_local_unitary {R : Type} [CommRing R] [StarRing R] {m n : Type} [Fintype m] [Fintype n]
    (U : Matrix m m R) (V : Matrix n n R) (ρ : Matrix (m × n) (m × n) R) :
    realign ((U ⊗ₖ V) * ρ * (U ⊗ₖ V)ᴴ) = (U ⊗ₖ U.map star) * realign ρ * (V ⊗ₖ V.map star)ᵀ := by
  rw [Matrix.conjTranspose_kronecker, realign_eq_realignment, realign_eq_realignment]
  exact Matrix.realignment_kronecker_mul_kronecker U Uᴴ V Vᴴ ρ

/-- **Operator Schmidt rank is invariant under local invertible conjugations** (in particular local unitaries): the realigned matrices
    of `ρ` and `(U ⊗ V) ρ (U ⊗ V)ᴴ` have the same rank. -/
theorem operatorSchmidtRank_local_invariant {K : Type} [Field K] [StarRing K] {m n : Type} [Fintype m] [Fintype n] [DecidableEq m] [DecidableEq n]
    (U : Matrix m m K) (V : Matrix n n K) (ρ : Matrix (m × n) (m × n) K) (hU : IsUnit U.det) (hV : IsUnit V.det) :
    (realign ((U ⊗ₖ V) * ρ * (U ⊗ₖ V)ᴴ)).rank = (realign ρ).rank := by
  rw [realign_local_unitary]
  exact Matrix.rank_mul_mul_transpose_of_isUnit_det _ _ _ (isUnit_det_kron_conj U hU) (isUnit_det_kron_conj V hV)

/-- the executable test `minorsVanish` decides exactly that all 2×2 minors of the `r × c` block vanish -/
theorem minorsVanish_iff {α : Type} [Mul α] [DecidableEq α] (r c : Nat) (A : Nat → Nat → α) :
    minorsVanish r c A = true ↔ MinorsVanish (toM r c A) := by
  unfold minorsVanish MinorsVanish toM
  simp only [allBelow_iff, decide_eq_true_eq]
  constructor
  · intro h a a' b b'
    exact h a.val a.isLt a'.val a'.isLt b.val b.isLt b'.val b'.isLt
  · intro h a ha a' ha' b hb b' hb'
    exact h ⟨a, ha⟩ ⟨a', ha'⟩ ⟨b, hb⟩ ⟨b', hb'⟩

/-- **Product vectors are exactly those with vanishing 2×2 minors** (any field, all sizes): `A = x yᵀ` for some `x`, `y`
    iff `A[a,b]·A[a',b'] = A[a,b']·A[a',b]` for all index pairs. -/
theorem isProduct_iff_minors {K : Type} [Field K] {m n : Type} (A : Matrix m n K) :
    IsProductAmp A ↔ MinorsVanish A := by
  constructor
  · rintro ⟨x, y, h⟩ a a' b b'
    rw [h, h, h, h]; ring
  · exact Matrix.exists_mul_of_minors_eq_zero A

/-- the amplitude matrix of `x ⊗ y` is `x yᵀ` -/
theorem ampMat_kron {α : Type} [Mul α] (dB : Nat) (x y : Nat → α) (a b : Nat) (hb : b < dB) :
    ampMat dB (fun i => x (i / dB) * y (i % dB)) a b = x a * y b := by
  show x ((a * dB + b) / dB) * y ((a * dB + b) % dB) = _
  rw [Nat.mul_add_div_of_lt hb, Nat.mul_add_mod_of_lt hb]

/-- a product vector has Schmidt rank at most one -/
theorem schmidtRank_product_le_one {K : Type} [Field K] {m n : Nat} (A : Matrix (Fin m) (Fin n) K) (h : IsProductAmp A) :
    A.rank ≤ 1 := by
  obtain ⟨x, y, hxy⟩ := h
  have : A = Matrix.vecMulVec x y := by
    ext a b; rw [hxy a b]; rfl
  rw [this]
  exact Matrix.rank_vecMulVec_le x y

/-- **Product operators are exactly those whose realigned matrix is a product amplitude.**  `X = A ⊗ B` for some `A`, `B` iff the realigned matrix
    `R[(a,a'),(b,b')] = X[(a,b),(a',b')]` is `x yᵀ`; with `isProduct_iff_minors` this is the vanishing of all 2×2 minors of `R` (all dimensions).  The executable
    `isProductOp` tests the minors of the flat `realignAmp`, the same matrix with rows `a·dA + a'` and columns `b·dB + b'` (`realignAmp_entry`). -/
theorem isProductOp_iff_realign {m n : Type} (X : Matrix (m × n) (m × n) ℂ) :
    (∃ (A : Matrix m m ℂ) (B : Matrix n n ℂ), X = A ⊗ₖ B) ↔ IsProductAmp (realign X) := by
  constructor
  · rintro ⟨A, B, rfl⟩
    exact ⟨fun p => A p.1 p.2, fun q => B q.1 q.2, fun p q => rfl⟩
  · rintro ⟨x, y, h⟩
    refine ⟨fun a a' => x (a, a'), fun b b' => y (b, b'), ?_⟩
    ext ⟨a, b⟩ ⟨a', b'⟩
    exact h (a, a') (b, b')

/-- **Purity is unitarily invariant**: `tr((UρUᴴ)²) = tr(ρ²)` whenever `UᴴU = 1` (any commutative star ring). -/
theorem purity_unitary_invariant {R : Type} [CommRing R] [StarRing R] {n : Type} [Fintype n] [DecidableEq n]
    (U ρ : Matrix n n R) (hU : Uᴴ * U = 1) :
    ((U * ρ * Uᴴ) * (U * ρ * Uᴴ)).trace = (ρ * ρ).trace := by
  rw [Matrix.conj_mul_conj_eq hU, Matrix.trace_conj_eq hU]

/-- **The spectrum is unitarily invariant**: `UρUᴴ` and `ρ` have the same characteristic polynomial (hence the same
    eigenvalues with multiplicity, hence the same von Neumann entropy, purity and rank). -/
theorem charpoly_unitary_invariant {R : Type} [CommRing R] [StarRing R] {n : Type} [Fintype n] [DecidableEq n]
    (U ρ : Matrix n n R) (hU : Uᴴ * U = 1) :
    (U * ρ * Uᴴ).charpoly = ρ.charpoly := by
  rw [Matrix.mul_assoc, Matrix.charpoly_mul_comm, Matrix.mul_assoc, hU, Matrix.mul_one]

/-- **Spectrum of a planted mixed state.**  `ρ = U·diag(q)·Uᴴ` with unitary `U` has characteristic polynomial `Π_i (X − q_i)`: its
    eigenvalues are exactly the planted `q_i`, so its von Neumann entropy is `H(q)` and its purity `Σ q_i²`. -/
theorem charpoly_planted_spectrum {R : Type} [CommRing R] [StarRing R] {n : Type} [Fintype n] [DecidableEq n]
    (U : Matrix n n R) (q : n → R) (hU : Uᴴ * U = 1) :
    (U * Matrix.diagonal q * Uᴴ).charpoly = ∏ i, (Polynomial.X - Polynomial.C (q i)) := by
  rw [charpoly_unitary_invariant U _ hU, Matrix.charpoly_diagonal]

/-- the executable purity is `tr ρ²` -/
theorem purityM_eq_trace {R : Type} [CommSemiring R] (n : Nat) (ρ : Nat → Nat → R) :
    purityM n ρ = (toM n n ρ * toM n n ρ).trace := by
  rw [← toM_mmul]
  exact traceM_eq_trace n (mmul n ρ ρ)

/-- **Entropy is additive on products.**  For probability vectors `p`, `q` (any lengths) the entropy `−Σ x log x` of the
    product distribution `(p_i q_j)` — the spectrum of `ρ ⊗ σ` — is `H(p) + H(q)`. -/
theorem entropy_additive {ι κ : Type} [Fintype ι] [Fintype κ] (p : ι → ℝ) (q : κ → ℝ)
    (hp : ∑ i, p i = 1) (hq : ∑ j, q j = 1) :
    shannon (fun x : ι × κ => p x.1 * q x.2) = shannon p + shannon q := by
  unfold shannon
  rw [Fintype.sum_prod_type]
  simp only [Real.negMulLog_mul, Finset.sum_add_distrib, ← Finset.mul_sum, ← Finset.sum_mul]
  rw [hq, hp, one_mul, one_mul]

/-- probability vectors exist: `(1/2, 1/2)` -/
example : ∑ i : Fin 2, (fun _ => (1 / 2 : ℝ)) i = 1 := by simp

/-- the executable partial transpose `pTB` (used by the driver) exchanges the second-factor digits of row and column index -/
theorem pTB_entry {α : Type} (dB : Nat) (X : Nat → Nat → α) (a b a' b' : Nat) (hb : b < dB) (hb' : b' < dB) :
    pTB dB X (a * dB + b) (a' * dB + b') = X (a * dB + b') (a' * dB + b) := by
  unfold pTB
  rw [Nat.mul_add_div_of_lt hb, Nat.mul_add_mod_of_lt hb, Nat.mul_add_div_of_lt hb', Nat.mul_add_mod_of_lt hb']

/-- **Partial transpose is covariant under local operations.**  For all (not necessarily unitary) `U`, `V` and every operator `ρ`
    on `C^m ⊗ C^n` (all dimensions, any commutative star ring):
    `((U ⊗ V) ρ (U ⊗ V)ᴴ)^{T_B} = (U ⊗ V̄) ρ^{T_B} (U ⊗ V̄)ᴴ`.  For unitary `U`, `V` the right-hand side is a unitary conjugation, so
    the singular values of `ρ^{T_B}` — hence trace norm, negativity and log-negativity — are invariant under local unitaries. -/
theorem pT_local_unitary {R : Type} [CommRing R] [StarRing R] {m n : Type} [Fintype m] [Fintype n]
    (U : Matrix m m R) (V : Matrix n n R) (ρ : Matrix (m × n) (m × n) R) :
    pT ((Matrix.kroneckerMap (· * ·) U V) * ρ * (Matrix.kroneckerMap (· * ·) U V)ᴴ)
      = (Matrix.kroneckerMap (· * ·) U (V.map star)) * pT ρ * (Matrix.kroneckerMap (· * ·) U (V.map star))ᴴ := by
  rw [Matrix.conjTranspose_kronecker, Matrix.conjTranspose_kronecker, conjTranspose_map_star]
  -- `pT` is `Matrix.pTR` (over any ring, by definition)
  exact Matrix.pTR_kronecker_mul_kronecker U Uᴴ V Vᴴ ρ

/-- **The trace norm is invariant under unitary conjugation**: `‖U X Uᴴ‖₁ = ‖X‖₁` (the positive square root of `(UXUᴴ)ᴴ(UXUᴴ)` is `U √(XᴴX) Uᴴ`). -/
theorem traceNorm_unitary_conj {ι : Type} [Fintype ι] [DecidableEq ι] (U X : Matrix ι ι ℂ) (hU : Uᴴ * U = 1) :
    traceNorm (U * X * Uᴴ) = traceNorm X := by
  obtain ⟨P, hP, hPP, hX⟩ := traceNorm_spec X
  have hct : (U * X * Uᴴ)ᴴ = U * Xᴴ * Uᴴ := by
    rw [Matrix.conjTranspose_mul, Matrix.conjTranspose_mul, Matrix.conjTranspose_conjTranspose, Matrix.mul_assoc]
  rw [hX, traceNorm_eq_of_sq (hP.mul_mul_conjTranspose_same U) (by rw [Matrix.conj_mul_conj_eq hU, hPP, hct, Matrix.conj_mul_conj_eq hU]), Matrix.trace_conj_eq hU]

/-- **Negativity and log-negativity are invariant under local unitaries, for every operator and all local dimensions**: `‖((U ⊗ V) ρ (U ⊗ V)ᴴ)^{T_B}‖₁ = ‖ρ^{T_B}‖₁`
    (covariance `pT_local_unitary` turns the local unitary into the unitary `U ⊗ V̄` acting on `ρ^{T_B}`). -/
theorem negativity_local_invariant {m n : Type} [Fintype m] [Fintype n] [DecidableEq m] [DecidableEq n]
    (U : Matrix m m ℂ) (V : Matrix n n ℂ) (ρ : Matrix (m × n) (m × n) ℂ) (hU : Uᴴ * U = 1) (hV : Vᴴ * V = 1) :
    traceNorm (pT ((U ⊗ₖ V) * ρ * (U ⊗ₖ V)ᴴ)) = traceNorm (pT ρ) := by
  rw [pT_local_unitary U V ρ]
  exact traceNorm_unitary_conj _ _ (Matrix.kronecker_conjTranspose_mul_self hU (isometry_map_star hV))

/-- **Gram identity of a partially transposed pure state.**  For every bipartite vector with amplitude matrix `A` (rectangular,
    any dimensions): `(ρ^{T_B})ᴴ ρ^{T_B} = (A Aᴴ) ⊗ (Aᴴ A)`; so the singular values of `ρ^{T_B}` are the products `s_i s_j` of the
    Schmidt coefficients. -/
theorem pT_pure_gram_eq {m n : Type} [Fintype m] [Fintype n] (A : Matrix m n ℂ) :
    (pT (pureOfAmp A))ᴴ * pT (pureOfAmp A) = (A * Aᴴ) ⊗ₖ (Aᴴ * A) := by
  ext ⟨a, b⟩ ⟨a', b'⟩
  rw [Matrix.mul_apply, Fintype.sum_prod_type]
  simp only [Matrix.conjTranspose_apply, pT, pureOfAmp, Matrix.kroneckerMap_apply, Matrix.mul_apply, star_mul', star_star]
  rw [Finset.sum_mul_sum, Finset.sum_comm]
  exact Finset.sum_congr rfl fun c _ => Finset.sum_congr rfl fun d _ => by ring

/-- **Trace norm of the partial transpose of any pure state.**  If `P₁`, `P₂` are positive semidefinite square roots of `A Aᴴ`
    and `Aᴴ A`, then `‖ρ^{T_B}‖₁ = tr P₁ · tr P₂` (= `(Σ_i s_i)²`, the square of the nuclear norm of `A`). -/
theorem traceNorm_pT_pure {m n : Type} [Fintype m] [Fintype n] [DecidableEq m] [DecidableEq n] (A : Matrix m n ℂ)
    (P₁ : Matrix m m ℂ) (P₂ : Matrix n n ℂ) (h₁ : P₁.PosSemidef) (h₂ : P₂.PosSemidef)
    (e₁ : P₁ * P₁ = A * Aᴴ) (e₂ : P₂ * P₂ = Aᴴ * A) :
    traceNorm (pT (pureOfAmp A)) = P₁.trace * P₂.trace := by
  rw [traceNorm_eq_of_sq (h₁.kronecker h₂) (by rw [pT_pure_gram_eq, ← Matrix.mul_kronecker_mul, e₁, e₂]), Matrix.trace_kronecker]

/-- **Negativity closed form, all local dimensions, all local unitaries.**  For `ψ = (U ⊗ V) Σ_i s_i |i i⟩` with `s_i ≥ 0` and unitary
    `U` (`dA × dA`), `V` (`dB × dB`), `dA ≠ dB` allowed: `‖(|ψ⟩⟨ψ|)^{T_B}‖₁ = (Σ_{i < min(dA,dB)} s_i)²`.  Hence negativity
    `= ((Σ s_i)² − 1)/2` and log-negativity `= log₂ (Σ s_i)²`, the values the harness compares `negativity` / `log_negativity` with. -/
theorem negativity_planted (dA dB : Nat) (s : Nat → ℝ) (hs : ∀ i, 0 ≤ s i)
    (U : Matrix (Fin dA) (Fin dA) ℂ) (V : Matrix (Fin dB) (Fin dB) ℂ) (hU : Uᴴ * U = 1) (hV : Vᴴ * V = 1) :
    traceNorm (pT (pureOfAmp (U * planted dA dB (fun i => (s i : ℂ)) * Vᵀ)))
      = (((∑ i ∈ Finset.range (min dA dB), s i) ^ 2 : ℝ) : ℂ) := by
  -- `A = U D Wᴴ` with the isometry `W = V̄`; `P₁ = U d₁ Uᴴ` and `P₂ = W d₂ Wᴴ` (`d₁`, `d₂` the two `plantedDiag`) are positive square roots of
  -- `A Aᴴ` and `Aᴴ A = Aᴴ (Aᴴ)ᴴ`
  rw [← conjTranspose_map_star V]
  have hW := isometry_map_star hV
  refine (traceNorm_pT_pure _ _ _ (Toq.Metrics.conjDiag_posSemidef U (plantedDiag_nonneg hs))
    (Toq.Metrics.conjDiag_posSemidef _ (plantedDiag_nonneg hs))
    ((Toq.Metrics.conjDiag_mul hU _ _).trans (planted_amp_mul_ct s U hW).symm)
    ((Toq.Metrics.conjDiag_mul hW _ _).trans (planted_amp_ct_mul s hU _).symm)).trans ?_
  rw [Toq.Metrics.conjDiag_trace hU, Toq.Metrics.conjDiag_trace hW, ← Complex.ofReal_sum, ← Complex.ofReal_sum, sum_plantedDiag,
    sum_plantedDiag, Nat.min_comm dB dA, sq, Complex.ofReal_mul]

/-- the unitarity hypotheses are satisfiable by a non-trivial matrix (the swap of the two basis vectors) -/
example : (!![0, 1; 1, 0] : Matrix (Fin 2) (Fin 2) ℂ)ᴴ * !![0, 1; 1, 0] = 1 :=
  Matrix.exchange_conjTranspose_mul_self

/-- the executable closed form on the coefficients `(3/5, 4/5)`: `((7/5)² − 1)/2` -/
example : negativityClosed [3/5, 4/5] = 12/25 := by decide +kernel

/-- the reduced state of a pure state with amplitude matrix `A` is `A Aᴴ` (by the definition of `pureOfAmp`: both sides are
    `Σ_b A a b · conj (A a' b)`) -/
theorem reduced_state_eq {m n : Type} [Fintype n] (A : Matrix m n ℂ) (a a' : m) :
    ∑ b, pureOfAmp A (a, b) (a', b) = (A * Aᴴ) a a' := by
  rfl

/-- **Entanglement of formation of a planted state.**  The reduced state `A Aᴴ` of `ψ = (U ⊗ V) Σ_i s_i |i i⟩` (unitary `U`, `V`, unequal
    dimensions allowed) has characteristic polynomial `Π_a (X − s_a²)` (with `s_a = 0` for `a ≥ dB`): its eigenvalues are the squared Schmidt
    coefficients, so `entanglement_of_formation` (the entropy of the reduced state) is `H({s_i²})`. -/
theorem eof_spectrum_planted (dA dB : Nat) (s : Nat → ℝ)
    (U : Matrix (Fin dA) (Fin dA) ℂ) (V : Matrix (Fin dB) (Fin dB) ℂ) (hU : Uᴴ * U = 1) (hV : Vᴴ * V = 1) :
    ((U * planted dA dB (fun i => (s i : ℂ)) * Vᵀ) * (U * planted dA dB (fun i => (s i : ℂ)) * Vᵀ)ᴴ).charpoly
      = ∏ a : Fin dA, (Polynomial.X - Polynomial.C (if a.val < dB then ((s a.val : ℂ)) * star ((s a.val : ℂ)) else 0)) := by
  rw [← conjTranspose_map_star V, sandwich_mul_conjTranspose_self (isometry_map_star hV), planted_mul_ct, charpoly_planted_spectrum U _ hU]

/-- two-qubit pure-state concurrence is `2|det A|`; it is invariant under local unitaries -/
theorem concurrence_pure_local_invariant (U V A : Matrix (Fin 2) (Fin 2) ℂ) (hU : Uᴴ * U = 1) (hV : Vᴴ * V = 1) :
    2 * ‖(U * A * Vᵀ).det‖ = 2 * ‖A.det‖ := by
  rw [Matrix.det_mul, Matrix.det_mul, Matrix.det_transpose, norm_mul, norm_mul, norm_det_of_unitary U hU,
    norm_det_of_unitary V hV, one_mul, mul_one]

/-- the two-qubit planted state `s₀|00⟩ + s₁|11⟩` has concurrence `2|s₀||s₁|`: its amplitude matrix is `diag(s₀, s₁)` -/
theorem concurrence_planted (s : Nat → ℂ) : 2 * ‖(planted 2 2 s).det‖ = 2 * ‖s 0‖ * ‖s 1‖ := by
  rw [planted_self, Matrix.det_diagonal, Fin.prod_univ_two, norm_mul, mul_assoc]
  rfl

/-- the spin-flip overlap `ψᵀ (σ_y ⊗ σ_y) ψ` of a two-qubit vector is `−2 det A` -/
theorem spinFlip_eq_det (A : Matrix (Fin 2) (Fin 2) ℂ) :
    (∑ p : Fin 2 × Fin 2, ∑ q : Fin 2 × Fin 2,
      A p.1 p.2 * (Matrix.kroneckerMap (· * ·) !![0, -Complex.I; Complex.I, 0] !![0, -Complex.I; Complex.I, 0]) p q * A q.1 q.2)
      = -2 * A.det := by
  rw [Matrix.det_fin_two]
  simp only [Fintype.sum_prod_type, Fin.sum_univ_two, Matrix.kroneckerMap_apply, Matrix.of_apply, Matrix.cons_val', Matrix.cons_val_zero,
    Matrix.cons_val_one, Matrix.cons_val_fin_one]
  -- only the anti-diagonal entries `(σ_y ⊗ σ_y)[00,11] = (σ_y ⊗ σ_y)[11,00] = −1`, `[01,10] = [10,01] = 1` survive
  linear_combination (2 * A 0 0 * A 1 1 - 2 * A 0 1 * A 1 0) * Complex.I_mul_I

/-- **`l1_norm_coherence` computes the sum of the moduli of the off-diagonal entries.**  The code returns `Σ_{ij} |ρ_ij| − tr ρ`; for a positive semidefinite `ρ` (real
    non-negative diagonal) this is `Σ_{i≠j} |ρ_ij|`. -/
theorem l1_coherence_mirror {n : Type} [Fintype n] [DecidableEq n] (ρ : Matrix n n ℂ) (hρ : ρ.PosSemidef) :
    (∑ i, ∑ j, ‖ρ i j‖) - (ρ.trace).re = ∑ i, ∑ j ∈ Finset.univ.erase i, ‖ρ i j‖ := by
  have : ∀ i, ∑ j, ‖ρ i j‖ = (ρ i i).re + ∑ j ∈ Finset.univ.erase i, ‖ρ i j‖ := by
    intro i
    rw [← Finset.add_sum_erase _ _ (Finset.mem_univ i), hρ.norm_diag]
  simp only [this, Finset.sum_add_distrib, Matrix.trace, Matrix.diag, Complex.re_sum]
  ring

/-- for a pure state the off-diagonal moduli sum to `(Σ_i |ψ_i|)² − Σ_i |ψ_i|²` (the closed form the harness compares with) -/
theorem l1_coherence_pure {n : Type} [Fintype n] [DecidableEq n] (ψ : n → ℂ) :
    ∑ i, ∑ j ∈ Finset.univ.erase i, ‖ketbra ψ i j‖ = (∑ i, ‖ψ i‖) ^ 2 - ∑ i, ‖ψ i‖ ^ 2 := by
  have h1 : ∀ i j, ‖ketbra ψ i j‖ = ‖ψ i‖ * ‖ψ j‖ := by
    intro i j; rw [show ketbra ψ i j = ψ i * star (ψ j) from rfl, norm_mul, norm_star]
  have h2 : (∑ i, ‖ψ i‖) ^ 2 = ∑ i, (‖ψ i‖ ^ 2 + ∑ j ∈ Finset.univ.erase i, ‖ψ i‖ * ‖ψ j‖) := by
    rw [sq, Finset.sum_mul_sum]
    refine Finset.sum_congr rfl fun i _ => ?_
    rw [← Finset.add_sum_erase _ _ (Finset.mem_univ i), sq]
  simp only [h1]
  rw [h2, Finset.sum_add_distrib]
  ring

/-- for `k ≥` the number of coefficients the value is the full sum (the `k >= min(dim)` shortcut of `sk_vector_norm`) -/
theorem skVecNormSq_full (p : List Rat) (k : Nat) (hk : p.length ≤ k) : skVecNormSq p k = sumQ p := by
  unfold skVecNormSq
  rw [List.take_of_length_le (by rw [List.length_mergeSort]; exact hk), sumQ_eq_sum, sumQ_eq_sum]
  exact (List.mergeSort_perm p _).sum_eq

/-- monotone in `k` (squared coefficients are non-negative) -/
theorem skVecNormSq_mono (p : List Rat) (hp : ∀ x ∈ p, 0 ≤ x) (k : Nat) : skVecNormSq p k ≤ skVecNormSq p (k + 1) := by
  unfold skVecNormSq
  rw [sumQ_eq_sum, sumQ_eq_sum]
  set l := p.mergeSort fun a b => decide (b ≤ a) with hl
  by_cases hk : k < l.length
  · rw [List.sum_take_succ l k hk]
    exact le_add_of_nonneg_right (hp _ ((List.mergeSort_perm p _).mem_iff.mp (List.getElem_mem hk)))
  · rw [List.take_of_length_le (not_lt.mp hk), List.take_of_length_le (Nat.le_succ_of_le (not_lt.mp hk))]

/-- **`skVecNormSq p k` bounds every sub-multiset of at most `k` entries**: its sum is `≤ skVecNormSq p k` (with `skVecNormSq_attained`: the value is the maximum). -/
theorem skVecNormSq_max (p : List Rat) (hp : ∀ x ∈ p, 0 ≤ x) (k : Nat) (t : List Rat) (ht : t.Subperm p) (hk : t.length ≤ k) :
    t.sum ≤ skVecNormSq p k := by
  unfold skVecNormSq
  rw [sumQ_eq_sum]
  obtain ⟨hperm, hsorted⟩ := List.mergeSort_ge_spec p
  set l := p.mergeSort fun a b => decide (b ≤ a) with hl
  obtain ⟨t', ht'p, ht's⟩ := ht.trans hperm.symm.subperm
  rw [← ht'p.sum_eq]
  exact sublist_sum_le_take l hsorted (fun x hx => hp x (hperm.mem_iff.mp hx)) k t' ht's (by rw [ht'p.length_eq]; exact hk)

/-- `skVecNormSq p k` is the sum of a sub-multiset of `p` with at most `k` entries (the `k` largest). -/
theorem skVecNormSq_attained (p : List Rat) (k : Nat) :
    ∃ t : List Rat, t.Subperm p ∧ t.length ≤ k ∧ t.sum = skVecNormSq p k := by
  refine ⟨(p.mergeSort fun a b => decide (b ≤ a)).take k, ?_, ?_, ?_⟩
  · exact (List.take_sublist k _).subperm.trans (List.mergeSort_perm p _).subperm
  · rw [List.length_take]; exact Nat.min_le_left _ _
  · unfold skVecNormSq; rw [sumQ_eq_sum]

/-- the hypothesis of `skVecNormSq_mono` and `skVecNormSq_max` on the squared coefficients `(1/9, 4/9, 4/9)` -/
example : ∀ x ∈ ([1/9, 4/9, 4/9] : List Rat), 0 ≤ x := by intro x hx; simp at hx; rcases hx with rfl | rfl <;> norm_num

/-! ## S(k) operator norm: the bracket clause, certified on both sides

`sk_operator_norm(X, k)` returns `(lo, hi)`; the clause says that they bracket the values `⟨v|X|v⟩` attained by unit vectors `v` of Schmidt rank
at most `k` (`skValues k X`; for positive semidefinite `X` their supremum is the S(k) norm, see `sk_bilinear_le`).  Vectors are functions on
pairs `(a, b)`, operators matrices on pairs; `Toq.Sep.unflat` reads a flat matrix (index `a·dB + b`, toqito's convention) on pairs. -/

/-- **The class of vectors is the right one.**  `v` is a sum of `k` product terms with pairwise orthogonal second factors iff its amplitude matrix
    has rank `≤ k` (the Schmidt rank of the theorems above), for all local dimensions. -/
theorem schmidtLE_iff_rank_le {m n : Type} [Fintype m] [Fintype n] [DecidableEq m] [DecidableEq n] (k : ℕ) (v : m × n → ℂ) :
    SchmidtLE k v ↔ (ampOf v).rank ≤ k :=
  ⟨rank_le_of_schmidtLE v, schmidtLE_of_rank_le v⟩

/-- for `k = 1` these are exactly the product vectors -/
theorem schmidtLE_one_iff_product {m n : Type} [Fintype m] [Fintype n] [DecidableEq m] [DecidableEq n] (v : m × n → ℂ) :
    SchmidtLE 1 v ↔ ∃ x y, v = tprod x y :=
  schmidtLE_one_iff v

/-- **Product projectors stay positive under partial transposition**: `(|x⊗y⟩⟨x⊗y|)^{T_B} = |x⟩⟨x| ⊗ |ȳ⟩⟨ȳ| ⪰ 0`. -/
theorem pT_product_posSemidef {m n : Type} [Fintype m] [Fintype n] [DecidableEq m] [DecidableEq n] (x : m → ℂ) (y : n → ℂ) :
    (pT (ketbra (tprod x y))).PosSemidef :=
  pT_ketbra_tprod_posSemidef x y

/-- **Vectors of Schmidt rank `≤ k` satisfy the reduction-type inequality**: `k·(ρ_A ⊗ 1_B) − ρ ⪰ 0` for `ρ = |v⟩⟨v|`, `ρ_A = tr_B ρ`
    (operator Cauchy–Schwarz over the `k` Schmidt terms, then `‖y‖²·1 − |y⟩⟨y| ⪰ 0` in each term). -/
theorem reduction_schmidt_posSemidef {m n : Type} [Fintype m] [Fintype n] [DecidableEq m] [DecidableEq n] (k : ℕ) (v : m × n → ℂ)
    (hv : SchmidtLE k v) : (redK k (ketbra v)).PosSemidef :=
  redK_ketbra_posSemidef k v hv

/-- **Weak duality, PPT relaxation (k = 1).**  For every operator `X` on `ℂ^m ⊗ ℂ^n`, every `Y ⪰ 0` and real `λ` with `λ·1 − X − Y^{T_B} ⪰ 0`, every
    product vector satisfies `⟨v|X|v⟩ ≤ λ·⟨v|v⟩` (because `(|v⟩⟨v|)^{T_B} ⪰ 0` and `tr(Y^{T_B} M) = tr(Y M^{T_B})`). -/
theorem sk_weak_duality_ppt {m n : Type} [Fintype m] [Fintype n] [DecidableEq m] [DecidableEq n] (X Y : Matrix (m × n) (m × n) ℂ) (lam : ℝ)
    (hY : Y.PosSemidef) (hS : ((lam : ℂ) • (1 : Matrix (m × n) (m × n) ℂ) - X - pT Y).PosSemidef) (x : m → ℂ) (y : n → ℂ) :
    expect X (tprod x y) ≤ lam * vnorm2 (tprod x y) :=
  expect_le_of_dual (Φ := pT) trace_pTR_mul hY (pT_ketbra_tprod_posSemidef x y) (expect_nonneg hS _)

/-- **Weak duality, reduction-map relaxation (any k).**  For `Y ⪰ 0` and real `λ` with `λ·1 − X − (k·(tr_B Y) ⊗ 1 − Y) ⪰ 0`, every vector of Schmidt rank
    `≤ k` satisfies `⟨v|X|v⟩ ≤ λ·⟨v|v⟩`. -/
theorem sk_weak_duality_reduction {m n : Type} [Fintype m] [Fintype n] [DecidableEq m] [DecidableEq n] (k : ℕ)
    (X Y : Matrix (m × n) (m × n) ℂ) (lam : ℝ) (hY : Y.PosSemidef)
    (hS : ((lam : ℂ) • (1 : Matrix (m × n) (m × n) ℂ) - X - redK k Y).PosSemidef) (v : m × n → ℂ) (hv : SchmidtLE k v) :
    expect X v ≤ lam * vnorm2 v :=
  expect_le_of_dual (trace_redK_mul k) hY (redK_ketbra_posSemidef k v hv) (expect_nonneg hS v)

/-- **Upper certificate, k = 1.**  If the executable checker accepts `(Y, LY, λ, LS)` for the exact operator `X`, then every value `⟨v|X|v⟩` attained by a unit
    product vector is `≤` the returned bound. -/
theorem checkSkUpperPPT_sound {dA dB p q : Nat} (X Y : EMat (dA * dB) (dA * dB)) (LY : EMat (dA * dB) p) (lam : Rat)
    (LS : EMat (dA * dB) q) (hi : Rat) (h : checkSkUpperPPT X Y LY lam LS = some hi) :
    ∀ r ∈ skValues 1 (Toq.Sep.unflat X.toM), r ≤ (hi : ℝ) := by
  obtain ⟨rfl, hY, hS⟩ := checkSkUpperPPT_eq h
  have hSp := unflat_psd_of_cert hS
  rw [unflat_slackPPT] at hSp
  exact skValues_le_of_dual (Φ := pT) trace_pTR_mul pT_ketbra_posSemidef_of_schmidtLE_one (unflat_psd_of_cert hY) hSp

/-- **Upper certificate, any k.**  If the executable checker accepts `(Y, LY, λ, LS)` for the exact operator `X` and the index `k`, then every value `⟨v|X|v⟩`
    attained by a unit vector of Schmidt rank `≤ k` is `≤` the returned bound. -/
theorem checkSkUpperRed_sound {dA dB p q : Nat} (k : Nat) (X Y : EMat (dA * dB) (dA * dB)) (LY : EMat (dA * dB) p) (lam : Rat)
    (LS : EMat (dA * dB) q) (hi : Rat) (h : checkSkUpperRed k X Y LY lam LS = some hi) :
    ∀ r ∈ skValues k (Toq.Sep.unflat X.toM), r ≤ (hi : ℝ) := by
  obtain ⟨rfl, hY, hS⟩ := checkSkUpperRed_eq h
  have hSp := unflat_psd_of_cert hS
  rw [unflat_slackRed] at hSp
  exact skValues_le_of_dual (trace_redK_mul k) (redK_ketbra_posSemidef k) (unflat_psd_of_cert hY) hSp

/-- **Lower certificate.**  If the executable checker accepts the factor matrices `(Xs, Ys)` (`k` columns each, the columns of `Ys` pairwise orthogonal), the
    returned number is a value `⟨v|X|v⟩` attained by a unit vector of Schmidt rank `≤ k` (the normalised `Σ_i x_i ⊗ y_i`). -/
theorem checkSkLower_sound {dA dB k : Nat} (X : EMat (dA * dB) (dA * dB)) (Xs : EMat dA k) (Ys : EMat dB k) (lo : Rat)
    (h : checkSkLower X Xs Ys = some lo) : (lo : ℝ) ∈ skValues k (Toq.Sep.unflat X.toM) := by
  obtain ⟨ho, hpos, rfl⟩ := checkSkLower_eq h
  have hp : 0 < vnorm2 (flatV (EMat.colC (skVector Xs Ys))) := by
    rw [← normSqV_cast_flat]; exact_mod_cast hpos
  rw [Rat.cast_div, normSqV_cast_flat, quadForm_cast_flat]
  exact rayleigh_mem_skValues k _ _ (skVector_schmidtLE Xs Ys ho) hp

/-- **The certified bracket.**  A lower certificate and an upper certificate for the same operator and the same `k` always satisfy `lo ≤ hi`; the harness demands
    `lower bound of toqito ≤ hi + τ` and `upper bound of toqito ≥ lo − τ`. -/
theorem sk_lower_le_upper {dA dB p q k : Nat} (X Y : EMat (dA * dB) (dA * dB)) (LY : EMat (dA * dB) p) (lam : Rat) (LS : EMat (dA * dB) q)
    (Xs : EMat dA k) (Ys : EMat dB k) (lo hi : Rat) (hlo : checkSkLower X Xs Ys = some lo)
    (hhi : checkSkUpperRed k X Y LY lam LS = some hi) : lo ≤ hi := by
  have := checkSkUpperRed_sound k X Y LY lam LS hi hhi _ (checkSkLower_sound X Xs Ys lo hlo)
  exact_mod_cast this

/-- the same for the PPT certificate and one product term -/
theorem sk_lower_le_upper_ppt {dA dB p q : Nat} (X Y : EMat (dA * dB) (dA * dB)) (LY : EMat (dA * dB) p) (lam : Rat) (LS : EMat (dA * dB) q)
    (Xs : EMat dA 1) (Ys : EMat dB 1) (lo hi : Rat) (hlo : checkSkLower X Xs Ys = some lo)
    (hhi : checkSkUpperPPT X Y LY lam LS = some hi) : lo ≤ hi := by
  have := checkSkUpperPPT_sound X Y LY lam LS hi hhi _ (checkSkLower_sound X Xs Ys lo hlo)
  exact_mod_cast this

/-- **For positive semidefinite operators the one-vector values control the two-vector norm.**  `‖X‖_{S(k)} = sup |⟨w|X|v⟩|` over unit vectors of Schmidt rank
    `≤ k`; if `X ⪰ 0` and every value `⟨v|X|v⟩` of such vectors is `≤ c`, then `|⟨w|X|v⟩|² ≤ c²` for all such `v`, `w` (Cauchy–Schwarz for `X`). -/
theorem sk_bilinear_le {m n : Type} [Fintype m] [Fintype n] [DecidableEq m] [DecidableEq n] (k : ℕ) (X : Matrix (m × n) (m × n) ℂ)
    (hX : X.PosSemidef) (c : ℝ) (hc : ∀ r ∈ skValues k X, r ≤ c) (v w : m × n → ℂ) (hv : SchmidtLE k v) (hw : SchmidtLE k w)
    (nv : vnorm2 v = 1) (nw : vnorm2 w = 1) : Complex.normSq (star w ⬝ᵥ (X *ᵥ v)) ≤ c * c := by
  have h1 := hc _ ⟨v, hv, nv, rfl⟩
  have h2 := hc _ ⟨w, hw, nw, rfl⟩
  exact (normSq_bilinear_le X hX w v).trans (mul_le_mul h2 h1 (expect_nonneg hX v) ((expect_nonneg hX w).trans h2))

/-- `⟨v|(c·1 − X)|v⟩ = c·⟨v|v⟩ − ⟨v|X|v⟩` -/
theorem expect_shift {ι : Type} [Fintype ι] [DecidableEq ι] (X : Matrix ι ι ℂ) (c : ℝ) (v : ι → ℂ) :
    expect ((c : ℂ) • (1 : Matrix ι ι ℂ) - X) v = c * vnorm2 v - expect X v := by
  rw [expect_sub, expect_real_smul, expect_one]

/-- **`is_block_positive` reduces to the S(k) bracket.**  `X` is k-block positive (`⟨v|X|v⟩ ≥ 0` for every unit vector of Schmidt rank `≤ k`) iff every value attained
    by such vectors on `c·1 − X` is `≤ c`, for every real `c` (the code takes `c = ‖X‖` and compares the bounds of `sk_operator_norm(c·1 − X, k)` with `c`). -/
theorem blockPositive_iff_sk_le {m n : Type} [Fintype m] [Fintype n] [DecidableEq m] [DecidableEq n] (k : ℕ)
    (X : Matrix (m × n) (m × n) ℂ) (c : ℝ) :
    (∀ r ∈ skValues k X, 0 ≤ r) ↔ (∀ r ∈ skValues k ((c : ℂ) • (1 : Matrix (m × n) (m × n) ℂ) - X), r ≤ c) := by
  -- on a unit vector `⟨v|c·1 − X|v⟩ = c − ⟨v|X|v⟩`
  constructor
  · rintro h r ⟨v, hv, hn, rfl⟩
    rw [expect_shift, hn, mul_one]
    exact sub_le_self c (h _ ⟨v, hv, hn, rfl⟩)
  · rintro h r ⟨v, hv, hn, rfl⟩
    have := h _ ⟨v, hv, hn, rfl⟩
    rwa [expect_shift, hn, mul_one, sub_le_self_iff] at this

/-- certificates that are accepted: `X` = projector onto the Bell vector `(|00⟩ + |11⟩)/√2` on `2 × 2`, `Y = (1/2 − X)^{T_B}` (the antisymmetric projector),
    `λ = 1/2`; the product vector `|00⟩` attains `1/2`, so the bracket is tight: the S(1) norm of the Bell projector is `1/2` -/
example :
    let X : EMat (2 * 2) (2 * 2) := EMat.ofFn fun i j => if (i.val = 0 ∨ i.val = 3) ∧ (j.val = 0 ∨ j.val = 3) then ⟨1/2, 0⟩ else 0
    let Y : EMat (2 * 2) (2 * 2) := EMat.ofFn fun i j =>
      if (i.val = 1 ∨ i.val = 2) ∧ (j.val = 1 ∨ j.val = 2) then (if i.val = j.val then ⟨1/2, 0⟩ else ⟨-1/2, 0⟩) else 0
    let e0 : EMat 2 1 := EMat.ofFn fun i _ => if i.val = 0 then 1 else 0
    checkSkUpperPPT X Y (EMat.zero : EMat (2 * 2) 1) (1/2) (EMat.zero : EMat (2 * 2) 1) = some (1/2)
      ∧ checkSkLower X e0 e0 = some (1/2) :=
  ⟨by decide +kernel, bell_lower⟩

/-- **Upper certificate, k = 1, two-copy level.**  The PPT relaxation is exact only on `2×2` and `2×3`; from `2×4` and `3×3` on its optimum may sit at a PPT-entangled
    state.  If the executable checker accepts `(Y, LY, λ, t, LS)` for the exact operator `X` — `Y ⪰ 0` on `A B₁ B₂` and
    `Π (λ·1 − X ⊗ 1_{B₂} − Y^{T_{B₂}}) Π + t·(1 − Π) ⪰ 0` with `Π` the projector onto `ℂ^dA ⊗ Sym²(ℂ^dB)`, i.e. a dual feasible point of the Bose-symmetric two-copy
    extension program with one partial transpose that `sk_operator_norm` solves at `effort = 2` — then every value `⟨v|X|v⟩` attained by a unit product vector is `≤` the
    returned bound (for every rational `t`). -/
theorem checkSkUpperDps_sound {dA dB p q : Nat} (X : EMat (dA * dB) (dA * dB)) (Y : EMat ((dA * dB) * dB) ((dA * dB) * dB))
    (LY : EMat ((dA * dB) * dB) p) (lam t : Rat) (LS : EMat ((dA * dB) * dB) q) (hi : Rat)
    (h : checkSkUpperDps X Y LY lam t LS = some hi) :
    ∀ r ∈ skValues 1 (Toq.Sep.unflat X.toM), r ≤ (hi : ℝ) := by
  obtain ⟨rfl, hY, hS⟩ := checkSkUpperDps_eq h
  exact skValues_le_of_dps_cert hY hS

/-- the certified bracket with the two-copy certificate on the upper side -/
theorem sk_lower_le_upper_dps {dA dB p q : Nat} (X : EMat (dA * dB) (dA * dB)) (Y : EMat ((dA * dB) * dB) ((dA * dB) * dB))
    (LY : EMat ((dA * dB) * dB) p) (lam t : Rat) (LS : EMat ((dA * dB) * dB) q)
    (Xs : EMat dA 1) (Ys : EMat dB 1) (lo hi : Rat) (hlo : checkSkLower X Xs Ys = some lo)
    (hhi : checkSkUpperDps X Y LY lam t LS = some hi) : lo ≤ hi := by
  have := checkSkUpperDps_sound X Y LY lam t LS hi hhi _ (checkSkLower_sound X Xs Ys lo hlo)
  exact_mod_cast this

/-- a two-copy certificate that is accepted: `X` = Bell projector on `2 × 2`, `Y = Y₁ ⊗ 1_{B₁}` with `Y₁` the (unnormalised) antisymmetric projector on `A B₂`,
    `λ = 1/2`, `t = 0`: the slack vanishes identically, the bound `1/2` is attained by `|00⟩` -/
example :
    let X : EMat (2 * 2) (2 * 2) := EMat.ofFn fun i j => if (i.val = 0 ∨ i.val = 3) ∧ (j.val = 0 ∨ j.val = 3) then ⟨1/2, 0⟩ else 0
    let Y : EMat ((2 * 2) * 2) ((2 * 2) * 2) := EMat.ofFn fun i j =>
      if i.val / 4 ≠ i.val % 2 ∧ j.val / 4 ≠ j.val % 2 ∧ (i.val / 2) % 2 = (j.val / 2) % 2 then
        (if i.val / 4 = j.val / 4 then ⟨1/2, 0⟩ else ⟨-1/2, 0⟩) else 0
    let e0 : EMat 2 1 := EMat.ofFn fun i _ => if i.val = 0 then 1 else 0
    checkSkUpperDps X Y (EMat.zero : EMat ((2 * 2) * 2) 1) (1/2) 0 (EMat.zero : EMat ((2 * 2) * 2) 1) = some (1/2)
      ∧ checkSkLower X e0 e0 = some (1/2) :=
  ⟨by decide +kernel, bell_lower⟩

end Toq.C14
