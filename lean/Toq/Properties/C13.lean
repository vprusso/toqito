import Toq.Proofs.MetricsLaws
import Toq.Proofs.MetricsWatrous
import Toq.Proofs.MetricsMatsumoto
import Toq.Proofs.MetricsModel
import Toq.Proofs.MetricsFos
import Toq.Proofs.MetricsFosModel
import Toq.Proofs.MetricsFosPure
import Toq.Model.MetricsFos
import Mathlib.Analysis.SpecialFunctions.Trigonometric.Inverse
/-!
# C13 — state distance and fidelity measures: variational definitions, laws, certificate checkers

The measures are stated over `Matrix (Fin n) (Fin n) ℂ` with Mathlib's `Matrix.PosSemidef` (the classical laws and the measured
fidelity for any finite index type; the last part, `fidelity_of_separability`, over `Fin dA × Fin dB` and its extensions).  The executable
checkers (`Toq.Model.Metrics`) work over exact Gaussian rationals; `EMat.toM` is the denotation of an
exact matrix, `Rat.cast` that of an exact number.  From the helper files: `conjDiag U f = U · diag(f) · Uᴴ` (for real `f`); `cFid p q = Σ √(p_i q_i)`,
`cTD p q = ½ Σ |p_i − q_i|`; `traceNormV`, `fidV`, `hsV`, `subFidV`, `docFid`, `matsumotoV` are the measures over an arbitrary finite index
type, of which `traceNorm`, `fid`, `hilbertSchmidt`, `subFidelity`, `docFidelity`, `matsumoto` below are the instances at `Fin n`.

Trace norm / trace distance.  `IsContraction W` means `1 − W ⪰ 0` and `1 + W ⪰ 0` (so `W` is Hermitian
with spectrum in `[−1, 1]`).  The trace norm of a Hermitian `H` is taken in its max form
`traceNorm H = sup { Re tr(W H) : W contraction }`, and `traceDist ρ σ = traceNorm (ρ − σ) / 2`
(toqito: `trace_norm`, `trace_distance`, `helstrom_holevo = 1/2 + traceDist / 2`).  The min form
`min { tr P + tr Q : H = P − Q, P, Q ⪰ 0 }` gives the upper bounds.  The max form has the value `Σ|λ_i(H)|` — the
singular-value definition used by `numpy.linalg.norm(·, "nuc")` — (`traceNorm_eq_sum_abs_eigenvalues`).

Fidelity.  `fid ρ σ` is the optimal value of Watrous' semidefinite program,
`sup { Re tr X : [[ρ, X], [Xᴴ, σ]] ⪰ 0 }`; its dual is `inf { (tr(Yρ) + tr(Zσ))/2 : [[Y, −1], [−1, Z]] ⪰ 0 }`.
toqito's `fidelity` returns the *root* fidelity `‖√ρ √σ‖₁ = tr √(√ρ σ √ρ)` (`docFidelity`).  Watrous' theorem
(TQI Thm 3.17): `fid = docFidelity` for all positive semidefinite pairs (`fid_eq_docFidelity`), with the special
values `Σ √(p_i q_i)` for commuting pairs and `√⟨ψ|σ|ψ⟩` for pure states.  `matsumoto ρ σ` is the same program restricted to
Hermitian `X`; it equals `tr(ρ # σ)` for invertible `ρ` (Cree–Sikora; `matsumoto_eq_trace_geoMean`),
`matsumoto ≤ fid`, and `matsumoto = Σ √(p_i q_i)` for commuting pairs.

Further laws.  The Fuchs–van de Graaf inequalities `1 − F ≤ T ≤ √(1 − F²)`,
`sub-fidelity ≤ F²` (Miszczak et al.), `Matsumoto ≤ F`, the extreme values (`F = 1 ⟺ ρ = σ ⟺ T = 0`, `F = 0 ⟺ ρσ = 0 ⟺ T = 1`),
the pure-state overlap formulas of `F`, `T`, Hilbert–Schmidt, Helstrom–Holevo, sub-fidelity, Bures; symmetry and unitary
invariance of `T`, `F`, Hilbert–Schmidt, sub-fidelity, Helstrom–Holevo and Bures (neither is stated for `matsumoto`); the Bures
distance/angle as the documented monotone functions of `F` with their extreme values (the harness applies them to the endpoints of the
certified enclosure of `F`, `bures_enclosure`), and the rounding to `decimals` places inside them (`roundDec_spec`, `roundDecEncl_sound`).
The exact evaluators `hsDist`, `hsInner` (toqito's `hilbert_schmidt_inner_product`), `trProd`, `subFidRad` denote the corresponding traces
(`hsDist_eq`, `hsInner_eq`, `trProd_eq`, `subFidRad_eq`).
-/

open Matrix
open scoped ComplexOrder MatrixOrder

namespace Toq.C13
open Toq.Metrics EMat

variable {n k r r' : Nat}

def IsDensity (ρ : Matrix (Fin n) (Fin n) ℂ) : Prop := ρ.PosSemidef ∧ ρ.trace = 1

/-- trace norm (max form) `sup { Re tr(W H) : −1 ⪯ W ⪯ 1 }` -/
noncomputable def traceNorm (H : Matrix (Fin n) (Fin n) ℂ) : ℝ := traceNormV H

noncomputable def traceDist (ρ σ : Matrix (Fin n) (Fin n) ℂ) : ℝ := traceNorm (ρ - σ) / 2

/-- Helstrom–Holevo optimal success probability for two equiprobable states: `1/2 + ‖ρ − σ‖₁ / 4` -/
noncomputable def helstromHolevo (ρ σ : Matrix (Fin n) (Fin n) ℂ) : ℝ := 1 / 2 + traceDist ρ σ / 2

/-- (root) fidelity as the optimal value of Watrous' program -/
noncomputable def fid (ρ σ : Matrix (Fin n) (Fin n) ℂ) : ℝ := fidV ρ σ

def matsSet (ρ σ : Matrix (Fin n) (Fin n) ℂ) : Set ℝ :=
  {x | ∃ W, W.IsHermitian ∧ FidFeasible ρ σ W ∧ W.trace.re = x}

/-- Matsumoto fidelity as the optimal value of the Hermitian-restricted program -/
noncomputable def matsumoto (ρ σ : Matrix (Fin n) (Fin n) ℂ) : ℝ := sSup (matsSet ρ σ)

/-- Weak duality of the two variational forms: for every decomposition `H = P − Q` into positive
semidefinite parts and every contraction `W`, `Re tr(W H) ≤ tr P + tr Q`. -/
theorem traceNorm_weak_duality (H P Q W : Matrix (Fin n) (Fin n) ℂ) (hP : P.PosSemidef)
    (hQ : Q.PosSemidef) (hH : H = P - Q) (hW : IsContraction W) :
    (W * H).trace.re ≤ P.trace.re + Q.trace.re :=
  hW.re_trace_mul_le hP hQ hH

/-- If the lower-bound checker accepts with value `lo`, then `W` is a contraction with
`Re tr(W H) = lo`; hence `lo ≤ ‖H‖₁` (max form) and every decomposition `H = P − Q` has `tr P + tr Q ≥ lo`. -/
theorem checkTNLower_sound (H W : EMat n n) (L1 : EMat n r) (L2 : EMat n r') (lo : Rat)
    (h : checkTNLower H W L1 L2 = some lo) :
    IsContraction W.toM ∧ (W.toM * H.toM).trace.re = (lo : ℝ) ∧ (lo : ℝ) ≤ traceNorm H.toM ∧
      ∀ P Q : Matrix (Fin n) (Fin n) ℂ, P.PosSemidef → Q.PosSemidef → H.toM = P - Q →
        (lo : ℝ) ≤ P.trace.re + Q.trace.re := by
  obtain ⟨hH, hW, hv⟩ := checkTNLower_core H W L1 L2 lo h
  refine ⟨hW, hv, ?_, fun P Q hP hQ hPQ => ?_⟩
  · rw [← hv]; exact le_traceNormV hH hW
  · rw [← hv]; exact hW.re_trace_mul_le hP hQ hPQ

/-- If the upper-bound checker accepts with value `hi`, then `H = P − Q` with `P, Q ⪰ 0` and
`tr P + tr Q = hi`; hence every contraction `W` has `Re tr(W H) ≤ hi`, and `‖H‖₁ ≤ hi`. -/
theorem checkTNUpper_sound (H P Q : EMat n n) (LP : EMat n r) (LQ : EMat n r') (hi : Rat)
    (h : checkTNUpper H P Q LP LQ = some hi) :
    (P.toM.PosSemidef ∧ Q.toM.PosSemidef ∧ H.toM = P.toM - Q.toM ∧
      P.toM.trace.re + Q.toM.trace.re = (hi : ℝ)) ∧
    (∀ W : Matrix (Fin n) (Fin n) ℂ, IsContraction W → (W * H.toM).trace.re ≤ (hi : ℝ)) ∧
    traceNorm H.toM ≤ (hi : ℝ) := by
  obtain ⟨hP, hQ, hPQ, hv⟩ := checkTNUpper_core H P Q LP LQ hi h
  refine ⟨⟨hP, hQ, hPQ, hv⟩, fun W hW => ?_, ?_⟩
  · rw [← hv]; exact hW.re_trace_mul_le hP hQ hPQ
  · rw [← hv]; exact traceNormV_le hP hQ hPQ

/-- Accepted lower and upper certificates bracket the trace norm. -/
theorem traceNorm_lo_le_hi (H W P Q : EMat n n) (L1 L2 LP LQ : EMat n r) (lo hi : Rat)
    (hlo : checkTNLower H W L1 L2 = some lo) (hhi : checkTNUpper H P Q LP LQ = some hi) :
    (lo : ℝ) ≤ traceNorm H.toM ∧ traceNorm H.toM ≤ (hi : ℝ) :=
  ⟨(checkTNLower_sound H W L1 L2 lo hlo).2.2.1, (checkTNUpper_sound H P Q LP LQ hi hhi).2.2⟩

/-- Symmetry: `T(ρ, σ) = T(σ, ρ)` (via `W ↦ −W`). -/
theorem traceDist_symm (ρ σ : Matrix (Fin n) (Fin n) ℂ) : traceDist ρ σ = traceDist σ ρ := by
  unfold traceDist traceNorm
  rw [← neg_sub σ ρ, traceNormV_neg]

/-- Invariance under a common unitary: `T(UρUᴴ, UσUᴴ) = T(ρ, σ)`. -/
theorem traceDist_unitary_invariant (ρ σ U : Matrix (Fin n) (Fin n) ℂ) (hU : Uᴴ * U = 1) :
    traceDist (U * ρ * Uᴴ) (U * σ * Uᴴ) = traceDist ρ σ := by
  unfold traceDist traceNorm
  rw [← Matrix.sub_mul, ← Matrix.mul_sub, traceNormV_conj _ _ hU]

/-- Triangle inequality `T(ρ, τ) ≤ T(ρ, σ) + T(σ, τ)` for Hermitian arguments. -/
theorem traceDist_triangle (ρ σ τ : Matrix (Fin n) (Fin n) ℂ) (hρ : ρ.IsHermitian)
    (hσ : σ.IsHermitian) (hτ : τ.IsHermitian) : traceDist ρ τ ≤ traceDist ρ σ + traceDist σ τ := by
  have h := traceNormV_add_le (hρ.sub hσ) (hσ.sub hτ)
  rw [sub_add_sub_cancel] at h
  unfold traceDist traceNorm
  linarith

theorem traceDist_self (ρ : Matrix (Fin n) (Fin n) ℂ) : traceDist ρ ρ = 0 := by
  unfold traceDist traceNorm
  rw [sub_self, traceNormV_zero, zero_div]

theorem traceDist_nonneg (ρ σ : Matrix (Fin n) (Fin n) ℂ) (hρ : ρ.IsHermitian) (hσ : σ.IsHermitian) :
    0 ≤ traceDist ρ σ :=
  div_nonneg (traceNormV_nonneg (hρ.sub hσ)) zero_le_two

/-- Definiteness: for Hermitian arguments `T(ρ, σ) = 0` exactly when `ρ = σ`. -/
theorem traceDist_eq_zero_iff (ρ σ : Matrix (Fin n) (Fin n) ℂ) (hρ : ρ.IsHermitian)
    (hσ : σ.IsHermitian) : traceDist ρ σ = 0 ↔ ρ = σ := by
  unfold traceDist traceNorm
  rw [div_eq_zero_iff, or_iff_left two_ne_zero, traceNormV_eq_zero_iff (hρ.sub hσ), sub_eq_zero]

/-- `T(ρ, σ) ≤ 1` for density operators (decomposition `P = ρ`, `Q = σ`). -/
theorem traceDist_le_one (ρ σ : Matrix (Fin n) (Fin n) ℂ) (hρ : IsDensity ρ) (hσ : IsDensity σ) :
    traceDist ρ σ ≤ 1 := by
  have := traceNormV_le hρ.1 hσ.1 (rfl : ρ - σ = ρ - σ)
  rw [hρ.2, hσ.2, Complex.one_re] at this
  unfold traceDist traceNorm
  linarith

/-- Orthogonal supports give the extreme value: if a contraction `W` acts as `+1` on `ρ` and as `−1` on
`σ` (e.g. `W = Π_ρ − Π_σ` for the support projections), then `T(ρ, σ) = 1`. -/
theorem traceDist_eq_one_of_orthogonal (ρ σ W : Matrix (Fin n) (Fin n) ℂ) (hρ : IsDensity ρ)
    (hσ : IsDensity σ) (hW : IsContraction W) (h1 : W * ρ = ρ) (h2 : W * σ = -σ) :
    traceDist ρ σ = 1 := by
  refine (traceNormV_sub_div_two_eq_one_iff hρ.1 hσ.1 hρ.2 hσ.2).mpr ?_
  -- `ρ σ = (W ρ)ᴴ σ = ρ (W σ) = −ρ σ`
  have e : ρ * σ = -(ρ * σ) := by
    conv_lhs => rw [← hρ.1.isHermitian.eq, ← h1, Matrix.conjTranspose_mul, hρ.1.isHermitian.eq, hW.isHermitian.eq,
      Matrix.mul_assoc, h2, Matrix.mul_neg]
  ext i j
  exact self_eq_neg.mp (congrFun (congrFun e i) j)

/-- The Helstrom–Holevo quantity of two density operators lies in `[1/2, 1]`. -/
theorem helstromHolevo_mem (ρ σ : Matrix (Fin n) (Fin n) ℂ) (hρ : IsDensity ρ) (hσ : IsDensity σ) :
    1 / 2 ≤ helstromHolevo ρ σ ∧ helstromHolevo ρ σ ≤ 1 := by
  unfold helstromHolevo
  have h1 := traceDist_nonneg ρ σ hρ.1.isHermitian hσ.1.isHermitian
  have h2 := traceDist_le_one ρ σ hρ hσ
  constructor <;> linarith

/-- Weak duality of Watrous' program: for feasible `X` (`[[ρ, X], [Xᴴ, σ]] ⪰ 0`) and dual-feasible `(Y, Z)`
(`[[Y, −1], [−1, Z]] ⪰ 0`), `Re tr X ≤ (Re tr(Yρ) + Re tr(Zσ)) / 2`.  No assumption on `ρ`, `σ`. -/
theorem fid_weak_duality (ρ σ X Y Z : Matrix (Fin n) (Fin n) ℂ) (hX : FidFeasible ρ σ X)
    (hD : FidDualFeasible Y Z) : X.trace.re ≤ dualVal ρ σ Y Z :=
  hX.re_trace_le_dualVal hD

/-- If the primal checker accepts with value `lo`, then `X` is feasible with `Re tr X = lo`; hence
`lo ≤ fid ρ σ` and every dual-feasible pair has value at least `lo`. -/
theorem checkFidPrimal_sound (ρ σ X : EMat n n) (L : EMat (n + n) r) (lo : Rat)
    (h : checkFidPrimal ρ σ X L = some lo) :
    FidFeasible ρ.toM σ.toM X.toM ∧ X.toM.trace.re = (lo : ℝ) ∧ (lo : ℝ) ≤ fid ρ.toM σ.toM ∧
      ∀ Y Z : Matrix (Fin n) (Fin n) ℂ, FidDualFeasible Y Z → (lo : ℝ) ≤ dualVal ρ.toM σ.toM Y Z := by
  obtain ⟨hX, hv⟩ := checkFidPrimal_core ρ σ X L lo h
  exact ⟨hX, hv, hv ▸ le_fidV hX, fun _ _ hD => hv ▸ hX.re_trace_le_dualVal hD⟩

/-- The same for the congruence form of the certificate (`[[ρ, X], [Xᴴ, σ]] = B M Bᴴ` exactly, `M ⪰ 0`
certified), which also covers rank-deficient states. -/
theorem checkFidPrimalCong_sound (ρ σ X : EMat n n) (B : EMat (n + n) k) (M : EMat k k)
    (L : EMat k r) (lo : Rat) (h : checkFidPrimalCong ρ σ X B M L = some lo) :
    FidFeasible ρ.toM σ.toM X.toM ∧ X.toM.trace.re = (lo : ℝ) ∧ (lo : ℝ) ≤ fid ρ.toM σ.toM ∧
      ∀ Y Z : Matrix (Fin n) (Fin n) ℂ, FidDualFeasible Y Z → (lo : ℝ) ≤ dualVal ρ.toM σ.toM Y Z := by
  obtain ⟨hX, hv⟩ := checkFidPrimalCong_core ρ σ X B M L lo h
  exact ⟨hX, hv, hv ▸ le_fidV hX, fun _ _ hD => hv ▸ hX.re_trace_le_dualVal hD⟩

/-- If the dual checker accepts with value `hi`, then `(Y, Z)` is dual feasible with value `hi`; hence
every feasible `X` has `Re tr X ≤ hi`, and `fid ρ σ ≤ hi` for positive semidefinite `ρ`, `σ`. -/
theorem checkFidDual_sound (ρ σ Y Z : EMat n n) (L : EMat (n + n) r) (hi : Rat)
    (h : checkFidDual ρ σ Y Z L = some hi) :
    (FidDualFeasible Y.toM Z.toM ∧ dualVal ρ.toM σ.toM Y.toM Z.toM = (hi : ℝ)) ∧
    (∀ X : Matrix (Fin n) (Fin n) ℂ, FidFeasible ρ.toM σ.toM X → X.trace.re ≤ (hi : ℝ)) ∧
    (ρ.toM.PosSemidef → σ.toM.PosSemidef → fid ρ.toM σ.toM ≤ (hi : ℝ)) := by
  obtain ⟨hD, hv⟩ := checkFidDual_core ρ σ Y Z L hi h
  refine ⟨⟨hD, hv⟩, fun X hX => ?_, fun hρ hσ => ?_⟩
  · rw [← hv]; exact hX.re_trace_le_dualVal hD
  · rw [← hv]; exact fidV_le_dualVal hρ hσ hD

/-- Accepted primal and dual certificates bracket the fidelity (the accepted primal certificate already
forces `ρ, σ ⪰ 0`). -/
theorem fid_lo_le_hi (ρ σ X Y Z : EMat n n) (L L' : EMat (n + n) r) (lo hi : Rat)
    (hlo : checkFidPrimal ρ σ X L = some lo) (hhi : checkFidDual ρ σ Y Z L' = some hi) :
    (lo : ℝ) ≤ fid ρ.toM σ.toM ∧ fid ρ.toM σ.toM ≤ (hi : ℝ) := by
  obtain ⟨hX, -, hlo', -⟩ := checkFidPrimal_sound ρ σ X L lo hlo
  exact ⟨hlo', (checkFidDual_sound ρ σ Y Z L' hi hhi).2.2 hX.posSemidef_left hX.posSemidef_right⟩

/-- Symmetry: `F(ρ, σ) = F(σ, ρ)` (swap the blocks, `X ↦ Xᴴ`). -/
theorem fid_symm (ρ σ : Matrix (Fin n) (Fin n) ℂ) : fid ρ σ = fid σ ρ :=
  fidV_symm ρ σ

/-- Invariance under a common unitary: `F(UρUᴴ, UσUᴴ) = F(ρ, σ)`. -/
theorem fid_unitary_invariant (ρ σ U : Matrix (Fin n) (Fin n) ℂ) (hU : Uᴴ * U = 1) :
    fid (U * ρ * Uᴴ) (U * σ * Uᴴ) = fid ρ σ :=
  fidV_conj ρ σ U hU

/-- `F(ρ, ρ) = tr ρ` for positive semidefinite `ρ` (`X = ρ` is feasible; `Y = Z = 1` is dual feasible);
in particular `F(ρ, ρ) = 1` for a density operator. -/
theorem fid_self (ρ : Matrix (Fin n) (Fin n) ℂ) (hρ : ρ.PosSemidef) : fid ρ ρ = ρ.trace.re :=
  fidV_self hρ

/-- `0 ≤ F(ρ, σ) ≤ 1` for density operators. -/
theorem fid_mem_unit (ρ σ : Matrix (Fin n) (Fin n) ℂ) (hρ : IsDensity ρ) (hσ : IsDensity σ) :
    0 ≤ fid ρ σ ∧ fid ρ σ ≤ 1 :=
  ⟨fidV_nonneg hρ.1 hσ.1, fidV_le_one hρ.1 hσ.1 hρ.2 hσ.2⟩

/-- Orthogonal supports give the extreme value: if a Hermitian idempotent `Π` satisfies `Π ρ = ρ` and
`Π σ = 0`, then `F(ρ, σ) = 0`. -/
theorem fid_eq_zero_of_orthogonal (ρ σ P : Matrix (Fin n) (Fin n) ℂ) (hρ : ρ.PosSemidef)
    (hσ : σ.PosSemidef) (hP : P.IsHermitian) (hPP : P * P = P) (h1 : P * ρ = ρ) (h2 : P * σ = 0) :
    fid ρ σ = 0 := by
  refine (fidV_eq_zero_iff hρ hσ).mpr ?_
  -- `ρ σ = (Π ρ)ᴴ σ = ρ (Π σ) = 0`
  rw [← hρ.isHermitian.eq, ← h1, Matrix.conjTranspose_mul, hρ.isHermitian.eq, hP.eq, Matrix.mul_assoc, h2, Matrix.mul_zero]

/-- Weak duality for the Hermitian-restricted program: Hermitian feasible `W`, dual block
`[[Y, C], [Cᴴ, Z]] ⪰ 0` with `C + Cᴴ = −2` give `Re tr W ≤ (Re tr(Yρ) + Re tr(Zσ)) / 2`. -/
theorem mats_weak_duality (ρ σ W Y Z C : Matrix (Fin n) (Fin n) ℂ) (hW : W.IsHermitian)
    (hF : FidFeasible ρ σ W) (hC : C + Cᴴ = (-2 : ℂ) • (1 : Matrix (Fin n) (Fin n) ℂ))
    (hD : DualBlockPsd Y Z C) : W.trace.re ≤ dualVal ρ σ Y Z :=
  hF.re_trace_le_dualVal_herm hW hC hD

/-- `Matsumoto ≤ F`: the Matsumoto program is the fidelity program with the extra constraint `W = Wᴴ`. -/
theorem matsumoto_le_fid (ρ σ : Matrix (Fin n) (Fin n) ℂ) (hρ : ρ.PosSemidef) (hσ : σ.PosSemidef) :
    matsumoto ρ σ ≤ fid ρ σ :=
  matsumotoV_le_fidV hρ hσ

/-- If the Matsumoto primal checker accepts with value `lo`, then `W` is Hermitian and feasible with
`Re tr W = lo`; hence `lo ≤ matsumoto ρ σ` and `lo ≤ fid ρ σ`. -/
theorem checkMatsPrimal_sound (ρ σ W : EMat n n) (L : EMat (n + n) r) (lo : Rat)
    (h : checkMatsPrimal ρ σ W L = some lo) :
    W.toM.IsHermitian ∧ FidFeasible ρ.toM σ.toM W.toM ∧ W.toM.trace.re = (lo : ℝ) ∧
      (lo : ℝ) ≤ matsumoto ρ.toM σ.toM ∧ (lo : ℝ) ≤ fid ρ.toM σ.toM := by
  obtain ⟨hW, hF, hv⟩ := checkMatsPrimal_core ρ σ W L lo h
  refine ⟨hW, hF, hv, ?_, ?_⟩
  · rw [← hv]; exact le_matsumotoV hW hF
  · rw [← hv]; exact le_fidV hF

/-- If the Matsumoto dual checker accepts with value `hi`, every Hermitian feasible `W` has
`Re tr W ≤ hi`; hence `matsumoto ρ σ ≤ hi` for positive semidefinite `ρ`, `σ`. -/
theorem checkMatsDual_sound (ρ σ Y Z C : EMat n n) (L : EMat (n + n) r) (hi : Rat)
    (h : checkMatsDual ρ σ Y Z C L = some hi) :
    (∀ W : Matrix (Fin n) (Fin n) ℂ, W.IsHermitian → FidFeasible ρ.toM σ.toM W →
      W.trace.re ≤ (hi : ℝ)) ∧
    (ρ.toM.PosSemidef → σ.toM.PosSemidef → matsumoto ρ.toM σ.toM ≤ (hi : ℝ)) := by
  obtain ⟨hC, hD, hv⟩ := checkMatsDual_core ρ σ Y Z C L hi h
  have key : ∀ W : Matrix (Fin n) (Fin n) ℂ, W.IsHermitian → FidFeasible ρ.toM σ.toM W →
      W.trace.re ≤ (hi : ℝ) := by
    intro W hW hF
    rw [← hv]; exact hF.re_trace_le_dualVal_herm hW hC hD
  exact ⟨key, fun hρ hσ => matsumotoV_le hρ hσ key⟩

/-- `hsDist` is `Re tr((ρ − σ)²)`, the documented Hilbert–Schmidt distance. -/
theorem hsDist_eq (ρ σ : EMat n n) :
    ((hsDist ρ σ : Rat) : ℝ) = ((ρ.toM - σ.toM) * (ρ.toM - σ.toM)).trace.re := by
  unfold hsDist
  rw [re_trace, toM_mul, toM_sub]

/-- For Hermitian arguments `tr((ρ − σ)²)` is the squared Frobenius norm `Σ_ij |(ρ − σ)_ij|²`
(the "`‖ρ − σ‖₂²`" of the documentation is the Schatten 2-norm, not the spectral norm). -/
theorem hsDist_eq_sum_sq (ρ σ : Matrix (Fin n) (Fin n) ℂ) (hρ : ρ.IsHermitian) (hσ : σ.IsHermitian) :
    ((ρ - σ) * (ρ - σ)).trace.re = ∑ i, ∑ j, ‖(ρ - σ) i j‖ ^ 2 := by
  have h := Matrix.re_trace_conjTranspose_mul_self (ρ - σ)
  rwa [(hρ.sub hσ).eq] at h

/-- `hsInner` is the Hilbert–Schmidt inner product `tr(Aᴴ B)` of toqito's `hilbert_schmidt_inner_product`, also for rectangular
arguments. -/
theorem hsInner_eq (A B : EMat n k) : (hsInner A B).toC = (A.toMᴴ * B.toM).trace := by
  unfold hsInner
  rw [toC_trace, toM_mul, toM_ct]

/-- `trProd` is `Re tr(ρ σ)` (the pure-state overlap `⟨ψ|σ|ψ⟩` when `ρ = |ψ⟩⟨ψ|`). -/
theorem trProd_eq (ρ σ : EMat n n) : ((trProd ρ σ : Rat) : ℝ) = (ρ.toM * σ.toM).trace.re := by
  unfold trProd
  rw [re_trace, toM_mul]

/-- `subFidRad` is the radicand `2[(tr ρσ)² − tr(ρσρσ)]` of the sub-fidelity
`E(ρ, σ) = tr(ρσ) + √(2[(tr ρσ)² − tr(ρσρσ)])`. -/
theorem subFidRad_eq (ρ σ : EMat n n) :
    ((subFidRad ρ σ : Rat) : ℝ)
      = 2 * ((ρ.toM * σ.toM).trace.re ^ 2 - (ρ.toM * σ.toM * (ρ.toM * σ.toM)).trace.re) := by
  unfold subFidRad trProd4
  rw [Rat.cast_mul, Rat.cast_sub, Rat.cast_mul, trProd_eq, re_trace, toM_mul, toM_mul, Rat.cast_ofNat, sq]

/-- Hilbert–Schmidt distance as documented, `tr((ρ − σ)²)` -/
noncomputable def hilbertSchmidt (ρ σ : Matrix (Fin n) (Fin n) ℂ) : ℝ := hsV ρ σ

/-- sub-fidelity `E(ρ, σ) = tr(ρσ) + √(2[(tr ρσ)² − tr(ρσρσ)])` -/
noncomputable def subFidelity (ρ σ : Matrix (Fin n) (Fin n) ℂ) : ℝ := subFidV ρ σ

/-- the fidelity in the closed form `tr √(√ρ σ √ρ)` (`CFC.sqrt` is the positive square root) -/
noncomputable def docFidelity (ρ σ : Matrix (Fin n) (Fin n) ℂ) : ℝ := docFid ρ σ

/-- Bures distance `√(2 (1 − F))` as documented by toqito (`F` = root fidelity) -/
noncomputable def buresDistance (ρ σ : Matrix (Fin n) (Fin n) ℂ) : ℝ := Real.sqrt (2 * (1 - fid ρ σ))

/-- Bures angle `arccos √F` as documented by toqito (`F` = root fidelity) -/
noncomputable def buresAngle (ρ σ : Matrix (Fin n) (Fin n) ℂ) : ℝ := Real.arccos (Real.sqrt (fid ρ σ))

/-- The trace norm of a Hermitian matrix is the sum of the absolute values of its eigenvalues (the singular-value
definition used by `numpy.linalg.norm(·, "nuc")`): the max form is attained at `W = sgn H`, the min form at the Jordan
decomposition. -/
theorem traceNorm_eq_sum_abs_eigenvalues (H : Matrix (Fin n) (Fin n) ℂ) (hH : H.IsHermitian) :
    traceNorm H = ∑ i, |hH.eigenvalues i| :=
  traceNormV_eq_sum_abs_eigenvalues hH

/-- `1 − F ≤ T` for all density operators (via Powers–Størmer `tr(√ρ − √σ)² ≤ ‖ρ − σ‖₁` and feasibility of `X = √ρ √σ`). -/
theorem fuchs_van_de_graaf_lower (ρ σ : Matrix (Fin n) (Fin n) ℂ) (hρ : IsDensity ρ) (hσ : IsDensity σ) :
    1 - fid ρ σ ≤ traceDist ρ σ :=
  fvdg_lower hρ.1 hσ.1 hρ.2 hσ.2

/-- `T² + F² ≤ 1` for all density operators (measure in the eigenbasis of `ρ − σ`: `T` becomes the classical distance of
the outcome distributions, `F` can only grow, and the classical inequality is Cauchy–Schwarz). -/
theorem fuchs_van_de_graaf_upper_sq (ρ σ : Matrix (Fin n) (Fin n) ℂ) (hρ : IsDensity ρ) (hσ : IsDensity σ) :
    traceDist ρ σ ^ 2 + fid ρ σ ^ 2 ≤ 1 :=
  fvdg_upper hρ.1 hσ.1 hρ.2 hσ.2

/-- `T ≤ √(1 − F²)` for all density operators. -/
theorem fuchs_van_de_graaf_upper (ρ σ : Matrix (Fin n) (Fin n) ℂ) (hρ : IsDensity ρ) (hσ : IsDensity σ) :
    traceDist ρ σ ≤ Real.sqrt (1 - fid ρ σ ^ 2) := by
  refine Real.le_sqrt_of_sq_le ?_
  linarith [fuchs_van_de_graaf_upper_sq ρ σ hρ hσ]

/-- The fidelity of a measured pair can only grow: for every projective measurement `{P_k}` the value of the fidelity program
is at most the classical fidelity of the outcome distributions `tr(P_k ρ)`, `tr(P_k σ)`. -/
theorem fid_le_measured {κ : Type*} [Fintype κ] [DecidableEq κ] (ρ σ : Matrix (Fin n) (Fin n) ℂ) (hρ : ρ.PosSemidef)
    (hσ : σ.PosSemidef) (P : κ → Matrix (Fin n) (Fin n) ℂ) (hP : IsPVM P) :
    fid ρ σ ≤ cFid (fun k => (P k * ρ).trace.re) (fun k => (P k * σ).trace.re) :=
  fidV_le_pvm hρ hσ hP

/-- Classical Fuchs–van de Graaf for probability vectors of every length: `1 − F ≤ T` and `T² + F² ≤ 1`, with
`0 ≤ F ≤ 1`, `F = 1 ⟺ p = q`, `T = 0 ⟺ p = q`, and the triangle inequality for `T`. -/
theorem classical_laws {ι : Type*} [Fintype ι] (p q r : ι → ℝ) (hp : IsProb p) (hq : IsProb q) :
    1 - cFid p q ≤ cTD p q ∧ cTD p q ^ 2 + cFid p q ^ 2 ≤ 1 ∧ 0 ≤ cFid p q ∧ cFid p q ≤ 1 ∧
      (cFid p q = 1 ↔ p = q) ∧ (cTD p q = 0 ↔ p = q) ∧ cTD p r ≤ cTD p q + cTD q r :=
  ⟨one_sub_cFid_le_cTD hp hq, cTD_sq_add_cFid_sq_le_one hp hq, cFid_nonneg p q, cFid_le_one hp hq,
    cFid_eq_one_iff hp hq, cTD_eq_zero_iff p q, cTD_triangle p q r⟩

/-- `F(ρ, σ) = 1` exactly when `ρ = σ` (density operators). -/
theorem fid_eq_one_iff (ρ σ : Matrix (Fin n) (Fin n) ℂ) (hρ : IsDensity ρ) (hσ : IsDensity σ) :
    fid ρ σ = 1 ↔ ρ = σ :=
  fidV_eq_one_iff hρ.1 hσ.1 hρ.2 hσ.2

/-- `F(ρ, σ) = 0` exactly when the supports are orthogonal, `ρ σ = 0` (density operators). -/
theorem fid_eq_zero_iff (ρ σ : Matrix (Fin n) (Fin n) ℂ) (hρ : IsDensity ρ) (hσ : IsDensity σ) :
    fid ρ σ = 0 ↔ ρ * σ = 0 :=
  fidV_eq_zero_iff hρ.1 hσ.1

/-- `T(ρ, σ) = 1` exactly when the supports are orthogonal, `ρ σ = 0` (density operators). -/
theorem traceDist_eq_one_iff (ρ σ : Matrix (Fin n) (Fin n) ℂ) (hρ : IsDensity ρ) (hσ : IsDensity σ) :
    traceDist ρ σ = 1 ↔ ρ * σ = 0 :=
  traceNormV_sub_div_two_eq_one_iff hρ.1 hσ.1 hρ.2 hσ.2

/-- For `ρ = U diag(p) Uᴴ`, `σ = U diag(q) Uᴴ` (common eigenbasis, `U` unitary): `T(ρ, σ) = ½ Σ |p_i − q_i|`. -/
theorem traceDist_commuting (U : Matrix (Fin n) (Fin n) ℂ) (hU : Uᴴ * U = 1) (p q : Fin n → ℝ) :
    traceDist (conjDiag U p) (conjDiag U q) = cTD p q := by
  unfold traceDist traceNorm cTD
  rw [conjDiag_sub, traceNormV_conjDiag hU]

/-- For `ρ = U diag(p) Uᴴ`, `σ = U diag(q) Uᴴ` with `p, q ≥ 0`: `F(ρ, σ) = Σ √(p_i q_i)`. -/
theorem fid_commuting (U : Matrix (Fin n) (Fin n) ℂ) (hU : Uᴴ * U = 1) (p q : Fin n → ℝ) (hp : ∀ i, 0 ≤ p i)
    (hq : ∀ i, 0 ≤ q i) : fid (conjDiag U p) (conjDiag U q) = cFid p q :=
  fidV_conjDiag hU hp hq

/-- For a commuting pair with spectra `p, q ≥ 0` the Matsumoto fidelity (Hermitian-restricted program) is `Σ √(p_i q_i)` too
(`ρ # σ = U diag(√(p_i q_i)) Uᴴ`). -/
theorem matsumoto_commuting (U : Matrix (Fin n) (Fin n) ℂ) (hU : Uᴴ * U = 1) (p q : Fin n → ℝ) (hp : ∀ i, 0 ≤ p i)
    (hq : ∀ i, 0 ≤ q i) : matsumoto (conjDiag U p) (conjDiag U q) = cFid p q :=
  matsumotoV_conjDiag hU hp hq

/-- For a commuting pair the closed form `tr √(√ρ σ √ρ)` is `Σ √(p_i q_i)` as well. -/
theorem docFidelity_commuting (U : Matrix (Fin n) (Fin n) ℂ) (hU : Uᴴ * U = 1) (p q : Fin n → ℝ) (hp : ∀ i, 0 ≤ p i)
    (hq : ∀ i, 0 ≤ q i) : docFidelity (conjDiag U p) (conjDiag U q) = cFid p q :=
  docFid_conjDiag hU hp hq

/-- For a commuting pair: `tr((ρ − σ)²) = Σ (p_i − q_i)²`, `tr(ρσ) = Σ p_i q_i`, `tr(ρσρσ) = Σ (p_i q_i)²`. -/
theorem traces_commuting (U : Matrix (Fin n) (Fin n) ℂ) (hU : Uᴴ * U = 1) (p q : Fin n → ℝ) :
    hilbertSchmidt (conjDiag U p) (conjDiag U q) = ∑ i, (p i - q i) ^ 2 ∧
    (conjDiag U p * conjDiag U q).trace.re = ∑ i, p i * q i ∧
    (conjDiag U p * conjDiag U q * (conjDiag U p * conjDiag U q)).trace.re = ∑ i, (p i * q i) ^ 2 := by
  simp only [hilbertSchmidt, hsV, conjDiag_sub, conjDiag_mul hU, conjDiag_trace_re hU, sq, and_self]

/-- The exact evaluators of the model on rational spectra are the measures of the commuting pair `U diag(p) Uᴴ`, `U diag(q) Uᴴ`:
`classTD` is the trace distance, `classHS` the Hilbert–Schmidt distance, `classTrProd + √classSubFidRad` the sub-fidelity. -/
theorem class_evaluators_sound (U : Matrix (Fin n) (Fin n) ℂ) (hU : Uᴴ * U = 1) (p q : Fin n → Rat) :
    traceDist (conjDiag U fun i => (p i : ℝ)) (conjDiag U fun i => (q i : ℝ)) = ((classTD p q : Rat) : ℝ) ∧
    hilbertSchmidt (conjDiag U fun i => (p i : ℝ)) (conjDiag U fun i => (q i : ℝ)) = ((classHS p q : Rat) : ℝ) ∧
    subFidelity (conjDiag U fun i => (p i : ℝ)) (conjDiag U fun i => (q i : ℝ))
      = ((classTrProd p q : Rat) : ℝ) + Real.sqrt ((classSubFidRad p q : Rat) : ℝ) := by
  refine ⟨?_, ?_, ?_⟩
  · rw [traceDist_commuting U hU, classTD_cast]
  · rw [(traces_commuting U hU _ _).1, classHS_cast]
  · rw [classTrProd_cast, classSubFidRad_cast]
    exact subFidV_conjDiag hU _ _

/-- If the classical lower/upper certificate checkers accept (`s_i² ≤ p_i q_i`, resp. `p_i q_i ≤ s_i²`, `s_i ≥ 0`), the returned
sums bracket the fidelity of the commuting pair `U diag(p) Uᴴ`, `U diag(q) Uᴴ` (for spectra `p, q ≥ 0`). -/
theorem checkClassFid_sound (U : Matrix (Fin n) (Fin n) ℂ) (hU : Uᴴ * U = 1) (p q s t : Fin n → Rat) (lo hi : Rat)
    (hp : ∀ i, 0 ≤ p i) (hq : ∀ i, 0 ≤ q i) (hlo : checkClassFidLower p q s = some lo)
    (hhi : checkClassFidUpper p q t = some hi) :
    (lo : ℝ) ≤ fid (conjDiag U fun i => (p i : ℝ)) (conjDiag U fun i => (q i : ℝ)) ∧
      fid (conjDiag U fun i => (p i : ℝ)) (conjDiag U fun i => (q i : ℝ)) ≤ (hi : ℝ) := by
  rw [fid_commuting U hU _ _ (fun i => by exact_mod_cast hp i) (fun i => by exact_mod_cast hq i)]
  exact ⟨checkClassFidLower_core p q s lo hlo, checkClassFidUpper_core p q t hi hhi⟩

/-- The same bracket holds for the Matsumoto fidelity of the commuting pair. -/
theorem checkClassFid_sound_matsumoto (U : Matrix (Fin n) (Fin n) ℂ) (hU : Uᴴ * U = 1) (p q s t : Fin n → Rat) (lo hi : Rat)
    (hp : ∀ i, 0 ≤ p i) (hq : ∀ i, 0 ≤ q i) (hlo : checkClassFidLower p q s = some lo)
    (hhi : checkClassFidUpper p q t = some hi) :
    (lo : ℝ) ≤ matsumoto (conjDiag U fun i => (p i : ℝ)) (conjDiag U fun i => (q i : ℝ)) ∧
      matsumoto (conjDiag U fun i => (p i : ℝ)) (conjDiag U fun i => (q i : ℝ)) ≤ (hi : ℝ) := by
  rw [matsumoto_commuting U hU _ _ (fun i => by exact_mod_cast hp i) (fun i => by exact_mod_cast hq i)]
  exact ⟨checkClassFidLower_core p q s lo hlo, checkClassFidUpper_core p q t hi hhi⟩

/-- `F(|ψ⟩⟨ψ|, σ) = √⟨ψ|σ|ψ⟩` for a unit vector `ψ` and positive semidefinite `σ`. -/
theorem fid_pure (ψ : Fin n → ℂ) (hψ : star ψ ⬝ᵥ ψ = 1) (σ : Matrix (Fin n) (Fin n) ℂ) (hσ : σ.PosSemidef) :
    fid (vecMulVec ψ (star ψ)) σ = Real.sqrt (star ψ ⬝ᵥ (σ *ᵥ ψ)).re := by
  rw [fid, fidV_pure (isPureProj_vecMulVec ψ hψ) hσ, trace_pure_mul]

/-- `F(|ψ⟩⟨ψ|, |φ⟩⟨φ|) = |⟨ψ|φ⟩|` for unit vectors. -/
theorem fid_pure_pure (ψ φ : Fin n → ℂ) (hψ : star ψ ⬝ᵥ ψ = 1) (hφ : star φ ⬝ᵥ φ = 1) :
    fid (vecMulVec ψ (star ψ)) (vecMulVec φ (star φ)) = ‖star ψ ⬝ᵥ φ‖ := by
  rw [fid, fidV_pure (isPureProj_vecMulVec ψ hψ) (isPureProj_vecMulVec φ hφ).posSemidef, trace_pure_mul_pure,
    Real.sqrt_sq (norm_nonneg _)]

/-- `T(|ψ⟩⟨ψ|, |φ⟩⟨φ|) = √(1 − |⟨ψ|φ⟩|²)` for unit vectors; in particular `T² + F² = 1` for pure states. -/
theorem traceDist_pure_pure (ψ φ : Fin n → ℂ) (hψ : star ψ ⬝ᵥ ψ = 1) (hφ : star φ ⬝ᵥ φ = 1) :
    traceDist (vecMulVec ψ (star ψ)) (vecMulVec φ (star φ)) = Real.sqrt (1 - ‖star ψ ⬝ᵥ φ‖ ^ 2) := by
  rw [traceDist, traceNorm, traceNormV_pure_pure (isPureProj_vecMulVec ψ hψ) (isPureProj_vecMulVec φ hφ), trace_pure_mul_pure]

/-- Hilbert–Schmidt distance of two pure states: `tr((ρ − σ)²) = 2 − 2 |⟨ψ|φ⟩|²`. -/
theorem hilbertSchmidt_pure_pure (ψ φ : Fin n → ℂ) (hψ : star ψ ⬝ᵥ ψ = 1) (hφ : star φ ⬝ᵥ φ = 1) :
    hilbertSchmidt (vecMulVec ψ (star ψ)) (vecMulVec φ (star φ)) = 2 - 2 * ‖star ψ ⬝ᵥ φ‖ ^ 2 := by
  rw [hilbertSchmidt, hsV_pure_pure (isPureProj_vecMulVec ψ hψ) (isPureProj_vecMulVec φ hφ), trace_pure_mul_pure]

/-- For a pure `ρ = |ψ⟩⟨ψ|` the sub-fidelity is the overlap `⟨ψ|σ|ψ⟩`, which is `F(ρ, σ)²`. -/
theorem subFidelity_pure (ψ : Fin n → ℂ) (hψ : star ψ ⬝ᵥ ψ = 1) (σ : Matrix (Fin n) (Fin n) ℂ) (hσ : σ.PosSemidef) :
    subFidelity (vecMulVec ψ (star ψ)) σ = (star ψ ⬝ᵥ (σ *ᵥ ψ)).re ∧
      subFidelity (vecMulVec ψ (star ψ)) σ = fid (vecMulVec ψ (star ψ)) σ ^ 2 := by
  have hP := isPureProj_vecMulVec ψ hψ
  have h1 : subFidelity (vecMulVec ψ (star ψ)) σ = (star ψ ⬝ᵥ (σ *ᵥ ψ)).re := by
    rw [subFidelity, subFidV_pure hP hσ, trace_pure_mul]
  refine ⟨h1, ?_⟩
  rw [h1, fid_pure ψ hψ σ hσ, Real.sq_sqrt]
  rw [← trace_pure_mul]
  exact psd_trace_mul_nonneg hP.posSemidef hσ

/-- `sub-fidelity ≤ F²` for all positive semidefinite `ρ`, `σ` (Miszczak et al.), `F` the value of the fidelity program. -/
theorem subFidelity_le_fid_sq (ρ σ : Matrix (Fin n) (Fin n) ℂ) (hρ : ρ.PosSemidef) (hσ : σ.PosSemidef) :
    subFidelity ρ σ ≤ fid ρ σ ^ 2 :=
  subFidV_le_fidV_sq hρ hσ

/-- `sub-fidelity ≤ (tr √(√ρ σ √ρ))²`: the same with the closed form of the fidelity. -/
theorem subFidelity_le_docFidelity_sq (ρ σ : Matrix (Fin n) (Fin n) ℂ) (hρ : ρ.PosSemidef) (hσ : σ.PosSemidef) :
    subFidelity ρ σ ≤ docFidelity ρ σ ^ 2 :=
  subFidV_le_docFid_sq hρ hσ

theorem subFidelity_symm (ρ σ : Matrix (Fin n) (Fin n) ℂ) : subFidelity ρ σ = subFidelity σ ρ :=
  subFidV_symm ρ σ

theorem subFidelity_unitary_invariant (ρ σ U : Matrix (Fin n) (Fin n) ℂ) (hU : Uᴴ * U = 1) :
    subFidelity (U * ρ * Uᴴ) (U * σ * Uᴴ) = subFidelity ρ σ :=
  subFidV_conj ρ σ hU

theorem subFidelity_eq_zero_of_orthogonal (ρ σ : Matrix (Fin n) (Fin n) ℂ) (h : ρ * σ = 0) : subFidelity ρ σ = 0 := by
  unfold subFidelity subFidV; simp [h]

/-- The closed form is attained in the program: `tr √(√ρ σ √ρ) ≤ F(ρ, σ)` for all positive semidefinite `ρ`, `σ`. -/
theorem docFidelity_le_fid (ρ σ : Matrix (Fin n) (Fin n) ℂ) (hρ : ρ.PosSemidef) (hσ : σ.PosSemidef) :
    docFidelity ρ σ ≤ fid ρ σ :=
  docFid_le_fidV hρ hσ

/-- Watrous' theorem: the optimal value of the program is the closed form `tr √(√ρ σ √ρ)`, for all positive semidefinite
`ρ`, `σ` of every rank.  Proof: the closed form is attained at an explicit feasible point, and an explicit dual feasible pair `(Z⁻¹, Z)` comes
within any `η > 0` of it. -/
theorem fid_eq_docFidelity (ρ σ : Matrix (Fin n) (Fin n) ℂ) (hρ : ρ.PosSemidef) (hσ : σ.PosSemidef) :
    fid ρ σ = docFidelity ρ σ :=
  fidV_eq_docFid hρ hσ

/-- The closed form is symmetric, `tr √(√ρ σ √ρ) = tr √(√σ ρ √σ)`; the right-hand side is the sum of the singular values of
`√ρ √σ`, i.e. the `‖√ρ √σ‖₁` of toqito's documentation. -/
theorem docFidelity_symm (ρ σ : Matrix (Fin n) (Fin n) ℂ) (hρ : ρ.PosSemidef) (hσ : σ.PosSemidef) :
    docFidelity ρ σ = docFidelity σ ρ :=
  docFid_symm hρ hσ

/-- Closed form of the Matsumoto fidelity (Cree–Sikora): for positive definite `ρ` and positive semidefinite
`σ` the Hermitian-restricted program has optimal value `tr(ρ # σ)`, with `ρ # σ = ρ^{1/2} (ρ^{-1/2} σ ρ^{-1/2})^{1/2} ρ^{1/2}` the
matrix geometric mean (`geoMean`) that toqito's `matsumoto_fidelity` evaluates.  (`ρ # σ` is feasible; every Hermitian feasible
`W` satisfies `W ≤ ρ # σ` by a Schur complement and operator monotonicity of the square root.) -/
theorem matsumoto_eq_trace_geoMean (ρ σ : Matrix (Fin n) (Fin n) ℂ) (hρ : ρ.PosDef) (hσ : σ.PosSemidef) :
    matsumoto ρ σ = (geoMean ρ σ).trace.re :=
  matsumotoV_eq_trace_geoMean hρ hσ

theorem hilbertSchmidt_symm (ρ σ : Matrix (Fin n) (Fin n) ℂ) : hilbertSchmidt ρ σ = hilbertSchmidt σ ρ :=
  hsV_symm ρ σ

theorem hilbertSchmidt_unitary_invariant (ρ σ U : Matrix (Fin n) (Fin n) ℂ) (hU : Uᴴ * U = 1) :
    hilbertSchmidt (U * ρ * Uᴴ) (U * σ * Uᴴ) = hilbertSchmidt ρ σ :=
  hsV_conj ρ σ hU

/-- `tr((ρ − σ)²) = 0` exactly when `ρ = σ` (Hermitian arguments). -/
theorem hilbertSchmidt_eq_zero_iff (ρ σ : Matrix (Fin n) (Fin n) ℂ) (hρ : ρ.IsHermitian) (hσ : σ.IsHermitian) :
    hilbertSchmidt ρ σ = 0 ↔ ρ = σ :=
  hsV_eq_zero_iff hρ hσ

theorem hsDist_eq_hilbertSchmidt (ρ σ : EMat n n) : ((hsDist ρ σ : Rat) : ℝ) = hilbertSchmidt ρ.toM σ.toM :=
  hsDist_eq ρ σ

theorem helstromHolevo_symm (ρ σ : Matrix (Fin n) (Fin n) ℂ) : helstromHolevo ρ σ = helstromHolevo σ ρ := by
  unfold helstromHolevo; rw [traceDist_symm]

theorem helstromHolevo_unitary_invariant (ρ σ U : Matrix (Fin n) (Fin n) ℂ) (hU : Uᴴ * U = 1) :
    helstromHolevo (U * ρ * Uᴴ) (U * σ * Uᴴ) = helstromHolevo ρ σ := by
  unfold helstromHolevo; rw [traceDist_unitary_invariant ρ σ U hU]

/-- The Helstrom–Holevo quantity is `1/2` exactly on identical and `1` exactly on orthogonal density operators. -/
theorem helstromHolevo_extreme (ρ σ : Matrix (Fin n) (Fin n) ℂ) (hρ : IsDensity ρ) (hσ : IsDensity σ) :
    (helstromHolevo ρ σ = 1 / 2 ↔ ρ = σ) ∧ (helstromHolevo ρ σ = 1 ↔ ρ * σ = 0) := by
  have h0 := traceDist_eq_zero_iff ρ σ hρ.1.isHermitian hσ.1.isHermitian
  have h1 := traceDist_eq_one_iff ρ σ hρ hσ
  unfold helstromHolevo
  exact ⟨⟨fun h => h0.mp (by linarith), fun h => by rw [h0.mpr h]; norm_num⟩,
    ⟨fun h => h1.mp (by linarith), fun h => by rw [h1.mpr h]; norm_num⟩⟩

theorem helstromHolevo_pure_pure (ψ φ : Fin n → ℂ) (hψ : star ψ ⬝ᵥ ψ = 1) (hφ : star φ ⬝ᵥ φ = 1) :
    helstromHolevo (vecMulVec ψ (star ψ)) (vecMulVec φ (star φ)) = 1 / 2 + Real.sqrt (1 - ‖star ψ ⬝ᵥ φ‖ ^ 2) / 2 := by
  unfold helstromHolevo; rw [traceDist_pure_pure ψ φ hψ hφ]

theorem bures_symm (ρ σ : Matrix (Fin n) (Fin n) ℂ) :
    buresDistance ρ σ = buresDistance σ ρ ∧ buresAngle ρ σ = buresAngle σ ρ := by
  unfold buresDistance buresAngle; rw [fid_symm]; exact ⟨rfl, rfl⟩

theorem bures_unitary_invariant (ρ σ U : Matrix (Fin n) (Fin n) ℂ) (hU : Uᴴ * U = 1) :
    buresDistance (U * ρ * Uᴴ) (U * σ * Uᴴ) = buresDistance ρ σ ∧ buresAngle (U * ρ * Uᴴ) (U * σ * Uᴴ) = buresAngle ρ σ := by
  unfold buresDistance buresAngle; rw [fid_unitary_invariant ρ σ U hU]; exact ⟨rfl, rfl⟩

/-- Range and extreme values of the Bures distance: `0 ≤ d ≤ √2`, `d = 0 ⟺ ρ = σ`, `d = √2 ⟺ ρ σ = 0`. -/
theorem buresDistance_extreme (ρ σ : Matrix (Fin n) (Fin n) ℂ) (hρ : IsDensity ρ) (hσ : IsDensity σ) :
    0 ≤ buresDistance ρ σ ∧ buresDistance ρ σ ≤ Real.sqrt 2 ∧ (buresDistance ρ σ = 0 ↔ ρ = σ) ∧
      (buresDistance ρ σ = Real.sqrt 2 ↔ ρ * σ = 0) := by
  obtain ⟨h0, h1⟩ := fid_mem_unit ρ σ hρ hσ
  unfold buresDistance
  refine ⟨Real.sqrt_nonneg _, Real.sqrt_le_sqrt (by linarith), ?_, ?_⟩
  · rw [Real.sqrt_eq_zero (by linarith), ← fid_eq_one_iff ρ σ hρ hσ]
    constructor <;> intro h <;> linarith
  · rw [Real.sqrt_inj (by linarith) zero_le_two, ← fid_eq_zero_iff ρ σ hρ hσ]
    constructor <;> intro h <;> linarith

/-- Range and extreme values of the Bures angle: `0 ≤ A ≤ π/2`, `A = 0 ⟺ ρ = σ`, `A = π/2 ⟺ ρ σ = 0`. -/
theorem buresAngle_extreme (ρ σ : Matrix (Fin n) (Fin n) ℂ) (hρ : IsDensity ρ) (hσ : IsDensity σ) :
    0 ≤ buresAngle ρ σ ∧ buresAngle ρ σ ≤ Real.pi / 2 ∧ (buresAngle ρ σ = 0 ↔ ρ = σ) ∧
      (buresAngle ρ σ = Real.pi / 2 ↔ ρ * σ = 0) := by
  obtain ⟨h0, h1⟩ := fid_mem_unit ρ σ hρ hσ
  unfold buresAngle
  refine ⟨Real.arccos_nonneg _, Real.arccos_le_pi_div_two.mpr (Real.sqrt_nonneg _), ?_, ?_⟩
  · rw [Real.arccos_eq_zero, ← fid_eq_one_iff ρ σ hρ hσ]
    constructor
    · intro h
      linarith [Real.one_le_sqrt.mp h]
    · intro h; rw [h, Real.sqrt_one]
  · rw [Real.arccos_eq_pi_div_two, Real.sqrt_eq_zero h0, fid_eq_zero_iff ρ σ hρ hσ]

/-- Bures distance and angle of two pure states: `√(2 (1 − |⟨ψ|φ⟩|))` and `arccos √|⟨ψ|φ⟩|`. -/
theorem bures_pure_pure (ψ φ : Fin n → ℂ) (hψ : star ψ ⬝ᵥ ψ = 1) (hφ : star φ ⬝ᵥ φ = 1) :
    buresDistance (vecMulVec ψ (star ψ)) (vecMulVec φ (star φ)) = Real.sqrt (2 * (1 - ‖star ψ ⬝ᵥ φ‖)) ∧
    buresAngle (vecMulVec ψ (star ψ)) (vecMulVec φ (star φ)) = Real.arccos (Real.sqrt ‖star ψ ⬝ᵥ φ‖) := by
  unfold buresDistance buresAngle; rw [fid_pure_pure ψ φ hψ hφ]; exact ⟨rfl, rfl⟩

/-- The Bures distance is antitone and the documented function of `F`: a fidelity enclosure `lo ≤ F ≤ hi` gives
`√(2(1 − hi)) ≤ d ≤ √(2(1 − lo))` and `arccos √hi ≤ A ≤ arccos √lo`. -/
theorem bures_enclosure (ρ σ : Matrix (Fin n) (Fin n) ℂ) (lo hi : ℝ) (h1 : lo ≤ fid ρ σ) (h2 : fid ρ σ ≤ hi) :
    Real.sqrt (2 * (1 - hi)) ≤ buresDistance ρ σ ∧ buresDistance ρ σ ≤ Real.sqrt (2 * (1 - lo)) ∧
    Real.arccos (Real.sqrt hi) ≤ buresAngle ρ σ ∧ buresAngle ρ σ ≤ Real.arccos (Real.sqrt lo) := by
  unfold buresDistance buresAngle
  refine ⟨Real.sqrt_le_sqrt (by linarith), Real.sqrt_le_sqrt (by linarith), ?_, ?_⟩
  · exact Real.arccos_le_arccos (Real.sqrt_le_sqrt h2)
  · exact Real.arccos_le_arccos (Real.sqrt_le_sqrt h1)

/-- `round(x, d)` (round half to even at `d` decimals) is a multiple of `10^{-d}` within `½·10^{-d}` of `x`, and monotone. -/
theorem roundDec_spec (x y : ℚ) (d : ℕ) :
    |roundDec x d - x| ≤ 1 / (2 * (10 : ℚ) ^ d) ∧ (∃ k : ℤ, roundDec x d * (10 : ℚ) ^ d = k) ∧
      (x ≤ y → roundDec x d ≤ roundDec y d) :=
  ⟨roundDec_sub_le x d, roundDec_mul_pow x d, fun h => roundDec_mono h d⟩

/-- If both endpoints of an enclosure round to the same value `r`, every number in the enclosure (in particular the
floating-point fidelity computed by the implementation, when it lies inside) rounds to `r`; the squared Bures distance
returned is then `2 (1 − r)`. -/
theorem roundDecEncl_sound (lo hi : ℚ) (d : ℕ) (r : ℚ) (h : roundDecEncl lo hi d = some r) (x : ℚ) (h1 : lo ≤ x)
    (h2 : x ≤ hi) : roundDec x d = r ∧ buresDistSq x d = 2 * (1 - r) := by
  have := roundDecEncl_core lo hi d r h x h1 h2
  exact ⟨this, by unfold buresDistSq; rw [this]⟩

/-- Both guard orders compute a value exactly when the shapes agree and both arguments pass `is_density`; they differ only in
which error is reported when both checks fail. -/
theorem guards_value_iff (s a b : Bool) :
    (guardShapeFirst s a b = .value ↔ s = true ∧ a = true ∧ b = true) ∧
    (guardDensityFirst s a b = .value ↔ s = true ∧ a = true ∧ b = true) :=
  ⟨guardShapeFirst_value_iff s a b, guardDensityFirst_value_iff s a b⟩

/-- The density guard accepts every exact density operator (Hermitian, smallest eigenvalue `≥ 0`, trace exactly one), and what
it accepts is Hermitian (within tolerance) with smallest eigenvalue `≥ −10⁻⁸` and `|tr − 1| ≤ 1.001·10⁻⁵`. -/
theorem densityGuard_spec (herm : Bool) (minEig trRe trIm : ℚ) :
    (0 ≤ minEig → densityGuard true minEig 1 0 = true) ∧
    (densityGuard herm minEig trRe trIm = true →
      herm = true ∧ -(1 / 100000000 : ℚ) ≤ minEig ∧ |trRe - 1| ≤ 1001 / 100000000) :=
  ⟨densityGuard_of_exact minEig, densityGuard_accepts herm minEig trRe trIm⟩

/-! ## The checkers accept concrete instances

`ρ = |0⟩⟨0|`, `σ = |+i⟩⟨+i|` (complex, non-commuting; `‖ρ − σ‖₁ = √2`, `F = 1/√2`): a contraction with value
`60/53 ≈ 1.132` and a decomposition with value `21/13 ≈ 1.615`; a congruence certificate `X = G_ρ K G_σᴴ` with value `7/10`
and an exactly inverted dual pair with value `1137/1600 ≈ 0.7106`.  `ρ = diag(3/4, 1/4)`, `σ = [[1/2, −i/4], [i/4, 1/2]]`
(full rank; `tr(ρ # σ) ≈ 0.9258`): Matsumoto certificates with values `48/61 ≈ 0.787` and `≈ 1.126`. -/

section Examples

private def exρ : EMat 2 2 := EMat.ofRows #[#[⟨1, 0⟩, ⟨0, 0⟩], #[⟨0, 0⟩, ⟨0, 0⟩]] 2 2
private def exσ : EMat 2 2 := EMat.ofRows #[#[⟨1/2, 0⟩, ⟨0, -1/2⟩], #[⟨0, 1/2⟩, ⟨1/2, 0⟩]] 2 2

example : checkTNLower (exρ - exσ)
    (EMat.ofRows #[#[⟨30/53, 0⟩, ⟨0, 30/53⟩], #[⟨0, -30/53⟩, ⟨-30/53, 0⟩]] 2 2)
    (EMat.ofRows #[#[⟨618/1069, 0⟩, ⟨0, 0⟩], #[⟨0, 1641/1676⟩, ⟨954/1339, 0⟩]] 2 2 : EMat 2 2)
    (EMat.ofRows #[#[⟨2199/1816, 0⟩, ⟨0, 0⟩], #[⟨0, -596/1275⟩, ⟨183/538, 0⟩]] 2 2 : EMat 2 2) = some (60/53) := by decide +kernel

example : checkTNUpper (exρ - exσ)
    (EMat.ofRows #[#[⟨17/26, 0⟩, ⟨0, 1/4⟩], #[⟨0, -1/4⟩, ⟨2/13, 0⟩]] 2 2)
    (EMat.ofRows #[#[⟨2/13, 0⟩, ⟨0, -1/4⟩], #[⟨0, 1/4⟩, ⟨17/26, 0⟩]] 2 2)
    (EMat.ofRows #[#[⟨693/874, 0⟩, ⟨0, 0⟩], #[⟨0, -437/1386⟩, ⟨185/1081, 0⟩]] 2 2 : EMat 2 2)
    (EMat.ofRows #[#[⟨527/1469, 0⟩, ⟨0, 0⟩], #[⟨0, 1046/1501⟩, ⟨160/423, 0⟩]] 2 2 : EMat 2 2) = some (21/13) := by decide +kernel

example : checkFidPrimalCong exρ exσ
    (EMat.ofRows #[#[⟨7/10, 0⟩, ⟨0, -7/10⟩], #[⟨0, 0⟩, ⟨0, 0⟩]] 2 2)
    (EMat.ofRows #[#[⟨1, 0⟩, ⟨0, 0⟩], #[⟨0, 0⟩, ⟨0, 0⟩], #[⟨0, 0⟩, ⟨1, 0⟩], #[⟨0, 0⟩, ⟨0, 1⟩]] 4 2 : EMat (2 + 2) 2)
    (EMat.ofRows #[#[⟨1, 0⟩, ⟨7/10, 0⟩], #[⟨7/10, 0⟩, ⟨1/2, 0⟩]] 2 2)
    (EMat.ofRows #[#[⟨1, 0⟩, ⟨0, 0⟩], #[⟨7/10, 0⟩, ⟨0, 0⟩]] 2 2 : EMat 2 2) = some (7/10) := by decide +kernel

example : checkFidDual exρ exσ
    (EMat.ofRows #[#[⟨16/25, 0⟩, ⟨0, -16/25⟩], #[⟨0, 16/25⟩, ⟨89/100, 0⟩]] 2 2)
    (EMat.ofRows #[#[⟨89/16, 0⟩, ⟨0, 4⟩], #[⟨0, -4⟩, ⟨4, 0⟩]] 2 2)
    (EMat.ofRows #[#[⟨4/5, 0⟩, ⟨0, 0⟩], #[⟨0, 4/5⟩, ⟨1/2, 0⟩], #[⟨-5/4, 0⟩, ⟨0, -2⟩], #[⟨0, 0⟩, ⟨-2, 0⟩]] 4 2 : EMat (2 + 2) 2) = some (1137/1600) := by decide +kernel

private def exρ' : EMat 2 2 := EMat.ofRows #[#[⟨3/4, 0⟩, ⟨0, 0⟩], #[⟨0, 0⟩, ⟨1/4, 0⟩]] 2 2
private def exσ' : EMat 2 2 := EMat.ofRows #[#[⟨1/2, 0⟩, ⟨0, -1/4⟩], #[⟨0, 1/4⟩, ⟨1/2, 0⟩]] 2 2

example : checkMatsPrimal exρ' exσ'
    (EMat.ofRows #[#[⟨30/61, 0⟩, ⟨0, -6/61⟩], #[⟨0, 6/61⟩, ⟨18/61, 0⟩]] 2 2)
    (EMat.ofRows #[#[⟨1343/1573, 0⟩, ⟨0, 0⟩, ⟨0, 0⟩, ⟨0, 0⟩], #[⟨0, 0⟩, ⟨845/1766, 0⟩, ⟨0, 0⟩, ⟨0, 0⟩], #[⟨322/559, 0⟩, ⟨0, -347/1688⟩, ⟨569/1757, 0⟩, ⟨0, 0⟩], #[⟨0, 222/1927⟩, ⟨539/874, 0⟩, ⟨0, 292/1663⟩, ⟨350/1499, 0⟩]] 4 4 : EMat (2 + 2) 4) = some (48/61) := by decide +kernel

example : checkMatsDual exρ' exσ'
    (EMat.ofRows #[#[⟨56/59, 0⟩, ⟨0, -9/34⟩], #[⟨0, 9/34⟩, ⟨48/29, 0⟩]] 2 2)
    (EMat.ofRows #[#[⟨47/30, 0⟩, ⟨0, 6/17⟩], #[⟨0, -6/17⟩, ⟨55/53, 0⟩]] 2 2)
    (EMat.ofRows #[#[⟨-1, 0⟩, ⟨0, -1/7⟩], #[⟨0, -1/7⟩, ⟨-1, 0⟩]] 2 2)
    (EMat.ofRows #[#[⟨1821/1976, 0⟩, ⟨0, 0⟩, ⟨0, 0⟩, ⟨0, 0⟩], #[⟨0, 27/94⟩, ⟨1608/1325, 0⟩, ⟨0, 0⟩, ⟨0, 0⟩], #[⟨-2129/1962, 0⟩, ⟨0, -154/1107⟩, ⟨783/1507, 0⟩, ⟨0, 0⟩], #[⟨0, 275/1774⟩, ⟨-1662/1931, 0⟩, ⟨0, -170/1359⟩, ⟨459/1157, 0⟩]] 4 4 : EMat (2 + 2) 4) = some (208245887/184993320) := by decide +kernel

example : hsDist exρ exσ = 1 ∧ trProd exρ exσ = 1/2 ∧ subFidRad exρ exσ = 0 ∧
    hsInner exσ exρ = ⟨1/2, 0⟩ := by decide +kernel

/-- hypotheses of `traceDist_eq_one_of_orthogonal` and `fid_eq_zero_of_orthogonal` are satisfiable:
`ρ = |0⟩⟨0|`, `σ = |1⟩⟨1|`, `W = diag(1, −1)`, `Π = ρ` -/
example : ∃ ρ σ W : Matrix (Fin 2) (Fin 2) ℂ, IsDensity ρ ∧ IsDensity σ ∧ IsContraction W ∧
    W * ρ = ρ ∧ W * σ = -σ ∧ ρ.IsHermitian ∧ ρ * ρ = ρ ∧ ρ * σ = 0 := by
  have hU : (1 : Matrix (Fin 2) (Fin 2) ℂ)ᴴ * 1 = 1 := by simp
  have hpvm := isPVM_basis hU
  have htr : ∀ i : Fin 2, (conjDiag (1 : Matrix (Fin 2) (Fin 2) ℂ) (ind i)).trace = 1 := trace_conjDiag_ind hU
  have e0 : ind (0 : Fin 2) 0 - ind (1 : Fin 2) 0 = 1 := by simp [ind]
  have e1 : ind (0 : Fin 2) 1 - ind (1 : Fin 2) 1 = -1 := by simp [ind]
  refine ⟨conjDiag 1 (ind 0), conjDiag 1 (ind 1), conjDiag 1 (fun i => ind 0 i - ind 1 i),
    ⟨hpvm.posSemidef 0, htr 0⟩, ⟨hpvm.posSemidef 1, htr 1⟩, ?_, ?_, ?_, hpvm.herm 0, ?_, ?_⟩
  · refine conjDiag_contraction hU fun i => ?_
    simp only [ind]; split_ifs <;> norm_num
  · rw [conjDiag_mul_conjDiag_ind hU, e0, Complex.ofReal_one, one_smul]
  · rw [conjDiag_mul_conjDiag_ind hU, e1, Complex.ofReal_neg, Complex.ofReal_one, neg_one_smul]
  · exact (hpvm.orth 0 0).trans (if_pos rfl)
  · exact (hpvm.orth 0 1).trans (if_neg (by decide))

/-- the classical evaluators and certificate checkers on a concrete non-trivial instance (`p = (1/2, 1/3, 1/6)`, `q = (1/6, 1/3, 1/2)`;
`p = (1/2, 1/2)`, `q = (1/8, 7/8)` with `√(7/16) ∈ [33/50, 67/100]`) -/
example : isProb (n := 3) ![1/2, 1/3, 1/6] = true ∧ classTD (n := 3) ![1/2, 1/3, 1/6] ![1/6, 1/3, 1/2] = 1/3 ∧
    classHS (n := 3) ![1/2, 1/3, 1/6] ![1/6, 1/3, 1/2] = 2/9 ∧
    classTrProd (n := 3) ![1/2, 1/3, 1/6] ![1/6, 1/3, 1/2] = 5/18 ∧
    checkClassFidLower (n := 2) ![1/2, 1/2] ![1/8, 7/8] ![1/4, 33/50] = some (91/100) ∧
    checkClassFidUpper (n := 2) ![1/2, 1/2] ![1/8, 7/8] ![1/4, 67/100] = some (23/25) ∧
    checkClassFidLower (n := 2) ![1/2, 1/2] ![1/8, 7/8] ![1/4, 67/100] = none := by decide +kernel

/-- rounding: half to even (`0.125 → 0.12`, `0.375 → 0.38`), negative arguments, the default `decimals = 10`, and an enclosure
whose endpoints round differently -/
example : roundDec (1/8) 2 = 3/25 ∧ roundDec (3/8) 2 = 19/50 ∧ roundDec (-1/8) 2 = -3/25 ∧
    roundDec (99999999999/100000000000) 10 = 1 ∧ buresDistSq (7/10 + 1/3000) 3 = 3/5 ∧
    roundDecEncl (1249/10000) (1251/10000) 2 = none ∧ roundDecEncl (1251/10000) (1252/10000) 2 = some (13/100) := by
  decide +kernel

/-- guards: both checks failing is reported as `invalidDim` by the shape-first functions and as `notDensity` by the others;
a matrix with eigenvalue `−1/4`, or trace `3/2`, is rejected; deviations inside the tolerances are accepted -/
example : guardShapeFirst false false true = .invalidDim ∧ guardDensityFirst false false true = .notDensity ∧
    guardShapeFirst true true true = .value ∧ densityGuard true (-1/4) 1 0 = false ∧ densityGuard true 0 (3/2) 0 = false ∧
    densityGuard false 0 1 0 = false ∧ densityGuard true (-1/200000000) (1 + 1/200000) 0 = true := by decide +kernel

/-- hypotheses of the pure-state theorems are satisfiable (`ψ = |0⟩` is a unit vector and gives a pure state); the measurement in
the computational basis is a projective measurement -/
example : ∃ ψ : Fin 2 → ℂ, star ψ ⬝ᵥ ψ = 1 ∧ IsPureProj (vecMulVec ψ (star ψ)) ∧
    IsPVM (fun i : Fin 2 => conjDiag (1 : Matrix (Fin 2) (Fin 2) ℂ) (ind i)) := by
  have h : star (![1, 0] : Fin 2 → ℂ) ⬝ᵥ ![1, 0] = 1 := by simp [dotProduct, Fin.sum_univ_two]
  exact ⟨![1, 0], h, isPureProj_vecMulVec _ h, isPVM_basis (by simp)⟩

/-- a positive definite density operator (`ρ = diag(3/4, 1/4)`): the hypotheses of the density-operator theorems are
satisfiable on a full-rank instance -/
example : ∃ ρ : Matrix (Fin 2) (Fin 2) ℂ, ρ.PosDef ∧ IsDensity ρ := by
  have hd : (Matrix.diagonal (fun i : Fin 2 => (((if i = 0 then 3 / 4 else 1 / 4 : ℝ)) : ℂ))).PosDef := by
    refine Matrix.PosDef.diagonal fun i => ?_
    by_cases h : i = 0 <;> simp [h]
  exact ⟨_, hd, hd.posSemidef, by simp [Matrix.trace, Fin.sum_univ_two]; norm_num⟩

end Examples

/-! ## The fidelity of separability (`fidelity_of_separability`, state version)

The program the function builds at level `k = ℓ + 1` for local dimensions `[dA, dB]` is `Toq.Metrics.FosFeasible` (constraints) with
objective `Re tr X` (`fos_objective_is_re_trace`); an operator on `A ⊗ B^{⊗k}` is a matrix indexed by `Fin dA × (Fin k → Fin dB)`.  The
function returns the SQUARE of the optimal value (`fosValue`).  The executable model of the same program on flat indices is
`Toq.Metrics.fosExprs`; the harness compares it with the program picos is handed on every run (stream `fos_embedding`), and
`fosExprs_refines` proves that it computes the expressions of `FosFeasible`. -/

section FidelityOfSeparability
open Toq.PPTDisc
open scoped Kronecker Toq.ChannelOps

variable {dA dB : ℕ}

/-- the value `fidelity_of_separability(ρ, [dA, dB], k = ℓ + 1)` returns: `solution.value ** 2` -/
noncomputable def fosValue (ℓ : ℕ) (ρ : Matrix (Fin dA × Fin dB) (Fin dA × Fin dB) ℂ) : ℝ := fosV ℓ ρ ^ 2

/-- The objective.  `0.5 * trace(X + X.H)` is the real number `Re tr X`. -/
theorem fos_objective_is_re_trace (X : Matrix (Fin dA × Fin dB) (Fin dA × Fin dB) ℂ) :
    (1 / 2 : ℂ) * (X + Xᴴ).trace = ((X.trace.re : ℝ) : ℂ) := by
  rw [Matrix.trace_add, Matrix.trace_conjTranspose, Complex.star_def, Complex.add_conj]
  push_cast; ring

/-- Every pure product state is feasible with objective one, at every level.  For unit vectors `a ∈ ℂ^dA`, `b ∈ ℂ^dB` and every
`k = ℓ + 1 ≥ 1` the point `σ = a aᴴ ⊗ (b bᴴ)^{⊗k}`, `X = ρ = a aᴴ ⊗ b bᴴ` satisfies every constraint the code adds — the block
matrix `[[ρ, X], [Xᴴ, tr_{B₂…B_k} σ]]`, `σ ⪰ 0`, `tr σ = 1`, `(1 ⊗ Π_sym) σ (1 ⊗ Π_sym) = σ`, `T_{B₁…B_j} σ ⪰ 0` for `j < k` — and
its objective value `Re tr X` is `1`. -/
theorem fos_product_feasible (ℓ : ℕ) (a : Fin dA → ℂ) (b : Fin dB → ℂ) (ha : a ⬝ᵥ star a = 1) (hb : b ⬝ᵥ star b = 1) :
    FosFeasible ℓ (fosProdRho a b) (fosProdRho a b) (fosProdSigma ℓ a b) ∧ (fosProdRho a b).trace.re = 1 :=
  ⟨fosFeasible_product ℓ a b ha hb, by rw [fosProdRho_trace a b ha hb]; rfl⟩

/-- No feasible point exceeds one.  For every density operator `ρ` on `A ⊗ B` (pure or not, separable or not), every level and
every feasible point `(X, σ)` of the program, the objective `Re tr X` is at most `1` (weak duality of Watrous' fidelity program with
the dual point `Y = Z = 1`, using the block constraint and `tr σ = 1`). -/
theorem fos_objective_le_one {ℓ : ℕ} {ρ X : Matrix (Fin dA × Fin dB) (Fin dA × Fin dB) ℂ}
    {σ : Matrix (HIdx (Fin dA) dB (ℓ + 1)) (HIdx (Fin dA) dB (ℓ + 1)) ℂ} (h : FosFeasible ℓ ρ X σ) (tρ : ρ.trace = 1) :
    X.trace.re ≤ 1 :=
  h.objective_le_one tρ

/-- The fidelity of separability of every pure product state is 1 at every extension level.  The optimal value of the program is
exactly `1` and is attained (at the product point), so the returned value `solution.value ** 2` is `1`. -/
theorem fos_optimum_product (ℓ : ℕ) (a : Fin dA → ℂ) (b : Fin dB → ℂ) (ha : a ⬝ᵥ star a = 1) (hb : b ⬝ᵥ star b = 1) :
    IsGreatest (fosSet ℓ (fosProdRho a b)) 1 ∧ fosV ℓ (fosProdRho a b) = 1 ∧ fosValue ℓ (fosProdRho a b) = 1 := by
  refine ⟨fos_isGreatest_product ℓ a b ha hb, fosV_product ℓ a b ha hb, ?_⟩
  unfold fosValue
  rw [fosV_product ℓ a b ha hb]; norm_num

/-- the pure product state of the theorems above is the rank-one projector onto `a ⊗ b` -/
theorem fos_product_state_pure (a : Fin dA → ℂ) (b : Fin dB → ℂ) :
    fosProdRho a b = vecMulVec (fun i : Fin dA × Fin dB => a i.1 * b i.2) (star fun i : Fin dA × Fin dB => a i.1 * b i.2) :=
  fosProdRho_eq_vecMulVec a b

/-- Range of the value.  For every density operator `ρ` on `A ⊗ B` (`dA, dB ≥ 1`) and every level the program is feasible
(`X = 0` with any product extension), its optimal value lies in `[0, 1]`, and so does the returned square. -/
theorem fos_value_bounds (ℓ : ℕ) (hA : 0 < dA) (hB : 0 < dB) {ρ : Matrix (Fin dA × Fin dB) (Fin dA × Fin dB) ℂ}
    (hρ : ρ.PosSemidef) (tρ : ρ.trace = 1) :
    0 ≤ fosV ℓ ρ ∧ fosV ℓ ρ ≤ 1 ∧ 0 ≤ fosValue ℓ ρ ∧ fosValue ℓ ρ ≤ 1 := by
  have : Nonempty (Fin dA) := ⟨⟨0, hA⟩⟩
  obtain ⟨h0, h1⟩ := fosV_mem_Icc ℓ hB hρ tρ
  exact ⟨h0, h1, sq_nonneg _, pow_le_one₀ h0 h1⟩

/-- Objective one is attained exactly by the operators that have an extension obeying the constraints.  For a density operator `ρ`:
some feasible point has objective `1` iff there is `σ ⪰ 0` on `A ⊗ B^{⊗k}`, supported on the symmetric subspace of the copies, with
`T_{B₁…B_j} σ ⪰ 0` for `j < k`, whose `A B₁`-marginal is `ρ` (then `X = ρ` does it; conversely objective `1` forces fidelity `1`
between `ρ` and the marginal, hence equality: `fid_eq_one_iff`). -/
theorem fos_value_one_iff_extendible {ℓ : ℕ} {ρ : Matrix (Fin dA × Fin dB) (Fin dA × Fin dB) ℂ} (hρ : ρ.PosSemidef)
    (tρ : ρ.trace = 1) :
    (∃ X σ, FosFeasible ℓ ρ X σ ∧ X.trace.re = 1) ↔
      ∃ σ : Matrix (HIdx (Fin dA) dB (ℓ + 1)) (HIdx (Fin dA) dB (ℓ + 1)) ℂ, σ.PosSemidef ∧ marg1 ℓ σ = ρ ∧
        ((1 : Matrix (Fin dA) (Fin dA) ℂ) ⊗ₖ symPC dB (ℓ + 1)) * σ * ((1 : Matrix (Fin dA) (Fin dA) ℂ) ⊗ₖ symPC dB (ℓ + 1)) = σ ∧
        ∀ j : ℕ, 1 ≤ j → j ≤ ℓ → (pTYs (fun t : Fin (ℓ + 1) => (t : ℕ) < j) σ).PosSemidef :=
  fos_attains_one_iff hρ tρ

/-- Monotone in the level.  Tracing out the last copy of `B` maps a feasible point of level `k + 1` to a feasible point of level `k`
with the same `X`; hence the optimal value does not increase with the level. -/
theorem fos_level_monotone {ℓ : ℕ} {ρ : Matrix (Fin dA × Fin dB) (Fin dA × Fin dB) ℂ} (tρ : ρ.trace = 1) :
    (∀ X σ, FosFeasible (ℓ + 1) ρ X σ → FosFeasible ℓ ρ X (margLast σ)) ∧
      ((fosSet (ℓ + 1) ρ).Nonempty → fosV (ℓ + 1) ρ ≤ fosV ℓ ρ) :=
  ⟨fun _ _ h => h.pred, fosV_succ_le ℓ tρ⟩

/-- For pure states the PPT criterion is exact.  The projector onto `ψ ∈ ℂ^dA ⊗ ℂ^dB` has a positive semidefinite partial transpose —
the first test of `is_separable`, which `fidelity_of_separability` consults after `is_pure` — iff `ψ = a ⊗ b` is a product vector.  So a pure
state is accepted only if it is a product state, and rejecting the pure states that fail the test ("Provided input state is entangled")
rejects no product state. -/
theorem pure_state_ppt_iff_product (ψ : Fin dA × Fin dB → ℂ) :
    (pTAp (vecMulVec ψ (star ψ))).PosSemidef ↔ ∃ (a : Fin dA → ℂ) (b : Fin dB → ℂ), ∀ i, ψ i = a i.1 * b i.2 :=
  pure_ppt_iff_product ψ

/-- Every pure state the PPT test lets through has fidelity of separability 1 at every level: for a unit vector `ψ` whose projector
has a positive semidefinite partial transpose, the optimum of the program is `1`, it is attained, and the returned square is `1`. -/
theorem fos_value_pure_ppt (ℓ : ℕ) (ψ : Fin dA × Fin dB → ℂ) (hψ : ψ ⬝ᵥ star ψ = 1)
    (h : (pTAp (vecMulVec ψ (star ψ))).PosSemidef) :
    IsGreatest (fosSet ℓ (vecMulVec ψ (star ψ))) 1 ∧ fosValue ℓ (vecMulVec ψ (star ψ)) = 1 := by
  obtain ⟨h1, h2⟩ := fosV_pure_ppt ℓ ψ hψ h
  refine ⟨h1, ?_⟩
  unfold fosValue
  rw [h2]; norm_num

/-- the (unnormalised) Bell vector `|00⟩ + |11⟩` fails the test: its `2 × 2` minor is `1 · 1 − 0 · 0 ≠ 0` -/
example : ¬ (pTAp (vecMulVec (fun i : Fin 2 × Fin 2 => if i.1 = i.2 then (1 : ℂ) else 0)
    (star fun i : Fin 2 × Fin 2 => if i.1 = i.2 then (1 : ℂ) else 0))).PosSemidef := by
  intro h
  have := minors_eq_zero_of_ppt_pure _ h 0 1 0 1
  simp at this

/-- Which inputs are accepted.  The program is built and solved exactly when `is_density(ρ)` holds, `dims` has length two, `is_pure(ρ)`
holds, `is_separable(ρ, dims)` returns `True`, and the two dimensions multiply to the size of `ρ`. -/
theorem fosGuard_solve_iff (density : Bool) (dimsLen : Nat) (pure : Bool) (sep : FosSepVerdict) (prodOk : Bool) :
    fosGuard density dimsLen pure sep prodOk = .solve ↔
      density = true ∧ dimsLen = 2 ∧ pure = true ∧ sep = .separable ∧ prodOk = true := by
  -- the guard is a cascade whose last leaf is `.solve`; every earlier leaf returns another constructor
  unfold fosGuard
  cases density <;> cases pure <;> cases sep <;> cases prodOk <;> by_cases h : dimsLen = 2 <;> simp [h]

/-- Mixed or non-density inputs are rejected, and with which error: a non-density input always ends in
`ValueError("… not a density matrix.")` (whatever `dims` is); a density operator with a `dims` list of another length than two ends in the
`AssertionError`; a density operator with two dimensions that is not pure ends in `ValueError("… only works for pure states.")`; a pure
state is rejected as entangled exactly when `is_separable` returns `False`, and an exception inside `is_separable` propagates. -/
theorem fosGuard_rejects (density : Bool) (dimsLen : Nat) (pure : Bool) (sep : FosSepVerdict) (prodOk : Bool) :
    (density = false → fosGuard density dimsLen pure sep prodOk = .notDensity) ∧
    (density = true → dimsLen ≠ 2 → fosGuard density dimsLen pure sep prodOk = .notBipartite) ∧
    (density = true → dimsLen = 2 → pure = false → fosGuard density dimsLen pure sep prodOk = .notPure) ∧
    (density = true → dimsLen = 2 → pure = true → sep = .entangled → fosGuard density dimsLen pure sep prodOk = .entangled) ∧
    (density = true → dimsLen = 2 → pure = true → sep = .raises → fosGuard density dimsLen pure sep prodOk = .sepError) ∧
    (density = true → dimsLen = 2 → pure = true → sep = .separable → prodOk = false →
      fosGuard density dimsLen pure sep prodOk = .buildError) := by
  unfold fosGuard
  refine ⟨?_, ?_, ?_, ?_, ?_, ?_⟩ <;> intros <;> simp_all

/-- `is_pure` as a predicate on the largest eigenvalue `λ = re + i·im`: `|λ − 1| ≤ 1e-8 + 1e-5` (`np.allclose(λ, 1)`) -/
theorem fosPureGuard_spec (re im : ℚ) :
    fosPureGuard re im = true ↔ (re - 1) ^ 2 + im ^ 2 ≤ (1 / 100000000 + 1 / 100000 : ℚ) ^ 2 := by
  unfold fosPureGuard
  rw [decide_eq_true_eq, ← sq, ← sq, ← sq]

/-- what the dimensions alone decide about `is_separable(ρ, [dA, dB])` for an `n × n` matrix: a one-dimensional factor returns `True`
(even when `dA · dB ≠ n`), otherwise a product different from `n` raises, otherwise the separability criteria are consulted -/
theorem fosSepHead_spec (n dA' dB' : Nat) :
    (min dA' dB' = 1 → fosSepHead n dA' dB' = some .separable) ∧
    (min dA' dB' ≠ 1 → dA' * dB' ≠ n → fosSepHead n dA' dB' = some .raises) ∧
    (min dA' dB' ≠ 1 → dA' * dB' = n → fosSepHead n dA' dB' = none) := by
  unfold fosSepHead
  refine ⟨?_, ?_, ?_⟩ <;> intros <;> simp_all

/-- the hypotheses of the product-state theorems are satisfiable on a genuinely complex instance with unequal dimensions:
`a = (3/5, 4i/5) ∈ ℂ²`, `b = (0, i, 0) ∈ ℂ³` are unit vectors -/
example : ∃ (a : Fin 2 → ℂ) (b : Fin 3 → ℂ), a ⬝ᵥ star a = 1 ∧ b ⬝ᵥ star b = 1 ∧ a 1 ≠ star (a 1) := by
  refine ⟨![3 / 5, 4 / 5 * Complex.I], ![0, Complex.I, 0], ?_, ?_, ?_⟩
  · simp only [dotProduct, Fin.sum_univ_two, Pi.star_apply, Matrix.cons_val_zero, Matrix.cons_val_one,
      Complex.star_def, Complex.conj_I, map_div₀, map_ofNat, map_mul]
    linear_combination (-16 / 25 : ℂ) * Complex.I_mul_I
  · simp [dotProduct, Fin.sum_univ_three]
  · intro h
    have := congrArg Complex.im h
    simp at this
    norm_num at this

/-- the guard model on concrete inputs: a pure product state with two dimensions is solved; a mixed state is rejected as not pure also when it is
separable; a non-density input is rejected first even if `dims` is malformed too; `dims = [4, 1]` accepts every pure state on `ℂ⁴`
(`is_separable` returns `True` for a one-dimensional factor); eigenvalue `1 − 4·10⁻⁵` is not pure, `1 − 5·10⁻⁶` is -/
example : fosGuard true 2 true .separable true = .solve ∧ fosGuard true 2 false .separable true = .notPure ∧
    fosGuard false 3 false .raises false = .notDensity ∧ fosGuard true 3 true .separable true = .notBipartite ∧
    fosGuard true 2 true .entangled true = .entangled ∧ fosSepHead 4 4 1 = some .separable ∧ fosSepHead 4 2 3 = some .raises ∧
    fosSepHead 6 2 3 = none ∧ fosPureGuard (1 - 4 / 100000) 0 = false ∧ fosPureGuard (1 - 5 / 1000000) 0 = true := by
  decide +kernel

/-- The executable model computes the expressions of the program.  Flat (tensor-order) data `ρN`, `XN`, `σN` denote the operators
`ofFlatAB ρN`, `ofFlatAB XN` on `A ⊗ B` and `ofFlat k σN` on `A ⊗ B^{⊗k}` (`encAB`, `encH`: big-endian digits with radices `[dA, dB, …, dB]`).
For every `dA`, every `dB ≥ 1` and every level `k = ℓ + 1` the model `fosExprs`, read over `ℂ`, returns: the block matrix
`[[ρ, X], [Xᴴ, tr_{B₂…B_k} σ]]`; `tr σ`; `(k!)²` times the residual `(1 ⊗ Π_sym) σ (1 ⊗ Π_sym) − σ` of the symmetric-subspace equation with
toqito's own `symmetric_projection` (mirror model of C18); the list of the `k − 1` partial transposes `T_{B₁…B_j} σ`, `j = 1 … k − 1`; and
`tr(X + Xᴴ)`, twice the objective. -/
theorem fosExprs_refines (hd : 0 < dB) (ℓ : ℕ) (ρN XN σN : ℕ → ℕ → ℂ) :
    ofFlatS (dA := dA) (d := dB) (fosExprsC dA dB (ℓ + 1) ρN XN σN).block
        = Matrix.fromBlocks (ofFlatAB ρN) (ofFlatAB XN) (ofFlatAB XN)ᴴ (marg1 ℓ (ofFlat (ℓ + 1) σN)) ∧
    (fosExprsC dA dB (ℓ + 1) ρN XN σN).sigma = σN ∧
    (fosExprsC dA dB (ℓ + 1) ρN XN σN).trace = (ofFlat (dA := dA) (d := dB) (ℓ + 1) σN).trace ∧
    ofFlat (dA := dA) (d := dB) (ℓ + 1) (fosExprsC dA dB (ℓ + 1) ρN XN σN).symRes
        = (((ℓ + 1).factorial : ℂ) * ((ℓ + 1).factorial : ℂ)) •
          (((1 : Matrix (Fin dA) (Fin dA) ℂ) ⊗ₖ symPC dB (ℓ + 1)) * ofFlat (ℓ + 1) σN * ((1 : Matrix (Fin dA) (Fin dA) ℂ) ⊗ₖ symPC dB (ℓ + 1))
            - ofFlat (ℓ + 1) σN) ∧
    (fosExprsC dA dB (ℓ + 1) ρN XN σN).pts = (List.range' 1 ℓ).map (fun j => fosPT dA dB (ℓ + 1) j σN) ∧
    (∀ j, ofFlat (dA := dA) (d := dB) (ℓ + 1) (fosPT dA dB (ℓ + 1) j σN)
        = pTYs (fun t : Fin (ℓ + 1) => (t : ℕ) < j) (ofFlat (ℓ + 1) σN)) ∧
    (fosExprsC dA dB (ℓ + 1) ρN XN σN).obj2 = (ofFlatAB (dA := dA) (d := dB) XN + (ofFlatAB XN)ᴴ).trace :=
  ⟨fosExprsC_block ℓ ρN XN σN, rfl, fosExprsC_trace ℓ ρN XN σN, fosExprsC_sym ℓ ρN XN σN, fosExprsC_pts ℓ ρN XN σN,
    fun j => ofFlat_fosPT j σN, fosExprsC_obj (ℓ + 1) ρN XN σN⟩

/-- The model decides feasibility.  The point denoted by flat data `(XN, σN)` is a feasible point of the program of the operator
denoted by `ρN` exactly when the model's block matrix, `σ` and every partial transpose in its list denote positive semidefinite
operators, its trace expression is `1`, and its symmetric-subspace residual is `0` — these are the quantities the driver operation
`c13_fos_exprs` returns and the harness compares with the program picos is handed. -/
theorem fosExprs_feasible_iff (hd : 0 < dB) (ℓ : ℕ) (ρN XN σN : ℕ → ℕ → ℂ) :
    FosFeasible ℓ (ofFlatAB (dA := dA) (d := dB) ρN) (ofFlatAB XN) (ofFlat (ℓ + 1) σN) ↔
      (ofFlatS (dA := dA) (d := dB) (fosExprsC dA dB (ℓ + 1) ρN XN σN).block).PosSemidef ∧
      (ofFlat (dA := dA) (d := dB) (ℓ + 1) (fosExprsC dA dB (ℓ + 1) ρN XN σN).sigma).PosSemidef ∧
      (fosExprsC dA dB (ℓ + 1) ρN XN σN).trace = 1 ∧
      ofFlat (dA := dA) (d := dB) (ℓ + 1) (fosExprsC dA dB (ℓ + 1) ρN XN σN).symRes = 0 ∧
      ∀ P ∈ (fosExprsC dA dB (ℓ + 1) ρN XN σN).pts, (ofFlat (dA := dA) (d := dB) (ℓ + 1) P).PosSemidef := by
  rw [fosExprsC_block, fosExprsC_trace, fosExprsC_sym, fosExprsC_pts]
  have hf : (((ℓ + 1).factorial : ℂ) * ((ℓ + 1).factorial : ℂ)) ≠ 0 := by
    have : ((ℓ + 1).factorial : ℂ) ≠ 0 := by exact_mod_cast Nat.factorial_ne_zero (ℓ + 1)
    exact mul_ne_zero this this
  constructor
  · intro h
    refine ⟨h.block, h.psd, h.trace_one, ?_, ?_⟩
    · rw [h.sym, sub_self, smul_zero]
    · intro P hP
      obtain ⟨j, hj, rfl⟩ := List.mem_map.mp hP
      rw [List.mem_range'_1] at hj
      rw [ofFlat_fosPT]
      exact h.ppt j hj.1 (by omega)
  · rintro ⟨h1, h2, h3, h4, h5⟩
    refine ⟨h1, h2, h3, ?_, fun j hj1 hj2 => ?_⟩
    · exact sub_eq_zero.mp ((smul_eq_zero.mp h4).resolve_left hf)
    · rw [← ofFlat_fosPT]
      exact h5 _ (List.mem_map.mpr ⟨j, List.mem_range'_1.mpr ⟨hj1, by omega⟩, rfl⟩)

/-- The product point of the driver is the product point of the theorems.  The flat matrix `s_j s_jᴴ`, `s_j = a ⊗ conj(b)^{⊗j} ⊗ b^{⊗(k−j)}`
(`fosProdVec`, `fosOuter`: what `c13_fos_product` builds and compares the model's expressions with) denotes
`a aᴴ ⊗ (conj(b) conj(b)ᴴ)^{⊗j} ⊗ (b bᴴ)^{⊗(k−j)}`, which is the partial transpose on `B₁…B_j` of the product point `σ = a aᴴ ⊗ (b bᴴ)^{⊗k}`
of `fos_product_feasible` (`j = 0`: the point itself). -/
theorem fosProductPoint_model (ℓ j : ℕ) (aN bN : ℕ → ℂ) :
    ofFlat (dA := dA) (d := dB) (ℓ + 1) (fosOuter (fosProdVec dB aN bN j (ℓ + 1)))
        = pTYs (fun t : Fin (ℓ + 1) => (t : ℕ) < j) (fosProdSigma ℓ (fun x : Fin dA => aN x) (fun y : Fin dB => bN y)) ∧
    ofFlat (dA := dA) (d := dB) (ℓ + 1) (fosOuter (fosProdVec dB aN bN 0 (ℓ + 1)))
        = fosProdSigma ℓ (fun x : Fin dA => aN x) (fun y : Fin dB => bN y) := by
  refine ⟨?_, ofFlat_fosProdSigma ℓ aN bN⟩
  rw [ofFlat_fosOuter_prodVec]
  exact (pTS_prodOp (fun t : Fin (ℓ + 1) => (t : ℕ) < j) _ _).symm

/-- the flat index is the usual one: `(a, (y₁, y₂)) ↦ (a · dB + y₁) · dB + y₂`, below `dA · dB²`, and injective -/
example : encH (dA := 2) (d := 3) (L := 2) ((1, ![2, 0]) : HIdx (Fin 2) 3 2) = 15 ∧
    (∀ i : HIdx (Fin 2) 3 2, encH i < 2 * 3 ^ 2) ∧ Function.Injective (encH (dA := 2) (d := 3) (L := 2)) := by
  refine ⟨by decide, fun i => ?_, encH_inj⟩
  rw [← prodN_fosDims]; exact encH_lt i

end FidelityOfSeparability

end Toq.C13
