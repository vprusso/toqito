import Toq.Model.Perms
import Toq.Model.PermsArgs
import Toq.Proofs.Perms
import Toq.Proofs.PermsArgs
import Mathlib.Algebra.Group.Defs
import Mathlib.Algebra.Ring.Defs
/-!
# C01 — subsystem permutation is exactly tensor-factor relabelling

The predicate `IsPermN` is in `Toq/Proofs/PermN.lean`, the index algebra in `Perms.lean` and `PermsArgs.lean`; this file has
the product vectors / operators `kronVec`, `kronOp` and the property theorems.  The mirror model
`Toq.Perms.permuteVec` follows `toqito/perms/permute_systems.py` line by line (F-order reshape to the
reversed dims, `np.transpose` by `n-1-perm[::-1]` or its `argsort`, F-order flatten); the theorems
say that for every number of subsystems, every dimension vector and every permutation this is the
relabelling of tensor factors.  Vector and matrix branch read their input through one index map
(`permuteVec v … j = v (permIndex … j)`, `permuteMat_eq_permIndex`, both `rfl`), so each law is a law of `permIndex`
(`Proofs/Perms.lean`, section "The laws of the index map") taken at `v`, or at the row and the column index.
-/
namespace Toq.C01
open Toq.Perms

/-- the executable guard used by the driver decides `IsPermN` -/
theorem isPerm_iff (n : Nat) (p : Nat → Nat) : isPerm n p = true ↔ IsPermN n p :=
  isPerm_eq_true_iff n p

/-- the model output at `j` is the input at the index whose `k`-th digit (radices `dims`) is the
    `perm⁻¹ k`-th digit of `j` (radices `dims ∘ perm`) -/
theorem permuteVec_eq_spec {α : Type} (v : Nat → α) (n : Nat) (perm dims : Nat → Nat)
    (hp : IsPermN n perm) (j : Nat) :
    permuteVec v n perm dims false j = v (specIndex n perm dims j) :=
  permuteVec_false_eq v n perm dims hp j

/-- with `inv_perm=True` the model reads the input at the index map of `np.argsort(perm)` -/
theorem permuteVec_inv_eq_spec {α : Type} (v : Nat → α) (n : Nat) (perm dims : Nat → Nat)
    (hp : IsPermN n perm) (j : Nat) :
    permuteVec v n perm dims true j = v (specIndex n (invPerm n perm) dims j) :=
  permuteVec_true_eq v n perm dims hp j

/-- **Relabelling**: the factor at position `perm i` moves to position `i`.  For every digit vector `y`
    (valid for the permuted radices), output entry `y` is input entry `y ∘ perm⁻¹`. -/
theorem permuteVec_relabel {α : Type} (v : Nat → α) (n : Nat) (perm dims y : Nat → Nat)
    (hp : IsPermN n perm) (hy : ∀ k, k < n → y k < dims (perm k)) :
    permuteVec v n perm dims false (enc (fun m => dims (perm m)) y n)
      = v (enc dims (fun k => y (invPerm n perm k)) n) := by
  rw [permuteVec_false_eq v n perm dims hp, specIndex_enc n perm dims hp y hy]

/-- entry `j` of `a 0 ⊗ a 1 ⊗ … ⊗ a (n-1)` where `a k` has length `dims k` -/
def kronVec {α : Type} [Mul α] [One α] (n : Nat) (a : Nat → Nat → α) (dims : Nat → Nat) (j : Nat) : α :=
  prodFn n (fun k => a k (dec dims n j k))

/-- **Product vectors**: `A_0 ⊗ … ⊗ A_{n-1}` becomes `A_{p 0} ⊗ … ⊗ A_{p (n-1)}`
    (over any commutative monoid of scalars). -/
theorem permute_kronVec {α : Type} [CommMonoid α] (n : Nat) (a : Nat → Nat → α) (perm dims : Nat → Nat)
    (hp : IsPermN n perm) (hd : ∀ k, k < n → 0 < dims k) (j : Nat) :
    permuteVec (kronVec n a dims) n perm dims false j
      = kronVec n (fun k => a (perm k)) (fun m => dims (perm m)) j := by
  rw [permuteVec_false_eq _ n perm dims hp]
  exact prodFn_dec_specIndex n perm dims dims hp hd hd (fun k x _ => a k x) j j

/-- **Inverse option** undoes the forward call when given the permuted dimensions. -/
theorem permute_inv_undoes {α : Type} (v : Nat → α) (n : Nat) (perm dims : Nat → Nat)
    (hp : IsPermN n perm) (j : Nat) (hj : j < prodN dims n) :
    permuteVec (permuteVec v n perm dims false) n perm (fun m => dims (perm m)) true j = v j :=
  congrArg v (permIndex_inv_undoes n perm dims hp j hj)

/-- the index map sends every position into `0..N-1` -/
theorem permIndex_lt (n : Nat) (perm dims : Nat → Nat) (hp : IsPermN n perm)
    (hd : ∀ k, k < n → 0 < dims k) (j : Nat) :
    permIndex n perm dims false j < prodN dims n :=
  Toq.Perms.permIndex_lt n perm dims false hp hd j

/-- **Matrices**: rows and columns are relabelled independently (separate row/column dims, row-only
    and inverse flags). -/
theorem permuteMat_eq_spec {α : Type} (X : Nat → Nat → α) (n : Nat) (perm rd cd : Nat → Nat)
    (hp : IsPermN n perm) (i j : Nat) (rowOnly : Bool) :
    permuteMat X n perm rd cd rowOnly false i j
      = X (specIndex n perm rd i) (if rowOnly then j else specIndex n perm cd j) :=
  permuteMat_false_eq X n perm rd cd hp rowOnly i j

/-- **Row-only** = left multiplication by the permutation operator. -/
theorem rowOnly_eq_permOp_mul {α : Type} [Semiring α] (X : Nat → Nat → α) (n : Nat)
    (perm rd cd : Nat → Nat) (inv : Bool) (hp : IsPermN n perm) (hr : ∀ k, k < n → 0 < rd k) (i j : Nat) :
    permuteMat X n perm rd cd true inv i j
      = sumN (prodN rd n) (fun k => permOp (α := α) n perm rd inv i k * X k j) :=
  (permOp_mulVec n perm rd inv hp hr (fun k => X k j) i).symm

/-- `swapPerm s1 s2` is the transposition `(s1 s2)` -/
theorem swapPerm_apply (s1 s2 : Nat) :
    swapPerm s1 s2 s1 = s2 ∧ swapPerm s1 s2 s2 = s1 ∧ ∀ k, k ≠ s1 → k ≠ s2 → swapPerm s1 s2 k = k :=
  swapPerm_spec s1 s2

theorem swapPerm_involutive (s1 s2 k : Nat) : swapPerm s1 s2 (swapPerm s1 s2 k) = k :=
  swapPerm_swapPerm s1 s2 k

/-- the transposition `(s1 s2)` of two positions below `n` is a permutation of `0..n-1` -/
theorem swapPerm_isPerm (n s1 s2 : Nat) (h1 : s1 < n) (h2 : s2 < n) : IsPermN n (swapPerm s1 s2) :=
  swapPerm_isPermN n s1 s2 h1 h2

/-- non-vacuity: the hypotheses are met by `dims = [2,3,2]`, `perm = [1,2,0]`, and the model
    computes the relabelling there -/
example : isPerm 3 (fnOfList [1, 2, 0]) = true ∧
    listOfFn 12 (permIndex 3 (fnOfList [1, 2, 0]) (fnOfList [2, 3, 2]) false)
      = [0, 6, 1, 7, 2, 8, 3, 9, 4, 10, 5, 11] := by decide +kernel

/-- the inverse of a permutation (`np.argsort(perm)`) is a permutation -/
theorem invPerm_isPerm (n : Nat) (perm : Nat → Nat) (hp : IsPermN n perm) : IsPermN n (invPerm n perm) :=
  invPerm_isPermN n perm hp

/-- the composite `i ↦ p (q i)` of two permutations is a permutation -/
theorem comp_isPerm (n : Nat) (p q : Nat → Nat) (hp : IsPermN n p) (hq : IsPermN n q) :
    IsPermN n (fun i => p (q i)) :=
  comp_isPermN n p q hp hq

/-- the inverse flag is the forward call with the inverse permutation `np.argsort(perm)`
    (so every forward theorem also covers `inv_perm=True`) -/
theorem permuteVec_inv_eq_forward {α : Type} (v : Nat → α) (n : Nat) (perm dims : Nat → Nat)
    (hp : IsPermN n perm) (j : Nat) :
    permuteVec v n perm dims true j = permuteVec v n (invPerm n perm) dims false j :=
  congrArg v (permIndex_inv_eq_forward n perm dims hp j)

/-- only the values `perm[0], …, perm[n-1]` matter (both flags): the model does not look at its
    total-function argument outside `0..n-1` -/
theorem permuteVec_congr_perm {α : Type} (v : Nat → α) (n : Nat) (p p' dims : Nat → Nat)
    (hp : IsPermN n p') (h : ∀ k, k < n → p k = p' k) (inv : Bool) (j : Nat) :
    permuteVec v n p dims inv j = permuteVec v n p' dims inv j :=
  congrArg v (permIndex_congr_perm n p dims p' hp h inv j)

/-- the identity permutation does nothing -/
theorem permuteVec_id {α : Type} (v : Nat → α) (n : Nat) (dims : Nat → Nat) (j : Nat)
    (hj : j < prodN dims n) : permuteVec v n (fun k => k) dims false j = v j :=
  congrArg v (permIndex_id n dims j hj)

/-- **The permutation operator is orthogonal/unitary**: with `P = permutation_operator(dims, perm,
    inv)` of size `N = ∏ dims`, `P·Pᵀ = 1` and `Pᵀ·P = 1` entrywise, over every semiring, for every `n`,
    every dimension vector, every permutation and both flags.  (`P` is real, so `Pᵀ = P†`.) -/
theorem permOp_orthogonal {α : Type} [Semiring α] (n : Nat) (perm dims : Nat → Nat) (inv : Bool)
    (hp : IsPermN n perm) (i j : Nat) (hi : i < prodN dims n) (hj : j < prodN dims n) :
    sumN (prodN dims n) (fun k => permOp (α := α) n perm dims inv i k * permOp (α := α) n perm dims inv j k)
        = (if i = j then 1 else 0) ∧
    sumN (prodN dims n) (fun k => permOp (α := α) n perm dims inv k i * permOp (α := α) n perm dims inv k j)
        = (if i = j then 1 else 0) := by
  have h := permIndex_isPermN n perm dims inv hp (prodN_pos_of_lt dims n i hi)
  simp only [permOp_apply]
  -- rows `i ≠ j` are indicators of different columns (the index map is injective); each column is hit exactly once (it is onto)
  exact ⟨(sumN_ite_ite_row _ _ _ (h.lt i hi)).trans (if_congr ⟨h.inj i j hi hj, congrArg _⟩ rfl rfl),
    sumN_ite_ite_col _ _ i j h hi⟩

/-- **The permutation operator is a permutation matrix**: every entry is 0 or 1; every row `i < N`
    is the indicator of exactly one column `c < N`; every column `k < N` is (among the rows `< N`) the
    indicator of exactly one row `r < N`. -/
theorem permOp_entries {α : Type} [Zero α] [One α] (n : Nat) (perm dims : Nat → Nat) (inv : Bool)
    (hp : IsPermN n perm) :
    (∀ i k, permOp (α := α) n perm dims inv i k = 0 ∨ permOp (α := α) n perm dims inv i k = 1) ∧
    (∀ i, i < prodN dims n → ∃ c, c < prodN dims n ∧
      ∀ k, permOp (α := α) n perm dims inv i k = if k = c then 1 else 0) ∧
    (∀ k, k < prodN dims n → ∃ r, r < prodN dims n ∧
      ∀ i, i < prodN dims n → permOp (α := α) n perm dims inv i k = if i = r then 1 else 0) := by
  refine ⟨?_, ?_, ?_⟩
  · intro i k; rw [permOp_apply]; split
    · exact Or.inr rfl
    · exact Or.inl rfl
  · exact fun i hi => ⟨permIndex n perm dims inv i, Toq.Perms.permIndex_lt n perm dims inv hp (prodN_pos_of_lt dims n i hi) i,
      fun k => (permOp_apply n perm dims inv i k).trans (if_congr eq_comm rfl rfl)⟩
  · intro k hk
    have hd := prodN_pos_of_lt dims n k hk
    have h := permIndex_isPermN n perm dims inv hp hd
    exact ⟨_, h.invPerm_lt hk, fun i hi => permOp_apply_col n perm dims inv hp hd i k hi hk⟩

/-- the vector branch equals multiplication by the permutation operator (vector analogue of
    `rowOnly_eq_permOp_mul`), both flags -/
theorem permuteVec_eq_permOp_mul {α : Type} [Semiring α] (v : Nat → α) (n : Nat)
    (perm dims : Nat → Nat) (inv : Bool) (hp : IsPermN n perm) (i : Nat) (hi : i < prodN dims n) :
    permuteVec v n perm dims inv i
      = sumN (prodN dims n) (fun k => permOp (α := α) n perm dims inv i k * v k) :=
  (permOp_mulVec n perm dims inv hp (prodN_pos_of_lt dims n i hi) v i).symm

/-- **Action on product vectors**: `P (a_0 ⊗ … ⊗ a_{n-1}) = a_{p 0} ⊗ … ⊗ a_{p (n-1)}` for
    `P = permutation_operator(dims, p)`, over every commutative semiring. -/
theorem permOp_action_kron {α : Type} [CommSemiring α] (n : Nat) (a : Nat → Nat → α)
    (perm dims : Nat → Nat) (hp : IsPermN n perm) (i : Nat) (hi : i < prodN dims n) :
    sumN (prodN dims n) (fun k => permOp (α := α) n perm dims false i k * kronVec n a dims k)
      = kronVec n (fun k => a (perm k)) (fun m => dims (perm m)) i := by
  have hd := prodN_pos_of_lt dims n i hi
  rw [← permuteVec_eq_permOp_mul (kronVec n a dims) n perm dims false hp i hi]
  exact permute_kronVec n a perm dims hp hd i

/-- **Action on product vectors, inverse flag**: `P (a_0 ⊗ … ⊗ a_{n-1}) = a_{p⁻¹ 0} ⊗ … ⊗ a_{p⁻¹ (n-1)}` -/
theorem permOp_action_kron_inv {α : Type} [CommSemiring α] (n : Nat) (a : Nat → Nat → α)
    (perm dims : Nat → Nat) (hp : IsPermN n perm) (i : Nat) (hi : i < prodN dims n) :
    sumN (prodN dims n) (fun k => permOp (α := α) n perm dims true i k * kronVec n a dims k)
      = kronVec n (fun k => a (invPerm n perm k)) (fun m => dims (invPerm n perm m)) i := by
  have hd := prodN_pos_of_lt dims n i hi
  have hq := invPerm_isPermN n perm hp
  rw [← permuteVec_eq_permOp_mul (kronVec n a dims) n perm dims true hp i hi,
    permuteVec_inv_eq_forward _ n perm dims hp]
  exact permute_kronVec n a _ dims hq hd i

/-- entry `(i, j)` of `A 0 ⊗ … ⊗ A (n-1)` where `A k` is `rd k × cd k` -/
def kronOp {α : Type} [Mul α] [One α] (n : Nat) (A : Nat → Nat → Nat → α) (rd cd : Nat → Nat)
    (i j : Nat) : α :=
  prodFn n (fun k => A k (dec rd n i k) (dec cd n j k))

/-- **Product operators**: the matrix branch maps `A_0 ⊗ … ⊗ A_{n-1}` (rectangular factors, `A_k` of
    size `rd k × cd k`) to `A_{p 0} ⊗ … ⊗ A_{p (n-1)}` (sizes `rd (p k) × cd (p k)`), over every
    commutative monoid of scalars. -/
theorem permute_kronMat {α : Type} [CommMonoid α] (n : Nat) (A : Nat → Nat → Nat → α)
    (perm rd cd : Nat → Nat) (hp : IsPermN n perm) (hr : ∀ k, k < n → 0 < rd k)
    (hc : ∀ k, k < n → 0 < cd k) (i j : Nat) :
    permuteMat (kronOp n A rd cd) n perm rd cd false false i j
      = kronOp n (fun k => A (perm k)) (fun m => rd (perm m)) (fun m => cd (perm m)) i j := by
  rw [permuteMat_false_eq _ n perm rd cd hp, if_neg Bool.false_ne_true]
  exact prodFn_dec_specIndex n perm rd cd hp hr hc A i j

/-- matrix branch: the inverse flag is the forward call with the inverse permutation -/
theorem permuteMat_inv_eq_forward {α : Type} (X : Nat → Nat → α) (n : Nat) (perm rd cd : Nat → Nat)
    (hp : IsPermN n perm) (rowOnly : Bool) (i j : Nat) :
    permuteMat X n perm rd cd rowOnly true i j
      = permuteMat X n (invPerm n perm) rd cd rowOnly false i j := by
  rw [permuteMat_eq_permIndex, permuteMat_eq_permIndex, permIndex_inv_eq_forward n perm rd hp, permIndex_inv_eq_forward n perm cd hp]

/-- **Product operators, inverse flag**: `A_0 ⊗ … ⊗ A_{n-1}` becomes `A_{p⁻¹ 0} ⊗ … ⊗ A_{p⁻¹ (n-1)}` -/
theorem permute_kronMat_inv {α : Type} [CommMonoid α] (n : Nat) (A : Nat → Nat → Nat → α)
    (perm rd cd : Nat → Nat) (hp : IsPermN n perm) (hr : ∀ k, k < n → 0 < rd k)
    (hc : ∀ k, k < n → 0 < cd k) (i j : Nat) :
    permuteMat (kronOp n A rd cd) n perm rd cd false true i j
      = kronOp n (fun k => A (invPerm n perm k)) (fun m => rd (invPerm n perm m))
          (fun m => cd (invPerm n perm m)) i j := by
  rw [permuteMat_inv_eq_forward _ n perm rd cd hp]
  exact permute_kronMat n A _ rd cd (invPerm_isPermN n perm hp) hr hc i j

/-- **Composition**: permuting by `p` and then by `q` (handing the second call the permuted dimensions
    `dims ∘ p`) is permuting once by the composite `i ↦ p (q i)`: output position `i` takes factor
    `p (q i)` of the original. -/
theorem permute_comp {α : Type} (v : Nat → α) (n : Nat) (p q dims : Nat → Nat)
    (hp : IsPermN n p) (hq : IsPermN n q) (hd : ∀ k, k < n → 0 < dims k) (j : Nat) :
    permuteVec (permuteVec v n p dims false) n q (fun m => dims (p m)) false j
      = permuteVec v n (fun i => p (q i)) dims false j :=
  congrArg v (permIndex_comp n p q hp hq dims hd j)

/-- **Composition, matrices** (separate row/column dimensions, either row-only setting) -/
theorem permute_comp_mat {α : Type} (X : Nat → Nat → α) (n : Nat) (p q rd cd : Nat → Nat)
    (hp : IsPermN n p) (hq : IsPermN n q) (hr : ∀ k, k < n → 0 < rd k)
    (hc : ∀ k, k < n → 0 < cd k) (rowOnly : Bool) (i j : Nat) :
    permuteMat (permuteMat X n p rd cd rowOnly false) n q (fun m => rd (p m)) (fun m => cd (p m))
        rowOnly false i j
      = permuteMat X n (fun i => p (q i)) rd cd rowOnly false i j := by
  rw [permuteMat_permuteMat, permIndex_comp n p q hp hq rd hr i,
    permIndex_comp n p q hp hq cd hc j]
  rfl

/-- **Inverse option, matrices**: the inverse call with the permuted row/column dimensions undoes the
    forward call (with `row_only` the columns are untouched, so only the row index has to be in range). -/
theorem permute_inv_undoes_mat {α : Type} (X : Nat → Nat → α) (n : Nat) (perm rd cd : Nat → Nat)
    (hp : IsPermN n perm) (rowOnly : Bool) (i j : Nat) (hi : i < prodN rd n)
    (hj : rowOnly = false → j < prodN cd n) :
    permuteMat (permuteMat X n perm rd cd rowOnly false) n perm (fun m => rd (perm m))
        (fun m => cd (perm m)) rowOnly true i j = X i j :=
  permuteMat_permuteMat_cancel X n perm perm rd cd _ _ rowOnly false true i j (permIndex_inv_undoes n perm rd hp i hi)
    fun h => permIndex_inv_undoes n perm cd hp j (hj h)

/-- **Forward call undoes the inverse option** when given the dimensions `dims ∘ p⁻¹` of the inverse
    call's output. -/
theorem permute_undoes_inv {α : Type} (v : Nat → α) (n : Nat) (perm dims : Nat → Nat)
    (hp : IsPermN n perm) (j : Nat) (hj : j < prodN dims n) :
    permuteVec (permuteVec v n perm dims true) n perm (fun m => dims (invPerm n perm m)) false j
      = v j :=
  congrArg v (permIndex_undoes_inv n perm dims hp j hj)

/-- **Swap is the transposition special case**: the list `swap.py` builds by
    `perm = arange(n); perm[sys] = perm[sys[::-1]]` is the transposition `(s1 s2)` (0-indexed) in one-line
    notation, and `swap` on vectors and on matrices (any `row_only`) is `permute_systems` with that
    transposition. -/
theorem swap_eq_transposition {α : Type} (n s1 s2 : Nat) (h1 : s1 < n) (h2 : s2 < n) :
    swapPermList n s1 s2 = listOfFn n (swapPerm s1 s2) ∧
    (∀ (v : Nat → α) (dims : Nat → Nat) (j : Nat),
      swapSysVec v n s1 s2 dims j = permuteVec v n (swapPerm s1 s2) dims false j) ∧
    (∀ (X : Nat → Nat → α) (rd cd : Nat → Nat) (rowOnly : Bool) (i j : Nat),
      swapSysMat X n s1 s2 rd cd rowOnly i j = permuteMat X n (swapPerm s1 s2) rd cd rowOnly false i j) := by
  refine ⟨swapPermList_eq n s1 s2 h1 h2, fun v dims j => congrArg v (permIndex_swapPermList n s1 s2 h1 h2 dims false j),
    fun X rd cd rowOnly i j => ?_⟩
  unfold swapSysMat
  rw [permuteMat_eq_permIndex, permuteMat_eq_permIndex, permIndex_swapPermList n s1 s2 h1 h2, permIndex_swapPermList n s1 s2 h1 h2]

/-- swapping the same two subsystems twice (second call with the swapped dimensions) is the identity -/
theorem swap_swap {α : Type} (v : Nat → α) (n s1 s2 : Nat) (h1 : s1 < n) (h2 : s2 < n)
    (dims : Nat → Nat) (j : Nat) (hj : j < prodN dims n) :
    swapSysVec (swapSysVec v n s1 s2 dims) n s1 s2 (fun m => dims (swapPerm s1 s2 m)) j = v j :=
  congrArg v (permIndex_swap_swap n s1 s2 h1 h2 dims j hj)

/-- swapping twice is the identity also for matrices (separate row/column dimensions, either row-only
    setting) -/
theorem swap_swap_mat {α : Type} (X : Nat → Nat → α) (n s1 s2 : Nat) (h1 : s1 < n) (h2 : s2 < n)
    (rd cd : Nat → Nat) (rowOnly : Bool) (i j : Nat) (hi : i < prodN rd n)
    (hj : rowOnly = false → j < prodN cd n) :
    swapSysMat (swapSysMat X n s1 s2 rd cd rowOnly) n s1 s2 (fun m => rd (swapPerm s1 s2 m))
      (fun m => cd (swapPerm s1 s2 m)) rowOnly i j = X i j :=
  permuteMat_permuteMat_cancel X n _ _ rd cd _ _ rowOnly false false i j (permIndex_swap_swap n s1 s2 h1 h2 rd i hi)
    fun h => permIndex_swap_swap n s1 s2 h1 h2 cd j (hj h)

/-- `swap_operator(dims)` is `permutation_operator(dims, [1, 0, 2, …, n-1])`; with `permOp_orthogonal`
    and `permOp_entries` it is therefore a unitary permutation matrix -/
theorem swapOp_eq_permOp {α : Type} [Zero α] [One α] (n : Nat) (hn : 2 ≤ n) (dims : Nat → Nat)
    (i k : Nat) : swapOperator (α := α) n dims i k = permOp (α := α) n (swapPerm 0 1) dims false i k := by
  obtain ⟨_, _, hm⟩ := swap_eq_transposition (α := α) n 0 1 (by omega) (by omega)
  unfold swapOperator permOp
  exact hm _ dims dims true i k

/-- the swap operator exchanges the first two tensor factors: `W (a_0 ⊗ a_1 ⊗ …) = a_1 ⊗ a_0 ⊗ …` -/
theorem swapOp_action_kron {α : Type} [CommSemiring α] (n : Nat) (hn : 2 ≤ n) (a : Nat → Nat → α)
    (dims : Nat → Nat) (i : Nat) (hi : i < prodN dims n) :
    sumN (prodN dims n) (fun k => swapOperator (α := α) n dims i k * kronVec n a dims k)
      = kronVec n (fun k => a (swapPerm 0 1 k)) (fun m => dims (swapPerm 0 1 m)) i :=
  (sumN_congr _ _ _ fun k _ => by rw [swapOp_eq_permOp n hn]).trans
    (permOp_action_kron n a _ dims (swapPerm_isPermN n 0 1 (by omega) (by omega)) i hi)

/-- **Omitted `dim`**: the exact integer root the driver uses for `dim=None` returns `r` exactly when
    `r ^ k = N` (`k = len(perm) ≥ 1` subsystems, `N` rows/columns). -/
theorem dim_omitted_root (N k r : Nat) (hk : 0 < k) : iroot N k = some r ↔ r ^ k = N := by
  refine ⟨iroot_some_pow, fun h => ?_⟩
  unfold iroot
  rw [List.find?_range_eq_some]
  -- a root is `≤ N`, so it is in the searched range; `r ↦ r ^ k` is strictly increasing for `k ≠ 0`, so no `j < r` is a root
  refine ⟨beq_iff_eq.mpr h, List.mem_range.mpr (Nat.lt_succ_of_le (Nat.le_succ_of_le (le_of_pow_eq hk h))), fun j hj => ?_⟩
  exact (Bool.not_eq_true' _).mpr (beq_eq_false_iff_ne.mpr (h ▸ Nat.ne_of_lt (Nat.pow_lt_pow_left hj (Nat.ne_of_gt hk))))

/-- The exact root reports failure (→ `InvalidDim`, as the size check in the code does) exactly when `N` is not
    a perfect `k`-th power -/
theorem dim_omitted_none (N k : Nat) : iroot N k = none ↔ ∀ r, r ^ k ≠ N := by
  unfold iroot
  rw [List.find?_range_eq_none]
  simp only [Bool.not_eq_true', beq_eq_false_iff_ne, ne_eq]
  refine ⟨fun h r hr => ?_, fun h i _ => h i⟩
  -- for `k = 0` the only value is `r ^ 0 = 1`, found at `r = 0`; otherwise a root would be in the searched range
  rcases Nat.eq_zero_or_pos k with rfl | hk
  · exact h 0 (Nat.succ_pos _) hr
  · exact h r (Nat.lt_succ_of_le (Nat.le_succ_of_le (le_of_pow_eq hk hr))) hr

/-- the uniform dimension list `[r] * n` chosen for the omitted `dim` multiplies to `N`, so it passes
    the size check and the theorems above apply with `dims = fun _ => r` -/
theorem dim_omitted_dims (N n r : Nat) (h : iroot N n = some r) :
    prodN (fnOfList (List.replicate n r)) n = N := by
  rw [prodN_replicate r n n (Nat.le_refl n), iroot_some_pow h]

/-- non-vacuity of the composition law on a non-uniform, non-involutive instance: `dims = [2,3,2]`,
    `p = [1,2,0]` (so the intermediate dims are `[3,2,2]`), `q = [1,0,2]`, composite `i ↦ p (q i) = [2,1,0]`;
    the composite differs from `p` -/
example :
    isPerm 3 (fnOfList [1, 2, 0]) = true ∧ isPerm 3 (fnOfList [1, 0, 2]) = true ∧
    listOfFn 12 (permuteVec (permIndex 3 (fnOfList [1, 2, 0]) (fnOfList [2, 3, 2]) false) 3
        (fnOfList [1, 0, 2]) (fnOfList [3, 2, 2]) false)
      = listOfFn 12 (permIndex 3 (fnOfList [2, 1, 0]) (fnOfList [2, 3, 2]) false) ∧
    listOfFn 12 (permIndex 3 (fnOfList [2, 1, 0]) (fnOfList [2, 3, 2]) false)
      ≠ listOfFn 12 (permIndex 3 (fnOfList [1, 2, 0]) (fnOfList [2, 3, 2]) false) := by decide +kernel

/-- non-vacuity: the permutation operator for `dims = [2,3]`, `perm = [1,0]` is the 6×6 permutation
    matrix with ones at `(0,0),(1,3),(2,1),(3,4),(4,2),(5,5)`; it equals `swap_operator([2,3])` -/
example :
    listOfFn 6 (fun i => listOfFn 6 (permOp (α := Int) 2 (fnOfList [1, 0]) (fnOfList [2, 3]) false i))
      = [[1,0,0,0,0,0],[0,0,0,1,0,0],[0,1,0,0,0,0],[0,0,0,0,1,0],[0,0,1,0,0,0],[0,0,0,0,0,1]] ∧
    listOfFn 6 (fun i => listOfFn 6 (swapOperator (α := Int) 2 (fnOfList [2, 3]) i))
      = listOfFn 6 (fun i => listOfFn 6 (permOp (α := Int) 2 (fnOfList [1, 0]) (fnOfList [2, 3]) false i)) ∧
    swapPermList 4 0 2 = [2, 1, 0, 3] := by decide +kernel

/-- non-vacuity: exact roots -/
example : iroot 27 3 = some 3 ∧ iroot 16 2 = some 4 ∧ iroot 12 2 = none ∧ iroot 1 5 = some 1 := by decide +kernel

end Toq.C01
