import Toq.Model.MatrixOps
import Toq.Model.MatrixPreds
import Toq.Spec.MatrixOps
import Toq.Proofs.MatrixOps
import Toq.Model.MatrixPredsTol
import Toq.Model.MatrixPredsDet
import Toq.Proofs.MatrixOpsTol
import Toq.Proofs.MatrixOpsExtra
import Toq.Proofs.MatrixOpsDiagDom
import Toq.Proofs.MatrixOpsInv
import Toq.Proofs.MatrixOpsSpectral
import Toq.Proofs.MatrixOpsComm
import Toq.Proofs.MatrixOpsDet
import Toq.Proofs.MatrixOpsUpb
import Toq.Proofs.MatrixOpsPsd
/-!
# C16 — matrix / state-set predicates and linear-algebra helpers match their definitions

The supporting lemmas are in `Toq/Proofs/MatrixOps*.lean`.

* Part 1: the mirror models of `vec`, `unvec`, `tensor` (all argument forms, with the `fast_exp`
  recursion), `vectors_to_gram_matrix`, `to_density_matrix`, `majorizes` and the linear system of
  `commutant` (`Toq/Model/MatrixOps.lean`) satisfy the identities the property states, for all sizes.
* Part 2: what a `yes` / `no` of the exact deciders of `Toq/Model/MatrixPreds.lean` means.
* Part 3: the invariances the harness generators rely on (over commutative star rings, all sizes).
* Part 4: the exact rank routine is Mathlib's `Matrix.rank` (`rank_correct`), and what `spark`, `linIndepV`, the UPB rank
  test and `commutantDim` therefore compute.
* Part 5: the tolerance-level mirrors (`Toq/Model/MatrixPredsTol.lean`): `closeQ` / `allcloseQ` are `np.isclose` / `np.allclose`
  over the reals, and the three-valued verdict forces the verdict of the mirror for the predicates that compare two sides
  (Hermitian … commuting, stochastic, mutually orthogonal, orthonormal); the mirrors `psdT`, `densityTol`, `ensembleTol`,
  `nonnegativeTol`, `totallyPositiveT`, `pseudoHermitianT` occur in no theorem (the harness alone compares them with toqito).
* Part 6: readings of the deciders that are not one guarded equation (pseudo-unitary, pseudo-Hermitian, stochastic, positive,
  diagonally dominant, totally positive with the proved determinant, definiteness with self-checked certificates, density,
  pure / mixed, ensemble, mutually orthogonal, orthonormal, mutually unbiased, unextendible product bases incl. order independence).
* Part 7: more on the helper operations (n-ary associativity of `tensor`, `unvec` rejections, `majorizes` with its tolerance term,
  the commutant is the null space and `commutantDim` its dimension, Gram matrices are PSD, eigen-branch round trip, Frobenius
  shortcut of `kp_norm`, trace norm of Hermitian / PSD matrices).
* Part 8: every predicate's defining relation is preserved by the transformations the harness applies (an equivalence where the
  cell says iff, else the one direction).
* Part 9: further code branches inside the model: the reshape trick of `is_diagonal`, `tensor_comb`.
-/
namespace Toq.C16
open Toq.MatrixOps Toq.MatrixPreds
open scoped ComplexOrder MatrixOrder

/-! ## Part 1 — helper operations -/

/-- `vec` is column stacking: entry `k` of `vec A` is `A[k mod r, k div r]`. -/
theorem vec_apply {α : Type} (A : Mat α) (k : Nat) (hk : k < A.r * A.c) : (vec A).f k 0 = vecSpec A k := by
  rw [vec_f_of_lt A hk]
  rfl

/-- `unvec(vec(A), A.shape) = A` for every rectangular `A`. -/
theorem unvec_vec {α : Type} (A : Mat α) (i j : Nat) (hi : i < A.r) (hj : j < A.c) :
    (unvecShape (fun k => (vec A).f k 0) A.r A.c).f i j = A.f i j := by
  obtain ⟨h1, h2⟩ := Nat.mul_add_divMod_of_lt (q := j) hi
  rw [unvecShape_f, vec_f, Nat.add_comm, h1, h2, Nat.mod_eq_of_lt hj]

/-- `vec(unvec(v, (r, c))) = v` for every vector of length `r*c`. -/
theorem vec_unvec {α : Type} (v : Nat → α) (r c k : Nat) (hk : k < r * c) :
    (vec (unvecShape v r c)).f k 0 = v k := by
  rw [vec_f_of_lt (unvecShape v r c) hk]
  show (unvecShape v r c).f (k % r) (k / r) = v k
  rw [unvecShape_f, Nat.mul_comm, Nat.mod_add_div]

/-- with the default shape (`dim = int(sqrt(size))`) `unvec` inverts `vec` on square matrices. -/
theorem unvec_default_vec {α : Type} (A : Mat α) (n : Nat) (hr : A.r = n) (hc : A.c = n) :
    ∃ M, unvec (fun k => (vec A).f k 0) (n * n) none = some M ∧ M.r = n ∧ M.c = n ∧
      ∀ i j, i < n → j < n → M.f i j = A.f i j := by
  refine ⟨_, unvec_default_sq _ n, rfl, rfl, ?_⟩
  intro i j hi hj
  have := unvec_vec A i j (hr ▸ hi) (hc ▸ hj)
  rw [hr, hc] at this
  exact this

/-- `vec(A X B) = (Bᵀ ⊗ A) vec(X)` for all conformable `A (m×n)`, `X (n×p)`, `B (p×q)` over a
    commutative semiring, with the Kronecker product as `np.kron` / `tensor` computes it. -/
theorem vec_mul_kron {α : Type} [CommSemiring α] (A X B : Mat α) (hAX : A.c = X.r) (hXB : X.c = B.r)
    (k : Nat) (hk : k < A.r * B.c) :
    (vec (mul (mul A X) B)).f k 0 = (mul (kron (transpose B) A) (vec X)).f k 0 := by
  rw [vec_f_of_lt (mul (mul A X) B) hk, mul_f, mul_f]
  show ∑ b ∈ Finset.range X.c, (mul A X).f (k % A.r) b * B.f b (k / A.r)
      = ∑ l ∈ Finset.range (B.r * A.c), (kron (transpose B) A).f k l * (vec X).f l 0
  -- position `l = b·n + a` of `vec X` holds `X[a, b]`, and row `k` of `Bᵀ ⊗ A` holds `B[b, k div m]·A[k mod m, a]` there
  have hR : ∀ l ∈ Finset.range (B.r * A.c), (kron (transpose B) A).f k l * (vec X).f l 0
      = B.f (l / A.c) (k / A.r) * A.f (k % A.r) (l % A.c) * X.f (l % A.c) (l / A.c) := by
    intro l hl
    rw [kron_f, vec_f_of_lt X (by rw [← hAX, hXB, Nat.mul_comm]; exact Finset.mem_range.mp hl), ← hAX]
    rfl
  rw [Finset.sum_congr rfl hR, sum_range_mul_divmod (fun b a => B.f b (k / A.r) * A.f (k % A.r) a * X.f a b) A.c B.r, ← hXB]
  refine Finset.sum_congr rfl fun b _ => ?_
  rw [mul_f, Finset.sum_mul]
  refine Finset.sum_congr rfl fun a _ => ?_
  show A.f (k % A.r) a * X.f a b * B.f b (k / A.r) = B.f b (k / A.r) * A.f (k % A.r) a * X.f a b
  ring

/-- the model's `np.kron` is the Kronecker product in toqito's index convention `enc`
    (first factor most significant): entry `((i1,i2),(j1,j2))` is `A[i1,j1]·B[i2,j2]`. -/
theorem kron_enc {α : Type} [Mul α] (A B : Mat α) : IsKron A B (kron A B) := by
  refine ⟨rfl, rfl, ?_⟩
  intro i1 i2 j1 j2 _ hi2 _ hj2
  rw [enc_two, enc_two]
  exact kron_block A B i1 i2 j1 j2 hi2 hj2

/-- `(A ⊗ B) ⊗ C = A ⊗ (B ⊗ C)` for rectangular matrices (shapes and all entries). -/
theorem tensor_assoc {α : Type} [Semigroup α] (A B C : Mat α) : kron (kron A B) C = kron A (kron B C) :=
  kron_assoc A B C

/-- `tensor(A, n)` (the squaring recursion `fast_exp`) is the `n`-fold iterated product, `n ≥ 1`. -/
theorem tensor_pow_eq_iterate {α : Type} [Monoid α] (A : Mat α) (n : Nat) (hn : 1 ≤ n) :
    tensor (TensorArgs.power A n) = TensorResult.mat (kronPow A n) := by
  unfold tensor
  have h0 : n ≠ 0 := by omega
  simp only [h0, ↓reduceIte]
  by_cases h1 : n = 1
  · subst h1; rfl
  · simp only [h1, ↓reduceIte]
    rw [fastExp_eq_kronPow A n hn]

/-- `tensor([A]*n)`, the left fold `((A ⊗ A) ⊗ A) …`, is the same iterated product; hence
    `tensor(A, n) = tensor([A]*n)` for every `n ≥ 1`. -/
theorem tensor_replicate_eq_iterate {α : Type} [Monoid α] (A : Mat α) (n : Nat) (hn : 1 ≤ n) :
    tensor (TensorArgs.list (List.replicate n A)) = TensorResult.mat (kronPow A n) := by
  obtain ⟨k, rfl⟩ : ∃ k, n = k + 1 := ⟨n - 1, by omega⟩
  show tensorList (A :: List.replicate k A) = _
  rw [tensorList_cons, Nat.add_comm k 1]
  exact congrArg _ (kronFold_replicate A k 1 le_rfl)

/-- the variadic form `tensor(A_1, …, A_n)` and the list form `tensor([A_1, …, A_n])` agree for `n ≥ 2`. -/
theorem tensor_many_eq_list {α : Type} [Monoid α] (l : List (Mat α)) (h : 2 ≤ l.length) :
    tensor (TensorArgs.many l) = tensor (TensorArgs.list l) := by
  match l, h with
  | [a, b], _ => rfl
  | a :: b :: c :: rest, _ => rfl

/-- `vectors_to_gram_matrix`: `G[i,j] = ⟨v_i, v_j⟩ = Σ_k conj(v_i[k])·v_j[k]`, i.e. `G = Vᴴ V`. -/
theorem gram_apply {α : Type} [CommSemiring α] [StarRing α] (d n : Nat) (vs : Nat → Nat → α) (i j : Nat) :
    (gram d n vs).f i j = ∑ k ∈ Finset.range d, star (vs i k) * vs j k :=
  gram_f d n vs i j

/-- a Gram matrix is Hermitian. -/
theorem gram_hermitian {α : Type} [CommSemiring α] [StarRing α] (d n : Nat) (vs : Nat → Nat → α) (i j : Nat) :
    star ((gram d n vs).f i j) = (gram d n vs).f j i := by
  rw [gram_f, gram_f, star_sum]
  apply Finset.sum_congr rfl
  intro k _
  rw [star_mul', star_star, mul_comm]

/-- Round trip, Cholesky branch: if `G = L Lᴴ` then the **conjugated** rows of `L` are vectors whose
    Gram matrix is `G` (what `vectors_from_gram_matrix` must return). -/
theorem gram_of_conj_rows {α : Type} [CommSemiring α] [StarRing α] (d n : Nat) (L G : Nat → Nat → α)
    (hG : ∀ i j, G i j = ∑ k ∈ Finset.range d, L i k * star (L j k)) (i j : Nat) :
    (gram d n (fun a k => star (L a k))).f i j = G i j := by
  rw [gram_f, hG]
  apply Finset.sum_congr rfl
  intro k _
  rw [star_star]

/-- If `G = L Lᴴ`, the unconjugated rows of `L` have Gram matrix `Gᵀ = conj(G)` (the defect fixed in
    toqito commit 889422b: wrong for complex `G`). -/
theorem gram_of_rows {α : Type} [CommSemiring α] [StarRing α] (d n : Nat) (L G : Nat → Nat → α)
    (hG : ∀ i j, G i j = ∑ k ∈ Finset.range d, L i k * star (L j k)) (i j : Nat) :
    (gram d n L).f i j = G j i := by
  rw [gram_f, hG]
  apply Finset.sum_congr rfl
  intro k _
  rw [mul_comm]

/-- `to_density_matrix(v) = v vᴴ` is Hermitian. -/
theorem toDensity_hermitian {α : Type} [CommSemiring α] [StarRing α] (n : Nat) (v : Nat → α) (i j : Nat) :
    star ((outerConj n v).f i j) = (outerConj n v).f j i := by
  rw [outerConj_f, outerConj_f, star_mul', star_star, mul_comm]

/-- `to_density_matrix(v) = v vᴴ` satisfies `ρ² = ⟨v,v⟩·ρ` (so it is a projection, a pure state, when `⟨v,v⟩ = 1`). -/
theorem toDensity_sq {α : Type} [CommSemiring α] [StarRing α] (n : Nat) (v : Nat → α) (i j : Nat) :
    (mul (outerConj n v) (outerConj n v)).f i j
      = (∑ k ∈ Finset.range n, star (v k) * v k) * (outerConj n v).f i j := by
  rw [mul_f]
  show ∑ k ∈ Finset.range n, (outerConj n v).f i k * (outerConj n v).f k j = _
  rw [Finset.sum_mul]
  apply Finset.sum_congr rfl
  intro k _
  simp only [outerConj_f]
  ring

/-- `to_density_matrix(v) = v vᴴ` has trace `⟨v,v⟩`. -/
theorem toDensity_trace {α : Type} [CommSemiring α] [StarRing α] (n : Nat) (v : Nat → α) :
    sumN n (fun i => (outerConj n v).f i i) = ∑ k ∈ Finset.range n, star (v k) * v k := by
  rw [sumN_eq_sum]
  apply Finset.sum_congr rfl
  intro k _
  rw [outerConj_f, mul_comm]

/-- `majorizes(a, b)` (sort both descending, pad the shorter with zeros, compare running sums) holds
    iff every prefix sum of the sorted padded `a` dominates that of `b`. -/
theorem majorizes_iff_partial_sums (a b : List Rat) :
    majorizes a b = true ↔
      PrefixDominates (padTo (max a.length b.length) (sortDesc a)) (padTo (max a.length b.length) (sortDesc b))
        (max a.length b.length) := by
  unfold majorizes PrefixDominates
  rw [majorizesTol_iff]
  simp only [zero_add]

/-- the sorting step of `majorizes` returns a descending rearrangement of its input. -/
theorem majorizes_sort_spec (l : List Rat) : (sortDesc l).Perm l ∧ (sortDesc l).Pairwise (fun x y => y ≤ x) :=
  List.mergeSort_ge_spec l

/-- the linear system of `commutant`: `(A ⊗ I − I ⊗ Aᵀ)` applied to the row-major flattening of `X`
    is the row-major flattening of `A X − X A`; so its null space (reshaped in C order, as the code
    does) is exactly the set of matrices commuting with `A`. -/
theorem commutant_system_apply {α : Type} [CommRing α] (n : Nat) (A X : Mat α) (hAr : A.r = n) (hAc : A.c = n)
    (hXc : X.c = n) (i j : Nat) (hi : i < n) (hj : j < n) :
    (mul (commSystem n A) (vecC X)).f (i * n + j) 0 = (sub (mul A X) (mul X A)).f i j := by
  obtain ⟨e1, e2⟩ := Nat.mul_add_divMod_of_lt (q := i) hj
  have hterm : ∀ l, (commSystem n A).f (i * n + j) l * (vecC X).f l 0
      = (A.f i (l / n) * (if j = l % n then 1 else 0) - (if i = l / n then 1 else 0) * A.f (l % n) j) * X.f (l / n) (l % n) := by
    intro l
    rw [commSystem_f n A hAr hAc, e1, e2]
    show _ * X.f (l / X.c) (l % X.c) = _
    rw [hXc]
  rw [mul_f]
  show ∑ l ∈ Finset.range (A.c * n), (commSystem n A).f (i * n + j) l * (vecC X).f l 0 = (mul A X).f i j - (mul X A).f i j
  rw [Finset.sum_congr rfl (fun l _ => hterm l), hAc,
    sum_range_mul_divmod (fun b a => (A.f i b * (if j = a then 1 else 0) - (if i = b then 1 else 0) * A.f a j) * X.f b a) n n,
    sum_sum_commutator_delta _ A.f X.f (Finset.mem_range.mpr hi) (Finset.mem_range.mpr hj), mul_f, mul_f, hAc, hXc]

/-! ## Part 2 — what the verdicts of the exact deciders mean -/

/-- the generic equation decider says `yes` iff the two sides are equal in every entry. -/
theorem eqV_yes_iff (L R : Mat QI) (m : Rat) (hr : R.r = L.r) (hc : R.c = L.c) :
    eqV L R m = .yes ↔ ∀ i j, i < L.r → j < L.c → L.f i j = R.f i j :=
  Toq.MatrixPreds.eqV_yes_iff L R m hr hc

/-- it says `no` only if some entry of the two sides differs by at least `margin·(1 + S)`
    (in `|re| + |im|`) where `S` bounds every entry of both sides. -/
theorem eqV_no_imp (L R : Mat QI) (m : Rat) (hr : R.r = L.r) (hc : R.c = L.c) (h : eqV L R m = .no) :
    ∃ S : Rat, (∀ i j, i < L.r → j < L.c → (L.f i j).abs1 ≤ S ∧ (R.f i j).abs1 ≤ S) ∧
      ∃ i j, i < L.r ∧ j < L.c ∧ m * (1 + S) ≤ (L.f i j - R.f i j).abs1 :=
  eqV_no_far L R m hr hc h

/-- Hermitian decider: `yes` iff square and `A = Aᴴ` entrywise. -/
theorem hermitian_yes_iff (A : Mat QI) (m : Rat) :
    hermitianV A m = .yes ↔ A.r = A.c ∧ ∀ i j, i < A.r → j < A.c → A.f i j = (A.f j i).conj :=
  hermitianV_yes_iff A m

/-- symmetric decider: `yes` iff square and `A = Aᵀ`. -/
theorem symmetric_yes_iff (A : Mat QI) (m : Rat) :
    symmetricV A m = .yes ↔ A.r = A.c ∧ ∀ i j, i < A.r → j < A.c → A.f i j = A.f j i :=
  (SqEq.symmetric A).yes_iff m

/-- identity decider: `yes` iff square with entries `δ_ij`. -/
theorem identity_yes_iff (A : Mat QI) (m : Rat) :
    identityV A m = .yes ↔ A.r = A.c ∧ ∀ i j, i < A.r → j < A.c → A.f i j = if i = j then 1 else 0 :=
  (SqEq.identity A).yes_iff m

/-- idempotent decider: `yes` iff square and `A = A·A`. -/
theorem idempotent_yes_iff (A : Mat QI) (m : Rat) :
    idempotentV A m = .yes ↔ A.r = A.c ∧ ∀ i j, i < A.r → j < A.c → A.f i j = sumN A.c (fun k => A.f i k * A.f k j) :=
  (SqEq.idempotent A).yes_iff m

/-- unitary decider: `yes` iff square, the columns are orthonormal (`Aᴴ A = I`) and the rows are (`A Aᴴ = I`). -/
theorem unitary_yes_iff (A : Mat QI) (m : Rat) :
    unitaryV A m = .yes ↔ A.r = A.c ∧
      (∀ i j, i < A.c → j < A.c → sumN A.r (fun k => (A.f k i).conj * A.f k j) = if i = j then 1 else 0) ∧
      (∀ i j, i < A.r → j < A.r → sumN A.c (fun k => A.f i k * (A.f j k).conj) = if i = j then 1 else 0) := by
  unfold unitaryV
  rw [squareGuard_yes_iff, Verdict.and_yes_iff]
  exact and_congr_right fun h => and_congr
    (Toq.MatrixPreds.eqV_yes_iff (mul (ctranspose A) A) (eye A.r) m h h)
    (Toq.MatrixPreds.eqV_yes_iff (mul A (ctranspose A)) (eye A.r) m rfl rfl)

/-- normal decider: `yes` iff square and `A Aᴴ = Aᴴ A`. -/
theorem normal_yes_iff (A : Mat QI) (m : Rat) :
    normalV A m = .yes ↔ A.r = A.c ∧ ∀ i j, i < A.r → j < A.r →
      sumN A.c (fun k => A.f i k * (A.f j k).conj) = sumN A.r (fun k => (A.f k i).conj * A.f k j) :=
  (SqEq.normal A).yes_iff m

/-- anti-Hermitian decider (the code asks `is_hermitian(1j * A)`): `yes` iff square and `A = -Aᴴ`. -/
theorem antiHermitian_yes_iff (A : Mat QI) (m : Rat) :
    antiHermitianV A m = .yes ↔ A.r = A.c ∧ ∀ i j, i < A.r → j < A.c → A.f i j = -((A.f j i).conj) := by
  unfold antiHermitianV
  rw [hermitianV_yes_iff]
  exact and_congr_right fun _ => forall₄_congr fun _ _ _ _ => I_mul_eq_conj_I_mul_iff _ _

/-- projection decider (toqito's `is_projection` = its docstring example = idempotent): `yes` iff square and `A·A = A`. -/
theorem projection_yes_iff (A : Mat QI) (m : Rat) :
    projectionV A m = .yes ↔ A.r = A.c ∧ ∀ i j, i < A.r → j < A.c → sumN A.c (fun k => A.f i k * A.f k j) = A.f i j :=
  (SqEq.projection A).yes_iff m

/-- commuting decider: `yes` iff `A B - B A = 0` entrywise (operands with the same number of columns). -/
theorem commuting_yes_iff (A B : Mat QI) (m : Rat) (hc : A.c = B.c) :
    commutingV A B m = .yes ↔ ∀ i j, i < A.r → j < B.c →
      sumN A.c (fun k => A.f i k * B.f k j) - sumN B.c (fun k => B.f i k * A.f k j) = 0 :=
  Toq.MatrixPreds.eqV_yes_iff (sub (mul A B) (mul B A)) (zeroMat A.r A.c) m rfl hc

/-- circulant decider: `yes` iff square and every row is the previous row rotated one place to the right. -/
theorem circulant_yes_iff (A : Mat QI) (m : Rat) :
    circulantV A m = .yes ↔ A.r = A.c ∧ ∀ i j, i < A.r - 1 → j < A.r → A.f (i + 1) j = A.f i ((j + A.r - 1) % A.r) :=
  (SqEq.circulant A).yes_iff m

/-- diagonal decider: `yes` iff square with all off-diagonal entries exactly zero. -/
theorem diagonal_yes_iff (A : Mat QI) :
    diagonalV A = .yes ↔ A.r = A.c ∧ ∀ i j, i < A.r → j < A.c → i ≠ j → A.f i j = 0 := by
  unfold diagonalV
  rw [squareGuard_yes_iff, Verdict.ofBool_yes_iff, allBelow_allBelow_iff]
  simp only [Bool.or_eq_true, beq_iff_eq, or_iff_not_imp_left, ne_eq]

/-- permutation decider: `yes` iff every entry is 0 or 1 and every row and every column sums to 1. -/
theorem permutation_yes_iff (A : Mat QI) :
    permutationV A = .yes ↔ (∀ i j, i < A.r → j < A.c → A.f i j = 0 ∨ A.f i j = 1) ∧
      (∀ i, i < A.r → sumN A.c (fun j => A.f i j) = 1) ∧ (∀ j, j < A.c → sumN A.r (fun i => A.f i j) = 1) := by
  unfold permutationV
  rw [Verdict.ofBool_yes_iff]
  simp only [Bool.and_eq_true, allBelow_allBelow_iff]
  simp only [allBelow_iff, Bool.or_eq_true, beq_iff_eq, and_assoc]

/-- non-negative decider: `yes` iff every entry is real and `≥ 0`. -/
theorem nonnegative_yes_iff (A : Mat QI) :
    nonnegativeV A = .yes ↔ ∀ i j, i < A.r → j < A.c → (A.f i j).im = 0 ∧ 0 ≤ (A.f i j).re :=
  realGuard_entrywise_yes_iff A (0 ≤ ·)

/-- **PSD certificate**: if the checker accepts `A = L·diag(D)·Lᴴ` with `D ≥ 0` then the complex matrix
    denoted by `A` is positive semidefinite (the harness sends one for every `yes` of the definiteness deciders). -/
theorem psd_certificate_sound {n : Nat} (A L : EMat n n) (D : Fin n → Rat) :
    psdCertLDL A L D = true → A.toM.PosSemidef :=
  psdCertLDL_sound A L D

/-- **non-PSD certificate**: if the checker accepts a vector with `xᴴ (A + μ I) x < 0` then `A + μ I` is not
    positive semidefinite, i.e. `A` has an eigenvalue below `-μ` (sent for every `no` on a Hermitian matrix). -/
theorem not_psd_certificate_sound {n : Nat} (A : EMat n n) (x : EMat n 1) (μ : Rat) :
    npsdCert A x μ = true →
      ¬ (A.toM + (((μ : Rat) : ℝ) : ℂ) • (1 : Matrix (Fin n) (Fin n) ℂ)).PosSemidef :=
  npsdCert_sound A x μ

/-- **independence certificate**: a left inverse `W V = I` proves that the columns of `V` are linearly
    independent over `ℂ` (sent for every `yes` of `is_linearly_independent`). -/
theorem linIndep_certificate_sound {d n : Nat} (V : EMat d n) (W : EMat n d) :
    linIndepCert V W = true → LinearIndependent ℂ V.toM.col := fun h =>
  Matrix.linearIndependent_col_of_mul_eq_one (W := W.toM)
    (by rw [← EMat.toM_mul, EMat.beq_sound _ _ h, EMat.toM_one])

/-- **dependence certificate**: a non-zero `c` with `V c = 0` proves that they are not (sent for every `no`). -/
theorem linDep_certificate_sound {d n : Nat} (V : EMat d n) (c : EMat n 1) :
    linDepCert V c = true → ¬ LinearIndependent ℂ V.toM.col := by
  intro h
  simp only [linDepCert, Bool.and_eq_true, Bool.not_eq_eq_eq_not, Bool.not_true] at h
  refine Matrix.not_linearIndependent_col_of_mulVec_eq_zero (c := c.colC)
    (fun h0 => Bool.eq_false_iff.mp h.1 ((beq_zero_iff c).mpr ((EMat.colC_eq_zero_iff c).mp h0))) ?_
  rw [← EMat.colC_mul, (EMat.colC_eq_zero_iff _).mpr ((beq_zero_iff _).mp h.2)]

/-- **rank certificate**: `P S Q = I_r`, `S N = 0`, `M N = I_k`, `r + k = #columns` prove `rank S = r` and
    `dim ker S = k`; with `S` the linear system of `commutant` this is the exact dimension of the commutant. -/
theorem rank_certificate_sound {R C r k : Nat} (S : EMat R C) (P : EMat r R) (Q : EMat C r) (N : EMat C k) (M : EMat k C) :
    rankCert S P Q N M = true → S.toM.rank = r ∧ Module.finrank ℂ (LinearMap.ker S.toM.mulVecLin) = k := by
  intro h
  simp only [rankCert, Bool.and_eq_true, decide_eq_true_eq] at h
  obtain ⟨⟨⟨hrk, hP⟩, hN⟩, hM⟩ := h
  refine Matrix.rank_eq_and_finrank_ker_eq_of_cert (P := P.toM) (Q := Q.toM) (N := N.toM) (M := M.toM) hrk ?_ ?_ ?_
  · rw [← EMat.toM_mul, ← EMat.toM_mul, EMat.beq_sound _ _ hP, EMat.toM_one]
  · rw [← EMat.toM_mul, EMat.beq_sound _ _ hN, EMat.toM_zero]
  · rw [← EMat.toM_mul, EMat.beq_sound _ _ hM, EMat.toM_one]

/-! ## Part 3 — invariances used by the generators (all sizes, commutative star rings)

Part 8 states the same facts again as cells `P (T A) ↔ P A` of its tables; here they stand in the one direction, and with the
hypotheses, in which the generators use them. -/

section invariance
set_option linter.unusedSectionVars false
open Matrix
variable {n : Type} [Fintype n] [DecidableEq n] {R : Type} [CommRing R] [StarRing R]

/-- conjugation `U A Uᴴ` by any matrix preserves Hermitian matrices. -/
theorem hermitian_conj_invariant (A U : Matrix n n R) (hA : A.IsHermitian) : (U * A * Uᴴ).IsHermitian :=
  Matrix.isHermitian_mul_mul_conjTranspose U hA

/-- conjugation `U A Uᴴ` by any matrix preserves anti-Hermitian matrices. -/
theorem antiHermitian_conj_invariant (A U : Matrix n n R) (hA : Aᴴ = -A) : (U * A * Uᴴ)ᴴ = -(U * A * Uᴴ) := by
  rw [conjTranspose_mul, conjTranspose_mul, conjTranspose_conjTranspose, hA, Matrix.mul_assoc, Matrix.neg_mul, Matrix.mul_neg]

/-- unitary conjugation preserves normality. -/
theorem normal_unitary_conj_invariant (A U : Matrix n n R) (hU : Uᴴ * U = 1) (hA : A * Aᴴ = Aᴴ * A) :
    (U * A * Uᴴ) * (U * A * Uᴴ)ᴴ = (U * A * Uᴴ)ᴴ * (U * A * Uᴴ) :=
  ((Toq.MatrixInv.conj_embedding U hU).normal_iff A).mpr hA

/-- products of unitaries are unitary (permutations, phases, Givens rotations, Cayley transforms compose). -/
theorem unitary_mul_closed (U V : Matrix n n R) (hU : Uᴴ * U = 1) (hV : Vᴴ * V = 1) : (U * V)ᴴ * (U * V) = 1 :=
  by rw [Toq.MatrixInv.isometry_mul_gram U V hU, hV]

/-- the columns of a unitary are orthonormal. -/
theorem unitary_columns_orthonormal (U : Matrix n n R) (hU : Uᴴ * U = 1) (i j : n) :
    ∑ k, star (U k i) * U k j = if i = j then 1 else 0 :=
  calc ∑ k, star (U k i) * U k j = (Uᴴ * U) i j := rfl
    _ = (1 : Matrix n n R) i j := by rw [hU]
    _ = if i = j then 1 else 0 := Matrix.one_apply

/-- unitary conjugation preserves idempotents (projections). -/
theorem idempotent_unitary_conj_invariant (A U : Matrix n n R) (hU : Uᴴ * U = 1) (hA : A * A = A) :
    (U * A * Uᴴ) * (U * A * Uᴴ) = U * A * Uᴴ :=
  ((Toq.MatrixInv.conj_embedding U hU).idem_iff A).mpr hA

/-- transposition preserves symmetric matrices. -/
theorem symmetric_transpose_invariant (A : Matrix n n R) (hA : Aᵀ = A) : (Aᵀ)ᵀ = Aᵀ :=
  congrArg Matrix.transpose hA

/-- every congruence `Q A Qᵀ` preserves symmetric matrices. -/
theorem symmetric_congruence_invariant (A Q : Matrix n n R) (hA : Aᵀ = A) : (Q * A * Qᵀ)ᵀ = Q * A * Qᵀ := by
  rw [transpose_mul, transpose_mul, transpose_transpose, hA, Matrix.mul_assoc]

end invariance

/-- conjugation `B A Bᴴ` preserves positive semidefiniteness (any star-ordered coefficient ring, e.g. `ℂ`;
    rectangular `B` allowed). -/
theorem psd_conj_invariant {n m S : Type} [Fintype n] [Fintype m] [Ring S] [PartialOrder S] [StarRing S]
    (A : Matrix n n S) (B : Matrix m n S) (hA : A.PosSemidef) : (B * A * B.conjTranspose).PosSemidef :=
  hA.mul_mul_conjTranspose_same B

/-- **Cayley transform**: in any star ring, if `sᴴ = -s` and `u` is the inverse of `1 + s` then
    `(1 - s)·u` is unitary (used for `n × n` matrices over `ℚ[i]`). -/
theorem cayley_unitary {R : Type} [Ring R] [StarRing R] (s u : R) (hs : star s = -s)
    (h1 : u * (1 + s) = 1) (h2 : (1 + s) * u = 1) :
    star ((1 - s) * u) * ((1 - s) * u) = 1 ∧ ((1 - s) * u) * star ((1 - s) * u) = 1 := by
  -- `1 + s` and `1 - s` commute, so the inverse `u` of `1 + s` commutes with `1 - s`;
  -- `star` exchanges `1 + s` and `1 - s`, so `star u` inverts `1 - s`
  have hstar : star ((1 - s) * u) = star u * (1 + s) := by
    rw [star_mul, star_sub, star_one, hs, sub_neg_eq_add]
  have hst : star (1 + s) = 1 - s := by rw [star_add, star_one, hs, sub_eq_add_neg]
  have hcomm : (1 + s) * (1 - s) = (1 - s) * (1 + s) :=
    ((Commute.one_right (1 + s)).sub_right ((Commute.one_left s).add_left (Commute.refl s))).eq
  have hu1 : star u * (1 - s) = 1 := by rw [← hst, ← star_mul, h2, star_one]
  have hu2 : (1 - s) * star u = 1 := by rw [← hst, ← star_mul, h1, star_one]
  have hub : u * (1 - s) = (1 - s) * u :=
    calc u * (1 - s) = u * ((1 - s) * ((1 + s) * u)) := by rw [h2, mul_one]
      _ = u * (1 + s) * ((1 - s) * u) := by rw [← mul_assoc (1 - s), ← hcomm]; simp only [mul_assoc]
      _ = (1 - s) * u := by rw [h1, one_mul]
  rw [hstar]
  constructor
  · calc star u * (1 + s) * ((1 - s) * u) = star u * ((1 + s) * (1 - s)) * u := by simp only [mul_assoc]
      _ = star u * (1 - s) * ((1 + s) * u) := by rw [hcomm]; simp only [mul_assoc]
      _ = 1 := by rw [hu1, h2, one_mul]
  · calc (1 - s) * u * (star u * (1 + s)) = u * ((1 - s) * star u) * (1 + s) := by rw [← hub]; simp only [mul_assoc]
      _ = 1 := by rw [hu2, mul_one, h1]

/-- the product of two permutation matrices (ones at `(i, σ i)`) is the permutation matrix of the
    composition. -/
theorem permutation_mul_closed {α : Type} [Semiring α] (n : Nat) (σ τ : Nat → Nat) (hσ : ∀ i, i < n → σ i < n)
    (i j : Nat) (hi : i < n) :
    (mul (permMat n σ) (permMat n τ : Mat α)).f i j = (permMat n (fun k => τ (σ k)) : Mat α).f i j := by
  rw [mul_f]
  show ∑ k ∈ Finset.range n, (if σ i = k then (1 : α) else 0) * (if τ k = j then 1 else 0) = if τ (σ i) = j then 1 else 0
  simp only [ite_mul, one_mul, zero_mul]
  rw [Finset.sum_ite_eq]
  simp [hσ i hi]

/-! ## concrete instances (the hypotheses are satisfiable, the models compute) -/

/-- the docstring example of `vec` -/
example : (List.range 4).map (fun k => (vec (⟨2, 2, fun i j => (2 * i + j + 1 : Int)⟩ : Mat Int)).f k 0) = [1, 3, 2, 4] := by
  decide

/-- `tensor(v, 5)` through `fast_exp` on a length-2 integer vector: shape `1 × 32`, last entry `2^5` -/
example : tensor (TensorArgs.power (⟨1, 2, fun _ j => (j + 1 : Int)⟩ : Mat Int) 5)
      = TensorResult.mat (kronPow ⟨1, 2, fun _ j => (j + 1 : Int)⟩ 5)
    ∧ (kronPow (⟨1, 2, fun _ j => (j + 1 : Int)⟩ : Mat Int) 5).c = 32
    ∧ (kronPow (⟨1, 2, fun _ j => (j + 1 : Int)⟩ : Mat Int) 5).f 0 31 = 32 :=
  ⟨tensor_pow_eq_iterate _ 5 (by omega), by decide, by decide⟩

/-- the running-sum loop of `majorizes` on `[3,0,0]` against `[1,1,1]` and conversely -/
example : majLoop [3, 0, 0] [1, 1, 1] 0 0 = true ∧ majLoop [1, 1, 1] [3, 0, 0] 0 0 = false := by
  decide +kernel

/-! ## Part 4 — the exact rank oracle is Mathlib's rank (correctness of the elimination), and what uses it

`rank`, `spark`, `linIndepV`, the rank test of the UPB search and `commutantDim` all run the Gaussian elimination of
`Toq/Core/Rank.lean`, proved correct in `Toq/Proofs/Rank.lean`.  `qmatToM r c M` is the complex `r × c` matrix denoted by the
leading block of the exact rows `M`; `colFamily m M cols` the family of its columns with the listed indices. -/

/-- **The exact rank routine is correct.**  For every size and all exact rows, `rank rows cols M` (Gaussian elimination over
    `ℚ[i]`) equals Mathlib's `Matrix.rank` of the complex `rows × cols` matrix the rows denote. -/
theorem rank_correct (rows cols : Nat) (M : QMat) : rank rows cols M = (qmatToM rows cols M).rank :=
  rank_eq_rank rows cols M

/-- **Rank deficiency = a non-zero kernel vector.**  `rank r c M < c` holds exactly when some non-zero `x ∈ ℂ^c` satisfies
    `M x = 0`.  This is the test of the UPB search (`rank < d_i`: party `i` has a non-zero local vector annihilated by all
    local factors it received). -/
theorem rank_lt_cols_iff_kernel (r c : Nat) (M : QMat) :
    rank r c M < c ↔ ∃ x : Fin c → ℂ, x ≠ 0 ∧ Matrix.mulVec (qmatToM r c M) x = 0 := by
  rw [rank_correct]; exact Matrix.rank_lt_cols_iff_kernel _

/-- **`is_linearly_independent` decides linear independence**: the exact verdict is `yes` exactly when the `n` vectors
    (of length `d`, as complex vectors) are linearly independent over `ℂ`. -/
theorem linIndepV_yes_iff (d n : Nat) (vs : Nat → Nat → QI) :
    linIndepV d n vs = .yes ↔ LinearIndependent ℂ (fun (k : Fin n) (a : Fin d) => (vs k.val a.val).toC) := by
  unfold linIndepV
  rw [Verdict.ofBool_yes_iff, beq_iff_eq, rankOfColumns, rank_ofMat ⟨d, n, fun a k => vs k a⟩]
  exact (Matrix.linearIndependent_col_iff_rank _).symm

/-- `is_linearly_independent` answers `no` exactly when the vectors are linearly dependent (the verdict is never `unknown`). -/
theorem linIndepV_no_iff (d n : Nat) (vs : Nat → Nat → QI) :
    linIndepV d n vs = .no ↔ ¬ LinearIndependent ℂ (fun (k : Fin n) (a : Fin d) => (vs k.val a.val).toC) := by
  rw [← linIndepV_yes_iff]
  unfold linIndepV
  rw [Verdict.ofBool_no_iff, Verdict.ofBool_yes_iff, Bool.not_eq_true]

/-- **Each rank test of `spark` decides linear dependence of the selected columns**: `matrix_rank(mat[:, cols]) < len(cols)`
    with the exact rank holds exactly when the columns `cols` of the matrix are linearly dependent over `ℂ`. -/
theorem spark_rank_test_iff (m : Nat) (M : QMat) (cols : List Nat) :
    rank m cols.length (selectCols M cols) < cols.length ↔ ¬ LinearIndependent ℂ (colFamily m M cols) :=
  rank_selectCols_lt_iff m M cols

/-- **The subsets `spark` runs through are all of them**: some `k`-subset enumerated by `combinations n k` is dependent iff some
    strictly increasing list of `k` column indices below `n` selects linearly dependent columns. -/
theorem spark_subsets_complete (m n : Nat) (M : QMat) (k : Nat) :
    DependentCols m n M k ↔ ∃ cols : List Nat, cols.length = k ∧ cols.Pairwise (· < ·) ∧ (∀ x ∈ cols, x < n) ∧
      ¬ LinearIndependent ℂ (colFamily m M cols) := by
  unfold DependentCols
  constructor
  · rintro ⟨cols, hc, h⟩
    obtain ⟨h1, h2, h3⟩ := (mem_combinations_iff n k cols).mp hc
    exact ⟨cols, h1, h2, h3, h⟩
  · rintro ⟨cols, h1, h2, h3, h⟩
    exact ⟨cols, (mem_combinations_iff n k cols).mpr ⟨h1, h2, h3⟩, h⟩

/-- **`spark`: a zero column gives 1** (the shortcut `np.any(np.all(mat == 0, axis=0))`). -/
theorem spark_zero_column (m n : Nat) (M : QMat) (h : ∃ j, j < n ∧ ∀ i, i < m → M.get i j = 0) : spark m n M = 1 := by
  unfold spark
  rw [if_pos ((zeroCol_iff m n M).mpr h)]

/-- **`spark` is the least number of linearly dependent columns.**  For an `m × n` matrix without a zero column the value `s`
    returned by the mirror of `spark` (with the exact rank) satisfies `1 ≤ s ≤ min(m,n) + 1`; if `s ≤ min(m,n)` then some `s`
    columns are linearly dependent; and for every `1 ≤ k < s` every `k` columns are linearly independent
    (so `s = min(m,n) + 1` is returned exactly when every `min(m,n)` columns are independent). -/
theorem spark_spec (m n : Nat) (M : QMat) (h : ¬ ∃ j, j < n ∧ ∀ i, i < m → M.get i j = 0) :
    1 ≤ spark m n M ∧ spark m n M ≤ min m n + 1 ∧
    (spark m n M ≤ min m n → DependentCols m n M (spark m n M)) ∧
    (∀ k, 1 ≤ k → k < spark m n M → ¬ DependentCols m n M k) := by
  unfold spark
  rw [if_neg (fun hz => h ((zeroCol_iff m n M).mp hz))]
  -- while the rank test fails at every size below `K + 1`, no `k ≤ K` columns are dependent
  have tail : ∀ K, (∀ j, j < K →
        (!(combinations n (j + 1)).any (fun cols => rank m (j + 1) (selectCols M cols) < j + 1)) = true) →
      ∀ k, 1 ≤ k → k < K + 1 → ¬ DependentCols m n M k := by
    intro K hK k hk1 hk2 hd
    obtain ⟨j, rfl⟩ : ∃ j, k = j + 1 := ⟨k - 1, by omega⟩
    have := hK j (by omega)
    rw [(any_rank_test_iff m n M (j + 1)).mpr hd] at this
    exact Bool.false_ne_true this
  cases hf : (List.range (min m n)).find? (fun k0 =>
        (combinations n (k0 + 1)).any (fun cols => rank m (k0 + 1) (selectCols M cols) < k0 + 1)) with
  | some k0 =>
    obtain ⟨h1, h2, h3⟩ := List.find?_range_eq_some.mp hf
    exact ⟨Nat.le_add_left 1 k0, Nat.succ_le_succ (List.mem_range.mp h2).le, fun _ => (any_rank_test_iff m n M (k0 + 1)).mp h1,
      tail k0 h3⟩
  | none =>
    exact ⟨Nat.le_add_left 1 _, le_refl _, fun hle => absurd hle (Nat.not_succ_le_self _),
      tail _ (List.find?_range_eq_none.mp hf)⟩

/-- **`commutantDim` is the nullity of the linear system of `commutant`**: `dim² − rank` of the stacked system
    `[A_g ⊗ 1 − 1 ⊗ A_gᵀ]_g` equals the dimension over `ℂ` of its kernel (rank–nullity with the exact rank). -/
theorem commutantDim_eq_nullity (dim : Nat) (gens : List (Mat QI)) :
    commutantDim dim gens
      = Module.finrank ℂ (LinearMap.ker (qmatToM (gens.length * dim * dim) (dim * dim) (commStack dim gens)).mulVecLin) :=
  commutantDim_eq dim gens

/-- the routines on concrete matrices: `[[1, 0, 1], [0, i, i]]` has rank 2 and spark 3; `[[1, 2], [2, 4]]` has spark 2 -/
example : rank 2 3 #[#[1, 0, 1], #[0, ⟨0, 1⟩, ⟨0, 1⟩]] = 2 ∧ spark 2 3 #[#[1, 0, 1], #[0, ⟨0, 1⟩, ⟨0, 1⟩]] = 3
    ∧ spark 2 2 #[#[1, ⟨2, 0⟩], #[⟨2, 0⟩, ⟨4, 0⟩]] = 2 := by
  decide +kernel

/-! ## Part 5 — the tolerance-level mirrors (`Toq/Model/MatrixPredsTol.lean`) -/

/-- **`closeQ` is `np.isclose`.**  For `rtol, atol ≥ 0` the exact rational test `closeQ a b rtol atol` holds iff
    `|a − b| ≤ atol + rtol·|b|` for the complex numbers denoted by `a`, `b` (moduli over the reals; note the asymmetry in `a`, `b`). -/
theorem isclose_is_numpy (a b : QI) (rtol atol : Rat) (hr : 0 ≤ rtol) (ht : 0 ≤ atol) :
    closeQ a b rtol atol = true ↔ ‖a.toC - b.toC‖ ≤ ((atol : Rat) : ℝ) + ((rtol : Rat) : ℝ) * ‖b.toC‖ :=
  closeQ_eq a b rtol atol ▸ QI.closeQ_iff a b hr ht

/-- **`allcloseQ` is `np.allclose`**: every entry of the first matrix is close to the corresponding entry of the second (reference)
    matrix in the sense of `np.isclose`. -/
theorem allclose_is_numpy (L R : Mat QI) (rtol atol : Rat) (hr : 0 ≤ rtol) (ht : 0 ≤ atol) :
    allcloseQ L R rtol atol = true ↔ ∀ i j, i < L.r → j < L.c →
      ‖(L.f i j).toC - (R.f i j).toC‖ ≤ ((atol : Rat) : ℝ) + ((rtol : Rat) : ℝ) * ‖(R.f i j).toC‖ :=
  (allcloseQ_iff L R rtol atol).trans (forall₄_congr fun _ _ _ _ => isclose_is_numpy _ _ _ _ hr ht)

/-- the library defaults `rtol = 1e-5`, `atol = 1e-8` are dominated by the margin `1e-3` the harness uses (`4·rtol ≤ m`, `4·atol ≤ m`). -/
theorem tolerance_default_ok : TolOK (1 / 1000) rtolDefault atolDefault := by
  constructor <;> norm_num [rtolDefault, atolDefault]

/-- **exact equality forces `np.allclose`**: a `yes` of the three-valued equation decider implies that the comparison of the same two
    sides with any tolerances holds. -/
theorem equation_yes_forces_allclose (L R : Mat QI) (m rtol atol : Rat) (hr : R.r = L.r) (hc : R.c = L.c)
    (h : eqV L R m = .yes) : allcloseF L R rtol atol = true :=
  eqV_yes_allcloseF L R m rtol atol hr hc h

/-- **a violation by the margin forces `np.allclose` to fail**: a `no` of the three-valued equation decider (some entry differs by
    `≥ m·(1+scale)`) implies that the comparison fails for all tolerances with `4·rtol ≤ m`, `4·atol ≤ m`. -/
theorem equation_no_forces_not_allclose (L R : Mat QI) (m rtol atol : Rat) (hr : R.r = L.r) (hc : R.c = L.c)
    (hok : TolOK m rtol atol) (h : eqV L R m = .no) : allcloseF L R rtol atol = false :=
  eqV_no_allcloseF L R m rtol atol hr hc hok h

/-- `is_hermitian`: the three-valued verdict forces the verdict of the code's own test `allclose(mat, mat.conj().T, rtol, atol)`. -/
theorem hermitian_tolerance_agrees (A : Mat QI) (m rtol atol : Rat) :
    (hermitianV A m = .yes → hermitianT A rtol atol = true) ∧
    (TolOK m rtol atol → hermitianV A m = .no → hermitianT A rtol atol = false) :=
  (SqEq.hermitian A).forces

/-- `is_anti_hermitian` (`is_hermitian(1j * mat)`): likewise. -/
theorem antiHermitian_tolerance_agrees (A : Mat QI) (m rtol atol : Rat) :
    (antiHermitianV A m = .yes → antiHermitianT A rtol atol = true) ∧
    (TolOK m rtol atol → antiHermitianV A m = .no → antiHermitianT A rtol atol = false) :=
  hermitian_tolerance_agrees (scalarMul ⟨0, 1⟩ A) m rtol atol

/-- `is_symmetric`: likewise. -/
theorem symmetric_tolerance_agrees (A : Mat QI) (m rtol atol : Rat) :
    (symmetricV A m = .yes → symmetricT A rtol atol = true) ∧
    (TolOK m rtol atol → symmetricV A m = .no → symmetricT A rtol atol = false) :=
  (SqEq.symmetric A).forces

/-- `is_normal` (`allclose(A Aᴴ, Aᴴ A)`): likewise. -/
theorem normal_tolerance_agrees (A : Mat QI) (m rtol atol : Rat) :
    (normalV A m = .yes → normalT A rtol atol = true) ∧
    (TolOK m rtol atol → normalV A m = .no → normalT A rtol atol = false) :=
  (SqEq.normal A).forces

/-- `is_unitary` (both `allclose(Uᴴ U, I)` and `allclose(U Uᴴ, I)`): likewise. -/
theorem unitary_tolerance_agrees (A : Mat QI) (m rtol atol : Rat) :
    (unitaryV A m = .yes → unitaryT A rtol atol = true) ∧
    (TolOK m rtol atol → unitaryV A m = .no → unitaryT A rtol atol = false) :=
  Forces.squareGuard A fun h =>
    (Forces.eqV (mul (ctranspose A) A) (eye A.r) h h).and (Forces.eqV (mul A (ctranspose A)) (eye A.r) rfl rfl)

/-- `is_pseudo_unitary(mat, p, q)` for `p, q ≥ 0`: likewise (negative `p`, `q` are the `ValueError` branch of the mirror). -/
theorem pseudoUnitary_tolerance_agrees (A : Mat QI) (p q : Nat) (m rtol atol : Rat) :
    (pseudoUnitaryV A p q m = .yes → pseudoUnitaryT A p q rtol atol = .ok true) ∧
    (TolOK m rtol atol → pseudoUnitaryV A p q m = .no → pseudoUnitaryT A p q rtol atol = .ok false) := by
  unfold pseudoUnitaryV pseudoUnitaryT
  rw [if_neg (by simp : ¬ (decide ((p : Int) < 0) || decide ((q : Int) < 0)) = true)]
  simp only [Int.toNat_natCast, ← apply_ite (Except.ok (ε := String)), Except.ok.injEq]
  refine Forces.squareGuard A fun hsq => Forces.guard _ fun hpq => ?_
  have hc : p + q = A.c := by rw [← hsq]; simpa using hpq
  exact Forces.eqV _ _ hc hc

/-- `is_identity`: likewise. -/
theorem identity_tolerance_agrees (A : Mat QI) (m rtol atol : Rat) :
    (identityV A m = .yes → identityT A rtol atol = true) ∧
    (TolOK m rtol atol → identityV A m = .no → identityT A rtol atol = false) :=
  (SqEq.identity A).forces

/-- `is_idempotent` (`allclose(mat, mat @ mat)`, reference side the square): likewise. -/
theorem idempotent_tolerance_agrees (A : Mat QI) (m rtol atol : Rat) :
    (idempotentV A m = .yes → idempotentT A rtol atol = true) ∧
    (TolOK m rtol atol → idempotentV A m = .no → idempotentT A rtol atol = false) :=
  (SqEq.idempotent A).forces

/-- `is_projection` (`allclose(matrix_power(mat, 2), mat)`, reference side the matrix): likewise. -/
theorem projection_tolerance_agrees (A : Mat QI) (m rtol atol : Rat) :
    (projectionV A m = .yes → projectionT A rtol atol = true) ∧
    (TolOK m rtol atol → projectionV A m = .no → projectionT A rtol atol = false) :=
  (SqEq.projection A).forces

/-- `is_circulant` (row-by-row `allclose(mat[i+1], roll(mat[i], 1))`): likewise: `yes` for any tolerances, `no` for the tolerances the margin dominates (`TolOK`), in particular the defaults. -/
theorem circulant_tolerance_agrees (A : Mat QI) (m rtol atol : Rat) :
    (circulantV A m = .yes → circulantTol A rtol atol = true) ∧
    (TolOK m rtol atol → circulantV A m = .no → circulantTol A rtol atol = false) :=
  (SqEq.circulant A).forces

/-- `is_commuting` (`allclose(AB − BA, 0)`): likewise. -/
theorem commuting_tolerance_agrees (A B : Mat QI) (m rtol atol : Rat) (hc : A.c = B.c) :
    (commutingV A B m = .yes → commutingTol A B rtol atol = true) ∧
    (TolOK m rtol atol → commutingV A B m = .no → commutingTol A B rtol atol = false) :=
  Forces.eqV (sub (mul A B) (mul B A)) (zeroMat A.r A.c) rfl hc

/-- `is_stochastic(mat, mat_type)` (`mat_type ∈ {left, right, doubly}`): likewise. -/
theorem stochastic_tolerance_agrees (A : Mat QI) (k : Nat) (hk : k ≤ 2) (m rtol atol : Rat) :
    (stochasticV A k m = .yes → stochasticTol A k rtol atol = .ok true) ∧
    (TolOK m rtol atol → stochasticV A k m = .no → stochasticTol A k rtol atol = .ok false) := by
  unfold stochasticV stochasticTol
  rw [if_neg (by omega : ¬ k > 2)]
  -- the mirror tests squareness and non-negativity together before the sums
  have e : ∀ (a b c : Bool), (if !(a && b) then (Except.ok false : Except String Bool) else .ok c)
      = .ok (if !a then false else (b && c)) := by
    intro a b c; cases a <;> cases b <;> rfl
  simp only [e, Except.ok.injEq]
  exact Forces.squareGuard A fun hsq => (Forces.nonnegative m rtol atol A).and
    ((Forces.ite ((k == 0 || k == 2) = true)
        (Forces.eqV ⟨1, A.c, fun _ j => sumN A.r (fun i => A.f i j)⟩ ⟨1, A.r, fun _ _ => 1⟩ rfl hsq)).and
      (Forces.ite ((k == 1 || k == 2) = true)
        (Forces.eqV ⟨1, A.r, fun _ i => sumN A.c (fun j => A.f i j)⟩ ⟨1, A.r, fun _ _ => 1⟩ rfl rfl)))

/-- `is_mutually_orthogonal`: likewise, and the `ValueError` for fewer than two vectors is raised by both or neither. -/
theorem mutuallyOrthogonal_tolerance_agrees (d n : Nat) (vs : Nat → Nat → QI) (m rtol atol : Rat) :
    (mutuallyOrthogonalV d n vs m = .ok .yes → mutuallyOrthogonalTol d n vs rtol atol = .ok true) ∧
    (TolOK m rtol atol → mutuallyOrthogonalV d n vs m = .ok .no → mutuallyOrthogonalTol d n vs rtol atol = .ok false) ∧
    (∀ e, mutuallyOrthogonalV d n vs m = .error e ↔ mutuallyOrthogonalTol d n vs rtol atol = .error e) := by
  unfold mutuallyOrthogonalV mutuallyOrthogonalTol
  by_cases hn : n ≤ 1
  · simp [hn]
  · simp only [hn, ↓reduceIte, Except.ok.injEq, reduceCtorEq, implies_true, and_true]
    exact Forces.eqV _ _ rfl rfl

/-- `is_orthonormal`: likewise. -/
theorem orthonormal_tolerance_agrees (d n : Nat) (vs : Nat → Nat → QI) (m rtol atol : Rat) :
    (orthonormalV d n vs m = .ok .yes → orthonormalTol d n vs rtol atol = .ok true) ∧
    (TolOK m rtol atol → orthonormalV d n vs m = .ok .no → orthonormalTol d n vs rtol atol = .ok false) := by
  unfold orthonormalV orthonormalTol mutuallyOrthogonalV mutuallyOrthogonalTol
  by_cases hn : n ≤ 1
  · simp [hn, bind, Except.bind]
  · simp only [hn, ↓reduceIte, bind, Except.bind, pure, Except.pure, Except.ok.injEq]
    exact (Forces.eqV (gramOffDiag d n vs) (zeroMat n n) rfl rfl).and
      (Forces.eqV (mul ⟨n, d, fun k a => vs k a⟩ (ctranspose ⟨n, d, fun k a => vs k a⟩)) (eye n) rfl rfl)

/-- **the eigenvalue test of `is_positive_semidefinite`** (`all(eigvalsh(A) ≥ −|atol|)`) is positive semidefiniteness of `A + |atol|·1`:
    for Hermitian `A` and real `t`, `A + t·1` is positive semidefinite iff every eigenvalue is `≥ −t`. -/
theorem psd_shift_iff_eigenvalues {n : Type} [Fintype n] [DecidableEq n] (A : Matrix n n ℂ) (hA : A.IsHermitian) (t : ℝ) :
    (A + (t : ℂ) • (1 : Matrix n n ℂ)).PosSemidef ↔ ∀ i, -t ≤ hA.eigenvalues i :=
  Toq.Metrics.posSemidef_add_smul_one_iff hA t

/-! ## Part 6 — readings of the deciders with guards, margins, determinants and certificates -/

/-- pseudo-unitary decider: `yes` iff square, `p + q = n` and `Aᴴ J A = J` entrywise for `J = diag(1_p, −1_q)`. -/
theorem pseudoUnitary_yes_iff (A : Mat QI) (p q : Nat) (m : Rat) :
    pseudoUnitaryV A p q m = .yes ↔ A.r = A.c ∧ p + q = A.r ∧
      ∀ i j, i < A.r → j < A.r → (mul (mul (ctranspose A) (signature p q)) A).f i j = (signature p q).f i j := by
  unfold pseudoUnitaryV
  rw [squareGuard_yes_iff]
  refine and_congr_right fun hAA => ?_
  by_cases hpq : p + q = A.r
  · have hc : p + q = A.c := hpq.trans hAA
    rw [if_neg (by simpa using hpq), Toq.MatrixPreds.eqV_yes_iff _ _ m hc hc, and_iff_right hpq]
    show (∀ i j, i < A.c → j < A.c → _) ↔ _
    rw [← hAA]
  · rw [if_pos (by simpa using hpq)]
    exact ⟨nofun, fun h => absurd h.1 hpq⟩

/-- **the exact determinant is Mathlib's determinant** (Laplace expansion `detL`, all sizes). -/
theorem det_correct (n : Nat) (f : Nat → Nat → QI) : (detL n f).toC = (Toq.Rank.fnToM n n f).det := detL_eq_det n f

/-- **the exact inverse is Mathlib's inverse** (cofactor formula `invL`, all sizes; both are `0` on singular matrices). -/
theorem inverse_correct (n : Nat) (f : Nat → Nat → QI) : Toq.Rank.fnToM n n (invL n f) = (Toq.Rank.fnToM n n f)⁻¹ := fnToM_invL n f

/-- pseudo-Hermitian decider: `yes` iff the signature `η` is square, Hermitian and invertible, `H` is square of the same size and
    `η H η⁻¹ = Hᴴ` (Mathlib's inverse). -/
theorem pseudoHermitian_yes_iff (H η : Mat QI) (m : Rat) :
    pseudoHermitianVL H η m = .ok .yes ↔
      η.c = η.r ∧ H.r = η.r ∧ H.c = η.r ∧ (Toq.Rank.fnToM η.r η.r η.f).IsHermitian ∧ IsUnit (Toq.Rank.fnToM η.r η.r η.f).det ∧
        Toq.Rank.fnToM η.r η.r η.f * Toq.Rank.fnToM η.r η.r H.f * (Toq.Rank.fnToM η.r η.r η.f)⁻¹
          = (Toq.Rank.fnToM η.r η.r H.f).conjTranspose :=
  pseudoHermitianVL_yes_iff H η m

/-- pseudo-Hermitian decider: a `no` excludes the exact relation `η H η⁻¹ = Hᴴ`. -/
theorem pseudoHermitian_no_excludes (H η : Mat QI) (m : Rat) (hno : pseudoHermitianVL H η m = .ok .no) :
    ¬(H.r = η.r ∧ H.c = η.r ∧
      Toq.Rank.fnToM η.r η.r η.f * Toq.Rank.fnToM η.r η.r H.f * (Toq.Rank.fnToM η.r η.r η.f)⁻¹
        = (Toq.Rank.fnToM η.r η.r H.f).conjTranspose) := by
  -- a verdict was returned, so the signature passed its guards; the relation would then give `yes`
  rintro ⟨h1, h2, h3⟩
  obtain ⟨hc, hh, hu⟩ := (pseudoHermitianVL_ok_iff H η m).mp ⟨_, hno⟩
  have hy := (pseudoHermitianVL_yes_iff H η m).mpr ⟨hc, h1, h2, hh, hu, h3⟩
  rw [hno] at hy
  cases hy

/-- pseudo-Hermitian decider: the two `ValueError`s are raised exactly for a signature that is not Hermitian resp. Hermitian with determinant zero. -/
theorem pseudoHermitian_errors (H η : Mat QI) (m : Rat) :
    (pseudoHermitianVL H η m = .error "SignatureNotHermitian" ↔ hermitianV η m ≠ .yes) ∧
    (pseudoHermitianVL H η m = .error "SignatureNotInvertible" ↔
      η.c = η.r ∧ (Toq.Rank.fnToM η.r η.r η.f).IsHermitian ∧ (Toq.Rank.fnToM η.r η.r η.f).det = 0) :=
  ⟨pseudoHermitianVL_error_notHermitian_iff H η m, pseudoHermitianVL_error_notInvertible_iff_det H η m⟩

/-- stochastic decider (`k = 0, 1, 2` for left, right, doubly): `yes` iff square, entries real and `≥ 0`, and the required column /
    row sums are exactly `1`. -/
theorem stochastic_yes_iff (A : Mat QI) (k : Nat) (m : Rat) :
    stochasticV A k m = .yes ↔ A.r = A.c ∧ (∀ i j, i < A.r → j < A.c → (A.f i j).im = 0 ∧ 0 ≤ (A.f i j).re) ∧
      ((k = 0 ∨ k = 2) → ∀ j, j < A.c → sumN A.r (fun i => A.f i j) = 1) ∧
      ((k = 1 ∨ k = 2) → ∀ i, i < A.r → sumN A.c (fun j => A.f i j) = 1) := by
  -- a row of sums compared with the row of ones
  have sums (n : Nat) (g : Nat → QI) (hn : A.r = n) :
      eqV ⟨1, n, fun _ j => g j⟩ (⟨1, A.r, fun _ _ => 1⟩ : Mat QI) m = .yes ↔ ∀ j, j < n → g j = 1 :=
    (Toq.MatrixPreds.eqV_yes_iff ⟨1, n, fun _ j => g j⟩ ⟨1, A.r, fun _ _ => 1⟩ m rfl hn).trans
      ⟨fun h j hj => h 0 j Nat.one_pos hj, fun h _ j _ hj => h j hj⟩
  unfold stochasticV
  rw [squareGuard_yes_iff]
  refine and_congr_right fun hAA => ?_
  simp only [Verdict.and_yes_iff, Verdict.ite_yes_iff, nonnegative_yes_iff, Bool.or_eq_true, beq_iff_eq]
  rw [sums A.c _ hAA, sums A.r _ rfl]

/-- entrywise positive decider: `yes` iff every entry is real and `> 0`. -/
theorem positive_yes_iff (A : Mat QI) :
    positiveV A = .yes ↔ ∀ i j, i < A.r → j < A.c → (A.f i j).im = 0 ∧ 0 < (A.f i j).re :=
  realGuard_entrywise_yes_iff A (0 < ·)

/-- **`is_diagonally_dominant`, verdict `yes`**: square, and in every row the modulus of the diagonal entry exceeds (`is_strict`) resp.
    is at least the sum of the moduli of the other entries — true moduli over the reals (`rowGap A i = |a_ii| − Σ_{j≠i} |a_ij|`). -/
theorem diagDominant_yes (A : Mat QI) (strict : Bool) (m : Rat) (hm : 0 < m) (h : diagDominantV A strict m = .yes) :
    A.r = A.c ∧ ∀ i, i < A.r → (strict = true → 0 < rowGap A i) ∧ 0 ≤ rowGap A i := by
  rw [diagDominantV_eq, squareGuard_yes_iff, Verdict.all_map_yes_iff] at h
  exact ⟨h.1, fun i hi =>
    rowVerdict_yes A strict _ (margin_pos hm A) i (h.2 i (List.mem_range.mpr hi))⟩

/-- **`is_diagonally_dominant`, verdict `no`**: not square, or some row is not strictly dominant (`is_strict`) resp. not weakly dominant. -/
theorem diagDominant_no (A : Mat QI) (strict : Bool) (m : Rat) (hm : 0 < m) (h : diagDominantV A strict m = .no) :
    A.r ≠ A.c ∨ ∃ i, i < A.r ∧ (strict = true → rowGap A i ≤ 0) ∧ (strict = false → rowGap A i < 0) := by
  rw [diagDominantV_eq, squareGuard_no_iff, Verdict.all_map_no_iff] at h
  exact h.imp_right fun ⟨i, hi, hno⟩ =>
    ⟨i, List.mem_range.mp hi, rowVerdict_no A strict _ (margin_pos hm A) i hno⟩

/-- the rational enclosure of a modulus used for diagonal dominance contains the modulus. -/
theorem modulus_enclosure_sound (a : QI) :
    (((absEnclosure a).1 : Rat) : ℝ) ≤ ‖a.toC‖ ∧ ‖a.toC‖ ≤ (((absEnclosure a).2 : Rat) : ℝ) := absEnclosure_spec a

/-- **`is_totally_positive`, verdict `yes`** (proved determinant): every minor of the sizes considered — rows and columns selected by
    order embeddings, i.e. in increasing order — is real and `≥ margin`. -/
theorem totallyPositive_yes_iff (A : Mat QI) (ss : Option (List Nat)) (m : Rat) :
    totallyPositiveVL A ss m = .yes ↔
      ∀ j ∈ tpSizes A ss, ∀ (r : Fin j ↪o Fin A.r) (c : Fin j ↪o Fin A.c),
        ((Toq.Rank.fnToM A.r A.c A.f).submatrix r c).det.im = 0 ∧
          ((m : ℚ) : ℝ) ≤ ((Toq.Rank.fnToM A.r A.c A.f).submatrix r c).det.re := by
  unfold totallyPositiveVL
  simp only [Verdict.all_map_yes_iff, minorVerdict_yes_iff]
  exact forall_minorsL_iff A ss fun z => z.im = 0 ∧ ((m : ℚ) : ℝ) ≤ z.re

/-- **`is_totally_positive`, verdict `no`**: some such minor has real part `≤ −margin` or an imaginary part of modulus `≥ margin`. -/
theorem totallyPositive_no_iff (A : Mat QI) (ss : Option (List Nat)) (m : Rat) (hm : 0 < m) :
    totallyPositiveVL A ss m = .no ↔
      ∃ j ∈ tpSizes A ss, ∃ (r : Fin j ↪o Fin A.r) (c : Fin j ↪o Fin A.c),
        ((Toq.Rank.fnToM A.r A.c A.f).submatrix r c).det.re ≤ -((m : ℚ) : ℝ) ∨
          ((m : ℚ) : ℝ) ≤ |((Toq.Rank.fnToM A.r A.c A.f).submatrix r c).det.im| := by
  unfold totallyPositiveVL
  simp only [Verdict.all_map_no_iff, minorVerdict_no_iff m hm]
  have := not_congr (forall_minorsL_iff A ss fun z => ¬(z.re ≤ -((m : ℚ) : ℝ) ∨ ((m : ℚ) : ℝ) ≤ |z.im|))
  push Not at this
  exact this

/-- the default `sub_sizes` of `is_totally_positive` are `1, …, min(rows, cols)`. -/
theorem totallyPositive_default_sizes (A : Mat QI) (j : Nat) : j ∈ tpSizes A none ↔ 1 ≤ j ∧ j ≤ min A.r A.c := by
  simp only [tpSizes, List.mem_map, List.mem_range]
  constructor
  · rintro ⟨a, ha, rfl⟩; omega
  · rintro ⟨h1, h2⟩; exact ⟨j - 1, by omega, by omega⟩

/-- **`is_positive_semidefinite`, verdict `yes`** (self-checked `LDLᴴ` certificate, all sizes): the matrix is square and the complex
    matrix it denotes is positive semidefinite (in particular Hermitian). -/
theorem psd_yes_sound (A : Mat QI) (m : Rat) (h : psdV A m = .yes) :
    A.r = A.c ∧ (Toq.Rank.fnToM A.r A.r A.f).PosSemidef := psdV_yes_sound A m h

/-- **`is_positive_semidefinite`, verdict `no`** (self-checked negative direction): the matrix is not Hermitian by the margin, or it is
    Hermitian with an eigenvalue below `−μ` for some `μ > 0` (`μ = margin·(1 + scale)`). -/
theorem psd_no_sound (A : Mat QI) (m : Rat) (hm : 0 < m) (h : psdV A m = .no) :
    hermitianV A m = .no ∨ (∃ hA : (Toq.Rank.fnToM A.r A.r A.f).IsHermitian, ∃ μ : Rat, 0 < μ ∧
      ∃ i, hA.eigenvalues i < -((μ : Rat) : ℝ)) := by
  rcases (psdV_no_iff A m).mp h with hh | ⟨hh, _, hn⟩
  · exact Or.inl hh
  · have hherm := (hermitianV_yes_iff_isHermitian A m).mp hh
    exact Or.inr ⟨hherm.2, notPSDShift_force_eigenvalue A hherm.1.symm hherm.2 m hm hn⟩

/-- **`is_positive_definite`, verdict `yes`**: square and positive definite. -/
theorem pd_yes_sound (A : Mat QI) (m : Rat) (hm : 0 < m) (h : pdV A m = .yes) :
    A.r = A.c ∧ (Toq.Rank.fnToM A.r A.r A.f).PosDef := by
  obtain ⟨hAA, t, ht, h1⟩ := pdV_yes_sound A m hm h
  exact ⟨hAA, Toq.MatrixSpectral.posDef_of_posSemidef_shift _ (by exact_mod_cast ht) h1⟩

/-- **`is_positive_definite`, verdict `no`**: not square, not exactly Hermitian (the code uses `np.array_equal`), or an eigenvalue
    below `−μ < 0`. -/
theorem pd_no_sound (A : Mat QI) (m : Rat) (hm : 0 < m) (h : pdV A m = .no) :
    A.r ≠ A.c ∨ (∃ i j, i < A.r ∧ j < A.c ∧ A.f i j ≠ (A.f j i).conj) ∨
      (∃ hA : (Toq.Rank.fnToM A.r A.r A.f).IsHermitian, ∃ μ : Rat, 0 < μ ∧ ∃ i, hA.eigenvalues i < -((μ : Rat) : ℝ)) := by
  by_cases hAA : A.r = A.c
  swap
  · exact Or.inl hAA
  by_cases hH : ∀ i j, i < A.r → j < A.c → A.f i j = (A.f j i).conj
  swap
  · push Not at hH
    exact Or.inr (Or.inl hH)
  obtain hsq | ⟨i, j, hi, hj, hne⟩ | ⟨_, hn⟩ := (pdV_no_iff A m).mp h
  · exact absurd hAA hsq
  · exact absurd (hH i j hi hj) hne
  · have hherm := (Toq.Rank.fnToM_isHermitian_iff A.r A.f).mpr fun i j hi hj => hH i j hi (hAA ▸ hj)
    exact Or.inr (Or.inr ⟨hherm, notPSDShift_force_eigenvalue A hAA hherm m hm hn⟩)

/-- the eigenvalue test of the code agrees with a `yes`: all eigenvalues of a positive semidefinite matrix are `≥ −|atol|` for every
    `atol`. -/
theorem psd_yes_eigenvalue_test {n : Type} [Fintype n] [DecidableEq n] {A : Matrix n n ℂ} (hA : A.PosSemidef) (atol : ℝ) (i : n) :
    -|atol| ≤ hA.1.eigenvalues i := by
  have := hA.eigenvalues_nonneg i
  linarith [abs_nonneg atol]

/-- **`is_density`, verdict `yes`**: positive semidefinite with trace exactly one. -/
theorem density_yes_sound (A : Mat QI) (m : Rat) (h : densityV A m = .yes) :
    A.r = A.c ∧ (Toq.Rank.fnToM A.r A.r A.f).PosSemidef ∧ (Toq.Rank.fnToM A.r A.r A.f).trace = 1 := by
  obtain ⟨hsq, hpsd, htr⟩ := (densityV_yes_iff A m).mp h
  refine ⟨hsq, (psdV_yes_sound A m hpsd).2, ?_⟩
  rw [← traceQ_toC, htr, QI.toC_one]

/-- **`is_pure`, verdict `yes`**: a density matrix with `Tr ρ² = 1`, whose largest eigenvalue is `1` (what the code tests) and whose
    rank is one. -/
theorem pure_yes_sound (ρ : Mat QI) (m : Rat) (h : pureV ρ m = .yes) :
    ∃ hρ : (Toq.Rank.fnToM ρ.r ρ.r ρ.f).PosSemidef, (Toq.Rank.fnToM ρ.r ρ.r ρ.f).trace = 1 ∧
      (Toq.Rank.fnToM ρ.r ρ.r ρ.f * Toq.Rank.fnToM ρ.r ρ.r ρ.f).trace = 1 ∧
      IsGreatest (Set.range hρ.1.eigenvalues) 1 ∧ (Toq.Rank.fnToM ρ.r ρ.r ρ.f).rank = 1 := by
  obtain ⟨hd, hp⟩ := (pureV_yes_iff ρ m).mp h
  obtain ⟨hsq, hpsd, htr⟩ := density_yes_sound ρ m hd
  have htr2 : (Toq.Rank.fnToM ρ.r ρ.r ρ.f * Toq.Rank.fnToM ρ.r ρ.r ρ.f).trace = 1 := by
    rw [Toq.MatrixSpectral.trace_sq_eq_one_iff _ hpsd.1, ← Toq.MatrixSpectral.trace_sq_re _ hpsd.1, ← re_traceQ_mul ρ hsq, hp,
      Rat.cast_one]
  exact ⟨hpsd, htr, htr2, (Toq.MatrixSpectral.purity_iff_isGreatest hpsd htr).mp htr2,
    (Toq.MatrixSpectral.purity_iff_rank_one hpsd htr).mp htr2⟩

/-- **`is_pure`, verdict `no`**: a density matrix all of whose eigenvalues are `≤ 1 − margin`. -/
theorem pure_no_sound (ρ : Mat QI) (m : Rat) (hm : 0 < m) (h : pureV ρ m = .no) :
    ∃ hρ : (Toq.Rank.fnToM ρ.r ρ.r ρ.f).PosSemidef, (Toq.Rank.fnToM ρ.r ρ.r ρ.f).trace = 1 ∧
      ∀ i, hρ.1.eigenvalues i ≤ 1 - ((m : Rat) : ℝ) := by
  obtain ⟨hd, hp⟩ := (pureV_no_iff ρ m hm).mp h
  obtain ⟨hsq, hpsd, htr⟩ := density_yes_sound ρ m hd
  refine ⟨hpsd, htr, fun i => ?_⟩
  apply Toq.MatrixSpectral.eigenvalue_le_of_purity_le hpsd
  rw [← re_traceQ_mul ρ hsq]
  exact_mod_cast hp

/-- `is_mixed = not is_pure`, and the list form of `is_pure` is the conjunction over the list. -/
theorem mixed_and_pure_list (ρ : Mat QI) (ρs : List (Mat QI)) (m : Rat) :
    (mixedV ρ m = .yes ↔ pureV ρ m = .no) ∧ (mixedV ρ m = .no ↔ pureV ρ m = .yes) ∧
    (pureListV ρs m = .yes ↔ ∀ ρ ∈ ρs, pureV ρ m = .yes) ∧ (pureListV ρs m = .no ↔ ∃ ρ ∈ ρs, pureV ρ m = .no) :=
  ⟨Verdict.not_yes_iff _, Verdict.not_no_iff _, Verdict.all_map_yes_iff _ _, Verdict.all_map_no_iff _ _⟩

/-- **`is_ensemble`, verdict `yes`**: every operator is positive semidefinite and the traces sum to exactly one. -/
theorem ensemble_yes_sound (ρs : List (Mat QI)) (m : Rat) (h : ensembleV ρs m = .yes) :
    (∀ ρ ∈ ρs, ρ.r = ρ.c ∧ (Toq.Rank.fnToM ρ.r ρ.r ρ.f).PosSemidef) ∧ ρs.foldl (fun acc ρ => acc + traceQ ρ) 0 = 1 := by
  obtain ⟨h1, h2⟩ := (ensembleV_yes_iff ρs m).mp h
  exact ⟨fun ρ hρ => psdV_yes_sound ρ m (h1 ρ hρ), h2⟩

/-- mutually orthogonal decider (at least two vectors): `yes` iff all inner products of distinct vectors vanish (fewer than two
    vectors is the `ValueError`: `mutuallyOrthogonalV_error_iff`). -/
theorem mutuallyOrthogonal_yes_iff (d n : Nat) (vs : Nat → Nat → QI) (m : Rat) (hn : 2 ≤ n) :
    mutuallyOrthogonalV d n vs m = .ok .yes ↔
      ∀ i j, i < n → j < n → i ≠ j → sumN d (fun k => (vs i k).conj * vs j k) = 0 := by
  rw [mutuallyOrthogonalV_of_two_le d n vs m hn, Except.ok.injEq, gramOffDiag_yes_iff]
  rfl

/-- orthonormal decider: `yes` iff the vectors are pairwise orthogonal and `V Vᴴ = I` for the matrix `V` of row vectors. -/
theorem orthonormal_yes_iff (d n : Nat) (vs : Nat → Nat → QI) (m : Rat) (hn : 2 ≤ n) :
    orthonormalV d n vs m = .ok .yes ↔
      (∀ i j, i < n → j < n → i ≠ j → sumN d (fun k => (vs i k).conj * vs j k) = 0) ∧
      (∀ i j, i < n → j < n → sumN d (fun k => vs i k * (vs j k).conj) = if i = j then 1 else 0) := by
  rw [orthonormalV_of_two_le d n vs m hn, Except.ok.injEq, Verdict.and_yes_iff, gramOffDiag_yes_iff]
  exact and_congr Iff.rfl (Toq.MatrixPreds.eqV_yes_iff _ _ m rfl rfl)

/-- mutually-unbiased-bases decider (vector `k` is `w_k/√s_k`): `yes` iff the number of vectors is a multiple of `d`, every block of `d`
    vectors is orthonormal (`|⟨u,v⟩|² = δ`) and `|⟨u,v⟩|² = 1/d` across blocks. -/
theorem mub_yes_iff (d n : Nat) (w : Nat → Nat → QI) (s : Nat → Rat) (m : Rat) (hd : d ≠ 0) :
    mubV d n w s true m = .yes ↔ n % d = 0 ∧
      (∀ i k l, i < n / d → k < d → l < d →
        normSq (vdot d (w (i * d + k)) (w (i * d + l))) / (s (i * d + k) * s (i * d + l)) = if k = l then 1 else 0) ∧
      (∀ i j k l, i < n / d → j < n / d → i < j → k < d → l < d →
        normSq (vdot d (w (i * d + k)) (w (j * d + l))) / (s (i * d + k) * s (j * d + l)) = 1 / (d : Rat)) := by
  unfold mubV
  rw [if_neg hd]
  by_cases hnd : n % d = 0
  · rw [if_neg (by simpa using hnd), and_iff_right hnd]
    -- the two comprehensions, read over the table of overlaps `|⟨v_a, v_b⟩|²`
    exact (Verdict.and_yes_iff _ _).trans (and_congr
      (mubWithin_yes_iff (n / d) d (fun a b => normSq (vdot d (w a) (w b)) / (s a * s b)) m)
      (mubCross_yes_iff (n / d) d (fun a b => normSq (vdot d (w a) (w b)) / (s a * s b)) (1 / (d : Rat)) m))
  · rw [if_pos (by simpa using hnd)]
    exact ⟨nofun, fun h => absurd h.1 hnd⟩

/-- **`is_unextendible_product_basis`, verdict `no`** (guards passed: all vectors exactly product, mutually orthogonal): there is a
    distribution of the (zero-padded) vectors over the parties — every party served when `surj` — such that every party has a non-zero
    local vector annihilated by all local factors it received. -/
theorem upb_no_iff (dims : List Nat) (n : Nat) (vs : Nat → Nat → QI) (surj : Bool) (m : Rat)
    (hprod : ∀ k, k < n → isProductExact dims (vs k) = true)
    (hgram : 2 ≤ n → eqV (gramOffDiag (dims.foldl (· * ·) 1) n vs) (zeroMat n n) m = .yes) :
    upbV dims n vs surj m = .ok .no ↔ ∃ asg : List Nat, asg.length = max n dims.length ∧ (∀ x ∈ asg, x < dims.length) ∧
      (surj = true → ∀ i, i < dims.length → i ∈ asg) ∧
      ∀ i, i < dims.length → ∃ y : Fin (dims.getD i 1) → ℂ, y ≠ 0 ∧
        ∀ k, k < max n dims.length → asg.getD k 0 = i → ∑ t, (upbFactor dims n vs k i t.val).toC * y t = 0 :=
  upbV_no_iff dims n vs surj m hprod hgram

/-- `is_unextendible_product_basis`: when the guards pass the verdict is `yes` or `no`, never `unknown`. -/
theorem upb_decided (dims : List Nat) (n : Nat) (vs : Nat → Nat → QI) (surj : Bool) (m : Rat)
    (hprod : ∀ k, k < n → isProductExact dims (vs k) = true)
    (hgram : 2 ≤ n → eqV (gramOffDiag (dims.foldl (· * ·) 1) n vs) (zeroMat n n) m = .yes) :
    upbV dims n vs surj m = .ok .no ∨ upbV dims n vs surj m = .ok .yes := by
  obtain ⟨hno, hyes⟩ := upbV_verdict dims n vs surj m hprod hgram
  exact (Bool.eq_false_or_eq_true (upbWitness dims n vs surj)).imp hno.mpr hyes.mpr

/-- **the UPB verdict does not depend on the order in which the vectors are listed** (full equality of results, including the
    rejections), for every permutation `σ` of the positions `0 … n−1` with inverse `τ`. -/
theorem upb_order_independent (dims : List Nat) (n : Nat) (vs : Nat → Nat → QI) (surj : Bool) (m : Rat) (σ τ : Nat → Nat)
    (hσ : ∀ k, k < n → σ k < n) (hτ : ∀ k, k < n → τ k < n) (hτσ : ∀ k, k < n → τ (σ k) = k) (hστ : ∀ k, k < n → σ (τ k) = k) :
    upbV dims n (fun k => vs (σ k)) surj m = upbV dims n vs surj m :=
  upbV_perm dims n vs surj m σ τ hσ hτ hτσ hστ

/-- searching only the distributions that serve every party (as the Python code does, through set partitions) or all distributions
    gives the same verdict when every local dimension is at least 2. -/
theorem upb_surjective_search_suffices (dims : List Nat) (n : Nat) (vs : Nat → Nat → QI) (m : Rat)
    (hd : ∀ i, i < dims.length → 2 ≤ dims.getD i 1) : upbV dims n vs true m = upbV dims n vs false m := by
  -- the padded list has at least as many vectors as parties, so a distribution can be made to serve every party
  have hw : upbWitness dims n vs true = upbWitness dims n vs false := by
    rw [Bool.eq_iff_iff, upbWitness_iff, upbWitness_iff, notUPBList_iff, notUPBList_iff]
    exact notUPB_surj_iff dims _ _ (le_max_right _ _) hd
  rw [upbV_eq, upbV_eq, hw]

/-- the distributions searched are all maps from the `n` positions to the `m` parties. -/
theorem upb_assignments_complete (m n : Nat) (asg : List Nat) :
    asg ∈ assignments n m ↔ asg.length = n ∧ ∀ x ∈ asg, x < m := mem_assignments_iff m n asg

/-! ## Part 7 — more on the helper operations: n-ary `tensor`, `unvec`, `majorizes`, `commutant`, Gram matrices, norms -/

/-- **n-ary associativity**: the left fold of `tensor([A_1, …, A_n])` splits at every position,
    `A_1 ⊗ … ⊗ A_n = (A_1 ⊗ … ⊗ A_k) ⊗ (A_{k+1} ⊗ … ⊗ A_n)`. -/
theorem tensor_list_split {α : Type} [Semigroup α] (a : Mat α) (l1 : List (Mat α)) (b : Mat α) (l2 : List (Mat α)) :
    kronFold a (l1 ++ b :: l2) = kron (kronFold a l1) (kronFold b l2) := by
  unfold kronFold
  rw [List.foldl_append, List.foldl_cons, List.foldl_assoc]

/-- the list form of `tensor` on a non-empty list is that left fold (lengths 1, 2 and `≥ 3` are separate branches of the code). -/
theorem tensor_list_eq_fold {α : Type} [Mul α] (a : Mat α) (l : List (Mat α)) : tensorList (a :: l) = .mat (kronFold a l) :=
  tensorList_cons a l

/-- `tensor(A, 0) = np.eye(1)` is the unit of the Kronecker product. -/
theorem tensor_power_zero_unit {α : Type} [MulOneClass α] (A : Mat α) :
    ((kron eye1 A).r = A.r ∧ (kron eye1 A).c = A.c ∧ ∀ i j, i < A.r → j < A.c → (kron eye1 A).f i j = A.f i j) ∧
    ((kron A eye1).r = A.r ∧ (kron A eye1).c = A.c ∧ ∀ i j, (kron A eye1).f i j = A.f i j) := by
  refine ⟨⟨Nat.one_mul _, Nat.one_mul _, fun i j hi hj => ?_⟩, Nat.mul_one _, Nat.mul_one _, fun i j => ?_⟩
  · rw [kron_f, Nat.mod_eq_of_lt hi, Nat.mod_eq_of_lt hj]
    show (1 : α) * _ = _
    rw [one_mul]
  · rw [kron_f]
    show A.f (i / 1) (j / 1) * (1 : α) = _
    rw [Nat.div_one, Nat.div_one, mul_one]

/-- `unvec` raises (NumPy cannot reshape) exactly when the requested shape — by default `int(√size)` squared — does not have `size`
    entries. -/
theorem unvec_reject_iff {α : Type} (v : Nat → α) (size : Nat) (shape : Option (Nat × Nat)) :
    unvec v size shape = none ↔
      (match shape with | none => Nat.sqrt size * Nat.sqrt size | some s => s.1 * s.2) ≠ size := by
  unfold unvec unvecDefault
  cases shape <;> simp

/-- `majorizes` with its tolerance term (`ctb` starts at `tol = −‖a‖·eps^{3/4}`): true iff every prefix sum of the sorted padded `a`
    is at least `tol` plus that of `b`. -/
theorem majorizes_tol_iff (a b : List Rat) (tol : Rat) :
    majorizesTol a b tol = true ↔ ∀ k, k < max a.length b.length →
      tol + prefixSum (padTo (max a.length b.length) (sortDesc b)) (k + 1)
        ≤ prefixSum (padTo (max a.length b.length) (sortDesc a)) (k + 1) :=
  majorizesTol_iff a b tol

/-- **the null space of the stacked system of `commutant` is the commutant**: `x` is annihilated by `[A_g ⊗ 1 − 1 ⊗ A_gᵀ]_g` iff its
    row-major reshaping `X = unflat dim x` (`X i j = x (i·dim + j)` by `unflat_apply`, as `reshape((dim, dim))` does) commutes with EVERY generator. -/
theorem commutant_kernel_iff (dim : Nat) (gens : List (Mat QI)) (h : ∀ A ∈ gens, A.r = dim ∧ A.c = dim)
    (x : Fin (dim * dim) → ℂ) :
    Matrix.mulVec (commStackM dim gens) x = 0
      ↔ ∀ A ∈ gens, Toq.Rank.fnToM dim dim A.f * unflat dim x = unflat dim x * Toq.Rank.fnToM dim dim A.f :=
  commStack_mulVec_eq_zero_iff dim gens h x

/-- the reshaped null space of the stacked system of `commutant` is exactly the commutant `{X | ∀ g, g X = X g}` (the centralizer of the generators). -/
theorem commutant_nullspace_is_commutant (dim : Nat) (gens : List (Mat QI)) (h : ∀ A ∈ gens, A.r = dim ∧ A.c = dim) :
    (LinearMap.ker (commStackM dim gens).mulVecLin).map (unflatEquiv dim : (Fin (dim * dim) → ℂ) →ₗ[ℂ] _)
      = commutantSubmodule dim gens ∧
    (commutantSubmodule dim gens : Set (Matrix (Fin dim) (Fin dim) ℂ)) = Set.centralizer (genSet dim gens) :=
  ⟨map_ker_commStack_eq dim gens h, commutantSubmodule_eq_centralizer dim gens⟩

/-- **`commutantDim` is the dimension of the commutant**: the number of basis matrices `commutant` must return. -/
theorem commutantDim_eq_finrank (dim : Nat) (gens : List (Mat QI)) (h : ∀ A ∈ gens, A.r = dim ∧ A.c = dim) :
    commutantDim dim gens = Module.finrank ℂ (commutantSubmodule dim gens) :=
  commutantDim_eq_finrank_commutant dim gens h

/-- the commutant contains the identity and lives in the `dim²`-dimensional matrix space; it shrinks when generators are added
    (hence depends only on the SET of generators: `commutantDim_congr`). -/
theorem commutantDim_bounds (dim : Nat) (gens gens' : List (Mat QI)) (h : ∀ A ∈ gens, A.r = dim ∧ A.c = dim)
    (h' : ∀ A ∈ gens', A.r = dim ∧ A.c = dim) :
    commutantDim dim gens ≤ dim * dim ∧ (1 ≤ dim → 1 ≤ commutantDim dim gens) ∧ commutantDim dim [] = dim * dim ∧
    ((∀ A ∈ gens, A ∈ gens') → commutantDim dim gens' ≤ commutantDim dim gens) :=
  ⟨commutantDim_le dim gens, one_le_commutantDim dim gens h, commutantDim_nil dim, commutantDim_anti dim gens gens' h h'⟩

/-- a Gram matrix `G_ij = ⟨v_i, v_j⟩` is positive semidefinite (so `vectors_from_gram_matrix ∘ vectors_to_gram_matrix` always runs on
    PSD input). -/
theorem gram_posSemidef {k d : Type} [Fintype d] [Fintype k] (v : k → d → ℂ) :
    (Toq.MatrixSpectral.gramMatrix v).PosSemidef := Toq.MatrixSpectral.gramMatrix_posSemidef v

/-- **Round trip, eigen-branch** (the code after toqito commits b44bccf / 4c1ddd1: `eigh`, `B = V·√D`, QR of `Bᴴ`, phases): with
    `G = B Bᴴ`, `Bᴴ = Q T`, `QᴴQ = 1` and unit-modulus phases `p`, the matrix `L = (diag(conj p)·T)ᴴ` satisfies `L Lᴴ = G`; the code
    returns the conjugated rows of `L`, whose Gram matrix is `G` by `gram_of_conj_rows` — the same final step as the Cholesky branch.
    (`G = B Bᴴ` needs ORTHONORMAL eigenvectors: `np.linalg.eig` does not return them for a repeated eigenvalue.) -/
theorem gram_eig_branch_factor {n m l : Type} [Fintype n] [Fintype m] [Fintype l] [DecidableEq l] {R : Type} [CommRing R] [StarRing R]
    (B : Matrix n m R) (Q : Matrix m l R) (T : Matrix l n R) (p : l → R) (hQ : Q.conjTranspose * Q = 1)
    (hB : B.conjTranspose = Q * T) (hp : ∀ i, p i * star (p i) = 1) :
    (Matrix.diagonal (fun i => star (p i)) * T).conjTranspose * ((Matrix.diagonal (fun i => star (p i)) * T).conjTranspose).conjTranspose
      = B * B.conjTranspose := by
  open Matrix in
  have hD : (diagonal (fun i => star (p i)))ᴴ * diagonal (fun i => star (p i)) = (1 : Matrix l l R) := by
    rw [diagonal_conjTranspose, diagonal_mul_diagonal, ← diagonal_one]
    congr 1; funext i
    rw [Pi.star_apply, star_star, hp i]
  -- the isometries `diag(conj p)` and `Q` drop out of the Gram products
  rw [Matrix.conjTranspose_conjTranspose, Toq.MatrixInv.isometry_mul_gram _ T hD, ← Toq.MatrixInv.isometry_mul_gram Q T hQ, ← hB,
    Matrix.conjTranspose_conjTranspose]

/-- the spectral form behind `B = V·√D`: if `G = V diag(d) Vᴴ` and `d_k = conj(s_k)·s_k` then the vectors `w_i = s · conj(V[i,:])` have
    Gram matrix `G` (pure algebra). -/
theorem gram_eig_roundtrip {R ι κ : Type} [CommRing R] [StarRing R] [Fintype κ] (G : ι → ι → R) (V : ι → κ → R) (dd s : κ → R)
    (hG : ∀ i j, G i j = ∑ k, V i k * dd k * star (V j k)) (hd : ∀ k, dd k = star (s k) * s k) (i j : ι) :
    ∑ k, star (s k * star (V i k)) * (s k * star (V j k)) = G i j := by
  rw [hG]
  refine Finset.sum_congr rfl fun k _ => ?_
  rw [hd, star_mul', star_star]
  ring

/-- **the Frobenius shortcut of `kp_norm`** (`k ≥ min(shape)`, `p = 2`): the Frobenius norm is the 2-norm of all singular values
    (`singularValue A k = √(k-th eigenvalue of Aᴴ A)`). -/
theorem frobenius_eq_singular_values {m n : Type} [Fintype m] [Fintype n] [DecidableEq n] (A : Matrix m n ℂ) :
    Real.sqrt (∑ i, ∑ j, ‖A i j‖ ^ 2) = Real.sqrt (∑ k, Toq.MatrixSpectral.singularValue A k ^ 2) := by
  rw [Toq.MatrixSpectral.frobenius_sq_eq_sum_singularValue_sq]

/-- exactly `rank A ≤ min(shape)` singular values are non-zero (so summing over all of them is summing over the `min(shape)` values NumPy
    returns, and `k` larger than their number changes nothing). -/
theorem nonzero_singular_values_eq_rank {m n : Type} [Fintype m] [Fintype n] [DecidableEq n] (A : Matrix m n ℂ) :
    Fintype.card {k // Toq.MatrixSpectral.singularValue A k ≠ 0} = A.rank ∧
    Fintype.card {k // Toq.MatrixSpectral.singularValue A k ≠ 0} ≤ min (Fintype.card m) (Fintype.card n) :=
  ⟨Toq.MatrixSpectral.card_nonzero_singularValues_eq_rank A, Toq.MatrixSpectral.card_nonzero_singularValues_le A⟩

/-- **singular values of a Hermitian matrix are the moduli of its eigenvalues** (as multisets) — the fact behind `kp_norm` / `trace_norm`
    on Hermitian input with eigenvalues of both signs. -/
theorem singular_values_hermitian {n : Type} [Fintype n] [DecidableEq n] (A : Matrix n n ℂ) (hA : A.IsHermitian) :
    Multiset.map (Toq.MatrixSpectral.singularValue A) Finset.univ.val = Multiset.map (fun i => |hA.eigenvalues i|) Finset.univ.val :=
  Toq.MatrixSpectral.singularValue_multiset_hermitian A hA

/-- The trace norm (sum of the singular values) of a Hermitian matrix is `Σ |λ_i|` (by `singular_values_hermitian`), of a positive semidefinite matrix its trace,
    of a density matrix `1`. -/
theorem trace_norm_hermitian {n : Type} [Fintype n] [DecidableEq n] (A : Matrix n n ℂ) :
    (∀ hA : A.IsHermitian, ∑ k, Toq.MatrixSpectral.singularValue A k = ∑ i, |hA.eigenvalues i|) ∧
    (A.PosSemidef → ∑ k, Toq.MatrixSpectral.singularValue A k = (A.trace).re) ∧
    (A.PosSemidef → A.trace = 1 → ∑ k, Toq.MatrixSpectral.singularValue A k = 1) :=
  ⟨fun hA => Toq.MatrixSpectral.traceNorm_hermitian A hA, fun h => Toq.MatrixSpectral.traceNorm_posSemidef A h,
    fun h ht => Toq.MatrixSpectral.traceNorm_density A h ht⟩

/-! ## Part 8 — every predicate's defining relation is preserved by the transformations the harness applies

Permutation similarity `P A Pᵀ` is `A.submatrix σ σ`, left permutation `P A` is `A.submatrix σ id` (`perm_similarity_is_submatrix`);
"phase" is conjugation by `diagonal d` with unit-modulus `d` (a unitary: third part of `perm_similarity_is_submatrix`); "conj" is `A.map star`. -/

section invariance2
open Matrix
variable {n : Type} [Fintype n] [DecidableEq n] {R : Type} [CommRing R] [StarRing R]

/-- permutation matrices act as reindexings and are unitary; diagonal phase matrices are unitary and act entrywise. -/
theorem perm_similarity_is_submatrix (σ : n ≃ n) (A : Matrix n n R) (d : n → R) (hd : ∀ i, star (d i) * d i = 1) :
    σ.toPEquiv.toMatrix * A * (σ.toPEquiv.toMatrix)ᵀ = A.submatrix σ σ ∧ σ.toPEquiv.toMatrix * A = A.submatrix σ id ∧
    ((diagonal d)ᴴ * diagonal d = 1 ∧ diagonal d * (diagonal d)ᴴ = 1) ∧
    (∀ i j, (diagonal d * A * (diagonal d)ᴴ) i j = d i * A i j * star (d j)) :=
  ⟨Toq.MatrixInv.perm_similarity_eq_submatrix σ A, Toq.MatrixInv.perm_left_eq_submatrix σ A,
    Toq.MatrixInv.phase_unitary d hd, Toq.MatrixInv.phase_conj_apply d A⟩

/-- **Hermitian** ⇔ after: permutation similarity, transposition, entrywise conjugation, negation, unitary conjugation (phases,
    permutations, rational unitaries); and scaling by a real scalar keeps it. -/
theorem hermitian_invariant (A U : Matrix n n R) (σ : n ≃ n) (c : R) (hU : Uᴴ * U = 1) (hc : star c = c) :
    ((A.submatrix σ σ).IsHermitian ↔ A.IsHermitian) ∧ (Aᵀ.IsHermitian ↔ A.IsHermitian) ∧
    ((A.map star).IsHermitian ↔ A.IsHermitian) ∧ ((-A).IsHermitian ↔ A.IsHermitian) ∧
    ((U * A * Uᴴ).IsHermitian ↔ A.IsHermitian) ∧ (A.IsHermitian → (c • A).IsHermitian) :=
  ⟨(Toq.MatrixInv.submatrix_embedding σ).herm_iff A,
    isHermitian_transpose_iff,
    Toq.MatrixInv.map_star_embedding.herm_iff A,
    isHermitian_neg_iff,
    (Toq.MatrixInv.conj_embedding U hU).herm_iff A,
    fun hA => by rw [IsHermitian, conjTranspose_smul, hA.eq, hc]⟩

/-- **anti-Hermitian** (`Aᴴ = −A`): the same transformations. -/
theorem antiHermitian_invariant (A U : Matrix n n R) (σ : n ≃ n) (c : R) (hU : Uᴴ * U = 1) (hc : star c = c) :
    ((A.submatrix σ σ)ᴴ = -(A.submatrix σ σ) ↔ Aᴴ = -A) ∧ ((Aᵀ)ᴴ = -Aᵀ ↔ Aᴴ = -A) ∧
    ((A.map star)ᴴ = -(A.map star) ↔ Aᴴ = -A) ∧ ((-A)ᴴ = -(-A) ↔ Aᴴ = -A) ∧
    ((U * A * Uᴴ)ᴴ = -(U * A * Uᴴ) ↔ Aᴴ = -A) ∧ (Aᴴ = -A → (c • A)ᴴ = -(c • A)) :=
  ⟨(Toq.MatrixInv.submatrix_embedding σ).antiherm_iff A,
    by rw [conjTranspose_transpose_eq_transpose_conjTranspose, ← transpose_neg, transpose_inj],
    Toq.MatrixInv.map_star_embedding.antiherm_iff A,
    by rw [conjTranspose_neg, neg_inj],
    (Toq.MatrixInv.conj_embedding U hU).antiherm_iff A,
    fun hA => by rw [conjTranspose_smul, hA, hc, smul_neg]⟩

/-- **symmetric** (`Aᵀ = A`): permutation similarity, conjugation, negation (iff), scaling. -/
theorem symmetric_invariant (A : Matrix n n R) (σ : n ≃ n) (c : R) :
    ((A.submatrix σ σ)ᵀ = A.submatrix σ σ ↔ Aᵀ = A) ∧ ((A.map star)ᵀ = A.map star ↔ Aᵀ = A) ∧
    ((-A)ᵀ = -A ↔ Aᵀ = A) ∧ (Aᵀ = A → (c • A)ᵀ = c • A) :=
  ⟨by rw [transpose_submatrix, (Toq.MatrixInv.submatrix_embedding σ).inj],
    by rw [← transpose_map, Toq.MatrixInv.map_star_embedding.inj],
    by rw [transpose_neg, neg_inj],
    fun hA => by rw [transpose_smul, hA]⟩

/-- **normal** (`A Aᴴ = Aᴴ A`): permutation similarity, transposition, conjugation, negation, unitary conjugation, adding a multiple of
    the identity (all iff), and scaling by any scalar. -/
theorem normal_invariant (A U : Matrix n n R) (σ : n ≃ n) (c : R) (hU : Uᴴ * U = 1) :
    (A.submatrix σ σ * (A.submatrix σ σ)ᴴ = (A.submatrix σ σ)ᴴ * A.submatrix σ σ ↔ A * Aᴴ = Aᴴ * A) ∧
    (Aᵀ * (Aᵀ)ᴴ = (Aᵀ)ᴴ * Aᵀ ↔ A * Aᴴ = Aᴴ * A) ∧
    (A.map star * (A.map star)ᴴ = (A.map star)ᴴ * A.map star ↔ A * Aᴴ = Aᴴ * A) ∧
    ((-A) * (-A)ᴴ = (-A)ᴴ * (-A) ↔ A * Aᴴ = Aᴴ * A) ∧
    ((U * A * Uᴴ) * (U * A * Uᴴ)ᴴ = (U * A * Uᴴ)ᴴ * (U * A * Uᴴ) ↔ A * Aᴴ = Aᴴ * A) ∧
    ((A + c • 1) * (A + c • 1)ᴴ = (A + c • 1)ᴴ * (A + c • 1) ↔ A * Aᴴ = Aᴴ * A) ∧
    (A * Aᴴ = Aᴴ * A → (c • A) * (c • A)ᴴ = (c • A)ᴴ * (c • A)) :=
  ⟨(Toq.MatrixInv.submatrix_embedding σ).normal_iff A,
    by rw [conjTranspose_transpose_eq_transpose_conjTranspose, ← transpose_mul, ← transpose_mul, transpose_inj, eq_comm],
    Toq.MatrixInv.map_star_embedding.normal_iff A,
    by rw [conjTranspose_neg, neg_mul_neg, neg_mul_neg],
    (Toq.MatrixInv.conj_embedding U hU).normal_iff A,
    by rw [← sub_eq_zero, Toq.MatrixInv.commutator_add_smul_one, sub_eq_zero],
    fun hA => by rw [conjTranspose_smul, smul_mul_smul_comm, smul_mul_smul_comm, hA, mul_comm]⟩

/-- **unitary** (`Uᴴ U = 1 ∧ U Uᴴ = 1`): permutation similarity, transposition, conjugation, negation, conjugation by and left
    multiplication with a unitary `V` (all iff). -/
theorem unitary_invariant (U V : Matrix n n R) (σ : n ≃ n) (hV : Vᴴ * V = 1 ∧ V * Vᴴ = 1) :
    (((U.submatrix σ σ)ᴴ * U.submatrix σ σ = 1 ∧ U.submatrix σ σ * (U.submatrix σ σ)ᴴ = 1) ↔ (Uᴴ * U = 1 ∧ U * Uᴴ = 1)) ∧
    (((Uᵀ)ᴴ * Uᵀ = 1 ∧ Uᵀ * (Uᵀ)ᴴ = 1) ↔ (Uᴴ * U = 1 ∧ U * Uᴴ = 1)) ∧
    (((U.map star)ᴴ * U.map star = 1 ∧ U.map star * (U.map star)ᴴ = 1) ↔ (Uᴴ * U = 1 ∧ U * Uᴴ = 1)) ∧
    (((-U)ᴴ * (-U) = 1 ∧ (-U) * (-U)ᴴ = 1) ↔ (Uᴴ * U = 1 ∧ U * Uᴴ = 1)) ∧
    (((V * U * Vᴴ)ᴴ * (V * U * Vᴴ) = 1 ∧ (V * U * Vᴴ) * (V * U * Vᴴ)ᴴ = 1) ↔ (Uᴴ * U = 1 ∧ U * Uᴴ = 1)) ∧
    (((V * U)ᴴ * (V * U) = 1 ∧ (V * U) * (V * U)ᴴ = 1) ↔ (Uᴴ * U = 1 ∧ U * Uᴴ = 1)) :=
  ⟨(Toq.MatrixInv.submatrix_embedding σ).unitary_iff U,
    by rw [conjTranspose_transpose_eq_transpose_conjTranspose, ← transpose_mul, ← transpose_mul, transpose_eq_one,
      transpose_eq_one, and_comm],
    Toq.MatrixInv.map_star_embedding.unitary_iff U,
    by rw [conjTranspose_neg, neg_mul_neg, neg_mul_neg],
    (Toq.MatrixInv.conj_embedding V hV.1).unitary_iff U,
    by
      -- `(V U)ᴴ (V U) = Uᴴ U`, and for square matrices each of the two unitarity relations gives the other
      rw [mul_eq_one_comm (a := V * U), and_self, Toq.MatrixInv.isometry_mul_gram V U hV.1, mul_eq_one_comm (a := U), and_self]⟩

/-- **pseudo-unitary** (`Aᴴ J A = J`): left / right multiplication by a `J`-isometry `W`, conjugation (real `J`), negation. -/
theorem pseudoUnitary_invariant (J A W : Matrix n n R) (hW : Wᴴ * J * W = J) (hJ : J.map star = J) (hA : Aᴴ * J * A = J) :
    (W * A)ᴴ * J * (W * A) = J ∧ (A * W)ᴴ * J * (A * W) = J ∧ (A.map star)ᴴ * J * A.map star = J ∧ (-A)ᴴ * J * (-A) = J :=
  ⟨Toq.MatrixInv.pseudoU_mul_left J A W hW hA,
    Toq.MatrixInv.pseudoU_mul_left J W A hA hW,
    by have := congrArg (fun M => M.map star) hA; rwa [Toq.MatrixInv.map_star_mul, Toq.MatrixInv.map_star_mul, hJ] at this,
    by rw [conjTranspose_neg, Matrix.neg_mul, Matrix.neg_mul, Matrix.mul_neg, neg_neg, hA]⟩

/-- block-diagonal unitaries `U ⊕ V` are isometries of the signature `1_p ⊕ (−1_q)` (the harness's `t_block_unitary`). -/
theorem block_unitary_is_signature_isometry {p q : Type} [Fintype p] [DecidableEq p] [Fintype q] [DecidableEq q]
    (U : Matrix p p R) (V : Matrix q q R) (hU : Uᴴ * U = 1) (hV : Vᴴ * V = 1) :
    (fromBlocks U 0 0 V)ᴴ * fromBlocks 1 0 0 (-1) * fromBlocks U 0 0 V = fromBlocks 1 0 0 (-1) := by
  rw [fromBlocks_conjTranspose, fromBlocks_multiply, fromBlocks_multiply]
  simp only [conjTranspose_zero, Matrix.mul_zero, Matrix.zero_mul, Matrix.mul_one, Matrix.mul_neg, Matrix.neg_mul,
    add_zero, zero_add, neg_zero, hU, hV]

/-- **pseudo-Hermitian**: `η H η⁻¹ = Hᴴ` is `η H = Hᴴ η`; it is invariant (iff) under simultaneous unitary congruence of `η` and `H`,
    also with a rescaled signature, and under real scaling of `H`. -/
theorem pseudoHermitian_invariant (η ηinv H U : Matrix n n R) (c : R) (h1 : η * ηinv = 1) (h2 : ηinv * η = 1) (hU : Uᴴ * U = 1) :
    (η * H = Hᴴ * η ↔ η * H * ηinv = Hᴴ) ∧
    ((U * η * Uᴴ) * (U * H * Uᴴ) = (U * H * Uᴴ)ᴴ * (U * η * Uᴴ) ↔ η * H = Hᴴ * η) ∧
    (η * H = Hᴴ * η → (c • (U * η * Uᴴ)) * (U * H * Uᴴ) = (U * H * Uᴴ)ᴴ * (c • (U * η * Uᴴ))) ∧
    (star c = c → η * H = Hᴴ * η → η * (c • H) = (c • H)ᴴ * η) := by
  have hcongr : (U * η * Uᴴ) * (U * H * Uᴴ) = (U * H * Uᴴ)ᴴ * (U * η * Uᴴ) ↔ η * H = Hᴴ * η := by
    have h := Toq.MatrixInv.conj_embedding U hU
    rw [h.conjTranspose, h.mul, h.mul, h.inj]
  exact ⟨⟨fun h => by rw [h, Matrix.mul_assoc, h1, Matrix.mul_one], fun h => by rw [← h, Matrix.mul_assoc (η * H), h2, Matrix.mul_one]⟩,
    hcongr,
    fun h => by rw [smul_mul_assoc, mul_smul_comm, hcongr.mpr h],
    fun hc h => by rw [conjTranspose_smul, hc, smul_mul_assoc, mul_smul_comm, h]⟩

set_option linter.unusedVariables false in -- `h2` is not needed
/-- **idempotent / projection** (`A A = A`): permutation similarity, transposition, conjugation, unitary conjugation, similarity
    `S A S⁻¹` (all iff). -/
theorem idempotent_invariant (A U S Sinv : Matrix n n R) (σ : n ≃ n) (hU : Uᴴ * U = 1) (h1 : Sinv * S = 1) (h2 : S * Sinv = 1) :
    (A.submatrix σ σ * A.submatrix σ σ = A.submatrix σ σ ↔ A * A = A) ∧ (Aᵀ * Aᵀ = Aᵀ ↔ A * A = A) ∧
    (A.map star * A.map star = A.map star ↔ A * A = A) ∧
    ((U * A * Uᴴ) * (U * A * Uᴴ) = U * A * Uᴴ ↔ A * A = A) ∧ ((S * A * Sinv) * (S * A * Sinv) = S * A * Sinv ↔ A * A = A) :=
  ⟨(Toq.MatrixInv.submatrix_embedding σ).idem_iff A,
    by rw [← transpose_mul, transpose_inj],
    Toq.MatrixInv.map_star_embedding.idem_iff A,
    (Toq.MatrixInv.conj_embedding U hU).idem_iff A,
    by rw [Matrix.conj_mul_conj_eq h1, Toq.MatrixInv.similarity_inj h1]⟩

/-- **identity**: only the identity is conjugate to the identity; reindexing, transposing, conjugating the identity gives the identity. -/
theorem identity_invariant (A U : Matrix n n R) (σ : n ≃ n) (hU : Uᴴ * U = 1) :
    (U * A * Uᴴ = 1 ↔ A = 1) ∧ (1 : Matrix n n R).submatrix σ σ = 1 ∧ (1 : Matrix n n R)ᵀ = 1 ∧ (1 : Matrix n n R).map star = 1 :=
  ⟨(Toq.MatrixInv.conj_embedding U hU).eq_one_iff,
    (Toq.MatrixInv.submatrix_embedding σ).one,
    transpose_one,
    Toq.MatrixInv.map_star_embedding.one⟩

/-- **diagonal** (all off-diagonal entries zero): permutation similarity, transposition, conjugation (iff), negation, scaling, phase
    conjugation. -/
theorem diagonal_invariant (A : Matrix n n R) (σ : n ≃ n) (c : R) (d : n → R) :
    ((∀ i j, i ≠ j → A.submatrix σ σ i j = 0) ↔ ∀ i j, i ≠ j → A i j = 0) ∧
    ((∀ i j, i ≠ j → Aᵀ i j = 0) ↔ ∀ i j, i ≠ j → A i j = 0) ∧
    ((∀ i j, i ≠ j → A.map star i j = 0) ↔ ∀ i j, i ≠ j → A i j = 0) ∧
    ((∀ i j, i ≠ j → A i j = 0) → ∀ i j, i ≠ j → (-A) i j = 0) ∧
    ((∀ i j, i ≠ j → A i j = 0) → ∀ i j, i ≠ j → (c • A) i j = 0) ∧
    ((∀ i j, i ≠ j → A i j = 0) → ∀ i j, i ≠ j → (diagonal d * A * (diagonal d)ᴴ) i j = 0) :=
  ⟨Equiv.forall₂_congr σ σ (imp_congr_left σ.injective.ne_iff.symm),
    ⟨fun h i j e => h j i e.symm, fun h i j e => h j i e.symm⟩,
    by simp only [map_apply, star_eq_zero],
    fun hA i j h => by rw [neg_apply, hA i j h, neg_zero],
    fun hA i j h => by rw [Matrix.smul_apply, hA i j h, smul_zero],
    fun hA i j h => by rw [Toq.MatrixInv.phase_conj_apply, hA i j h, mul_zero, zero_mul]⟩

/-- **commuting pair**: simultaneous unitary conjugation and simultaneous transposition (iff); the relation is symmetric. -/
theorem commuting_invariant (A B U : Matrix n n R) (hU : Uᴴ * U = 1) :
    ((U * A * Uᴴ) * (U * B * Uᴴ) = (U * B * Uᴴ) * (U * A * Uᴴ) ↔ A * B = B * A) ∧ (Aᵀ * Bᵀ = Bᵀ * Aᵀ ↔ A * B = B * A) ∧
    (A * B = B * A → B * A = A * B) :=
  ⟨(Toq.MatrixInv.conj_embedding U hU).comm_iff A B,
    by rw [← transpose_mul, ← transpose_mul, transpose_inj, eq_comm],
    Eq.symm⟩

/-- **permutation matrix** (entries 0/1, all row and column sums 1): transposition; reindexing rows and columns by any two
    permutations (iff; covers left multiplication and similarity); the matrix of a permutation is one. -/
theorem permutation_invariant (A : Matrix n n R) (σ τ : n ≃ n) :
    (((∀ i j, A i j = 0 ∨ A i j = 1) ∧ (∀ i, ∑ j, A i j = 1) ∧ ∀ j, ∑ i, A i j = 1) →
      (∀ i j, Aᵀ i j = 0 ∨ Aᵀ i j = 1) ∧ (∀ i, ∑ j, Aᵀ i j = 1) ∧ ∀ j, ∑ i, Aᵀ i j = 1) ∧
    (((∀ i j, A.submatrix σ τ i j = 0 ∨ A.submatrix σ τ i j = 1) ∧ (∀ i, ∑ j, A.submatrix σ τ i j = 1) ∧
        ∀ j, ∑ i, A.submatrix σ τ i j = 1) ↔
      (∀ i j, A i j = 0 ∨ A i j = 1) ∧ (∀ i, ∑ j, A i j = 1) ∧ ∀ j, ∑ i, A i j = 1) ∧
    ((∀ i j, (σ.toPEquiv.toMatrix : Matrix n n R) i j = 0 ∨ (σ.toPEquiv.toMatrix : Matrix n n R) i j = 1) ∧
      (∀ i, ∑ j, (σ.toPEquiv.toMatrix : Matrix n n R) i j = 1) ∧ ∀ j, ∑ i, (σ.toPEquiv.toMatrix : Matrix n n R) i j = 1) := by
  refine ⟨fun hA => ⟨fun i j => hA.1 j i, hA.2.2, hA.2.1⟩, Toq.MatrixInv.permMat_submatrix_iff A σ τ, ?_⟩
  -- the permutation matrix of a bijection is the identity with its rows reordered
  rw [Toq.MatrixInv.perm_eq_one_submatrix]
  refine (Toq.MatrixInv.permMat_submatrix_iff 1 σ (Equiv.refl n)).mpr ⟨fun i j => ?_, fun i => ?_, fun j => ?_⟩
  · exact (ne_or_eq i j).imp one_apply_ne fun h : i = j => h ▸ one_apply_eq i
  · simp only [one_apply, Finset.sum_ite_eq, Finset.mem_univ, if_true]
  · simp only [one_apply, Finset.sum_ite_eq', Finset.mem_univ, if_true]

/-- **circulant** (shift-invariant entries over a finite commutative index group): transposition, conjugation, negation, scaling, adding a
    multiple of the identity, and a cyclic shift of rows and columns — which even leaves the matrix unchanged. -/
theorem circulant_invariant {G : Type} [Fintype G] [DecidableEq G] [AddCommGroup G] (A : Matrix G G R) (c : R) (s : G)
    (hA : ∀ i j k : G, A (i + k) (j + k) = A i j) :
    (∀ i j k : G, Aᵀ (i + k) (j + k) = Aᵀ i j) ∧ (∀ i j k : G, A.map star (i + k) (j + k) = A.map star i j) ∧
    (∀ i j k : G, (-A) (i + k) (j + k) = (-A) i j) ∧ (∀ i j k : G, (c • A) (i + k) (j + k) = (c • A) i j) ∧
    (∀ i j k : G, (A + c • 1) (i + k) (j + k) = (A + c • 1) i j) ∧ A.submatrix (· + s) (· + s) = A :=
  ⟨fun i j k => hA j i k,
    fun i j k => congrArg star (hA i j k),
    fun i j k => congrArg Neg.neg (hA i j k),
    Toq.MatrixInv.circ_smul A c hA,
    Toq.MatrixInv.circ_add A (c • 1) hA (Toq.MatrixInv.circ_smul 1 c Toq.MatrixInv.circ_one),
    Toq.MatrixInv.circ_shift_eq A s hA⟩

end invariance2

section invarianceOrder
set_option linter.unusedSectionVars false
open Matrix
variable {n : Type} [Fintype n] [DecidableEq n]

/-- **positive semidefinite** (over `ℂ`): permutation similarity, conjugation, unitary conjugation (iff), transposition, scaling by a real
    `c ≥ 0`. -/
theorem psd_invariant (A U : Matrix n n ℂ) (σ : n ≃ n) (c : ℝ) (hU : Uᴴ * U = 1) (hc : 0 ≤ c) :
    ((A.submatrix σ σ).PosSemidef ↔ A.PosSemidef) ∧ ((A.map star).PosSemidef ↔ A.PosSemidef) ∧
    ((U * A * Uᴴ).PosSemidef ↔ A.PosSemidef) ∧ (A.PosSemidef → Aᵀ.PosSemidef) ∧ (A.PosSemidef → (c • A).PosSemidef) :=
  ⟨posSemidef_submatrix_equiv σ,
    Toq.MatrixInv.psd_map_star_iff A,
    Toq.MatrixInv.psd_conj_iff A U hU,
    PosSemidef.transpose,
    fun hA => hA.smul hc⟩

/-- **positive definite**: the same with `c > 0`. -/
theorem pd_invariant (A U : Matrix n n ℂ) (σ : n ≃ n) (c : ℝ) (hU : Uᴴ * U = 1) (hc : 0 < c) :
    ((A.submatrix σ σ).PosDef ↔ A.PosDef) ∧ ((A.map star).PosDef ↔ A.PosDef) ∧
    ((U * A * Uᴴ).PosDef ↔ A.PosDef) ∧ (A.PosDef → Aᵀ.PosDef) ∧ (A.PosDef → (c • A).PosDef) := by
  refine ⟨⟨fun h => ?_, fun h => h.submatrix σ.injective⟩, ?_, (IsUnit.of_mul_eq_one_right Uᴴ hU).posDef_star_right_conjugate_iff,
    PosDef.transpose, fun hA => hA.smul hc⟩
  · simpa only [submatrix_submatrix, Equiv.self_comp_symm, submatrix_id_id] using h.submatrix σ.symm.injective
  · rw [Toq.MatrixInv.map_star_eq, ← posDef_conjTranspose_iff (M := A)]
    exact ⟨fun h => h.transpose, fun h => h.transpose⟩

/-- **density matrix** (PSD, trace one): permutation similarity, unitary conjugation, transposition (iff), conjugation. -/
theorem density_invariant (A U : Matrix n n ℂ) (σ : n ≃ n) (hU : Uᴴ * U = 1) :
    (((A.submatrix σ σ).PosSemidef ∧ (A.submatrix σ σ).trace = 1) ↔ (A.PosSemidef ∧ A.trace = 1)) ∧
    (((U * A * Uᴴ).PosSemidef ∧ (U * A * Uᴴ).trace = 1) ↔ (A.PosSemidef ∧ A.trace = 1)) ∧
    ((Aᵀ.PosSemidef ∧ Aᵀ.trace = 1) ↔ (A.PosSemidef ∧ A.trace = 1)) ∧
    ((A.PosSemidef ∧ A.trace = 1) → (A.map star).PosSemidef ∧ (A.map star).trace = 1) :=
  ⟨Toq.MatrixInv.density_submatrix_iff A σ,
    Toq.MatrixInv.density_conj_iff A U hU,
    Toq.MatrixInv.density_transpose_iff A,
    fun hA => ⟨(Toq.MatrixInv.psd_map_star_iff A).mpr hA.1, by rw [Toq.MatrixInv.trace_map_star, hA.2, star_one]⟩⟩

/-- **pure state** (density matrix with `Tr ρ² = 1`): unitary conjugation (iff), transposition, conjugation, permutation similarity. -/
theorem pure_invariant (A U : Matrix n n ℂ) (σ : n ≃ n) (hU : Uᴴ * U = 1) :
    (((U * A * Uᴴ).PosSemidef ∧ (U * A * Uᴴ).trace = 1 ∧ ((U * A * Uᴴ) * (U * A * Uᴴ)).trace = 1) ↔
      (A.PosSemidef ∧ A.trace = 1 ∧ (A * A).trace = 1)) ∧
    ((A.PosSemidef ∧ A.trace = 1 ∧ (A * A).trace = 1) → Aᵀ.PosSemidef ∧ Aᵀ.trace = 1 ∧ (Aᵀ * Aᵀ).trace = 1) ∧
    ((A.PosSemidef ∧ A.trace = 1 ∧ (A * A).trace = 1) →
      (A.map star).PosSemidef ∧ (A.map star).trace = 1 ∧ (A.map star * A.map star).trace = 1) ∧
    ((A.PosSemidef ∧ A.trace = 1 ∧ (A * A).trace = 1) →
      (A.submatrix σ σ).PosSemidef ∧ (A.submatrix σ σ).trace = 1 ∧ (A.submatrix σ σ * A.submatrix σ σ).trace = 1) :=
  ⟨Toq.MatrixInv.pure_conj_iff A U hU,
    fun hA => ⟨hA.1.transpose, by rw [trace_transpose, hA.2.1], by rw [← transpose_mul, trace_transpose, hA.2.2]⟩,
    fun hA => ⟨(Toq.MatrixInv.psd_map_star_iff A).mpr hA.1, by rw [Toq.MatrixInv.trace_map_star, hA.2.1, star_one],
      by rw [← Toq.MatrixInv.map_star_mul, Toq.MatrixInv.trace_map_star, hA.2.2, star_one]⟩,
    fun hA => ⟨hA.1.submatrix σ, by rw [Toq.MatrixInv.trace_submatrix, hA.2.1],
      by rw [submatrix_mul_equiv, Toq.MatrixInv.trace_submatrix, hA.2.2]⟩⟩

/-- **diagonally dominant**, strict and non-strict (over `ℂ`): permutation similarity, phase conjugation, entrywise conjugation, negation,
    scaling by `c ≠ 0` (all iff). -/
theorem diagDominant_invariant (A : Matrix n n ℂ) (σ : n ≃ n) (d : n → ℂ) (c : ℂ) (hd : ∀ i, ‖d i‖ = 1) (hc : c ≠ 0) :
    ((∀ i, ∑ j ∈ Finset.univ.erase i, ‖A.submatrix σ σ i j‖ < ‖A.submatrix σ σ i i‖) ↔
      ∀ i, ∑ j ∈ Finset.univ.erase i, ‖A i j‖ < ‖A i i‖) ∧
    ((∀ i, ∑ j ∈ Finset.univ.erase i, ‖A.submatrix σ σ i j‖ ≤ ‖A.submatrix σ σ i i‖) ↔
      ∀ i, ∑ j ∈ Finset.univ.erase i, ‖A i j‖ ≤ ‖A i i‖) ∧
    ((∀ i, ∑ j ∈ Finset.univ.erase i, ‖(diagonal d * A * (diagonal d)ᴴ) i j‖ < ‖(diagonal d * A * (diagonal d)ᴴ) i i‖) ↔
      ∀ i, ∑ j ∈ Finset.univ.erase i, ‖A i j‖ < ‖A i i‖) ∧
    ((∀ i, ∑ j ∈ Finset.univ.erase i, ‖(diagonal d * A * (diagonal d)ᴴ) i j‖ ≤ ‖(diagonal d * A * (diagonal d)ᴴ) i i‖) ↔
      ∀ i, ∑ j ∈ Finset.univ.erase i, ‖A i j‖ ≤ ‖A i i‖) ∧
    (((∀ i, ∑ j ∈ Finset.univ.erase i, ‖A.map star i j‖ < ‖A.map star i i‖) ↔ ∀ i, ∑ j ∈ Finset.univ.erase i, ‖A i j‖ < ‖A i i‖) ∧
      ((∀ i, ∑ j ∈ Finset.univ.erase i, ‖(-A) i j‖ < ‖(-A) i i‖) ↔ ∀ i, ∑ j ∈ Finset.univ.erase i, ‖A i j‖ < ‖A i i‖)) ∧
    (((∀ i, ∑ j ∈ Finset.univ.erase i, ‖A.map star i j‖ ≤ ‖A.map star i i‖) ↔ ∀ i, ∑ j ∈ Finset.univ.erase i, ‖A i j‖ ≤ ‖A i i‖) ∧
      ((∀ i, ∑ j ∈ Finset.univ.erase i, ‖(-A) i j‖ ≤ ‖(-A) i i‖) ↔ ∀ i, ∑ j ∈ Finset.univ.erase i, ‖A i j‖ ≤ ‖A i i‖)) ∧
    ((∀ i, ∑ j ∈ Finset.univ.erase i, ‖(c • A) i j‖ < ‖(c • A) i i‖) ↔ ∀ i, ∑ j ∈ Finset.univ.erase i, ‖A i j‖ < ‖A i i‖) ∧
    ((∀ i, ∑ j ∈ Finset.univ.erase i, ‖(c • A) i j‖ ≤ ‖(c • A) i i‖) ↔ ∀ i, ∑ j ∈ Finset.univ.erase i, ‖A i j‖ ≤ ‖A i i‖) :=
  ⟨Toq.MatrixInv.rowDom_submatrix (· < ·) A σ, Toq.MatrixInv.rowDom_submatrix (· ≤ ·) A σ,
    Toq.MatrixInv.rowDom_congr (· < ·) (Toq.MatrixInv.norm_phase_conj_apply A d hd),
    Toq.MatrixInv.rowDom_congr (· ≤ ·) (Toq.MatrixInv.norm_phase_conj_apply A d hd),
    ⟨Toq.MatrixInv.rowDom_congr (· < ·) (B := A.map star) fun i j => norm_star (A i j),
      Toq.MatrixInv.rowDom_congr (· < ·) (B := -A) fun i j => norm_neg (A i j)⟩,
    ⟨Toq.MatrixInv.rowDom_congr (· ≤ ·) (B := A.map star) fun i j => norm_star (A i j),
      Toq.MatrixInv.rowDom_congr (· ≤ ·) (B := -A) fun i j => norm_neg (A i j)⟩,
    -- a non-zero factor `‖c‖` on both sides of every row comparison cancels
    by simp only [Matrix.smul_apply, smul_eq_mul, norm_mul, ← Finset.mul_sum, mul_lt_mul_iff_right₀ (norm_pos_iff.mpr hc)],
    by simp only [Matrix.smul_apply, smul_eq_mul, norm_mul, ← Finset.mul_sum, mul_le_mul_iff_right₀ (norm_pos_iff.mpr hc)]⟩

/-- **stochastic** (over `ℝ`): permutation similarity keeps row- and column-stochasticity (iff), transposition exchanges them (iff),
    doubly stochastic matrices stay so under transposition and independent row / column permutations. -/
theorem stochastic_invariant (A : Matrix n n ℝ) (σ τ : n ≃ n) :
    (((∀ i j, 0 ≤ A.submatrix σ σ i j) ∧ ∀ i, ∑ j, A.submatrix σ σ i j = 1) ↔ ((∀ i j, 0 ≤ A i j) ∧ ∀ i, ∑ j, A i j = 1)) ∧
    (((∀ i j, 0 ≤ A.submatrix σ σ i j) ∧ ∀ j, ∑ i, A.submatrix σ σ i j = 1) ↔ ((∀ i j, 0 ≤ A i j) ∧ ∀ j, ∑ i, A i j = 1)) ∧
    (((∀ i j, 0 ≤ Aᵀ i j) ∧ ∀ j, ∑ i, Aᵀ i j = 1) ↔ ((∀ i j, 0 ≤ A i j) ∧ ∀ i, ∑ j, A i j = 1)) ∧
    (((∀ i j, 0 ≤ A i j) ∧ (∀ i, ∑ j, A i j = 1) ∧ ∀ j, ∑ i, A i j = 1) →
      (∀ i j, 0 ≤ Aᵀ i j) ∧ (∀ i, ∑ j, Aᵀ i j = 1) ∧ ∀ j, ∑ i, Aᵀ i j = 1) ∧
    (((∀ i j, 0 ≤ A i j) ∧ (∀ i, ∑ j, A i j = 1) ∧ ∀ j, ∑ i, A i j = 1) →
      (∀ i j, 0 ≤ A.submatrix σ τ i j) ∧ (∀ i, ∑ j, A.submatrix σ τ i j = 1) ∧ ∀ j, ∑ i, A.submatrix σ τ i j = 1) :=
  ⟨and_congr (Equiv.forall₂_congr σ σ Iff.rfl) (Toq.MatrixInv.rowSums_submatrix_iff A σ σ 1),
    and_congr (Equiv.forall₂_congr σ σ Iff.rfl) (Toq.MatrixInv.colSums_submatrix_iff A σ σ 1),
    and_congr forall_comm Iff.rfl,
    fun hA => ⟨fun i j => hA.1 j i, hA.2.2, hA.2.1⟩,
    fun hA => ⟨fun _ _ => hA.1 _ _, (Toq.MatrixInv.rowSums_submatrix_iff A σ τ 1).mpr hA.2.1,
      (Toq.MatrixInv.colSums_submatrix_iff A σ τ 1).mpr hA.2.2⟩⟩

/-- **entrywise non-negative / positive, doubly non-negative** (over `ℝ`): row and column permutations (iff), transposition, scaling by
    `c ≥ 0` resp. `c > 0`. -/
theorem nonnegative_invariant (A : Matrix n n ℝ) (σ τ : n ≃ n) (c : ℝ) :
    ((∀ i j, 0 ≤ A.submatrix σ τ i j) ↔ ∀ i j, 0 ≤ A i j) ∧ ((∀ i j, 0 < A.submatrix σ τ i j) ↔ ∀ i j, 0 < A i j) ∧
    ((∀ i j, 0 ≤ A i j) → ∀ i j, 0 ≤ Aᵀ i j) ∧ ((∀ i j, 0 < A i j) → ∀ i j, 0 < Aᵀ i j) ∧
    (0 ≤ c → (∀ i j, 0 ≤ A i j) → ∀ i j, 0 ≤ (c • A) i j) ∧ (0 < c → (∀ i j, 0 < A i j) → ∀ i j, 0 < (c • A) i j) ∧
    ((A.PosSemidef ∧ ∀ i j, 0 ≤ A i j) → (A.submatrix σ σ).PosSemidef ∧ ∀ i j, 0 ≤ A.submatrix σ σ i j) ∧
    ((A.PosSemidef ∧ ∀ i j, 0 ≤ A i j) → Aᵀ.PosSemidef ∧ ∀ i j, 0 ≤ Aᵀ i j) ∧
    (0 ≤ c → (A.PosSemidef ∧ ∀ i j, 0 ≤ A i j) → (c • A).PosSemidef ∧ ∀ i j, 0 ≤ (c • A) i j) :=
  ⟨Equiv.forall₂_congr σ τ Iff.rfl,
    Equiv.forall₂_congr σ τ Iff.rfl,
    fun hA i j => hA j i,
    fun hA i j => hA j i,
    fun hc hA i j => mul_nonneg hc (hA i j),
    fun hc hA i j => mul_pos hc (hA i j),
    fun hA => ⟨hA.1.submatrix σ, fun _ _ => hA.2 _ _⟩,
    fun hA => ⟨hA.1.transpose, fun i j => hA.2 j i⟩,
    fun hc hA => ⟨hA.1.smul hc, fun i j => mul_nonneg hc (hA.2 i j)⟩⟩

/-- **totally positive** (all minors with increasing row and column selections positive; rectangular, over `ℝ`): transposition and
    reversal of both index orders (iff), scaling by `a > 0`, positive diagonal scalings `D₁ A D₂`. -/
theorem totallyPositive_invariant {p q : ℕ} (A : Matrix (Fin p) (Fin q) ℝ) (a : ℝ) (d₁ : Fin p → ℝ) (d₂ : Fin q → ℝ)
    (ha : 0 < a) (h1 : ∀ i, 0 < d₁ i) (h2 : ∀ j, 0 < d₂ j) :
    ((∀ (k : ℕ) (r : Fin k ↪o Fin q) (c : Fin k ↪o Fin p), 0 < (Aᵀ.submatrix r c).det) ↔
      ∀ (k : ℕ) (r : Fin k ↪o Fin p) (c : Fin k ↪o Fin q), 0 < (A.submatrix r c).det) ∧
    ((∀ (k : ℕ) (r : Fin k ↪o Fin p) (c : Fin k ↪o Fin q), 0 < ((A.submatrix Fin.rev Fin.rev).submatrix r c).det) ↔
      ∀ (k : ℕ) (r : Fin k ↪o Fin p) (c : Fin k ↪o Fin q), 0 < (A.submatrix r c).det) ∧
    ((∀ (k : ℕ) (r : Fin k ↪o Fin p) (c : Fin k ↪o Fin q), 0 < (A.submatrix r c).det) →
      ∀ (k : ℕ) (r : Fin k ↪o Fin p) (c : Fin k ↪o Fin q), 0 < ((a • A).submatrix r c).det) ∧
    ((∀ (k : ℕ) (r : Fin k ↪o Fin p) (c : Fin k ↪o Fin q), 0 < (A.submatrix r c).det) →
      ∀ (k : ℕ) (r : Fin k ↪o Fin p) (c : Fin k ↪o Fin q), 0 < ((diagonal d₁ * A * diagonal d₂).submatrix r c).det) := by
  refine ⟨⟨Toq.MatrixInv.totPos_transpose Aᵀ, Toq.MatrixInv.totPos_transpose A⟩,
    ⟨fun h => ?_, Toq.MatrixInv.totPos_reverse_both A⟩, fun hA k r c => ?_, fun hA k r c => ?_⟩
  · have e : (A.submatrix Fin.rev Fin.rev).submatrix Fin.rev Fin.rev = A := by
      ext i j; simp only [submatrix_apply, Fin.rev_rev]
    simpa only [e] using Toq.MatrixInv.totPos_reverse_both _ h
  · show 0 < (a • A.submatrix r c).det
    rw [det_smul]
    exact mul_pos (pow_pos ha _) (hA k r c)
  · -- the minor of `D₁ A D₂` is the minor of `A` times the selected diagonal entries
    have e : (diagonal d₁ * A * diagonal d₂).submatrix r c
        = diagonal (fun i => d₁ (r i)) * A.submatrix r c * diagonal (fun j => d₂ (c j)) := by
      ext i j
      simp only [submatrix_apply, mul_diagonal, diagonal_mul]
    rw [e, det_mul, det_mul, det_diagonal, det_diagonal]
    exact mul_pos (mul_pos (Finset.prod_pos (fun i _ => h1 _)) (hA k r c)) (Finset.prod_pos (fun j _ => h2 _))

/-- **sets of vectors** (over `ℂ`): linear independence is unchanged (iff) by a common isometry `U`, by reordering and by unit-modulus
    phases on the vectors; mutual orthogonality and orthonormality likewise (a common isometry: iff; reordering; scalings resp. phases). -/
theorem vector_set_invariant {ι : Type} [DecidableEq ι] (U : Matrix n n ℂ) (hU : Uᴴ * U = 1) (σ : ι ≃ ι) (c : ι → ℂ)
    (hc : ∀ k, ‖c k‖ = 1) (v : ι → n → ℂ) :
    ((LinearIndependent ℂ fun k => U.mulVec (v k)) ↔ LinearIndependent ℂ v) ∧
    (LinearIndependent ℂ (v ∘ σ) ↔ LinearIndependent ℂ v) ∧
    ((LinearIndependent ℂ fun k => c k • v k) ↔ LinearIndependent ℂ v) ∧
    ((∀ i j, i ≠ j → star (U.mulVec (v i)) ⬝ᵥ U.mulVec (v j) = 0) ↔ ∀ i j, i ≠ j → star (v i) ⬝ᵥ v j = 0) ∧
    ((∀ i j, i ≠ j → star (v i) ⬝ᵥ v j = 0) → ∀ i j, i ≠ j → star ((v ∘ σ) i) ⬝ᵥ (v ∘ σ) j = 0) ∧
    ((∀ i j, i ≠ j → star (v i) ⬝ᵥ v j = 0) → ∀ i j, i ≠ j → star (c i • v i) ⬝ᵥ (c j • v j) = 0) ∧
    ((∀ i j, star (U.mulVec (v i)) ⬝ᵥ U.mulVec (v j) = if i = j then 1 else 0) ↔ ∀ i j, star (v i) ⬝ᵥ v j = if i = j then 1 else 0) ∧
    ((∀ i j, star (v i) ⬝ᵥ v j = if i = j then 1 else 0) → ∀ i j, star ((v ∘ σ) i) ⬝ᵥ (v ∘ σ) j = if i = j then 1 else 0) ∧
    ((∀ i j, star (v i) ⬝ᵥ v j = if i = j then 1 else 0) → ∀ i j, star (c i • v i) ⬝ᵥ (c j • v j) = if i = j then 1 else 0) :=
  ⟨Toq.MatrixInv.linIndep_common_unitary_iff U hU v,
    linearIndependent_equiv σ,
    -- unit-modulus scalars are invertible
    LinearIndependent.units_smul_iff v fun k =>
      Units.mk0 (c k) fun h => by have := hc k; rw [h, norm_zero] at this; exact zero_ne_one this,
    by simp only [Toq.MatrixInv.inner_mulVec U hU],
    fun hv _ _ h => hv _ _ (σ.injective.ne h),
    fun hv i j h => by rw [Toq.MatrixInv.inner_smul_smul, hv i j h, mul_zero],
    by simp only [Toq.MatrixInv.inner_mulVec U hU],
    fun hv i j => by simp only [Function.comp_apply, hv, σ.injective.eq_iff],
    Toq.MatrixInv.orthonormal_phases c (fun k => Toq.MatrixInv.star_mul_self_of_norm_one (c k) (hc k)) v⟩

/-- **mutually unbiased**: the overlaps `|⟨v_i, w_j⟩|` between two families are unchanged by a common isometry and by unit-modulus phases,
    and a constant overlap survives reordering within each family. -/
theorem mub_invariant {ι κ : Type} (U : Matrix n n ℂ) (hU : Uᴴ * U = 1) (c : ι → ℂ) (e : κ → ℂ) (hc : ∀ k, ‖c k‖ = 1)
    (he : ∀ k, ‖e k‖ = 1) (σ : ι ≃ ι) (τ : κ ≃ κ) (v : ι → n → ℂ) (w : κ → n → ℂ) (a : ℝ) :
    (∀ i j, ‖star (U.mulVec (v i)) ⬝ᵥ U.mulVec (w j)‖ = ‖star (v i) ⬝ᵥ w j‖) ∧
    (∀ i j, ‖star (c i • v i) ⬝ᵥ (e j • w j)‖ = ‖star (v i) ⬝ᵥ w j‖) ∧
    ((∀ i j, ‖star (v i) ⬝ᵥ w j‖ = a) → ∀ i j, ‖star ((v ∘ σ) i) ⬝ᵥ (w ∘ τ) j‖ = a) :=
  ⟨fun i j => by rw [Toq.MatrixInv.inner_mulVec U hU],
    fun i j => by rw [Toq.MatrixInv.inner_smul_smul]; simp only [norm_mul, norm_star, hc, he, one_mul],
    fun h _ _ => h _ _⟩

end invarianceOrder

/-! ## concrete instances for Parts 5–6 (the hypotheses are satisfiable, the deciders and mirrors compute) -/

/-- the self-certifying definiteness deciders on the complex Hermitian positive definite `[[2, i], [-i, 2]]` and the indefinite
    `[[1, 2], [2, 1]]` (certificate search and proved checker run inside the kernel) -/
example : psdV (⟨2, 2, fun i j => if i = j then ⟨2, 0⟩ else ⟨0, if i < j then 1 else -1⟩⟩ : Mat QI) (1 / 1000) = .yes ∧ psdV (⟨2, 2, fun i j => if i = j then ⟨1, 0⟩ else ⟨2, 0⟩⟩ : Mat QI) (1 / 1000) = .no ∧ pdV (⟨2, 2, fun i j => if i = j then ⟨2, 0⟩ else ⟨0, if i < j then 1 else -1⟩⟩ : Mat QI) (1 / 1000) = .yes ∧ pdV (⟨2, 2, fun i j => if i = j then ⟨1, 0⟩ else ⟨2, 0⟩⟩ : Mat QI) (1 / 1000) = .no := by
  decide +kernel

/-- `np.isclose` is asymmetric: `1` is close to `1 + 5·10⁻⁶` with the default tolerances, `1 + 5·10⁻⁶` is not close to `0` -/
example : closeQ ⟨1, 0⟩ ⟨1 + 1 / 200000, 0⟩ rtolDefault atolDefault = true ∧
    closeQ ⟨1 + 1 / 200000, 0⟩ ⟨0, 0⟩ rtolDefault atolDefault = false := by decide +kernel

/-- the tolerance-level mirrors on `[[2, i], [-i, 2]]`: Hermitian, not symmetric -/
example : hermitianT (⟨2, 2, fun i j => if i = j then ⟨2, 0⟩ else ⟨0, if i < j then 1 else -1⟩⟩ : Mat QI) rtolDefault atolDefault = true ∧ symmetricT (⟨2, 2, fun i j => if i = j then ⟨2, 0⟩ else ⟨0, if i < j then 1 else -1⟩⟩ : Mat QI) rtolDefault atolDefault = false := by decide +kernel

/-- hence (Part 5) the three-valued verdicts agree: `hermitianV = yes`, `symmetricV = no` at margin `10⁻³` -/
example : hermitianV (⟨2, 2, fun i j => if i = j then ⟨2, 0⟩ else ⟨0, if i < j then 1 else -1⟩⟩ : Mat QI) (1 / 1000) = .yes ∧ symmetricV (⟨2, 2, fun i j => if i = j then ⟨2, 0⟩ else ⟨0, if i < j then 1 else -1⟩⟩ : Mat QI) (1 / 1000) = .no := by decide +kernel

/-! ## Part 9 — further code branches inside the model: `is_diagonal` line by line, `tensor_comb` -/

/-- **the reshape trick of `is_diagonal`** (`mat.reshape(-1)[:-1].reshape(n-1, n+1)[:, 1:]` must vanish) tests exactly the
    off-diagonal entries: the line-by-line mirror agrees with the definition for all sizes. -/
theorem diagonal_reshape_trick (A : Mat QI) : diagonalTrick A = true ↔ diagonalV A = .yes := by
  rw [diagonal_yes_iff]
  unfold diagonalTrick
  by_cases hsq : isSquare A = true
  · have hAA := (isSquare_iff A).mp hsq
    simp only [hsq, Bool.not_true, Bool.false_eq_true, ↓reduceIte, allBelow_iff, beq_iff_eq]
    constructor
    · intro h
      refine ⟨hAA, fun i j hi hj hij => ?_⟩
      obtain ⟨a, b', ha, hb, h1, h2⟩ := flat_of_offDiag A.r i j hi (hAA ▸ hj) hij
      have := h a ha b' hb
      rwa [h1, h2] at this
    · rintro ⟨_, h⟩ a ha b' hb
      obtain ⟨h1, h2, h3⟩ := offDiag_of_flat A.r a b' ha hb
      exact h _ _ h1 (hAA ▸ h2) h3
  · simp only [hsq, Bool.not_false, ↓reduceIte, Bool.false_eq_true, false_iff, not_and]
    intro h; exact absurd ((isSquare_iff A).mpr h) hsq

/-- the keys of `tensor_comb(states, k)` are all index sequences of length `k` (`itertools.product(range(n), repeat=k)`). -/
theorem tensor_comb_sequences (n k : Nat) (l : List Nat) : l ∈ productSeqs n k ↔ l.length = k ∧ ∀ x ∈ l, x < n := by
  refine mem_consEnum_iff n (productSeqs n) rfl (fun k l => ?_) k l
  simp only [productSeqs, List.mem_flatMap, List.mem_range, List.mem_map, eq_comm (a := l)]

/-- **the density matrix of a product state is the product of the density matrices**, `(u ⊗ v)(u ⊗ v)ᴴ = (u uᴴ) ⊗ (v vᴴ)` — what
    `tensor_comb` computes for each sequence. -/
theorem tensor_comb_density_of_product {α : Type} [CommSemiring α] [StarRing α] (u v : Mat α) (i j : Nat) :
    (outerConj (u.c * v.c) (fun k => (kron u v).f 0 k)).f i j
      = (kron (outerConj u.c (fun k => u.f 0 k)) (outerConj v.c (fun k => v.f 0 k))).f i j := by
  simp only [kron_f, outerConj]
  show u.f (0 / v.r) (i / v.c) * v.f (0 % v.r) (i % v.c) * star (u.f (0 / v.r) (j / v.c) * v.f (0 % v.r) (j % v.c))
      = u.f 0 (i / v.c) * star (u.f 0 (j / v.c)) * (v.f 0 (i % v.c) * star (v.f 0 (j % v.c)))
  rw [Nat.zero_div, Nat.zero_mod, star_mul']
  ring

/-- `tensor_comb` on two qubit states with `k = 2`: four sequences, in the order of `itertools.product` -/
example : productSeqs 2 2 = [[0, 0], [0, 1], [1, 0], [1, 1]] := by decide

end Toq.C16
