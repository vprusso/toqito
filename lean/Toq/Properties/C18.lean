import Toq.Model.Combinat
import Toq.Spec.Combinat
import Toq.Proofs.Combinat
import Toq.Proofs.CombinatRank
import Mathlib.Data.Nat.Choose.Basic
/-!
# C18 — symmetric / antisymmetric projectors and combinatorial enumerators are exact

Mirror models: `Toq/Model/Combinat.lean` (`permSign`, `permsList`, `uniquePerms`, `perfectMatchings`, `symProjN`, `antisymProjN`);
specification vocabulary: `Toq/Spec/Combinat.lean` (`symSpec`, `antiSpec` as rational matrices indexed by digit vectors `Fin p → Fin d`,
`permMat`, `IsPerm1`, `IsPerfectMatching`, `matchingOf`).

* `perm_sign`, `unique_perms`, `perfect_matchings`: theorems about the mirror models, for all inputs in the stated domain.
* projectors: (a) the mirror models are *entrywise* `p!` times the specification matrices, for **all** `d`, `p` and all entries
  (`symProj_eq_spec`, `antisymProj_eq_spec`, `index_is_digits`); (b) the algebraic laws (Hermitian, idempotent, permutation action,
  orthogonality, `p = 2` resolution of the identity) hold of the specification matrices for **all** `d`, `p` (group averaging over
  `Equiv.Perm (Fin p)`: the two projectors are `charProj χ` for `χ = 1` and `χ = sign`), where `permMat σ` is the entry pattern of the C01
  model of `permutation_operator` (`permOp_eq_permMat`); the laws also hold of the integer models (`symProj_idempotent_model`,
  `symProj_fixed_model`, `antisymProj_sign_model`, …); (c) ranks, for **all** `d`, `p`: `rank = trace` for idempotents
  (`rank_eq_trace_of_idempotent`); `trace symSpec = C(d+p-1, p)` by Burnside's lemma for the subsystem permutations acting on digit vectors,
  whose orbits are the multisets of `p` digits (stars and bars, `fixed_digit_vectors_count`, `symSpec_trace`); `trace antiSpec = C(d, p)`
  because only injective digit vectors have a non-zero diagonal entry, `1/p!` (`antiSpec_trace`); hence `symSpec_rank`, `antiSpec_rank`, also
  for the integer models (`proj_rank_model`).  An `example` evaluates the two traces at `d = p = 3` in the kernel as a cross-check.
* the ranges: the range of `symSpec` is exactly the set of vectors fixed by every `W_τ`, the range of `antiSpec` the set of vectors on which every `W_τ`
  acts as its sign (`symSpec_range`, `antiSpec_range`).
* `partial=True`: the control flow (early returns, shapes) is modelled (`symForm`, `antisymForm`; `partial_shape`: the number of columns is the
  rank); LAPACK's `orth` itself has no Lean model, its contract is: `VᵀV = 1`, `V Vᵀ = P`.  `isometry_contract_of_residuals` proves that what the
  harness measures exactly on the returned floats (`VᵀV = 1`, `P V = V`, number of columns `= rank P`) implies the contract, in any field of
  characteristic `0`; `isometry_contract_consequences` is the converse.
-/
namespace Toq.C18
open Equiv Matrix Toq.Perms Toq.C01 Toq.Combinat Toq.Combinat.Spec

/-- **Sign = (-1)^inversions.**  For every `n` and every permutation `perm` of `1..n`, all NumPy fancy indices `perm - 1` are
    valid and the determinant of the column-selected identity computed by `perm_sign` equals `(-1)^(number of inversions)`. -/
theorem permSign_eq_inversions (n : ℕ) (perm : ℕ → ℤ) (h : IsPerm1 n perm) :
    selValid n perm = true ∧ permSign n perm = signInv n perm := by
  constructor
  · unfold selValid
    rw [allBelow_iff]
    intro j hj
    rw [wrapIdx_of_isPerm1 h j hj]
    rfl
  · rw [permSign_of_isPerm1 h, sign_permOfFn]
    unfold signInv
    congr 1
    apply inversions_congr
    intro i j hi hj
    have h1 := h.range i hi
    have h2 := h.range j hj
    show ((perm j - 1).toNat : ℤ) < ((perm i - 1).toNat : ℤ) ↔ perm j < perm i
    omega

/-- **Multiplicativity.**  For permutations `s`, `t` of `1..n`, the sign of the composition `j ↦ s[t[j]]` (1-indexed) is the
    product of the signs. -/
theorem permSign_mul (n : ℕ) (s t : ℕ → ℤ) (hs : IsPerm1 n s) (ht : IsPerm1 n t) :
    permSign n (fun j => s (t j - 1).toNat) = permSign n s * permSign n t := by
  have hfs := isPermN_of_isPerm1 hs
  have hft := isPermN_of_isPerm1 ht
  rw [permSign_of_isPerm1 hs, permSign_of_isPerm1 ht, ← Units.val_mul, ← Perm.sign_mul, ← permOfFn_comp hfs hft]
  exact permSign_of_cols n _ _ fun j => wrapIdx_of_isPerm1 hs _ (hft.lt j j.2)

/-- **Index-convention hazard.**  On a permutation of `0..n-1` (0-indexed, outside the documented convention) the index `-1` wraps
    around to the last column and `perm_sign` returns `(-1)^(n-1)` times the true sign: wrong for every even `n`.  This is why
    `antisymmetric_projection` must pass `p_list[j, :] + 1`. -/
theorem permSign_zero_indexed (n : ℕ) (hn : 0 < n) (f : ℕ → ℕ) (hf : IsPermN n f) :
    permSign n (fun j => (f j : ℤ)) = (-1) ^ (n - 1) * signInv n (fun j => (f j : ℤ)) := by
  obtain ⟨m, rfl⟩ : ∃ m, n = m + 1 := ⟨n - 1, by omega⟩
  -- the selected columns are those of the inverse cyclic shift after `f`
  have hc : ∀ j : Fin (m + 1), wrapIdx (m + 1) ((f j : ℤ) - 1)
      = some (((finRotate (m + 1))⁻¹ * permOfFn _ f hf) j : ℕ) := fun j => wrapIdx_pred (permOfFn _ f hf j)
  rw [permSign_of_cols _ _ _ hc, Perm.sign_mul, Perm.sign_inv, sign_finRotate, Units.val_mul, Units.val_pow_eq_pow_val,
    Units.val_neg, Units.val_one, Nat.add_sub_cancel, sign_permOfFn]

/-- non-vacuity: `[2, 4, 1, 3]` is a permutation of `1..4` with 3 inversions; the 0-indexed `[1, 0]` gets the wrong sign `+1` -/
example : permSign 4 (fun k => [2, 4, 1, 3].getD k 0) = -1 ∧ inversions 4 (fun k => [2, 4, 1, 3].getD k 0) = 3
    ∧ permSign 2 (fun k => [1, 0].getD k 0) = 1 := by decide

/-- the list the projectors loop over (`itertools.permutations(range(p))`) contains exactly the rearrangements of `0..p-1` -/
theorem permsList_complete (p : ℕ) (t : List ℕ) : t ∈ permsList p ↔ t.Perm (List.range p) :=
  mem_permsList p t

/-- and contains none of them twice -/
theorem permsList_nodup (p : ℕ) : (permsList p).Nodup := nodup_permsList p

/-- **No repetition.**  For any list of distinct values `uniq` (the iteration order of `set(elements)`), the generator never
    yields the same tuple twice. -/
theorem uniquePerms_nodup {α : Type} [DecidableEq α] (uniq elements : List α) (hu : uniq.Nodup)
    (hm : ∀ v, v ∈ uniq ↔ v ∈ elements) : (uniquePerms uniq elements).Nodup := by
  have hp := expandCounts_counters_perm uniq elements hu hm
  rw [uniquePerms_eq]
  exact nodup_uniqueHelper _ (counters uniq elements) [] hp.length_eq (by rw [counters_fst]; exact hu)

/-- **Completeness.**  A tuple is yielded iff it is a rearrangement of `elements` (so every distinct rearrangement of the multiset
    occurs, and nothing else). -/
theorem uniquePerms_complete {α : Type} [DecidableEq α] (uniq elements : List α) (hu : uniq.Nodup)
    (hm : ∀ v, v ∈ uniq ↔ v ∈ elements) (r : List α) :
    r ∈ uniquePerms uniq elements ↔ r.Perm elements := by
  have hp := expandCounts_counters_perm uniq elements hu hm
  rw [uniquePerms_eq, mem_uniqueHelper _ _ [] r hp.length_eq]
  constructor
  · rintro ⟨l, hl, rfl⟩
    rw [List.append_nil]; exact hl.trans hp
  · intro h
    exact ⟨r, h.trans hp.symm, (List.append_nil r).symm⟩

/-- **Multinomial count.**  (number of yielded tuples) · ∏ (multiplicity of v)! = (number of elements)!. -/
theorem uniquePerms_count {α : Type} [DecidableEq α] (uniq elements : List α) (hu : uniq.Nodup)
    (hm : ∀ v, v ∈ uniq ↔ v ∈ elements) :
    (uniquePerms uniq elements).length * (uniq.map (fun v => (elements.count v).factorial)).prod
      = elements.length.factorial := by
  have hp := expandCounts_counters_perm uniq elements hu hm
  rw [uniquePerms_eq, ← length_uniqueHelper elements.length (counters uniq elements) [] hp.length_eq]
  unfold factProd counters
  simp [List.map_map, Function.comp_def]

/-- non-vacuity: `[7, 7, 9]` with `set` order `[9, 7]` yields the three rearrangements, last position filled first -/
example : uniquePerms [9, 7] [7, 7, 9] = [[7, 7, 9], [7, 9, 7], [9, 7, 7]] := by decide

/-- **Every row is a perfect matching** of the given distinct objects (even number `≥ 2` of them). -/
theorem perfectMatchings_valid {α : Type} [DecidableEq α] (S : List α) (hn : S.Nodup) (he : S.length % 2 = 0)
    (h0 : S ≠ []) (row : List α) (hrow : row ∈ perfectMatchings S) : IsPerfectMatching S (matchingOf row) := by
  rw [perfectMatchings_eq_pmSpec S h0] at hrow
  exact (pmGood S hn he).valid row hrow

/-- **Each matching once**: different rows represent different matchings (as sets of unordered pairs), and no row is repeated. -/
theorem perfectMatchings_nodup {α : Type} [DecidableEq α] (S : List α) (hn : S.Nodup) (he : S.length % 2 = 0)
    (h0 : S ≠ []) : ((perfectMatchings S).map matchingOf).Nodup := by
  rw [perfectMatchings_eq_pmSpec S h0]
  have g := pmGood S hn he
  exact List.Nodup.map_on g.inj g.nodup

/-- **Completeness**: every perfect matching of the objects is represented by some row. -/
theorem perfectMatchings_complete {α : Type} [DecidableEq α] (S : List α) (hn : S.Nodup) (he : S.length % 2 = 0)
    (h0 : S ≠ []) (M : Finset (Sym2 α)) (hM : IsPerfectMatching S M) :
    ∃ row ∈ perfectMatchings S, matchingOf row = M := by
  rw [perfectMatchings_eq_pmSpec S h0]
  exact (pmGood S hn he).complete M hM

/-- **Count**: `n` objects (`n` even, `≥ 2`) have `(n-1)!!` rows. -/
theorem perfectMatchings_count {α : Type} [DecidableEq α] (S : List α) (he : S.length % 2 = 0) (h0 : S ≠ []) :
    (perfectMatchings S).length = Nat.doubleFactorial (S.length - 1) := by
  rw [perfectMatchings_eq_pmSpec S h0]
  exact length_pmSpec S he

/-- an odd number of objects has no perfect matching: the function returns no rows -/
theorem perfectMatchings_odd {α : Type} [DecidableEq α] (S : List α) (ho : S.length % 2 = 1) :
    perfectMatchings S = [] := by
  have h0 : S ≠ [] := by rintro rfl; simp at ho
  rw [perfectMatchings_eq_pmSpec S h0]
  exact pmSpec_odd S ho

/-- **The `int` argument form** `perfect_matchings(n)` (`num = np.arange(n)`), `n` even and positive: the rows are perfect matchings of `0..n-1`, pairwise
    different as matchings, every perfect matching occurs, and there are `(n-1)!!` rows. -/
theorem perfectMatchingsInt_spec (n : ℕ) (he : n % 2 = 0) (h0 : 0 < n) :
    (∀ row ∈ perfectMatchingsInt n, IsPerfectMatching (List.range n) (matchingOf row)) ∧
    ((perfectMatchingsInt n).map matchingOf).Nodup ∧
    (∀ M, IsPerfectMatching (List.range n) M → ∃ row ∈ perfectMatchingsInt n, matchingOf row = M) ∧
    (perfectMatchingsInt n).length = Nat.doubleFactorial (n - 1) := by
  have hn : (List.range n).Nodup := List.nodup_range
  have hl : (List.range n).length % 2 = 0 := by rw [List.length_range]; exact he
  have hne : List.range n ≠ [] := by
    intro h; have := congrArg List.length h; rw [List.length_range] at this; simp at this; omega
  refine ⟨fun row hrow => perfectMatchings_valid _ hn hl hne row hrow, perfectMatchings_nodup _ hn hl hne,
    fun M hM => perfectMatchings_complete _ hn hl hne M hM, ?_⟩
  have := perfectMatchings_count (List.range n) hl hne
  rwa [List.length_range] at this

/-- non-vacuity: the docstring example, and the count for six objects -/
example : perfectMatchings [0, 1, 2, 3] = [[0, 1, 2, 3], [0, 2, 1, 3], [0, 3, 2, 1]]
    ∧ (perfectMatchings [5, 3, 9, 1, 0, 4]).length = 15 := by decide

/-- every flat index below `d^p` is the tensor index of its digit vector, so the entrywise theorems (`symProj_eq_spec`, `antisymProj_eq_spec`, `refs_eq_spec`) cover all entries -/
theorem index_is_digits {d p : ℕ} (hd : 0 < d) (i : ℕ) (hi : i < d ^ p) :
    ∃ y : Fin p → Fin d, encD y = i :=
  exists_encD_eq hi

/-- **`permutation_operator` is `W_σ`.**  The C01 mirror model of `permutation_operator(d·ones(p), σ)` has entry `(y, x)` equal to `1` iff
    `y = x ∘ σ`, i.e. it is the specification's `permMat σ`. -/
theorem permOp_eq_permMat {d p : ℕ} (f : ℕ → ℕ) (hf : IsPermN p f) (y x : Fin p → Fin d) :
    ((permOp (α := ℤ) p f (constDims d) false (encD y) (encD x) : ℤ) : ℚ) = permMat d p (permOfFn p f hf) y x :=
  congrFun₂ (modelMat_permOp f hf) y x

/-- **Symmetric projection.**  For all `d`, `p` the integer matrix accumulated by `symmetric_projection` (before `/= p!`) is
    entrywise `p!` times the projector `(1/p!) Σ_σ W_σ`. -/
theorem symProj_eq_spec {d p : ℕ} (y x : Fin p → Fin d) :
    ((symProjN d p (encD y) (encD x) : ℤ) : ℚ) = (p.factorial : ℚ) * symSpec d p y x :=
  symProjN_eq y x

/-- **Antisymmetric projection.**  For all `d`, `p` (including the `p = 1` and `d < p` early returns) the integer matrix accumulated
    by `antisymmetric_projection` is entrywise `p!` times the projector `(1/p!) Σ_σ sgn(σ) W_σ`. -/
theorem antisymProj_eq_spec {d p : ℕ} (y x : Fin p → Fin d) :
    ((antisymProjN d p (encD y) (encD x) : ℤ) : ℚ) = (p.factorial : ℚ) * antiSpec d p y x :=
  antisymProjN_eq y x

/-- the executable reference definitions used by the harness are the specification as well -/
theorem refs_eq_spec {d p : ℕ} (y x : Fin p → Fin d) :
    ((symRefN d p (encD y) (encD x) : ℤ) : ℚ) = (p.factorial : ℚ) * symSpec d p y x ∧
    ((antisymRefN d p (encD y) (encD x) : ℤ) : ℚ) = (p.factorial : ℚ) * antiSpec d p y x :=
  ⟨symRefN_eq y x, antisymRefN_eq y x⟩

/-- the driver's row-wise evaluation returns exactly the rows of the models -/
theorem driver_rows (d p N i j : ℕ) (hj : j < N) :
    (symProjRow d p N i)[j]? = some (symProjN d p i j) ∧ (antisymProjRow d p N i)[j]? = some (antisymProjN d p i j) ∧
    (symRefRow d p N i)[j]? = some (symRefN d p i j) ∧ (antisymRefRow d p N i)[j]? = some (antisymRefN d p i j) :=
  ⟨symProjRow_get d p N i j hj, antisymProjRow_get d p N i j hj, symRefRow_get d p N i j hj,
    antisymRefRow_get d p N i j hj⟩

/-- `W_σ W_τ = W_{τσ}`, `W_1 = 1`, `W_σᵀ = W_{σ⁻¹}`: the permutation operators form a (anti-)representation -/
theorem permMat_group {d p : ℕ} (σ τ : Perm (Fin p)) :
    permMat d p σ * permMat d p τ = permMat d p (τ * σ) ∧ permMat d p 1 = 1 ∧ (permMat d p σ)ᵀ = permMat d p σ⁻¹ :=
  ⟨permMat_mul σ τ, permMat_one, permMat_transpose σ⟩

/-- the symmetric projector is Hermitian (real symmetric) -/
theorem symSpec_hermitian (d p : ℕ) : (symSpec d p)ᵀ = symSpec d p := by
  rw [symSpec_eq_charProj, charProj_transpose]

/-- the symmetric projector is idempotent -/
theorem symSpec_idempotent (d p : ℕ) : symSpec d p * symSpec d p = symSpec d p := by
  rw [symSpec_eq_charProj, charProj_mul_self]

/-- the symmetric projector is fixed by every subsystem permutation (on either side) -/
theorem symSpec_fixed {d p : ℕ} (τ : Perm (Fin p)) :
    permMat d p τ * symSpec d p = symSpec d p ∧ symSpec d p * permMat d p τ = symSpec d p :=
  ⟨by rw [symSpec_eq_charProj, permMat_mul_charProj, one_chi, one_smul],
   by rw [symSpec_eq_charProj, charProj_mul_permMat, one_chi, one_smul]⟩

/-- the antisymmetric projector is Hermitian (real symmetric) -/
theorem antiSpec_hermitian (d p : ℕ) : (antiSpec d p)ᵀ = antiSpec d p := charProj_transpose _

/-- the antisymmetric projector is idempotent -/
theorem antiSpec_idempotent (d p : ℕ) : antiSpec d p * antiSpec d p = antiSpec d p := charProj_mul_self _

/-- every subsystem permutation acts on the antisymmetric projector as its sign -/
theorem antiSpec_sign {d p : ℕ} (τ : Perm (Fin p)) :
    permMat d p τ * antiSpec d p = ((Perm.sign τ : ℤ) : ℚ) • antiSpec d p ∧
    antiSpec d p * permMat d p τ = ((Perm.sign τ : ℤ) : ℚ) • antiSpec d p :=
  ⟨permMat_mul_charProj _ τ, charProj_mul_permMat _ τ⟩

/-- the two projectors are orthogonal for `p ≥ 2`: the trivial and the sign character differ -/
theorem symSpec_mul_antiSpec_zero {d p : ℕ} (hp : 2 ≤ p) :
    symSpec d p * antiSpec d p = 0 ∧ antiSpec d p * symSpec d p = 0 := by
  obtain ⟨τ, h⟩ := exists_one_ne_sign hp
  rw [symSpec_eq_charProj]
  exact ⟨charProj_mul_charProj_of_ne τ h, charProj_mul_charProj_of_ne τ h.symm⟩

/-- for `p = 2` they sum to the identity: in `½ Σ_σ (1 + sgn σ) W_σ` only `σ = 1` survives, the other permutation of two copies is odd -/
theorem symSpec_add_antiSpec (d : ℕ) : symSpec d 2 + antiSpec d 2 = 1 := by
  have h : ∀ σ : Perm (Fin 2), σ ≠ 1 → ((Perm.sign σ : ℤ) : ℚ) = -1 := by decide
  rw [symSpec, antiSpec, ← smul_add, ← Finset.sum_add_distrib,
    Finset.sum_eq_single 1 (fun σ _ hσ => by rw [h σ hσ, neg_one_smul, add_neg_cancel]) (fun h => absurd (Finset.mem_univ _) h),
    Perm.sign_one, Units.val_one, Int.cast_one, one_smul, permMat_one, ← two_smul ℚ, smul_smul]
  norm_num [Nat.factorial]

/-- the antisymmetric subspace is `0` when `d < p` (what the early return of the code asserts) -/
theorem antiSpec_zero_of_lt {d p : ℕ} (h : d < p) : antiSpec d p = 0 := antiSpec_eq_zero_of_lt h

/-- idempotence on the integer model: `(p!·P)² = p!·(p!·P)` with the matrix product written as the model's `sumN` -/
theorem symProj_idempotent_model {d p : ℕ} (hd : 0 < d) (i j : ℕ) (hi : i < d ^ p) (hj : j < d ^ p) :
    sumN (d ^ p) (fun k => symProjN d p i k * symProjN d p k j) = (p.factorial : ℤ) * symProjN d p i j :=
  charModel_mul_self 1 modelMat_symProjN_charProj i j hi hj

/-- invariance on the integer model: left multiplication by the model of `permutation_operator(d·ones(p), τ)` fixes the matrix -/
theorem symProj_fixed_model {d p : ℕ} (hd : 0 < d) (f : ℕ → ℕ) (hf : IsPermN p f) (i j : ℕ) (hi : i < d ^ p)
    (hj : j < d ^ p) :
    sumN (d ^ p) (fun k => permOp (α := ℤ) p f (constDims d) false i k * symProjN d p k j) = symProjN d p i j := by
  rw [permOp_mul_charModel 1 modelMat_symProjN_charProj f hf i j hi hj, MonoidHom.one_apply,
    Units.val_one, one_mul]

/-- idempotence of the antisymmetric integer model: `(p!·A)² = p!·(p!·A)` -/
theorem antisymProj_idempotent_model {d p : ℕ} (hd : 0 < d) (i j : ℕ) (hi : i < d ^ p) (hj : j < d ^ p) :
    sumN (d ^ p) (fun k => antisymProjN d p i k * antisymProjN d p k j) = (p.factorial : ℤ) * antisymProjN d p i j :=
  charModel_mul_self Perm.sign modelMat_antisymProjN i j hi hj

/-- sign action on the integer model: left multiplication by the model of `permutation_operator(d·ones(p), τ)` multiplies the accumulated
    antisymmetric matrix by `perm_sign(τ + 1)` (the very call the code makes) -/
theorem antisymProj_sign_model {d p : ℕ} (hd : 0 < d) (f : ℕ → ℕ) (hf : IsPermN p f) (i j : ℕ) (hi : i < d ^ p)
    (hj : j < d ^ p) :
    sumN (d ^ p) (fun k => permOp (α := ℤ) p f (constDims d) false i k * antisymProjN d p k j)
      = permSign p (fun k => (f k : ℤ) + 1) * antisymProjN d p i j := by
  rw [permOp_mul_charModel Perm.sign modelMat_antisymProjN f hf i j hi hj, permSign_one_indexed p f hf]

/-- orthogonality on the integer models, `p ≥ 2` -/
theorem proj_orthogonal_model {d p : ℕ} (hd : 0 < d) (hp : 2 ≤ p) (i j : ℕ) (hi : i < d ^ p) (hj : j < d ^ p) :
    sumN (d ^ p) (fun k => symProjN d p i k * antisymProjN d p k j) = 0 ∧
    sumN (d ^ p) (fun k => antisymProjN d p i k * symProjN d p k j) = 0 := by
  obtain ⟨τ, h⟩ := exists_one_ne_sign hp
  exact ⟨charModel_mul_of_ne τ h modelMat_symProjN_charProj modelMat_antisymProjN i j hi hj,
    charModel_mul_of_ne τ h.symm modelMat_antisymProjN modelMat_symProjN_charProj i j hi hj⟩

/-- `p = 2` on the integer models: `2!·S + 2!·A = 2·1` entrywise -/
theorem proj_sum_model {d : ℕ} (hd : 0 < d) (i j : ℕ) (hi : i < d ^ 2) (hj : j < d ^ 2) :
    symProjN d 2 i j + antisymProjN d 2 i j = if i = j then 2 else 0 :=
  eq_of_modelMat_eq (A := fun i j => symProjN d 2 i j + antisymProjN d 2 i j) (C := fun i j => if i = j then 2 else 0)
    (by rw [modelMat_add, modelMat_symProjN, modelMat_antisymProjN, ← smul_add, symSpec_add_antiSpec, modelMat_scalar]; rfl) i j hi hj

/-- **rank = trace for idempotents** (over `ℚ`): the linear-algebra fact that turns the two trace formulas into rank formulas -/
theorem rank_eq_trace_of_idempotent {ι : Type} [Fintype ι] [DecidableEq ι] (P : Matrix ι ι ℚ) (h : P * P = P) :
    (P.rank : ℚ) = P.trace :=
  rank_eq_trace_of_idempotent_field P h

/-- **Burnside count.**  Summed over all subsystem permutations `σ`, the number of digit vectors fixed by `σ` (which is `tr W_σ`) is
    `p!` times the number of multisets of `p` digits out of `d`. -/
theorem fixed_digit_vectors_count (d p : ℕ) :
    ∑ σ : Perm (Fin p), (Finset.univ.filter (fun x : Fin p → Fin d => x = x ∘ σ)).card = Nat.multichoose d p * p.factorial :=
  sum_card_fixed

/-- **Trace of the symmetric projector**, all `d`, `p`: `C(d+p-1, p)`. -/
theorem symSpec_trace (d p : ℕ) : (symSpec d p).trace = (Nat.choose (d + p - 1) p : ℚ) := trace_symSpec

/-- **Trace of the antisymmetric projector**, all `d`, `p`: `C(d, p)`. -/
theorem antiSpec_trace (d p : ℕ) : (antiSpec d p).trace = (Nat.choose d p : ℚ) := trace_antiSpec

/-- **Rank of the symmetric projector**, all local dimensions `d` and numbers of copies `p`: `C(d+p-1, p)`. -/
theorem symSpec_rank (d p : ℕ) : (symSpec d p).rank = Nat.choose (d + p - 1) p :=
  rank_eq_of_trace_eq (symSpec_idempotent d p) trace_symSpec

/-- **Rank of the antisymmetric projector**, all `d`, `p`: `C(d, p)` (in particular `0` for `d < p`). -/
theorem antiSpec_rank (d p : ℕ) : (antiSpec d p).rank = Nat.choose d p :=
  rank_eq_of_trace_eq (antiSpec_idempotent d p) trace_antiSpec

/-- the trace of the integer matrix accumulated by `symmetric_projection` / `antisymmetric_projection` (what the driver reports as `trace`) is
    `p!` times the binomial coefficient, for all `d ≥ 1`, `p` -/
theorem proj_trace_model {d p : ℕ} (hd : 0 < d) :
    traceN (d ^ p) (symProjN d p) = (p.factorial : ℤ) * (Nat.choose (d + p - 1) p : ℤ) ∧
    traceN (d ^ p) (antisymProjN d p) = (p.factorial : ℤ) * (Nat.choose d p : ℤ) :=
  ⟨traceN_model modelMat_symProjN trace_symSpec, traceN_model modelMat_antisymProjN trace_antiSpec⟩

/-- the integer matrices of the mirror models, read as rational matrices on digit vectors, have these ranks too -/
theorem proj_rank_model (d p : ℕ) :
    (modelMat (d := d) (p := p) (symProjN d p)).rank = Nat.choose (d + p - 1) p ∧
    (modelMat (d := d) (p := p) (antisymProjN d p)).rank = Nat.choose d p :=
  ⟨by rw [modelMat_symProjN, rank_factorial_smul, symSpec_rank],
   by rw [modelMat_antisymProjN, rank_factorial_smul, antiSpec_rank]⟩

/-- cross-check of the general formulas by kernel evaluation of the integer reference model: `3!·C(5,3)` and `3!·C(3,3)` at `d = p = 3` -/
example : traceN (3 ^ 3) (symRefN 3 3) = 60 ∧ traceN (3 ^ 3) (antisymRefN 3 3) = 6 ∧ Nat.choose (3 + 3 - 1) 3 = 10 := by
  decide +kernel

/-- **The symmetric projector is the only matrix with the properties the statement lists**: a symmetric idempotent that is fixed by every subsystem
    permutation and has rank `C(d+p-1, p)` is `symSpec d p`.  (So the laws the harness evaluates on the implementation's output pin the output down.) -/
theorem symSpec_unique {d p : ℕ} (Q : Matrix (Fin p → Fin d) (Fin p → Fin d) ℚ) (hT : Qᵀ = Q) (hQ : Q * Q = Q)
    (hfix : ∀ τ : Perm (Fin p), permMat d p τ * Q = Q) (hr : Q.rank = Nat.choose (d + p - 1) p) : Q = symSpec d p := by
  rw [symSpec_eq_charProj]
  refine charProj_unique 1 Q hT hQ (fun τ => ?_) (by rw [← symSpec_eq_charProj, symSpec_rank, hr])
  rw [hfix τ, one_chi, one_smul]

/-- **The antisymmetric projector is the only** symmetric idempotent on which every subsystem permutation acts as its sign and that has rank `C(d, p)`. -/
theorem antiSpec_unique {d p : ℕ} (Q : Matrix (Fin p → Fin d) (Fin p → Fin d) ℚ) (hT : Qᵀ = Q) (hQ : Q * Q = Q)
    (hsgn : ∀ τ : Perm (Fin p), permMat d p τ * Q = ((Perm.sign τ : ℤ) : ℚ) • Q) (hr : Q.rank = Nat.choose d p) :
    Q = antiSpec d p :=
  charProj_unique Perm.sign Q hT hQ hsgn (hr.trans (antiSpec_rank d p).symm)

/-- the hypotheses are satisfiable: the projectors themselves meet them -/
example (d p : ℕ) : (symSpec d p)ᵀ = symSpec d p ∧ symSpec d p * symSpec d p = symSpec d p ∧
    (∀ τ : Perm (Fin p), permMat d p τ * symSpec d p = symSpec d p) ∧ (symSpec d p).rank = Nat.choose (d + p - 1) p :=
  ⟨symSpec_hermitian d p, symSpec_idempotent d p, fun τ => (symSpec_fixed τ).1, symSpec_rank d p⟩

/-- `W_τ` permutes the tensor factors: `(W_τ v)[y] = v[y ∘ τ⁻¹]` -/
theorem permMat_action {d p : ℕ} (τ : Perm (Fin p)) (v : (Fin p → Fin d) → ℚ) (y : Fin p → Fin d) :
    (permMat d p τ).mulVec v y = v (y ∘ (τ⁻¹ : Perm (Fin p))) := by
  rw [permMat_eq_permMatrix, Matrix.permMatrix_mulVec]
  rfl

/-- **The symmetric projector projects onto the permutation-invariant vectors**: `v` is in its range iff `P v = v` iff every subsystem permutation
    fixes `v`. -/
theorem symSpec_range {d p : ℕ} (v : (Fin p → Fin d) → ℚ) :
    (v ∈ LinearMap.range (symSpec d p).mulVecLin ↔ ∀ τ : Perm (Fin p), (permMat d p τ).mulVec v = v) ∧
    ((symSpec d p).mulVec v = v ↔ ∀ τ : Perm (Fin p), (permMat d p τ).mulVec v = v) := by
  have h : (symSpec d p).mulVec v = v ↔ ∀ τ : Perm (Fin p), (permMat d p τ).mulVec v = v := by
    simp only [symSpec_eq_charProj, charProj_mulVec_eq_iff, one_chi, one_smul]
  exact ⟨(mem_range_iff_of_idempotent _ (symSpec_idempotent d p) v).trans h, h⟩

/-- **The antisymmetric projector projects onto the vectors on which every permutation acts as its sign.** -/
theorem antiSpec_range {d p : ℕ} (v : (Fin p → Fin d) → ℚ) :
    (v ∈ LinearMap.range (antiSpec d p).mulVecLin ↔
      ∀ τ : Perm (Fin p), (permMat d p τ).mulVec v = ((Perm.sign τ : ℤ) : ℚ) • v) ∧
    ((antiSpec d p).mulVec v = v ↔ ∀ τ : Perm (Fin p), (permMat d p τ).mulVec v = ((Perm.sign τ : ℤ) : ℚ) • v) :=
  ⟨(mem_range_iff_of_idempotent _ (antiSpec_idempotent d p) v).trans (charProj_mulVec_eq_iff _ v), charProj_mulVec_eq_iff _ v⟩

/-- the Mathlib-free binomial coefficient of the model is `Nat.choose` -/
theorem binom_is_choose (n k : ℕ) : binom n k = Nat.choose n k := binom_eq_choose n k

/-- **Shape of the isometry forms.**  For every `d` and `p ≥ 1`, along every branch (`p = 1` early return, the `d < p` early return with
    `d^p·(1 - partial) = 0` columns, and `orth`), `partial=True` returns `d^p` rows and as many columns as the rank of the projector. -/
theorem partial_shape (d p : ℕ) (hp : 1 ≤ p) :
    (symForm d p true).shape = (d ^ p, (symSpec d p).rank) ∧ (antisymForm d p true).shape = (d ^ p, (antiSpec d p).rank) := by
  rw [symSpec_rank, antiSpec_rank]
  unfold symForm antisymForm
  by_cases h1 : p = 1
  · subst h1
    simp [PartialForm.shape]
  · by_cases h2 : d < p
    · simp [h1, h2, PartialForm.shape, binom_eq_choose, Nat.choose_eq_zero_of_lt h2]
    · simp [h1, h2, PartialForm.shape, binom_eq_choose]

/-- **The early returns are right**, `partial` on or off: for one copy both projectors are the identity (so `np.eye(dim)` is the projector and an
    isometry onto its range at once); for `d < p` the antisymmetric projector is `0` (no columns). -/
theorem early_returns (d : ℕ) : symSpec d 1 = 1 ∧ antiSpec d 1 = 1 ∧ ∀ p, d < p → antiSpec d p = 0 :=
  ⟨by rw [symSpec_eq_charProj, charProj_p_one], charProj_p_one _, fun _ h => antiSpec_eq_zero_of_lt h⟩

/-- **What the harness measures implies the isometry contract** (any field `K` of characteristic `0`, e.g. `ℝ` where the returned doubles live).
    If `P` is a symmetric idempotent, the columns of `V` are orthonormal (`VᵀV = 1`), lie in the range of `P` (`P V = V`), and there are `rank P`
    of them, then `V Vᵀ = P`: the columns span exactly the range of `P`. -/
theorem isometry_contract_of_residuals {K : Type} [Field K] [CharZero K] {ι κ : Type} [Fintype ι] [DecidableEq ι] [Fintype κ]
    [DecidableEq κ] (P : Matrix ι ι K) (V : Matrix ι κ K) (hT : Pᵀ = P) (hP : P * P = P) (hV : Vᵀ * V = 1) (hPV : P * V = V)
    (hk : Fintype.card κ = P.rank) : V * Vᵀ = P :=
  isometry_of_residuals P V hT hP hV hPV hk

/-- **Consequences of the contract.**  If `VᵀV = 1` and `V Vᵀ = P` then `V` has exactly `rank P` columns, `P V = V`, and the column space of
    `V` is the range of `P`. -/
theorem isometry_contract_consequences {K : Type} [Field K] [CharZero K] {ι κ : Type} [Fintype ι] [DecidableEq ι] [Fintype κ]
    [DecidableEq κ] (P : Matrix ι ι K) (V : Matrix ι κ K) (hV : Vᵀ * V = 1) (hVV : V * Vᵀ = P) :
    Fintype.card κ = P.rank ∧ P * V = V ∧ LinearMap.range V.mulVecLin = LinearMap.range P.mulVecLin := by
  have hPV : P * V = V := by rw [← hVV, Matrix.mul_assoc, hV, Matrix.mul_one]
  have hP : P * P = P := by rw [← hVV, Matrix.mul_assoc, ← Matrix.mul_assoc Vᵀ, hV, Matrix.one_mul]
  refine ⟨?_, hPV, ?_⟩
  · exact (rank_eq_of_trace_eq hP (by rw [← hVV, Matrix.trace_mul_comm, hV, Matrix.trace_one])).symm
  · apply le_antisymm
    · rintro _ ⟨w, rfl⟩
      refine ⟨V.mulVec w, ?_⟩
      show P.mulVec (V.mulVec w) = V.mulVec w
      rw [Matrix.mulVec_mulVec, hPV]
    · rintro _ ⟨w, rfl⟩
      refine ⟨Vᵀ.mulVec w, ?_⟩
      show V.mulVec (Vᵀ.mulVec w) = P.mulVec w
      rw [Matrix.mulVec_mulVec, hVV]

/-- **The contract for the two projectors**, entries read in any field `K` of characteristic `0`: a matrix with orthonormal columns, fixed by the
    symmetric (antisymmetric) projector, with `C(d+p-1, p)` (`C(d, p)`) columns satisfies `V Vᵀ = P`. -/
theorem partial_contract {K : Type} [Field K] [CharZero K] {d p : ℕ} {κ : Type} [Fintype κ] [DecidableEq κ]
    (V : Matrix (Fin p → Fin d) κ K) (hV : Vᵀ * V = 1) :
    (castMat K (symSpec d p) * V = V → Fintype.card κ = Nat.choose (d + p - 1) p → V * Vᵀ = castMat K (symSpec d p)) ∧
    (castMat K (antiSpec d p) * V = V → Fintype.card κ = Nat.choose d p → V * Vᵀ = castMat K (antiSpec d p)) :=
  ⟨fun h hk => isometry_of_residuals_cast _ (symSpec_hermitian d p) (symSpec_idempotent d p) V hV h
    (hk.trans (symSpec_rank d p).symm),
   fun h hk => isometry_of_residuals_cast _ (antiSpec_hermitian d p) (antiSpec_idempotent d p) V hV h
    (hk.trans (antiSpec_rank d p).symm)⟩

/-- non-vacuity of the contract: the column `(3/5, 4/5)` and the projector onto its span -/
example : let P : Matrix (Fin 2) (Fin 2) ℚ := !![9/25, 12/25; 12/25, 16/25]
    let V : Matrix (Fin 2) (Fin 1) ℚ := !![3/5; 4/5]
    Pᵀ = P ∧ P * P = P ∧ Vᵀ * V = 1 ∧ P * V = V ∧ V * Vᵀ = P := by
  decide +kernel

/-- the branches of the control-flow model on the property's corner cases -/
example : symForm 3 1 true = .eye 3 ∧ antisymForm 2 3 true = .zeros 8 0 ∧ antisymForm 2 3 false = .zeros 8 8
    ∧ symForm 3 4 true = .orth 81 15 ∧ antisymForm 4 2 true = .orth 16 6 ∧ antisymForm 4 4 false = .full 256 := by decide

/-- non-vacuity: `2!·symmetric_projection(2, 2)` and `2!·antisymmetric_projection(2, 2)` as the mirror models compute them -/
example : (List.range 4).map (fun i => (List.range 4).map (symProjN 2 2 i)) = [[2,0,0,0],[0,1,1,0],[0,1,1,0],[0,0,0,2]]
    ∧ (List.range 4).map (fun i => (List.range 4).map (antisymProjN 2 2 i)) = [[0,0,0,0],[0,1,-1,0],[0,-1,1,0],[0,0,0,0]] := by
  decide +kernel

end Toq.C18
