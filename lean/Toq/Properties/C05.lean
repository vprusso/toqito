import Toq.Model.ChannelOps
import Toq.Spec.ChannelOps
import Toq.Proofs.ChannelOps
import Toq.Spec.ChannelOpsExtra
import Toq.Proofs.ChannelOpsExtra
import Toq.Proofs.PartialTrace
/-!
# C05 — dual and complementary maps satisfy their defining identities

Mirror models: `dualKraus`, `dualChoi` (`dual_channel.py`), `complementary` (`complementary_channel.py`) in
`Toq/Model/ChannelOps.lean`, applied through the `apply_channel` models of C04.  The Hilbert–Schmidt inner
product is `⟨Y, Z⟩ = tr(Yᴴ Z)` (`Toq.ChannelSpec.hsInner`).  Scalars: an arbitrary commutative star-semiring
(a commutative star-ring for the statements about characteristic polynomials, an ordered one for positive
semidefiniteness).
-/
namespace Toq.C05
open Toq.ChannelOps Toq.ChannelSpec Toq.ChannelOps.Mat

variable {α : Type} [CommSemiring α] [StarRing α]

/-- **The dual list denotes the family of adjoints.**  In every list form (flat, column, row, pairs, and
    whatever else the cascade accepts) conjugate-transposing every operator commutes with the cascade of
    `apply_channel`: the dual of a list read as `(A_k, B_k)` is read as `(A_kᴴ, B_kᴴ)`. -/
theorem dual_cascade (phi : KrausArg α) :
    (dualKraus phi).split = phi.split.map (fun ab => (ab.1.map Mat.ct, ab.2.map Mat.ct)) :=
  split_dualKraus phi

/-- **Adjoint identity (Kraus forms).**  For every list form, every family `(A_k, B_k)` of any rank and any
    input/output (row and column) dimensions, and all operators `X`, `Y`:
    `⟨Y, Φ(X)⟩ = ⟨Φ*(Y), X⟩`, where `Φ(X)` and `Φ*(Y)` are what `apply_channel` returns on the list and on
    the list returned by `dual_channel`. -/
theorem dual_adjoint_kraus (X Y : Mat α) (phi : KrausArg α) (as bs : List (Mat α))
    (hsplit : phi.split = some (as, bs)) (ha : Shaped as Y.r X.r) (hb : Shaped bs Y.c X.c)
    (hl : as.length = bs.length) :
    ∃ M D, applyKraus X phi = some M ∧ applyKraus Y (dualKraus phi) = some D ∧
      hsInner Y.r Y.c Y.e M.e = hsInner X.r X.c D.e X.e :=
  ⟨_, _, applyKraus_of_split X phi as bs hsplit, applyKraus_dualKraus Y phi as bs hsplit,
    dual_adjoint_lists X Y as bs ha hb hl⟩

/-- The dual list acts as the Hilbert–Schmidt adjoint map `Y ↦ Σ_k A_kᴴ · Y · B_k` (Mathlib vocabulary). -/
theorem dual_kraus_acts_as_adjoint (Y : Mat α) (phi : KrausArg α) (as bs : List (Mat α)) (di0 di1 : Nat)
    (hsplit : phi.split = some (as, bs)) (ha : Shaped as Y.r di0) (hb : Shaped bs Y.c di1)
    (hl : as.length = bs.length) :
    ∃ D, applyKraus Y (dualKraus phi) = some D ∧
      toM di0 di1 D.e = ∑ k : Fin as.length,
        (toM Y.r di0 (fam as k)).conjTranspose * toM Y.r Y.c Y.e * toM Y.c di1 (fam bs k) :=
  ⟨_, applyKraus_dualKraus Y phi as bs hsplit, toM_applyKrausLists_dual Y as bs di0 di1 ha hb hl⟩

/-- **Adjoint identity (Choi form).**  For *any* matrix `J` of shape `(di0·do0) × (di1·do1)` (Hermitian or
    not), `dual_channel(J, [[di0, do0], [di1, do1]])` (entrywise conjugate, then `swap` with those row/column
    dimensions) is a matrix `D` of shape `(do0·di0) × (do1·di1)` with
    `⟨Y, Φ_J(X)⟩ = ⟨Φ_D(Y), X⟩` for all `X` (`di0 × di1`) and `Y` (`do0 × do1`), where `Φ_J`, `Φ_D` are the
    Choi-form evaluations of `apply_channel`. -/
theorem dual_adjoint_choi (J X Y : Mat α) (do0 do1 : Nat)
    (hxr : 0 < X.r) (hxc : 0 < X.c) (hyr : Y.r = do0) (hyc : Y.c = do1) (h0 : 0 < do0) (h1 : 0 < do1)
    (hJr : J.r = X.r * do0) (hJc : J.c = X.c * do1) :
    ∃ D, dualChoi J (.mat X.r do0 X.c do1) = .ok D ∧ D.r = do0 * X.r ∧ D.c = do1 * X.c ∧
      hsInner do0 do1 Y.e (applyChoi X J).e = hsInner X.r X.c (applyChoi Y D).e X.e := by
  obtain ⟨D, hD, hDr, hDc, hDe⟩ := dualChoi_e J X.r do0 X.c do1 hJr hJc
  refine ⟨D, hD, hDr, hDc, ?_⟩
  have eY : ∀ i j, i < X.r → j < X.c → (applyChoi Y D).e i j = applyChoiSpec D.e do0 do1 X.r X.c Y.e i j := by
    intro i j hi hj
    rw [applyChoi_e Y D X.r X.c (hyr ▸ h0) (hyc ▸ h1) (by rw [hDr, hyr]) (by rw [hDc, hyc]) i j hi hj, hyr, hyc]
  rw [hsInner_congr_right do0 do1 Y.e _ _ (applyChoi_e X J do0 do1 hxr hxc hJr hJc),
    hsInner_congr_left X.r X.c _ _ X.e eY]
  exact dual_adjoint_choiSpec J.e D.e X.e Y.e X.r X.c do0 do1 hDe

/-- **The Choi-form dual is the Choi matrix of the adjoint map.**  If `J` has the entries of
    `J(Φ)`, `Φ = Σ_k A_k · B_kᴴ`, then `dual_channel(J, dims)` has the entries of `J(Φ*)`,
    `Φ* = Σ_k A_kᴴ · (B_kᴴ)ᴴ`. -/
theorem dual_choi_is_choi_of_adjoint (r : Nat) (A B : Nat → Nat → Nat → α) (J : Mat α) (di0 do0 di1 do1 : Nat)
    (hJr : J.r = di0 * do0) (hJc : J.c = di1 * do1)
    (hJ : ∀ i a j b, i < di0 → a < do0 → j < di1 → b < do1 →
      J.e (i * do0 + a) (j * do1 + b) = applySpec r A B di0 di1 (unit i j) a b) :
    ∃ D, dualChoi J (.mat di0 do0 di1 do1) = .ok D ∧
      ∀ a i b j, a < do0 → i < di0 → b < do1 → j < di1 →
        D.e (a * di0 + i) (b * di1 + j) = applySpec r (adj A) (adj B) do0 do1 (unit a b) i j := by
  obtain ⟨D, hD, _, _, hDe⟩ := dualChoi_e J di0 do0 di1 do1 hJr hJc
  refine ⟨D, hD, fun a i b j ha hi hb hj => ?_⟩
  rw [hDe a i b j ha hi hb hj, hJ i a j b hi ha hj hb, ← choiSpec_entry r A B di0 di1 do0 do1 i a j b ha hb,
    ← choiSpec_adj r A B di0 di1 do0 do1 a i b j ha hi hb hj, choiSpec_entry _ _ _ _ _ _ _ a i b j hi hj]

/-- The other accepted forms of `dims` mean the same 2×2 array: `[m, n]` is `[[m, n], [m, n]]`, an integer
    `d` is `[[d, d], [d, d]]`, and omitted `dims` are guessed as the square roots of the shape. -/
theorem dual_choi_dims_forms (J : Mat α) (m n d : Nat) :
    dualChoi J (.vec m n) = dualChoi J (.mat m n m n) ∧
    dualChoi J (.int d) = dualChoi J (.mat d d d d) ∧
    dualChoi J .none = dualChoi J (.mat (Nat.sqrt J.r) (Nat.sqrt J.r) (Nat.sqrt J.c) (Nat.sqrt J.c)) := by
  refine ⟨rfl, rfl, rfl⟩

/-- **The dual of the dual is the original list** (hence acts as `Φ`), in every list form. -/
theorem dual_dual_acts_as_self (phi : KrausArg α) : dualKraus (dualKraus phi) = phi := by
  cases phi with
  | flat l => simp only [dualKraus, map_ct_ct]
  | nested ll => simp [dualKraus, List.map_map, Function.comp_def, ct_ct]

/-- **Double dual, Choi form**: applying `dual_channel` twice (the second time with input and output
    dimensions exchanged) returns the original entries. -/
theorem dual_dual_choi (J : Mat α) (di0 do0 di1 do1 : Nat) (hJr : J.r = di0 * do0) (hJc : J.c = di1 * do1) :
    ∃ D DD, dualChoi J (.mat di0 do0 di1 do1) = .ok D ∧ dualChoi D (.mat do0 di0 do1 di1) = .ok DD ∧
      DD.r = J.r ∧ DD.c = J.c ∧
      ∀ i a j b, i < di0 → a < do0 → j < di1 → b < do1 →
        DD.e (i * do0 + a) (j * do1 + b) = J.e (i * do0 + a) (j * do1 + b) := by
  obtain ⟨D, hD, hDr, hDc, hDe⟩ := dualChoi_e J di0 do0 di1 do1 hJr hJc
  obtain ⟨DD, hDD, hDDr, hDDc, hDDe⟩ := dualChoi_e D do0 di0 do1 di1 hDr hDc
  refine ⟨D, DD, hD, hDD, by rw [hDDr, hJr], by rw [hDDc, hJc], ?_⟩
  intro i a j b hi ha hj hb
  rw [hDDe i a j b hi ha hj hb, hDe a i b j ha hi hb hj, conj_eq_star, conj_eq_star, star_star]

/-- **`Φ` preserves the trace exactly when `Φ*` is unital** (the mirror image of `unital_iff_dual_tp`). -/
theorem tp_iff_dual_unital (as bs : List (Mat α)) (d_in d_out : Nat)
    (ha : Shaped as d_out d_in) (hb : Shaped bs d_out d_in) (hl : as.length = bs.length) :
    (∀ X : Nat → Nat → α, tr d_out (applyKrausLists ⟨d_in, d_in, X⟩ as bs).e = tr d_in X)
      ↔ ∀ a b, a < d_in → b < d_in →
        (applyKrausLists (identity d_out) (as.map Mat.ct) (bs.map Mat.ct)).e a b = (identity (α := α) d_in).e a b := by
  have e : ∀ X : Nat → Nat → α, (applyKrausLists ⟨d_in, d_in, X⟩ as bs).e
      = applySpec as.length (fam as) (fam bs) d_in d_in X := fun X =>
    applyKrausLists_eq ⟨d_in, d_in, X⟩ as bs d_out d_out ha hb hl
  have u : (applyKrausLists (identity d_out) (as.map Mat.ct) (bs.map Mat.ct)).e
      = applySpec as.length (adj (fam as)) (adj (fam bs)) d_out d_out idMat :=
    applyKrausLists_ct_eq (identity d_out) as bs d_in d_in ha hb hl
  simp only [e, u]
  exact applySpec_tp_iff_adjoint as.length (fam as) (fam bs) d_in d_out

/-- **`Φ` is unital exactly when `Φ*` preserves the trace.**  For `Φ = Σ_k A_k · B_kᴴ` on square spaces
    (`A_k`, `B_k` of shape `d_out × d_in`): `Φ(1) = 1` iff `tr Φ*(Y) = tr Y` for all `Y`, where `Φ(1)` and
    `Φ*(Y)` are computed by the `apply_channel` model on the list and on the dual list. -/
theorem unital_iff_dual_tp (as bs : List (Mat α)) (d_in d_out : Nat)
    (ha : Shaped as d_out d_in) (hb : Shaped bs d_out d_in) (hl : as.length = bs.length) :
    (∀ a b, a < d_out → b < d_out →
        (applyKrausLists (identity d_in) as bs).e a b = (identity (α := α) d_out).e a b)
      ↔ ∀ Y : Nat → Nat → α,
        tr d_in (applyKrausLists ⟨d_out, d_out, Y⟩ (as.map Mat.ct) (bs.map Mat.ct)).e = tr d_out Y := by
  -- the dual of the dual list is the list, so this is `tp_iff_dual_unital` for `Φ*`, read from right to left
  have h := tp_iff_dual_unital (as.map Mat.ct) (bs.map Mat.ct) d_out d_in (shaped_map_ct as _ _ ha) (shaped_map_ct bs _ _ hb)
    (by rw [List.length_map, List.length_map, hl])
  rw [map_ct_ct, map_ct_ct] at h
  exact h.symm

/-- **`Φ` preserves the trace ⇔ `Σ_k B_kᴴ A_k = 1`.**  For `Φ(X) = Σ_k A_k X B_kᴴ` (operators of shape
    `d_out × d_in`, any number of them; for a completely positive list `B = A` this is the completeness
    relation `Σ K_kᴴ K_k = 1` that `complementary_channel` tests): `tr Φ(X) = tr X` for *all* `X`, with `Φ(X)` the
    output of the `apply_channel` model, iff the `(j, i)` entry `Σ_k Σ_a conj(B_k[a,j])·A_k[a,i]` is `δ_ji`. -/
theorem tp_iff_kraus_complete (as bs : List (Mat α)) (d_in d_out : Nat)
    (ha : Shaped as d_out d_in) (hb : Shaped bs d_out d_in) (hl : as.length = bs.length) :
    (∀ X : Nat → Nat → α, tr d_out (applyKrausLists ⟨d_in, d_in, X⟩ as bs).e = tr d_in X)
      ↔ ∀ j i, j < d_in → i < d_in → sumBdA as.length (fam as) (fam bs) d_out j i = idMat j i := by
  have e : ∀ X : Nat → Nat → α, (applyKrausLists ⟨d_in, d_in, X⟩ as bs).e
      = applySpec as.length (fam as) (fam bs) d_in d_in X := fun X =>
    applyKrausLists_eq ⟨d_in, d_in, X⟩ as bs d_out d_out ha hb hl
  simp only [e]
  exact applySpec_tp_iff as.length (fam as) (fam bs) d_in d_out

omit [StarRing α] in
/-- **Choi form: `Φ_J` preserves the trace ⇔ `Tr_out J = 1`.**  For *any* matrix `J` of shape
    `(d_in·d_out) × (d_in·d_out)`: `tr Φ_J(X) = tr X` for all `X`, with `Φ_J(X)` the output of the Choi branch of
    `apply_channel`, iff the partial trace of `J` over the output factor, `Σ_a J[(i,a),(j,a)]`, is `δ_ij`. -/
theorem tp_iff_choi_ptrace (J : Mat α) (d_in d_out : Nat) (hdi : 0 < d_in)
    (hJr : J.r = d_in * d_out) (hJc : J.c = d_in * d_out) :
    (∀ X : Nat → Nat → α, tr d_out (applyChoi ⟨d_in, d_in, X⟩ J).e = tr d_in X)
      ↔ ∀ i j, i < d_in → j < d_in → ptraceOut J.e d_out i j = idMat i j := by
  have e : ∀ X : Nat → Nat → α, tr d_out (applyChoi ⟨d_in, d_in, X⟩ J).e
      = tr d_out (applyChoiSpec J.e d_in d_in d_out d_out X) :=
    fun X => sumN_congr _ _ _ fun a ha => applyChoi_e ⟨d_in, d_in, X⟩ J d_out d_out hdi hdi hJr hJc a a ha ha
  simp only [e]
  exact choiSpec_tp_iff J.e d_in d_out

omit [StarRing α] in
/-- **Choi form: `Φ_J` is unital ⇔ `Tr_in J = 1`.**  `Φ_J(1) = 1` iff the partial trace of `J` over the input
    factor, `Σ_i J[(i,a),(i,b)]`, is `δ_ab`. -/
theorem unital_iff_choi_ptrace (J : Mat α) (d_in d_out : Nat) (hdi : 0 < d_in)
    (hJr : J.r = d_in * d_out) (hJc : J.c = d_in * d_out) :
    (∀ a b, a < d_out → b < d_out → (applyChoi (identity d_in) J).e a b = idMat a b)
      ↔ ∀ a b, a < d_out → b < d_out → ptraceIn J.e d_in d_out a b = idMat a b :=
  forall_congr' fun a => forall_congr' fun b => imp_congr_right fun ha => imp_congr_right fun hb => by
    rw [applyChoi_identity_e J d_in d_out hdi hJr hJc a b ha hb]

omit [StarRing α] in
/-- **The two partial traces of the Choi matrix are `partial_trace`.**  `Tr_out J` / `Tr_in J` of the two
    criteria above are what the mirror model of `toqito.channels.partial_trace` (property C02) returns for
    `partial_trace(J, [1], [d_in, d_out])` / `partial_trace(J, [0], [d_in, d_out])`. -/
theorem choi_ptrace_is_partial_trace (J : Nat → Nat → α) (d_in d_out : Nat) (hdi : 0 < d_in) (hdo : 0 < d_out) :
    (∀ i j, i < d_in → j < d_in →
      Toq.PartialOps.partialTrace J 2 (fnOfList [d_in, d_out]) [1] i j = ptraceOut J d_out i j) ∧
    (∀ a b, a < d_out → b < d_out →
      Toq.PartialOps.partialTrace J 2 (fnOfList [d_in, d_out]) [0] a b = ptraceIn J d_in d_out a b) :=
  ⟨fun i j hi hj => Toq.PTrace.partialTrace_two_snd J d_in d_out i j hi hj,
   fun a b ha hb => Toq.PTrace.partialTrace_two_fst J d_in d_out a b ha hb⟩

/-- **The dual keeps the reading of the list**: a list that the cascade of `apply_channel` reads as a
    completely positive map (one operator list used on both sides) is returned by `dual_channel` as a list that
    is read as completely positive again, and a list of left/right pairs stays a list of pairs. -/
theorem dual_keeps_cp_reading (phi : KrausArg α) : (dualKraus phi).isCP = phi.isCP := by
  cases phi with
  | flat l => rfl
  | nested ll => exact nestedIsCP_map Mat.ct ll

/-- **Guard and result.**  On a non-empty list of `d × d` operators with `Σ_k K_kᴴ K_k = s·1` exactly (the
    driver passes `scale·K` and `s = scale²`) the model passes all guards and returns the `d` operators
    `Kᶜ_row` of shape `r × d` with `Kᶜ_row[i, :] = K_i[row, :]`. -/
theorem compl_guard_and_result [DecidableEq α] (ops : List (Mat α)) (d : Nat) (s : α)
    (hs : Shaped ops d d) (hne : ops ≠ [])
    (hcomplete : ∀ i j, i < d → j < d → (sumKdK ops d).e i j = if i = j then s else 0) :
    complementary ops s = .ok (complList ops d) ∧ (complList ops d).length = d ∧
      Shaped (complList ops d) ops.length d ∧
      ∀ row i c, row < d → fam (complList ops d) row i c = fam ops i row c :=
  ⟨complementary_ok ops d s hs hne hcomplete, complList_length ops d, complList_shaped ops d,
    fun row i c h => fam_complList ops d row i c h⟩

/-- The guard computes `Σ_k K_kᴴ K_k`. -/
theorem compl_guard_sum (ops : List (Mat α)) (d : Nat) (hs : Shaped ops d d) (a b : Nat) :
    (sumKdK ops d).e a b
      = sumN ops.length (fun k => sumN d (fun row => HasConj.conj (fam ops k row a) * fam ops k row b)) :=
  sumKdK_e ops d hs a b

/-- **Entries of the complementary map.**  Applying the returned operators to `ρ` gives the `r × r` matrix
    with entry `(i, j)` equal to `tr(K_i ρ K_jᴴ)`: the environment marginal of the Stinespring dilation
    `ρ ↦ Σ_ij K_i ρ K_jᴴ ⊗ |i⟩⟨j|`. -/
theorem compl_entry (rho : Mat α) (ops : List (Mat α)) (d : Nat) (hr : rho.r = d) (hc : rho.c = d) (i j : Nat) :
    (applyKrausLists rho (complList ops d) (complList ops d)).e i j
      = tr d (applySpec 1 (fun _ => fam ops i) (fun _ => fam ops j) d d rho.e) :=
  compl_entry_lists rho ops d hr hc i j

/-- **The complementary map preserves the trace** whenever `Σ_k K_kᴴ K_k = 1`. -/
theorem compl_trace_preserving (rho : Mat α) (ops : List (Mat α)) (d : Nat) (hr : rho.r = d) (hc : rho.c = d)
    (hs : Shaped ops d d)
    (hcomplete : ∀ a b, a < d → b < d → (sumKdK ops d).e a b = if a = b then 1 else 0) :
    tr ops.length (applyKrausLists rho (complList ops d) (complList ops d)).e = tr d rho.e := by
  obtain ⟨r0, c0, e0⟩ := rho
  simp only at hr hc
  subst hr; subst hc
  have hsh := complList_shaped ops c0
  rw [applyKrausLists_eq ⟨c0, c0, e0⟩ _ _ ops.length ops.length hsh hsh rfl, complList_length]
  exact (applySpec_tp_iff c0 _ _ c0 ops.length).mpr
    (fun j i hj hi => (sumBdA_complList ops c0 hs j i).trans (hcomplete j i hj hi)) e0

/-- **The complementary family is complete again.**  For `d` operators of shape `d × d` (the case in which
    `complementary_channel` accepts its own output) `Σ_row (Kᶜ_row)ᴴ Kᶜ_row = Σ_i K_iᴴ K_i`, entry by entry of what the
    guard computes. -/
theorem compl_complete (ops : List (Mat α)) (d : Nat) (hs : Shaped ops d d) (hl : ops.length = d) (a b : Nat) :
    (sumKdK (complList ops d) d).e a b = (sumKdK ops d).e a b := by
  rw [sumKdK_e _ d (complList_shaped_sq ops d hl), sumKdK_e ops d hs, complList_length, hl, sumN_comm]
  apply sumN_congr; intro i _
  apply sumN_congr; intro row hrow
  rw [fam_complList ops d row i a hrow, fam_complList ops d row i b hrow]

/-- **The complement of the complement is the original family.**  For `d` complete operators of shape `d × d`
    the model accepts the family, accepts the returned family as well, and the second result has the entries
    of the first input: `(Kᶜ)ᶜ_i[row, c] = K_i[row, c]`.  (For `r ≠ d` operators the code rejects its own
    output as non-square; on the level of families the row-stacking is an involution for every shape:
    `complStack (complStack K) = K`.) -/
theorem compl_compl [DecidableEq α] (ops : List (Mat α)) (d : Nat) (s : α)
    (hs : Shaped ops d d) (hne : ops ≠ []) (hl : ops.length = d)
    (hcomplete : ∀ i j, i < d → j < d → (sumKdK ops d).e i j = if i = j then s else 0) :
    complementary ops s = .ok (complList ops d) ∧
    complementary (complList ops d) s = .ok (complList (complList ops d) d) ∧
    (∀ i row c, i < d → row < d → fam (complList (complList ops d) d) i row c = fam ops i row c) ∧
    complStack (complStack (fam ops)) = fam ops := by
  have hne' : complList ops d ≠ [] :=
    complList_ne_nil ops d fun h0 => hne (List.length_eq_zero_iff.mp (hl.trans h0))
  refine ⟨complementary_ok ops d s hs hne hcomplete, ?_, ?_, rfl⟩
  · apply complementary_ok (complList ops d) d s (complList_shaped_sq ops d hl) hne'
    intro i j hi hj
    rw [compl_complete ops d hs hl i j]
    exact hcomplete i j hi hj
  · intro i row c hi hrow
    rw [fam_complList _ d i row c hi, fam_complList ops d row i c hrow]

end Toq.C05

namespace Toq.C05
open Toq.ChannelOps Toq.ChannelSpec

variable {α : Type} [CommRing α] [StarRing α]

/-- **Factorisation on pure inputs.**  With `M` the `d × r` matrix whose columns are `K_i ψ`:
    `Φ(ψψᴴ) = M Mᴴ` and `Φᶜ(ψψᴴ) = (Mᴴ M)ᵀ` (entries `tr(K_i ψψᴴ K_jᴴ)`). -/
theorem compl_pure_factorisation {ι m : Type} [Fintype ι] [Fintype m] (K : ι → Matrix m m α) (ψ : m → α) :
    (∑ i, K i * Matrix.vecMulVec ψ (star ψ) * (K i).conjTranspose
        = colsKpsi K ψ * (colsKpsi K ψ).conjTranspose) ∧
    ((Matrix.of fun i j => Matrix.trace (K i * Matrix.vecMulVec ψ (star ψ) * (K j).conjTranspose))
        = ((colsKpsi K ψ).conjTranspose * colsKpsi K ψ).transpose) := by
  constructor
  · rw [colsKpsi_mul_conjTranspose]
    exact Finset.sum_congr rfl fun i _ => sandwich_vecMulVec (K i) (K i) ψ
  · ext i j
    rw [Matrix.of_apply, sandwich_vecMulVec, Matrix.trace_vecMulVec, Matrix.transpose_apply,
      colsKpsi_conjTranspose_mul_apply]

/-- **Same non-zero spectrum on pure inputs.**  The characteristic polynomials of `Φ(ψψᴴ)` (`d × d`) and
    `Φᶜ(ψψᴴ)` (`r × r`) differ only by a power of `X`: `X^r · χ_{Φ(ψψᴴ)} = X^d · χ_{Φᶜ(ψψᴴ)}`, so the two
    outputs have the same non-zero eigenvalues with the same multiplicities (no completeness assumption is
    needed for this). -/
theorem compl_spectrum_pure {ι m : Type} [Fintype ι] [Fintype m] [DecidableEq ι] [DecidableEq m]
    (K : ι → Matrix m m α) (ψ : m → α) :
    Polynomial.X ^ Fintype.card ι *
        (∑ i, K i * Matrix.vecMulVec ψ (star ψ) * (K i).conjTranspose).charpoly
      = Polynomial.X ^ Fintype.card m *
        (Matrix.of fun i j => Matrix.trace (K i * Matrix.vecMulVec ψ (star ψ) * (K j).conjTranspose)).charpoly := by
  rw [(compl_pure_factorisation K ψ).1, (compl_pure_factorisation K ψ).2, Matrix.charpoly_transpose,
    Matrix.charpoly_mul_comm']

/-- **Same non-zero spectrum on pure inputs, for the model outputs.**  For a list of `d × d` operators and
    `ρ = ψψᴴ`, the matrix returned by `apply_channel` on the list (`d × d`) and the matrix returned on the
    complementary list (`r × r`) satisfy `X^r · χ_{Φ(ρ)} = X^d · χ_{Φᶜ(ρ)}`. -/
theorem compl_spectrum_pure_model (ops : List (Mat α)) (d : Nat) (hs : Shaped ops d d) (psi : Nat → α) (rho : Mat α)
    (hr : rho.r = d) (hc : rho.c = d) (hrho : ∀ a b, rho.e a b = psi a * star (psi b)) :
    Polynomial.X ^ ops.length * (toM d d (applyKrausLists rho ops ops).e).charpoly
      = Polynomial.X ^ d *
        (toM ops.length ops.length (applyKrausLists rho (complList ops d) (complList ops d)).e).charpoly := by
  obtain ⟨r0, c0, e0⟩ := rho
  simp only at hr hc hrho
  subst hr; subst hc
  have hv : toM c0 c0 e0 = Matrix.vecMulVec (fun a : Fin c0 => psi a) (star fun a : Fin c0 => psi a) := by
    ext a b; simp [toM, hrho, Matrix.vecMulVec_apply]
  have h2 : toM ops.length ops.length (applyKrausLists ⟨c0, c0, e0⟩ (complList ops c0) (complList ops c0)).e
      = Matrix.of fun i j : Fin ops.length => Matrix.trace (toM c0 c0 (fam ops i) * toM c0 c0 e0
          * (toM c0 c0 (fam ops j)).conjTranspose) := by
    ext i j; exact compl_entry_toM ⟨c0, c0, e0⟩ ops c0 rfl rfl i j
  have := compl_spectrum_pure (fun i : Fin ops.length => toM c0 c0 (fam ops i)) (fun a : Fin c0 => psi a)
  rw [Fintype.card_fin, Fintype.card_fin, ← hv] at this
  rw [toM_applyKrausLists ⟨c0, c0, e0⟩ ops ops c0 c0 hs hs rfl, h2]
  exact this

/-- **`Φ` is completely positive iff `Φ*` is (Choi form).**  For a square matrix `J` of shape
    `(d_in·d_out) × (d_in·d_out)` over an ordered commutative star-ring (ℂ, ℝ, ℚ[i] …): the matrix returned by
    `dual_channel(J, [[d_in, d_out], [d_in, d_out]])` is positive semidefinite (Mathlib's `Matrix.PosSemidef`)
    exactly when `J` is — by Choi's theorem (proved over ℂ as `Toq.C06.cp_iff_choi_psd`; cited here, not applied to this
    model) positive semidefiniteness of the Choi matrix is complete positivity of the map.  (For Kraus lists the corresponding statement is
    `dual_keeps_cp_reading`.) -/
theorem dual_choi_psd_iff {R : Type} [CommRing R] [PartialOrder R] [StarRing R] (J : Mat R) (d_in d_out : Nat)
    (hJr : J.r = d_in * d_out) (hJc : J.c = d_in * d_out) :
    ∃ D, dualChoi J (.mat d_in d_out d_in d_out) = .ok D ∧ D.r = d_out * d_in ∧ D.c = d_out * d_in ∧
      ((toM (d_out * d_in) (d_out * d_in) D.e).PosSemidef ↔ (toM (d_in * d_out) (d_in * d_out) J.e).PosSemidef) := by
  obtain ⟨D, hD, hDr, hDc, hDe⟩ := dualChoi_e J d_in d_out d_in d_out hJr hJc
  exact ⟨D, hD, hDr, hDc, psd_dual_entries J.e D.e d_in d_out hDe⟩

/-- the hypotheses are satisfiable and the models compute: a non-CP map `M_{2} → M_{2}` given by one pair
    over the Gaussian integers, its dual, and the adjoint identity on a concrete pair `X`, `Y` -/
example :
    let A : Mat GI := ⟨2, 2, fun a b => ⟨a + 1, b⟩⟩
    let B : Mat GI := ⟨2, 2, fun a b => ⟨b, 2 * a + 1⟩⟩
    let X : Mat GI := ⟨2, 2, fun a b => ⟨a, b + 1⟩⟩
    let Y : Mat GI := ⟨2, 2, fun a b => ⟨2 * b, a⟩⟩
    (KrausArg.pairs [A] [B]).split.isSome = true ∧
    ((applyKraus X (KrausArg.pairs [A] [B])).bind fun M =>
      (applyKraus Y (dualKraus (KrausArg.pairs [A] [B]))).map fun D =>
        decide (hsInner 2 2 Y.e M.e = hsInner 2 2 D.e X.e)) = some true := by
  decide +kernel

end Toq.C05
