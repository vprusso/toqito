import Toq.Proofs.PartialTrace
import Toq.Proofs.PartialOpsArgs
import Mathlib.Algebra.Star.Basic
import Mathlib.LinearAlgebra.Matrix.PosDef
/-!
# More algebra of the partial-trace specification (C02): Hermiticity and positive semidefiniteness
are preserved, and tracing out `S` is tracing out a trailing block after `permute_systems`.

`toMat d A` reads the `d × d` corner of a function matrix `A : Nat → Nat → R` as a Mathlib matrix, so
that Mathlib's `Matrix.IsHermitian` / `Matrix.PosSemidef` can be used.  The partial trace is the sum
over the traced labels `t` of the compressions `X[join · t, join · t]` of `X`; every compression of a
positive semidefinite matrix is positive semidefinite (`Matrix.PosSemidef.submatrix`) and so is a sum.
-/
open Toq.Perms Toq.PartialOps Toq.C01
namespace Toq.PTrace

def toMat {R : Type} (d : Nat) (A : Nat → Nat → R) : Matrix (Fin d) (Fin d) R := fun i j => A i j

theorem toMat_apply {R : Type} (d : Nat) (A : Nat → Nat → R) (i j : Fin d) : toMat d A i j = A i j := rfl

theorem ptraceSpec_star {α : Type} [AddMonoid α] [StarAddMonoid α] (X : Nat → Nat → α) (n : Nat)
    (dims : Nat → Nat) (S : List Nat) (hd : ∀ k, k < n → 0 < dims k)
    (hX : ∀ I J, I < prodN dims n → J < prodN dims n → X J I = star (X I J)) (i j : Nat) :
    ptraceSpec X n dims S j i = star (ptraceSpec X n dims S i j) := by
  unfold ptraceSpec
  rw [sumN_map (star : α → α) (star_zero α) (star_add)]
  apply sumN_congr
  intro t _
  exact hX _ _ (join_lt n dims S hd i t) (join_lt n dims S hd j t)

theorem toMat_ptraceSpec {R : Type} [AddCommMonoid R] (X : Nat → Nat → R) (n : Nat) (dims : Nat → Nat)
    (S : List Nat) (hd : ∀ k, k < n → 0 < dims k) :
    toMat (subDim dims (others n S)) (ptraceSpec X n dims S)
      = ∑ t ∈ Finset.range (subDim dims S),
          (toMat (prodN dims n) X).submatrix
            (fun i : Fin (subDim dims (others n S)) => ⟨join n dims S i t, join_lt n dims S hd i t⟩)
            (fun i : Fin (subDim dims (others n S)) => ⟨join n dims S i t, join_lt n dims S hd i t⟩) := by
  ext i j
  rw [Matrix.sum_apply]
  show ptraceSpec X n dims S i j = _
  unfold ptraceSpec
  rw [sumN_eq_sum]
  rfl

theorem ptraceSpec_posSemidef {R : Type} [Ring R] [PartialOrder R] [StarRing R] [AddLeftMono R]
    (X : Nat → Nat → R) (n : Nat) (dims : Nat → Nat) (S : List Nat) (hd : ∀ k, k < n → 0 < dims k)
    (hX : (toMat (prodN dims n) X).PosSemidef) :
    (toMat (subDim dims (others n S)) (ptraceSpec X n dims S)).PosSemidef := by
  rw [toMat_ptraceSpec X n dims S hd]
  exact Matrix.posSemidef_sum _ (fun t _ => hX.submatrix _)

theorem ptraceSpec_isHermitian {R : Type} [AddMonoid R] [StarAddMonoid R]
    (X : Nat → Nat → R) (n : Nat) (dims : Nat → Nat) (S : List Nat) (hd : ∀ k, k < n → 0 < dims k)
    (hX : (toMat (prodN dims n) X).IsHermitian) :
    (toMat (subDim dims (others n S)) (ptraceSpec X n dims S)).IsHermitian := by
  ext i j
  rw [Matrix.conjTranspose_apply]
  exact (ptraceSpec_star X n dims S hd (fun I J hI hJ => (hX.apply ⟨J, hJ⟩ ⟨I, hI⟩).symm) j i).symm

theorem toMat_partialTrace {R : Type} [Add R] [Zero R] (X : Nat → Nat → R) (n : Nat) (dims : Nat → Nat)
    (S : List Nat) (hd : ∀ k, k < n → 0 < dims k) (hnd : S.Nodup) (hlt : ∀ s ∈ S, s < n) :
    toMat (subDim dims (others n S)) (partialTrace X n dims S)
      = toMat (subDim dims (others n S)) (ptraceSpec X n dims S) := by
  ext i j
  exact partialTrace_eq_spec n dims S hd hnd hlt X i j i.2 j.2

/-- the trailing block `m, m+1, …, m+s-1` of `n = m + s` subsystems -/
def trailing (m s : Nat) : List Nat := List.range' m s

theorem range_append_trailing (m s : Nat) : List.range m ++ trailing m s = List.range (m + s) := by
  unfold trailing
  rw [List.range_eq_range', List.range_eq_range']
  have := List.range'_append (s := 0) (m := m) (n := s) (step := 1)
  simpa using this

theorem others_trailing (m s : Nat) : others (m + s) (trailing m s) = List.range m := by
  unfold others
  -- `range (m + s)` is `range m` followed by the trailing block: the filter keeps the first part and drops the second
  rw [← range_append_trailing, List.filter_append, List.filter_eq_self.mpr, List.filter_eq_nil_iff.mpr, List.append_nil]
  · intro a ha
    simpa using ha
  · intro a ha
    have hlt := List.mem_range.mp ha
    have hge : a ∈ trailing m s → m ≤ a := fun h => (List.mem_range'_1.mp h).1
    exact decide_eq_true fun h => Nat.lt_irrefl a (Nat.lt_of_lt_of_le hlt (hge h))

theorem codeOn_range (d : Nat → Nat) (n : Nat) (x : Nat → Nat) : codeOn d (List.range n) x = enc d x n := by
  unfold codeOn
  rw [List.length_range]
  exact enc_congr _ _ _ _ _ (fun k hk => congrArg d (fnOfList_range n k hk)) (fun k hk => congrArg x (fnOfList_range n k hk))

theorem trailing_nodup (m s : Nat) : (trailing m s).Nodup := List.nodup_range'

theorem lt_of_mem_trailing {m s x : Nat} (hx : x ∈ trailing m s) : x < m + s := by
  have := List.mem_range'_1.mp hx
  omega

theorem join_trailing (m s : Nat) (d : Nat → Nat) (i t : Nat)
    (hi : i < subDim d (List.range m)) (ht : t < subDim d (trailing m s)) :
    join (m + s) d (trailing m s) i t = i * subDim d (trailing m s) + t := by
  have h := codeOn_merge (m + s) d (trailing m s) (trailing_nodup m s) i t (by rwa [others_trailing]) ht
  rw [others_trailing, range_append_trailing, codeOn_range] at h
  rwa [join_eq_enc_mix, others_trailing]

/-- after the permutation the leading block has the dimensions of the kept subsystems: it lists `others n S` -/
theorem subDim_comp_range (n : Nat) (dims : Nat → Nat) (S : List Nat) :
    subDim (fun k => dims (fnOfList (others n S ++ S) 0 k)) (List.range (others n S).length)
        = subDim dims (others n S) := by
  rw [← subDim_map dims (fnOfList (others n S ++ S) 0),
    List.map_congr_left (g := fun q => (others n S).getD q 0)
      (fun q hq => fnOfList_append_left _ S q (List.mem_range.mp hq)), ← list_eq_map_range]

/-- after the permutation the trailing block has the dimensions of the traced subsystems: it lists `S` -/
theorem subDim_comp_trailing (n : Nat) (dims : Nat → Nat) (S : List Nat) :
    subDim (fun k => dims (fnOfList (others n S ++ S) 0 k)) (trailing (others n S).length S.length)
        = subDim dims S := by
  rw [← subDim_map dims (fnOfList (others n S ++ S) 0), trailing, List.range'_eq_map_range, List.map_map]
  show subDim dims (List.map (fun q => fnOfList (others n S ++ S) 0 ((others n S).length + q)) _) = _
  rw [List.map_congr_left (g := fun q => S.getD q 0) (fun q _ => fnOfList_append_right (others n S) S q),
    ← list_eq_map_range]

/-- **Mechanism of the code, and the link to C01**: tracing out `S` is tracing out the trailing block of
    the operator whose subsystems have been permuted by `permute_systems` with `perm = others ++ S` -/
theorem ptraceSpec_via_permute {α : Type} [Add α] [Zero α] (X : Nat → Nat → α) (n : Nat) (dims : Nat → Nat)
    (S : List Nat) (hnd : S.Nodup) (hlt : ∀ s ∈ S, s < n) (i j : Nat)
    (hi : i < subDim dims (others n S)) (hj : j < subDim dims (others n S)) :
    ptraceSpec X n dims S i j
      = ptraceSpec (permuteMat X n (fnOfList (others n S ++ S)) dims dims false false) n
          (fun k => dims (fnOfList (others n S ++ S) 0 k)) (trailing (others n S).length S.length) i j := by
  have hlen := others_append_length n S hnd hlt
  rw [List.length_append] at hlen
  have e1 := subDim_comp_range n dims S
  have e2 := subDim_comp_trailing n dims S
  have hp := others_append_isPerm n S hnd hlt
  unfold ptraceSpec
  rw [e2]
  apply sumN_congr
  intro t ht
  have hn : n = (others n S).length + S.length := hlen.symm
  have hjoin : ∀ a, a < subDim dims (others n S) →
      join n (fun k => dims (fnOfList (others n S ++ S) 0 k)) (trailing (others n S).length S.length) a t
        = a * subDim dims S + t := by
    intro a ha
    have := join_trailing (others n S).length S.length (fun k => dims (fnOfList (others n S ++ S) 0 k)) a t
      (by rw [e1]; exact ha) (by rw [e2]; exact ht)
    rw [e2, ← hn] at this
    exact this
  rw [hjoin i hi, hjoin j hj, permuteMat_false_eq X n _ dims dims hp, if_neg Bool.false_ne_true,
    specIndex_eq_join n dims S hnd hlt i t hi ht, specIndex_eq_join n dims S hnd hlt j t hj ht]

end Toq.PTrace
