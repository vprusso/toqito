import Toq.Proofs.MetricsFos
import Toq.Model.MetricsFos
import Toq.Proofs.Combinat
import Toq.Proofs.ChannelOps
/-!
# The executable model of the program of `fidelity_of_separability` computes the expressions of `FosFeasible`

`Toq.Metrics.fosExprs` works on matrices with flat indices (`ℕ → ℕ → α`, tensor order, big-endian digits with radices
`[dA, dB, …, dB]`); `Toq.Metrics.FosFeasible` is stated over matrices indexed by `HIdx (Fin dA) dB L = Fin dA × (Fin L → Fin dB)`.
`encH` is the flat index of such an index; `ofFlat L σN` is the operator a flat matrix `σN` denotes (`ofFlat L σN i j = σN (encH i) (encH j)`).
Each expression of the model denotes the corresponding operator of the specification; `Toq/Properties/C13.lean` collects them as `fosExprs_refines`.
-/

open Matrix Equiv
open scoped ComplexOrder MatrixOrder Kronecker

namespace Toq.Metrics
open Toq.PPTDisc Toq.Combinat Toq.ChannelOps

section Model
variable {dA d : ℕ}

/-- the digits of an index of `A ⊗ B^{⊗L}`: position `0` is the `A` digit, position `t + 1` the digit of copy `t` -/
def digH {L : ℕ} (i : HIdx (Fin dA) d L) : ℕ → ℕ := fun t => if t = 0 then (i.1 : ℕ) else extD i.2 (t - 1)

/-- the flat (tensor-order) index -/
def encH {L : ℕ} (i : HIdx (Fin dA) d L) : ℕ := enc (fosDims dA d) (digH i) (L + 1)

theorem digH_lt {L : ℕ} (i : HIdx (Fin dA) d L) (t : ℕ) (ht : t < L + 1) : digH i t < fosDims dA d t := by
  unfold digH fosDims
  by_cases h0 : t = 0
  · simp only [h0, if_true]; exact i.1.2
  · simp only [h0, if_false]
    have := extD_lt i.2 (t - 1) (by omega)
    simpa [constDims] using this

theorem encH_lt {L : ℕ} (i : HIdx (Fin dA) d L) : encH i < prodN (fosDims dA d) (L + 1) :=
  enc_lt _ _ _ (digH_lt i)

theorem prodN_fosDims (L : ℕ) : prodN (fosDims dA d) (L + 1) = dA * d ^ L := by
  induction L with
  | zero => simp [prodN, fosDims]
  | succ L ih =>
    rw [prodN, ih]
    simp only [fosDims, Nat.succ_ne_zero, if_false, pow_succ]
    ring

theorem dec_encH {L : ℕ} (i : HIdx (Fin dA) d L) (t : ℕ) (ht : t < L + 1) :
    dec (fosDims dA d) (L + 1) (encH i) t = digH i t :=
  dec_enc _ _ _ (digH_lt i) t ht

theorem encH_inj {L : ℕ} : Function.Injective (encH (dA := dA) (d := d) (L := L)) := by
  intro i j h
  have hd : ∀ t, t < L + 1 → digH i t = digH j t := enc_injective _ _ _ (L + 1) (digH_lt i) (digH_lt j) h
  refine Prod.ext (Fin.ext ?_) (funext fun t => Fin.ext ?_)
  · simpa [digH] using hd 0 (by omega)
  · have := hd (t + 1) (by omega)
    simp only [digH, Nat.succ_ne_zero, if_false, Nat.add_sub_cancel] at this
    rwa [extD_apply, extD_apply] at this

theorem encH_eq {L : ℕ} (i : HIdx (Fin dA) d L) : encH i = (i.1 : ℕ) * d ^ L + encD i.2 := by
  have h : ∀ t : ℕ, enc (fosDims dA d) (digH i) (t + 1) = (i.1 : ℕ) * d ^ t + enc (constDims d) (extD i.2) t := by
    intro t
    induction t with
    | zero => simp [enc, digH]
    | succ t ih =>
      rw [enc, ih]
      simp only [fosDims, digH, Nat.succ_ne_zero, if_false, Nat.add_sub_cancel, enc, constDims, pow_succ]
      ring
  exact h L

theorem extD_snoc_lt {L : ℕ} (f : Fin L → Fin d) (c : Fin d) (t : ℕ) (ht : t < L) :
    extD (Fin.snoc (α := fun _ => Fin d) f c : Fin (L + 1) → Fin d) t = extD f t := by
  unfold extD
  rw [dif_pos (by omega : t < L + 1), dif_pos ht]
  have : (⟨t, by omega⟩ : Fin (L + 1)) = Fin.castSucc ⟨t, ht⟩ := rfl
  rw [this, Fin.snoc_castSucc]

theorem extD_snoc_last {L : ℕ} (f : Fin L → Fin d) (c : Fin d) :
    extD (Fin.snoc (α := fun _ => Fin d) f c : Fin (L + 1) → Fin d) L = c := by
  unfold extD
  rw [dif_pos (by omega : L < L + 1)]
  have : (⟨L, by omega⟩ : Fin (L + 1)) = Fin.last L := rfl
  rw [this, Fin.snoc_last]

theorem encD_snoc {L : ℕ} (f : Fin L → Fin d) (c : Fin d) :
    encD (Fin.snoc (α := fun _ => Fin d) f c : Fin (L + 1) → Fin d) = encD f * d + c := by
  unfold encD
  rw [enc, extD_snoc_last]
  congr 2
  exact enc_congr _ _ _ _ _ (fun _ _ => rfl) fun t ht => extD_snoc_lt f c t ht

theorem encH_snoc {L : ℕ} (i : HIdx (Fin dA) d L) (c : Fin d) : encH (snocI i c) = encH i * d + c := by
  rw [encH_eq, encH_eq]
  simp only [snocI, encD_snoc, pow_succ]
  ring

/-- the flat index of `(a, c) ∈ A ⊗ B` -/
def encAB (p : Fin dA × Fin d) : ℕ := (p.1 : ℕ) * d + p.2

/-- the flat `n × n` matrix `MN` has the entries of `M` (`n = dA dB`) -/
def RepAB (MN : ℕ → ℕ → ℂ) (M : Matrix (Fin dA × Fin d) (Fin dA × Fin d) ℂ) : Prop :=
  ∀ p q, MN (encAB p) (encAB q) = M p q

theorem encAB_lt (p : Fin dA × Fin d) : encAB p < dA * d := Nat.mul_add_lt_mul p.1.2 p.2.2

theorem encH_oneCopy (p : Fin dA × Fin d) : encH (oneCopy p) = encAB p := by
  rw [encH_eq]
  simp [oneCopy, encAB, encD, enc, extD]

/-- flat index of an index of the `2 × 2` block matrix -/
def encS : (Fin dA × Fin d) ⊕ (Fin dA × Fin d) → ℕ
  | Sum.inl p => encAB p
  | Sum.inr p => dA * d + encAB p

/-- the operator on `A ⊗ B^{⊗L}` a flat matrix denotes -/
def ofFlat (L : ℕ) (σN : ℕ → ℕ → ℂ) : Matrix (HIdx (Fin dA) d L) (HIdx (Fin dA) d L) ℂ := fun i j => σN (encH i) (encH j)

/-- the operator on `A ⊗ B` a flat matrix denotes -/
def ofFlatAB (MN : ℕ → ℕ → ℂ) : Matrix (Fin dA × Fin d) (Fin dA × Fin d) ℂ := fun p q => MN (encAB p) (encAB q)

/-- the `2 × 2` block operator a flat matrix denotes -/
def ofFlatS (BN : ℕ → ℕ → ℂ) :
    Matrix ((Fin dA × Fin d) ⊕ (Fin dA × Fin d)) ((Fin dA × Fin d) ⊕ (Fin dA × Fin d)) ℂ := fun u v => BN (encS u) (encS v)

theorem ofFlat_traceLast {L : ℕ} (σN : ℕ → ℕ → ℂ) :
    ofFlat (dA := dA) (d := d) L (fosTraceLast d σN) = margLast (ofFlat (L + 1) σN) := by
  ext i j
  simp only [ofFlat, fosTraceLast, margLast]
  rw [sumN_eq_sum_fin]
  refine Finset.sum_congr rfl fun c _ => ?_
  rw [← encH_snoc, ← encH_snoc]

theorem ofFlat_traceTail : ∀ (ℓ : ℕ) (σN : ℕ → ℕ → ℂ),
    ofFlat (dA := dA) (d := d) 1 (fosTraceTail d ℓ σN) = margTo1 ℓ (ofFlat (ℓ + 1) σN)
  | 0, _ => rfl
  | ℓ + 1, σN => (ofFlat_traceTail ℓ (fosTraceLast d σN)).trans (congrArg (margTo1 ℓ) (ofFlat_traceLast σN))

/-- `picos.partial_trace(σ, [2, …, k], dims)` is the marginal on `A ⊗ B₁` -/
theorem ofFlatAB_fosMarg (ℓ : ℕ) (σN : ℕ → ℕ → ℂ) :
    ofFlatAB (dA := dA) (d := d) (fosMarg d (ℓ + 1) σN) = marg1 ℓ (ofFlat (ℓ + 1) σN) := by
  ext p q
  have := congrFun (congrFun (ofFlat_traceTail ℓ σN) (oneCopy p)) (oneCopy q)
  change fosTraceTail d ℓ σN (encH (oneCopy p)) (encH (oneCopy q)) = _ at this
  rw [encH_oneCopy, encH_oneCopy] at this
  simpa [ofFlatAB, fosMarg, marg1, toMN] using this

theorem fosMix_encH {L : ℕ} (j : ℕ) (i i' : HIdx (Fin dA) d L) :
    fosMix dA d L j (encH i) (encH i')
      = encH ((i.1, fun t : Fin L => if (t : ℕ) < j then i'.2 t else i.2 t) : HIdx (Fin dA) d L) := by
  unfold fosMix
  refine enc_congr _ _ _ _ _ (fun _ _ => rfl) fun t ht => ?_
  rw [dec_encH i t ht, dec_encH i' t ht]
  by_cases h0 : t = 0
  · subst h0
    simp [digH]
  · have h1 : 1 ≤ t := Nat.one_le_iff_ne_zero.mpr h0
    have hL : t - 1 < L := by omega
    simp only [digH, h0, if_false, extD, dif_pos hL]
    by_cases hj : t - 1 < j
    · rw [if_pos ⟨h1, by omega⟩, if_pos hj]
    · rw [if_neg (by omega), if_neg hj]

/-- `picos.partial_transpose(σ, [1, …, j], dims)` is the partial transpose on the first `j` copies of `B` -/
theorem ofFlat_fosPT {L : ℕ} (j : ℕ) (σN : ℕ → ℕ → ℂ) :
    ofFlat (dA := dA) (d := d) L (fosPT dA d L j σN) = pTYs (fun t : Fin L => (t : ℕ) < j) (ofFlat L σN) := by
  ext i i'
  simp only [ofFlat, fosPT, pTYs]
  rw [fosMix_encH, fosMix_encH]

theorem fosBlock_11 (n : ℕ) (ρN XN MN : ℕ → ℕ → ℂ) {i j : ℕ} (hi : i < n) (hj : j < n) :
    fosBlock n ρN XN MN i j = ρN i j := by
  unfold fosBlock; rw [if_pos hi, if_pos hj]

theorem fosBlock_12 (n : ℕ) (ρN XN MN : ℕ → ℕ → ℂ) {i : ℕ} (j : ℕ) (hi : i < n) :
    fosBlock n ρN XN MN i (n + j) = XN i j := by
  unfold fosBlock; rw [if_pos hi, if_neg (by omega), Nat.add_sub_cancel_left]

theorem fosBlock_21 (n : ℕ) (ρN XN MN : ℕ → ℕ → ℂ) (i : ℕ) {j : ℕ} (hj : j < n) :
    fosBlock n ρN XN MN (n + i) j = star (XN j i) := by
  unfold fosBlock; rw [if_neg (by omega), if_pos hj, Nat.add_sub_cancel_left, conj_eq_star]

theorem fosBlock_22 (n : ℕ) (ρN XN MN : ℕ → ℕ → ℂ) (i j : ℕ) :
    fosBlock n ρN XN MN (n + i) (n + j) = MN i j := by
  unfold fosBlock; rw [if_neg (by omega), if_neg (by omega), Nat.add_sub_cancel_left, Nat.add_sub_cancel_left]

/-- `picos.block([[ρ, X], [X.H, M]])` is `Matrix.fromBlocks ρ X Xᴴ M` -/
theorem ofFlatS_fosBlock (ρN XN MN : ℕ → ℕ → ℂ) :
    ofFlatS (dA := dA) (d := d) (fosBlock (dA * d) ρN XN MN)
      = Matrix.fromBlocks (ofFlatAB ρN) (ofFlatAB XN) (ofFlatAB XN)ᴴ (ofFlatAB MN) := by
  ext u v
  rcases u with p | p <;> rcases v with q | q
  · exact fosBlock_11 _ _ _ _ (encAB_lt p) (encAB_lt q)
  · exact fosBlock_12 _ _ _ _ _ (encAB_lt p)
  · exact fosBlock_21 _ _ _ _ _ (encAB_lt q)
  · exact fosBlock_22 _ _ _ _ _ _

theorem sum_encAB (f : ℕ → ℂ) : ∑ p : Fin dA × Fin d, f (encAB p) = ∑ x ∈ Finset.range (dA * d), f x := by
  rw [Finset.sum_range, ← Equiv.sum_comp (finProdFinEquiv (m := dA) (n := d))]
  exact Finset.sum_congr rfl fun p _ => congrArg f (Toq.finProdFinEquiv_val p.1 p.2).symm

theorem sum_encH {L : ℕ} (f : ℕ → ℂ) :
    ∑ i : HIdx (Fin dA) d L, f (encH i) = ∑ x ∈ Finset.range (dA * d ^ L), f x := by
  have himg : (Finset.univ : Finset (HIdx (Fin dA) d L)).image encH = Finset.range (dA * d ^ L) := by
    refine Finset.eq_of_subset_of_card_le ?_ ?_
    · intro x hx
      obtain ⟨i, -, rfl⟩ := Finset.mem_image.mp hx
      rw [Finset.mem_range, ← prodN_fosDims]
      exact encH_lt i
    · rw [Finset.card_image_of_injective _ encH_inj, Finset.card_range, Finset.card_univ]
      unfold HIdx
      rw [Fintype.card_prod, Fintype.card_fun, Fintype.card_fin, Fintype.card_fin, Fintype.card_fin]
  rw [← himg, Finset.sum_image fun a _ b _ h => encH_inj h]

/-- `picos.trace(σ)` -/
theorem fosTrace_eq {L : ℕ} (σN : ℕ → ℕ → ℂ) :
    fosTrace (fosSize dA d L) σN = (ofFlat (dA := dA) (d := d) L σN).trace := by
  unfold fosTrace fosSize
  rw [sumN_eq_sum, ← sum_encH (fun x => σN x x)]
  rfl

/-- `trace(X + X.H)`: twice the objective -/
theorem fosObj_eq (XN : ℕ → ℕ → ℂ) :
    sumN (dA * d) (fun i => XN i i + HasConj.conj (XN i i)) = (ofFlatAB (dA := dA) (d := d) XN + (ofFlatAB XN)ᴴ).trace := by
  rw [sumN_eq_sum, ← sum_encAB (fun x => XN x x + HasConj.conj (XN x x))]
  rfl

/-- the operator on the `L` copies of `B` a flat matrix denotes -/
def ofFlatD (L : ℕ) (SN : ℕ → ℕ → ℂ) : Matrix (Fin L → Fin d) (Fin L → Fin d) ℂ := fun f g => SN (encD f) (encD g)

/-- toqito's `symmetric_projection(dB, L)` before the division by `L!` (mirror model `symProjN`, C18) is `L!` times the projector `symPC` -/
theorem ofFlatD_symProjN (L : ℕ) :
    ofFlatD (d := d) L (fun i j => ((symProjN d L i j : ℤ) : ℂ)) = (L.factorial : ℂ) • symPC d L := by
  ext f g
  have h := congrArg (fun x : ℚ => (x : ℂ)) (symProjN_eq f g)
  simp only [Rat.cast_intCast, Rat.cast_mul, Rat.cast_natCast] at h
  show ((symProjN d L (encD f) (encD g) : ℤ) : ℂ) = _
  rw [h, symPC_eq_symSpec]
  rfl

theorem encD_lt_pow {L : ℕ} (f : Fin L → Fin d) : encD f < d ^ L := by
  rw [← prodN_constDims]; exact encD_lt f

theorem encH_mod {L : ℕ} (i : HIdx (Fin dA) d L) : encH i % d ^ L = encD i.2 :=
  (encH_eq i).symm ▸ (Nat.mul_add_divMod_of_lt (encD_lt_pow i.2)).2

theorem encH_div {L : ℕ} (i : HIdx (Fin dA) d L) : encH i / d ^ L = i.1 :=
  (encH_eq i).symm ▸ (Nat.mul_add_divMod_of_lt (encD_lt_pow i.2)).1

theorem sumN_pow_eq_sum_encD {L : ℕ} (f : ℕ → ℂ) : sumN (d ^ L) f = ∑ g : Fin L → Fin d, f (encD g) := by
  rw [← prodN_constDims, sumN_eq_sum_encD]

/-- `(picos.I(dA) @ S) * σ * (picos.I(dA) @ S)` is `c² (1 ⊗ P) σ (1 ⊗ P)` when `S` denotes `c · P` -/
theorem ofFlat_fosSandwich {L : ℕ} {c : ℂ} {SN : ℕ → ℕ → ℂ} (σN : ℕ → ℕ → ℂ) {P : Matrix (Fin L → Fin d) (Fin L → Fin d) ℂ}
    (hS : ofFlatD L SN = c • P) :
    ofFlat (dA := dA) (d := d) L (fosSandwich (d ^ L) SN σN)
      = (c * c) • (((1 : Matrix (Fin dA) (Fin dA) ℂ) ⊗ₖ P) * ofFlat L σN * ((1 : Matrix (Fin dA) (Fin dA) ℂ) ⊗ₖ P)) := by
  replace hS : ∀ f g, SN (encD f) (encD g) = c * P f g := fun f g => congrFun (congrFun hS f) g
  ext ⟨a, f⟩ ⟨a', f'⟩
  rw [Matrix.smul_apply, smul_eq_mul]
  show fosSandwich (d ^ L) SN σN (encH ((a, f) : HIdx (Fin dA) d L)) (encH ((a', f') : HIdx (Fin dA) d L)) = _
  unfold fosSandwich
  rw [encH_mod, encH_mod, encH_div, encH_div, Matrix.mul_assoc, one_kronecker_mul_apply]
  dsimp only
  rw [sumN_pow_eq_sum_encD, Finset.mul_sum]
  refine Finset.sum_congr rfl fun g _ => ?_
  rw [mul_one_kronecker_apply, sumN_pow_eq_sum_encD, hS, Finset.mul_sum, Finset.mul_sum, Finset.mul_sum]
  refine Finset.sum_congr rfl fun g' _ => ?_
  rw [← encH_eq ((a, g) : HIdx (Fin dA) d L), ← encH_eq ((a', g') : HIdx (Fin dA) d L), hS]
  simp only [ofFlat]
  ring

theorem ofFlatAB_eq {MN : ℕ → ℕ → ℂ} {M : Matrix (Fin dA × Fin d) (Fin dA × Fin d) ℂ} (h : RepAB MN M) : ofFlatAB MN = M := by
  ext p q; exact h p q

theorem fosFact_eq : ∀ k : ℕ, fosFact k = k.factorial
  | 0 => rfl
  | k + 1 => by rw [fosFact, fosFact_eq k, Nat.factorial_succ]

/-- the model over `ℂ` (integers read by the canonical embedding) -/
noncomputable def fosExprsC (dA d k : ℕ) (ρN XN σN : ℕ → ℕ → ℂ) : FosExprs ℂ :=
  fosExprs (fun z : ℤ => (z : ℂ)) dA d k ρN XN σN

theorem fosExprsC_block (ℓ : ℕ) (ρN XN σN : ℕ → ℕ → ℂ) :
    ofFlatS (dA := dA) (d := d) (fosExprsC dA d (ℓ + 1) ρN XN σN).block
      = Matrix.fromBlocks (ofFlatAB ρN) (ofFlatAB XN) (ofFlatAB XN)ᴴ (marg1 ℓ (ofFlat (ℓ + 1) σN)) :=
  (ofFlatS_fosBlock ρN XN _).trans (by rw [ofFlatAB_fosMarg])

theorem fosExprsC_trace (ℓ : ℕ) (ρN XN σN : ℕ → ℕ → ℂ) :
    (fosExprsC dA d (ℓ + 1) ρN XN σN).trace = (ofFlat (dA := dA) (d := d) (ℓ + 1) σN).trace :=
  fosTrace_eq σN

theorem fosExprsC_obj (k : ℕ) (ρN XN σN : ℕ → ℕ → ℂ) :
    (fosExprsC dA d k ρN XN σN).obj2 = (ofFlatAB (dA := dA) (d := d) XN + (ofFlatAB XN)ᴴ).trace :=
  fosObj_eq XN

theorem fosExprsC_sym (ℓ : ℕ) (ρN XN σN : ℕ → ℕ → ℂ) :
    ofFlat (dA := dA) (d := d) (ℓ + 1) (fosExprsC dA d (ℓ + 1) ρN XN σN).symRes
      = (((ℓ + 1).factorial : ℂ) * ((ℓ + 1).factorial : ℂ)) •
        (((1 : Matrix (Fin dA) (Fin dA) ℂ) ⊗ₖ symPC d (ℓ + 1)) * ofFlat (ℓ + 1) σN * ((1 : Matrix (Fin dA) (Fin dA) ℂ) ⊗ₖ symPC d (ℓ + 1))
          - ofFlat (ℓ + 1) σN) := by
  have hs := ofFlat_fosSandwich (dA := dA) σN (ofFlatD_symProjN (d := d) (ℓ + 1))
  rw [smul_sub, ← hs]
  ext i j
  show fosSandwich (d ^ (ℓ + 1)) (fun a b => ((symProjN d (ℓ + 1) a b : ℤ) : ℂ)) σN (encH i) (encH j)
      - (((fosFact (ℓ + 1) * fosFact (ℓ + 1) : ℕ) : ℤ) : ℂ) * σN (encH i) (encH j) = _
  rw [fosFact_eq]
  push_cast
  rfl

theorem fosExprsC_pts (ℓ : ℕ) (ρN XN σN : ℕ → ℕ → ℂ) :
    (fosExprsC dA d (ℓ + 1) ρN XN σN).pts = (List.range' 1 ℓ).map fun j => fosPT dA d (ℓ + 1) j σN := rfl

theorem fosProdVec_encH (aN bN : ℕ → ℂ) (j : ℕ) : ∀ (L : ℕ) (i : HIdx (Fin dA) d L),
    fosProdVec d aN bN j L (encH i)
      = aN i.1 * ∏ s : Fin L, (if (s : ℕ) < j then star (bN (i.2 s)) else bN (i.2 s))
  | 0, i => by
    simp [fosProdVec, encH_eq, encD, enc]
  | L + 1, i => by
    obtain ⟨a, f⟩ := i
    have hi : ((a, f) : HIdx (Fin dA) d (L + 1))
        = snocI ((a, Fin.init (α := fun _ => Fin d) f) : HIdx (Fin dA) d L) (f (Fin.last L)) := by
      simp [snocI]
    set c := f (Fin.last L) with hc
    have hpos : 0 < d := lt_of_le_of_lt (Nat.zero_le _) c.2
    rw [hi, encH_snoc]
    simp only [fosProdVec]
    have e1 : (encH ((a, Fin.init (α := fun _ => Fin d) f) : HIdx (Fin dA) d L) * d + c) / d
        = encH ((a, Fin.init (α := fun _ => Fin d) f) : HIdx (Fin dA) d L) := by
      rw [Nat.add_comm, Nat.add_mul_div_right _ _ hpos, Nat.div_eq_of_lt c.2, Nat.zero_add]
    have e2 : (encH ((a, Fin.init (α := fun _ => Fin d) f) : HIdx (Fin dA) d L) * d + c) % d = c := by
      rw [Nat.add_comm, Nat.add_mul_mod_self_right, Nat.mod_eq_of_lt c.2]
    rw [e1, e2, fosProdVec_encH aN bN j L, Fin.prod_univ_castSucc, conj_eq_star]
    simp only [snocI, Fin.snoc_castSucc, Fin.snoc_last, Fin.val_castSucc, Fin.val_last, Fin.init]
    ring

/-- the matrix `s_j s_jᴴ` built by the driver from flat vectors `aN`, `bN` (`s_j = a ⊗ conj(b)^{⊗j} ⊗ b^{⊗(L−j)}`) denotes
`a aᴴ ⊗ (conj(b) conj(b)ᴴ)^{⊗j} ⊗ (b bᴴ)^{⊗(L−j)}`; for `j = 0` this is the product point `fosProdSigma` -/
theorem ofFlat_fosOuter_prodVec (L j : ℕ) (aN bN : ℕ → ℂ) :
    ofFlat (dA := dA) (d := d) L (fosOuter (fosProdVec d aN bN j L))
      = prodExt (vecMulVec (fun x : Fin dA => aN x) (star fun x : Fin dA => aN x))
          (fun t : Fin L => if (t : ℕ) < j then star (fun y : Fin d => bN y) else fun y : Fin d => bN y) := by
  ext i i'
  simp only [ofFlat, fosOuter, fosProdVec_encH, conj_eq_star, prodExt_eq, prodOp_apply, Matrix.vecMulVec_apply, Pi.star_apply, star_mul',
    star_prod]
  rw [mul_mul_mul_comm, ← Finset.prod_mul_distrib]
  congr 1
  refine Finset.prod_congr rfl fun s _ => ?_
  by_cases hs : (s : ℕ) < j <;> simp [hs]

theorem ofFlat_fosProdSigma (ℓ : ℕ) (aN bN : ℕ → ℂ) :
    ofFlat (dA := dA) (d := d) (ℓ + 1) (fosOuter (fosProdVec d aN bN 0 (ℓ + 1)))
      = fosProdSigma ℓ (fun x : Fin dA => aN x) (fun y : Fin d => bN y) := by
  rw [ofFlat_fosOuter_prodVec]
  simp [fosProdSigma]

end Model
end Toq.Metrics
