import Toq.Model.Metrics
import Toq.Proofs.Cert
import Toq.Proofs.TraceNorm
/-!
# Fidelity as the optimal value of a semidefinite program, and the certificate checkers of C13

* `fidV ρ σ = sup { Re tr X : [[ρ, X], [Xᴴ, σ]] ⪰ 0 }` (`FidFeasible`) with its dual (`FidDualFeasible`, `dualVal`).  Weak duality is the
  trace pairing of a primal with a dual block whose off-diagonal block is free (`FidFeasible.neg_re_trace_le_dualVal`, from
  `Matrix.PosSemidef.re_trace_fromBlocks_mul_nonneg` of `Proofs/Psd.lean`); symmetry and unitary invariance are maps of feasible points;
  `matsumotoV` is the same program over Hermitian `X`.  The trace norm is in `Proofs/TraceNorm.lean`.
* The executable `block` denotes `Matrix.fromBlocks`; `check*_core` say what acceptance by a certificate checker of `Toq.Model.Metrics` means.
-/

open Matrix
open scoped ComplexOrder MatrixOrder

namespace Toq.Metrics

section Fidelity
variable {ι : Type*} [Fintype ι] [DecidableEq ι]

def FidFeasible (ρ σ X : Matrix ι ι ℂ) : Prop := (fromBlocks ρ X Xᴴ σ).PosSemidef

/-- `[[Y, C], [Cᴴ, Z]] ⪰ 0`: the dual constraint with a free off-diagonal block (`C = −1` for the fidelity program, any `C` with
`C + Cᴴ = −2` for the Hermitian-restricted one) -/
def DualBlockPsd (Y Z C : Matrix ι ι ℂ) : Prop := (fromBlocks Y C Cᴴ Z).PosSemidef

def FidDualFeasible (Y Z : Matrix ι ι ℂ) : Prop := DualBlockPsd Y Z (-1)

noncomputable def dualVal (ρ σ Y Z : Matrix ι ι ℂ) : ℝ := ((Y * ρ).trace.re + (Z * σ).trace.re) / 2

end Fidelity

section
variable {ι : Type*}

theorem FidFeasible.posSemidef_left {ρ σ X : Matrix ι ι ℂ} (h : FidFeasible ρ σ X) : ρ.PosSemidef :=
  h.submatrix Sum.inl

theorem FidFeasible.posSemidef_right {ρ σ X : Matrix ι ι ℂ} (h : FidFeasible ρ σ X) : σ.PosSemidef :=
  h.submatrix Sum.inr

theorem fidFeasible_swap {ρ σ X : Matrix ι ι ℂ} (h : FidFeasible ρ σ X) : FidFeasible σ ρ Xᴴ := by
  unfold FidFeasible
  rw [Matrix.conjTranspose_conjTranspose]
  exact Matrix.PosSemidef.fromBlocks_swap h

end

section Fidelity
variable {ι : Type*} [Fintype ι] [DecidableEq ι]

theorem fidFeasible_zero {ρ σ : Matrix ι ι ℂ} (hρ : ρ.PosSemidef) (hσ : σ.PosSemidef) : FidFeasible ρ σ 0 := by
  simpa [FidFeasible] using hρ.fromBlocks_diag hσ

theorem fidFeasible_gram (A B : Matrix ι ι ℂ) : FidFeasible (Aᴴ * A) (Bᴴ * B) (Aᴴ * B) := by
  unfold FidFeasible
  rw [Matrix.conjTranspose_mul, Matrix.conjTranspose_conjTranspose]
  exact posSemidef_fromBlocks_gram A B

theorem FidFeasible.mono_right {ρ σ σ' X : Matrix ι ι ℂ} (h : FidFeasible ρ σ X) (hσ : (σ' - σ).PosSemidef) :
    FidFeasible ρ σ' X := by
  have := Matrix.PosSemidef.add h ((Matrix.PosSemidef.zero (n := ι) (R := ℂ)).fromBlocks_diag hσ)
  rw [fromBlocks_add] at this
  simpa [FidFeasible] using this

theorem fidFeasible_sqrtM_mul_sqrtM {ρ σ : Matrix ι ι ℂ} (hρ : ρ.PosSemidef) (hσ : σ.PosSemidef) :
    FidFeasible ρ σ (sqrtM ρ * sqrtM σ) := by
  have := fidFeasible_gram (sqrtM ρ) (sqrtM σ)
  rwa [(sqrtM_isHermitian ρ).eq, (sqrtM_isHermitian σ).eq, sqrtM_mul_self hρ, sqrtM_mul_self hσ] at this

theorem fidFeasible_self {ρ : Matrix ι ι ℂ} (hρ : ρ.PosSemidef) : FidFeasible ρ ρ ρ := by
  have := fidFeasible_sqrtM_mul_sqrtM hρ hρ
  rwa [sqrtM_mul_self hρ] at this

theorem fidFeasible_conj {ρ σ X : Matrix ι ι ℂ} (U : Matrix ι ι ℂ) (h : FidFeasible ρ σ X) :
    FidFeasible (U * ρ * Uᴴ) (U * σ * Uᴴ) (U * X * Uᴴ) :=
  Matrix.PosSemidef.fromBlocks_conj U U h

/-- weak duality: the trace pairing of a primal block `[[ρ, X], [Xᴴ, σ]]` with a dual block `[[Y, C], [Cᴴ, Z]]` is non-negative -/
theorem FidFeasible.neg_re_trace_le_dualVal {ρ σ X Y Z C : Matrix ι ι ℂ} (hP : FidFeasible ρ σ X)
    (hD : DualBlockPsd Y Z C) : -(Cᴴ * X).trace.re ≤ dualVal ρ σ Y Z := by
  have h := Matrix.PosSemidef.re_trace_fromBlocks_mul_nonneg hP hD
  rw [Matrix.trace_mul_comm X, re_trace_conjTranspose_mul X C, Matrix.trace_mul_comm ρ, Matrix.trace_mul_comm σ] at h
  unfold dualVal
  linarith

theorem FidFeasible.re_trace_le_dualVal {ρ σ X Y Z : Matrix ι ι ℂ} (hP : FidFeasible ρ σ X)
    (hD : FidDualFeasible Y Z) : X.trace.re ≤ dualVal ρ σ Y Z := by
  have h := hP.neg_re_trace_le_dualVal hD
  rwa [Matrix.conjTranspose_neg, Matrix.conjTranspose_one, Matrix.neg_mul, Matrix.one_mul, Matrix.trace_neg,
    Complex.neg_re, neg_neg] at h

theorem FidFeasible.re_trace_le_dualVal_herm {ρ σ W Y Z C : Matrix ι ι ℂ} (hW : W.IsHermitian)
    (hP : FidFeasible ρ σ W) (hC : C + Cᴴ = (-2 : ℂ) • (1 : Matrix ι ι ℂ)) (hD : DualBlockPsd Y Z C) :
    W.trace.re ≤ dualVal ρ σ Y Z := by
  have h := hP.neg_re_trace_le_dualVal hD
  have e : (C * W).trace.re + (Cᴴ * W).trace.re = -2 * W.trace.re := by
    rw [← Complex.add_re, ← Matrix.trace_add, ← Matrix.add_mul, hC, Matrix.smul_mul, Matrix.one_mul, Matrix.trace_smul,
      smul_eq_mul]
    simp
  rw [← re_trace_conjTranspose_mul_herm C W hW] at e
  linarith

/-- the dual feasible points in use are the pairs `(Y, Y⁻¹)`: `[[Y, −1], [−1, Z]] = [1, −Z]ᴴ Y [1, −Z]` when `Y Z = 1` -/
theorem fidDualFeasible_of_mul_eq_one {Y Z : Matrix ι ι ℂ} (hY : Y.PosSemidef) (hZ : Z.IsHermitian) (h : Y * Z = 1) :
    FidDualFeasible Y Z := by
  have hZY : Z * Y = 1 := by
    have := congrArg conjTranspose h
    rwa [conjTranspose_mul, hZ.eq, hY.isHermitian.eq, conjTranspose_one] at this
  have hg := hY.fromBlocks_gram 1 (-Z)
  unfold FidDualFeasible DualBlockPsd
  simpa [hZ.eq, h, hZY, Matrix.mul_assoc] using hg

theorem fidDualFeasible_one : FidDualFeasible (1 : Matrix ι ι ℂ) 1 :=
  fidDualFeasible_of_mul_eq_one Matrix.PosSemidef.one Matrix.isHermitian_one (Matrix.mul_one 1)

theorem dualVal_one (ρ σ : Matrix ι ι ℂ) : dualVal ρ σ 1 1 = (ρ.trace.re + σ.trace.re) / 2 := by
  unfold dualVal; rw [Matrix.one_mul, Matrix.one_mul]

theorem FidFeasible.re_trace_le {ρ σ X : Matrix ι ι ℂ} (h : FidFeasible ρ σ X) :
    X.trace.re ≤ (ρ.trace.re + σ.trace.re) / 2 :=
  dualVal_one ρ σ ▸ FidFeasible.re_trace_le_dualVal h fidDualFeasible_one

theorem FidFeasible.re_trace_le_one {ρ σ X : Matrix ι ι ℂ} (h : FidFeasible ρ σ X) (tρ : ρ.trace = 1)
    (tσ : σ.trace = 1) : X.trace.re ≤ 1 := by
  have := h.re_trace_le
  rw [tρ, tσ, Complex.one_re] at this
  linarith

def fidSet (ρ σ : Matrix ι ι ℂ) : Set ℝ := {x | ∃ X, FidFeasible ρ σ X ∧ X.trace.re = x}

/-- root fidelity as the optimal value of Watrous' program -/
noncomputable def fidV (ρ σ : Matrix ι ι ℂ) : ℝ := sSup (fidSet ρ σ)

theorem fidSet_bddAbove (ρ σ : Matrix ι ι ℂ) : BddAbove (fidSet ρ σ) :=
  ⟨_, by rintro x ⟨X, hX, rfl⟩; exact hX.re_trace_le⟩

theorem zero_mem_fidSet {ρ σ : Matrix ι ι ℂ} (hρ : ρ.PosSemidef) (hσ : σ.PosSemidef) :
    (0 : ℝ) ∈ fidSet ρ σ :=
  ⟨0, fidFeasible_zero hρ hσ, by simp⟩

theorem le_fidV {ρ σ X : Matrix ι ι ℂ} (hX : FidFeasible ρ σ X) : X.trace.re ≤ fidV ρ σ :=
  le_csSup (fidSet_bddAbove ρ σ) ⟨X, hX, rfl⟩

theorem fidV_nonneg {ρ σ : Matrix ι ι ℂ} (hρ : ρ.PosSemidef) (hσ : σ.PosSemidef) : 0 ≤ fidV ρ σ :=
  le_csSup (fidSet_bddAbove ρ σ) (zero_mem_fidSet hρ hσ)

theorem fidV_le {ρ σ : Matrix ι ι ℂ} (hρ : ρ.PosSemidef) (hσ : σ.PosSemidef) {b : ℝ}
    (h : ∀ X : Matrix ι ι ℂ, FidFeasible ρ σ X → X.trace.re ≤ b) : fidV ρ σ ≤ b := by
  refine csSup_le ⟨0, zero_mem_fidSet hρ hσ⟩ ?_
  rintro x ⟨X, hX, rfl⟩
  exact h X hX

theorem fidV_le_dualVal {ρ σ Y Z : Matrix ι ι ℂ} (hρ : ρ.PosSemidef) (hσ : σ.PosSemidef)
    (hD : FidDualFeasible Y Z) : fidV ρ σ ≤ dualVal ρ σ Y Z :=
  fidV_le hρ hσ fun _ hX => hX.re_trace_le_dualVal hD

theorem fidV_le_mean_trace {ρ σ : Matrix ι ι ℂ} (hρ : ρ.PosSemidef) (hσ : σ.PosSemidef) :
    fidV ρ σ ≤ (ρ.trace.re + σ.trace.re) / 2 :=
  fidV_le hρ hσ fun _ hX => hX.re_trace_le

theorem fidV_le_one {ρ σ : Matrix ι ι ℂ} (hρ : ρ.PosSemidef) (hσ : σ.PosSemidef) (tρ : ρ.trace = 1)
    (tσ : σ.trace = 1) : fidV ρ σ ≤ 1 :=
  fidV_le hρ hσ fun _ hX => hX.re_trace_le_one tρ tσ

theorem fidV_self {ρ : Matrix ι ι ℂ} (hρ : ρ.PosSemidef) : fidV ρ ρ = ρ.trace.re := by
  refine le_antisymm ?_ (le_fidV (fidFeasible_self hρ))
  have := fidV_le_mean_trace hρ hρ
  linarith

theorem fidSet_conj (ρ σ U : Matrix ι ι ℂ) (hU : Uᴴ * U = 1) :
    fidSet (U * ρ * Uᴴ) (U * σ * Uᴴ) = fidSet ρ σ := by
  have key : ∀ ρ σ U : Matrix ι ι ℂ, Uᴴ * U = 1 → fidSet ρ σ ⊆ fidSet (U * ρ * Uᴴ) (U * σ * Uᴴ) := by
    rintro ρ σ U hU x ⟨X, hX, rfl⟩
    exact ⟨U * X * Uᴴ, fidFeasible_conj U hX, by rw [Matrix.trace_conj_eq hU]⟩
  refine Set.Subset.antisymm ?_ (key ρ σ U hU)
  have := key (U * ρ * Uᴴ) (U * σ * Uᴴ) Uᴴ (by rw [Matrix.conjTranspose_conjTranspose]; exact mul_eq_one_comm.mp hU)
  rwa [Matrix.conjTranspose_conjTranspose, conj_conj_cancel hU, conj_conj_cancel hU] at this

theorem fidV_conj (ρ σ U : Matrix ι ι ℂ) (hU : Uᴴ * U = 1) : fidV (U * ρ * Uᴴ) (U * σ * Uᴴ) = fidV ρ σ := by
  rw [fidV, fidSet_conj ρ σ U hU]; rfl

def hermFidSet (ρ σ : Matrix ι ι ℂ) : Set ℝ := {x | ∃ W, W.IsHermitian ∧ FidFeasible ρ σ W ∧ W.trace.re = x}

theorem hermFidSet_bddAbove (ρ σ : Matrix ι ι ℂ) : BddAbove (hermFidSet ρ σ) :=
  ⟨_, by rintro x ⟨W, -, hW, rfl⟩; exact hW.re_trace_le⟩

theorem zero_mem_hermFidSet {ρ σ : Matrix ι ι ℂ} (hρ : ρ.PosSemidef) (hσ : σ.PosSemidef) :
    (0 : ℝ) ∈ hermFidSet ρ σ :=
  ⟨0, by simp, fidFeasible_zero hρ hσ, by simp⟩

/-- Matsumoto fidelity as the optimal value of the Hermitian-restricted program -/
noncomputable def matsumotoV (ρ σ : Matrix ι ι ℂ) : ℝ := sSup (hermFidSet ρ σ)

theorem le_matsumotoV {ρ σ W : Matrix ι ι ℂ} (hW : W.IsHermitian) (hF : FidFeasible ρ σ W) :
    W.trace.re ≤ matsumotoV ρ σ :=
  le_csSup (hermFidSet_bddAbove ρ σ) ⟨W, hW, hF, rfl⟩

theorem matsumotoV_le {ρ σ : Matrix ι ι ℂ} (hρ : ρ.PosSemidef) (hσ : σ.PosSemidef) {b : ℝ}
    (h : ∀ W : Matrix ι ι ℂ, W.IsHermitian → FidFeasible ρ σ W → W.trace.re ≤ b) : matsumotoV ρ σ ≤ b := by
  refine csSup_le ⟨0, zero_mem_hermFidSet hρ hσ⟩ ?_
  rintro x ⟨W, hW, hF, rfl⟩
  exact h W hW hF

theorem matsumotoV_le_fidV {ρ σ : Matrix ι ι ℂ} (hρ : ρ.PosSemidef) (hσ : σ.PosSemidef) : matsumotoV ρ σ ≤ fidV ρ σ :=
  matsumotoV_le hρ hσ fun _ _ hF => le_fidV hF

end Fidelity

section Symm
variable {ι : Type*} [Fintype ι]

theorem fidSet_symm (ρ σ : Matrix ι ι ℂ) : fidSet ρ σ = fidSet σ ρ := by
  have key : ∀ ρ σ : Matrix ι ι ℂ, fidSet ρ σ ⊆ fidSet σ ρ := by
    rintro ρ σ x ⟨X, hX, rfl⟩
    exact ⟨Xᴴ, fidFeasible_swap hX, Matrix.re_trace_conjTranspose X⟩
  exact Set.Subset.antisymm (key ρ σ) (key σ ρ)

theorem fidV_symm (ρ σ : Matrix ι ι ℂ) : fidV ρ σ = fidV σ ρ := by
  rw [fidV, fidSet_symm]; rfl

end Symm

section Bridge
open EMat
variable {n k r r' : Nat}

theorem toM_block (A B C D : EMat n n) :
    (block A B C D).toM.submatrix finSumFinEquiv finSumFinEquiv
      = fromBlocks A.toM B.toM C.toM D.toM := by
  ext i j
  rcases i with i | i <;> rcases j with j | j <;>
    simp [block, finSumFinEquiv_apply_left, finSumFinEquiv_apply_right]

theorem posSemidef_of_block {A B C D : EMat n n} (h : (block A B C D).toM.PosSemidef) :
    (fromBlocks A.toM B.toM C.toM D.toM).PosSemidef := by
  have := h.submatrix (finSumFinEquiv : Fin n ⊕ Fin n → Fin (n + n))
  rwa [toM_block] at this

theorem fidFeasible_of_fidBlock {ρ σ X : EMat n n} (h : (fidBlock ρ σ X).toM.PosSemidef) :
    FidFeasible ρ.toM σ.toM X.toM := by
  have := posSemidef_of_block h
  rwa [toM_ct] at this

theorem dualBlockPsd_of_dualBlock {Y Z C : EMat n n} (h : (dualBlock Y Z C).toM.PosSemidef) :
    DualBlockPsd Y.toM Z.toM C.toM := by
  have := posSemidef_of_block h
  rwa [toM_ct] at this

theorem psdCertCong_sound (A : EMat n n) (B : EMat n k) (M : EMat k k) (L : EMat k r)
    (h : psdCertCong A B M L = true) : A.toM.PosSemidef := by
  simp only [psdCertCong, Bool.and_eq_true] at h
  rw [beq_sound _ _ h.1, toM_mul, toM_mul, toM_ct]
  exact (psdCert_sound _ _ h.2).mul_mul_conjTranspose_same _

theorem re_trace_eq_cast {A : EMat n n} {q : Rat} (h : A.trace.re = q) : A.toM.trace.re = (q : ℝ) := by
  rw [← re_trace]
  exact congrArg _ h

theorem contractionOk_sound (W : EMat n n) (L1 : EMat n r) (L2 : EMat n r')
    (h : contractionOk W L1 L2 = true) : IsContraction W.toM := by
  simp only [contractionOk, Bool.and_eq_true] at h
  have h1 := psdCert_sound _ _ h.1
  have h2 := psdCert_sound _ _ h.2
  rw [toM_sub, toM_one] at h1
  rw [toM_add, toM_one] at h2
  exact ⟨h1, h2⟩

theorem checkTNLower_core (H W : EMat n n) (L1 : EMat n r) (L2 : EMat n r') (lo : Rat)
    (h : checkTNLower H W L1 L2 = some lo) :
    H.toM.IsHermitian ∧ IsContraction W.toM ∧ (W.toM * H.toM).trace.re = (lo : ℝ) := by
  obtain ⟨hc, hv⟩ := check_eq_some.mp h
  simp only [Bool.and_eq_true] at hc
  refine ⟨isHermitian_sound _ hc.1, contractionOk_sound _ _ _ hc.2, ?_⟩
  rw [← toM_mul]
  exact re_trace_eq_cast hv

theorem checkTNUpper_core (H P Q : EMat n n) (LP : EMat n r) (LQ : EMat n r') (hi : Rat)
    (h : checkTNUpper H P Q LP LQ = some hi) :
    P.toM.PosSemidef ∧ Q.toM.PosSemidef ∧ H.toM = P.toM - Q.toM ∧
      P.toM.trace.re + Q.toM.trace.re = (hi : ℝ) := by
  obtain ⟨hc, hv⟩ := check_eq_some.mp h
  simp only [Bool.and_eq_true] at hc
  obtain ⟨⟨h1, h2⟩, h3⟩ := hc
  refine ⟨psdCert_sound _ _ h2, psdCert_sound _ _ h3, ?_, ?_⟩
  · rw [beq_sound _ _ h1, toM_sub]
  · rw [← re_trace, ← re_trace, ← Rat.cast_add]
    exact congrArg _ hv

theorem checkFidPrimal_core (ρ σ X : EMat n n) (L : EMat (n + n) r) (lo : Rat)
    (h : checkFidPrimal ρ σ X L = some lo) :
    FidFeasible ρ.toM σ.toM X.toM ∧ X.toM.trace.re = (lo : ℝ) := by
  obtain ⟨hc, hv⟩ := check_eq_some.mp h
  exact ⟨fidFeasible_of_fidBlock (psdCert_sound _ _ hc), re_trace_eq_cast hv⟩

theorem checkFidPrimalCong_core (ρ σ X : EMat n n) (B : EMat (n + n) k) (M : EMat k k)
    (L : EMat k r) (lo : Rat) (h : checkFidPrimalCong ρ σ X B M L = some lo) :
    FidFeasible ρ.toM σ.toM X.toM ∧ X.toM.trace.re = (lo : ℝ) := by
  obtain ⟨hc, hv⟩ := check_eq_some.mp h
  exact ⟨fidFeasible_of_fidBlock (psdCertCong_sound _ _ _ _ hc), re_trace_eq_cast hv⟩

theorem dualValue_cast (ρ σ Y Z : EMat n n) :
    ((dualValue ρ σ Y Z : Rat) : ℝ) = dualVal ρ.toM σ.toM Y.toM Z.toM := by
  unfold dualValue dualVal
  rw [Rat.cast_div, Rat.cast_add, re_trace, re_trace, toM_mul, toM_mul]
  norm_num

theorem checkFidDual_core (ρ σ Y Z : EMat n n) (L : EMat (n + n) r) (hi : Rat)
    (h : checkFidDual ρ σ Y Z L = some hi) :
    FidDualFeasible Y.toM Z.toM ∧ dualVal ρ.toM σ.toM Y.toM Z.toM = (hi : ℝ) := by
  obtain ⟨hc, hv⟩ := check_eq_some.mp h
  refine ⟨?_, ?_⟩
  · have := dualBlockPsd_of_dualBlock (psdCert_sound _ _ hc)
    rwa [toM_neg, toM_one] at this
  · rw [← dualValue_cast]
    exact congrArg _ hv

theorem checkMatsPrimal_core (ρ σ W : EMat n n) (L : EMat (n + n) r) (lo : Rat)
    (h : checkMatsPrimal ρ σ W L = some lo) :
    W.toM.IsHermitian ∧ FidFeasible ρ.toM σ.toM W.toM ∧ W.toM.trace.re = (lo : ℝ) := by
  obtain ⟨hc, hv⟩ := Option.ite_none_right_eq_some.mp h
  exact ⟨isHermitian_sound _ hc, checkFidPrimal_core _ _ _ _ _ hv⟩

theorem checkMatsDual_core (ρ σ Y Z C : EMat n n) (L : EMat (n + n) r) (hi : Rat)
    (h : checkMatsDual ρ σ Y Z C L = some hi) :
    C.toM + C.toMᴴ = (-2 : ℂ) • (1 : Matrix (Fin n) (Fin n) ℂ) ∧ DualBlockPsd Y.toM Z.toM C.toM ∧
      dualVal ρ.toM σ.toM Y.toM Z.toM = (hi : ℝ) := by
  obtain ⟨hc, hv⟩ := check_eq_some.mp h
  simp only [Bool.and_eq_true, offDiagOk] at hc
  refine ⟨?_, ?_, ?_⟩
  · have := beq_sound _ _ hc.1
    rw [toM_add, toM_ct, toM_scalar] at this
    rw [this]
    norm_num
  · exact dualBlockPsd_of_dualBlock (psdCert_sound _ _ hc.2)
  · rw [← dualValue_cast]
    exact congrArg _ hv

end Bridge

end Toq.Metrics
