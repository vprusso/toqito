import Mathlib.Analysis.Matrix.Order
import Mathlib.LinearAlgebra.Matrix.Kronecker
import Mathlib.Algebra.BigOperators.Fin
/-!
# Operators on a tensor product: matrices indexed by pairs

Operations on `Matrix (ι × κ) (ι × κ) R`, each with the facts proofs use it through:

* `ptrR`, `ptrL`: the partial trace over the right / left factor (additive, keeps the trace, Hermitian and positive semidefinite
  matrices; `ptrR (A ⊗ₖ B) = tr B • A`; the adjoint of `ρ ↦ ρ ⊗ₖ 1`).  `ptrL X` is `ptrR` of `X` with the factors exchanged, and its facts
  are obtained from those of `ptrR` that way;
* `pTR`, `pTL`: the partial transpose of the right / left factor (`pTR` is an involution, self-adjoint for the trace form, covariant under
  local operators; `pTL X = (pTR X)ᵀ` (`pTL_eq_transpose_pTR`), so one is positive semidefinite iff the other is);
* product vectors `fun p => a p.1 * b p.2`: `vecMulVec a a' ⊗ₖ vecMulVec b b'` is the rank-one matrix of `a ⊗ b`, `a' ⊗ b'`, with the forms for
  `|a ⊗ b⟩⟨a' ⊗ b'|` and `‖a ⊗ b‖²`; a unit product vector has unit factors; a table with vanishing `2 × 2` minors is a product; the
  projector of a product vector has a positive semidefinite partial transpose;
* `realignment`, with its covariance under local operators; `swapMatrix κ`, the exchange of two copies, and `symmProj κ = (1 + SWAP) / 2`.

The last section is the vocabulary of the symmetric-extension (DPS) hierarchy, on `ι ⊗ κ^{⊗ L}` (index `ι × (L → κ)`, over `ℂ`): `pTS S`,
the partial transpose of the copies `t` with `S t`; the product operators `prodOp A β = A ⊗ |β_0 … β_{L-1}⟩⟨β_0 … β_{L-1}|`; `ptrLast`,
the trace over the last of `n + 1` copies.  What the hierarchies of C12, C13, C15 and C20 compute on a product operator is here: transposing
copies conjugates their factors (`pTS_prodOp`), tracing copies out leaves the factors `‖β_s‖²` (`ptrR_prodOp`, `ptrLast_prodOp`), equal factors
make the entries invariant under permuting the copies (`prodOp_const_comp_perm`).

An operator on `ℂ^a ⊗ ℂ^b` given on the flat index `i·b + j` is read on pairs by `Matrix.submatrix` along `finProdFinEquiv` (its value and
the double sum over `Fin a × Fin b`: `Toq.finProdFinEquiv_val`, `Fin.sum_sum_eq_sum_mul` of `Proofs/Digits`); that `submatrix` along an `Equiv`
keeps the trace is `trace_submatrix_equiv`.
-/

open Matrix
open scoped ComplexOrder Kronecker

namespace Matrix
variable {ι κ ι' κ' L R : Type*}

/-! ### `submatrix` along an equivalence -/

theorem trace_submatrix_equiv [Fintype ι] [Fintype ι'] [AddCommMonoid R] (e : ι' ≃ ι) (M : Matrix ι ι R) :
    (M.submatrix e e).trace = M.trace :=
  Equiv.sum_comp e fun i => M i i

theorem trace_mul_submatrix_equiv [Fintype ι] [Fintype ι'] [NonUnitalNonAssocSemiring R] (e : ι' ≃ ι) (M N : Matrix ι ι R) :
    (M.submatrix e e * N.submatrix e e).trace = (M * N).trace := by
  rw [submatrix_mul_equiv, trace_submatrix_equiv]

theorem submatrix_sum [AddCommMonoid R] {K : Type*} (s : Finset K) (F : K → Matrix ι κ R) (f : ι' → ι) (g : κ' → κ) :
    (∑ k ∈ s, F k).submatrix f g = ∑ k ∈ s, (F k).submatrix f g := by
  ext i j; simp only [submatrix_apply, sum_apply]

/-- the `Finset.sum` form of Mathlib's `add_kronecker` -/
theorem sum_kronecker [NonUnitalNonAssocSemiring R] {K : Type*} (s : Finset K) (A : K → Matrix ι ι' R) (B : Matrix κ κ' R) :
    (∑ a ∈ s, A a) ⊗ₖ B = ∑ a ∈ s, A a ⊗ₖ B := by
  ext i j
  simp only [kroneckerMap_apply, sum_apply, Finset.sum_mul]

theorem kronecker_sum [NonUnitalNonAssocSemiring R] {K : Type*} (s : Finset K) (A : Matrix ι ι' R) (B : K → Matrix κ κ' R) :
    A ⊗ₖ ∑ b ∈ s, B b = ∑ b ∈ s, A ⊗ₖ B b := by
  ext i j
  simp only [kroneckerMap_apply, sum_apply, Finset.mul_sum]

theorem kronecker_submatrix_swap [CommMagma R] (A : Matrix ι ι R) (B : Matrix κ κ R) :
    (A ⊗ₖ B).submatrix Prod.swap Prod.swap = B ⊗ₖ A := by
  ext i j; exact mul_comm _ _

/-- the Kronecker product of two isometries is an isometry -/
theorem kronecker_conjTranspose_mul_self {l m n p : Type*} [Fintype l] [Fintype n] [DecidableEq m] [DecidableEq p]
    [CommSemiring R] [StarRing R] {A : Matrix l m R} {B : Matrix n p R} (hA : Aᴴ * A = 1) (hB : Bᴴ * B = 1) :
    (A ⊗ₖ B)ᴴ * (A ⊗ₖ B) = 1 := by
  rw [conjTranspose_kronecker, ← mul_kronecker_mul, hA, hB, one_kronecker_one]

/-- the Kronecker product is monotone on the positive cone: `A ⪰ B ⪰ 0` and `C ⪰ D ⪰ 0` give `A ⊗ C ⪰ B ⊗ D`
(`A ⊗ C − B ⊗ D = (A − B) ⊗ C + B ⊗ (C − D)`) -/
theorem kronecker_sub_kronecker_posSemidef [Fintype ι] [Fintype κ] [DecidableEq ι] [DecidableEq κ]
    {A B : Matrix ι ι ℂ} {C D : Matrix κ κ ℂ} (hB : B.PosSemidef) (hAB : (A - B).PosSemidef)
    (hD : D.PosSemidef) (hCD : (C - D).PosSemidef) : (A ⊗ₖ C - B ⊗ₖ D).PosSemidef := by
  have hC : C.PosSemidef := sub_add_cancel C D ▸ hCD.add hD
  have hsplit : A ⊗ₖ C - B ⊗ₖ D = (A - B) ⊗ₖ C + B ⊗ₖ (C - D) := by
    ext i j
    simp only [sub_apply, add_apply, kroneckerMap_apply]
    ring
  rw [hsplit]
  exact (hAB.kronecker hC).add (hB.kronecker hCD)

/-- reindexing a block matrix blockwise -/
theorem fromBlocks_submatrix_sumMap {l m n o l' m' n' o' : Type*} (A : Matrix n l R) (B : Matrix n m R)
    (C : Matrix o l R) (D : Matrix o m R) (e₁ : n' → n) (e₂ : o' → o) (f₁ : l' → l) (f₂ : m' → m) :
    (fromBlocks A B C D).submatrix (Sum.map e₁ e₂) (Sum.map f₁ f₂)
      = fromBlocks (A.submatrix e₁ f₁) (B.submatrix e₁ f₂) (C.submatrix e₂ f₁) (D.submatrix e₂ f₂) := by
  ext (i | i) (j | j) <;> rfl

theorem one_kronecker_submatrix_prodMap [DecidableEq κ] [DecidableEq κ'] [MulZeroOneClass R] (e₁ : κ' ≃ κ) (e₂ : ι' → ι)
    (Y : Matrix ι ι R) :
    ((1 : Matrix κ κ R) ⊗ₖ Y).submatrix (Prod.map e₁ e₂) (Prod.map e₁ e₂) = (1 : Matrix κ' κ' R) ⊗ₖ Y.submatrix e₂ e₂ := by
  ext ⟨i, j⟩ ⟨i', j'⟩
  simp only [submatrix_apply, Prod.map_apply, kroneckerMap_apply, one_apply, EmbeddingLike.apply_eq_iff_eq]

/-- a Kronecker product of rank-one matrices is the rank-one matrix of the product vectors -/
theorem vecMulVec_kronecker_vecMulVec [CommSemigroup R] (a a' : ι → R) (b b' : κ → R) :
    vecMulVec a a' ⊗ₖ vecMulVec b b' = vecMulVec (fun p : ι × κ => a p.1 * b p.2) fun p => a' p.1 * b' p.2 := by
  ext i j; exact mul_mul_mul_comm _ _ _ _

/-! ### product vectors -/

/-- `⟨a ⊗ b, a' ⊗ b'⟩ = ⟨a, a'⟩ ⟨b, b'⟩`: the trace of `vecMulVec_kronecker_vecMulVec` -/
theorem dotProduct_mul_mul [Fintype ι] [Fintype κ] [CommSemiring R] (a a' : ι → R) (b b' : κ → R) :
    (fun p : ι × κ => a p.1 * b p.2) ⬝ᵥ (fun p => a' p.1 * b' p.2) = (a ⬝ᵥ a') * (b ⬝ᵥ b') := by
  rw [← trace_vecMulVec, ← vecMulVec_kronecker_vecMulVec, trace_kronecker, trace_vecMulVec, trace_vecMulVec]

/-- `|a ⊗ b⟩⟨a' ⊗ b'| = |a⟩⟨a'| ⊗ |b⟩⟨b'|`: `vecMulVec_kronecker_vecMulVec` with the conjugation inside the product vector -/
theorem vecMulVec_mul_star_mul (a a' : ι → ℂ) (b b' : κ → ℂ) :
    vecMulVec (fun p : ι × κ => a p.1 * b p.2) (star fun p : ι × κ => a' p.1 * b' p.2)
      = vecMulVec a (star a') ⊗ₖ vecMulVec b (star b') :=
  (congrArg _ (funext fun _ => star_mul' _ _)).trans (vecMulVec_kronecker_vecMulVec a (star a') b (star b')).symm

/-- `‖a ⊗ b‖² = ‖a‖² ‖b‖²` -/
theorem dotProduct_star_prod [Fintype ι] [Fintype κ] (a : ι → ℂ) (b : κ → ℂ) :
    (fun p : ι × κ => a p.1 * b p.2) ⬝ᵥ star (fun p : ι × κ => a p.1 * b p.2) = (a ⬝ᵥ star a) * (b ⬝ᵥ star b) :=
  (congrArg _ (funext fun _ => star_mul' _ _)).trans (dotProduct_mul_mul a (star a) b (star b))

/-- a table all of whose `2 × 2` minors vanish is a product: with `A a₀ b₀ ≠ 0` it is column `b₀` times row `a₀ / A a₀ b₀` -/
theorem exists_mul_of_minors_eq_zero {K : Type*} [Field K] (A : ι → κ → K)
    (h : ∀ a a' b b', A a b * A a' b' = A a b' * A a' b) : ∃ (x : ι → K) (y : κ → K), ∀ a b, A a b = x a * y b := by
  by_cases h0 : ∀ a b, A a b = 0
  · exact ⟨fun _ => 0, fun _ => 0, fun a b => by rw [h0 a b, zero_mul]⟩
  · simp only [not_forall] at h0
    obtain ⟨a₀, b₀, hne⟩ := h0
    refine ⟨fun a => A a b₀, fun b => A a₀ b / A a₀ b₀, fun a b => ?_⟩
    rw [mul_div_assoc', eq_div_iff hne]
    exact h a a₀ b b₀

theorem dotProduct_self_star_eq_sum_normSq [Fintype ι] (u : ι → ℂ) : u ⬝ᵥ star u = ((∑ i, Complex.normSq (u i) : ℝ) : ℂ) := by
  rw [Complex.ofReal_sum]
  exact Finset.sum_congr rfl fun i _ => Complex.mul_conj (u i)

/-- a non-zero vector has a unit multiple -/
theorem exists_unit_smul [Fintype ι] {u : ι → ℂ} (hu : u ≠ 0) : ∃ c : ℂ, (c • u) ⬝ᵥ star (c • u) = 1 := by
  have hr0 : 0 < ∑ i, Complex.normSq (u i) := by
    have := dotProduct_self_star_pos_iff.mpr hu
    rwa [dotProduct_self_star_eq_sum_normSq, Complex.zero_lt_real] at this
  refine ⟨((Real.sqrt (∑ i, Complex.normSq (u i)))⁻¹ : ℝ), ?_⟩
  rw [star_smul, smul_dotProduct, dotProduct_smul, dotProduct_self_star_eq_sum_normSq, Complex.star_def, Complex.conj_ofReal, smul_eq_mul, smul_eq_mul,
    ← Complex.ofReal_mul, ← Complex.ofReal_mul, ← Complex.ofReal_one]
  congr 1
  rw [← mul_assoc, ← mul_inv, Real.mul_self_sqrt hr0.le, inv_mul_cancel₀ hr0.ne']

/-- a unit product vector is the product of two unit vectors: rescale `a` to a unit vector by `c` and `b` by `c⁻¹` -/
theorem exists_unit_factors [Fintype ι] [Fintype κ] (ψ : ι × κ → ℂ) (hψ : ψ ⬝ᵥ star ψ = 1) (a : ι → ℂ) (b : κ → ℂ)
    (hab : ∀ i, ψ i = a i.1 * b i.2) :
    ∃ (a' : ι → ℂ) (b' : κ → ℂ), a' ⬝ᵥ star a' = 1 ∧ b' ⬝ᵥ star b' = 1 ∧ ∀ i, ψ i = a' i.1 * b' i.2 := by
  have hprod : ∀ (a : ι → ℂ) (b : κ → ℂ), (∀ i, ψ i = a i.1 * b i.2) → (a ⬝ᵥ star a) * (b ⬝ᵥ star b) = 1 := fun a b h => by
    rw [← hψ, funext h, dotProduct_star_prod]
  have ha : a ≠ 0 := fun h0 => by
    have := hprod a b hab
    rw [h0, zero_dotProduct, zero_mul] at this
    exact zero_ne_one this
  obtain ⟨c, hc⟩ := exists_unit_smul ha
  have hc0 : c ≠ 0 := fun h0 => by
    rw [h0, zero_smul, zero_dotProduct] at hc
    exact zero_ne_one hc
  have hab' : ∀ i, ψ i = (c • a) i.1 * (c⁻¹ • b) i.2 := fun i => by
    rw [hab i, Pi.smul_apply, Pi.smul_apply, smul_eq_mul, smul_eq_mul, mul_mul_mul_comm, mul_inv_cancel₀ hc0, one_mul]
  refine ⟨c • a, c⁻¹ • b, hc, ?_, hab'⟩
  have := hprod _ _ hab'
  rwa [hc, one_mul] at this

/-! ### partial trace -/

section PartialTrace
variable [Fintype κ]

/-- partial trace over the right factor -/
def ptrR [AddCommMonoid R] (X : Matrix (ι × κ) (ι × κ) R) : Matrix ι ι R := fun a b => ∑ y, X (a, y) (b, y)

/-- partial trace over the left factor -/
def ptrL [AddCommMonoid R] (X : Matrix (κ × ι) (κ × ι) R) : Matrix ι ι R := fun a b => ∑ y, X (y, a) (y, b)

theorem ptrL_eq [AddCommMonoid R] (X : Matrix (κ × ι) (κ × ι) R) : ptrL X = ptrR (X.submatrix Prod.swap Prod.swap) := rfl

/-- the partial trace is the sum of the diagonal blocks -/
theorem ptrR_eq_sum [AddCommMonoid R] (X : Matrix (ι × κ) (ι × κ) R) :
    ptrR X = ∑ y, X.submatrix (fun a => (a, y)) fun a => (a, y) := by
  ext a b; simp only [ptrR, sum_apply, submatrix_apply]

theorem ptrR_add [AddCommMonoid R] (X Y : Matrix (ι × κ) (ι × κ) R) : ptrR (X + Y) = ptrR X + ptrR Y := by
  ext a b; simp only [ptrR, add_apply, Finset.sum_add_distrib]

theorem ptrR_zero [AddCommMonoid R] : ptrR (0 : Matrix (ι × κ) (ι × κ) R) = 0 := by
  ext a b; simp only [ptrR, zero_apply, Finset.sum_const_zero]

theorem ptrR_smul {S : Type*} [AddCommMonoid R] [DistribSMul S R] (c : S) (X : Matrix (ι × κ) (ι × κ) R) :
    ptrR (c • X) = c • ptrR X := by
  ext a b; simp only [ptrR, smul_apply, Finset.smul_sum]

theorem ptrR_sum [AddCommMonoid R] {K : Type*} (s : Finset K) (F : K → Matrix (ι × κ) (ι × κ) R) :
    ptrR (∑ k ∈ s, F k) = ∑ k ∈ s, ptrR (F k) := by
  ext a b; simp only [ptrR, sum_apply]; exact Finset.sum_comm

theorem trace_ptrR [Fintype ι] [AddCommMonoid R] (X : Matrix (ι × κ) (ι × κ) R) : (ptrR X).trace = X.trace :=
  (Fintype.sum_prod_type fun i : ι × κ => X i i).symm

theorem ptrR_conjTranspose [AddCommMonoid R] [StarAddMonoid R] (X : Matrix (ι × κ) (ι × κ) R) : ptrR Xᴴ = (ptrR X)ᴴ := by
  ext a b; simp only [ptrR, conjTranspose_apply, star_sum]

theorem IsHermitian.ptrR [AddCommMonoid R] [StarAddMonoid R] {X : Matrix (ι × κ) (ι × κ) R} (h : X.IsHermitian) :
    (ptrR X).IsHermitian :=
  (ptrR_conjTranspose X).symm.trans (congrArg Matrix.ptrR h)

theorem ptrR_kronecker [CommSemiring R] (A : Matrix ι ι R) (B : Matrix κ κ R) : ptrR (A ⊗ₖ B) = B.trace • A := by
  ext a b
  simp only [ptrR, kroneckerMap_apply, ← Finset.mul_sum, smul_apply, smul_eq_mul, trace, diag_apply, mul_comm]

theorem PosSemidef.ptrR [Finite ι] {X : Matrix (ι × κ) (ι × κ) ℂ} (hX : X.PosSemidef) : (ptrR X).PosSemidef := by
  rw [ptrR_eq_sum]
  exact posSemidef_sum _ fun y _ => hX.submatrix _

/-! the same for the left factor, through `ptrL_eq`; `submatrix` commutes with `+`, `•`, `ᴴ` by `rfl` -/

theorem ptrL_add [AddCommMonoid R] (X Y : Matrix (κ × ι) (κ × ι) R) : ptrL (X + Y) = ptrL X + ptrL Y :=
  ptrR_add (X.submatrix Prod.swap Prod.swap) (Y.submatrix Prod.swap Prod.swap)
theorem ptrL_zero [AddCommMonoid R] : ptrL (0 : Matrix (κ × ι) (κ × ι) R) = 0 := ptrR_zero
theorem ptrL_smul {S : Type*} [AddCommMonoid R] [DistribSMul S R] (c : S) (X : Matrix (κ × ι) (κ × ι) R) :
    ptrL (c • X) = c • ptrL X := ptrR_smul c (X.submatrix Prod.swap Prod.swap)
theorem ptrL_sum [AddCommMonoid R] {K : Type*} (s : Finset K) (F : K → Matrix (κ × ι) (κ × ι) R) :
    ptrL (∑ k ∈ s, F k) = ∑ k ∈ s, ptrL (F k) := by
  rw [ptrL_eq, submatrix_sum, ptrR_sum]; rfl

theorem trace_ptrL [Fintype ι] [AddCommMonoid R] (X : Matrix (κ × ι) (κ × ι) R) : (ptrL X).trace = X.trace :=
  (Fintype.sum_prod_type_right fun i : κ × ι => X i i).symm

theorem ptrL_conjTranspose [AddCommMonoid R] [StarAddMonoid R] (X : Matrix (κ × ι) (κ × ι) R) : ptrL Xᴴ = (ptrL X)ᴴ :=
  ptrR_conjTranspose (X.submatrix Prod.swap Prod.swap)

theorem IsHermitian.ptrL [AddCommMonoid R] [StarAddMonoid R] {X : Matrix (κ × ι) (κ × ι) R} (h : X.IsHermitian) :
    (ptrL X).IsHermitian :=
  (ptrL_conjTranspose X).symm.trans (congrArg Matrix.ptrL h)

theorem ptrL_kronecker [CommSemiring R] (A : Matrix κ κ R) (B : Matrix ι ι R) : ptrL (A ⊗ₖ B) = A.trace • B := by
  rw [ptrL_eq, kronecker_submatrix_swap, ptrR_kronecker]

/-- `1 ⊗ B` acts on the rows of `X` within each block of the left index -/
theorem one_kronecker_mul_apply [Fintype ι] [DecidableEq κ] [CommSemiring R] {l : Type*} (B : Matrix ι ι R)
    (X : Matrix (κ × ι) l R) (a : κ) (f : ι) (j : l) : (((1 : Matrix κ κ R) ⊗ₖ B) * X) (a, f) j = ∑ g, B f g * X (a, g) j := by
  rw [mul_apply, Fintype.sum_prod_type, Finset.sum_eq_single_of_mem a (Finset.mem_univ a)]
  · simp only [kroneckerMap_apply, one_apply_eq, one_mul]
  · intro b _ hb
    simp only [kroneckerMap_apply, one_apply_ne hb.symm, zero_mul, Finset.sum_const_zero]

theorem mul_one_kronecker_apply [Fintype ι] [DecidableEq κ] [CommSemiring R] {l : Type*} (B : Matrix ι ι R)
    (X : Matrix l (κ × ι) R) (i : l) (a : κ) (g : ι) : (X * ((1 : Matrix κ κ R) ⊗ₖ B)) i (a, g) = ∑ f, X i (a, f) * B f g := by
  rw [mul_apply, Fintype.sum_prod_type, Finset.sum_eq_single_of_mem a (Finset.mem_univ a)]
  · simp only [kroneckerMap_apply, one_apply_eq, one_mul]
  · intro b _ hb
    simp only [kroneckerMap_apply, one_apply_ne hb, zero_mul, mul_zero, Finset.sum_const_zero]

/-- the partial trace over the left factor is the adjoint of `Y ↦ 1 ⊗ₖ Y`: the rows of `(1 ⊗ Y) X` summed over the left index -/
theorem trace_one_kronecker_mul [Fintype ι] [DecidableEq κ] [CommSemiring R] (Y : Matrix ι ι R) (X : Matrix (κ × ι) (κ × ι) R) :
    (((1 : Matrix κ κ R) ⊗ₖ Y) * X).trace = (Y * ptrL X).trace := by
  simp only [trace, diag_apply, Fintype.sum_prod_type, one_kronecker_mul_apply]
  simp only [mul_apply, ptrL, Finset.mul_sum]
  rw [Finset.sum_comm]
  exact Finset.sum_congr rfl fun f _ => Finset.sum_comm

/-- the partial trace is the adjoint of `ρ ↦ ρ ⊗ₖ 1` -/
theorem trace_kronecker_one_mul [Fintype ι] [DecidableEq κ] [CommSemiring R] (ρ : Matrix ι ι R) (X : Matrix (ι × κ) (ι × κ) R) :
    ((ρ ⊗ₖ (1 : Matrix κ κ R)) * X).trace = (ρ * ptrR X).trace := by
  rw [← trace_mul_submatrix_equiv (Equiv.prodComm κ ι)]
  exact (congrArg (fun K => (K * X.submatrix Prod.swap Prod.swap).trace) (kronecker_submatrix_swap ρ 1)).trans
    (trace_one_kronecker_mul ρ _)

/-- the partial trace over the left factor does not see a relabelling of that factor -/
theorem ptrL_submatrix_prodMap {κ' : Type*} [Fintype κ'] [AddCommMonoid R] (e₁ : κ' ≃ κ) (e₂ : ι' → ι) (M : Matrix (κ × ι) (κ × ι) R) :
    ptrL (M.submatrix (Prod.map e₁ e₂) (Prod.map e₁ e₂)) = (ptrL M).submatrix e₂ e₂ := by
  ext j j'
  exact Equiv.sum_comp e₁ fun i => M (i, e₂ j) (i, e₂ j')

/-- `Tr_{κ₁κ₂}` of a Kronecker product of two bipartite operators, the factors regrouped as (left, left), (right, right) -/
theorem ptrL_kronecker_submatrix_prodProdProdComm {κ₁ κ₂ ι₁ ι₂ : Type*} [Fintype κ₁] [Fintype κ₂] [CommSemiring R]
    (X₁ : Matrix (κ₁ × ι₁) (κ₁ × ι₁) R) (X₂ : Matrix (κ₂ × ι₂) (κ₂ × ι₂) R) :
    ptrL ((X₁ ⊗ₖ X₂).submatrix (Equiv.prodProdProdComm κ₁ κ₂ ι₁ ι₂) (Equiv.prodProdProdComm κ₁ κ₂ ι₁ ι₂))
      = ptrL X₁ ⊗ₖ ptrL X₂ := by
  ext ⟨j₁, j₂⟩ ⟨j₁', j₂'⟩
  simp only [ptrL, submatrix_apply, Equiv.prodProdProdComm_apply, kroneckerMap_apply, Fintype.sum_prod_type, Finset.sum_mul_sum]

/-- under the partial trace over the left factor an operator on that factor may be moved to the other side -/
theorem ptrL_kronecker_one_mul_comm [Fintype ι] [DecidableEq ι] [CommSemiring R] (M : Matrix κ κ R)
    (X : Matrix (κ × ι) (κ × ι) R) :
    ptrL ((M ⊗ₖ (1 : Matrix ι ι R)) * X) = ptrL (X * (M ⊗ₖ (1 : Matrix ι ι R))) := by
  ext j j'
  simp only [ptrL, Matrix.mul_apply, Fintype.sum_prod_type, kroneckerMap_apply,
    Matrix.one_apply, mul_ite, mul_one, mul_zero, ite_mul, zero_mul, Finset.sum_ite_eq, Finset.sum_ite_eq',
    Finset.mem_univ, if_true]
  -- both sides are `Σ_i Σ_i' M i i' · X (i', j) (i, j')`, with the two summation indices exchanged
  rw [Finset.sum_comm]
  exact Finset.sum_congr rfl fun i _ => Finset.sum_congr rfl fun i' _ => mul_comm _ _

theorem PosSemidef.ptrL [Finite ι] {X : Matrix (κ × ι) (κ × ι) ℂ} (hX : X.PosSemidef) : (ptrL X).PosSemidef :=
  (hX.submatrix Prod.swap).ptrR

end PartialTrace

/-! ### partial transpose -/

section PartialTranspose

/-- partial transpose of the right factor -/
def pTR (X : Matrix (ι × κ) (ι × κ) R) : Matrix (ι × κ) (ι × κ) R := fun i j => X (i.1, j.2) (j.1, i.2)

/-- partial transpose of the left factor -/
def pTL (X : Matrix (ι × κ) (ι × κ) R) : Matrix (ι × κ) (ι × κ) R := fun i j => X (j.1, i.2) (i.1, j.2)

theorem pTR_pTR (X : Matrix (ι × κ) (ι × κ) R) : pTR (pTR X) = X := rfl
theorem pTR_kronecker [Mul R] (A : Matrix ι ι R) (B : Matrix κ κ R) : pTR (A ⊗ₖ B) = A ⊗ₖ Bᵀ := rfl
theorem pTL_eq_transpose_pTR (X : Matrix (ι × κ) (ι × κ) R) : pTL X = (pTR X)ᵀ := rfl

/-- the two partial transposes are each other's transpose, so one is positive semidefinite iff the other is -/
theorem posSemidef_pTL_iff {X : Matrix (ι × κ) (ι × κ) ℂ} : (pTL X).PosSemidef ↔ (pTR X).PosSemidef :=
  pTL_eq_transpose_pTR X ▸ posSemidef_transpose_iff

/-- Peres' criterion on one product vector: `(|a ⊗ b⟩⟨a ⊗ b|)^{T_R} = |a⟩⟨a| ⊗ |b̄⟩⟨b̄|` -/
theorem posSemidef_pTR_vecMulVec_mul [Finite ι] [Finite κ] (a : ι → ℂ) (b : κ → ℂ) :
    (pTR (vecMulVec (fun p : ι × κ => a p.1 * b p.2) (star fun p : ι × κ => a p.1 * b p.2))).PosSemidef := by
  rw [vecMulVec_mul_star_mul, pTR_kronecker]
  exact (posSemidef_vecMulVec_self_star a).kronecker (posSemidef_vecMulVec_self_star b).transpose

theorem pTR_sum [AddCommMonoid R] {K : Type*} (s : Finset K) (F : K → Matrix (ι × κ) (ι × κ) R) :
    pTR (∑ k ∈ s, F k) = ∑ k ∈ s, pTR (F k) := by
  ext i j; simp only [pTR, sum_apply]

theorem trace_pTR [Fintype ι] [Fintype κ] [AddCommMonoid R] (X : Matrix (ι × κ) (ι × κ) R) : (pTR X).trace = X.trace := rfl

/-- exchange of the right components of a pair of pair indices: the relabelling of the double sum behind the next two lemmas -/
def swapSnd (ι κ : Type*) : (ι × κ) × (ι × κ) ≃ (ι × κ) × (ι × κ) where
  toFun x := ((x.1.1, x.2.2), (x.2.1, x.1.2))
  invFun x := ((x.1.1, x.2.2), (x.2.1, x.1.2))
  left_inv _ := rfl
  right_inv _ := rfl

/-- the partial transpose is self-adjoint for the trace form -/
theorem trace_pTR_mul [Fintype ι] [Fintype κ] [NonUnitalNonAssocSemiring R] (X Y : Matrix (ι × κ) (ι × κ) R) :
    (pTR X * Y).trace = (X * pTR Y).trace := by
  simp only [trace, diag, mul_apply]
  rw [← Fintype.sum_prod_type' (f := fun i j => pTR X i j * Y j i), ← Fintype.sum_prod_type' (f := fun i j => X i j * pTR Y j i)]
  exact Fintype.sum_equiv (swapSnd ι κ) _ _ fun _ => rfl

theorem mul_mul_apply_sum_prod {l l' : Type*} [Fintype ι] [Fintype κ] [NonUnitalSemiring R] (K : Matrix l ι R) (X : Matrix ι κ R)
    (M : Matrix κ l' R) (i : l) (j : l') : (K * X * M) i j = ∑ x : ι × κ, K i x.1 * X x.1 x.2 * M x.2 j := by
  simp only [mul_apply, Finset.sum_mul]
  rw [Finset.sum_comm, Fintype.sum_prod_type]

/-- `T_R((A ⊗ B) X (C ⊗ D)) = (A ⊗ Dᵀ) T_R(X) (C ⊗ Bᵀ)`: both sides are sums over a pair of summation indices, matched by `swapSnd` -/
theorem pTR_kronecker_mul_kronecker [Fintype ι] [Fintype κ] [CommSemiring R] (A C : Matrix ι ι R) (B D : Matrix κ κ R)
    (X : Matrix (ι × κ) (ι × κ) R) : pTR ((A ⊗ₖ B) * X * (C ⊗ₖ D)) = (A ⊗ₖ Dᵀ) * pTR X * (C ⊗ₖ Bᵀ) := by
  ext i j
  rw [pTR, mul_mul_apply_sum_prod, mul_mul_apply_sum_prod]
  refine Fintype.sum_equiv (swapSnd ι κ) _ _ fun x => ?_
  simp only [kroneckerMap_apply, transpose_apply, pTR, swapSnd, Equiv.coe_fn_mk]
  ring

end PartialTranspose

/-! ### realignment -/

/-- realignment: `R(X)((a,a'),(b,b')) = X((a,b),(a',b'))` -/
def realignment (X : Matrix (ι × κ) (ι × κ) R) : Matrix (ι × ι) (κ × κ) R := fun i j => X (i.1, j.1) (i.2, j.2)

/-- a product realigns to the rank-one matrix of the row-major vectorisations -/
theorem realignment_kronecker [Mul R] (A : Matrix ι ι R) (B : Matrix κ κ R) :
    realignment (A ⊗ₖ B) = vecMulVec (Function.uncurry A) (Function.uncurry B) := rfl

/-- `R((A ⊗ B) X (C ⊗ D)) = (A ⊗ Cᵀ) R(X) (B ⊗ Dᵀ)ᵀ`: the two double sums are matched by the exchange of the middle components -/
theorem realignment_kronecker_mul_kronecker [Fintype ι] [Fintype κ] [CommSemiring R] (A C : Matrix ι ι R) (B D : Matrix κ κ R)
    (X : Matrix (ι × κ) (ι × κ) R) : realignment ((A ⊗ₖ B) * X * (C ⊗ₖ D)) = (A ⊗ₖ Cᵀ) * realignment X * (B ⊗ₖ Dᵀ)ᵀ := by
  ext i j
  rw [realignment, mul_mul_apply_sum_prod, mul_mul_apply_sum_prod]
  refine Fintype.sum_equiv (Equiv.prodProdProdComm ι κ ι κ) _ _ fun x => ?_
  simp only [kroneckerMap_apply, transpose_apply, realignment, Equiv.prodProdProdComm_apply]
  ring


/-! ### the exchange of two copies and the projection onto their symmetric subspace -/

section Swap
variable {n : Type*} [DecidableEq κ]

/-- the operator exchanging the factors of `κ ⊗ κ`: the identity matrix with its rows permuted by `Prod.swap` -/
def swapMatrix (κ : Type*) [DecidableEq κ] : Matrix (κ × κ) (κ × κ) ℂ :=
  (1 : Matrix (κ × κ) (κ × κ) ℂ).submatrix (Equiv.prodComm κ κ) (Equiv.refl _)

theorem swapMatrix_conjTranspose : (swapMatrix κ)ᴴ = swapMatrix κ := by
  ext x y
  have h : Equiv.prodComm κ κ y = x ↔ Equiv.prodComm κ κ x = y :=
    ⟨fun h => h ▸ Prod.swap_swap y, fun h => h ▸ Prod.swap_swap x⟩
  rw [conjTranspose_apply, swapMatrix, submatrix_apply, submatrix_apply, one_apply, one_apply, apply_ite star, star_one, star_zero]
  exact if_congr h rfl rfl

variable [Fintype κ]

theorem swapMatrix_mul (M : Matrix (κ × κ) n ℂ) : swapMatrix κ * M = M.submatrix Prod.swap id := by
  rw [swapMatrix, one_submatrix_mul]; rfl

theorem mul_swapMatrix (M : Matrix n (κ × κ) ℂ) : M * swapMatrix κ = M.submatrix id Prod.swap := by
  rw [swapMatrix, mul_submatrix_one]; rfl

theorem swapMatrix_mul_self : swapMatrix κ * swapMatrix κ = 1 := by
  rw [swapMatrix_mul]
  ext x y
  simp only [submatrix_apply, id, swapMatrix, one_apply, Equiv.prodComm_apply, Equiv.refl_apply, Prod.swap_swap]

/-- `(1 + SWAP) / 2`, the projection onto the symmetric subspace of `κ ⊗ κ` -/
noncomputable def symmProj (κ : Type*) [DecidableEq κ] : Matrix (κ × κ) (κ × κ) ℂ := (1 / 2 : ℂ) • (1 + swapMatrix κ)

/-- what the exchange of the copies fixes, the projection fixes -/
theorem symmProj_mul_of_swapMatrix_mul {Z : Matrix (κ × κ) n ℂ} (h : swapMatrix κ * Z = Z) : symmProj κ * Z = Z := by
  rw [symmProj, Matrix.smul_mul, Matrix.add_mul, Matrix.one_mul, h, ← two_smul ℂ Z, smul_smul, one_div,
    inv_mul_cancel₀ (two_ne_zero' ℂ), one_smul]

theorem mul_symmProj_of_mul_swapMatrix {Z : Matrix n (κ × κ) ℂ} (h : Z * swapMatrix κ = Z) : Z * symmProj κ = Z := by
  rw [symmProj, Matrix.mul_smul, Matrix.mul_add, Matrix.mul_one, h, ← two_smul ℂ Z, smul_smul, one_div,
    inv_mul_cancel₀ (two_ne_zero' ℂ), one_smul]

/-- an orthogonal projection, since `SWAP` is a Hermitian involution -/
theorem symmProj_isStarProjection : IsStarProjection (symmProj κ) := by
  refine ⟨symmProj_mul_of_swapMatrix_mul ?_, ?_⟩
  · rw [symmProj, Matrix.mul_smul, Matrix.mul_add, Matrix.mul_one, swapMatrix_mul_self, add_comm]
  · rw [IsSelfAdjoint, star_eq_conjTranspose, symmProj, conjTranspose_smul, conjTranspose_add, conjTranspose_one,
      swapMatrix_conjTranspose, one_div, star_inv₀, star_ofNat]

end Swap

/-! ### partial transpose of a set of copies -/

section Copies

/-- partial transpose of the copies `t` with `S t` of an operator on `ι ⊗ κ^{⊗ L}` -/
def pTS (S : L → Prop) [DecidablePred S] (X : Matrix (ι × (L → κ)) (ι × (L → κ)) ℂ) : Matrix (ι × (L → κ)) (ι × (L → κ)) ℂ :=
  fun i j => X (i.1, fun t => if S t then j.2 t else i.2 t) (j.1, fun t => if S t then i.2 t else j.2 t)

theorem pTS_smul (S : L → Prop) [DecidablePred S] (c : ℂ) (X : Matrix (ι × (L → κ)) (ι × (L → κ)) ℂ) :
    pTS S (c • X) = c • pTS S X := rfl

/-- the vector `β_0 ⊗ β_1 ⊗ … ⊗ β_{L-1}` -/
def tensorVec [Fintype L] (β : L → κ → ℂ) : (L → κ) → ℂ := fun f => ∏ s, β s (f s)

/-- `A ⊗ |β_0 … β_{L-1}⟩⟨β_0 … β_{L-1}|` -/
def prodOp [Fintype L] (A : Matrix ι ι ℂ) (β : L → κ → ℂ) : Matrix (ι × (L → κ)) (ι × (L → κ)) ℂ :=
  A ⊗ₖ vecMulVec (tensorVec β) (star (tensorVec β))

theorem prodOp_apply [Fintype L] (A : Matrix ι ι ℂ) (β : L → κ → ℂ) (i j : ι × (L → κ)) :
    prodOp A β i j = A i.1 j.1 * ∏ s, (β s (i.2 s) * star (β s (j.2 s))) := by
  simp only [prodOp, kroneckerMap_apply, vecMulVec_apply, tensorVec, Pi.star_apply, star_prod, Finset.prod_mul_distrib]

/-- transposing copies of a product operator conjugates their factors -/
theorem pTS_prodOp [Fintype L] (S : L → Prop) [DecidablePred S] (A : Matrix ι ι ℂ) (β : L → κ → ℂ) :
    pTS S (prodOp A β) = prodOp A fun t => if S t then star (β t) else β t := by
  ext i j
  simp only [pTS, prodOp_apply]
  refine congrArg (A i.1 j.1 * ·) (Finset.prod_congr rfl fun s _ => ?_)
  by_cases hs : S s
  · simp only [if_pos hs, Pi.star_apply, star_star, mul_comm]
  · simp only [if_neg hs]

theorem PosSemidef.prodOp [Fintype L] [Finite ι] [Finite κ] {A : Matrix ι ι ℂ} (hA : A.PosSemidef) (β : L → κ → ℂ) :
    (prodOp A β).PosSemidef :=
  hA.kronecker (posSemidef_vecMulVec_self_star _)

/-- `⟨β_0 … β_{L-1} | β_0 … β_{L-1}⟩ = ∏ ⟨β_s | β_s⟩`, the trace of the right factor of `prodOp A β` -/
theorem tensorVec_dotProduct_star [Fintype L] [DecidableEq L] [Fintype κ] (β : L → κ → ℂ) :
    tensorVec β ⬝ᵥ star (tensorVec β) = ∏ s, β s ⬝ᵥ star (β s) := by
  simp only [dotProduct, tensorVec, Pi.star_apply, star_prod, ← Finset.prod_mul_distrib]
  exact (Fintype.prod_sum fun s c => β s c * star (β s c)).symm

/-- tracing all copies out of a product operator leaves the factor `∏ ‖β_s‖²` -/
theorem ptrR_prodOp [Fintype L] [DecidableEq L] [Fintype κ] (A : Matrix ι ι ℂ) (β : L → κ → ℂ) :
    ptrR (prodOp A β) = (∏ s, β s ⬝ᵥ star (β s)) • A := by
  rw [prodOp, ptrR_kronecker, trace_vecMulVec, tensorVec_dotProduct_star]

/-- the entries of `A ⊗ (b bᴴ)^{⊗ L}` do not change when the copies are permuted in the row or in the column index -/
theorem prodOp_const_comp_perm [Fintype L] (A : Matrix ι ι ℂ) (b : κ → ℂ) (π : Equiv.Perm L)
    (a : ι) (f : L → κ) (j : ι × (L → κ)) :
    prodOp A (fun _ => b) (a, f ∘ π) j = prodOp A (fun _ => b) (a, f) j ∧
      prodOp A (fun _ => b) j (a, f ∘ π) = prodOp A (fun _ => b) j (a, f) := by
  simp only [prodOp_apply, Function.comp_apply, Finset.prod_mul_distrib]
  exact ⟨by rw [Equiv.prod_comp π fun s => b (f s)], by rw [Equiv.prod_comp π fun s => star (b (f s))]⟩

variable {n : ℕ}

/-- `(i, c) ↦` the index `i` with the digit `c` of one more copy appended -/
def snocEquiv (ι κ : Type*) (n : ℕ) : (ι × (Fin n → κ)) × κ ≃ ι × (Fin (n + 1) → κ) where
  toFun p := (p.1.1, Fin.snoc (α := fun _ => κ) p.1.2 p.2)
  invFun i := ((i.1, Fin.init (α := fun _ => κ) i.2), i.2 (Fin.last n))
  left_inv p := by simp only [Fin.init_snoc, Fin.snoc_last]
  right_inv i := by simp only [Fin.snoc_init_self]

theorem snocEquiv_apply (p : (ι × (Fin n → κ)) × κ) : snocEquiv ι κ n p = (p.1.1, Fin.snoc (α := fun _ => κ) p.1.2 p.2) := rfl

/-- the partial trace over the last of `n + 1` copies -/
def ptrLast [Fintype κ] (X : Matrix (ι × (Fin (n + 1) → κ)) (ι × (Fin (n + 1) → κ)) ℂ) :
    Matrix (ι × (Fin n → κ)) (ι × (Fin n → κ)) ℂ :=
  ptrR (X.submatrix (snocEquiv ι κ n) (snocEquiv ι κ n))

theorem ptrLast_add [Fintype κ] (X Y : Matrix (ι × (Fin (n + 1) → κ)) (ι × (Fin (n + 1) → κ)) ℂ) :
    ptrLast (X + Y) = ptrLast X + ptrLast Y :=
  ptrR_add (X.submatrix (snocEquiv ι κ n) (snocEquiv ι κ n)) (Y.submatrix (snocEquiv ι κ n) (snocEquiv ι κ n))

theorem ptrLast_zero [Fintype κ] : ptrLast (0 : Matrix (ι × (Fin (n + 1) → κ)) (ι × (Fin (n + 1) → κ)) ℂ) = 0 := ptrR_zero

theorem PosSemidef.ptrLast [Fintype κ] [Finite ι] {X : Matrix (ι × (Fin (n + 1) → κ)) (ι × (Fin (n + 1) → κ)) ℂ}
    (hX : X.PosSemidef) : (ptrLast X).PosSemidef :=
  (hX.submatrix _).ptrR

theorem trace_ptrLast [Fintype κ] [Fintype ι] (X : Matrix (ι × (Fin (n + 1) → κ)) (ι × (Fin (n + 1) → κ)) ℂ) :
    (ptrLast X).trace = X.trace :=
  (trace_ptrR _).trans (trace_submatrix_equiv (snocEquiv ι κ n) X)

/-- tracing out the copies one after the other: the last one first -/
theorem ptrR_ptrLast [Fintype κ] (X : Matrix (ι × (Fin (n + 1) → κ)) (ι × (Fin (n + 1) → κ)) ℂ) : ptrR (ptrLast X) = ptrR X := by
  ext a b
  simp only [ptrLast, ptrR, submatrix_apply, snocEquiv_apply]
  rw [← Fintype.sum_prod_type' (f := fun (f : Fin n → κ) (c : κ) =>
    X (a, Fin.snoc (α := fun _ => κ) f c) (b, Fin.snoc (α := fun _ => κ) f c))]
  exact Fintype.sum_equiv ((Equiv.prodComm _ _).trans (Fin.snocEquiv fun _ : Fin (n + 1) => κ)) _ _ fun p => rfl

/-- tracing the last copy out of a product operator leaves the factor `‖β_n‖²` -/
theorem ptrLast_prodOp [Fintype κ] (A : Matrix ι ι ℂ) (β : Fin (n + 1) → κ → ℂ) :
    ptrLast (prodOp A β) = prodOp ((β (Fin.last n) ⬝ᵥ star (β (Fin.last n))) • A) fun s => β s.castSucc := by
  ext i j
  simp only [ptrLast, ptrR, submatrix_apply, snocEquiv_apply, prodOp_apply, Fin.prod_univ_castSucc, Fin.snoc_castSucc,
    Fin.snoc_last, smul_apply, smul_eq_mul, dotProduct, Pi.star_apply, Finset.sum_mul]
  exact Finset.sum_congr rfl fun c _ => by ring

/-- with the first copy grouped with the left factor a product operator is a product operator: `A ⊗ |β_0 … β_n⟩⟨…| = (A ⊗ |β_0⟩⟨β_0|) ⊗ |β_1 … β_n⟩⟨…|` -/
theorem prodOp_submatrix_cons (A : Matrix ι ι ℂ) (β : Fin (n + 1) → κ → ℂ) :
    (prodOp A β).submatrix (fun p : (ι × κ) × (Fin n → κ) => (p.1.1, (Fin.cons p.1.2 p.2 : Fin (n + 1) → κ)))
        (fun p : (ι × κ) × (Fin n → κ) => (p.1.1, (Fin.cons p.1.2 p.2 : Fin (n + 1) → κ)))
      = prodOp (A ⊗ₖ vecMulVec (β 0) (star (β 0))) fun s => β s.succ := by
  ext i j
  simp only [submatrix_apply, prodOp_apply, Fin.prod_univ_succ, Fin.cons_zero, Fin.cons_succ, kroneckerMap_apply, vecMulVec_apply,
    Pi.star_apply, mul_assoc]

/-- transposing copies commutes with tracing out the last copy (transposed or not: its two digits agree under the trace) -/
theorem pTS_ptrLast [Fintype κ] (S : Fin n → Prop) [DecidablePred S] (S' : Fin (n + 1) → Prop) [DecidablePred S']
    (h : ∀ t : Fin n, S' t.castSucc ↔ S t) (X : Matrix (ι × (Fin (n + 1) → κ)) (ι × (Fin (n + 1) → κ)) ℂ) :
    pTS S (ptrLast X) = ptrLast (pTS S' X) := by
  have key : ∀ (u v : Fin n → κ) (c : κ),
      (Fin.snoc (α := fun _ => κ) (fun t => if S t then v t else u t) c : Fin (n + 1) → κ)
        = fun t => if S' t then (Fin.snoc (α := fun _ => κ) v c : Fin (n + 1) → κ) t
            else (Fin.snoc (α := fun _ => κ) u c : Fin (n + 1) → κ) t := by
    intro u v c
    funext t
    cases t using Fin.lastCases with
    | last => simp only [Fin.snoc_last, ite_self]
    | cast t => simp only [Fin.snoc_castSucc, h]
  ext i j
  simp only [pTS, ptrLast, ptrR, submatrix_apply, snocEquiv_apply, key]

end Copies

end Matrix
