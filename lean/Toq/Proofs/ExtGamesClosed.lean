import Toq.Proofs.ExtGamesRep
import Mathlib.Analysis.SpecialFunctions.Trigonometric.Basic
/-!
# Closed forms for C09: Wiesner's money (`3/4`, exact certificate) and rank-one operators in Schmidt form (Molina–Watrous)

Wiesner's ensemble `{|0⟩, |1⟩, |+⟩, |−⟩}` with uniform priors.  The cloning operator is homogeneous of degree 6 in the
state vectors, so `|±⟩ = (1, ±1)/√2` enter as the integer vectors `(1, ±1)` with prior `(1/4)·(1/√2)^6 = 1/32`: the operator
`wiesnerQ` below IS the operator `Σ_k p_k |ψ_kψ_kψ̄_k⟩⟨ψ_kψ_kψ̄_k|` of the ensemble, and it is rational.
Primal point: the Choi operator of the optimal cloner of Molina–Vidick–Watrous (Kraus operators
`A₀ = [[3,0],[0,1],[0,1],[1,0]]/√12`, `A₁ = [[0,1],[1,0],[1,0],[0,3]]/√12`); dual point `Y = (3/8)·1`.
The PSD witnesses are over `ℚ[i]`, with two columns each: an exact factorisation `L Lᴴ = X` for the primal point, and for the dual
point a rank-two `L` that leaves `1 ⊗ Y − Q − L Lᴴ` diagonally dominant.
-/

open Matrix Kronecker
open scoped ComplexOrder MatrixOrder

namespace Toq.ExtGames
open EMat

private def rq (rows : Array (Array Rat)) (n m : Nat) : EMat n m :=
  EMat.ofRows (rows.map fun r => r.map fun q => (⟨q, 0⟩ : QI)) n m

/-- `|0⟩`, `|1⟩`, `√2|+⟩`, `√2|−⟩` -/
def wiesnerStates : List (EMat 2 1) :=
  [rq #[#[1], #[0]] 2 1, rq #[#[0], #[1]] 2 1, rq #[#[1], #[1]] 2 1, rq #[#[1], #[-1]] 2 1]

/-- priors `1/4` each; the factor `(1/√2)^6 = 1/8` of the unnormalised `|±⟩` is absorbed here -/
def wiesnerProbs : List Rat := [1 / 4, 1 / 4, 1 / 32, 1 / 32]

/-- the operator `Q` of `optimal_clone` for Wiesner's ensemble (on `(ℂ² ⊗ ℂ²) ⊗ ℂ²`) -/
def wiesnerQ : EMat (4 * 2) (4 * 2) := cloneQ wiesnerStates wiesnerProbs

/-- Choi operator of the optimal cloner -/
def wiesnerX : EMat (4 * 2) (4 * 2) :=
  let a : QI := ⟨3/4, 0⟩; let b : QI := ⟨1/4, 0⟩; let c : QI := ⟨1/12, 0⟩; let o : QI := ⟨0, 0⟩
  ⟨#v[#v[a, o, o, b, o, b, b, o],
      #v[o, c, c, o, c, o, o, b],
      #v[o, c, c, o, c, o, o, b],
      #v[b, o, o, c, o, c, c, o],
      #v[o, c, c, o, c, o, o, b],
      #v[b, o, o, c, o, c, c, o],
      #v[b, o, o, c, o, c, c, o],
      #v[o, b, b, o, b, o, o, a]]⟩

/-- `wiesnerX = 3 (c₁c₁ᵀ + c₂c₂ᵀ) = L Lᴴ` with `L = [c₁ c₂] M`, `M = [[1+i, 1], [−1, 1−i]]`, `M Mᴴ = 3·1`
    (`3` is not a norm of `ℚ[i]`, so two columns is the least) -/
def wiesnerLX : EMat (4 * 2) 2 :=
  let e₁ : Vector QI 2 := #v[⟨1/6, 1/6⟩, ⟨1/6, 0⟩]
  let e₂ : Vector QI 2 := #v[⟨-1/6, 0⟩, ⟨1/6, -1/6⟩]
  ⟨#v[#v[⟨1/2, 1/2⟩, ⟨1/2, 0⟩], e₂, e₂, e₁, e₂, e₁, e₁, #v[⟨-1/2, 0⟩, ⟨1/2, -1/2⟩]]⟩

/-- dual point `Y = (3/8)·1` -/
def wiesnerY : EMat 2 2 := ⟨#v[#v[⟨3/8, 0⟩, ⟨0, 0⟩], #v[⟨0, 0⟩, ⟨3/8, 0⟩]]⟩

/-- `psdCert` asks for `1 ⊗ Y − Q − L Lᴴ` diagonally dominant, not zero: `1 ⊗ Y − Q` is `1/16` times two `4 × 4` blocks (even / odd
    parity of the index), each with one row `(1, −1, −1, −1)` that is not dominant; taking that row out as a rank-one term leaves
    `(1/16)·[[4,−2,−2],[−2,4,−2],[−2,−2,4]]`, which is.  The kernel's work on `wiesner_accepts` grows with the number of columns. -/
def wiesnerLY : EMat (4 * 2) 2 :=
  let p : QI := ⟨1/4, 0⟩; let m : QI := ⟨-1/4, 0⟩; let o : QI := ⟨0, 0⟩
  ⟨#v[#v[p, o], #v[o, m], #v[o, m], #v[m, o], #v[o, m], #v[m, o], #v[m, o], #v[o, p]]⟩

/-- a conjunction, so that the entries of `wiesnerQ`, which both checks read, are evaluated once -/
theorem wiesner_accepts : checkHedgeMaxPrimal 4 2 wiesnerQ wiesnerX wiesnerLX = some (3 / 4) ∧
    checkHedgeMaxDual 4 2 wiesnerQ wiesnerY wiesnerLY = some (3 / 4) := by decide +kernel

theorem wiesner_cert : HedgeCert (unflat wiesnerQ.toM) (unflat wiesnerX.toM) wiesnerY.toM (3 / 4) (3 / 4) := by
  have hp : ∀ q ∈ wiesnerProbs, (0 : Rat) ≤ q := by
    intro q hq
    simp only [wiesnerProbs, List.mem_cons, List.not_mem_nil, or_false] at hq
    rcases hq with rfl | rfl | rfl | rfl <;> norm_num
  have e : ((3 / 4 : Rat) : ℝ) = 3 / 4 := by norm_num
  exact e ▸ HedgeCert.of_checks (cloneQ_psd wiesnerStates wiesnerProbs hp) wiesner_accepts.1 wiesner_accepts.2

/-! ## Rank-one operators in Schmidt form: `Q = |w⟩⟨w|`, `w = Σ_i a_i |i i⟩`, `a ≥ 0` — optimum `(Σ a_i)²`

Primal point: the Choi operator `|Φ⟩⟨Φ|`, `Φ = Σ_i |i i⟩` of the identity channel (`rankOneQ 1`), value `|⟨Φ|w⟩|² = (Σ a_i)²`;
dual point `Y = (Σ a)·diag(a)`: `1 ⊗ Y − |w⟩⟨w| ⪰ 0` by the weighted Cauchy–Schwarz inequality.  The Molina–Watrous operator
`q₁ = w wᵀ`, `w = cos(π/8)/√2 |00⟩ + sin(π/8)/√2 |11⟩` of the docstring of `QuantumHedging` is the case `m = 2`. -/

section RankOne
variable {m : ℕ}

/-- `Σ_i a_i |i i⟩` -/
def diagVec (a : Fin m → ℝ) : Fin m × Fin m → ℂ := fun p => if p.1 = p.2 then (a p.1 : ℂ) else 0

/-- `|w⟩⟨w|` for `w = Σ_i a_i |i i⟩` -/
def rankOneQ (a : Fin m → ℝ) : Matrix (Fin m × Fin m) (Fin m × Fin m) ℂ := vecMulVec (diagVec a) (star (diagVec a))

/-- dual point `Y = (Σ a) · diag(a)` -/
def rankOneY (a : Fin m → ℝ) : Matrix (Fin m) (Fin m) ℂ := Matrix.diagonal fun i => (((∑ k, a k) * a i : ℝ) : ℂ)

theorem star_diagVec (a : Fin m → ℝ) : star (diagVec a) = diagVec a := by
  funext p
  simp only [Pi.star_apply, diagVec]
  split <;> simp

theorem diagVec_dotProduct (a : Fin m → ℝ) (x : Fin m × Fin m → ℂ) : diagVec a ⬝ᵥ x = ∑ i, (a i : ℂ) * x (i, i) := by
  simp only [dotProduct, Fintype.sum_prod_type, diagVec, ite_mul, zero_mul, Finset.sum_ite_eq, Finset.mem_univ, if_true]

theorem rankOneQ_one_feasible : HedgeFeasible (rankOneQ (m := m) fun _ => 1) := by
  refine ⟨Matrix.posSemidef_vecMulVec_self_star _, ?_⟩
  ext j j'
  simp only [ptrace1, rankOneQ, Matrix.vecMulVec_apply, star_diagVec, diagVec, Matrix.one_apply, Complex.ofReal_one,
    ite_mul, one_mul, zero_mul, Finset.sum_ite_eq', Finset.mem_univ, if_true]

theorem rankOne_value (a : Fin m → ℝ) :
    (rankOneQ a * rankOneQ (m := m) fun _ => 1).trace = (((∑ i, a i) ^ 2 : ℝ) : ℂ) := by
  unfold rankOneQ
  rw [Matrix.vecMulVec_mul_vecMulVec, Matrix.trace_vecMulVec, dotProduct_smul, star_diagVec, star_diagVec,
    diagVec_dotProduct, smul_eq_mul]
  simp only [diagVec, if_true, Complex.ofReal_one, mul_one]
  push_cast
  ring

theorem rankOneY_trace (a : Fin m → ℝ) : (rankOneY a).trace = (((∑ i, a i) ^ 2 : ℝ) : ℂ) := by
  simp only [rankOneY, Matrix.trace_diagonal]
  push_cast
  rw [← Finset.mul_sum]
  ring

theorem one_kron_rankOneY (a : Fin m → ℝ) : ((1 : Matrix (Fin m) (Fin m) ℂ) ⊗ₖ rankOneY a)
    = Matrix.diagonal fun p : Fin m × Fin m => ((((∑ k, a k) * a p.2 : ℝ)) : ℂ) := by
  rw [← Matrix.diagonal_one, rankOneY, Matrix.diagonal_kronecker_diagonal]
  congr 1; funext p; rw [one_mul]

theorem rankOneQ_quadForm (a : Fin m → ℝ) (x : Fin m × Fin m → ℂ) :
    star x ⬝ᵥ (rankOneQ a *ᵥ x) = ((Complex.normSq (∑ i, (a i : ℂ) * x (i, i)) : ℝ) : ℂ) := by
  have hz : star (diagVec a) ⬝ᵥ x = ∑ i, (a i : ℂ) * x (i, i) := by rw [star_diagVec, diagVec_dotProduct]
  have hz' : star x ⬝ᵥ diagVec a = star (∑ i, (a i : ℂ) * x (i, i)) := by rw [Matrix.star_dotProduct, hz]
  rw [rankOneQ, Matrix.vecMulVec_mulVec, hz, dotProduct_smul, hz', MulOpposite.smul_eq_mul_unop, MulOpposite.unop_op,
    Complex.normSq_eq_conj_mul_self, Complex.star_def]

/-- triangle inequality, weighted Cauchy–Schwarz, and the off-diagonal terms on the right are non-negative -/
theorem normSq_diag_sum_le (a : Fin m → ℝ) (ha : ∀ i, 0 ≤ a i) (x : Fin m × Fin m → ℂ) :
    Complex.normSq (∑ i, (a i : ℂ) * x (i, i)) ≤ ∑ p : Fin m × Fin m, (∑ k, a k) * a p.2 * Complex.normSq (x p) := by
  have h1 : Complex.normSq (∑ i, (a i : ℂ) * x (i, i)) ≤ (∑ i, a i * ‖x (i, i)‖) ^ 2 := by
    rw [Complex.normSq_eq_norm_sq]
    refine pow_le_pow_left₀ (norm_nonneg _) ((norm_sum_le _ _).trans (le_of_eq ?_)) 2
    refine Finset.sum_congr rfl fun i _ => ?_
    rw [norm_mul, Complex.norm_real, Real.norm_of_nonneg (ha i)]
  have h3 : ∑ i, a i * ‖x (i, i)‖ ^ 2 ≤ ∑ p : Fin m × Fin m, a p.2 * Complex.normSq (x p) := by
    rw [Fintype.sum_prod_type, Finset.sum_comm]
    refine Finset.sum_le_sum fun j _ => ?_
    have hnn : ∀ i ∈ Finset.univ, 0 ≤ a j * Complex.normSq (x (i, j)) :=
      fun i _ => mul_nonneg (ha j) (Complex.normSq_nonneg _)
    refine le_trans (le_of_eq ?_) (Finset.single_le_sum hnn (Finset.mem_univ j))
    rw [Complex.normSq_eq_norm_sq]
  calc Complex.normSq (∑ i, (a i : ℂ) * x (i, i)) ≤ (∑ i, a i * ‖x (i, i)‖) ^ 2 := h1
    _ ≤ (∑ k, a k) * ∑ i, a i * ‖x (i, i)‖ ^ 2 :=
        Finset.sum_sq_le_sum_mul_sum_of_sq_le_mul _ (fun i _ => ha i) (fun i _ => mul_nonneg (ha i) (sq_nonneg _))
          fun i _ => le_of_eq (by rw [mul_pow, sq (a i), mul_assoc])
    _ ≤ (∑ k, a k) * ∑ p : Fin m × Fin m, a p.2 * Complex.normSq (x p) :=
        mul_le_mul_of_nonneg_left h3 (Finset.sum_nonneg fun i _ => ha i)
    _ = ∑ p : Fin m × Fin m, (∑ k, a k) * a p.2 * Complex.normSq (x p) := by
        rw [Finset.mul_sum]; exact Finset.sum_congr rfl fun p _ => by ring

theorem rankOneY_isHermitian (a : Fin m → ℝ) : (rankOneY a).IsHermitian :=
  Matrix.isHermitian_diagonal_of_self_adjoint _ (funext fun _ => Complex.conj_ofReal _)

theorem rankOne_dual_psd (a : Fin m → ℝ) (ha : ∀ i, 0 ≤ a i) :
    (((1 : Matrix (Fin m) (Fin m) ℂ) ⊗ₖ rankOneY a) - rankOneQ a).PosSemidef := by
  have hH : (((1 : Matrix (Fin m) (Fin m) ℂ) ⊗ₖ rankOneY a) - rankOneQ a).IsHermitian := by
    refine Matrix.IsHermitian.sub ?_ (Matrix.posSemidef_vecMulVec_self_star _).isHermitian
    rw [Matrix.IsHermitian, Matrix.conjTranspose_kronecker, Matrix.conjTranspose_one, (rankOneY_isHermitian a).eq]
  refine Matrix.PosSemidef.of_dotProduct_mulVec_nonneg hH fun x => ?_
  rw [Matrix.sub_mulVec, dotProduct_sub, rankOneQ_quadForm, one_kron_rankOneY, Matrix.star_dotProduct_diagonal_ofReal_mulVec,
    ← Complex.ofReal_sub]
  exact Complex.zero_le_real.mpr (sub_nonneg.mpr (normSq_diag_sum_le a ha x))

theorem rankOne_cert (a : Fin m → ℝ) (ha : ∀ i, 0 ≤ a i) :
    HedgeCert (rankOneQ a) (rankOneQ fun _ => 1) (rankOneY a) ((∑ i, a i) ^ 2) ((∑ i, a i) ^ 2) :=
  ⟨Matrix.posSemidef_vecMulVec_self_star _, rankOneQ_one_feasible, rankOne_dual_psd a ha, rankOne_value a, rankOneY_trace a⟩

/-- the Choi operator of the channel that measures in the computational basis and answers `|σ j⟩` on outcome `j` -/
def permChoi (σ : Fin m → Fin m) : Matrix (Fin m × Fin m) (Fin m × Fin m) ℂ :=
  Matrix.diagonal fun p => if p.1 = σ p.2 then 1 else 0

theorem permChoi_feasible (σ : Fin m → Fin m) : HedgeFeasible (permChoi σ) := by
  refine ⟨Matrix.PosSemidef.diagonal fun p => by split <;> simp, ?_⟩
  ext j j'
  simp only [ptrace1, permChoi, Matrix.diagonal_apply, Prod.mk.injEq, true_and, Matrix.one_apply, Finset.sum_ite_irrel,
    Finset.sum_const_zero, Finset.sum_ite_eq', Finset.mem_univ, if_true]

theorem rankOneQ_mul_permChoi (a : Fin m → ℝ) {σ : Fin m → Fin m} (hσ : ∀ i, σ i ≠ i) : rankOneQ a * permChoi σ = 0 := by
  ext p q
  rw [permChoi, Matrix.mul_diagonal, rankOneQ, Matrix.vecMulVec_apply, star_diagVec, Matrix.zero_apply]
  by_cases hq : q.1 = q.2
  · rw [if_neg (fun h => hσ q.2 (h.symm.trans hq)), mul_zero]
  · rw [diagVec, diagVec, if_neg hq, mul_zero, zero_mul]

theorem rankOne_min_zero (a : Fin m → ℝ) {σ : Fin m → Fin m} (hσ : ∀ i, σ i ≠ i) :
    (∃ X : Matrix (Fin m × Fin m) (Fin m × Fin m) ℂ, HedgeFeasible X ∧ (rankOneQ a * X).trace.re = 0) ∧
      ∀ X : Matrix (Fin m × Fin m) (Fin m × Fin m) ℂ, HedgeFeasible X → 0 ≤ (rankOneQ a * X).trace.re :=
  ⟨⟨permChoi σ, permChoi_feasible σ, by rw [rankOneQ_mul_permChoi a hσ, Matrix.trace_zero, Complex.zero_re]⟩,
    fun _ hX => psd_trace_mul_nonneg (Matrix.posSemidef_vecMulVec_self_star _) hX.1⟩

end RankOne

section MW
open Real

/-- the Schmidt coefficients of the Molina–Watrous vector `w = α cos θ |00⟩ + √(1-α²) sin θ |11⟩`, `α = 1/√2`, `θ = π/8` -/
noncomputable def mwCoeff : Fin 2 → ℝ := ![cos (π / 8) / √2, sin (π / 8) / √2]

theorem mwCoeff_nonneg : ∀ i, 0 ≤ mwCoeff i :=
  Fin.forall_fin_two.mpr
    ⟨by show 0 ≤ cos (π / 8) / √2; rw [cos_pi_div_eight]; positivity,
      by show 0 ≤ sin (π / 8) / √2; rw [sin_pi_div_eight]; positivity⟩

/-- `(cos(π/8)/√2 + sin(π/8)/√2)² = cos²(π/8)`: the left side is `(1 + sin 2θ)/2`, the right side `(1 + cos 2θ)/2`, and sine and
    cosine agree at `2θ = π/4` -/
theorem mwCoeff_sum_sq : (∑ i, mwCoeff i) ^ 2 = cos (π / 8) ^ 2 := by
  have h2 : (2 : ℝ) * (π / 8) = π / 4 := by ring
  have hs : 2 * sin (π / 8) * cos (π / 8) = √2 / 2 := by rw [← sin_two_mul, h2, sin_pi_div_four]
  have hc : cos (π / 8) ^ 2 = 1 / 2 + (√2 / 2) / 2 := by rw [cos_sq, h2, cos_pi_div_four]
  have hr : (√2 : ℝ) ^ 2 = 2 := sq_sqrt (by norm_num)
  rw [Fin.sum_univ_two]
  show (cos (π / 8) / √2 + sin (π / 8) / √2) ^ 2 = cos (π / 8) ^ 2
  rw [← add_div, div_pow, hr, hc]
  linear_combination (1 / 2) * sin_sq_add_cos_sq (π / 8) + (1 / 2) * hs

theorem mw_cert : HedgeCert (rankOneQ mwCoeff) (rankOneQ fun _ => 1) (rankOneY mwCoeff) (cos (π / 8) ^ 2) (cos (π / 8) ^ 2) :=
  mwCoeff_sum_sq ▸ rankOne_cert mwCoeff mwCoeff_nonneg

end MW

end Toq.ExtGames
