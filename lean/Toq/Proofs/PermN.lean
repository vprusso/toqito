import Toq.Proofs.SumN
import Mathlib.Data.List.Nodup
import Mathlib.Data.List.GetD
import Mathlib.Data.List.Perm.Basic
import Mathlib.Data.Fintype.Basic
import Mathlib.Data.Fintype.EquivFin
import Mathlib.Data.Fintype.Card
/-! # Permutations of `0..n-1`, given as total functions `Nat → Nat`

`C01.IsPermN n p` says that `p` permutes `0..n-1`: the specification of the executable guard `isPerm` (`isPerm_eq_true_iff`; on a finite
range, injective and onto are the same).  A list that is a permutation of `range n`, read by `fnOfList`, gives one (`isPermN_of_perm`).
`invPerm n p` is the two-sided inverse (`perm_invPerm`, `invPerm_perm`), again a permutation (`invPerm_isPermN`), and
permutations compose (`comp_isPermN`, `invPerm_comp`). -/

namespace Toq.C01

/-- `perm` is a permutation of `0..n-1` (what `sorted(perm) == list(range(n))` checks) -/
structure IsPermN (n : Nat) (p : Nat → Nat) : Prop where
  lt : ∀ k, k < n → p k < n
  inj : ∀ a b, a < n → b < n → p a = p b → a = b

/-- a self-map of `0..n-1` that has a left inverse there is a permutation -/
theorem IsPermN.of_leftInverse {n : Nat} {σ τ : Nat → Nat} (hσ : ∀ k, k < n → σ k < n) (h : ∀ k, k < n → τ (σ k) = k) :
    IsPermN n σ :=
  ⟨hσ, fun a b ha hb e => by rw [← h a ha, e, h b hb]⟩

theorem IsPermN.id (n : Nat) : IsPermN n (fun k => k) := ⟨fun _ h => h, fun _ _ _ _ h => h⟩

theorem IsPermN.congr {n : Nat} {p p' : Nat → Nat} (hp : IsPermN n p') (h : ∀ k, k < n → p k = p' k) : IsPermN n p :=
  ⟨fun k hk => (h k hk).trans_lt (hp.lt k hk), fun a b ha hb hab => hp.inj a b ha hb (by rw [← h a ha, ← h b hb]; exact hab)⟩

end Toq.C01

namespace Toq.Perms
open Toq.C01

theorem surj_of_inj (n : Nat) (p : Nat → Nat) (hlt : ∀ k, k < n → p k < n)
    (hinj : ∀ a b, a < n → b < n → p a = p b → a = b) (m : Nat) (hm : m < n) :
    ∃ k, k < n ∧ p k = m := by
  have hm' : m ∈ (Finset.range n).image p := by
    rw [(range_image_of_injOn p n hlt hinj).2]; exact Finset.mem_range.mpr hm
  obtain ⟨k, hk, hpk⟩ := Finset.mem_image.mp hm'
  exact ⟨k, Finset.mem_range.mp hk, hpk⟩

theorem inj_of_surj (n : Nat) (p : Nat → Nat) (hlt : ∀ k, k < n → p k < n)
    (hsurj : ∀ m, m < n → ∃ k, k < n ∧ p k = m) (a b : Nat) (ha : a < n) (hb : b < n)
    (hab : p a = p b) : a = b := by
  let g : Fin n → Fin n := fun i => ⟨p i.1, hlt i.1 i.2⟩
  have hg : Function.Surjective g := fun m =>
    let ⟨k, hk, hpk⟩ := hsurj m.1 m.2
    ⟨⟨k, hk⟩, Fin.ext hpk⟩
  have : g ⟨a, ha⟩ = g ⟨b, hb⟩ := Fin.ext hab
  exact congrArg Fin.val (Finite.injective_iff_surjective.mpr hg this)

/-- the executable guard decides `IsPermN` -/
theorem isPerm_eq_true_iff (n : Nat) (p : Nat → Nat) : isPerm n p = true ↔ IsPermN n p := by
  unfold isPerm
  rw [Bool.and_eq_true, allBelow_iff, allBelow_iff]
  simp only [anyBelow_iff, beq_iff_eq, decide_eq_true_eq]
  constructor
  · rintro ⟨hs, hl⟩
    exact ⟨hl, inj_of_surj n p hl hs⟩
  · rintro ⟨hl, hi⟩
    exact ⟨surj_of_inj n p hl hi, hl⟩

/-! ### a list read as a finite map (`getD`, `idxOf`) and as a permutation -/

theorem getD_mem (L : List Nat) (m : Nat) (hm : m < L.length) : L.getD m 0 ∈ L := by
  rw [List.getD_eq_getElem _ _ hm]; exact List.getElem_mem _

theorem getD_idxOf (L : List Nat) (k : Nat) (hk : k ∈ L) : L.getD (L.idxOf k) 0 = k := by
  have hlt : L.idxOf k < L.length := List.idxOf_lt_length_of_mem hk
  rw [List.getD_eq_getElem _ _ hlt, List.getElem_idxOf hlt]

theorem idxOf_getD (L : List Nat) (hnd : L.Nodup) (m : Nat) (hm : m < L.length) :
    L.idxOf (L.getD m 0) = m := by
  rw [List.getD_eq_getElem _ _ hm]
  exact hnd.idxOf_getElem m hm

theorem getD_map (f : Nat → Nat) (L : List Nat) (q : Nat) (hq : q < L.length) :
    (L.map f).getD q 0 = f (L.getD q 0) := by
  rw [List.getD_eq_getElem _ _ (by rw [List.length_map]; exact hq), List.getD_eq_getElem _ _ hq,
    List.getElem_map]

theorem list_eq_map_range (O : List Nat) : O = (List.range O.length).map (fun q => O.getD q 0) := by
  apply List.ext_getElem
  · simp
  · intro i h1 h2
    rw [List.getElem_map, List.getElem_range, List.getD_eq_getElem _ _ h1]

theorem fnOfList_range (n k : Nat) (hk : k < n) : fnOfList (List.range n) 0 k = k := by
  unfold fnOfList
  rw [List.getD_eq_getElem _ _ (by simpa using hk)]
  simp

theorem fnOfList_append_left (A B : List Nat) (k : Nat) (h : k < A.length) :
    fnOfList (A ++ B) 0 k = fnOfList A 0 k :=
  List.getD_append _ _ _ _ h

theorem fnOfList_append_right (A B : List Nat) (k : Nat) :
    fnOfList (A ++ B) 0 (A.length + k) = fnOfList B 0 k := by
  unfold fnOfList
  rw [List.getD_append_right _ _ _ _ (Nat.le_add_right _ _), Nat.add_sub_cancel_left]

theorem fnOfList_inj_of_nodup (L : List Nat) (hnd : L.Nodup) (a b : Nat) (ha : a < L.length)
    (hb : b < L.length) (h : fnOfList L 0 a = fnOfList L 0 b) : a = b := by
  unfold fnOfList at h
  rw [List.getD_eq_getElem _ _ ha, List.getD_eq_getElem _ _ hb] at h
  exact (hnd.getElem_inj_iff).mp h

theorem isPermN_of_perm (n : Nat) (L : List Nat) (h : L.Perm (List.range n)) :
    IsPermN n (fnOfList L) := by
  have hlen : L.length = n := by rw [h.length_eq, List.length_range]
  subst hlen
  exact ⟨fun k hk => List.mem_range.mp (h.mem_iff.mp (getD_mem L k hk)),
    fnOfList_inj_of_nodup L (h.nodup_iff.mpr List.nodup_range)⟩

theorem invPerm_fnOfList (L : List Nat) (hnd : L.Nodup) (k : Nat) (hk : k ∈ L) :
    invPerm L.length (fnOfList L 0) k = L.idxOf k := by
  have hlt : L.idxOf k < L.length := List.idxOf_lt_length_of_mem hk
  apply invPerm_eq_of L.length (fnOfList L 0) (fnOfList_inj_of_nodup L hnd) k _ hlt
  exact (List.getD_eq_getElem _ _ hlt).trans (List.getElem_idxOf hlt)

theorem nodup_of_isPermN (L : List Nat) (h : IsPermN L.length (fnOfList L)) : L.Nodup := by
  rw [List.nodup_iff_injective_getElem]
  intro a b hab
  apply Fin.ext
  apply h.inj a b a.2 b.2
  exact (List.getD_eq_getElem _ _ a.2).trans (hab.trans (List.getD_eq_getElem _ _ b.2).symm)

section inv
variable (n : Nat) (p : Nat → Nat)

/-! `invPerm_lt`, `perm_invPerm`, `invPerm_perm` take the two fields of `IsPermN` as separate hypotheses: the definition
`Combinat.permOfFn` applies them in that form.  Proofs use the forms `hp.invPerm_lt`, `hp.perm_invPerm`, `hp.invPerm_perm` stated after them. -/

theorem invPerm_lt (hlt : ∀ k, k < n → p k < n) (hinj : ∀ a b, a < n → b < n → p a = p b → a = b)
    (m : Nat) (hm : m < n) : invPerm n p m < n := by
  obtain ⟨k, hk, hpk⟩ := surj_of_inj n p hlt hinj m hm
  exact (invPerm_lt_of_hit n p m k hk hpk).2.1

theorem perm_invPerm (hlt : ∀ k, k < n → p k < n) (hinj : ∀ a b, a < n → b < n → p a = p b → a = b)
    (m : Nat) (hm : m < n) : p (invPerm n p m) = m := by
  obtain ⟨k, hk, hpk⟩ := surj_of_inj n p hlt hinj m hm
  exact (invPerm_lt_of_hit n p m k hk hpk).2.2

theorem invPerm_perm (hinj : ∀ a b, a < n → b < n → p a = p b → a = b) (k : Nat) (hk : k < n) :
    invPerm n p (p k) = k :=
  invPerm_eq_of n p hinj (p k) k hk rfl

/-! The same three for `hp : IsPermN n p`, and the reindexing lemmas of `SumN.lean` (which cannot name `IsPermN`) in that form. -/

theorem _root_.Toq.C01.IsPermN.invPerm_lt {n : Nat} {p : Nat → Nat} (hp : IsPermN n p) {m : Nat} (hm : m < n) : invPerm n p m < n :=
  Toq.Perms.invPerm_lt n p hp.lt hp.inj m hm

theorem _root_.Toq.C01.IsPermN.perm_invPerm {n : Nat} {p : Nat → Nat} (hp : IsPermN n p) {m : Nat} (hm : m < n) : p (invPerm n p m) = m :=
  Toq.Perms.perm_invPerm n p hp.lt hp.inj m hm

theorem _root_.Toq.C01.IsPermN.invPerm_perm {n : Nat} {p : Nat → Nat} (hp : IsPermN n p) {k : Nat} (hk : k < n) : invPerm n p (p k) = k :=
  Toq.Perms.invPerm_perm n p hp.inj k hk

theorem _root_.Toq.C01.IsPermN.sumN_comp {α : Type*} [AddCommMonoid α] {n : Nat} {p : Nat → Nat} (hp : IsPermN n p) (f : Nat → α) :
    sumN n (fun k => f (p k)) = sumN n f :=
  sumN_reindex f p n hp.lt hp.inj

theorem _root_.Toq.C01.IsPermN.prodFn_comp {α : Type*} [CommMonoid α] {n : Nat} {p : Nat → Nat} (hp : IsPermN n p) (f : Nat → α) :
    prodFn n (fun k => f (p k)) = prodFn n f :=
  prodFn_reindex f p n hp.lt hp.inj

theorem _root_.Toq.C01.IsPermN.prodN_comp {n : Nat} {p : Nat → Nat} (hp : IsPermN n p) (d : Nat → Nat) : prodN (fun k => d (p k)) n = prodN d n :=
  prodN_reindex d p n hp.lt hp.inj

variable (hp : IsPermN n p)
include hp

/-- `p k = m` says that `k` is the position `invPerm` finds for `m` -/
theorem perm_eq_iff_eq_invPerm {k m : Nat} (hk : k < n) (hm : m < n) : p k = m ↔ k = invPerm n p m :=
  ⟨fun h => h ▸ (hp.invPerm_perm hk).symm, fun h => h ▸ hp.perm_invPerm hm⟩

theorem invPerm_inj (a b : Nat) (ha : a < n) (hb : b < n) (h : invPerm n p a = invPerm n p b) :
    a = b := by
  rw [← hp.perm_invPerm ha, ← hp.perm_invPerm hb, h]

theorem invPerm_isPermN : IsPermN n (invPerm n p) :=
  ⟨fun _ => hp.invPerm_lt, invPerm_inj n p hp⟩

theorem invPerm_invPerm (k : Nat) (hk : k < n) : invPerm n (invPerm n p) k = p k :=
  invPerm_eq_of n (invPerm n p) (invPerm_inj n p hp) k (p k) (hp.lt k hk)
    (hp.invPerm_perm hk)

end inv

/-- multiplying by the indicator of `σ k = i` and summing picks the one position that `σ` sends to `i`, `invPerm N σ i`
    (`sumN_ite_mul` is the case `σ = id`) -/
theorem _root_.sumN_ite_perm_mul {α : Type*} [NonAssocSemiring α] (σ : Nat → Nat) (N i : Nat) (hσ : IsPermN N σ) (hi : i < N)
    (x : Nat → α) : sumN N (fun k => (if σ k = i then 1 else 0) * x k) = x (invPerm N σ i) := by
  rw [sumN_congr _ (fun k => (if invPerm N σ i = k then (1 : α) else 0) * x k) N fun k hk => by
      rw [if_congr ((perm_eq_iff_eq_invPerm N σ hσ hk hi).trans eq_comm) rfl rfl]]
  exact sumN_ite_mul x _ N (hσ.invPerm_lt hi)

/-- `Σ_k [σ k = i]·[σ k = j] = [i = j]` for a permutation `σ` of `0..N-1` -/
theorem _root_.sumN_ite_ite_col {α : Type*} [NonAssocSemiring α] (σ : Nat → Nat) (N i j : Nat) (hσ : IsPermN N σ) (hi : i < N) :
    sumN N (fun k => (if σ k = i then (1 : α) else 0) * (if σ k = j then 1 else 0)) = if i = j then 1 else 0 := by
  rw [sumN_ite_perm_mul σ N i hσ hi, hσ.perm_invPerm hi]

theorem invPerm_id (n k : Nat) (hk : k < n) : invPerm n (fun m => m) k = k :=
  invPerm_eq_of n _ (fun _ _ _ _ h => h) k k hk rfl

section comp
variable (n : Nat) (p q : Nat → Nat) (hp : IsPermN n p) (hq : IsPermN n q)
include hp hq

theorem comp_isPermN : IsPermN n (fun m => p (q m)) :=
  ⟨fun k hk => hp.lt _ (hq.lt k hk), fun a b ha hb h => hq.inj a b ha hb (hp.inj _ _ (hq.lt a ha) (hq.lt b hb) h)⟩

theorem invPerm_comp (k : Nat) (hk : k < n) :
    invPerm n (fun m => p (q m)) k = invPerm n q (invPerm n p k) := by
  have h1 := hp.invPerm_lt hk
  apply invPerm_eq_of n _ (comp_isPermN n p q hp hq).inj k _ (hq.invPerm_lt h1)
  show p (q (invPerm n q (invPerm n p k))) = k
  rw [hq.perm_invPerm h1, hp.perm_invPerm hk]

end comp

end Toq.Perms
