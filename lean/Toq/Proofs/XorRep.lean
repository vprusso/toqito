import Toq.Proofs.XorMult
import Toq.Proofs.PiKron
/-!
# Parallel repetition of XOR games (C08): the value of the `r`-fold repetition is at most `((1 + β)/2)^r`

`quantum_value` with `reps = r` returns the `r`-th power of the single-shot value.  Here the upper-bound half of the theorem
behind it (Cleve–Slofstra–Unger–Upadhyay) is proved for every `r`, every strategy with general measurements (POVMs) in every
dimension, from a dual certificate of the single game:

* `tsirelsonDual_marginals_psd` — the marginals of `π` are a dual certificate (value 1) of the trivial game with cost `π`;
* `tsirelsonDual_pi_psd` — the product of `r` dual certificates is a dual certificate of the `r`-fold XOR-sum;
* Fourier expansion of the winning condition over subsets `S` of rounds (`andWin_fourier`): the winning probability of a
  strategy is the average over `S` of the biases of the sign observables `A_S = Σ_a χ_S(a) E_a`, `B_S` in the XOR-sum games with
  costs `D_S = ⊗_k (D if k ∈ S else π)`;
* the sign observables of a POVM are Hermitian contractions (`1 − A² = ½((1+A)(1−A)(1+A) + (1−A)(1+A)(1−A)) ⪰ 0`), so their
  correlators are vector correlations (`isVectorCorr_of_contr`) and each Fourier term is bounded by the product
  certificate (`fourier_term_le`).
-/

open Matrix
open scoped ComplexOrder MatrixOrder Kronecker

namespace Toq.Xor

section Trivial
variable {X Y : Type*} [DecidableEq X] [DecidableEq Y] [Fintype X] [Fintype Y]

theorem tsirelsonDual_psd_of_dominant (D : X → Y → ℝ) (a : X → ℝ) (b : Y → ℝ) (ha : ∀ x, ∑ y, |D x y| ≤ a x)
    (hb : ∀ y, ∑ x, |D x y| ≤ b y) : (tsirelsonDual D a b).PosSemidef := by
  apply Matrix.posSemidef_of_diagDominant (tsirelsonDual_isHermitian _ _ _)
  rintro (x | y)
  · rw [Finset.sum_erase_eq_sub (Finset.mem_univ _), Fintype.sum_sum_type]
    simp only [tsirelsonDual_inl_inl, tsirelsonDual_inl_inr, apply_ite norm, norm_zero, Finset.sum_ite_eq, Finset.mem_univ,
      if_true, add_sub_cancel_left, norm_neg, Complex.norm_real, Real.norm_eq_abs, Complex.ofReal_re]
    exact ha x
  · rw [Finset.sum_erase_eq_sub (Finset.mem_univ _), Fintype.sum_sum_type]
    simp only [tsirelsonDual_inr_inl, tsirelsonDual_inr_inr, apply_ite norm, norm_zero, Finset.sum_ite_eq, Finset.mem_univ,
      if_true, add_sub_cancel_right, norm_neg, Complex.norm_real, Real.norm_eq_abs, Complex.ofReal_re]
    exact hb y

theorem tsirelsonDual_marginals_psd (π : X → Y → ℝ) (hπ : ∀ x y, 0 ≤ π x y) :
    (tsirelsonDual π (fun x => ∑ y, π x y) (fun y => ∑ x, π x y)).PosSemidef :=
  tsirelsonDual_psd_of_dominant _ _ _ (fun x => le_of_eq (Finset.sum_congr rfl fun y _ => abs_of_nonneg (hπ x y)))
    fun y => le_of_eq (Finset.sum_congr rfl fun x _ => abs_of_nonneg (hπ x y))

end Trivial

section Pi
variable {X Y : Type*}

/-- cost matrix of the XOR-sum of `r` games: `Π_k E_k(x_k, y_k)` -/
def piCost {r : Nat} (E : Fin r → X → Y → ℝ) : (Fin r → X) → (Fin r → Y) → ℝ := fun x y => ∏ k, E k (x k) (y k)

def piVec {r : Nat} {Z : Type*} (a : Fin r → Z → ℝ) : (Fin r → Z) → ℝ := fun x => ∏ k, a k (x k)

def piEmb {r : Nat} : (Fin r → X) ⊕ (Fin r → Y) → (Fin r → X ⊕ Y) :=
  Sum.elim (fun x k => .inl (x k)) (fun y k => .inr (y k))

variable [DecidableEq X] [DecidableEq Y]

/-- with the signs of all cost matrices flipped (so that no parity of `r` appears) the block matrix of the XOR-sum is a principal
    submatrix of the `r`-fold Kronecker product of the block matrices -/
theorem tsirelsonDual_neg_pi {r : Nat} (E : Fin r → X → Y → ℝ) (a : Fin r → X → ℝ) (b : Fin r → Y → ℝ) :
    tsirelsonDual (fun x y => -piCost E x y) (piVec a) (piVec b)
      = (ExtGames.piKron fun k => tsirelsonDual (fun x y => -E k x y) (a k) (b k)).submatrix piEmb piEmb := by
  ext i j
  rcases i with x | y <;> rcases j with x' | y'
  · simp only [submatrix_apply, piEmb, Sum.elim_inl, ExtGames.piKron, tsirelsonDual_inl_inl, Finset.prod_ite_zero,
      Finset.mem_univ, true_imp_iff, funext_iff, piVec, Complex.ofReal_prod]
  · simp only [submatrix_apply, piEmb, Sum.elim_inl, Sum.elim_inr, ExtGames.piKron, tsirelsonDual_inl_inr, piCost,
      Complex.ofReal_neg, neg_neg, Complex.ofReal_prod]
  · simp only [submatrix_apply, piEmb, Sum.elim_inl, Sum.elim_inr, ExtGames.piKron, tsirelsonDual_inr_inl, piCost,
      Complex.ofReal_neg, neg_neg, Complex.ofReal_prod]
  · simp only [submatrix_apply, piEmb, Sum.elim_inr, ExtGames.piKron, tsirelsonDual_inr_inr, Finset.prod_ite_zero,
      Finset.mem_univ, true_imp_iff, funext_iff, piVec, Complex.ofReal_prod]

variable [Fintype X] [Fintype Y]

theorem tsirelsonDual_pi_psd {r : Nat} (E : Fin r → X → Y → ℝ) (a : Fin r → X → ℝ) (b : Fin r → Y → ℝ)
    (h : ∀ k, (tsirelsonDual (E k) (a k) (b k)).PosSemidef) : (tsirelsonDual (piCost E) (piVec a) (piVec b)).PosSemidef := by
  have := (ExtGames.piKron_psd _ fun k => tsirelsonDual_neg_psd (h k)).submatrix (piEmb (r := r))
  rw [← tsirelsonDual_neg_pi] at this
  simpa using tsirelsonDual_neg_psd this

end Pi

def sgb (t : Bool) : ℝ := if t then -1 else 1

theorem sgb_false : sgb false = 1 := rfl
theorem sgb_true : sgb true = -1 := rfl

theorem sgb_mul_self (t : Bool) : sgb t * sgb t = 1 := by cases t <;> simp [sgb]

theorem sgb_of_ne {a a' : Bool} (h : a ≠ a') : sgb a' = -sgb a := by
  obtain rfl : a' = !a := Bool.eq_not_of_ne h.symm
  cases a <;> simp [sgb]

theorem xor_indicator (a b f : Bool) : (if xor a b = f then (1 : ℝ) else 0) = (1 + sgb a * sgb b * sgb f) / 2 := by
  cases a <;> cases b <;> cases f <;> simp [sgb]

section Fourier
variable {r : Nat}

/-- character `χ_S(a) = Π_{k ∈ S} (-1)^{a_k}` -/
def chi (S : Finset (Fin r)) (a : Fin r → Bool) : ℝ := ∏ k ∈ S, sgb (a k)

theorem abs_chi_le (S : Finset (Fin r)) (a : Fin r → Bool) : |chi S a| ≤ 1 := by
  rw [chi, Finset.abs_prod]
  exact le_of_eq (Finset.prod_eq_one fun k _ => by cases a k <;> simp [sgb])

theorem and_indicator (a b f : Fin r → Bool) :
    (if ∀ k, xor (a k) (b k) = f k then (1 : ℝ) else 0)
      = (1 / 2) ^ r * ∑ S ∈ (Finset.univ : Finset (Fin r)).powerset, chi S a * chi S b * chi S f := by
  have h1 : (if ∀ k, xor (a k) (b k) = f k then (1 : ℝ) else 0) = ∏ k, (if xor (a k) (b k) = f k then (1 : ℝ) else 0) := by
    rw [Finset.prod_ite_zero]
    simp
  simp only [h1, xor_indicator]
  have h2 : ∏ k : Fin r, (1 + sgb (a k) * sgb (b k) * sgb (f k)) / 2
      = (1 / 2) ^ r * ∏ k : Fin r, (1 + sgb (a k) * sgb (b k) * sgb (f k)) := by
    rw [Finset.prod_div_distrib, Finset.prod_const, Finset.card_univ, Fintype.card_fin]
    rw [one_div, inv_pow]; ring
  rw [h2, Finset.prod_one_add]
  congr 1
  refine Finset.sum_congr rfl fun S _ => ?_
  unfold chi
  rw [Finset.prod_mul_distrib, Finset.prod_mul_distrib]

end Fourier

section Strategies
variable {Q R : Type*} {An : Type*} [Fintype An] [DecidableEq An] {d : Type*} [Fintype d] [DecidableEq d]

/-- a quantum strategy with projective measurements: state `ρ`, for every question `q` of Alice orthogonal projectors
    `P q a` (answers `a`) summing to 1, likewise `Qm s b` for Bob, and Alice's projectors commute with Bob's -/
structure IsProjStrategy (ρ : Matrix d d ℂ) (P : Q → An → Matrix d d ℂ) (Qm : R → An → Matrix d d ℂ) : Prop where
  psd : ρ.PosSemidef
  tr_one : ρ.trace = 1
  P_herm : ∀ q a, (P q a).IsHermitian
  P_orth : ∀ q a a', P q a * P q a' = if a = a' then P q a else 0
  P_sum : ∀ q, ∑ a, P q a = 1
  Q_herm : ∀ s b, (Qm s b).IsHermitian
  Q_orth : ∀ s b b', Qm s b * Qm s b' = if b = b' then Qm s b else 0
  Q_sum : ∀ s, ∑ b, Qm s b = 1
  comm : ∀ q a s b, P q a * Qm s b = Qm s b * P q a

/-- a quantum strategy with general measurements (POVMs): `E q a ⪰ 0`, `Σ_a E q a = 1`, likewise for Bob -/
structure IsPovmStrategy (ρ : Matrix d d ℂ) (E : Q → An → Matrix d d ℂ) (F : R → An → Matrix d d ℂ) : Prop where
  psd : ρ.PosSemidef
  tr_one : ρ.trace = 1
  E_psd : ∀ q a, (E q a).PosSemidef
  E_sum : ∀ q, ∑ a, E q a = 1
  F_psd : ∀ s b, (F s b).PosSemidef
  F_sum : ∀ s, ∑ b, F s b = 1
  comm : ∀ q a s b, E q a * F s b = F s b * E q a

theorem isPovmStrategy_of_proj {ρ : Matrix d d ℂ} {P : Q → An → Matrix d d ℂ} {Qm : R → An → Matrix d d ℂ}
    (h : IsProjStrategy ρ P Qm) : IsPovmStrategy ρ P Qm where
  psd := h.psd
  tr_one := h.tr_one
  E_psd := fun q a => Metrics.posSemidef_of_isHermitian_idem (h.P_herm q a) (by rw [h.P_orth, if_pos rfl])
  E_sum := h.P_sum
  F_psd := fun s b => Metrics.posSemidef_of_isHermitian_idem (h.Q_herm s b) (by rw [h.Q_orth, if_pos rfl])
  F_sum := h.Q_sum
  comm := h.comm

end Strategies

section Contractions
variable {Q R : Type*} {An : Type*} [Fintype An] {d : Type*}

/-- `1 + Σ_a χ(a) E_a = Σ_a (1 + χ(a)) E_a ⪰ 0` for a POVM and `χ ≥ −1` -/
theorem one_add_realComb_psd [DecidableEq d] (χ : An → ℝ) (hχ : ∀ a, -1 ≤ χ a) (E : An → Matrix d d ℂ)
    (hE : ∀ a, (E a).PosSemidef) (hsum : ∑ a, E a = 1) : (1 + realComb χ E).PosSemidef := by
  have e : 1 + realComb χ E = ∑ a, ((1 + χ a : ℝ) : ℂ) • E a := by
    rw [← hsum]; unfold realComb
    rw [← Finset.sum_add_distrib]
    refine Finset.sum_congr rfl fun a _ => ?_
    push_cast; rw [add_smul, one_smul]
  rw [e]
  exact Matrix.posSemidef_sum _ fun a _ => (hE a).smul (Complex.zero_le_real.mpr (by linarith [hχ a]))

variable [Fintype d]

theorem corr_realComb (ρ : Matrix d d ℂ) (χ χ' : An → ℝ) (P P' : An → Matrix d d ℂ) :
    ∑ a, ∑ b, χ a * χ' b * (ρ * P a * P' b).trace.re = (ρ * realComb χ P * realComb χ' P').trace.re := by
  rw [Matrix.mul_assoc ρ, realComb_mul, Finset.mul_sum, trace_sum, Complex.re_sum]
  refine Finset.sum_congr rfl fun a _ => ?_
  rw [Finset.mul_sum, trace_sum, Complex.re_sum]
  refine Finset.sum_congr rfl fun b _ => ?_
  rw [Matrix.mul_smul, trace_smul, smul_eq_mul, ← Complex.ofReal_mul, Complex.re_ofReal_mul, Matrix.mul_assoc]

variable [DecidableEq d]

theorem one_sub_sq_psd {A : Matrix d d ℂ} (hA : A.IsHermitian) (h1 : (1 - A).PosSemidef) (h2 : (1 + A).PosSemidef) :
    (1 - A * A).PosSemidef := by
  have e : 1 - A * A = ((1 / 2 : ℝ) : ℂ) • ((1 + A) * (1 - A) * (1 + A)ᴴ + (1 - A) * (1 + A) * (1 - A)ᴴ) := by
    rw [conjTranspose_add, conjTranspose_sub, conjTranspose_one, hA.eq]
    have : (1 + A) * (1 - A) * (1 + A) + (1 - A) * (1 + A) * (1 - A) = (2 : ℂ) • (1 - A * A) := by
      simp only [Matrix.add_mul, Matrix.mul_add, Matrix.sub_mul, Matrix.mul_sub, Matrix.one_mul, Matrix.mul_one, two_smul]
      abel
    rw [this, smul_smul]
    norm_num
  rw [e]
  exact ((h1.mul_mul_conjTranspose_same _).add (h2.mul_mul_conjTranspose_same _)).smul (by simp : (0 : ℂ) ≤ ((1 / 2 : ℝ) : ℂ))

theorem isContr_realComb {ρ : Matrix d d ℂ} (hρ : ρ.PosSemidef) (htr : ρ.trace = 1) {χ : An → ℝ}
    (hχ : ∀ a, |χ a| ≤ 1) {E : An → Matrix d d ℂ} (hE : ∀ a, (E a).PosSemidef) (hsum : ∑ a, E a = 1) :
    IsContr ρ (realComb χ E) := by
  have hA := realComb_herm χ E fun a => (hE a).isHermitian
  have h2 := one_add_realComb_psd χ (fun a => (abs_le.mp (hχ a)).1) E hE hsum
  have h1 := one_add_realComb_psd (fun a => -χ a) (fun a => neg_le_neg (abs_le.mp (hχ a)).2) E hE hsum
  rw [realComb_neg, ← sub_eq_add_neg] at h1
  have := psd_trace_mul_nonneg hρ (one_sub_sq_psd hA h1 h2)
  rw [Matrix.mul_sub, Matrix.mul_one, trace_sub, htr, Complex.sub_re, Complex.one_re] at this
  exact ⟨hA, by linarith⟩

end Contractions

section Repetition
variable {X Y : Type*} [Fintype X] [Fintype Y] [DecidableEq X] [DecidableEq Y] {d : Type*} [Fintype d] [DecidableEq d]
  {r : Nat}

/-- cost matrix `D[x,y] = π(x,y) (-1)^{f(x,y)}` for a Boolean predicate -/
def costB (π : X → Y → ℝ) (f : X → Y → Bool) : X → Y → ℝ := fun x y => π x y * sgb (f x y)

/-- winning probability of a strategy in the `r`-fold AND-repetition of the XOR game `(π, f)`: questions `x⃗, y⃗` drawn from
    `π^{⊗r}`, answers `a⃗, b⃗ ∈ {0,1}^r`, the players win iff `a_k ⊕ b_k = f(x_k, y_k)` in EVERY round -/
noncomputable def andWin (π : X → Y → ℝ) (f : X → Y → Bool) (ρ : Matrix d d ℂ)
    (P : (Fin r → X) → (Fin r → Bool) → Matrix d d ℂ) (Qm : (Fin r → Y) → (Fin r → Bool) → Matrix d d ℂ) : ℝ :=
  ∑ x, ∑ y, (∏ k, π (x k) (y k)) *
    ∑ a, ∑ b, (if ∀ k, xor (a k) (b k) = f (x k) (y k) then (1 : ℝ) else 0) * (ρ * P x a * Qm y b).trace.re

/-- the factor of round `k` in the cost matrix of the subset `S`: the game itself if `k ∈ S`, the trivial game otherwise -/
def roundCost (π : X → Y → ℝ) (f : X → Y → Bool) (S : Finset (Fin r)) (k : Fin r) : X → Y → ℝ :=
  if k ∈ S then costB π f else π

end Repetition

section RepetitionBound
variable {X Y : Type*} {d : Type*} {r : Nat}

theorem piCost_roundCost (π : X → Y → ℝ) (f : X → Y → Bool) (S : Finset (Fin r)) (x : Fin r → X) (y : Fin r → Y) :
    piCost (roundCost π f S) x y = (∏ k, π (x k) (y k)) * chi S (fun k => f (x k) (y k)) := by
  unfold piCost chi
  rw [← Finset.prod_ite_mem_eq S, ← Finset.prod_mul_distrib]
  refine Finset.prod_congr rfl fun k _ => ?_
  unfold roundCost costB
  split <;> simp

theorem sum_sum_mul_const_mul_sum {α β σ : Type*} [Fintype α] [Fintype β] (s : Finset σ) (k : ℝ) (g : σ → α → β → ℝ)
    (t : α → β → ℝ) :
    ∑ a, ∑ b, t a b * (k * ∑ S ∈ s, g S a b) = k * ∑ S ∈ s, ∑ a, ∑ b, t a b * g S a b := by
  simp only [Finset.mul_sum, mul_left_comm (t _ _) k]
  exact (Finset.sum_congr rfl fun a _ => Finset.sum_comm).trans Finset.sum_comm

theorem piVec_ite_sum [Fintype X] (S : Finset (Fin r)) (a m : X → ℝ) (hm : ∑ x, m x = 1) :
    ∑ x, piVec (fun k => if k ∈ S then a else m) x = (∑ x, a x) ^ S.card := by
  unfold piVec
  rw [← Fintype.prod_sum, ← Finset.prod_const, ← Finset.prod_ite_mem_eq S]
  refine Finset.prod_congr rfl fun k _ => ?_
  split
  · rfl
  · exact hm

variable [Fintype X] [Fintype Y] [Fintype d]

theorem andWin_fourier (π : X → Y → ℝ) (f : X → Y → Bool) (ρ : Matrix d d ℂ)
    (P : (Fin r → X) → (Fin r → Bool) → Matrix d d ℂ) (Qm : (Fin r → Y) → (Fin r → Bool) → Matrix d d ℂ) :
    andWin π f ρ P Qm = (1 / 2) ^ r * ∑ S ∈ (Finset.univ : Finset (Fin r)).powerset,
      ∑ x, ∑ y, piCost (roundCost π f S) x y *
        corrQ ρ (fun x => realComb (chi S) (P x)) (fun y => realComb (chi S) (Qm y)) x y := by
  unfold andWin
  -- expand the winning condition; pull `2^{-r} Σ_S` out of the sum over the answers, then out of the sum over the questions
  simp only [and_indicator, mul_comm _ (ρ * _ * _).trace.re, sum_sum_mul_const_mul_sum]
  refine congrArg ((1 / 2 : ℝ) ^ r * ·) (Finset.sum_congr rfl fun S _ => Finset.sum_congr rfl fun x _ =>
    Finset.sum_congr rfl fun y _ => ?_)
  rw [piCost_roundCost, corrQ, ← corr_realComb, mul_assoc]
  refine congrArg ((∏ k, π (x k) (y k)) * ·) ?_
  rw [Finset.mul_sum]
  refine Finset.sum_congr rfl fun a _ => ?_
  rw [Finset.mul_sum]
  exact Finset.sum_congr rfl fun b _ => by ring

variable [DecidableEq X] [DecidableEq Y]

/-- the product certificate: in the rounds of `S` the certificate `(a, b)` of the game, elsewhere the marginals of `π` -/
theorem fourier_term_le (π : X → Y → ℝ) (f : X → Y → Bool) (hπ0 : ∀ x y, 0 ≤ π x y) (hπ1 : ∑ x, ∑ y, π x y = 1)
    (a : X → ℝ) (b : Y → ℝ) (hZ : (tsirelsonDual (costB π f) a b).PosSemidef) (S : Finset (Fin r))
    {c : (Fin r → X) → (Fin r → Y) → ℝ} (hc : IsVectorCorr c) :
    ∑ x, ∑ y, piCost (roundCost π f S) x y * c x y ≤ Real.sqrt ((∑ x, a x) * ∑ y, b y) ^ S.card := by
  have hk : ∀ k, (tsirelsonDual (roundCost π f S k) (if k ∈ S then a else fun x => ∑ y, π x y)
      (if k ∈ S then b else fun y => ∑ x, π x y)).PosSemidef := by
    intro k
    unfold roundCost
    split
    · exact hZ
    · exact tsirelsonDual_marginals_psd π hπ0
  have hbound := hc.le_geo (tsirelsonDual_pi_psd _ _ _ hk)
  rw [piVec_ite_sum S a _ hπ1, piVec_ite_sum S b _ (Finset.sum_comm.trans hπ1)] at hbound
  refine le_trans hbound ?_
  rw [Real.sqrt_le_iff]
  refine ⟨pow_nonneg (Real.sqrt_nonneg _) _, ?_⟩
  rw [← pow_mul, mul_comm S.card 2, pow_mul,
    Real.sq_sqrt (mul_nonneg (tsirelsonDual_sum_nonneg hZ).1 (tsirelsonDual_sum_nonneg hZ).2), mul_pow]

theorem sum_powerset_pow (g : ℝ) (r : Nat) : ∑ S ∈ (Finset.univ : Finset (Fin r)).powerset, g ^ S.card = (g + 1) ^ r := by
  have := Finset.sum_pow_mul_eq_add_pow g 1 (Finset.univ : Finset (Fin r))
  rwa [Finset.card_univ, Fintype.card_fin, Finset.sum_congr rfl fun S _ => by rw [one_pow, mul_one]] at this

theorem geo_value_le {D : X → Y → ℝ} {a : X → ℝ} {b : Y → ℝ} (hZ : (tsirelsonDual D a b).PosSemidef) (r : Nat) :
    ((1 + Real.sqrt ((∑ x, a x) * ∑ y, b y)) / 2) ^ r ≤ (1 / 2 + (∑ x, a x + ∑ y, b y) / 2 / 2) ^ r :=
  pow_le_pow_left₀ (by linarith [Real.sqrt_nonneg ((∑ x, a x) * ∑ y, b y)]) (by linarith [sqrt_dual_le hZ]) r

variable [DecidableEq d]

theorem andWin_le_povm (π : X → Y → ℝ) (f : X → Y → Bool) (hπ0 : ∀ x y, 0 ≤ π x y) (hπ1 : ∑ x, ∑ y, π x y = 1)
    (a : X → ℝ) (b : Y → ℝ) (hZ : (tsirelsonDual (costB π f) a b).PosSemidef)
    (ρ : Matrix d d ℂ) (E : (Fin r → X) → (Fin r → Bool) → Matrix d d ℂ) (F : (Fin r → Y) → (Fin r → Bool) → Matrix d d ℂ)
    (h : IsPovmStrategy ρ E F) :
    andWin π f ρ E F ≤ ((1 + Real.sqrt ((∑ x, a x) * ∑ y, b y)) / 2) ^ r := by
  set g := Real.sqrt ((∑ x, a x) * ∑ y, b y) with hg
  rw [andWin_fourier]
  have hterm : ∀ S ∈ (Finset.univ : Finset (Fin r)).powerset,
      ∑ x, ∑ y, piCost (roundCost π f S) x y *
        corrQ ρ (fun x => realComb (chi S) (E x)) (fun y => realComb (chi S) (F y)) x y ≤ g ^ S.card := fun S _ =>
    fourier_term_le π f hπ0 hπ1 a b hZ S (isVectorCorr_of_contr h.psd
      (fun x => isContr_realComb h.psd h.tr_one (abs_chi_le S) (h.E_psd x) (h.E_sum x))
      fun y => isContr_realComb h.psd h.tr_one (abs_chi_le S) (h.F_psd y) (h.F_sum y))
  calc (1 / 2) ^ r * _ ≤ (1 / 2) ^ r * (g + 1) ^ r :=
        mul_le_mul_of_nonneg_left (sum_powerset_pow g r ▸ Finset.sum_le_sum hterm) (by positivity)
    _ = ((1 + g) / 2) ^ r := by rw [← mul_pow]; congr 1; ring

end RepetitionBound

section CheckerRep
open EMat
variable {m n k : Nat} {d : Type*} [Fintype d] [DecidableEq d]

/-- the predicate bit as a Boolean: `(-1) ** pred_mat[x, y]` in `quantum_value` sees the entry modulo 2 -/
def predBit (pred : Nat → Nat → Nat) : Fin m → Fin n → Bool := fun x y => decide (pred x.val y.val % 2 = 1)

theorem cast_negOnePow (k : Nat) : ((negOnePow k : Rat) : ℝ) = sgb (decide (k % 2 = 1)) := by
  rcases Nat.mod_two_eq_zero_or_one k with h | h <;> simp [negOnePow, sgb, h]

theorem castD_dMat (prob : Nat → Nat → Rat) (pred : Nat → Nat → Nat) :
    (castD (dMat prob pred) : Fin m → Fin n → ℝ) = costB (castD prob) (predBit pred) := by
  funext x y
  rw [castD_apply, dMat, Rat.cast_mul, cast_negOnePow]
  rfl

/-- an accepted dual certificate of the single game bounds the winning probability of every strategy (general measurements, any
    dimension) in the `r`-fold repetition by the value `quantum_value` reports for `reps = r` at that certificate -/
theorem checkXorDual_repetition_povm (prob : Nat → Nat → Rat) (pred : Nat → Nat → Nat)
    (hp0 : ∀ x y, x < m → y < n → 0 ≤ prob x y) (hp1 : totalProb m n prob = 1)
    (a b : Nat → Rat) (L : EMat (m + n) k) (hi : Rat) (h : checkXorDual m n (dMat prob pred) a b L = some hi)
    (r : Nat) (ρ : Matrix d d ℂ) (E : (Fin r → Fin m) → (Fin r → Bool) → Matrix d d ℂ)
    (F : (Fin r → Fin n) → (Fin r → Bool) → Matrix d d ℂ) (hs : IsPovmStrategy ρ E F) :
    andWin (castD prob) (predBit pred) ρ E F ≤ ((xorValue (2 * hi) r : Rat) : ℝ) := by
  obtain ⟨hZ, hv⟩ := checkXorDual_eq_some (dMat prob pred) a b L hi h
  rw [castD_dMat] at hZ
  have hπ0 : ∀ (x : Fin m) (y : Fin n), 0 ≤ (castD prob : Fin m → Fin n → ℝ) x y := fun x y =>
    Rat.cast_nonneg.mpr (hp0 x.val y.val x.isLt y.isLt)
  refine (andWin_le_povm (castD prob) (predBit pred) hπ0 (castD_sum_eq_one hp1) _ _ hZ ρ E F hs).trans
    ((geo_value_le hZ r).trans (le_of_eq ?_))
  rw [hv, xorValue_two_mul]
  push_cast
  rfl

theorem checkXorDual_repetition (prob : Nat → Nat → Rat) (pred : Nat → Nat → Nat)
    (hp0 : ∀ x y, x < m → y < n → 0 ≤ prob x y) (hp1 : totalProb m n prob = 1)
    (a b : Nat → Rat) (L : EMat (m + n) k) (hi : Rat) (h : checkXorDual m n (dMat prob pred) a b L = some hi)
    (r : Nat) (ρ : Matrix d d ℂ) (P : (Fin r → Fin m) → (Fin r → Bool) → Matrix d d ℂ)
    (Qm : (Fin r → Fin n) → (Fin r → Bool) → Matrix d d ℂ) (hs : IsProjStrategy ρ P Qm) :
    andWin (castD prob) (predBit pred) ρ P Qm ≤ ((xorValue (2 * hi) r : Rat) : ℝ) :=
  checkXorDual_repetition_povm prob pred hp0 hp1 a b L hi h r ρ P Qm (isPovmStrategy_of_proj hs)

end CheckerRep
end Toq.Xor
