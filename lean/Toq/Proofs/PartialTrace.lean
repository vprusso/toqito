import Toq.Model.PartialOps
import Toq.Spec.PartialTrace
import Toq.Proofs.Idx
import Toq.Proofs.Perms
import Toq.Proofs.Digits
import Mathlib.Data.List.Basic
import Mathlib.Data.List.Nodup
import Mathlib.Data.List.GetD
import Mathlib.Data.List.Perm.Basic
import Mathlib.Algebra.BigOperators.Group.Finset.Basic
import Mathlib.Algebra.Ring.Defs
import Mathlib.Tactic.Ring
/-!
# Helper lemmas for C02 (partial trace): the mirror model `Toq.PartialOps.partialTrace` computes
`Toq.PTrace.ptraceSpec`, and the algebra of the specification.

The idea: a flat index is presented as the code `codeOn dims L x` of a label assignment `x` over a list `L` of subsystems; over a
concatenated list the code is `codeOn L1 x * dim L2 + codeOn L2 x` (`codeOn_append`), and `permute_systems` with a listing `L` of all
subsystems turns the code over `L` into the plain code (`specIndex_codeOn`).  So after `permute_systems` with `perm = others ++ S` the
index `i * T + t` carries the labels `t` on `S` and `i` on the other subsystems (`codeOn_merge`, `specIndex_eq_join`), and the reshape /
transpose / strided pick reads exactly the entries `(i * T + t, j * T + t)` (`pipeline_entry`).

Label assignments and radix vectors that are one thing on `S` and another elsewhere are written `mix S f g`; `subDim` is a list
product (`subDim_eq_prod`).  `mix`, the lemmas on lists read as permutations and on codes over lists, and the reshape / transpose
lemma `matFlatF_reshape_transpose` also serve the partial transpose.
-/
open Toq.Perms Toq.PartialOps Toq.C01

namespace Toq

/-- `f` on the subsystems listed in `S`, `g` on the others: the form of `PTrace.join`, `Spec.pTRowDims`, `Spec.pTColDims` and of
    the digit vectors of `Spec.pTSpec` -/
def mix {β : Type} (S : List Nat) (f g : Nat → β) : Nat → β := fun k => if k ∈ S then f k else g k

section mix
variable {β : Type} {S : List Nat} {f g : Nat → β} {k : Nat}

theorem mix_of_mem (h : k ∈ S) : mix S f g k = f k := if_pos h

theorem mix_of_not_mem (h : k ∉ S) : mix S f g k = g k := if_neg h

theorem mix_cases {motive : β → Prop} (hf : k ∈ S → motive (f k)) (hg : k ∉ S → motive (g k)) : motive (mix S f g k) := by
  unfold mix
  split
  · exact hf ‹_›
  · exact hg ‹_›

theorem mix_congr {f' g' : Nat → β} (hf : f k = f' k) (hg : g k = g' k) : mix S f g k = mix S f' g' k := by
  unfold mix
  rw [hf, hg]

theorem mix_self (S : List Nat) (f : Nat → β) : mix S f f = f := funext fun _ => ite_self _

theorem mix_mix_swap (S : List Nat) (a b : Nat → β) : mix S (mix S a b) (mix S b a) = a := by
  funext k
  unfold mix
  split <;> rfl

theorem mix_compl {T : List Nat} (hT : k ∈ T ↔ k ∉ S) : mix T f g k = mix S g f k := by
  by_cases h : k ∈ S
  · rw [mix_of_mem h, mix_of_not_mem (fun h' => hT.mp h' h)]
  · rw [mix_of_not_mem h, mix_of_mem (hT.mpr h)]

theorem mix_lt {f g d e : Nat → Nat} (hf : f k < d k) (hg : g k < e k) : mix S f g k < mix S d e k := by
  unfold mix
  split
  · exact hf
  · exact hg

theorem mix_lt_of {f g : Nat → Nat} {c : Nat} (hf : k ∈ S → f k < c) (hg : k ∉ S → g k < c) : mix S f g k < c :=
  mix_cases (motive := (· < c)) hf hg

theorem mix_dec_lt {d : Nat → Nat} {n : Nat} (hd : ∀ k, k < n → 0 < d k) (S : List Nat) (a b k : Nat) (hk : k < n) :
    mix S (dec d n a) (dec d n b) k < d k :=
  mix_lt_of (fun _ => dec_lt _ _ _ _ hk (hd k hk)) (fun _ => dec_lt _ _ _ _ hk (hd k hk))

end mix

namespace PTrace

theorem prodN_lit0 (d : Nat → Nat) : prodN d 0 = 1 := rfl

theorem matFlatF_reshape_transpose {α : Type} (a : Nat → Nat → α) (N n : Nat) (s ax x : Nat → Nat) (hp : IsPermN n ax)
    (hx : ∀ k, k < n → x k < s (ax k)) (r c : Nat) (hr : r < N)
    (h : flatF s (fun m => x (invPerm n ax m)) n = c * N + r) :
    ((ND.ofFlatF (matFlatF a N) n s).transpose ax).vecF (flatF (fun k => s (ax k)) x n) = a r c := by
  rw [vecF_transpose_flatF _ n s ax x hp hx, h]
  show a ((c * N + r) % N) ((c * N + r) / N) = a r c
  rw [Nat.mul_add_mod_of_lt hr, Nat.mul_add_div_of_lt hr]

/-- the middle of `partial_trace`: F-reshape to `[T, K, T, K]`, `transpose((1, 3, 0, 2))`, F-reshape to
    `[K, K, T*T]`; the strided pick `t * (T + 1)` of the last axis is the entry with equal `S`-labels `t` -/
theorem pipeline_entry {α : Type} (a : Nat → Nat → α) (N T K : Nat) (hN : N = K * T)
    (i j t : Nat) (hi : i < K) (hj : j < K) (ht : t < T) :
    (ND.ofFlatF ((ND.ofFlatF (matFlatF a N) 4 (fnOfList [T, K, T, K])).transpose
        (fnOfList [1, 3, 0, 2])).vecF 3 (fnOfList [K, K, T * T])).get (fnOfList [i, j, t * (T + 1)])
      = a (i * T + t) (j * T + t) := by
  have hp := (isPerm_eq_true_iff 4 _).mp (by decide : isPerm 4 (fnOfList [1, 3, 0, 2]) = true)
  -- the picked flat position is the multi-index `(i, j, t, t)` of the transposed array (shape `[K, K, T, T]`)
  have hidx : flatF (fnOfList [K, K, T * T]) (fnOfList [i, j, t * (T + 1)]) 3
      = flatF (fun k => fnOfList [T, K, T, K] 0 (fnOfList [1, 3, 0, 2] 0 k)) (fnOfList [i, j, t, t]) 4 := by
    rw [flatF_three, flatF_four]
    show i + j * K + t * (T + 1) * (K * K) = i + j * K + t * (K * K) + t * (K * K * T)
    ring
  show ((ND.ofFlatF (matFlatF a N) 4 (fnOfList [T, K, T, K])).transpose (fnOfList [1, 3, 0, 2])).vecF
    (flatF (fnOfList [K, K, T * T]) (fnOfList [i, j, t * (T + 1)]) 3) = _
  rw [hidx]
  -- before the transposition that is `(t, i, t, j)` for the shape `[T, K, T, K]`: row `i * T + t`, column `j * T + t`
  refine matFlatF_reshape_transpose a N 4 _ _ _ hp (forall_lt_four hi hj ht ht) _ _ (hN ▸ Nat.mul_add_lt_mul hi ht) ?_
  rw [flatF_four, hN]
  show t + i * T + t * (T * K) + j * (T * K * T) = _
  ring

theorem setDiff_eq_others (n : Nat) (S : List Nat) : setDiff n S = others n S := by
  unfold setDiff others
  apply List.filter_congr
  intro k _
  simp

theorem mem_others {n : Nat} {S : List Nat} {k : Nat} : k ∈ others n S ↔ k < n ∧ k ∉ S := by
  simp [others]

theorem not_mem_of_mem_others {n : Nat} {S : List Nat} (k : Nat) (hk : k ∈ others n S) : k ∉ S := (mem_others.mp hk).2

theorem others_nodup (n : Nat) (S : List Nat) : (others n S).Nodup :=
  List.Nodup.filter _ List.nodup_range

/-- the list `permute_systems` is called with by `partial_trace` lists every subsystem once -/
theorem others_append_perm (n : Nat) (S : List Nat) (hnd : S.Nodup) (hlt : ∀ s ∈ S, s < n) :
    (others n S ++ S).Perm (List.range n) := by
  rw [List.perm_ext_iff_of_nodup]
  · intro a
    simp only [List.mem_append, mem_others, List.mem_range]
    constructor
    · rintro (⟨h, _⟩ | h)
      · exact h
      · exact hlt a h
    · intro h
      by_cases ha : a ∈ S
      · exact Or.inr ha
      · exact Or.inl ⟨h, ha⟩
  · rw [List.nodup_append]
    refine ⟨others_nodup n S, hnd, ?_⟩
    intro a ha b hb hab
    subst hab
    exact not_mem_of_mem_others a ha hb
  · exact List.nodup_range

/-- the same for `partial_transpose`, which puts `sys` in front -/
theorem append_others_perm (n : Nat) (S : List Nat) (hnd : S.Nodup) (hlt : ∀ s ∈ S, s < n) :
    (S ++ others n S).Perm (List.range n) :=
  List.perm_append_comm.trans (others_append_perm n S hnd hlt)

theorem others_append_length (n : Nat) (S : List Nat) (hnd : S.Nodup) (hlt : ∀ s ∈ S, s < n) :
    (others n S ++ S).length = n := by
  rw [(others_append_perm n S hnd hlt).length_eq, List.length_range]

theorem others_perm_eq (n : Nat) (S S' : List Nat) (hp : S.Perm S') : others n S = others n S' := by
  unfold others
  apply List.filter_congr
  intro k _
  simp [hp.mem_iff]

theorem others_2_1 : others 2 [1] = [0] := by decide
theorem others_2_0 : others 2 [0] = [1] := by decide

theorem filter_map_range (f : Nat → Nat) (m : Nat) (T' : List Nat)
    (hinj : ∀ a b, a < m → b < m → f a = f b → a = b) (hltT : ∀ p ∈ T', p < m) :
    ((List.range m).map f).filter (fun k => k ∉ T'.map f)
      = ((List.range m).filter (fun q => q ∉ T')).map f := by
  rw [List.filter_map]
  congr 1
  apply List.filter_congr
  intro q hq
  have hq' : q < m := List.mem_range.mp hq
  have : f q ∈ T'.map f ↔ q ∈ T' := by
    constructor
    · intro h
      obtain ⟨a, ha, hfa⟩ := List.mem_map.mp h
      have := hinj a q (hltT a ha) hq' hfa
      rwa [← this]
    · exact List.mem_map_of_mem
  simp only [Function.comp, this]

theorem subDims_append_left (dims : Nat → Nat) (L1 L2 : List Nat) (m : Nat) (hm : m < L1.length) :
    subDims dims (L1 ++ L2) m = subDims dims L1 m :=
  congrArg dims (fnOfList_append_left L1 L2 m hm)

theorem subDims_append_right (dims : Nat → Nat) (L1 L2 : List Nat) (m : Nat) :
    subDims dims (L1 ++ L2) (L1.length + m) = subDims dims L2 m :=
  congrArg dims (fnOfList_append_right L1 L2 m)

theorem subDims_idxOf (dims : Nat → Nat) (L : List Nat) (k : Nat) (hk : k ∈ L) :
    subDims dims L (L.idxOf k) = dims k :=
  congrArg dims (getD_idxOf L k hk)

theorem subDim_eq_prod (dims : Nat → Nat) (L : List Nat) : subDim dims L = (L.map dims).prod := by
  induction L using List.reverseRecOn with
  | nil => rfl
  | append_singleton L a ih =>
    rw [List.map_append, List.prod_append, ← ih, List.map_singleton, List.prod_singleton]
    unfold subDim
    rw [List.length_append]
    show prodN _ L.length * subDims dims (L ++ [a]) L.length = _
    rw [prodN_congr (subDims dims (L ++ [a])) (subDims dims L) _ fun k hk => subDims_append_left dims L [a] k hk]
    exact congrArg _ (subDims_append_right dims L [a] 0)

theorem subDim_nil (dims : Nat → Nat) : subDim dims [] = 1 := rfl

theorem subDim_singleton (dims : Nat → Nat) (a : Nat) : subDim dims [a] = dims a := by
  rw [subDim_eq_prod, List.map_singleton, List.prod_singleton]

theorem subDim_append (dims : Nat → Nat) (L1 L2 : List Nat) :
    subDim dims (L1 ++ L2) = subDim dims L1 * subDim dims L2 := by
  rw [subDim_eq_prod, subDim_eq_prod, subDim_eq_prod, List.map_append, List.prod_append]

theorem subDim_perm_eq (dims : Nat → Nat) (S S' : List Nat) (hp : S.Perm S') :
    subDim dims S = subDim dims S' := by
  rw [subDim_eq_prod, subDim_eq_prod, (hp.map dims).prod_eq]

theorem subDim_map (dims f : Nat → Nat) (L : List Nat) :
    subDim dims (L.map f) = subDim (fun q => dims (f q)) L := by
  rw [subDim_eq_prod, subDim_eq_prod, List.map_map]
  rfl

theorem subDim_congr (d d' : Nat → Nat) (L : List Nat) (h : ∀ k ∈ L, d k = d' k) : subDim d L = subDim d' L := by
  rw [subDim_eq_prod, subDim_eq_prod, List.map_congr_left h]

/-- the model's `prod_dim_sys` -/
theorem prodList_eq_subDim (dims : Nat → Nat) (S : List Nat) : prodList dims S = subDim dims S := by
  rw [subDim_eq_prod, prodList, ← List.foldl_map, List.prod_eq_foldl]

theorem subDim_pos (dims : Nat → Nat) (L : List Nat) (hd : ∀ k ∈ L, 0 < dims k) : 0 < subDim dims L :=
  prodN_pos _ _ fun m hm => hd _ (getD_mem L m hm)

theorem subDim_mix_of_subset {S : List Nat} (e f : Nat → Nat) (L : List Nat) (h : ∀ k ∈ L, k ∈ S) :
    subDim (mix S e f) L = subDim e L :=
  subDim_congr _ _ L fun k hk => mix_of_mem (h k hk)

theorem subDim_mix_of_disjoint {S : List Nat} (e f : Nat → Nat) (L : List Nat) (h : ∀ k ∈ L, k ∉ S) :
    subDim (mix S e f) L = subDim f L :=
  subDim_congr _ _ L fun k hk => mix_of_not_mem (h k hk)

theorem digitOn_lt (dims : Nat → Nat) (L : List Nat) (t k : Nat) (hk : k ∈ L) (hd : 0 < dims k) :
    digitOn dims L t k < dims k := by
  have h := dec_lt (subDims dims L) L.length t (L.idxOf k) (List.idxOf_lt_length_of_mem hk)
    (by rw [subDims_idxOf dims L k hk]; exact hd)
  rwa [subDims_idxOf dims L k hk] at h

/-- the code over the subsystems listed in `L` of the label assignment `x` (inverse of `digitOn`) -/
def codeOn (dims : Nat → Nat) (L : List Nat) (x : Nat → Nat) : Nat :=
  enc (subDims dims L) (fun m => x (L.getD m 0)) L.length

theorem codeOn_lt (dims : Nat → Nat) (L : List Nat) (x : Nat → Nat) (hx : ∀ k ∈ L, x k < dims k) :
    codeOn dims L x < subDim dims L :=
  enc_lt _ _ _ (fun m hm => hx _ (getD_mem L m hm))

theorem codeOn_singleton (d : Nat → Nat) (a : Nat) (x : Nat → Nat) : codeOn d [a] x = x a := by
  show 0 * _ + x a = x a
  rw [Nat.zero_mul, Nat.zero_add]

theorem digitOn_codeOn (dims : Nat → Nat) (L : List Nat) (x : Nat → Nat)
    (hx : ∀ k ∈ L, x k < dims k) (k : Nat) (hk : k ∈ L) :
    digitOn dims L (codeOn dims L x) k = x k := by
  unfold digitOn codeOn
  rw [dec_enc (subDims dims L) (fun m => x (L.getD m 0)) L.length
    (fun m hm => hx _ (getD_mem L m hm)) _ (List.idxOf_lt_length_of_mem hk)]
  exact congrArg x (getD_idxOf L k hk)

theorem digitOn_getD (dims : Nat → Nat) (L : List Nat) (hnd : L.Nodup) (t m : Nat) (hm : m < L.length) :
    digitOn dims L t (L.getD m 0) = dec (subDims dims L) L.length t m := by
  unfold digitOn; rw [idxOf_getD L hnd m hm]

theorem codeOn_digitOn (dims : Nat → Nat) (L : List Nat) (hnd : L.Nodup) (t : Nat)
    (ht : t < subDim dims L) : codeOn dims L (digitOn dims L t) = t :=
  enc_eq_of_dec _ _ t _ ht fun m hm => digitOn_getD dims L hnd t m hm

theorem codeOn_congr (d : Nat → Nat) (L : List Nat) (x y : Nat → Nat) (h : ∀ k ∈ L, x k = y k) :
    codeOn d L x = codeOn d L y :=
  enc_congr_digits _ _ _ _ (fun m hm => h _ (getD_mem L m hm))

theorem codeOn_mix_of_subset {S : List Nat} (e f a b : Nat → Nat) (L : List Nat) (h : ∀ k ∈ L, k ∈ S) :
    codeOn (mix S e f) L (mix S a b) = codeOn e L a :=
  enc_congr _ _ _ _ _ (fun m hm => mix_of_mem (h _ (getD_mem L m hm))) (fun m hm => mix_of_mem (h _ (getD_mem L m hm)))

theorem codeOn_mix_of_disjoint {S : List Nat} (e f a b : Nat → Nat) (L : List Nat) (h : ∀ k ∈ L, k ∉ S) :
    codeOn (mix S e f) L (mix S a b) = codeOn f L b :=
  enc_congr _ _ _ _ _ (fun m hm => mix_of_not_mem (h _ (getD_mem L m hm)))
    (fun m hm => mix_of_not_mem (h _ (getD_mem L m hm)))

theorem codeOn_map (dims f : Nat → Nat) (L : List Nat) (x : Nat → Nat) :
    codeOn dims (L.map f) x = codeOn (fun q => dims (f q)) L (fun q => x (f q)) := by
  unfold codeOn
  rw [List.length_map]
  exact enc_congr _ _ _ _ _ (fun q hq => congrArg dims (getD_map f L q hq)) (fun q hq => congrArg x (getD_map f L q hq))

theorem codeOn_append (d : Nat → Nat) (L1 L2 : List Nat) (x : Nat → Nat) :
    codeOn d (L1 ++ L2) x = codeOn d L1 x * subDim d L2 + codeOn d L2 x := by
  unfold codeOn subDim
  rw [List.length_append, enc_add_range]
  congr 1
  · congr 1
    · exact enc_congr _ _ _ _ _ (fun k hk => subDims_append_left d L1 L2 k hk)
        (fun k hk => congrArg x (fnOfList_append_left L1 L2 k hk))
    · exact prodN_congr _ _ _ (fun k _ => subDims_append_right d L1 L2 k)
  · exact enc_congr _ _ _ _ _ (fun k _ => subDims_append_right d L1 L2 k)
      (fun k _ => congrArg x (fnOfList_append_right L1 L2 k))

theorem specIndex_codeOn (n : Nat) (d : Nat → Nat) (L : List Nat) (hL : L.Perm (List.range n))
    (x : Nat → Nat) (hx : ∀ k, k < n → x k < d k) :
    specIndex n (fnOfList L 0) d (codeOn d L x) = enc d x n := by
  have hp := isPermN_of_perm n L hL
  obtain rfl : L.length = n := by rw [hL.length_eq, List.length_range]
  exact specIndex_enc_comp _ _ d hp x hx

theorem permuteMat_codeOn {α : Type} (X : Nat → Nat → α) (n : Nat) (L : List Nat) (hL : L.Perm (List.range n))
    (rd cd x y : Nat → Nat) (hx : ∀ k, k < n → x k < rd k) (hy : ∀ k, k < n → y k < cd k) :
    permuteMat X n (fnOfList L 0) rd cd false false (codeOn rd L x) (codeOn cd L y)
      = X (enc rd x n) (enc cd y n) := by
  rw [permuteMat_false_eq X n _ rd cd (isPermN_of_perm n L hL), if_neg Bool.false_ne_true,
    specIndex_codeOn n rd L hL x hx, specIndex_codeOn n cd L hL y hy]

theorem permuteMat_inv_codeOn {α : Type} (Z : Nat → Nat → α) (n : Nat) (L : List Nat) (hL : L.Perm (List.range n))
    (d e : Nat → Nat) (i j : Nat) :
    permuteMat Z n (fnOfList L 0) (fun k => d (fnOfList L 0 k)) (fun k => e (fnOfList L 0 k)) false true i j
      = Z (codeOn d L (dec d n i)) (codeOn e L (dec e n j)) := by
  have hp := isPermN_of_perm n L hL
  obtain rfl : L.length = n := by rw [hL.length_eq, List.length_range]
  exact permuteMat_inv_eq Z _ _ d e hp i j

theorem join_eq_enc_mix (n : Nat) (dims : Nat → Nat) (S : List Nat) (i t : Nat) :
    join n dims S i t = enc dims (mix S (digitOn dims S t) (digitOn dims (others n S) i)) n := rfl

theorem join_codeOn (n : Nat) (dims : Nat → Nat) (S : List Nat) (x : Nat → Nat) (hx : ∀ k, k < n → x k < dims k)
    (hlt : ∀ s ∈ S, s < n) :
    join n dims S (codeOn dims (others n S) x) (codeOn dims S x) = enc dims x n :=
  enc_congr_digits _ _ _ _ fun k hk => mix_cases (motive := (· = x k))
    (fun h => digitOn_codeOn dims S x (fun k hk => hx k (hlt k hk)) k h)
    (fun h => digitOn_codeOn dims _ x (fun k hk => hx k (mem_others.mp hk).1) k (mem_others.mpr ⟨hk, h⟩))

theorem codeOn_merge (n : Nat) (dims : Nat → Nat) (S : List Nat) (hnd : S.Nodup) (i t : Nat)
    (hi : i < subDim dims (others n S)) (ht : t < subDim dims S) :
    codeOn dims (others n S ++ S) (mix S (digitOn dims S t) (digitOn dims (others n S) i))
      = i * subDim dims S + t := by
  rw [codeOn_append,
    codeOn_congr dims _ _ (digitOn dims (others n S) i) (fun k hk => mix_of_not_mem (not_mem_of_mem_others k hk)),
    codeOn_congr dims S _ (digitOn dims S t) (fun k hk => mix_of_mem hk),
    codeOn_digitOn dims _ (others_nodup n S) i hi, codeOn_digitOn dims S hnd t ht]

section joinDigits
variable (n : Nat) (dims : Nat → Nat) (S : List Nat) (hd : ∀ k, k < n → 0 < dims k)
include hd

theorem join_digit_lt (i t k : Nat) (hk : k < n) :
    mix S (digitOn dims S t) (digitOn dims (others n S) i) k < dims k :=
  mix_lt_of (fun h => digitOn_lt dims S t k h (hd k hk)) (fun h => digitOn_lt dims _ i k (mem_others.mpr ⟨hk, h⟩) (hd k hk))

theorem dec_join (i t k : Nat) (hk : k < n) :
    dec dims n (join n dims S i t) k = mix S (digitOn dims S t) (digitOn dims (others n S) i) k :=
  dec_enc dims _ n (join_digit_lt n dims S hd i t) k hk

theorem join_lt (i t : Nat) : join n dims S i t < prodN dims n :=
  enc_lt dims _ n (join_digit_lt n dims S hd i t)

theorem ptraceSpec_congr {α : Type} [Add α] [Zero α] {X Y : Nat → Nat → α}
    (h : ∀ I J, I < prodN dims n → J < prodN dims n → X I J = Y I J) (i j : Nat) :
    ptraceSpec X n dims S i j = ptraceSpec Y n dims S i j :=
  sumN_congr _ _ _ fun t _ => h _ _ (join_lt n dims S hd i t) (join_lt n dims S hd j t)

theorem dec_join_others (i t m : Nat) (hm : m < (others n S).length) :
    dec dims n (join n dims S i t) ((others n S).getD m 0)
      = dec (subDims dims (others n S)) (others n S).length i m := by
  have h := mem_others.mp (getD_mem _ m hm)
  rw [dec_join n dims S hd i t _ h.1, mix_of_not_mem h.2, digitOn_getD dims _ (others_nodup n S) i m hm]

theorem dec_join_mem (hnd : S.Nodup) (hlt : ∀ s ∈ S, s < n) (i t m : Nat) (hm : m < S.length) :
    dec dims n (join n dims S i t) (S.getD m 0) = dec (subDims dims S) S.length t m := by
  have h := getD_mem S m hm
  rw [dec_join n dims S hd i t _ (hlt _ h), mix_of_mem h, digitOn_getD dims S hnd t m hm]

end joinDigits

section bridge
variable (n : Nat) (dims : Nat → Nat) (S : List Nat) (hd : ∀ k, k < n → 0 < dims k)
  (hnd : S.Nodup) (hlt : ∀ s ∈ S, s < n)
include hnd hlt

theorem others_append_isPerm : IsPermN n (fnOfList (others n S ++ S) 0) :=
  isPermN_of_perm n _ (others_append_perm n S hnd hlt)

theorem prodN_eq_subDim_mul : prodN dims n = subDim dims (others n S) * subDim dims S := by
  have hp := others_append_isPerm n S hnd hlt
  rw [← subDim_append, ← hp.prodN_comp dims]
  unfold subDim
  rw [others_append_length n S hnd hlt]
  rfl

theorem specIndex_eq_join (i t : Nat) (hi : i < subDim dims (others n S)) (ht : t < subDim dims S) :
    specIndex n (fnOfList (others n S ++ S) 0) dims (i * subDim dims S + t) = join n dims S i t := by
  have hd := prodN_pos_of_lt dims n _
    (Nat.lt_of_lt_of_eq (Nat.mul_add_lt_mul hi ht) (prodN_eq_subDim_mul n dims S hnd hlt).symm)
  rw [← codeOn_merge n dims S hnd i t hi ht,
    specIndex_codeOn n dims _ (others_append_perm n S hnd hlt) _ (join_digit_lt n dims S hd i t)]
  rfl

include hd in
/-- the model's `sub_prod = prod_dim / prod_dim_sys` is the dimension of the remaining subsystems -/
theorem prodN_div_prodList : prodN dims n / prodList dims S = subDim dims (others n S) := by
  rw [prodList_eq_subDim, prodN_eq_subDim_mul n dims S hnd hlt,
    Nat.mul_div_cancel _ (subDim_pos dims S (fun k hk => hd k (hlt k hk)))]

include hd in
theorem partialTrace_eq_spec {α : Type} [Add α] [Zero α] (X : Nat → Nat → α) (i j : Nat)
    (hi : i < subDim dims (others n S)) (hj : j < subDim dims (others n S)) :
    partialTrace X n dims S i j = ptraceSpec X n dims S i j := by
  have hK := prodN_div_prodList n dims S hd hnd hlt
  have hT := prodList_eq_subDim dims S
  have hN := prodN_eq_subDim_mul n dims S hnd hlt
  have hp := others_append_isPerm n S hnd hlt
  unfold partialTrace ptraceSpec
  rw [hT] at hK
  simp only [hT, hK, setDiff_eq_others]
  apply sumN_congr
  intro t ht
  rw [pipeline_entry _ _ _ _ hN i j t hi hj ht]
  rw [permuteMat_false_eq _ n _ dims dims hp, if_neg Bool.false_ne_true,
    specIndex_eq_join n dims S hnd hlt i t hi ht, specIndex_eq_join n dims S hnd hlt j t hj ht]

end bridge

/-- whatever the arguments, the model output entry is `Σ_{t<T} X (f t) (g t)` for index maps `f g` that
    do not depend on `X`: a gather followed by a sum, hence additive and homogeneous without any hypothesis -/
theorem partialTrace_gather (n : Nat) (dims : Nat → Nat) (S : List Nat) (i j : Nat) :
    ∃ (T : Nat) (f g : Nat → Nat), ∀ {α : Type} [Add α] [Zero α] (X : Nat → Nat → α),
      partialTrace X n dims S i j = sumN T (fun t => X (f t) (g t)) := by
  refine ⟨prodList dims S, ?f, ?g, fun X => ?h⟩
  case h =>
    -- after unfolding, `X` occurs once, under the sum, applied to two index expressions: they are `f`, `g`
    unfold partialTrace
    simp only [ND.ofFlatF, ND.transpose, ND.vecF, matFlatF, permuteMat]
    rfl

theorem ptraceSpec_trace {α : Type} [AddCommMonoid α] (X : Nat → Nat → α) (n : Nat) (dims : Nat → Nat)
    (S : List Nat) (hd : ∀ k, k < n → 0 < dims k) (hnd : S.Nodup) (hlt : ∀ s ∈ S, s < n) :
    sumN (subDim dims (others n S)) (fun i => ptraceSpec X n dims S i i)
      = sumN (prodN dims n) (fun r => X r r) := by
  have hp := others_append_isPerm n S hnd hlt
  rw [← sumN_specIndex n (fnOfList (others n S ++ S) 0) dims hp hd (fun r => X r r),
    prodN_eq_subDim_mul n dims S hnd hlt, sumN_mul_range]
  apply sumN_congr
  intro i hi
  unfold ptraceSpec
  apply sumN_congr
  intro t ht
  rw [specIndex_eq_join n dims S hnd hlt i t hi ht]

theorem join_2_1 (dA dB i t : Nat) (hi : i < dA) (ht : t < dB) :
    join 2 (fnOfList [dA, dB]) [1] i t = i * dB + t := by
  have h := join_codeOn 2 (fnOfList [dA, dB]) [1] (fnOfList [i, t]) (forall_lt_two hi ht) (by decide)
  rwa [others_2_1, codeOn_singleton, codeOn_singleton, enc_two] at h

theorem join_2_0 (dA dB i t : Nat) (hi : i < dB) (ht : t < dA) :
    join 2 (fnOfList [dA, dB]) [0] i t = t * dB + i := by
  have h := join_codeOn 2 (fnOfList [dA, dB]) [0] (fnOfList [t, i]) (forall_lt_two ht hi) (by decide)
  rwa [others_2_0, codeOn_singleton, codeOn_singleton, enc_two] at h

theorem fnOfList_two_pos (a b : Nat) (ha : 0 < a) (hb : 0 < b) : ∀ k, k < 2 → 0 < fnOfList [a, b] 0 k :=
  forall_lt_two ha hb

theorem ptraceSpec_two_snd {α : Type} [Add α] [Zero α] (X : Nat → Nat → α) (dA dB : Nat) (i j : Nat) (hi : i < dA) (hj : j < dA) :
    ptraceSpec X 2 (fnOfList [dA, dB]) [1] i j = sumN dB (fun t => X (i * dB + t) (j * dB + t)) := by
  unfold ptraceSpec
  rw [subDim_singleton]
  exact sumN_congr _ _ _ (fun t ht => by rw [join_2_1 dA dB i t hi ht, join_2_1 dA dB j t hj ht])

theorem ptraceSpec_two_fst {α : Type} [Add α] [Zero α] (X : Nat → Nat → α) (dA dB : Nat) (i j : Nat) (hi : i < dB) (hj : j < dB) :
    ptraceSpec X 2 (fnOfList [dA, dB]) [0] i j = sumN dA (fun t => X (t * dB + i) (t * dB + j)) := by
  unfold ptraceSpec
  rw [subDim_singleton]
  exact sumN_congr _ _ _ (fun t ht => by rw [join_2_0 dA dB i t hi ht, join_2_0 dA dB j t hj ht])

theorem partialTrace_two_snd {α : Type} [Add α] [Zero α] (X : Nat → Nat → α) (dA dB : Nat)
    (i j : Nat) (hi : i < dA) (hj : j < dA) :
    partialTrace X 2 (fnOfList [dA, dB]) [1] i j = sumN dB (fun t => X (i * dB + t) (j * dB + t)) := by
  rcases Nat.eq_zero_or_pos dB with rfl | hB
  · rfl
  have hK : subDim (fnOfList [dA, dB]) (others 2 [1]) = dA := by rw [others_2_1, subDim_singleton]; rfl
  rw [partialTrace_eq_spec 2 _ [1] (fnOfList_two_pos dA dB (Nat.zero_lt_of_lt hi) hB) (List.nodup_singleton 1) (by decide) X i j
    (by rw [hK]; exact hi) (by rw [hK]; exact hj)]
  exact ptraceSpec_two_snd X dA dB i j hi hj

theorem partialTrace_two_fst {α : Type} [Add α] [Zero α] (X : Nat → Nat → α) (dA dB : Nat)
    (i j : Nat) (hi : i < dB) (hj : j < dB) :
    partialTrace X 2 (fnOfList [dA, dB]) [0] i j = sumN dA (fun t => X (t * dB + i) (t * dB + j)) := by
  rcases Nat.eq_zero_or_pos dA with rfl | hA
  · rfl
  have hK : subDim (fnOfList [dA, dB]) (others 2 [0]) = dB := by rw [others_2_0, subDim_singleton]; rfl
  rw [partialTrace_eq_spec 2 _ [0] (fnOfList_two_pos dA dB hA (Nat.zero_lt_of_lt hi)) (List.nodup_singleton 0) (by decide) X i j
    (by rw [hK]; exact hi) (by rw [hK]; exact hj)]
  exact ptraceSpec_two_fst X dA dB i j hi hj

section reorder
variable (n : Nat) (dims : Nat → Nat) (S S' : List Nat) (hd : ∀ k, k < n → 0 < dims k)
  (hp : S.Perm S') (hnd : S.Nodup) (hlt : ∀ s ∈ S, s < n)
include hd hp hlt

theorem digitOn_lt_of_perm (t k : Nat) (hk : k ∈ S') : digitOn dims S t k < dims k :=
  digitOn_lt dims S t k (hp.mem_iff.mpr hk) (hd k (hlt k (hp.mem_iff.mpr hk)))

/-- the labels that the code `t` over `S` gives, coded in the listing order `S'` -/
def recode (dims : Nat → Nat) (S S' : List Nat) (t : Nat) : Nat := codeOn dims S' (digitOn dims S t)

theorem recode_lt (t : Nat) : recode dims S S' t < subDim dims S' :=
  codeOn_lt dims S' _ (digitOn_lt_of_perm n dims S S' hd hp hlt t)

theorem join_recode (i t : Nat) : join n dims S' i (recode dims S S' t) = join n dims S i t := by
  rw [join_eq_enc_mix, join_eq_enc_mix, ← others_perm_eq n S S' hp]
  refine enc_congr_digits _ _ _ _ fun k _ => ?_
  by_cases hk : k ∈ S
  · rw [mix_of_mem hk, mix_of_mem (hp.mem_iff.mp hk)]
    exact digitOn_codeOn dims S' _ (digitOn_lt_of_perm n dims S S' hd hp hlt t) k (hp.mem_iff.mp hk)
  · rw [mix_of_not_mem hk, mix_of_not_mem (fun h => hk (hp.mem_iff.mpr h))]

include hnd in
theorem recode_recode (t : Nat) (ht : t < subDim dims S) : recode dims S' S (recode dims S S' t) = t := by
  unfold recode
  rw [codeOn_congr dims S _ (digitOn dims S t) (fun k hk =>
    digitOn_codeOn dims S' _ (digitOn_lt_of_perm n dims S S' hd hp hlt t) k (hp.mem_iff.mp hk))]
  exact codeOn_digitOn dims S hnd t ht

end reorder

theorem ptraceSpec_perm {α : Type} [AddCommMonoid α] (X : Nat → Nat → α) (n : Nat) (dims : Nat → Nat)
    (S S' : List Nat) (hd : ∀ k, k < n → 0 < dims k) (hp : S.Perm S') (hnd : S.Nodup)
    (hlt : ∀ s ∈ S, s < n) (i j : Nat) :
    ptraceSpec X n dims S i j = ptraceSpec X n dims S' i j := by
  have hT := subDim_perm_eq dims S S' hp
  unfold ptraceSpec
  rw [← sumN_reindex_of_leftInverse (fun t => X (join n dims S' i t) (join n dims S' j t))
    (recode dims S S') (recode dims S' S) (subDim dims S')
    (fun t _ => recode_lt n dims S S' hd hp hlt t)
    (fun t ht => recode_recode n dims S S' hd hp hnd hlt t (by rw [hT]; exact ht)), hT]
  apply sumN_congr
  intro t _
  show _ = X (join n dims S' i (recode dims S S' t)) (join n dims S' j (recode dims S S' t))
  rw [join_recode n dims S S' hd hp hlt, join_recode n dims S S' hd hp hlt]

theorem ptraceSpec_kron {α : Type} [CommSemiring α] (A : Nat → Nat → Nat → α) (n : Nat)
    (dims : Nat → Nat) (S : List Nat) (hd : ∀ k, k < n → 0 < dims k) (hnd : S.Nodup)
    (hlt : ∀ s ∈ S, s < n) (i j : Nat) :
    ptraceSpec (kronMat n A dims) n dims S i j
      = prodFn S.length (fun m => tr (subDims dims S m) (A (S.getD m 0)))
        * kronMat (others n S).length (fun m => A ((others n S).getD m 0))
            (subDims dims (others n S)) i j := by
  have hlen := others_append_length n S hnd hlt
  have key : ∀ t, kronMat n A dims (join n dims S i t) (join n dims S j t)
      = kronMat (others n S).length (fun m => A ((others n S).getD m 0))
            (subDims dims (others n S)) i j
        * prodFn S.length (fun m => A (S.getD m 0) (dec (subDims dims S) S.length t m)
            (dec (subDims dims S) S.length t m)) := by
    intro t
    unfold kronMat
    rw [← (others_append_isPerm n S hnd hlt).prodFn_comp]
    -- the product over all positions of `others ++ S` splits into the kept and the traced factors
    have hsplit : ∀ f : Nat → α, prodFn n f
        = prodFn (others n S).length f * prodFn S.length (fun m => f ((others n S).length + m)) :=
      fun f => by rw [← prodFn_add_range, ← List.length_append, hlen]
    rw [hsplit]
    congr 1
    · refine prodFn_congr _ _ _ (fun m hm => ?_)
      show A (fnOfList (others n S ++ S) 0 m) _ _ = _
      rw [fnOfList_append_left _ _ m hm]
      unfold fnOfList
      rw [dec_join_others n dims S hd i t m hm, dec_join_others n dims S hd j t m hm]
    · refine prodFn_congr _ _ _ (fun m hm => ?_)
      show A (fnOfList (others n S ++ S) 0 ((others n S).length + m)) _ _ = _
      rw [fnOfList_append_right]
      unfold fnOfList
      rw [dec_join_mem n dims S hd hnd hlt i t m hm, dec_join_mem n dims S hd hnd hlt j t m hm]
  unfold ptraceSpec
  rw [sumN_congr _ _ _ (fun t _ => key t), sumN_mul_left, mul_comm]
  congr 1
  exact sumN_prodFn_dec (subDims dims S) (fun m x => A (S.getD m 0) x x) S.length

section comp
variable (n : Nat) (dims : Nat → Nat) (S T' : List Nat) (hd : ∀ k, k < n → 0 < dims k)
  (hnd : S.Nodup) (hlt : ∀ s ∈ S, s < n) (hndT : T'.Nodup)
  (hltT : ∀ p ∈ T', p < (others n S).length)

theorem subDim_liftSys : subDim dims (liftSys n S T') = subDim (subDims dims (others n S)) T' :=
  subDim_map dims _ T'

theorem codeOn_liftSys (x : Nat → Nat) :
    codeOn dims (liftSys n S T') x = codeOn (subDims dims (others n S)) T' (fun q => x ((others n S).getD q 0)) :=
  codeOn_map dims _ T' x

include hltT in
theorem liftSys_subset_others (k : Nat) (hk : k ∈ liftSys n S T') : k ∈ others n S := by
  obtain ⟨q, hq, rfl⟩ := List.mem_map.mp hk
  exact getD_mem _ q (hltT q hq)

include hltT in
theorem mem_liftSys_iff (k : Nat) (hk : k ∈ others n S) :
    k ∈ liftSys n S T' ↔ (others n S).idxOf k ∈ T' := by
  unfold liftSys
  rw [List.mem_map]
  constructor
  · rintro ⟨q, hq, rfl⟩
    rw [idxOf_getD _ (others_nodup n S) q (hltT q hq)]; exact hq
  · exact fun h => ⟨_, h, getD_idxOf _ k hk⟩

include hndT hltT in
theorem liftSys_nodup_lt : (liftSys n S T').Nodup ∧ ∀ s, s ∈ liftSys n S T' → s < n :=
  ⟨List.Nodup.map_on (fun a ha b hb h =>
      fnOfList_inj_of_nodup (others n S) (others_nodup n S) a b (hltT a ha) (hltT b hb) h) hndT,
    fun s hs => (mem_others.mp (liftSys_subset_others n S T' hltT s hs)).1⟩

include hltT in
theorem others_comp :
    others n (S ++ liftSys n S T') = (others (others n S).length T').map (fun q => (others n S).getD q 0) := by
  have h1 : others n (S ++ liftSys n S T') = (others n S).filter (fun k => k ∉ liftSys n S T') := by
    unfold others
    rw [List.filter_filter]
    apply List.filter_congr
    intro k _
    simp only [List.mem_append, not_or, Bool.decide_and, Bool.and_comm]
  rw [h1]
  unfold liftSys
  have h2 := filter_map_range (fun q => (others n S).getD q 0) (others n S).length T'
    (fnOfList_inj_of_nodup (others n S) (others_nodup n S)) hltT
  rw [← list_eq_map_range] at h2
  exact h2

include hd in
theorem subDims_others_pos (q : Nat) (hq : q < (others n S).length) :
    0 < subDims dims (others n S) q :=
  hd _ (mem_others.mp (getD_mem _ q hq)).1

include hnd hlt hndT hltT in
theorem union_nodup_lt :
    (S ++ liftSys n S T').Nodup ∧ ∀ s ∈ S ++ liftSys n S T', s < n := by
  obtain ⟨hndL, hltL⟩ := liftSys_nodup_lt n S T' hndT hltT
  refine ⟨List.nodup_append.mpr ⟨hnd, hndL, ?_⟩, fun s hs => (List.mem_append.mp hs).elim (hlt s) (hltL s)⟩
  rintro a ha _ hb rfl
  exact not_mem_of_mem_others a (liftSys_subset_others n S T' hltT a hb) ha

include hd hnd hlt hndT hltT in
theorem join_comp (i t t' : Nat) (hi : i < subDim (subDims dims (others n S)) (others (others n S).length T'))
    (ht : t < subDim dims S) (ht' : t' < subDim (subDims dims (others n S)) T') :
    join n dims (S ++ liftSys n S T') i (t * subDim dims (liftSys n S T') + t')
      = join n dims S (join (others n S).length (subDims dims (others n S)) T' i t') t := by
  have hd' := subDims_others_pos n dims S hd
  -- the labels of the right-hand side have the codes `t`, `t'`, `i` over `S`, the lifted `T'` and the rest (`hO`: its labels on
  -- the kept subsystems are those of the inner `join`)
  have hx := join_digit_lt n dims S hd (join (others n S).length (subDims dims (others n S)) T' i t') t
  have hO : ∀ q, q < (others n S).length →
      mix S (digitOn dims S t)
          (digitOn dims (others n S) (join (others n S).length (subDims dims (others n S)) T' i t')) ((others n S).getD q 0)
      = mix T' (digitOn (subDims dims (others n S)) T' t')
          (digitOn (subDims dims (others n S)) (others (others n S).length T') i) q := fun q hq => by
    rw [mix_of_not_mem (not_mem_of_mem_others _ (getD_mem _ q hq)), digitOn_getD dims _ (others_nodup n S) _ q hq]
    exact dec_join _ _ T' hd' i t' q hq
  rw [join_eq_enc_mix n dims S]
  refine Eq.trans (congrArg₂ (join n dims (S ++ liftSys n S T')) ?_ ?_)
    (join_codeOn n dims (S ++ liftSys n S T') _ hx (union_nodup_lt n S T' hnd hlt hndT hltT).2)
  · rw [others_comp n S T' hltT, codeOn_map,
      codeOn_congr _ _ _ (digitOn (subDims dims (others n S)) (others (others n S).length T') i)
        (fun q hq => (hO q (mem_others.mp hq).1).trans (mix_of_not_mem (mem_others.mp hq).2))]
    exact (codeOn_digitOn _ _ (others_nodup _ T') i hi).symm
  · rw [codeOn_append, codeOn_congr dims S _ (digitOn dims S t) (fun k hk => mix_of_mem hk),
      codeOn_digitOn dims S hnd t ht, codeOn_liftSys,
      codeOn_congr _ T' _ (digitOn (subDims dims (others n S)) T' t') (fun q hq => (hO q (hltT q hq)).trans (mix_of_mem hq)),
      codeOn_digitOn _ T' hndT t' ht']

end comp

/-- the sum over the codes `t * T' + t'` of the union is the double sum over `t` and `t'`, and `join_comp` matches the summands -/
theorem ptraceSpec_comp {α : Type} [AddCommMonoid α] (n : Nat) (dims : Nat → Nat) (S T' : List Nat) (hd : ∀ k, k < n → 0 < dims k)
    (hnd : S.Nodup) (hlt : ∀ s ∈ S, s < n) (hndT : T'.Nodup) (hltT : ∀ p ∈ T', p < (others n S).length) (X : Nat → Nat → α) (i j : Nat)
    (hi : i < subDim (subDims dims (others n S)) (others (others n S).length T'))
    (hj : j < subDim (subDims dims (others n S)) (others (others n S).length T')) :
    ptraceSpec (ptraceSpec X n dims S) (others n S).length (subDims dims (others n S)) T' i j
      = ptraceSpec X n dims (S ++ liftSys n S T') i j := by
  have hTT := subDim_liftSys n dims S T'
  unfold ptraceSpec
  rw [subDim_append, sumN_mul_range, sumN_comm, hTT]
  refine sumN_congr _ _ _ fun t ht => sumN_congr _ _ _ fun t' ht' => ?_
  rw [← hTT, join_comp n dims S T' hd hnd hlt hndT hltT i t t' hi ht ht', join_comp n dims S T' hd hnd hlt hndT hltT j t t' hj ht ht']

end PTrace
end Toq
