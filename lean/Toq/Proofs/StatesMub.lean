import Toq.Proofs.States
import Toq.Model.StatesExtra
import Mathlib.RingTheory.RootsOfUnity.PrimitiveRoots
import Mathlib.Data.Nat.Prime.Basic
/-!
# Mutually unbiased bases: quadratic Gauss sums and the eigenvectors of `X Z^j` (helper lemmas for C17)

The eigenvectors of `X Z^j` are the chirps `x ↦ ω^{j T(x) + m x}`, `T(x) = x(x-1)/2` (`qphase`), periodic in `x` for odd `d`.
The inner product of two of them from different bases is a quadratic Gauss sum `S = Σ_x q^{T(x)} r^x`; `|S|² = p` follows by
completing the square: in `S·S̄ = Σ_y Σ_x G(x) Ḡ(y)` shift `x ↦ x + y`, so that `G(x+y) Ḡ(y) = G(x) q^{xy}`, and the sum over `y`
is character orthogonality (`gauss_sum_sq`).
-/
open Toq.Matrices Toq.Spec17

namespace Toq.States

theorem tri_add (x : Nat) : ∀ t, tri (x + t) = tri x + tri t + x * t
  | 0 => by simp [tri]
  | t + 1 => by
    show tri (x + t) + (x + t) = tri x + (tri t + t) + x * (t + 1)
    rw [tri_add x t]; ring

theorem two_tri : ∀ x, 2 * tri x + x = x * x
  | 0 => rfl
  | x + 1 => by
    show 2 * (tri x + x) + (x + 1) = (x + 1) * (x + 1)
    have h := two_tri x
    have e : (x + 1) * (x + 1) = x * x + 2 * x + 1 := by ring
    omega

/-- for odd `d`, `d ∣ T(d)` -/
theorem tri_odd (k : Nat) : tri (2 * k + 1) = (2 * k + 1) * k := by
  have h := two_tri (2 * k + 1)
  have e : (2 * k + 1) * (2 * k + 1) = 2 * ((2 * k + 1) * k) + (2 * k + 1) := by ring
  omega

section gauss
variable {α : Type} [CommRing α]

/-- the quadratic phase `G(x) = q^{T(x)} r^x` (a chirp: the summand of a quadratic Gauss sum) -/
def qphase (q r : α) (x : Nat) : α := q ^ tri x * r ^ x

theorem qphase_add (q r : α) (x t : Nat) : qphase q r (x + t) = qphase q r x * qphase q r t * q ^ (x * t) := by
  unfold qphase
  rw [tri_add, pow_add, pow_add, pow_add]; ring

theorem qphase_period (q r : α) (k : Nat) (hq : q ^ (2 * k + 1) = 1) (hr : r ^ (2 * k + 1) = 1) (x : Nat) :
    qphase q r (x + (2 * k + 1)) = qphase q r x := by
  rw [qphase_add]
  have h1 : qphase q r (2 * k + 1) = 1 := by
    unfold qphase
    rw [tri_odd, pow_mul, hq, one_pow, hr, one_mul]
  rw [h1, mul_one, Nat.mul_comm, pow_mul, hq, one_pow, mul_one]

theorem qphase_mod (q r : α) (k : Nat) (hq : q ^ (2 * k + 1) = 1) (hr : r ^ (2 * k + 1) = 1) (x : Nat) :
    qphase q r (x % (2 * k + 1)) = qphase q r x := by
  have h : ∀ n x, qphase q r (x + (2 * k + 1) * n) = qphase q r x := by
    intro n
    induction n with
    | zero => intro x; simp
    | succ n ih => intro x; rw [Nat.mul_succ, ← Nat.add_assoc, qphase_period q r k hq hr, ih]
  conv_rhs => rw [← Nat.mod_add_div x (2 * k + 1)]
  rw [h]

theorem qphase_inv (q qc r rc : α) (hq : q * qc = 1) (hr : r * rc = 1) (x : Nat) :
    qphase q r x * qphase qc rc x = 1 := by
  unfold qphase
  calc q ^ tri x * r ^ x * (qc ^ tri x * rc ^ x) = (q ^ tri x * qc ^ tri x) * (r ^ x * rc ^ x) := by ring
    _ = 1 := by rw [pow_mul_inv_pow q qc hq, pow_mul_inv_pow r rc hr, one_mul]

theorem gauss_sum_sq [IsDomain α] (q qc r rc : α) (k : Nat) (hq : IsPrimitiveRoot q (2 * k + 1)) (hqc : q * qc = 1)
    (hr : r ^ (2 * k + 1) = 1) (hrc : r * rc = 1) :
    sumN (2 * k + 1) (qphase q r) * sumN (2 * k + 1) (qphase qc rc) = ((2 * k + 1 : Nat) : α) := by
  set p := 2 * k + 1 with hp
  have hp0 : 0 < p := by omega
  have hq1 : q ^ p = 1 := hq.pow_eq_one
  -- S * S̄ = Σ_y Σ_x G(x) Ḡ(y)
  rw [← sumN_mul_left]
  have step1 : ∀ y, y < p → sumN p (qphase q r) * qphase qc rc y
      = sumN p (fun t => qphase q r t * q ^ (y * t)) := by
    intro y hy
    rw [← sumN_reindex (qphase q r) (fun t => (y + t) % p) p (fun t _ => Nat.mod_lt _ hp0)
      (fun a b ha hb h => shift_mod_inj p a b y ha hb h)]
    rw [← sumN_mul_right]
    apply sumN_congr
    intro t _
    show qphase q r ((y + t) % p) * qphase qc rc y = _
    rw [qphase_mod q r k hq1 hr, qphase_add]
    calc qphase q r y * qphase q r t * q ^ (y * t) * qphase qc rc y
        = (qphase q r y * qphase qc rc y) * (qphase q r t * q ^ (y * t)) := by ring
      _ = _ := by rw [qphase_inv q qc r rc hqc hrc, one_mul]
  rw [sumN_congr _ (fun y => sumN p (fun t => qphase q r t * q ^ (y * t))) p (fun y hy => step1 y hy)]
  rw [sumN_comm]
  rw [sumN_congr _ (fun t => if t = 0 then qphase q r t * (p : α) else 0) p (fun t ht => by
    rw [sumN_mul_left]
    have := char_orth q qc p hq hqc t 0 ht hp0
    rw [sumN_congr _ (fun y => q ^ (y * t)) p (fun y _ => by rw [Nat.zero_mul, pow_zero, mul_one, Nat.mul_comm])] at this
    rw [this]
    by_cases h0 : t = 0
    · rw [if_pos h0, if_pos h0]
    · rw [if_neg h0, if_neg h0, mul_zero])]
  rw [sumN_ite_eq_swap _ 0 p hp0]
  simp [qphase, tri]

theorem mubVec_eq_qphase (ω : α) (j m x : Nat) : mubVec ω j m x = qphase (ω ^ j) (ω ^ m) x := by
  unfold mubVec qphase
  rw [pow_add, pow_mul, pow_mul]

theorem mubVec_succ (ω ωc : α) (hc : ω * ωc = 1) (j m i : Nat) :
    ω ^ (j * i) * mubVec ω j m i = ωc ^ m * mubVec ω j m (i + 1) := by
  show ω ^ (j * i) * ω ^ (j * tri i + m * i) = ωc ^ m * ω ^ (j * (tri i + i) + m * (i + 1))
  rw [show j * (tri i + i) + m * (i + 1) = m + (j * i + (j * tri i + m * i)) by ring, pow_add ω m, ← mul_assoc,
    mul_comm (ωc ^ m), pow_mul_inv_pow ω ωc hc, one_mul, ← pow_add]

theorem prim_root_ratio [IsDomain α] (ω ωc : α) (p : Nat) (hp : p.Prime) (hω : IsPrimitiveRoot ω p) (hc : ω * ωc = 1)
    (j j' : Nat) (hj : j < p) (hj' : j' < p) (hne : j ≠ j') : IsPrimitiveRoot (ω ^ j' * ωc ^ j) p := by
  have hp0 : 0 < p := hp.pos
  have hωc : ωc = ω ^ (p - 1) := by
    calc ωc = ωc * ω ^ p := by rw [hω.pow_eq_one, mul_one]
      _ = ωc * (ω ^ (p - 1) * ω) := by rw [← pow_succ, Nat.sub_add_cancel hp0]
      _ = ω ^ (p - 1) * (ω * ωc) := by ring
      _ = ω ^ (p - 1) := by rw [hc, mul_one]
  have e : ω ^ j' * ωc ^ j = ω ^ (j' + (p - 1) * j) := by rw [hωc, ← pow_mul, ← pow_add]
  rw [e]
  apply hω.pow_of_coprime
  apply Nat.Coprime.symm
  rw [Nat.Prime.coprime_iff_not_dvd hp]
  intro hdvd
  apply hne
  have h1 : (j' + (p - 1) * j + j) % p = j % p := by
    rw [Nat.add_mod, Nat.mod_eq_zero_of_dvd hdvd, Nat.zero_add, Nat.mod_mod]
  have h2 : j' + (p - 1) * j + j = j' + p * j := by
    have : (p - 1) * j + j = p * j := by
      conv_rhs => rw [← Nat.sub_add_cancel hp0]
      rw [Nat.add_mul, Nat.one_mul]
    rw [Nat.add_assoc, this]
  rw [h2, Nat.add_mul_mod_self_left, Nat.mod_eq_of_lt hj, Nat.mod_eq_of_lt hj'] at h1
  exact h1.symm

theorem inner_mubVec (ω ωc : α) (d j m j' m' : Nat) :
    inner d (mubVec ωc j m) (mubVec ω j' m') = sumN d (qphase (ω ^ j' * ωc ^ j) (ω ^ m' * ωc ^ m)) := by
  unfold inner
  apply sumN_congr; intro x _
  rw [mubVec_eq_qphase, mubVec_eq_qphase]
  unfold qphase
  rw [mul_pow, mul_pow]; ring

end gauss
end Toq.States
