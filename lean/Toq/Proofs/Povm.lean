import Toq.Spec.Rand
import Toq.Proofs.Psd
import Mathlib.LinearAlgebra.UnitaryGroup
import Mathlib.Topology.Order.Compact
import Mathlib.Topology.Instances.Matrix
import Mathlib.Analysis.Complex.Basic
/-!
# Measurements and linear objectives on them

Over arbitrary finite index types, in the vocabulary of `Toq.Spec.Rand`: a measurement is `Toq.Rand.IsPOVM M`, its value on an
ensemble `Toq.Rand.successProb ρ p M = Σ_i p_i Re tr(ρ_i M_i)`, the attained values `Toq.Rand.successValues ρ p`.  The predicates and
objectives of C10, C11, C12 unfold to these, so what is proved here applies to them as it stands.  Facts about measurements
(`IsPOVM`, `successProb`, `successValues`) are in `Toq.Rand`, families of operators and their values (`meVal`, `meConstPovm`, `framePovm`) in `Toq.Discrim`.

* `meVal A M = Σ_i Re tr(A_i M_i)`, the value on weighted states `A_i` (`p_i ρ_i` for discrimination, `−p_i ρ_i` for exclusion); it is
  the objective in which duality is proved, and `meVal_smul` is the one bridge to `successProb`;
* `optimal_of_weak`, `isGreatest_isLeast_of_weak`: under weak duality a primal and a dual point with equal values are both optimal (how
  C10, C11, C12 read an optimality certificate);
* the measurement "always answer `j`"; the measurement `(1 − ρ_i)/(k − λ)` for `ρ_i ⪯ 1` that sum to `λ·1` (`framePovm`);
* a common unitary rotation and a relabelling of the outcomes map measurements to measurements and keep the value, so the set of
  attained values is invariant (`successValues_conj`, `successValues_comp_perm`);
* section `PsdCompact` (here and not in `Toq.Proofs.Psd` for its topology imports): the positive semidefinite matrices form a closed set,
  those with diagonal `≤ c` a compact one, since `|Z_ab|² ≤ Z_aa Z_bb`; so the measurements are a closed subset of a product of such
  sets, and a continuous objective attains its maximum over every closed set of measurements (`exists_isMaxOn_isPOVM`), in
  particular `meVal A` (`me_max_attained`).
-/

open Matrix
open scoped ComplexOrder

section Values
variable {α γ : Type*} [Preorder γ] {P : α → Prop} {f : α → γ}

theorem mem_upperBounds_values {c : γ} : c ∈ upperBounds {v | ∃ a, P a ∧ f a = v} ↔ ∀ a, P a → f a ≤ c :=
  ⟨fun h a ha => h ⟨a, ha, rfl⟩, fun h _ ⟨a, ha, e⟩ => e ▸ h a ha⟩

theorem mem_lowerBounds_values {c : γ} : c ∈ lowerBounds {v | ∃ a, P a ∧ f a = v} ↔ ∀ a, P a → c ≤ f a :=
  ⟨fun h a ha => h ⟨a, ha, rfl⟩, fun h _ ⟨a, ha, e⟩ => e ▸ h a ha⟩

theorem isGreatest_values_iff {a : α} (ha : P a) : IsGreatest {v | ∃ a, P a ∧ f a = v} (f a) ↔ ∀ a', P a' → f a' ≤ f a :=
  and_iff_right (⟨a, ha, rfl⟩ : f a ∈ {v | ∃ a, P a ∧ f a = v}) |>.trans mem_upperBounds_values

theorem isLeast_values_iff {a : α} (ha : P a) : IsLeast {v | ∃ a, P a ∧ f a = v} (f a) ↔ ∀ a', P a' → f a ≤ f a' :=
  and_iff_right (⟨a, ha, rfl⟩ : f a ∈ {v | ∃ a, P a ∧ f a = v}) |>.trans mem_lowerBounds_values

end Values

/-- **Reading an optimality certificate.**  Under weak duality, a primal point `a` and a dual point `b` with equal values: the common
value is the greatest primal value, and no dual point has a smaller one.  (For a minimisation problem: `γ := ℝᵒᵈ`.) -/
theorem optimal_of_weak {α β γ : Type*} [Preorder γ] {P : α → Prop} {D : β → Prop} {f : α → γ} {g : β → γ} {a : α} {b : β}
    (ha : P a) (hb : D b) (h : f a = g b) (hw : ∀ a, P a → ∀ b, D b → f a ≤ g b) :
    IsGreatest {v | ∃ a, P a ∧ f a = v} (g b) ∧ ∀ b', D b' → g b ≤ g b' :=
  ⟨⟨⟨a, ha, h⟩, mem_upperBounds_values.mpr fun a' ha' => hw a' ha' b hb⟩, fun b' hb' => h ▸ hw a ha b' hb'⟩

theorem isGreatest_isLeast_of_weak {α β γ : Type*} [Preorder γ] {P : α → Prop} {D : β → Prop} {f : α → γ} {g : β → γ}
    {a : α} {b : β} (ha : P a) (hb : D b) (h : f a = g b) (hw : ∀ a, P a → ∀ b, D b → f a ≤ g b) :
    IsGreatest {v | ∃ a, P a ∧ f a = v} (g b) ∧ IsLeast {v | ∃ b, D b ∧ g b = v} (g b) :=
  have h' := optimal_of_weak ha hb h hw
  ⟨h'.1, (isLeast_values_iff hb).mpr h'.2⟩

namespace Toq.Discrim

section Const
variable {ι κ : Type*} [DecidableEq ι]

/-- the measurement "always answer `j`" -/
def meConstPovm [DecidableEq κ] (j : κ) : κ → Matrix ι ι ℂ := fun i => if i = j then 1 else 0

theorem meConstPovm_forall [DecidableEq κ] {P : Matrix ι ι ℂ → Prop} (h1 : P 1) (h0 : P 0) (j i : κ) :
    P (meConstPovm j i) := by
  unfold meConstPovm
  split
  exacts [h1, h0]

end Const

section Generic
variable {ι κ : Type*} [Fintype ι] [Fintype κ]

/-- a normalised ensemble has total weight `Σ_i p_i tr ρ_i = 1` -/
theorem me_sum_trace_eq_one (ρ : κ → Matrix ι ι ℂ) (p : κ → ℝ) (htr : ∀ i, (ρ i).trace = 1)
    (hsum : ∑ i, p i = 1) : ∑ i, p i * (ρ i).trace.re = 1 := by
  rw [← hsum]
  exact Finset.sum_congr rfl fun i _ => by rw [htr, Complex.one_re, mul_one]

theorem re_trace_ensemble_eq_one (ρ : κ → Matrix ι ι ℂ) (p : κ → ℝ) (htr : ∀ i, (ρ i).trace = 1) (hsum : ∑ i, p i = 1) :
    (∑ i, (p i : ℂ) • ρ i).trace.re = 1 :=
  (Matrix.re_trace_sum_smul ρ p).trans (me_sum_trace_eq_one ρ p htr hsum)

/-- `Σ_i Re tr(A_i M_i)`: the value of the measurement `M` on the weighted states `A_i` (`A_i = p_i ρ_i` for minimum-error
discrimination, `A_i = −p_i ρ_i` for state exclusion) -/
noncomputable def meVal (A M : κ → Matrix ι ι ℂ) : ℝ := ∑ i, (A i * M i).trace.re

/-- the success probability on an ensemble is the value on its weighted states -/
theorem meVal_smul (ρ : κ → Matrix ι ι ℂ) (p : κ → ℝ) (M : κ → Matrix ι ι ℂ) :
    meVal (fun i => (p i : ℂ) • ρ i) M = Toq.Rand.successProb ρ p M :=
  Finset.sum_congr rfl fun i _ => re_trace_smul_mul (p i) (ρ i) (M i)

theorem meVal_add (A B M : κ → Matrix ι ι ℂ) : meVal (fun i => A i + B i) M = meVal A M + meVal B M := by
  unfold meVal
  rw [← Finset.sum_add_distrib]
  exact Finset.sum_congr rfl fun i _ => by rw [Matrix.add_mul, Matrix.trace_add, Complex.add_re]

/-- the value on a family with one more outcome `none` -/
theorem meVal_option_elim (A0 M0 : Matrix ι ι ℂ) (A M : κ → Matrix ι ι ℂ) :
    meVal (fun o : Option κ => o.elim A0 A) (fun o => o.elim M0 M) = (A0 * M0).trace.re + meVal A M :=
  Fintype.sum_option _

variable [DecidableEq ι]

theorem meConstPovm_value [DecidableEq κ] (ρ : κ → Matrix ι ι ℂ) (p : κ → ℝ) (j : κ) :
    Toq.Rand.successProb ρ p (meConstPovm j) = p j * (ρ j).trace.re := by
  rw [Toq.Rand.successProb, Finset.sum_eq_single j]
  · rw [meConstPovm, if_pos rfl, Matrix.mul_one]
  · intro i _ hi
    rw [meConstPovm, if_neg hi, Matrix.mul_zero, Matrix.trace_zero, Complex.zero_re, mul_zero]
  · intro h; exact absurd (Finset.mem_univ j) h

/-- "always answer `j`" succeeds with probability `p_j` on a unit-trace state `ρ_j` -/
theorem meConstPovm_value_of_trace_one [DecidableEq κ] (ρ : κ → Matrix ι ι ℂ) (p : κ → ℝ) (j : κ)
    (hj : (ρ j).trace = 1) : Toq.Rand.successProb ρ p (meConstPovm j) = p j := by
  rw [meConstPovm_value, hj, Complex.one_re, mul_one]

/-- `M_i = (1 − ρ_i) / (k − λ)`: a measurement when the `ρ_i ⪯ 1` sum to `λ·1`, `λ < k` (`isPOVM_framePovm`); for projectors
`ρ_i` it never answers `i` on `ρ_i`, and for a measurement `ρ` and `λ = 1` it is the pretty bad measurement `Toq.Rand.pbmOf ρ` -/
noncomputable def framePovm (ρ : κ → Matrix ι ι ℂ) (lam : ℝ) : κ → Matrix ι ι ℂ :=
  fun i => ((((Fintype.card κ : ℝ) - lam)⁻¹ : ℝ) : ℂ) • (1 - ρ i)

end Generic
end Toq.Discrim

section PsdCompact
variable {ι : Type*}

variable [Fintype ι]

theorem Matrix.isClosed_setOf_posSemidef : IsClosed {A : Matrix ι ι ℂ | A.PosSemidef} := by
  have : {A : Matrix ι ι ℂ | A.PosSemidef}
      = {A | Aᴴ = A} ∩ ⋂ x : ι → ℂ, {A | 0 ≤ star x ⬝ᵥ (A *ᵥ x)} := by
    ext A
    simp only [Set.mem_ofPred_eq, Set.mem_inter_iff, Set.mem_iInter]
    exact Matrix.posSemidef_iff_dotProduct_mulVec
  rw [this]
  refine IsClosed.inter (isClosed_eq (by fun_prop) continuous_id) (isClosed_iInter fun x => ?_)
  exact isClosed_le continuous_const (by fun_prop)

/-- the PSD matrices with diagonal entries `≤ c` form a compact set -/
theorem Matrix.isCompact_setOf_posSemidef_diag_le (c : ℝ) : IsCompact {Z : Matrix ι ι ℂ | Z.PosSemidef ∧ ∀ a, (Z a a).re ≤ c} := by
  refine IsCompact.of_isClosed_subset
    (isCompact_univ_pi fun _ => isCompact_univ_pi fun _ => isCompact_closedBall (0 : ℂ) c) ?_ ?_
  · refine Matrix.isClosed_setOf_posSemidef.and ?_
    simp only [Set.ofPred_forall]
    exact isClosed_iInter fun a => isClosed_le (by fun_prop) continuous_const
  · intro Z hZ a _ b _
    exact mem_closedBall_zero_iff.mpr (hZ.1.norm_apply_le c hZ.2 a b)

end PsdCompact

namespace Toq.Rand
open Toq.Discrim

section
variable {ι κ : Type*} [Fintype ι]

section
variable [Fintype κ]

theorem successProb_add_smul (ρ M : κ → Matrix ι ι ℂ) (p q : κ → ℝ) (a b : ℝ) :
    successProb ρ (fun i => a * p i + b * q i) M = a * successProb ρ p M + b * successProb ρ q M := by
  unfold successProb
  rw [Finset.mul_sum, Finset.mul_sum, ← Finset.sum_add_distrib]
  exact Finset.sum_congr rfl fun i _ => by ring

theorem successProb_comp_equiv {κ' : Type*} [Fintype κ'] (ρ M : κ → Matrix ι ι ℂ) (p : κ → ℝ) (σ : κ' ≃ κ) :
    successProb (ρ ∘ σ) (p ∘ σ) (M ∘ σ) = successProb ρ p M :=
  Equiv.sum_comp σ fun i => p i * (ρ i * M i).trace.re

end

variable [DecidableEq ι]

/-- a property of ensembles that conjugation by every unitary preserves holds of `(U ρ_i Uᴴ)_i` iff it holds of
`ρ`: conjugating back with `Uᴴ` undoes `U` -/
theorem conj_iff_of_forall_imp {P : (κ → Matrix ι ι ℂ) → Prop}
    (h : ∀ V ∈ Matrix.unitaryGroup ι ℂ, ∀ σ, P σ → P fun i => V * σ i * Vᴴ)
    {U : Matrix ι ι ℂ} (hU : U ∈ Matrix.unitaryGroup ι ℂ) (ρ : κ → Matrix ι ι ℂ) :
    P (fun i => U * ρ i * Uᴴ) ↔ P ρ := by
  refine ⟨fun hP => ?_, h U hU ρ⟩
  have hU' : Uᴴ * U = 1 := Unitary.star_mul_self_of_mem hU
  have := h Uᴴ (Unitary.star_mem hU) _ hP
  simpa only [Matrix.conjTranspose_conjTranspose, Matrix.conj_conj_cancel hU'] using this

end

section Invariance
variable {ι κ : Type*} [Fintype ι] [DecidableEq ι] [Fintype κ]

theorem isPOVM_const [DecidableEq κ] (j : κ) : IsPOVM (meConstPovm (ι := ι) j) :=
  ⟨meConstPovm_forall Matrix.PosSemidef.one Matrix.PosSemidef.zero j,
    (Finset.sum_ite_eq' Finset.univ j fun _ => (1 : Matrix ι ι ℂ)).trans (if_pos (Finset.mem_univ j))⟩

/-- the complement `1 − M_i = Σ_{l ≠ i} M_l` of an element of a measurement is PSD -/
theorem IsPOVM.one_sub_posSemidef {M : κ → Matrix ι ι ℂ} (hM : IsPOVM M) (i : κ) : (1 - M i).PosSemidef := by
  classical
  rw [← hM.2, ← Finset.sum_erase_eq_sub (Finset.mem_univ i)]
  exact Matrix.posSemidef_sum _ fun l _ => hM.1 l

theorem isPOVM_framePovm (ρ : κ → Matrix ι ι ℂ) (lam : ℝ) (hlam : lam < Fintype.card κ) (hρ : ∀ i, (1 - ρ i).PosSemidef)
    (hS : ∑ i, ρ i = (lam : ℂ) • (1 : Matrix ι ι ℂ)) : IsPOVM (framePovm ρ lam) := by
  refine ⟨fun i => (hρ i).smul_ofReal (inv_nonneg.mpr (sub_nonneg.mpr hlam.le)), ?_⟩
  unfold framePovm
  -- `Σ_i (1 − ρ_i) = (k − λ)·1`
  rw [← Finset.smul_sum, Finset.sum_sub_distrib, hS, Finset.sum_const, Finset.card_univ,
    ← Nat.cast_smul_eq_nsmul ℂ, ← sub_smul, smul_smul, ← Complex.ofReal_natCast, ← Complex.ofReal_sub,
    ← Complex.ofReal_mul, inv_mul_cancel₀ (sub_pos.mpr hlam).ne', Complex.ofReal_one, one_smul]

theorem pbmOf_eq_framePovm (G : κ → Matrix ι ι ℂ) : pbmOf G = framePovm G 1 := by
  funext i
  rw [pbmOf, framePovm, Complex.ofReal_inv, Complex.ofReal_sub, Complex.ofReal_natCast, Complex.ofReal_one]

/-- operators `Bᴴ T_i B` with PSD `T_i` and `Bᴴ (Σ_i T_i) B = 1` form a measurement -/
theorem povm_of_conj (B : Matrix ι ι ℂ) (T : κ → Matrix ι ι ℂ) (hT : ∀ i, (T i).PosSemidef)
    (h : Bᴴ * (∑ i, T i) * B = 1) : IsPOVM (fun i => Bᴴ * T i * B) :=
  ⟨fun i => (hT i).conjTranspose_mul_mul_same B, by rw [← Matrix.sum_mul, ← Matrix.mul_sum, h]⟩

theorem IsPOVM.conj {M : κ → Matrix ι ι ℂ} (hM : IsPOVM M) {U : Matrix ι ι ℂ} (hU : U * Uᴴ = 1) :
    IsPOVM fun i => U * M i * Uᴴ :=
  ⟨fun i => (hM.1 i).mul_mul_conjTranspose_same U, by rw [← Matrix.sum_mul, ← Matrix.mul_sum, hM.2, Matrix.mul_one, hU]⟩

theorem IsPOVM.comp_equiv {κ' : Type*} [Fintype κ'] {M : κ → Matrix ι ι ℂ} (hM : IsPOVM M) (σ : κ' ≃ κ) :
    IsPOVM (M ∘ σ) :=
  ⟨fun i => hM.1 (σ i), (Equiv.sum_comp σ M).trans hM.2⟩

theorem successProb_conj (ρ M : κ → Matrix ι ι ℂ) (p : κ → ℝ) {U : Matrix ι ι ℂ} (hU : Uᴴ * U = 1) :
    successProb (fun i => U * ρ i * Uᴴ) p (fun i => U * M i * Uᴴ) = successProb ρ p M :=
  Finset.sum_congr rfl fun i _ => by rw [Matrix.conj_mul_conj_eq hU, Matrix.trace_conj_eq hU]

/-- the attained values do not change under a common unitary rotation of the states (`M ↦ U M Uᴴ` is a bijection of the
measurements) -/
theorem successValues_conj (ρ : κ → Matrix ι ι ℂ) (p : κ → ℝ) {U : Matrix ι ι ℂ} (hU : U ∈ Matrix.unitaryGroup ι ℂ) :
    successValues (fun i => U * ρ i * Uᴴ) p = successValues ρ p := by
  refine Set.ext fun v => conj_iff_of_forall_imp (P := fun σ => v ∈ successValues σ p) ?_ hU ρ
  rintro V hV σ ⟨M, hM, hv⟩
  exact ⟨_, hM.conj (Unitary.mul_star_self_of_mem hV), (successProb_conj σ M p (Unitary.star_mul_self_of_mem hV)).trans hv⟩

/-- the attained values do not change under a relabelling of the states: relabelling the measurement in the same way gives `⊇` for
every permutation, and `σ⁻¹` applied to the relabelled ensemble gives `⊆` -/
theorem successValues_comp_perm (ρ : κ → Matrix ι ι ℂ) (p : κ → ℝ) (σ : Equiv.Perm κ) :
    successValues (ρ ∘ σ) (p ∘ σ) = successValues ρ p := by
  have h : ∀ (τ : Equiv.Perm κ) (ρ' : κ → Matrix ι ι ℂ) (p' : κ → ℝ), successValues ρ' p' ⊆ successValues (ρ' ∘ τ) (p' ∘ τ) := by
    rintro τ ρ' p' v ⟨M, hM, hv⟩
    exact ⟨M ∘ τ, hM.comp_equiv τ, (successProb_comp_equiv ρ' M p' τ).trans hv⟩
  have h' := h σ.symm (ρ ∘ σ) (p ∘ σ)
  rw [Function.comp_assoc, Function.comp_assoc, Equiv.self_comp_symm, Function.comp_id, Function.comp_id] at h'
  exact Set.Subset.antisymm h' (h σ ρ p)

end Invariance

section Compact
variable {ι κ : Type*} [Fintype ι] [Fintype κ] [DecidableEq ι]

theorem isClosed_setOf_isPOVM : IsClosed {M : κ → Matrix ι ι ℂ | IsPOVM M} := by
  refine IsClosed.inter (?_ : IsClosed {M : κ → Matrix ι ι ℂ | ∀ i, (M i).PosSemidef})
    (isClosed_eq (by fun_prop) continuous_const)
  rw [Set.ofPred_forall]
  have h := fun i : κ => (Matrix.isClosed_setOf_posSemidef (ι := ι)).preimage (continuous_apply (A := fun _ => Matrix ι ι ℂ) i)
  exact isClosed_iInter h

/-- every element of a measurement is `⪯ 1`, so has diagonal `≤ 1` -/
theorem isCompact_setOf_isPOVM : IsCompact {M : κ → Matrix ι ι ℂ | IsPOVM M} := by
  classical
  refine IsCompact.of_isClosed_subset (isCompact_univ_pi fun _ => Matrix.isCompact_setOf_posSemidef_diag_le 1) isClosed_setOf_isPOVM ?_
  intro M hM i _
  refine ⟨hM.1 i, fun a => ?_⟩
  have := (hM.one_sub_posSemidef i).re_diag_nonneg a
  rwa [Matrix.sub_apply, Matrix.one_apply_eq, Complex.sub_re, Complex.one_re, sub_nonneg] at this

/-- a continuous objective attains its maximum over every closed set of measurements that is not empty -/
theorem exists_isMaxOn_isPOVM {S : Set (κ → Matrix ι ι ℂ)} (hS : IsClosed S) (hne : ∃ M₀, IsPOVM M₀ ∧ M₀ ∈ S)
    {f : (κ → Matrix ι ι ℂ) → ℝ} (hf : Continuous f) :
    ∃ M, IsPOVM M ∧ M ∈ S ∧ ∀ M', IsPOVM M' → M' ∈ S → f M' ≤ f M := by
  obtain ⟨M, hM, hmax⟩ := (isCompact_setOf_isPOVM.inter_right hS).exists_isMaxOn hne hf.continuousOn
  exact ⟨M, hM.1, hM.2, fun M' h1 h2 => hmax ⟨h1, h2⟩⟩

/-- the maximum of `meVal A` over all measurements is attained -/
theorem _root_.Toq.Discrim.me_max_attained [Nonempty κ] (A : κ → Matrix ι ι ℂ) :
    ∃ M : κ → Matrix ι ι ℂ, IsPOVM M ∧ ∀ M', IsPOVM M' → meVal A M' ≤ meVal A M := by
  classical
  obtain ⟨M, hM, -, h⟩ := exists_isMaxOn_isPOVM isClosed_univ ⟨_, isPOVM_const (Classical.arbitrary κ), trivial⟩
    (f := meVal A) (by unfold meVal; fun_prop)
  exact ⟨M, hM, fun M' hM' => h M' hM' trivial⟩

end Compact
end Toq.Rand
