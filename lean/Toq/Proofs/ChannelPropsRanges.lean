import Toq.Proofs.ChannelProps
/-!
# The exact parameter ranges of `depolarizing` and `dephasing`  (helper lemmas for C06)

Both Choi matrices have the shape `α·P + p·ψψᴴ` with `P` a projector fixing the maximally entangled vector `ψ` (`P = 1`,
resp. `P = diag ψ`) and `d·P ⪰ ψψᴴ`.  For such a matrix positivity is decided by two quadratic forms, at `ψ` and at one vector
orthogonal to it (`smul_add_smul_rankOne_psd_iff`).
-/
open Toq.ChannelProps Toq.ChanPropSpec Matrix
open scoped ComplexOrder

namespace Toq.ChanPropProofs

theorem smul_one_sub_maxEnt_psd (d : Nat) :
    (((d : ℂ)) • (1 : TMat d d) - vecMulVec (maxEntVec d) (star (maxEntVec d))).PosSemidef := by
  have h := trace_smul_one_sub_posSemidef (posSemidef_vecMulVec_self_star (maxEntVec d))
  have ht : (vecMulVec (maxEntVec d) (star (maxEntVec d))).trace = (d : ℂ) := by
    rw [Matrix.trace_vecMulVec, star_maxEntVec, maxEnt_dot_self]
  rwa [ht] at h

/-- `‖ψ‖² = d`, as a real number read in `ℂ` -/
theorem star_maxEnt_dot_self (d : Nat) : star (maxEntVec d) ⬝ᵥ maxEntVec d = ((d : ℝ) : ℂ) := by
  rw [star_maxEntVec, maxEnt_dot_self, Complex.ofReal_natCast]

theorem diag_mulVec_maxEnt (d : Nat) :
    diagonal (maxEntVec d) *ᵥ maxEntVec d = maxEntVec d := by
  funext q
  rw [mulVec_diagonal]
  simp only [maxEntVec]
  split_ifs <;> simp

/-- it is `D (d·1 - ψψᴴ) Dᴴ` for the projector `D = diag(ψ)` onto the span of the `e_i ⊗ e_i`, since `Dψ = ψ` -/
theorem smul_diag_sub_maxEnt_psd (d : Nat) :
    ((d : ℂ) • diagonal (maxEntVec d)
      - vecMulVec (maxEntVec d) (star (maxEntVec d))).PosSemidef := by
  set D := diagonal (maxEntVec d) with hD
  have hDH : Dᴴ = D := by rw [hD, diagonal_conjTranspose, star_maxEntVec]
  have hDD : D * D = D := by
    rw [hD, diagonal_mul_diagonal]
    exact congrArg diagonal (funext fun q => by simp only [maxEntVec]; split_ifs <;> simp)
  have h := (smul_one_sub_maxEnt_psd d).mul_mul_conjTranspose_same D
  rwa [Matrix.mul_sub, Matrix.sub_mul, Matrix.mul_smul, Matrix.mul_one, Matrix.smul_mul, hDH, hDD, mul_vecMulVec, vecMulVec_mul,
    ← hDH, ← star_mulVec, hDH, diag_mulVec_maxEnt] at h

section RankOneRange
variable {N : Type*} [Fintype N]

/-- (⇒) the quadratic form at `w ⊥ v` and at `v`; (⇐) `α·P + p·vvᴴ = (α/n)·(n·P - vvᴴ) + ((α + p·n)/n)·vvᴴ` -/
theorem smul_add_smul_rankOne_psd_iff {P : Matrix N N ℂ} {v w : N → ℂ} {n t : ℝ} (hn : 0 < n) (ht : 0 < t)
    (hP : ((n : ℂ) • P - vecMulVec v (star v)).PosSemidef)
    (hv : star v ⬝ᵥ (P *ᵥ v) = n) (hvv : star v ⬝ᵥ v = n)
    (hw : star w ⬝ᵥ (P *ᵥ w) = t) (hvw : star v ⬝ᵥ w = 0) (α p : ℝ) :
    ((α : ℂ) • P + (p : ℂ) • vecMulVec v (star v)).PosSemidef ↔ 0 ≤ α ∧ 0 ≤ α + p * n := by
  have quad : ∀ x, star x ⬝ᵥ (((α : ℂ) • P + (p : ℂ) • vecMulVec v (star v)) *ᵥ x)
      = α * (star x ⬝ᵥ (P *ᵥ x)) + p * ((star x ⬝ᵥ v) * (star v ⬝ᵥ x)) := fun x => by
    rw [add_mulVec, smul_mulVec, smul_mulVec, dotProduct_add, dotProduct_smul, dotProduct_smul, quad_vecMulVec,
      smul_eq_mul, smul_eq_mul]
  constructor
  · intro h
    have h1 := h.dotProduct_mulVec_nonneg w
    have h2 := h.dotProduct_mulVec_nonneg v
    rw [quad, hw, hvw, mul_zero, mul_zero, add_zero, ← Complex.ofReal_mul, Complex.zero_le_real] at h1
    have e : (α : ℂ) * n + p * ((n : ℂ) * n) = ((n * (α + p * n) : ℝ) : ℂ) := by push_cast; ring
    rw [quad, hv, hvv, e, Complex.zero_le_real] at h2
    exact ⟨(mul_nonneg_iff_of_pos_right ht).mp h1, (mul_nonneg_iff_of_pos_left hn).mp h2⟩
  · rintro ⟨h1, h2⟩
    have e : (α : ℂ) • P + (p : ℂ) • vecMulVec v (star v)
        = ((α / n : ℝ) : ℂ) • ((n : ℂ) • P - vecMulVec v (star v))
          + (((α + p * n) / n : ℝ) : ℂ) • vecMulVec v (star v) := by
      have hn' : (n : ℂ) ≠ 0 := Complex.ofReal_ne_zero.mpr hn.ne'
      rw [smul_sub, smul_smul, sub_add_eq_add_sub, add_sub_assoc, ← sub_smul]
      congr 2
      · push_cast; field_simp
      · push_cast; field_simp; ring
    rw [e]
    exact (hP.smul (Complex.zero_le_real.mpr (div_nonneg h1 hn.le))).add
      ((posSemidef_vecMulVec_self_star v).smul (Complex.zero_le_real.mpr (div_nonneg h2 hn.le)))
end RankOneRange

section Ranges
variable (d : Nat)

theorem diag_mulVec_single_diag (i : Fin d) :
    diagonal (maxEntVec d) *ᵥ Pi.single (i, i) 1 = Pi.single (i, i) 1 := by
  rw [diagonal_mulVec_single]
  simp only [maxEntVec, if_true, mul_one]

/-- the matrix `c·1 + p·ψψᴴ` of `depolarizing`, `c = (1-p)/d`: tested at `e₀ ⊗ e₁ ⊥ ψ` and at `ψ` -/
theorem depol_psd_iff (hd : 2 ≤ d) (α p : ℝ) :
    ((α : ℂ) • (1 : TMat d d) + (p : ℂ) • vecMulVec (maxEntVec d) (star (maxEntVec d))).PosSemidef
      ↔ 0 ≤ α ∧ 0 ≤ α + p * d := by
  have hne : (⟨0, by omega⟩ : Fin d) ≠ ⟨1, by omega⟩ := by simp [Fin.ext_iff]
  refine smul_add_smul_rankOne_psd_iff (w := Pi.single (⟨0, by omega⟩, ⟨1, by omega⟩) 1) (t := 1)
    (Nat.cast_pos.mpr (by omega)) one_pos ?_ ?_ ?_ ?_ ?_ α p
  · rw [Complex.ofReal_natCast]; exact smul_one_sub_maxEnt_psd d
  · rw [one_mulVec, star_maxEnt_dot_self]
  · exact star_maxEnt_dot_self d
  · rw [one_mulVec, dotProduct_single, Pi.star_apply, Pi.single_eq_same, star_one, mul_one, Complex.ofReal_one]
  · rw [dotProduct_single, star_maxEntVec, mul_one]
    exact if_neg hne

/-- the matrix `α·diag(ψ) + p·ψψᴴ` of `dephasing`, `α = 1-p`: tested at `e₀ ⊗ e₀ - e₁ ⊗ e₁ ⊥ ψ` and at `ψ` -/
theorem deph_psd_iff (hd : 2 ≤ d) (α p : ℝ) :
    ((α : ℂ) • diagonal (maxEntVec d)
        + (p : ℂ) • vecMulVec (maxEntVec d) (star (maxEntVec d))).PosSemidef
      ↔ 0 ≤ α ∧ 0 ≤ α + p * d := by
  have hne : ((⟨0, by omega⟩, ⟨0, by omega⟩) : Fin d × Fin d) ≠ (⟨1, by omega⟩, ⟨1, by omega⟩) := by simp [Fin.ext_iff]
  refine smul_add_smul_rankOne_psd_iff
    (w := Pi.single (⟨0, by omega⟩, ⟨0, by omega⟩) 1 - Pi.single (⟨1, by omega⟩, ⟨1, by omega⟩) 1) (t := 2)
    (Nat.cast_pos.mpr (by omega)) two_pos ?_ ?_ ?_ ?_ ?_ α p
  · rw [Complex.ofReal_natCast]; exact smul_diag_sub_maxEnt_psd d
  · rw [diag_mulVec_maxEnt, star_maxEnt_dot_self]
  · exact star_maxEnt_dot_self d
  · -- `D w = w` for `w = e₀₀ - e₁₁`, and `wᴴw = 2`
    rw [mulVec_sub, diag_mulVec_single_diag, diag_mulVec_single_diag, star_sub, ← Pi.single_star, ← Pi.single_star, star_one,
      sub_dotProduct, single_dotProduct, single_dotProduct, one_mul, one_mul, Pi.sub_apply, Pi.sub_apply, Pi.single_eq_same,
      Pi.single_eq_same, Pi.single_eq_of_ne hne, Pi.single_eq_of_ne hne.symm]
    norm_num
  · rw [dotProduct_sub, dotProduct_single, dotProduct_single, star_maxEntVec, mul_one, mul_one]
    simp [maxEntVec]
end Ranges

end Toq.ChanPropProofs
