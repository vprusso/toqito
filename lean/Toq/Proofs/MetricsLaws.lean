import Toq.Proofs.MetricsWatrous
import Toq.Proofs.MetricsFvdG
/-!
# Values of the measures on special pairs: pure states, commuting pairs, identical and orthogonal states

* Pure states.  `IsPureProj P` abstracts `P = |ψ⟩⟨ψ|` (Hermitian idempotent of trace one with `P M P = tr(P M) P`).
  `F(|ψ⟩⟨ψ|, σ) = √⟨ψ|σ|ψ⟩` is the closed form evaluated; `T(|ψ⟩⟨ψ|, |φ⟩⟨φ|) = √(1 − |⟨ψ|φ⟩|²)` comes from the eigenvalues of `P − Q`, which
  satisfy `λ³ = (1 − tr P Q) λ`.
* The exactly computable measures `tr((ρ − σ)²)` (`hsV`) and sub-fidelity are traces of products, whence their symmetry and unitary
  invariance; for `P = |ψ⟩⟨ψ|` every trace collapses through `P M P = tr(P M) P`.
* Commuting pairs (common eigenbasis `U`): every measure is the classical function of the spectra.
* Extreme values: `F = 0 ⟺ ρ σ = 0` read off the closed form; `T = 1 ⟺ ρ σ = 0` and `F = 1 ⟺ ρ = σ` then follow from the
  Fuchs–van de Graaf inequalities.
-/

open Matrix
open scoped ComplexOrder MatrixOrder

namespace Toq.Metrics

section Pure
variable {ι : Type*} [Fintype ι]

structure IsPureProj (P : Matrix ι ι ℂ) : Prop where
  herm : P.IsHermitian
  idem : P * P = P
  trace_one : P.trace = 1
  rank_one : ∀ M : Matrix ι ι ℂ, P * M * P = (P * M).trace • P

theorem isPureProj_vecMulVec (ψ : ι → ℂ) (h : star ψ ⬝ᵥ ψ = 1) : IsPureProj (vecMulVec ψ (star ψ)) where
  herm := by
    unfold Matrix.IsHermitian
    rw [conjTranspose_vecMulVec, star_star]
  idem := by
    rw [vecMulVec_mul_vecMulVec, h, one_smul]
  trace_one := by
    rw [trace_vecMulVec, dotProduct_comm]; exact h
  rank_one M := by
    rw [vecMulVec_mul, mul_vecMulVec, trace_vecMulVec, vecMulVec_mulVec, op_smul_eq_smul, smul_vecMulVec,
      dotProduct_comm]

theorem IsPureProj.posSemidef {P : Matrix ι ι ℂ} (h : IsPureProj P) : P.PosSemidef :=
  posSemidef_of_isHermitian_idem h.herm h.idem

theorem trace_pure_mul (ψ : ι → ℂ) (σ : Matrix ι ι ℂ) :
    (vecMulVec ψ (star ψ) * σ).trace = star ψ ⬝ᵥ (σ *ᵥ ψ) := by
  rw [Matrix.trace_mul_comm, Matrix.trace_mul_vecMulVec_star]

theorem trace_pure_mul_pure (ψ φ : ι → ℂ) :
    (vecMulVec ψ (star ψ) * vecMulVec φ (star φ)).trace.re = ‖star ψ ⬝ᵥ φ‖ ^ 2 := by
  rw [trace_pure_mul, vecMulVec_mulVec, op_smul_eq_smul, dotProduct_smul, smul_eq_mul]
  have : star φ ⬝ᵥ ψ = star (star ψ ⬝ᵥ φ) := Matrix.star_dotProduct _ _
  rw [this, Complex.star_def, mul_comm, Complex.mul_conj, Complex.normSq_eq_norm_sq]
  exact Complex.ofReal_re _

variable [DecidableEq ι]

/-- the closed form `tr √(√P σ √P)` with `√P = P` and `P σ P = tr(P σ) P` -/
theorem fidV_pure {P σ : Matrix ι ι ℂ} (hP : IsPureProj P) (hσ : σ.PosSemidef) :
    fidV P σ = Real.sqrt (P * σ).trace.re := by
  have hs0 : 0 ≤ (P * σ).trace.re := psd_trace_mul_nonneg hP.posSemidef hσ
  have hroot : sqrtM (((P * σ).trace.re : ℂ) • P) = ((Real.sqrt (P * σ).trace.re : ℝ) : ℂ) • P := by
    refine sqrtM_unique (hP.posSemidef.smul (by exact_mod_cast Real.sqrt_nonneg _)) ?_
    rw [Matrix.smul_mul, Matrix.mul_smul, smul_smul, hP.idem, ← Complex.ofReal_mul, Real.mul_self_sqrt hs0]
  rw [fidV_eq_docFid hP.posSemidef hσ, docFid_eq, sqrtM_unique hP.posSemidef hP.idem, hP.rank_one,
    hP.posSemidef.trace_mul_eq_ofReal_re hσ, hroot, Matrix.trace_smul, hP.trace_one, smul_eq_mul, mul_one, Complex.ofReal_re,
    Complex.ofReal_re]

/-- With `t = tr(P Q)`: from `P Q P = t P` and `Q P Q = t Q` one gets `(P − Q)³ = (1 − t)(P − Q)` and `tr((P − Q)²) = 2 (1 − t)` for the
eigenvalues of `P − Q`; the rest is `sum_abs_div_two_eq_sqrt`. -/
theorem traceNormV_pure_pure {P Q : Matrix ι ι ℂ} (hP : IsPureProj P) (hQ : IsPureProj Q) :
    traceNormV (P - Q) / 2 = Real.sqrt (1 - (P * Q).trace.re) := by
  set t := (P * Q).trace.re with ht
  have htr : (P * Q).trace = (t : ℂ) := hP.posSemidef.trace_mul_eq_ofReal_re hQ.posSemidef
  have htr' : (Q * P).trace = (t : ℂ) := by rw [Matrix.trace_mul_comm]; exact htr
  have hPQP : P * Q * P = (t : ℂ) • P := by rw [hP.rank_one, htr]
  have hQPQ : Q * P * Q = (t : ℂ) • Q := by rw [hQ.rank_one, htr']
  have e2 : (P - Q) * (P - Q) = P + Q - P * Q - Q * P := by
    rw [Matrix.sub_mul, Matrix.mul_sub, Matrix.mul_sub, hP.idem, hQ.idem]; abel
  have e3 : (P - Q) * (P - Q) * (P - Q) = ((1 - t : ℝ) : ℂ) • (P - Q) := by
    rw [e2]
    simp only [Matrix.add_mul, Matrix.sub_mul, Matrix.mul_sub, hP.idem, hQ.idem, Matrix.mul_assoc P Q Q,
      Matrix.mul_assoc Q P P, hPQP, hQPQ]
    push_cast
    module
  obtain ⟨U, lam, hU, hDe⟩ := exists_conjDiag_fun (hP.herm.sub hQ.herm)
  have hl : ∀ i, lam i * lam i * lam i = (1 - t) * lam i := by
    rw [hDe, conjDiag_mul hU, conjDiag_mul hU, ← conjDiag_smul] at e3
    exact congrFun (conjDiag_injective hU e3)
  have hsq : ∑ i, lam i * lam i = 2 * (1 - t) := by
    have := congrArg (fun M : Matrix ι ι ℂ => M.trace.re) e2
    simp only [hDe, conjDiag_mul hU, conjDiag_trace_re hU] at this
    rw [this]
    simp only [Matrix.trace_sub, Matrix.trace_add, hP.trace_one, hQ.trace_one, htr, htr', Complex.sub_re,
      Complex.add_re, Complex.one_re, Complex.ofReal_re]
    ring
  rw [hDe, traceNormV_conjDiag hU]
  exact sum_abs_div_two_eq_sqrt hl hsq

end Pure

section Laws
variable {ι : Type*} [Fintype ι]

/-- Hilbert–Schmidt distance as documented: `tr((ρ − σ)²)` -/
noncomputable def hsV (ρ σ : Matrix ι ι ℂ) : ℝ := ((ρ - σ) * (ρ - σ)).trace.re

theorem hsV_pure_pure {P Q : Matrix ι ι ℂ} (hP : IsPureProj P) (hQ : IsPureProj Q) :
    hsV P Q = 2 - 2 * (P * Q).trace.re := by
  unfold hsV
  rw [Matrix.sub_mul, Matrix.mul_sub, Matrix.mul_sub, hP.idem, hQ.idem]
  simp only [Matrix.trace_sub, Complex.sub_re, hP.trace_one, hQ.trace_one, Matrix.trace_mul_comm Q P, Complex.one_re]
  ring

theorem hsV_symm (ρ σ : Matrix ι ι ℂ) : hsV ρ σ = hsV σ ρ := by
  unfold hsV
  rw [← neg_sub σ ρ, Matrix.neg_mul, Matrix.mul_neg, neg_neg]

theorem hsV_eq_zero_iff {ρ σ : Matrix ι ι ℂ} (hρ : ρ.IsHermitian) (hσ : σ.IsHermitian) : hsV ρ σ = 0 ↔ ρ = σ := by
  unfold hsV
  refine ⟨fun h => sub_eq_zero.mp (eq_zero_of_re_trace_conjTranspose_mul_self ?_), fun h => ?_⟩
  · rwa [(hρ.sub hσ).eq]
  · rw [h, sub_self, Matrix.zero_mul, Matrix.trace_zero, Complex.zero_re]

theorem subFidV_symm (ρ σ : Matrix ι ι ℂ) : subFidV ρ σ = subFidV σ ρ := by
  unfold subFidV
  have e2 : (ρ * σ * (ρ * σ)).trace = (σ * ρ * (σ * ρ)).trace := by
    rw [Matrix.mul_assoc ρ σ, Matrix.trace_mul_comm ρ]
    simp only [Matrix.mul_assoc]
  rw [Matrix.trace_mul_comm ρ σ, e2]

variable [DecidableEq ι]

theorem hsV_conj (ρ σ : Matrix ι ι ℂ) {U : Matrix ι ι ℂ} (hU : Uᴴ * U = 1) : hsV (U * ρ * Uᴴ) (U * σ * Uᴴ) = hsV ρ σ := by
  unfold hsV
  rw [← Matrix.sub_mul, ← Matrix.mul_sub, Matrix.conj_mul_conj_eq hU, Matrix.trace_conj_eq hU]

theorem subFidV_conj (ρ σ : Matrix ι ι ℂ) {U : Matrix ι ι ℂ} (hU : Uᴴ * U = 1) :
    subFidV (U * ρ * Uᴴ) (U * σ * Uᴴ) = subFidV ρ σ := by
  unfold subFidV
  rw [Matrix.conj_mul_conj_eq hU, Matrix.conj_mul_conj_eq hU, Matrix.trace_conj_eq hU, Matrix.trace_conj_eq hU]

theorem subFidV_pure {P σ : Matrix ι ι ℂ} (hP : IsPureProj P) (hσ : σ.PosSemidef) :
    subFidV P σ = (P * σ).trace.re := by
  unfold subFidV
  have htr := hP.posSemidef.trace_mul_eq_ofReal_re hσ
  have e : (P * σ * (P * σ)).trace = (P * σ).trace * (P * σ).trace := by
    calc (P * σ * (P * σ)).trace = ((P * σ * P) * σ).trace := by simp only [Matrix.mul_assoc]
      _ = _ := by rw [hP.rank_one, Matrix.smul_mul, Matrix.trace_smul, smul_eq_mul]
  rw [e]
  conv_lhs => rw [htr]
  rw [← Complex.ofReal_mul, Complex.ofReal_re, Complex.ofReal_re]
  have : (2 : ℝ) * ((P * σ).trace.re ^ 2 - (P * σ).trace.re * (P * σ).trace.re) = 0 := by ring
  rw [this, Real.sqrt_zero, add_zero]

end Laws

section Commuting
variable {ι : Type*} [Fintype ι] [DecidableEq ι]

theorem fidFeasible_conjDiag {U : Matrix ι ι ℂ} (hU : Uᴴ * U = 1) {p q : ι → ℝ}
    (hp : ∀ i, 0 ≤ p i) (hq : ∀ i, 0 ≤ q i) :
    FidFeasible (conjDiag U p) (conjDiag U q) (conjDiag U fun i => Real.sqrt (p i) * Real.sqrt (q i)) := by
  have := fidFeasible_sqrtM_mul_sqrtM (conjDiag_posSemidef U hp) (conjDiag_posSemidef U hq)
  rwa [sqrtM_conjDiag hU hp, sqrtM_conjDiag hU hq, conjDiag_mul hU] at this

theorem docFid_conjDiag {U : Matrix ι ι ℂ} (hU : Uᴴ * U = 1) {p q : ι → ℝ}
    (hp : ∀ i, 0 ≤ p i) (hq : ∀ i, 0 ≤ q i) : docFid (conjDiag U p) (conjDiag U q) = cFid p q := by
  have h0 : ∀ i, 0 ≤ Real.sqrt (p i) * q i * Real.sqrt (p i) := fun i =>
    mul_nonneg (mul_nonneg (Real.sqrt_nonneg _) (hq i)) (Real.sqrt_nonneg _)
  rw [docFid_eq, sqrtM_conjDiag hU hp, conjDiag_mul hU, conjDiag_mul hU, trace_sqrtM_conjDiag hU h0, cFid]
  refine Finset.sum_congr rfl fun i _ => ?_
  rw [mul_right_comm, Real.mul_self_sqrt (hp i)]

theorem fidV_conjDiag {U : Matrix ι ι ℂ} (hU : Uᴴ * U = 1) {p q : ι → ℝ}
    (hp : ∀ i, 0 ≤ p i) (hq : ∀ i, 0 ≤ q i) : fidV (conjDiag U p) (conjDiag U q) = cFid p q :=
  (fidV_eq_docFid (conjDiag_posSemidef U hp) (conjDiag_posSemidef U hq)).trans (docFid_conjDiag hU hp hq)

theorem matsumotoV_conjDiag {U : Matrix ι ι ℂ} (hU : Uᴴ * U = 1) {p q : ι → ℝ}
    (hp : ∀ i, 0 ≤ p i) (hq : ∀ i, 0 ≤ q i) : matsumotoV (conjDiag U p) (conjDiag U q) = cFid p q := by
  refine le_antisymm ?_ ?_
  · rw [← fidV_conjDiag hU hp hq]
    exact matsumotoV_le_fidV (conjDiag_posSemidef U hp) (conjDiag_posSemidef U hq)
  · have := le_matsumotoV (conjDiag_isHermitian U _) (fidFeasible_conjDiag hU hp hq)
    rw [conjDiag_trace_re hU] at this
    simpa only [cFid, Real.sqrt_mul (hp _)] using this

theorem subFidV_conjDiag {U : Matrix ι ι ℂ} (hU : Uᴴ * U = 1) (p q : ι → ℝ) :
    subFidV (conjDiag U p) (conjDiag U q)
      = ∑ i, p i * q i + Real.sqrt (2 * ((∑ i, p i * q i) ^ 2 - ∑ i, (p i * q i) ^ 2)) := by
  simp only [subFidV, conjDiag_mul hU, conjDiag_trace_re hU, sq]

theorem conjDiag_one_eq (f : ι → ℝ) : conjDiag (1 : Matrix ι ι ℂ) f = diagonal (fun i => (f i : ℂ)) := by
  simp [conjDiag]

end Commuting

section Extreme
variable {ι : Type*} [Fintype ι] [DecidableEq ι]

/-- With `λ_i ≥ 0` the eigenvalues of `√ρ σ √ρ`, `F = Σ √λ_i` and `tr(ρ σ) = Σ λ_i` vanish together, and `tr(ρ σ) = 0` forces `ρ σ = 0`. -/
theorem fidV_eq_zero_iff {ρ σ : Matrix ι ι ℂ} (hρ : ρ.PosSemidef) (hσ : σ.PosSemidef) :
    fidV ρ σ = 0 ↔ ρ * σ = 0 := by
  obtain ⟨U, lam, -, hl, -, hd, htr, -⟩ := exists_rootConj_spectral hρ hσ
  rw [fidV_eq_docFid hρ hσ, hd, ← psd_trace_mul_eq_zero_iff hρ hσ, htr,
    Finset.sum_eq_zero_iff_of_nonneg fun i _ => Real.sqrt_nonneg _, Finset.sum_eq_zero_iff_of_nonneg fun i _ => hl i]
  exact forall₂_congr fun i _ => Real.sqrt_eq_zero (hl i)

theorem traceNormV_sub_div_two_eq_one_iff {ρ σ : Matrix ι ι ℂ} (hρ : ρ.PosSemidef) (hσ : σ.PosSemidef)
    (tρ : ρ.trace = 1) (tσ : σ.trace = 1) : traceNormV (ρ - σ) / 2 = 1 ↔ ρ * σ = 0 := by
  rw [← fidV_eq_zero_iff hρ hσ]
  constructor
  · intro h
    have h1 := fvdg_upper hρ hσ tρ tσ
    rw [h] at h1
    nlinarith [fidV_nonneg hρ hσ]
  · intro h
    have h1 := fvdg_lower hρ hσ tρ tσ
    have h2 := traceNormV_le hρ hσ (rfl : ρ - σ = ρ - σ)
    rw [h] at h1
    rw [tρ, tσ, Complex.one_re] at h2
    linarith

theorem fidV_eq_one_iff {ρ σ : Matrix ι ι ℂ} (hρ : ρ.PosSemidef) (hσ : σ.PosSemidef)
    (tρ : ρ.trace = 1) (tσ : σ.trace = 1) : fidV ρ σ = 1 ↔ ρ = σ := by
  constructor
  · intro h
    have h1 := fvdg_upper hρ hσ tρ tσ
    rw [h] at h1
    have hH := hρ.isHermitian.sub hσ.isHermitian
    refine sub_eq_zero.mp ((traceNormV_eq_zero_iff hH).mp ?_)
    nlinarith [traceNormV_nonneg hH]
  · rintro rfl
    rw [fidV_self hρ, tρ, Complex.one_re]

end Extreme

end Toq.Metrics
