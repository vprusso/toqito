import Toq.Proofs.Psd
import Mathlib.Analysis.Matrix.HermitianFunctionalCalculus
/-!
# Spectral toolkit for complex square matrices

The namespace is `Toq.Metrics`, that of `conjDiag`, which the statements of C13 mention; what one reaches by dot notation from a
hypothesis (`hM.exists_pos_smul_one_le`, `hA.suppProj`) is stated under `Matrix.`.

* `sqrtM`: the positive square root, its three characteristic facts, conjugation by it and by its inverse.
* `conjDiag U f = U diag(f) Uᴴ`: functions of a diagonalised matrix.  For an isometry `U` the map `f ↦ conjDiag U f` respects sums, products,
  `1`, positivity and the trace, and `conjDiag U (ind i)` are the projectors onto the columns of `U` (section `ConjDiag`: algebra only).
* `exists_conjDiag` is the spectral theorem in this form.  Its consequences: `a·A + c·1 ⪰ 0` read on the eigenvalues
  (`posSemidef_smul_add_smul_one_iff`), a positive definite matrix dominates a positive multiple of `1`, operator monotonicity of the square
  root (`sub_posSemidef_of_sq_le_sq`).
* Mathlib's `IsHermitian.cfc g` is `conjDiag` in the eigenbasis (`hcfc_eq_conjDiag`), so the `hcfc_*` lemmas are instances; they serve
  the pseudo-inverse `hA.pinv` and the support projector `hA.suppProj` of a Hermitian matrix (namespace `Matrix.IsHermitian`).
-/

open Matrix
open scoped ComplexOrder

namespace Toq.Metrics

section Sqrt
open scoped MatrixOrder
variable {ι : Type*} [Fintype ι] [DecidableEq ι]

/-- the positive square root of a matrix: `CFC.sqrt` under a name of its own, used only through `sqrtM_posSemidef`, `sqrtM_mul_self`
and `sqrtM_unique`.  For a `ρ` that is not positive semidefinite it is `0`, which is why `sqrtM_posSemidef` needs no hypothesis. -/
noncomputable def sqrtM (ρ : Matrix ι ι ℂ) : Matrix ι ι ℂ := CFC.sqrt ρ

theorem sqrtM_posSemidef (ρ : Matrix ι ι ℂ) : (sqrtM ρ).PosSemidef := (CFC.sqrt_nonneg ρ).posSemidef

theorem sqrtM_isHermitian (ρ : Matrix ι ι ℂ) : (sqrtM ρ).IsHermitian := (sqrtM_posSemidef ρ).isHermitian

theorem sqrtM_mul_self {ρ : Matrix ι ι ℂ} (hρ : ρ.PosSemidef) : sqrtM ρ * sqrtM ρ = ρ :=
  CFC.sqrt_mul_sqrt_self ρ hρ.nonneg

theorem sqrtM_unique {ρ S : Matrix ι ι ℂ} (hS : S.PosSemidef) (h : S * S = ρ) : sqrtM ρ = S :=
  CFC.sqrt_unique h hS.nonneg

/-- a positive semidefinite matrix is determined by its square -/
theorem _root_.psd_sq_unique (A B : Matrix ι ι ℂ) (hA : A.PosSemidef) (hB : B.PosSemidef) (h : A * A = B * B) : A = B :=
  (sqrtM_unique hA h).symm.trans (sqrtM_unique hB rfl)

theorem sqrtM_conj_posSemidef (ρ : Matrix ι ι ℂ) {σ : Matrix ι ι ℂ} (hσ : σ.PosSemidef) :
    (sqrtM ρ * σ * sqrtM ρ).PosSemidef :=
  hσ.mul_mul_same_of_isHermitian (sqrtM_isHermitian ρ)

theorem trace_sqrtM_conj {ρ : Matrix ι ι ℂ} (hρ : ρ.PosSemidef) (Z : Matrix ι ι ℂ) :
    (sqrtM ρ * Z * sqrtM ρ).trace = (ρ * Z).trace := by
  rw [Matrix.trace_mul_comm, ← Matrix.mul_assoc, sqrtM_mul_self hρ]

theorem isUnit_det_sqrtM {ρ : Matrix ι ι ℂ} (hρ : ρ.PosDef) : IsUnit (sqrtM ρ).det := by
  refine isUnit_iff_ne_zero.mpr fun h0 => hρ.det_pos.ne' ?_
  rw [← sqrtM_mul_self hρ.posSemidef, Matrix.det_mul, h0, mul_zero]

theorem sqrtM_inv_mul_self {ρ : Matrix ι ι ℂ} (hρ : ρ.PosDef) : (sqrtM ρ)⁻¹ * sqrtM ρ = 1 :=
  Matrix.nonsing_inv_mul _ (isUnit_det_sqrtM hρ)

theorem sqrtM_mul_inv_self {ρ : Matrix ι ι ℂ} (hρ : ρ.PosDef) : sqrtM ρ * (sqrtM ρ)⁻¹ = 1 :=
  Matrix.mul_nonsing_inv _ (isUnit_det_sqrtM hρ)

theorem sqrtM_inv_conj_posSemidef (ρ : Matrix ι ι ℂ) {Z : Matrix ι ι ℂ} (hZ : Z.PosSemidef) :
    ((sqrtM ρ)⁻¹ * Z * (sqrtM ρ)⁻¹).PosSemidef :=
  hZ.mul_mul_same_of_isHermitian (sqrtM_isHermitian ρ).inv

theorem sqrtM_conj_inv_conj {ρ : Matrix ι ι ℂ} (hρ : ρ.PosDef) (Z : Matrix ι ι ℂ) :
    sqrtM ρ * ((sqrtM ρ)⁻¹ * Z * (sqrtM ρ)⁻¹) * sqrtM ρ = Z := by
  calc sqrtM ρ * ((sqrtM ρ)⁻¹ * Z * (sqrtM ρ)⁻¹) * sqrtM ρ
      = (sqrtM ρ * (sqrtM ρ)⁻¹) * Z * ((sqrtM ρ)⁻¹ * sqrtM ρ) := by simp only [Matrix.mul_assoc]
    _ = Z := by rw [sqrtM_mul_inv_self hρ, sqrtM_inv_mul_self hρ, Matrix.one_mul, Matrix.mul_one]

theorem sqrtM_inv_conj_self {ρ : Matrix ι ι ℂ} (hρ : ρ.PosDef) : (sqrtM ρ)⁻¹ * ρ * (sqrtM ρ)⁻¹ = 1 := by
  nth_rewrite 2 [← sqrtM_mul_self hρ.posSemidef]
  rw [← Matrix.mul_assoc, sqrtM_inv_mul_self hρ, Matrix.one_mul, sqrtM_mul_inv_self hρ]

end Sqrt

section ConjDiag
variable {ι : Type*} [Fintype ι] [DecidableEq ι]

noncomputable def conjDiag (U : Matrix ι ι ℂ) (f : ι → ℝ) : Matrix ι ι ℂ :=
  U * diagonal (fun i => (f i : ℂ)) * Uᴴ

theorem conjDiag_congr (U : Matrix ι ι ℂ) {f g : ι → ℝ} (h : ∀ i, f i = g i) : conjDiag U f = conjDiag U g :=
  congrArg (conjDiag U) (funext h)

theorem conjDiag_mul {U : Matrix ι ι ℂ} (hU : Uᴴ * U = 1) (f g : ι → ℝ) :
    conjDiag U f * conjDiag U g = conjDiag U (fun i => f i * g i) := by
  unfold conjDiag
  rw [Matrix.conj_mul_conj_eq hU, diagonal_mul_diagonal]
  simp only [Complex.ofReal_mul]

theorem conjDiag_mul_comm {U : Matrix ι ι ℂ} (hU : Uᴴ * U = 1) (f g : ι → ℝ) :
    conjDiag U f * conjDiag U g = conjDiag U g * conjDiag U f := by
  rw [conjDiag_mul hU, conjDiag_mul hU]
  exact conjDiag_congr U fun i => mul_comm _ _

theorem conjDiag_add (U : Matrix ι ι ℂ) (f g : ι → ℝ) :
    conjDiag U f + conjDiag U g = conjDiag U (fun i => f i + g i) := by
  unfold conjDiag
  rw [← Matrix.add_mul, ← Matrix.mul_add, diagonal_add]
  simp only [Complex.ofReal_add]

theorem conjDiag_sub (U : Matrix ι ι ℂ) (f g : ι → ℝ) :
    conjDiag U f - conjDiag U g = conjDiag U (fun i => f i - g i) := by
  unfold conjDiag
  rw [← Matrix.sub_mul, ← Matrix.mul_sub, diagonal_sub]
  simp only [Complex.ofReal_sub]

theorem conjDiag_smul (U : Matrix ι ι ℂ) (c : ℝ) (f : ι → ℝ) :
    conjDiag U (fun i => c * f i) = (c : ℂ) • conjDiag U f := by
  unfold conjDiag
  rw [← Matrix.smul_mul, ← Matrix.mul_smul, ← Matrix.diagonal_smul]
  congr 3; funext i; simp

theorem conjDiag_zero (U : Matrix ι ι ℂ) : conjDiag U (fun _ => 0) = 0 := by
  simp [conjDiag]

theorem conjDiag_sum (U : Matrix ι ι ℂ) {κ : Type*} (s : Finset κ) (f : κ → ι → ℝ) :
    ∑ k ∈ s, conjDiag U (f k) = conjDiag U (fun i => ∑ k ∈ s, f k i) := by
  classical
  induction s using Finset.induction_on with
  | empty => simp [conjDiag]
  | insert a s ha ih =>
    rw [Finset.sum_insert ha, ih, conjDiag_add]
    exact conjDiag_congr U fun i => (Finset.sum_insert (f := fun k => f k i) ha).symm

theorem conjDiag_one {U : Matrix ι ι ℂ} (hU : Uᴴ * U = 1) : conjDiag U (fun _ => 1) = 1 := by
  unfold conjDiag
  simp only [Complex.ofReal_one]
  rw [show (diagonal fun _ : ι => (1 : ℂ)) = 1 from diagonal_one, Matrix.mul_one, mul_eq_one_comm.mp hU]

theorem conjDiag_posSemidef (U : Matrix ι ι ℂ) {f : ι → ℝ} (hf : ∀ i, 0 ≤ f i) :
    (conjDiag U f).PosSemidef :=
  (Matrix.posSemidef_diagonal_ofReal f hf).mul_mul_conjTranspose_same U

theorem conjDiag_isHermitian (U : Matrix ι ι ℂ) (f : ι → ℝ) : (conjDiag U f).IsHermitian :=
  Matrix.isHermitian_mul_mul_conjTranspose U
    (Matrix.isHermitian_diagonal_of_self_adjoint _ (funext fun i => Complex.conj_ofReal (f i)))

theorem conjDiag_trace {U : Matrix ι ι ℂ} (hU : Uᴴ * U = 1) (f : ι → ℝ) :
    (conjDiag U f).trace = ∑ i, (f i : ℂ) := by
  unfold conjDiag
  rw [Matrix.trace_conj_eq hU, Matrix.trace_diagonal]

theorem conjDiag_trace_re {U : Matrix ι ι ℂ} (hU : Uᴴ * U = 1) (f : ι → ℝ) :
    (conjDiag U f).trace.re = ∑ i, f i := by
  rw [conjDiag_trace hU, Complex.re_sum]
  simp

theorem conjDiag_injective {U : Matrix ι ι ℂ} (hU : Uᴴ * U = 1) {f g : ι → ℝ} (h : conjDiag U f = conjDiag U g) :
    f = g := by
  have hd := congrArg (fun M => Uᴴ * M * U) h
  simp only [conjDiag, conj_conj_cancel hU] at hd
  exact funext fun i => Complex.ofReal_injective (congrFun (Matrix.diagonal_injective hd) i)

/-- indicator of the index `i`; `conjDiag U (ind i)` is the projector onto the `i`-th column of `U` -/
def ind (i : ι) : ι → ℝ := fun j => if j = i then 1 else 0

omit [Fintype ι] in
theorem ind_apply (i j : ι) : ind i j = if j = i then 1 else 0 := rfl

omit [Fintype ι] in
theorem ind_nonneg (i j : ι) : 0 ≤ ind i j := by
  rw [ind_apply]; split_ifs <;> norm_num

omit [Fintype ι] in
theorem ind_mul (i : ι) (f : ι → ℝ) (j : ι) : ind i j * f j = f i * ind i j := by
  rw [ind_apply]; split_ifs with h
  · rw [h, mul_comm]
  · rw [zero_mul, mul_zero]

theorem sum_ind_mul (i : ι) (f : ι → ℝ) : ∑ j, ind i j * f j = f i := by
  simp [ind_apply]

theorem sum_mul_ind (f : ι → ℝ) (j : ι) : ∑ k, f k * ind k j = f j := by
  simp [ind_apply]

theorem conjDiag_ind_mul_conjDiag {U : Matrix ι ι ℂ} (hU : Uᴴ * U = 1) (i : ι) (f : ι → ℝ) :
    conjDiag U (ind i) * conjDiag U f = (f i : ℂ) • conjDiag U (ind i) := by
  rw [conjDiag_mul hU, ← conjDiag_smul]
  exact conjDiag_congr U (ind_mul i f)

theorem conjDiag_mul_conjDiag_ind {U : Matrix ι ι ℂ} (hU : Uᴴ * U = 1) (i : ι) (f : ι → ℝ) :
    conjDiag U f * conjDiag U (ind i) = (f i : ℂ) • conjDiag U (ind i) :=
  (conjDiag_mul_comm hU f _).trans (conjDiag_ind_mul_conjDiag hU i f)

theorem trace_ind_mul_conjDiag {U : Matrix ι ι ℂ} (hU : Uᴴ * U = 1) (f : ι → ℝ) (i : ι) :
    (conjDiag U (ind i) * conjDiag U f).trace.re = f i := by
  rw [conjDiag_mul hU, conjDiag_trace_re hU, sum_ind_mul]

theorem trace_conjDiag_ind {U : Matrix ι ι ℂ} (hU : Uᴴ * U = 1) (i : ι) : (conjDiag U (ind i)).trace = 1 := by
  have h : ∑ j, ind i j = 1 := by simpa using sum_ind_mul i fun _ => 1
  rw [conjDiag_trace hU, ← Complex.ofReal_sum, h, Complex.ofReal_one]

theorem conjDiag_ind_posSemidef (U : Matrix ι ι ℂ) (i : ι) : (conjDiag U (ind i)).PosSemidef :=
  conjDiag_posSemidef U (ind_nonneg i)

theorem sqrtM_conjDiag {U : Matrix ι ι ℂ} (hU : Uᴴ * U = 1) {f : ι → ℝ} (hf : ∀ i, 0 ≤ f i) :
    sqrtM (conjDiag U f) = conjDiag U (fun i => Real.sqrt (f i)) := by
  refine sqrtM_unique (conjDiag_posSemidef U fun i => Real.sqrt_nonneg _) ?_
  rw [conjDiag_mul hU]
  exact conjDiag_congr U fun i => Real.mul_self_sqrt (hf i)

theorem trace_sqrtM_conjDiag {U : Matrix ι ι ℂ} (hU : Uᴴ * U = 1) {f : ι → ℝ} (hf : ∀ i, 0 ≤ f i) :
    (sqrtM (conjDiag U f)).trace.re = ∑ i, Real.sqrt (f i) := by
  rw [sqrtM_conjDiag hU hf, conjDiag_trace_re hU]

theorem conjDiag_posSemidef_iff {U : Matrix ι ι ℂ} (hU : Uᴴ * U = 1) {f : ι → ℝ} :
    (conjDiag U f).PosSemidef ↔ ∀ i, 0 ≤ f i :=
  ⟨fun h i => trace_ind_mul_conjDiag hU f i ▸ psd_trace_mul_nonneg (conjDiag_ind_posSemidef U i) h,
    conjDiag_posSemidef U⟩

theorem smul_conjDiag_add_smul_one {U : Matrix ι ι ℂ} (hU : Uᴴ * U = 1) (f : ι → ℝ) (a c : ℝ) :
    (a : ℂ) • conjDiag U f + (c : ℂ) • (1 : Matrix ι ι ℂ) = conjDiag U fun i => a * f i + c * 1 := by
  rw [← conjDiag_one hU, ← conjDiag_smul, ← conjDiag_smul, conjDiag_add]

/-- the characteristic polynomial of `S diag(λ) Sᴴ`, `S` an isometry, is `∏ (X − λ_i)` (complex `λ`) -/
theorem charpoly_of_diagonalisation {W S : Matrix ι ι ℂ} {lam : ι → ℂ} (hS : Sᴴ * S = 1) (hW : W = S * diagonal lam * Sᴴ) :
    W.charpoly = ∏ i, (Polynomial.X - Polynomial.C (lam i)) := by
  rw [hW, Matrix.mul_assoc, Matrix.charpoly_mul_comm, Matrix.mul_assoc, hS, Matrix.mul_one, Matrix.charpoly_diagonal]

end ConjDiag

section Cfc
variable {n : Type*} [Fintype n] [DecidableEq n] {A : Matrix n n ℂ} (hA : A.IsHermitian)

/-- Mathlib's `IsHermitian.cfc` is `conjDiag` in the eigenbasis -/
theorem hcfc_eq_conjDiag (g : ℝ → ℝ) :
    hA.cfc g = conjDiag (hA.eigenvectorUnitary : Matrix n n ℂ) (fun i => g (hA.eigenvalues i)) := by
  unfold Matrix.IsHermitian.cfc conjDiag
  rw [Unitary.conjStarAlgAut_apply]
  rfl

theorem eigenvectorUnitary_conjTranspose_mul_self :
    (hA.eigenvectorUnitary : Matrix n n ℂ)ᴴ * (hA.eigenvectorUnitary : Matrix n n ℂ) = 1 := by
  rw [← star_eq_conjTranspose]; exact Unitary.coe_star_mul_self _

theorem hcfc_mul (g h : ℝ → ℝ) : hA.cfc g * hA.cfc h = hA.cfc (fun t => g t * h t) := by
  simp only [hcfc_eq_conjDiag, conjDiag_mul (eigenvectorUnitary_conjTranspose_mul_self hA)]

theorem hcfc_congr (g h : ℝ → ℝ) (e : ∀ i, g (hA.eigenvalues i) = h (hA.eigenvalues i)) : hA.cfc g = hA.cfc h := by
  simp only [hcfc_eq_conjDiag, e]

theorem hcfc_mul_eq (g h k : ℝ → ℝ)
    (e : ∀ i, g (hA.eigenvalues i) * h (hA.eigenvalues i) = k (hA.eigenvalues i)) : hA.cfc g * hA.cfc h = hA.cfc k := by
  rw [hcfc_mul]
  exact hcfc_congr hA _ _ e

theorem hcfc_id : hA.cfc (fun t => t) = A := by
  conv_rhs => rw [hA.spectral_theorem]
  rfl

theorem hcfc_one : hA.cfc (fun _ => 1) = 1 := by
  rw [hcfc_eq_conjDiag, conjDiag_one (eigenvectorUnitary_conjTranspose_mul_self hA)]

theorem hcfc_sub (g h : ℝ → ℝ) : hA.cfc g - hA.cfc h = hA.cfc (fun t => g t - h t) := by
  simp only [hcfc_eq_conjDiag, conjDiag_sub]

theorem hcfc_isHermitian (g : ℝ → ℝ) : (hA.cfc g).IsHermitian := by
  rw [hcfc_eq_conjDiag]; exact conjDiag_isHermitian _ _

theorem hcfc_posSemidef (g : ℝ → ℝ) (hg : ∀ i, 0 ≤ g (hA.eigenvalues i)) : (hA.cfc g).PosSemidef := by
  rw [hcfc_eq_conjDiag]; exact conjDiag_posSemidef _ hg

end Cfc

section SpectralTheorem
variable {ι : Type*} [Fintype ι] [DecidableEq ι]

/-- spectral theorem in the form used here -/
theorem exists_conjDiag {H : Matrix ι ι ℂ} (hH : H.IsHermitian) :
    ∃ U : Matrix ι ι ℂ, Uᴴ * U = 1 ∧ H = conjDiag U hH.eigenvalues :=
  ⟨_, eigenvectorUnitary_conjTranspose_mul_self hH, (hcfc_id hH).symm.trans (hcfc_eq_conjDiag hH _)⟩

/-- the spectral theorem with the eigenvalues as a plain function (so that one can rewrite with the decomposition) -/
theorem exists_conjDiag_fun {H : Matrix ι ι ℂ} (hH : H.IsHermitian) :
    ∃ (U : Matrix ι ι ℂ) (lam : ι → ℝ), Uᴴ * U = 1 ∧ H = conjDiag U lam := by
  obtain ⟨U, hU, hHe⟩ := exists_conjDiag hH
  exact ⟨U, _, hU, hHe⟩

theorem exists_conjDiag_nonneg {M : Matrix ι ι ℂ} (hM : M.PosSemidef) :
    ∃ (U : Matrix ι ι ℂ) (lam : ι → ℝ), Uᴴ * U = 1 ∧ (∀ i, 0 ≤ lam i) ∧ M = conjDiag U lam := by
  obtain ⟨U, hU, hMe⟩ := exists_conjDiag hM.isHermitian
  exact ⟨U, _, hU, hM.eigenvalues_nonneg, hMe⟩

theorem trace_smul_one_sub_posSemidef {C : Matrix ι ι ℂ} (hC : C.PosSemidef) :
    ((C.trace.re : ℂ) • (1 : Matrix ι ι ℂ) - C).PosSemidef := by
  obtain ⟨U, lam, hU, hl, rfl⟩ := exists_conjDiag_nonneg hC
  rw [conjDiag_trace_re hU, ← conjDiag_one hU, ← conjDiag_smul, conjDiag_sub]
  refine conjDiag_posSemidef U fun i => ?_
  rw [mul_one, sub_nonneg]
  exact Finset.single_le_sum (fun j _ => hl j) (Finset.mem_univ i)

/-- `a·A + c·1 ⪰ 0` exactly when `a·λ + c ≥ 0` for every eigenvalue `λ` of the Hermitian matrix `A` -/
theorem posSemidef_smul_add_smul_one_iff {A : Matrix ι ι ℂ} (hA : A.IsHermitian) (a c : ℝ) :
    ((a : ℂ) • A + (c : ℂ) • (1 : Matrix ι ι ℂ)).PosSemidef ↔ ∀ i, 0 ≤ a * hA.eigenvalues i + c := by
  obtain ⟨U, hU, hAe⟩ := exists_conjDiag hA
  conv_lhs => rw [hAe, smul_conjDiag_add_smul_one hU, conjDiag_posSemidef_iff hU]
  simp only [mul_one]

theorem posSemidef_smul_one_sub_iff {A : Matrix ι ι ℂ} (hA : A.IsHermitian) (c : ℝ) :
    ((c : ℂ) • (1 : Matrix ι ι ℂ) - A).PosSemidef ↔ ∀ i, hA.eigenvalues i ≤ c := by
  have h := posSemidef_smul_add_smul_one_iff hA (-1) c
  rw [Complex.ofReal_neg, Complex.ofReal_one, neg_one_smul, neg_add_eq_sub] at h
  simpa [← sub_eq_neg_add] using h

/-- `A + t·1 ⪰ 0` exactly when every eigenvalue of the Hermitian `A` is `≥ −t` -/
theorem posSemidef_add_smul_one_iff {A : Matrix ι ι ℂ} (hA : A.IsHermitian) (t : ℝ) :
    (A + (t : ℂ) • (1 : Matrix ι ι ℂ)).PosSemidef ↔ ∀ i, -t ≤ hA.eigenvalues i := by
  have h := posSemidef_smul_add_smul_one_iff hA 1 t
  rw [Complex.ofReal_one, one_smul] at h
  exact h.trans (forall_congr' fun i => by rw [one_mul, neg_le_iff_add_nonneg])

/-- a positive definite matrix dominates a positive multiple of the identity (its least eigenvalue) -/
theorem _root_.Matrix.PosDef.exists_pos_smul_one_le {M : Matrix ι ι ℂ} (hM : M.PosDef) :
    ∃ δ : ℝ, 0 < δ ∧ (M - (δ : ℂ) • (1 : Matrix ι ι ℂ)).PosSemidef := by
  have hH := hM.isHermitian
  have key : ∀ δ : ℝ, (∀ i, δ ≤ hH.eigenvalues i) → (M - (δ : ℂ) • (1 : Matrix ι ι ℂ)).PosSemidef := by
    intro δ hδ
    have := (posSemidef_smul_add_smul_one_iff hH 1 (-δ)).mpr fun i => by linarith [hδ i]
    rwa [Complex.ofReal_one, one_smul, Complex.ofReal_neg, neg_smul, ← sub_eq_add_neg] at this
  obtain hr | hr := isEmpty_or_nonempty ι
  · exact ⟨1, one_pos, key 1 fun i => isEmptyElim i⟩
  · obtain ⟨i₀, h₀⟩ := Finite.exists_min hH.eigenvalues
    exact ⟨hH.eigenvalues i₀, hM.eigenvalues_pos i₀, key _ h₀⟩

/-- operator monotonicity of the square root in the form needed here: `K² ⪯ T²`, `T ⪰ 0`, `K` Hermitian give `K ⪯ T`.
With `D = T − K`, `P` the projector onto an eigenvector of `D` for the eigenvalue `μ`:
`0 ≤ tr(P (T² − K²)) = tr(P (T D + D T − D²)) = 2 μ tr(P T) − μ²`, which is negative for `μ < 0`. -/
theorem sub_posSemidef_of_sq_le_sq {K T : Matrix ι ι ℂ} (hK : K.IsHermitian) (hT : T.PosSemidef)
    (h : (T * T - K * K).PosSemidef) : (T - K).PosSemidef := by
  obtain ⟨V, mu, hV, hDe⟩ := exists_conjDiag_fun (hT.isHermitian.sub hK)
  rw [hDe]
  refine conjDiag_posSemidef V fun i => ?_
  set P := conjDiag V (ind i) with hP
  have hPD : P * (T - K) = ((mu i : ℝ) : ℂ) • P := by rw [hDe, hP, conjDiag_ind_mul_conjDiag hV]
  have hDP : (T - K) * P = ((mu i : ℝ) : ℂ) • P := by rw [hDe, hP, conjDiag_mul_conjDiag_ind hV]
  have hPtr : P.trace.re = 1 := by rw [trace_conjDiag_ind hV i, Complex.one_re]
  have ht : 0 ≤ (P * T).trace.re := psd_trace_mul_nonneg (conjDiag_ind_posSemidef V i) hT
  have hq : 0 ≤ (P * (T * T - K * K)).trace.re := psd_trace_mul_nonneg (conjDiag_ind_posSemidef V i) h
  have e : T * T - K * K = T * (T - K) + (T - K) * T - (T - K) * (T - K) := by
    simp only [Matrix.mul_sub, Matrix.sub_mul]; abel
  have e1 : (P * (T * (T - K))).trace = ((mu i : ℝ) : ℂ) * (P * T).trace := by
    rw [← Matrix.mul_assoc, Matrix.trace_mul_comm, ← Matrix.mul_assoc, hDP, Matrix.smul_mul, Matrix.trace_smul,
      smul_eq_mul]
  have e2 : (P * ((T - K) * T)).trace = ((mu i : ℝ) : ℂ) * (P * T).trace := by
    rw [← Matrix.mul_assoc, hPD, Matrix.smul_mul, Matrix.trace_smul, smul_eq_mul]
  have e3 : (P * ((T - K) * (T - K))).trace = ((mu i : ℝ) : ℂ) * (((mu i : ℝ) : ℂ) * P.trace) := by
    rw [← Matrix.mul_assoc, hPD, Matrix.smul_mul, hPD, Matrix.trace_smul, Matrix.trace_smul, smul_eq_mul, smul_eq_mul]
  rw [e, Matrix.mul_sub, Matrix.mul_add, Matrix.trace_sub, Matrix.trace_add, e1, e2, e3] at hq
  simp only [Complex.sub_re, Complex.add_re, Complex.re_ofReal_mul, hPtr] at hq
  -- for `μ < 0` the right side `2 μ tr(P T) − μ²` of `hq` is negative (`μ · tr(P T) ≤ 0`, `μ² > 0`)
  by_contra hneg
  rw [not_le] at hneg
  nlinarith [mul_nonneg ht (neg_nonneg.mpr hneg.le)]

end SpectralTheorem

/-- the positive square root is the function `√·` of `A` in the spectral calculus -/
theorem sqrtM_eq_hcfc {n : Type*} [Fintype n] [DecidableEq n] {A : Matrix n n ℂ} (hA : A.PosSemidef) : sqrtM A = hA.isHermitian.cfc Real.sqrt :=
  sqrtM_unique (hcfc_posSemidef hA.isHermitian _ fun _ => Real.sqrt_nonneg _)
    ((hcfc_mul_eq hA.isHermitian _ _ (fun t => t) fun i => Real.mul_self_sqrt (hA.eigenvalues_nonneg i)).trans
      (hcfc_id hA.isHermitian))

end Toq.Metrics

namespace Matrix.IsHermitian
open Toq.Metrics
variable {n : Type*} [Fintype n] [DecidableEq n] {A : Matrix n n ℂ} (hA : A.IsHermitian)

/-- `A⁺`: the inverse on the support (`x ↦ x⁻¹` on the spectrum, with `0⁻¹ = 0`) -/
noncomputable def pinv : Matrix n n ℂ := hA.cfc fun x => x⁻¹

/-- the projector `A A⁺` onto the support of `A` -/
noncomputable def suppProj : Matrix n n ℂ := hA.cfc fun x => x * x⁻¹

theorem pinv_isHermitian : hA.pinv.IsHermitian := hcfc_isHermitian hA _

theorem suppProj_isHermitian : hA.suppProj.IsHermitian := hcfc_isHermitian hA _

theorem suppProj_idem : hA.suppProj * hA.suppProj = hA.suppProj :=
  hcfc_mul_eq hA _ _ _ fun i => by rw [← mul_assoc, mul_inv_mul_cancel]

theorem posSemidef_one_sub_suppProj : (1 - hA.suppProj).PosSemidef :=
  posSemidef_one_sub_of_idem hA.suppProj_isHermitian hA.suppProj_idem

theorem mul_suppProj : A * hA.suppProj = A := by
  have := hcfc_mul_eq hA (fun x => x) (fun x => x * x⁻¹) (fun x => x) fun i => by rw [← mul_assoc, mul_self_mul_inv]
  rwa [hcfc_id] at this

theorem suppProj_mul : hA.suppProj * A = A := by
  have := hcfc_mul_eq hA (fun x => x * x⁻¹) (fun x => x) (fun x => x) fun i => by rw [mul_comm, ← mul_assoc, mul_self_mul_inv]
  rwa [hcfc_id] at this

theorem mul_pinv : A * hA.pinv = hA.suppProj := by
  have := hcfc_mul hA (fun x => x) fun x => x⁻¹
  rwa [hcfc_id] at this

theorem pinv_mul : hA.pinv * A = hA.suppProj := by
  have := hcfc_mul_eq hA (fun x => x⁻¹) (fun x => x) (fun x => x * x⁻¹) fun i => mul_comm _ _
  rwa [hcfc_id] at this

/-- `A⁺ A A⁺ = A⁺` -/
theorem pinv_mul_suppProj : hA.pinv * hA.suppProj = hA.pinv :=
  hcfc_mul_eq hA _ _ _ fun i => by by_cases hx : hA.eigenvalues i = 0 <;> simp [hx]

/-- Hermitian matrices with `A B = 0` have orthogonal supports -/
theorem suppProj_mul_suppProj_of_mul_eq_zero {B : Matrix n n ℂ} (hB : B.IsHermitian) (hAB : A * B = 0) :
    hA.suppProj * hB.suppProj = 0 := by
  rw [← hA.pinv_mul, ← hB.mul_pinv, Matrix.mul_assoc, ← Matrix.mul_assoc A B, hAB, Matrix.zero_mul, Matrix.mul_zero]

/-- the support of `σ ⪯ τ` lies in the support of `τ`: if `σ ⪰ 0` and `τ − σ ⪰ 0` then `Π σ Π = σ` for the support projector `Π` of `τ` -/
theorem suppProj_absorb {τ σ : Matrix n n ℂ} (hτ : τ.IsHermitian) (hσ : σ.PosSemidef) (hle : (τ - σ).PosSemidef) :
    hτ.suppProj * σ * hτ.suppProj = σ := by
  -- `0 ≤ tr(σ Q) ≤ tr(τ Q) = 0` for `Q = 1 − Π ⪰ 0`, hence `σ Q = 0`
  have hQ := hτ.posSemidef_one_sub_suppProj
  have hσQ : σ * (1 - hτ.suppProj) = 0 := by
    refine (psd_trace_mul_eq_zero_iff hσ hQ).mp (le_antisymm ?_ (psd_trace_mul_nonneg hσ hQ))
    have := psd_trace_mul_nonneg hle hQ
    rwa [Matrix.sub_mul, Matrix.mul_sub τ, Matrix.mul_one, hτ.mul_suppProj, sub_self, zero_sub, Matrix.trace_neg,
      Complex.neg_re, neg_nonneg] at this
  have h1 : σ * hτ.suppProj = σ := by
    rw [Matrix.mul_sub, Matrix.mul_one, sub_eq_zero] at hσQ
    exact hσQ.symm
  have h2 : hτ.suppProj * σ = σ := by
    have := congrArg Matrix.conjTranspose h1
    rwa [Matrix.conjTranspose_mul, hτ.suppProj_isHermitian.eq, hσ.1.eq] at this
  rw [h2, h1]

end Matrix.IsHermitian
