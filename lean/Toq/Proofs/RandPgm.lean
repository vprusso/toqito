import Toq.Proofs.RandBK
import Toq.Proofs.Spectral
/-!
# Pretty good measurement

The normaliser is `(√P)⁻¹`: it qualifies when `P` is positive definite, and nothing else does (`random_povm` builds one from an SVD,
`svd_normaliser`).  Barnum–Knill for `successProb`, hence `P_opt² ≤ P_pgm ≤ P_opt`.
-/

open Matrix
open scoped ComplexOrder MatrixOrder

namespace Toq.Rand
open Toq.Metrics (sqrtM sqrtM_posSemidef sqrtM_unique sqrtM_inv_conj_self)

variable {ι : Type*} [Fintype ι] [DecidableEq ι] {κ : Type*} [Fintype κ]

theorem eq_sqrtM_inv_of_conj_eq_one {S P : Matrix ι ι ℂ} (hS : S.PosSemidef) (h : S * P * S = 1) : S = (sqrtM P)⁻¹ := by
  obtain ⟨a, -, -, d⟩ := normaliser_inverse hS.isHermitian.eq h
  -- the inverse `P S` of `S` is a positive semidefinite square root of `P`
  have c : (P * S).PosSemidef := by rw [← inv_eq_right_inv a]; exact hS.inv
  rw [sqrtM_unique c d]
  exact (inv_eq_left_inv a).symm

theorem inv_sqrt_exists (P : Matrix ι ι ℂ) (hP : P.PosDef) : ∃ S : Matrix ι ι ℂ, S.PosSemidef ∧ S * P * S = 1 :=
  ⟨(sqrtM P)⁻¹, (sqrtM_posSemidef P).inv, sqrtM_inv_conj_self hP⟩

/-- the normaliser `random_povm` builds from the SVD of `S = Σ_y A_yᴴ A_y`: `Wᴴ S W = diag(s^{-1/2}) diag(s) diag(s^{-1/2}) = 1` -/
theorem svd_normaliser (U : Matrix ι ι ℂ) (s : ι → ℝ) (hU : Uᴴ * U = 1) (hs : ∀ i, 0 < s i) :
    (U * diagonal fun j => (((Real.sqrt (s j))⁻¹ : ℝ) : ℂ))ᴴ * (U * diagonal (fun i => (s i : ℂ)) * Uᴴ)
      * (U * diagonal fun j => (((Real.sqrt (s j))⁻¹ : ℝ) : ℂ)) = 1 := by
  set D := diagonal (fun j => (((Real.sqrt (s j))⁻¹ : ℝ) : ℂ)) with hD
  have hDh : Dᴴ = D := by
    rw [hD, diagonal_conjTranspose]; congr 1; ext j; simp
  rw [conjTranspose_mul, hDh]
  have : D * Uᴴ * (U * diagonal (fun i => (s i : ℂ)) * Uᴴ) * (U * D)
      = D * (Uᴴ * U) * diagonal (fun i => (s i : ℂ)) * (Uᴴ * U) * D := by
    simp only [Matrix.mul_assoc]
  rw [this, hU, Matrix.mul_one, Matrix.mul_one, hD, diagonal_mul_diagonal, diagonal_mul_diagonal, ← diagonal_one]
  congr 1; ext j
  have : ((Real.sqrt (s j))⁻¹ * s j * (Real.sqrt (s j))⁻¹ : ℝ) = 1 := by
    rw [mul_right_comm, ← mul_inv, Real.mul_self_sqrt (hs j).le, inv_mul_cancel₀ (hs j).ne']
  exact_mod_cast this

theorem barnum_knill_successProb (ρ : κ → Matrix ι ι ℂ) (p : κ → ℝ) (S : Matrix ι ι ℂ) (M : κ → Matrix ι ι ℂ)
    (hρ : ∀ i, (ρ i).PosSemidef) (hp : ∀ i, 0 ≤ p i) (hS : S.PosSemidef)
    (hSPS : S * (∑ i, (p i : ℂ) • ρ i) * S = 1) (hM : IsPOVM M) :
    successProb ρ p M ^ 2 ≤ successProb ρ p (pgmOf ρ p S) * (∑ i, (p i : ℂ) • ρ i).trace.re := by
  rw [← Discrim.meVal_smul, ← Discrim.meVal_smul]
  exact barnum_knill (fun i => (p i : ℂ) • ρ i) M S (fun i => (hρ i).smul_ofReal (hp i)) hS hSPS hM

theorem pgm_between (ρ : κ → Matrix ι ι ℂ) (p : κ → ℝ) (S : Matrix ι ι ℂ)
    (hρ : ∀ i, (ρ i).PosSemidef) (hp : ∀ i, 0 ≤ p i) (hS : S.PosSemidef)
    (hSPS : S * (∑ i, (p i : ℂ) • ρ i) * S = 1) (htr : (∑ i, (p i : ℂ) • ρ i).trace.re = 1)
    (opt : ℝ) (hopt : IsLUB (successValues ρ p) opt) :
    opt ^ 2 ≤ successProb ρ p (pgmOf ρ p S) ∧ successProb ρ p (pgmOf ρ p S) ≤ opt := by
  have hpovm : IsPOVM (pgmOf ρ p S) := pgm_is_povm ρ p S hρ hp hS.isHermitian.eq hSPS
  have hbk : ∀ M, IsPOVM M → successProb ρ p M ^ 2 ≤ successProb ρ p (pgmOf ρ p S) := by
    intro M hM
    have := barnum_knill_successProb ρ p S M hρ hp hS hSPS hM
    rwa [htr, mul_one] at this
  have hle : successProb ρ p (pgmOf ρ p S) ≤ opt := hopt.1 ⟨_, hpovm, rfl⟩
  have hpg0 : 0 ≤ successProb ρ p (pgmOf ρ p S) := (sq_nonneg _).trans (hbk _ hpovm)
  -- every attainable value is at most `√P_pgm`, hence so is their least upper bound
  have hub : opt ≤ Real.sqrt (successProb ρ p (pgmOf ρ p S)) :=
    hopt.2 (by rintro v ⟨M, hM, rfl⟩; exact Real.le_sqrt_of_sq_le (hbk M hM))
  exact ⟨(Real.le_sqrt (hpg0.trans hle) hpg0).mp hub, hle⟩

end Toq.Rand
