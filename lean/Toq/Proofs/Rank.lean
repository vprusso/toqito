import Toq.Core.Rank
import Toq.Proofs.Cert
import Toq.Proofs.FnMat
import Mathlib.LinearAlgebra.Matrix.Rank
import Mathlib.LinearAlgebra.Matrix.Block
import Mathlib.LinearAlgebra.Matrix.Determinant.Basic
/-!
# Correctness of the exact rank routine `Toq.Rank.rankE` (Gaussian elimination over `ℚ[i]`)

Over any field `K`: the echelon invariant `Echelon A B r k piv` — `B = P·A` with `P` invertible, the rows `≥ r`
of `B` vanish on the columns `< k`, and the `t`-th pivot column has a non-zero entry in row `t` and zeros
below.  It is preserved by permuting the rows `≥ r` and by clearing a column below a pivot, and at
`k = #columns` it gives `rank A = r` (at most `r` non-zero rows; the `r × r` block on the pivot columns is
upper triangular with non-zero diagonal) and the independence of the pivot columns of `A`.

The executable elimination on `EMat` denotes exactly these matrix operations on `A.toM`, hence
`rankE A = A.toM.rank`; the same for the routines on entry functions `Nat → Nat → QI` that C06, C14 and C16 call (`rankFn`, `pivotsFn`,
read through `fnToM` of `Proofs/FnMat`).

Between the two stand the facts about Mathlib's `Matrix.rank` over a field that the users of the routine need: the rank against
independence of columns and rows, against the kernel (rank–nullity), a witness `P S Q = 1` of `r ≤ rank S`, and rank zero.
-/

open Matrix

namespace Toq.Rank

section Abstract
variable {K : Type*} [Field K] {n m : Nat}

/-- clear column `c` below row `r` with the pivot `X r c` -/
def elimBelow (X : Matrix (Fin n) (Fin m) K) (r : Fin n) (c : Fin m) : Matrix (Fin n) (Fin m) K :=
  fun i j => if i.val ≤ r.val then X i j else X i j - X i c * (X r c)⁻¹ * X r j

/-- the unit lower triangular matrix of the row operations of `elimBelow` -/
def elimMat (X : Matrix (Fin n) (Fin m) K) (r : Fin n) (c : Fin m) : Matrix (Fin n) (Fin n) K :=
  fun i l => (if i = l then 1 else 0) - (if r.val < i.val ∧ l = r then X i c * (X r c)⁻¹ else 0)

section RowOperation
variable (X : Matrix (Fin n) (Fin m) K) (r : Fin n) (c : Fin m)

theorem elimBelow_of_le {i : Fin n} (h : i.val ≤ r.val) (j : Fin m) : elimBelow X r c i j = X i j :=
  if_pos h

/-- a column in which the pivot row vanishes is left as it is -/
theorem elimBelow_of_row_eq_zero {j : Fin m} (h : X r j = 0) (i : Fin n) : elimBelow X r c i j = X i j := by
  unfold elimBelow
  rw [h, mul_zero, sub_zero, ite_self]

theorem elimBelow_pivot_col (hne : X r c ≠ 0) {i : Fin n} (h : r.val < i.val) : elimBelow X r c i c = 0 := by
  unfold elimBelow
  rw [if_neg (Nat.not_le.mpr h), inv_mul_cancel_right₀ hne, sub_self]

theorem elimMat_mul : elimMat X r c * X = elimBelow X r c := by
  ext i j
  simp only [Matrix.mul_apply, elimMat, elimBelow, sub_mul, Finset.sum_sub_distrib, ite_mul, one_mul, zero_mul,
    Finset.sum_ite_eq, Finset.mem_univ, if_true, ite_and]
  by_cases h : i.val ≤ r.val
  · simp only [if_pos h, if_neg (Nat.not_lt.mpr h), Finset.sum_const_zero, sub_zero]
  · simp only [if_neg h, if_pos (Nat.not_le.mp h), Finset.sum_ite_eq', Finset.mem_univ, if_true]

theorem det_elimMat : (elimMat X r c).det = 1 := by
  have hlow : (elimMat X r c).IsLowerTriangular := fun i l (hil : i < l) => by
    simp only [elimMat]
    rw [if_neg hil.ne, if_neg (by rintro ⟨h, rfl⟩; omega), sub_zero]
  rw [Matrix.det_of_isLowerTriangular _ hlow]
  refine Finset.prod_eq_one fun i _ => ?_
  simp only [elimMat]
  rw [if_true, if_neg (by rintro ⟨h, rfl⟩; omega), sub_zero]

end RowOperation

structure Echelon (A B : Matrix (Fin n) (Fin m) K) (r k : Nat) (piv : List (Fin m)) : Prop where
  hP : ∃ P : Matrix (Fin n) (Fin n) K, IsUnit P.det ∧ B = P * A
  hr : r ≤ n
  hlen : piv.length = r
  hzero : ∀ (i : Fin n) (j : Fin m), r ≤ i.val → j.val < k → B i j = 0
  hpiv : ∀ (t : Nat) (ht : t < piv.length) (i : Fin n),
    (i.val = t → B i piv[t] ≠ 0) ∧ (t < i.val → B i piv[t] = 0)

variable {A B : Matrix (Fin n) (Fin m) K} {r k : Nat} {piv : List (Fin m)}

theorem Echelon.init (A : Matrix (Fin n) (Fin m) K) : Echelon A A 0 0 [] where
  hP := ⟨1, by simp, by simp⟩
  hr := Nat.zero_le _
  hlen := rfl
  hzero := fun _ _ _ h => absurd h (Nat.not_lt_zero _)
  hpiv := fun _ ht => absurd ht (Nat.not_lt_zero _)

/-- no pivot in column `k`: the zero block grows by one column -/
theorem Echelon.skip (h : Echelon A B r k piv) (c : Fin m) (hc : c.val = k) (h0 : ∀ i : Fin n, r ≤ i.val → B i c = 0) :
    Echelon A B r (k + 1) piv :=
  { h with
    hzero := fun i j hi hj => by
      rcases Nat.lt_succ_iff_lt_or_eq.mp hj with hj | hj
      · exact h.hzero i j hi hj
      · rw [Fin.ext (hj.trans hc.symm)]; exact h0 i hi }

/-- a permutation of the rows that moves none of the first `r` preserves the invariant -/
theorem Echelon.permute (h : Echelon A B r k piv) (σ : Equiv.Perm (Fin n)) (hσ : ∀ i : Fin n, i.val < r → σ i = i) :
    Echelon A (B.submatrix σ id) r k piv := by
  -- rows `≥ r` stay `≥ r`: a row sent below `r` would be sent where that row already goes
  have hσ' : ∀ i : Fin n, r ≤ i.val → r ≤ (σ i).val := fun i hi => by
    by_contra hlt
    rw [σ.injective (hσ (σ i) (Nat.not_le.mp hlt))] at hlt
    exact hlt hi
  obtain ⟨P, hP, rfl⟩ := h.hP
  exact
    { hP := ⟨P.submatrix σ id, by
        rw [Matrix.det_permute]
        exact ((Equiv.Perm.sign σ).isUnit.map (Int.castRingHom K)).mul hP, rfl⟩
      hr := h.hr
      hlen := h.hlen
      hzero := fun i j hi => h.hzero _ j (hσ' i hi)
      hpiv := fun t ht i => by
        have htr : t < r := h.hlen ▸ ht
        rw [Matrix.submatrix_apply, id]
        refine ⟨fun hi => ?_, fun hi => ?_⟩
        · rw [hσ i (hi ▸ htr)]; exact (h.hpiv t ht i).1 hi
        · rcases Nat.lt_or_ge i.val r with hir | hir
          · rw [hσ i hir]; exact (h.hpiv t ht i).2 hi
          · exact (h.hpiv t ht _).2 (htr.trans_le (hσ' i hir)) }

/-- clearing column `k` below the non-zero pivot in row `r` gives the invariant for `r + 1`, `k + 1` -/
theorem Echelon.elim (h : Echelon A B r k piv) (hr : r < n) (c : Fin m) (hc : c.val = k) (hne : B ⟨r, hr⟩ c ≠ 0) :
    Echelon A (elimBelow B ⟨r, hr⟩ c) (r + 1) (k + 1) (piv ++ [c]) := by
  refine { hP := ?hP, hr := hr, hlen := by simp [h.hlen], hzero := fun i j hi hj => ?hzero, hpiv := fun t ht i => ?hpiv }
  case hP =>
    obtain ⟨P, hP, rfl⟩ := h.hP
    exact ⟨elimMat (P * A) ⟨r, hr⟩ c * P, by rwa [Matrix.det_mul, det_elimMat, one_mul],
      by rw [Matrix.mul_assoc, elimMat_mul]⟩
  case hzero =>
    rcases Nat.lt_succ_iff_lt_or_eq.mp hj with hj | hj
    · rw [elimBelow_of_row_eq_zero _ _ _ (h.hzero _ j (le_refl r) hj)]
      exact h.hzero i j (Nat.le_of_succ_le hi) hj
    · rw [Fin.ext (hj.trans hc.symm)]; exact elimBelow_pivot_col _ _ _ hne hi
  case hpiv =>
    rw [List.length_append, List.length_singleton, h.hlen] at ht
    rcases Nat.lt_succ_iff_lt_or_eq.mp ht with htr | rfl
    · -- an earlier pivot column: the pivot row vanishes there
      have ht' : t < piv.length := h.hlen ▸ htr
      rw [List.getElem_append_left ht', elimBelow_of_row_eq_zero _ _ _ ((h.hpiv t ht' ⟨r, hr⟩).2 htr)]
      exact h.hpiv t ht' i
    · rw [List.getElem_append_right h.hlen.le]
      simp only [h.hlen, Nat.sub_self, List.getElem_singleton]
      refine ⟨fun hi => ?_, elimBelow_pivot_col _ _ _ hne⟩
      rw [elimBelow_of_le _ _ _ hi.le, Fin.ext hi (b := ⟨t, hr⟩)]; exact hne

/-- the rows `< r` of an echelon matrix, restricted to its pivot columns, form an upper triangular block
with non-zero diagonal -/
theorem Echelon.det_block_ne_zero (h : Echelon A B r k piv) :
    (B.submatrix (Fin.castLE (h.hlen.trans_le h.hr)) piv.get).det ≠ 0 := by
  have hup : (B.submatrix (Fin.castLE (h.hlen.trans_le h.hr)) piv.get).IsUpperTriangular :=
    fun i j hji => (h.hpiv j.val j.isLt _).2 (Fin.lt_def.mp hji)
  rw [Matrix.det_of_isUpperTriangular hup, Finset.prod_ne_zero_iff]
  exact fun t _ => (h.hpiv t.val t.isLt _).1 rfl

/-- the pivot columns of an echelon matrix have full column rank -/
theorem Echelon.rank_right_pivot_columns (h : Echelon A B r k piv) : (B.submatrix id piv.get).rank = piv.length := by
  apply le_antisymm ((Matrix.rank_le_card_width _).trans_eq (Fintype.card_fin _))
  have hb := Matrix.rank_of_det_ne_zero h.det_block_ne_zero
  rw [Fintype.card_fin] at hb
  exact hb.symm.trans_le (Matrix.rank_submatrix_le (B.submatrix id piv.get) _ id)

/-- once all columns are processed the echelon matrix has rank `r`: only the first `r` rows are non-zero,
and the pivot columns have rank `r` -/
theorem Echelon.rank_right (h : Echelon A B r m piv) : B.rank = r := by
  apply le_antisymm
  · refine (Matrix.rank_le_card_of_support_subset B (Finset.univ.filter (·.val < r)) fun i hi => ?_).trans
      (Fin.card_filter_val_lt.trans_le (min_le_right n r))
    exact Finset.mem_filter.mpr
      ⟨Finset.mem_univ i, Nat.lt_of_not_le fun hri => hi (funext fun j => h.hzero i j hri j.isLt)⟩
  · rw [← h.hlen, ← h.rank_right_pivot_columns]
    exact Matrix.rank_submatrix_le _ _ _

/-- row operations change the rank of no selection of columns -/
theorem Echelon.rank_columns (h : Echelon A B r k piv) {l : Nat} (f : Fin l → Fin m) :
    (A.submatrix id f).rank = (B.submatrix id f).rank := by
  obtain ⟨P, hP, rfl⟩ := h.hP
  exact (Matrix.rank_mul_eq_right_of_isUnit_det P (A.submatrix id f) hP).symm

theorem Echelon.rank_left (h : Echelon A B r m piv) : A.rank = r :=
  (h.rank_columns id).trans h.rank_right

theorem Echelon.rank_left_pivot_columns (h : Echelon A B r k piv) : (A.submatrix id piv.get).rank = piv.length :=
  (h.rank_columns _).trans h.rank_right_pivot_columns

end Abstract

/-! ### rank, independence of columns and the kernel (over any field) -/

/-- the columns of a matrix over a field are linearly independent iff the rank is the number of columns -/
theorem _root_.Matrix.linearIndependent_col_iff_rank {K d : Type*} [Field K] [Fintype d] {n : Nat} (M : Matrix d (Fin n) K) :
    LinearIndependent K M.col ↔ M.rank = n := by
  rw [linearIndependent_iff_card_eq_finrank_span, Matrix.rank_eq_finrank_span_cols, Fintype.card_fin, Set.finrank]
  exact eq_comm

/-- a left and a right factor that bring `S` to the `r × r` identity witness `r ≤ rank S` -/
theorem _root_.Matrix.le_rank_of_mul_mul_eq_one {K : Type*} [Field K] {R C r : Nat} (S : Matrix (Fin R) (Fin C) K) (P : Matrix (Fin r) (Fin R) K)
    (Q : Matrix (Fin C) (Fin r) K) (h : P * (S * Q) = 1) : r ≤ S.rank :=
  calc r = (1 : Matrix (Fin r) (Fin r) K).rank := by rw [Matrix.rank_one, Fintype.card_fin]
    _ = (P * (S * Q)).rank := by rw [h]
    _ ≤ (S * Q).rank := Matrix.rank_mul_le_right _ _
    _ ≤ S.rank := Matrix.rank_mul_le_left _ _

theorem _root_.Matrix.rank_mul_le_inner {K m n : Type*} [Field K] [Fintype m] [Fintype n] {r : ℕ} (B : Matrix m (Fin r) K)
    (C : Matrix (Fin r) n K) : (B * C).rank ≤ r :=
  (Matrix.rank_mul_le_left _ _).trans ((Matrix.rank_le_card_width _).trans (Fintype.card_fin r).le)

theorem _root_.Matrix.rank_eq_of_mul_of_inv {K : Type*} [Field K] {n m r : ℕ} {A : Matrix (Fin n) (Fin m) K}
    {B : Matrix (Fin n) (Fin r) K} {C : Matrix (Fin r) (Fin m) K} {L : Matrix (Fin r) (Fin n) K} {R : Matrix (Fin m) (Fin r) K}
    (h1 : A = B * C) (h2 : L * A * R = 1) : A.rank = r :=
  le_antisymm (h1 ▸ Matrix.rank_mul_le_inner B C)
    (Matrix.le_rank_of_mul_mul_eq_one A L R (by rw [← Matrix.mul_assoc]; exact h2))

theorem _root_.Matrix.rank_mul_mul_transpose_of_isUnit_det {K m n : Type*} [Field K] [Fintype m] [Fintype n] [DecidableEq m]
    [DecidableEq n] (U : Matrix m m K) (V : Matrix n n K) (A : Matrix m n K) (hU : IsUnit U.det) (hV : IsUnit V.det) :
    (U * A * Vᵀ).rank = A.rank := by
  rw [Matrix.rank_mul_eq_left_of_isUnit_det Vᵀ (U * A) (by rwa [Matrix.det_transpose]),
    Matrix.rank_mul_eq_right_of_isUnit_det U A hU]

theorem _root_.Matrix.linearIndependent_col_of_mul_eq_one {K d : Type*} [Field K] [Fintype d] {n : Nat} {V : Matrix d (Fin n) K}
    {W : Matrix (Fin n) d K} (h : W * V = 1) : LinearIndependent K V.col :=
  Matrix.mulVec_injective_iff.mp
    (Function.LeftInverse.injective (g := W.mulVec) fun x => by rw [Matrix.mulVec_mulVec, h, Matrix.one_mulVec])

theorem _root_.Matrix.not_linearIndependent_col_of_mulVec_eq_zero {K d : Type*} [Field K] {n : Nat} {V : Matrix d (Fin n) K} {c : Fin n → K}
    (hc : c ≠ 0) (h : V *ᵥ c = 0) : ¬ LinearIndependent K V.col := fun hli =>
  hc (Matrix.mulVec_injective_iff.mpr hli (h.trans (Matrix.mulVec_zero V).symm))

/-- the rows of a matrix over a field are linearly independent iff the rank is the number of rows -/
theorem _root_.Matrix.linearIndependent_row_iff_rank {K c : Type*} [Field K] [Fintype c] {r : Nat} (M : Matrix (Fin r) c K) :
    LinearIndependent K M.row ↔ M.rank = r := by
  rw [← Matrix.rank_transpose, ← linearIndependent_col_iff_rank, Matrix.col_transpose]

/-- the rank is smaller than the number of columns iff the matrix has a non-zero kernel vector -/
theorem _root_.Matrix.rank_lt_cols_iff_kernel {K : Type*} [Field K] {r c : Nat} (M : Matrix (Fin r) (Fin c) K) :
    M.rank < c ↔ ∃ x : Fin c → K, x ≠ 0 ∧ M *ᵥ x = 0 := by
  rw [(Matrix.rank_le_width M).lt_iff_ne, Ne, ← linearIndependent_col_iff_rank, ← Matrix.mulVec_injective_iff,
    ← Matrix.coe_mulVecLin, injective_iff_map_eq_zero]
  simp only [not_forall, exists_prop, Matrix.mulVecLin_apply, and_comm]

/-- rank–nullity: the kernel of a `r × c` matrix has dimension `c − rank` -/
theorem _root_.Matrix.finrank_ker_eq {K : Type*} [Field K] {r c : Nat} (M : Matrix (Fin r) (Fin c) K) :
    Module.finrank K (LinearMap.ker M.mulVecLin) = c - M.rank := by
  have h := M.mulVecLin.finrank_range_add_finrank_ker
  rw [Module.finrank_fin_fun] at h
  exact Nat.eq_sub_of_add_eq' h

/-- a rank certificate: `P S Q = 1_r` gives `r ≤ rank S`, `S N = 0` with `M N = 1_k` gives `k ≤ dim ker S` (the range of `N` lies in the
    kernel and has dimension `k`); with `r + k` the number of columns, rank–nullity makes both equalities -/
theorem _root_.Matrix.rank_eq_and_finrank_ker_eq_of_cert {K : Type*} [Field K] {R C r k : Nat} {S : Matrix (Fin R) (Fin C) K}
    {P : Matrix (Fin r) (Fin R) K} {Q : Matrix (Fin C) (Fin r) K} {N : Matrix (Fin C) (Fin k) K} {M : Matrix (Fin k) (Fin C) K}
    (hrk : r + k = C) (hP : P * (S * Q) = 1) (hN : S * N = 0) (hM : M * N = 1) :
    S.rank = r ∧ Module.finrank K (LinearMap.ker S.mulVecLin) = k := by
  have h1 : r ≤ S.rank := le_rank_of_mul_mul_eq_one _ _ _ hP
  have h2 : k ≤ N.rank := le_rank_of_mul_mul_eq_one _ M 1 (by rw [Matrix.mul_one]; exact hM)
  have h3 : LinearMap.range N.mulVecLin ≤ LinearMap.ker S.mulVecLin := by
    rintro _ ⟨v, rfl⟩
    rw [LinearMap.mem_ker, Matrix.mulVecLin_apply, Matrix.mulVecLin_apply, Matrix.mulVec_mulVec, hN, Matrix.zero_mulVec]
  have h4 : k ≤ Module.finrank K (LinearMap.ker S.mulVecLin) := h2.trans (Submodule.finrank_mono h3)
  have h5 := finrank_ker_eq S
  have h6 := Matrix.rank_le_width S
  omega

/-- a matrix of rank zero is zero -/
theorem _root_.Matrix.eq_zero_of_rank_eq_zero {K m n : Type*} [Field K] [Fintype n] (A : Matrix m n K) (h : A.rank = 0) : A = 0 := by
  refine Matrix.mulVec_injective (funext fun x => ?_)
  have h0 : LinearMap.range A.mulVecLin = ⊥ := Submodule.finrank_eq_zero.mp h
  rw [Matrix.zero_mulVec, ← Matrix.mulVecLin_apply, ← Submodule.mem_bot K, ← h0]
  exact ⟨x, rfl⟩

section Exec
variable {n m : Nat}

theorem toC_qinv (a : QI) : (qinv a).toC = (a.toC)⁻¹ := by
  apply Complex.ext
  · simp [qinv, Complex.inv_re, Complex.normSq_apply]
  · simp [qinv, Complex.inv_im, Complex.normSq_apply]

theorem findPivot_none {A : EMat n m} {r : Nat} {c : Fin m} (h : findPivot A r c = none) (i : Fin n) (hi : r ≤ i.val) :
    A.toM i c = 0 := by
  have := List.find?_eq_none.mp h i (List.mem_finRange i)
  simp only [hi, decide_true, Bool.true_and, bne_iff_ne, ne_eq, not_not] at this
  rw [EMat.toM_apply, this, QI.toC_zero]

theorem findPivot_some {A : EMat n m} {r : Nat} {c : Fin m} {p : Fin n} (h : findPivot A r c = some p) :
    r ≤ p.val ∧ A.toM p c ≠ 0 := by
  have := List.find?_some h
  simp only [Bool.and_eq_true, decide_eq_true_eq, bne_iff_ne, ne_eq] at this
  exact ⟨this.1, fun h0 => this.2 ((QI.toC_eq_zero_iff _).mp h0)⟩

theorem get_elimRows (A : EMat n m) (r p : Fin n) (c : Fin m) (i : Fin n) (j : Fin m) :
    (elimRows A r p c).get i j =
      if i.val ≤ r.val then A.get (swapIdx r p i) j
      else if A.get (swapIdx r p i) c * qinv (A.get p c) = 0 then A.get (swapIdx r p i) j
      else A.get (swapIdx r p i) j - A.get (swapIdx r p i) c * qinv (A.get p c) * A.get p j := by
  unfold elimRows
  rw [EMat.get_mk_ofFn]
  dsimp only
  unfold EMat.get
  -- the three branches of the definition: a row above the pivot or with a vanishing factor is kept, the others are rebuilt entrywise
  split_ifs
  · rfl
  · rfl
  · exact Vector.getElem_ofFn _

theorem toM_elimRows (A : EMat n m) (r p : Fin n) (c : Fin m) :
    (elimRows A r p c).toM = elimBelow (A.toM.submatrix (Equiv.swap r p) id) r c := by
  ext i j
  have hs : swapIdx r p i = Equiv.swap r p i := by rw [Equiv.swap_apply_def]; rfl
  have hp : Equiv.swap r p r = p := Equiv.swap_apply_left r p
  simp only [EMat.toM_apply, elimBelow, Matrix.submatrix_apply, id, hp, ← hs, get_elimRows]
  by_cases h1 : i.val ≤ r.val
  · rw [if_pos h1, if_pos h1]
  · rw [if_neg h1, if_neg h1, apply_ite QI.toC, QI.toC_sub, QI.toC_mul, QI.toC_mul, toC_qinv]
    split_ifs with h2
    · -- a vanishing factor: the row is kept, which is what subtracting `0` times the pivot row gives
      have h3 := congrArg QI.toC h2
      rw [QI.toC_mul, toC_qinv, QI.toC_zero] at h3
      rw [h3, zero_mul, sub_zero]
    · rfl

/-- the elimination state denotes an echelon form of `A.toM` -/
theorem run_inv (A : EMat n m) (k : Nat) (hk : k ≤ m) :
    Echelon A.toM (run A k).M.toM (run A k).r k (run A k).piv := by
  induction k with
  | zero => exact Echelon.init _
  | succ k ih =>
    have ih := ih (by omega)
    have hkm : k < m := hk
    simp only [run, dif_pos hkm, step]
    cases hf : findPivot (run A k).M (run A k).r ⟨k, hkm⟩ with
    | none => exact ih.skip ⟨k, hkm⟩ rfl (fun i hi => findPivot_none hf i hi)
    | some p =>
      obtain ⟨hp1, hp2⟩ := findPivot_some hf
      have hr : (run A k).r < n := lt_of_le_of_lt hp1 p.isLt
      simp only [dif_pos hr]
      rw [toM_elimRows]
      refine (ih.permute (Equiv.swap ⟨_, hr⟩ p) fun i hi => ?_).elim hr ⟨k, hkm⟩ rfl ?_
      · exact Equiv.swap_apply_of_ne_of_ne (Fin.ne_of_lt hi) (Fin.ne_of_lt (hi.trans_le hp1))
      · rwa [Matrix.submatrix_apply, Equiv.swap_apply_left]

theorem rankE_eq_rank (A : EMat n m) : rankE A = A.toM.rank :=
  ((run_inv A m (le_refl _)).rank_left).symm

theorem pivotsE_length (A : EMat n m) : (pivotsE A).length = A.toM.rank := by
  rw [← rankE_eq_rank]; exact (run_inv A m (le_refl _)).hlen

/-- the pivot columns of `A` have full column rank (and there are `rank A` of them): a basis of the column space -/
theorem pivotsE_rank_columns (A : EMat n m) :
    (A.toM.submatrix id (fun t : Fin (pivotsE A).length => (pivotsE A)[t.val])).rank = (pivotsE A).length :=
  (run_inv A m (le_refl _)).rank_left_pivot_columns

end Exec

theorem pivotsE_linearIndependent {n m : Nat} (A : EMat n m) :
    LinearIndependent ℂ (fun t : Fin (pivotsE A).length => A.toM.col ((pivotsE A)[t.val])) :=
  (linearIndependent_col_iff_rank _).mpr (pivotsE_rank_columns A)

/-! ### the routines on entry functions: `EMat.ofFn` of an entry function denotes `fnToM` of it -/

theorem toM_ofFn_val (n m : Nat) (f : Nat → Nat → QI) :
    (EMat.ofFn (n := n) (m := m) fun i j => f i.val j.val).toM = fnToM n m f := by
  ext i j; simp [fnToM]

/-- **the exact rank routine is correct**: it returns Mathlib's rank of the denoted complex matrix -/
theorem rankFn_eq_rank (n m : Nat) (f : Nat → Nat → QI) : rankFn n m f = (fnToM n m f).rank := by
  unfold rankFn; rw [rankE_eq_rank, toM_ofFn_val]

theorem pivotsFn_length (n m : Nat) (f : Nat → Nat → QI) : (pivotsFn n m f).length = (fnToM n m f).rank := by
  unfold pivotsFn; rw [List.length_map, pivotsE_length, toM_ofFn_val]

theorem pivotsFn_lt (n m : Nat) (f : Nat → Nat → QI) : ∀ q ∈ pivotsFn n m f, q < m := by
  intro q hq
  unfold pivotsFn at hq
  obtain ⟨x, _, rfl⟩ := List.mem_map.mp hq
  exact x.isLt

/-- the pivot columns (as columns of the function matrix) are linearly independent -/
theorem pivotsFn_linearIndependent (n m : Nat) (f : Nat → Nat → QI) :
    LinearIndependent ℂ (fun t : Fin (pivotsFn n m f).length => fun i : Fin n => (f i.val ((pivotsFn n m f)[t.val])).toC) := by
  have hl : (pivotsFn n m f).length = (pivotsE (EMat.ofFn (n := n) (m := m) fun i j => f i.val j.val)).length :=
    List.length_map _
  convert (pivotsE_linearIndependent _).comp (Fin.cast hl) (Fin.cast_injective hl) using 1
  funext t i
  simp only [pivotsFn, List.getElem_map]
  exact congrArg QI.toC (EMat.get_ofFn (fun i j => f i.val j.val) i _).symm

end Toq.Rank
