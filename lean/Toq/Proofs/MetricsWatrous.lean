import Toq.Proofs.MetricsClassical
/-!
# Watrous' theorem: the fidelity program computes the closed form `tr √(√ρ σ √ρ)`, for all positive semidefinite pairs

* `docFid` is the documented closed form (with the matrix square root `sqrtM`); `exists_rootConj_spectral` expresses `docFid`, `tr(ρσ)`,
  `tr(ρσρσ)` through the eigenvalues of `√ρ σ √ρ`, whence `sub-fidelity ≤ F²` from the scalar inequality `subfid_scalar`.
* `docFid_le_fidV`: the closed form is attained, at the feasible point `X = √ρ · g(M) · √ρ σ` with `g` the pseudo-inverse square root of
  `M = √ρ σ √ρ`.
* `fidV_le_docFid`: an explicit, nearly optimal dual point `(Z⁻¹, Z)`, `Z = √ρ (√(√ρ σ √ρ) + ε)⁻¹ √ρ + ε`, for every rank; hence `fidV_eq_docFid`,
  and the symmetry of the closed form from that of the program.
-/

open Matrix
open scoped ComplexOrder MatrixOrder

namespace Toq.Metrics

section SubFid
variable {ι : Type*} [Fintype ι] [DecidableEq ι]

/-- the fidelity as documented by toqito: `tr √(√ρ σ √ρ)`, written with Mathlib's `CFC.sqrt` so that the statements show the library's
square root; the proofs rewrite with `docFid_eq` and use `sqrtM` -/
noncomputable def docFid (ρ σ : Matrix ι ι ℂ) : ℝ := (CFC.sqrt (CFC.sqrt ρ * σ * CFC.sqrt ρ)).trace.re

theorem docFid_eq (ρ σ : Matrix ι ι ℂ) : docFid ρ σ = (sqrtM (sqrtM ρ * σ * sqrtM ρ)).trace.re := rfl

noncomputable def subFidV (ρ σ : Matrix ι ι ℂ) : ℝ :=
  (ρ * σ).trace.re + Real.sqrt (2 * ((ρ * σ).trace.re ^ 2 - (ρ * σ * (ρ * σ)).trace.re))

theorem exists_rootConj_spectral {ρ σ : Matrix ι ι ℂ} (hρ : ρ.PosSemidef) (hσ : σ.PosSemidef) :
    ∃ (U : Matrix ι ι ℂ) (lam : ι → ℝ), Uᴴ * U = 1 ∧ (∀ i, 0 ≤ lam i) ∧
      sqrtM ρ * σ * sqrtM ρ = conjDiag U lam ∧ docFid ρ σ = ∑ i, Real.sqrt (lam i) ∧
      (ρ * σ).trace.re = ∑ i, lam i ∧ (ρ * σ * (ρ * σ)).trace.re = ∑ i, lam i ^ 2 := by
  obtain ⟨U, lam, hU, hl, hMe⟩ := exists_conjDiag_nonneg (sqrtM_conj_posSemidef ρ hσ)
  set R := sqrtM ρ with hR
  have eR : R * R = ρ := sqrtM_mul_self hρ
  refine ⟨U, lam, hU, hl, hMe, ?_, ?_, ?_⟩
  · rw [docFid_eq, ← hR, hMe, trace_sqrtM_conjDiag hU hl]
  · rw [← trace_sqrtM_conj hρ, ← hR, hMe, conjDiag_trace_re hU]
  · have : (ρ * σ * (ρ * σ)).trace = (R * σ * R * (R * σ * R)).trace := by
      rw [← eR]
      calc (R * R * σ * (R * R * σ)).trace = (R * (R * σ * R * R * σ)).trace := by simp only [Matrix.mul_assoc]
        _ = ((R * σ * R * R * σ) * R).trace := Matrix.trace_mul_comm _ _
        _ = _ := by simp only [Matrix.mul_assoc]
    rw [this, hMe, conjDiag_mul hU, conjDiag_trace_re hU]
    exact Finset.sum_congr rfl fun i _ => (sq _).symm

theorem docFid_nonneg {ρ σ : Matrix ι ι ℂ} (hρ : ρ.PosSemidef) (hσ : σ.PosSemidef) : 0 ≤ docFid ρ σ := by
  obtain ⟨U, lam, -, -, -, hd, -, -⟩ := exists_rootConj_spectral hρ hσ
  rw [hd]; exact Finset.sum_nonneg fun _ _ => Real.sqrt_nonneg _

theorem subFidV_le_docFid_sq {ρ σ : Matrix ι ι ℂ} (hρ : ρ.PosSemidef) (hσ : σ.PosSemidef) :
    subFidV ρ σ ≤ docFid ρ σ ^ 2 := by
  obtain ⟨U, lam, -, hl, -, hd, h1, h2⟩ := exists_rootConj_spectral hρ hσ
  unfold subFidV
  rw [hd, h1, h2]
  have := subfid_scalar (fun i => Real.sqrt (lam i)) fun i => Real.sqrt_nonneg _
  have e2 : ∀ i, Real.sqrt (lam i) ^ 2 = lam i := fun i => Real.sq_sqrt (hl i)
  have e4 : ∀ i, Real.sqrt (lam i) ^ 4 = lam i ^ 2 := fun i => by
    rw [show (4 : ℕ) = 2 * 2 from rfl, pow_mul, e2]
  simp only [e2, e4] at this
  exact this

noncomputable def pinvSqrt (x : ℝ) : ℝ := if 0 < x then (Real.sqrt x)⁻¹ else 0

theorem pinvSqrt_mul_self {x : ℝ} (hx : 0 ≤ x) : pinvSqrt x * x = Real.sqrt x := by
  unfold pinvSqrt; split_ifs with h
  · have := Real.mul_self_sqrt hx
    have hs : Real.sqrt x ≠ 0 := (Real.sqrt_pos.mpr h).ne'
    field_simp
    linarith
  · have : x = 0 := le_antisymm (not_lt.mp h) hx
    rw [this]; simp

theorem pinvSqrt_idem {x : ℝ} (hx : 0 ≤ x) :
    pinvSqrt x * pinvSqrt x * x * (pinvSqrt x * pinvSqrt x) = pinvSqrt x * pinvSqrt x := by
  unfold pinvSqrt; split_ifs with h
  · have := Real.mul_self_sqrt hx
    have hs : Real.sqrt x ≠ 0 := (Real.sqrt_pos.mpr h).ne'
    have e : (Real.sqrt x)⁻¹ * (Real.sqrt x)⁻¹ * x = 1 := by
      field_simp; linarith
    rw [e, one_mul]
  · simp

/-- `[[Aᴴ A, X], [Xᴴ, Bᴴ B]]` with `B = C √σ` is a Gram matrix, and `σ − Bᴴ B = √σ (1 − Cᴴ C) √σ ⪰ 0` for a partial isometry `C` -/
theorem fidFeasible_factor (A : Matrix ι ι ℂ) {C σ : Matrix ι ι ℂ} (hσ : σ.PosSemidef)
    (hC : Cᴴ * C * (Cᴴ * C) = Cᴴ * C) : FidFeasible (Aᴴ * A) σ (Aᴴ * (C * sqrtM σ)) := by
  refine (fidFeasible_gram A (C * sqrtM σ)).mono_right ?_
  have h := (posSemidef_one_sub_of_idem (Matrix.isHermitian_conjTranspose_mul_self C) hC).conjTranspose_mul_mul_same
    (sqrtM σ)
  rw [(sqrtM_isHermitian σ).eq, Matrix.mul_sub, Matrix.sub_mul, Matrix.mul_one, sqrtM_mul_self hσ] at h
  rwa [Matrix.conjTranspose_mul, (sqrtM_isHermitian σ).eq,
    show sqrtM σ * Cᴴ * (C * sqrtM σ) = sqrtM σ * (Cᴴ * C) * sqrtM σ by simp only [Matrix.mul_assoc]]

/-- With `R = √ρ`, `S = √σ`, `M = R σ R` and `G` the pseudo-inverse square root of `M`, the point `X = Rᴴ C S`, `C = G R S`, has
`tr X = tr(G M) = tr √M`, and `Cᴴ C = S R G² R S` is idempotent because `G² M G² = G²`. -/
theorem docFid_le_fidV {ρ σ : Matrix ι ι ℂ} (hρ : ρ.PosSemidef) (hσ : σ.PosSemidef) : docFid ρ σ ≤ fidV ρ σ := by
  obtain ⟨U, lam, hU, hl, hMe, hd, -, -⟩ := exists_rootConj_spectral hρ hσ
  set R := sqrtM ρ with hR
  set S := sqrtM σ with hS
  have hRH : R.IsHermitian := sqrtM_isHermitian ρ
  have hSH : S.IsHermitian := sqrtM_isHermitian σ
  have eR : R * R = ρ := sqrtM_mul_self hρ
  have eS : S * S = σ := sqrtM_mul_self hσ
  set G := conjDiag U (fun i => pinvSqrt (lam i)) with hG
  have hGH : G.IsHermitian := conjDiag_isHermitian U _
  have hGM : G * (R * σ * R) = conjDiag U (fun i => Real.sqrt (lam i)) := by
    rw [hMe, hG, conjDiag_mul hU]; exact conjDiag_congr U fun i => pinvSqrt_mul_self (hl i)
  have hGG : G * G * (R * σ * R) * (G * G) = G * G := by
    rw [hMe, hG, conjDiag_mul hU, conjDiag_mul hU, conjDiag_mul hU]
    exact conjDiag_congr U fun i => pinvSqrt_idem (hl i)
  have hCC : (G * R * S)ᴴ * (G * R * S) = S * R * (G * G) * R * S := by
    simp only [Matrix.conjTranspose_mul, hSH.eq, hRH.eq, hGH.eq, Matrix.mul_assoc]
  have hidem : (G * R * S)ᴴ * (G * R * S) * ((G * R * S)ᴴ * (G * R * S)) = (G * R * S)ᴴ * (G * R * S) := by
    rw [hCC]
    calc S * R * (G * G) * R * S * (S * R * (G * G) * R * S)
        = S * R * ((G * G) * (R * (S * S) * R) * (G * G)) * R * S := by simp only [Matrix.mul_assoc]
      _ = _ := by rw [eS, hGG]
  have hfeas := fidFeasible_factor R hσ hidem
  rw [hRH.eq, eR, ← hS] at hfeas
  have := le_fidV hfeas
  have etr : (R * (G * R * S * S)).trace = (conjDiag U (fun i => Real.sqrt (lam i))).trace := by
    rw [← hGM, Matrix.mul_assoc (G * R) S S, eS, Matrix.trace_mul_comm]
    simp only [Matrix.mul_assoc]
  rwa [etr, conjDiag_trace_re hU, ← hd] at this

theorem subFidV_le_fidV_sq {ρ σ : Matrix ι ι ℂ} (hρ : ρ.PosSemidef) (hσ : σ.PosSemidef) :
    subFidV ρ σ ≤ fidV ρ σ ^ 2 := by
  have h1 := subFidV_le_docFid_sq hρ hσ
  have h2 := docFid_le_fidV hρ hσ
  have h3 := docFid_nonneg hρ hσ
  nlinarith

end SubFid

section Watrous
variable {ι : Type*} [Fintype ι] [DecidableEq ι]

/-- `R Z⁻¹ R ⪯ C` for `Z = R C' R + ε` is the Schur complement of `[[C, R], [R, Z]] = [C, R]ᴴ C' [C, R] + diag(0, ε)` -/
theorem conj_inv_conj_le {R C C' : Matrix ι ι ℂ} (hRH : R.IsHermitian) (hC'p : C'.PosSemidef)
    (hC'C : C' * C = 1) {ε : ℝ} (hε : 0 < ε) :
    (R * C' * R + (ε : ℂ) • (1 : Matrix ι ι ℂ)).PosDef ∧
      (C - R * (R * C' * R + (ε : ℂ) • (1 : Matrix ι ι ℂ))⁻¹ * R).PosSemidef := by
  have hCC' : C * C' = 1 := mul_eq_one_comm.mp hC'C
  have hCH : C.IsHermitian := by
    have h1 := congrArg conjTranspose hC'C
    rw [conjTranspose_mul, hC'p.isHermitian.eq, conjTranspose_one] at h1
    exact left_inv_eq_right_inv h1 hC'C
  have hεpd : ((ε : ℂ) • (1 : Matrix ι ι ℂ)).PosDef := Matrix.PosDef.one.smul (by exact_mod_cast hε)
  have hZ : (R * C' * R + (ε : ℂ) • (1 : Matrix ι ι ℂ)).PosDef :=
    Matrix.PosDef.posSemidef_add (hC'p.mul_mul_same_of_isHermitian hRH) hεpd
  have : Invertible (R * C' * R + (ε : ℂ) • (1 : Matrix ι ι ℂ)) := hZ.isUnit.invertible
  have h1 := (hC'p.fromBlocks_gram C R).add
    (Matrix.PosSemidef.fromBlocks_diag (Matrix.PosSemidef.zero (n := ι) (R := ℂ)) hεpd.posSemidef)
  rw [fromBlocks_add, hCH.eq,
    Matrix.mul_assoc C, hC'C, Matrix.mul_one, hCC', Matrix.one_mul, Matrix.mul_assoc Rᴴ C' C, hC'C, Matrix.mul_one, add_zero,
    add_zero, add_zero] at h1
  have h2 := (Matrix.PosDef.fromBlocks₂₂ C R hZ).mp (by rwa [hRH.eq] at h1 ⊢)
  rw [hRH.eq] at h2
  exact ⟨hZ, h2⟩

/-- With `R = √ρ`, `Q = √(R σ R)`, `C = Q + ε` the pair `Z = R C⁻¹ R + ε`, `Y = Z⁻¹` is dual feasible,
`tr(Z σ) = tr(C⁻¹ Q²) + ε tr σ ≤ tr Q + ε tr σ` and `tr(Y ρ) = tr(R Y R) ≤ tr C = tr Q + n ε` (for `ε → 0` the optimal dual solution of
Watrous' program; no rank assumption). -/
theorem fidV_le_docFid {ρ σ : Matrix ι ι ℂ} (hρ : ρ.PosSemidef) (hσ : σ.PosSemidef) : fidV ρ σ ≤ docFid ρ σ := by
  obtain ⟨U, lam, hU, hl, hMe, hd, -, -⟩ := exists_rootConj_spectral hρ hσ
  set R := sqrtM ρ with hR
  have htσ : 0 ≤ σ.trace.re := (Complex.nonneg_iff.mp hσ.trace_nonneg).1
  refine le_of_forall_pos_le_add fun η hη => ?_
  obtain ⟨ε, hε, hεη⟩ : ∃ ε : ℝ, 0 < ε ∧ (Fintype.card ι + σ.trace.re) * ε ≤ 2 * η :=
    ⟨2 * η / (Fintype.card ι + σ.trace.re + 1), by positivity, by
      rw [mul_div_assoc', div_le_iff₀ (by positivity)]; linarith⟩
  have hs : ∀ i, 0 < Real.sqrt (lam i) + ε := fun i => add_pos_of_nonneg_of_pos (Real.sqrt_nonneg _) hε
  -- `C`, `C'` stay variables: `conj_inv_conj_le` and the rewrites below must see them as atoms
  obtain ⟨C, hC⟩ : ∃ C, C = conjDiag U fun i => Real.sqrt (lam i) + ε := ⟨_, rfl⟩
  obtain ⟨C', hC'⟩ : ∃ C', C' = conjDiag U fun i => (Real.sqrt (lam i) + ε)⁻¹ := ⟨_, rfl⟩
  have hC'C : C' * C = 1 := by
    rw [hC, hC', conjDiag_mul hU]
    simp only [inv_mul_cancel₀ (hs _).ne']
    exact conjDiag_one hU
  obtain ⟨hZ, hS⟩ := conj_inv_conj_le (sqrtM_isHermitian ρ)
    (hC' ▸ conjDiag_posSemidef U fun i => (inv_pos.mpr (hs i)).le) hC'C hε
  have : Invertible (R * C' * R + (ε : ℂ) • (1 : Matrix ι ι ℂ)) := hZ.isUnit.invertible
  have h := fidV_le_dualVal hρ hσ (fidDualFeasible_of_mul_eq_one hZ.inv.posSemidef hZ.isHermitian (Matrix.inv_mul_of_invertible _))
  have hS := (Complex.nonneg_iff.mp hS.trace_nonneg).1
  rw [Matrix.trace_sub, Complex.sub_re, trace_sqrtM_conj hρ, Matrix.trace_mul_comm, hC, conjDiag_trace_re hU,
    Finset.sum_add_distrib, Finset.sum_const, Finset.card_univ, nsmul_eq_mul] at hS
  have t2 : (R * C' * R * σ).trace.re = ∑ i, (Real.sqrt (lam i) + ε)⁻¹ * lam i := by
    rw [← conjDiag_trace_re hU, ← conjDiag_mul hU, ← hC', ← hMe]
    congr 1
    calc (R * C' * R * σ).trace = (R * (C' * (R * σ))).trace := by simp only [Matrix.mul_assoc]
      _ = (C' * (R * σ) * R).trace := Matrix.trace_mul_comm _ _
      _ = (C' * (R * σ * R)).trace := by simp only [Matrix.mul_assoc]
  have hle : ∀ i, (Real.sqrt (lam i) + ε)⁻¹ * lam i ≤ Real.sqrt (lam i) := fun i => by
    rw [inv_mul_le_iff₀ (hs i), add_mul, Real.mul_self_sqrt (hl i)]
    exact le_add_of_nonneg_right (mul_nonneg hε.le (Real.sqrt_nonneg _))
  rw [dualVal, Matrix.add_mul, Matrix.trace_add, Complex.add_re, t2, Matrix.smul_mul, Matrix.one_mul,
    Matrix.re_trace_smul] at h
  rw [add_mul] at hεη
  rw [hd]
  linarith [Finset.sum_le_sum fun i (_ : i ∈ Finset.univ) => hle i]

theorem fidV_eq_docFid {ρ σ : Matrix ι ι ℂ} (hρ : ρ.PosSemidef) (hσ : σ.PosSemidef) : fidV ρ σ = docFid ρ σ :=
  le_antisymm (fidV_le_docFid hρ hσ) (docFid_le_fidV hρ hσ)

theorem docFid_symm {ρ σ : Matrix ι ι ℂ} (hρ : ρ.PosSemidef) (hσ : σ.PosSemidef) : docFid ρ σ = docFid σ ρ := by
  rw [← fidV_eq_docFid hρ hσ, ← fidV_eq_docFid hσ hρ, fidV_symm]

end Watrous

end Toq.Metrics
