import Toq.Proofs.MatrixOps
import Toq.Proofs.Digits
import Mathlib.LinearAlgebra.Dimension.Constructions
import Mathlib.LinearAlgebra.Dimension.Finite
import Mathlib.LinearAlgebra.Matrix.ToLin
import Mathlib.Algebra.Module.Submodule.Equiv
import Mathlib.Algebra.Algebra.Subalgebra.Basic
import Mathlib.Logic.Equiv.Fin.Basic
import Mathlib.Algebra.BigOperators.Fin
/-!
# `commutant`: the null space of the stacked system IS the commutant

toqito's `commutant(A)` stacks, for the generators `A_1 … A_g` (each `dim × dim`), the matrices
`kron(A_i, I) − kron(I, A_iᵀ)` (`np.vstack`), takes `null_space` and reshapes each null vector row-major to
`dim × dim`.  The mirror is `commStack` / `commutantDim` (`Toq/Model/MatrixOps.lean`).  Here:

* `commStack_eq_flatten`, `commStack_size`: the stack is the concatenation (`flatten`) of the systems of the generators, in order;
* `commStack_mulVec_eq_zero_iff`: a vector `x` is in the null space of the stack iff its row-major unflattening
  `X i j = x (i*dim + j)` commutes with every generator;
* `commutantDim_eq_finrank_commutant`: `commutantDim` is the dimension of the commutant
  `{X | ∀ A ∈ gens, A X = X A}` (a `Submodule`, equal to the centralizer of the set of generators);
* corollaries: `1 ≤ commutantDim` (for `dim ≥ 1`), `commutantDim ≤ dim²`, `commutantDim dim [] = dim²`,
  antitonicity in the set of generators.

Index convention: Mathlib's `finProdFinEquiv (i, j) = j + dim * i` (value), i.e. exactly NumPy's row-major
(`order="C"`) flat index `i*dim + j` used by `reshape((dim, dim))` (`unflat_apply`).
-/

namespace Toq.MatrixOps
open Matrix Toq.MatrixPreds

theorem ofMat_size (A : Mat QI) : (QMat.ofMat A).size = A.r := by
  simp [QMat.ofMat]

theorem commSystem_r (dim : Nat) (A : Mat QI) : (commSystem dim A).r = A.r * dim := rfl
theorem commSystem_c (dim : Nat) (A : Mat QI) : (commSystem dim A).c = A.c * dim := rfl

/-- `np.vstack` by repeated `++` is `flatten` -/
theorem foldl_append_eq_flatten {α β : Type} (f : α → Array β) : ∀ (l : List α) (ys : Array β),
    l.foldl (fun acc a => acc ++ f a) ys = ys ++ ((l.map f).toArray).flatten
  | [], ys => by simp
  | a :: l, ys => by
    rw [List.foldl_cons, foldl_append_eq_flatten f l, List.map_cons, Array.append_assoc]
    congr 1
    apply Array.ext'
    simp

theorem commStack_eq_flatten (dim : Nat) (gens : List (Mat QI)) :
    commStack dim gens = ((gens.map fun A => QMat.ofMat (commSystem dim A)).toArray).flatten := by
  rw [commStack, foldl_append_eq_flatten, Array.empty_append]

theorem commStack_size (dim : Nat) (gens : List (Mat QI)) (h : ∀ A ∈ gens, A.r = dim) :
    (commStack dim gens).size = gens.length * dim * dim := by
  have e : gens.map (Array.size ∘ fun A => QMat.ofMat (commSystem dim A)) = gens.map fun _ => dim * dim :=
    List.map_congr_left fun A hA => by rw [Function.comp_apply, ofMat_size, commSystem_r, h A hA]
  rw [commStack_eq_flatten, Array.size_flatten]
  simp [e, Nat.mul_assoc]

/-- a statement about all rows of `ofMat S` that only looks at the entries inside the shape is one about all row indices of `S` -/
theorem forall_mem_ofMat (S : Mat QI) (P : (Nat → QI) → Prop) (hP : ∀ f g : Nat → QI, (∀ c, c < S.c → f c = g c) → (P f ↔ P g)) :
    (∀ r ∈ QMat.ofMat S, P (fun c => r[c]!)) ↔ ∀ k, k < S.r → P (S.f k) := by
  simp only [QMat.ofMat, Array.mem_map, Array.mem_range, forall_exists_index, and_imp, forall_apply_eq_imp_iff₂]
  refine forall₂_congr fun k _ => hP _ _ fun c hc => ?_
  simp [hc]

/-- row-major unflattening of a vector of length `dim²` (`x.reshape((dim, dim))`, NumPy `order="C"`): `X i j = x (i*dim + j)` -/
def unflat (dim : Nat) (x : Fin (dim * dim) → ℂ) : Matrix (Fin dim) (Fin dim) ℂ :=
  fun i j => x (finProdFinEquiv (i, j))

theorem idx_lt {n i j : Nat} (hi : i < n) (hj : j < n) : i * n + j < n * n := Nat.mul_add_lt_mul hi hj

theorem unflat_apply (dim : Nat) (x : Fin (dim * dim) → ℂ) (i j : Fin dim) :
    unflat dim x i j = x ⟨i.val * dim + j.val, idx_lt i.isLt j.isLt⟩ :=
  congrArg x (Fin.ext (Toq.finProdFinEquiv_val i j))

theorem commSystem_entry (dim : Nat) (A : Mat QI) (hr : A.r = dim) (hc : A.c = dim) (i j a b : Fin dim) :
    ((commSystem dim A).f (i.val * dim + j.val) (finProdFinEquiv (a, b)).val).toC
      = (A.f i.val a.val).toC * (if j = b then 1 else 0) - (if i = a then 1 else 0) * (A.f b.val j.val).toC := by
  obtain ⟨e1, e2⟩ := Nat.mul_add_divMod_of_lt (q := i.val) j.isLt
  obtain ⟨e3, e4⟩ := Nat.mul_add_divMod_of_lt (q := a.val) b.isLt
  rw [Toq.finProdFinEquiv_val, commSystem_f dim A hr hc, e1, e2, e3, e4, QI.toC_sub, QI.toC_mul, QI.toC_mul]
  simp only [Fin.val_inj]
  congr 2
  · split <;> simp
  · split <;> simp

/-- ONE generator, over `ℂ`: row `i*dim + j` of `kron(A, I) − kron(I, Aᵀ)` applied to `x` is `(A X − X A)[i, j]` -/
theorem commSystem_row_sum (dim : Nat) (A : Mat QI) (hr : A.r = dim) (hc : A.c = dim)
    (x : Fin (dim * dim) → ℂ) (i j : Fin dim) :
    ∑ c : Fin (dim * dim), ((commSystem dim A).f (i.val * dim + j.val) c.val).toC * x c
      = (Toq.Rank.fnToM dim dim A.f * unflat dim x - unflat dim x * Toq.Rank.fnToM dim dim A.f) i j := by
  rw [← (finProdFinEquiv (m := dim) (n := dim)).sum_comp, Fintype.sum_prod_type]
  simp only [commSystem_entry dim A hr hc]
  exact sum_sum_commutator_delta Finset.univ (Toq.Rank.fnToM dim dim A.f) (unflat dim x) (Finset.mem_univ i) (Finset.mem_univ j)

noncomputable abbrev commStackM (dim : Nat) (gens : List (Mat QI)) : Matrix (Fin (gens.length * dim * dim)) (Fin (dim * dim)) ℂ :=
  qmatToM (gens.length * dim * dim) (dim * dim) (commStack dim gens)

theorem commStack_mulVec_eq_zero_iff (dim : Nat) (gens : List (Mat QI)) (h : ∀ A ∈ gens, A.r = dim ∧ A.c = dim)
    (x : Fin (dim * dim) → ℂ) :
    commStackM dim gens *ᵥ x = 0
      ↔ ∀ A ∈ gens, Toq.Rank.fnToM dim dim A.f * unflat dim x = unflat dim x * Toq.Rank.fnToM dim dim A.f := by
  -- `x` is annihilated by every row of the stack, that is, by every row of the block of every generator
  rw [commStackM, qmatToM_mulVec_eq_zero_iff _ (commStack_size dim gens fun A hA => (h A hA).1), commStack_eq_flatten]
  simp only [Array.forall_mem_flatten, List.mem_toArray, List.forall_mem_map]
  refine forall₂_congr fun A hA => ?_
  obtain ⟨hr, hc⟩ := h A hA
  rw [forall_mem_ofMat (commSystem dim A) (fun f => ∑ c : Fin (dim * dim), (f c.val).toC * x c = 0)
    (fun f g hfg => by
      have : ∀ c : Fin (dim * dim), f c.val = g c.val := fun c => hfg c.val (by rw [commSystem_c, hc]; exact c.isLt)
      simp only [this]),
    commSystem_r, hr, ← sub_eq_zero (a := _ * _)]
  -- every row index is `i * dim + j`
  constructor
  · intro hk
    ext i j
    rw [← commSystem_row_sum dim A hr hc x i j]
    exact hk _ (idx_lt i.isLt j.isLt)
  · intro hz k hk
    obtain ⟨hi, hj, e⟩ := Nat.div_mod_of_lt_mul hk
    rw [← e, commSystem_row_sum dim A hr hc x ⟨_, hi⟩ ⟨_, hj⟩, hz]
    rfl

/-- the commutant of the generators: all complex `dim × dim` matrices commuting with every generator -/
def commutantSubmodule (dim : Nat) (gens : List (Mat QI)) : Submodule ℂ (Matrix (Fin dim) (Fin dim) ℂ) where
  carrier := {X | ∀ A ∈ gens, Toq.Rank.fnToM dim dim A.f * X = X * Toq.Rank.fnToM dim dim A.f}
  add_mem' := by
    intro X Y hX hY A hA
    rw [mul_add, add_mul, hX A hA, hY A hA]
  zero_mem' := by
    intro A _
    rw [mul_zero, zero_mul]
  smul_mem' := by
    intro c X hX A hA
    rw [Matrix.mul_smul, Matrix.smul_mul, hX A hA]

theorem mem_commutantSubmodule (dim : Nat) (gens : List (Mat QI)) (X : Matrix (Fin dim) (Fin dim) ℂ) :
    X ∈ commutantSubmodule dim gens
      ↔ ∀ A ∈ gens, Toq.Rank.fnToM dim dim A.f * X = X * Toq.Rank.fnToM dim dim A.f := Iff.rfl

def genSet (dim : Nat) (gens : List (Mat QI)) : Set (Matrix (Fin dim) (Fin dim) ℂ) :=
  {M | ∃ A ∈ gens, M = Toq.Rank.fnToM dim dim A.f}

theorem commutantSubmodule_eq_centralizer (dim : Nat) (gens : List (Mat QI)) :
    (commutantSubmodule dim gens : Set (Matrix (Fin dim) (Fin dim) ℂ)) = Set.centralizer (genSet dim gens) := by
  ext X
  constructor
  · rintro hX M ⟨A, hA, rfl⟩
    exact hX A hA
  · intro hX A hA
    exact hX _ ⟨A, hA, rfl⟩

theorem commutantSubmodule_eq_subalgebra_centralizer (dim : Nat) (gens : List (Mat QI)) :
    commutantSubmodule dim gens = Subalgebra.toSubmodule (Subalgebra.centralizer ℂ (genSet dim gens)) := by
  apply SetLike.coe_injective
  rw [commutantSubmodule_eq_centralizer]
  rfl

def unflatEquiv (dim : Nat) : (Fin (dim * dim) → ℂ) ≃ₗ[ℂ] Matrix (Fin dim) (Fin dim) ℂ where
  toFun := unflat dim
  map_add' := fun _ _ => rfl
  map_smul' := fun _ _ => rfl
  invFun := fun X k => X (finProdFinEquiv.symm k).1 (finProdFinEquiv.symm k).2
  left_inv := by
    intro x
    funext k
    show x (finProdFinEquiv ((finProdFinEquiv.symm k).1, (finProdFinEquiv.symm k).2)) = x k
    rw [Prod.mk.eta, Equiv.apply_symm_apply]
  right_inv := by
    intro X
    ext i j
    show X (finProdFinEquiv.symm (finProdFinEquiv (i, j))).1 (finProdFinEquiv.symm (finProdFinEquiv (i, j))).2 = X i j
    rw [Equiv.symm_apply_apply]

@[simp] theorem unflatEquiv_apply (dim : Nat) (x : Fin (dim * dim) → ℂ) : unflatEquiv dim x = unflat dim x := rfl

theorem ker_commStack_eq_comap (dim : Nat) (gens : List (Mat QI)) (h : ∀ A ∈ gens, A.r = dim ∧ A.c = dim) :
    LinearMap.ker (commStackM dim gens).mulVecLin
      = (commutantSubmodule dim gens).comap (unflatEquiv dim : (Fin (dim * dim) → ℂ) →ₗ[ℂ] _) := by
  ext x
  rw [LinearMap.mem_ker, Matrix.mulVecLin_apply, commStack_mulVec_eq_zero_iff dim gens h x]
  rfl

/-- `commutantDim` is `dim² − rank` of the stacked system, the number of basis matrices `commutant` returns -/
theorem commutantDim_eq_finrank_commutant (dim : Nat) (gens : List (Mat QI)) (h : ∀ A ∈ gens, A.r = dim ∧ A.c = dim) :
    commutantDim dim gens = Module.finrank ℂ (commutantSubmodule dim gens) := by
  rw [commutantDim_eq]
  show Module.finrank ℂ (LinearMap.ker (commStackM dim gens).mulVecLin) = _
  rw [ker_commStack_eq_comap dim gens h]
  exact LinearEquiv.finrank_eq ((unflatEquiv dim).ofSubmodule' (commutantSubmodule dim gens))

theorem map_ker_commStack_eq (dim : Nat) (gens : List (Mat QI)) (h : ∀ A ∈ gens, A.r = dim ∧ A.c = dim) :
    (LinearMap.ker (commStackM dim gens).mulVecLin).map (unflatEquiv dim : (Fin (dim * dim) → ℂ) →ₗ[ℂ] _)
      = commutantSubmodule dim gens := by
  rw [ker_commStack_eq_comap dim gens h]
  exact Submodule.map_comap_eq_of_surjective (unflatEquiv dim).surjective _

theorem commutantDim_le (dim : Nat) (gens : List (Mat QI)) : commutantDim dim gens ≤ dim * dim :=
  Nat.sub_le _ _

/-- the identity commutes with everything: for `dim ≥ 1` the commutant is never trivial -/
theorem one_le_commutantDim (dim : Nat) (gens : List (Mat QI)) (h : ∀ A ∈ gens, A.r = dim ∧ A.c = dim)
    (hd : 1 ≤ dim) : 1 ≤ commutantDim dim gens := by
  rw [commutantDim_eq_finrank_commutant dim gens h, Submodule.one_le_finrank_iff]
  intro hbot
  have h1 : (1 : Matrix (Fin dim) (Fin dim) ℂ) ∈ commutantSubmodule dim gens := fun A _ => (mul_one _).trans (one_mul _).symm
  rw [hbot, Submodule.mem_bot] at h1
  have := congrFun (congrFun h1 ⟨0, hd⟩) ⟨0, hd⟩
  simp at this

theorem commutantDim_nil (dim : Nat) : commutantDim dim [] = dim * dim := by
  rw [commutantDim_eq_finrank_commutant dim [] (by simp)]
  have : commutantSubmodule dim [] = ⊤ := by
    ext X
    simp [mem_commutantSubmodule]
  rw [this, finrank_top, Module.finrank_matrix]
  simp

theorem commutantDim_anti (dim : Nat) (gens gens' : List (Mat QI)) (h : ∀ A ∈ gens, A.r = dim ∧ A.c = dim)
    (h' : ∀ A ∈ gens', A.r = dim ∧ A.c = dim) (hsub : ∀ A ∈ gens, A ∈ gens') :
    commutantDim dim gens' ≤ commutantDim dim gens := by
  rw [commutantDim_eq_finrank_commutant dim gens h, commutantDim_eq_finrank_commutant dim gens' h']
  apply Submodule.finrank_mono
  intro X hX A hA
  exact hX A (hsub A hA)

theorem commutantDim_cons_le (dim : Nat) (B : Mat QI) (gens : List (Mat QI)) (hB : B.r = dim ∧ B.c = dim)
    (h : ∀ A ∈ gens, A.r = dim ∧ A.c = dim) :
    commutantDim dim (B :: gens) ≤ commutantDim dim gens :=
  commutantDim_anti dim gens (B :: gens) h
    (by intro A hA; rcases List.mem_cons.mp hA with rfl | hA; exact hB; exact h A hA)
    (fun A hA => List.mem_cons_of_mem _ hA)

theorem commutantDim_congr (dim : Nat) (gens gens' : List (Mat QI)) (h : ∀ A ∈ gens, A.r = dim ∧ A.c = dim)
    (h' : ∀ A ∈ gens', A.r = dim ∧ A.c = dim) (hiff : ∀ A, A ∈ gens ↔ A ∈ gens') :
    commutantDim dim gens = commutantDim dim gens' :=
  Nat.le_antisymm (commutantDim_anti dim gens' gens h' h (fun A hA => (hiff A).mpr hA))
    (commutantDim_anti dim gens gens' h h' (fun A hA => (hiff A).mp hA))

/-- the hypotheses are satisfiable on a non-trivial instance: one non-scalar diagonal generator, whose commutant
    (the diagonal matrices) has dimension 2, strictly between the bounds `1` and `dim² = 4` -/
example : (∀ A ∈ [(⟨2, 2, fun i j => if i = j then (if i = 0 then 1 else 0) else 0⟩ : Mat QI)], A.r = 2 ∧ A.c = 2)
    ∧ commutantDim 2 [(⟨2, 2, fun i j => if i = j then (if i = 0 then 1 else 0) else 0⟩ : Mat QI)] = 2 := by
  constructor
  · simp
  · decide +kernel

end Toq.MatrixOps
