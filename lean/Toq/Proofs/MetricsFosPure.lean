import Toq.Proofs.MetricsFos
/-!
# Pure states: positive partial transpose ⟺ product vector

`fidelity_of_separability` only accepts pure states that `is_separable` accepts.  For a pure state `ψ ψᴴ` on `A ⊗ B` the very first test
of `is_separable`, the PPT criterion, is already decisive: the partial transpose is positive semidefinite iff `ψ = a ⊗ b`
(`pure_ppt_iff_product`).  Proof without a Schmidt decomposition: every `2 × 2` minor of the coefficient matrix `C = (ψ (a, b))` vanishes,
because for rows `a₁, a₂` and columns `b₁, b₂` the vector `w` with `w(a₁, ·) = C(a₂, ·)`, `w(a₂, ·) = −C(a₁, ·)` on those columns has
`⟨w, ρ^{T_A} w⟩ = −2 |det|²`.  Hence the accepted inputs are exactly the pure product states, whose value is `1` at every level
(`fosV_pure_ppt`).
-/

open Matrix
open scoped ComplexOrder MatrixOrder Kronecker

set_option linter.unusedSectionVars false

namespace Toq.Metrics
open Toq.PPTDisc

theorem det_eq_zero_of_ppt_pure22 (K : Fin 2 → Fin 2 → ℂ)
    (h : (Matrix.of fun (i j : Fin 2 × Fin 2) => K j.1 i.2 * star (K i.1 j.2)).PosSemidef) :
    K 0 0 * K 1 1 = K 0 1 * K 1 0 := by
  set M := Matrix.of fun (i j : Fin 2 × Fin 2) => K j.1 i.2 * star (K i.1 j.2) with hM
  set D := K 0 0 * K 1 1 - K 0 1 * K 1 0 with hD
  -- the test vector: row `0` is row `1` of `K`, row `1` is minus row `0` of `K`
  set w : Fin 2 × Fin 2 → ℂ := fun p => if p.1 = 0 then K 1 p.2 else - K 0 p.2 with hw
  have e : star w ⬝ᵥ (M *ᵥ w) = -(2 * (D * star D)) := by
    simp only [hM, hw, dotProduct, Matrix.mulVec, Fintype.sum_prod_type, Fin.sum_univ_two, Matrix.of_apply, Pi.star_apply, if_true,
      Fin.one_eq_zero_iff, Nat.succ_ne_self, if_false, star_neg, star_sub, star_mul', hD]
    ring
  have hq := (Matrix.posSemidef_iff_dotProduct_mulVec.mp h).2 w
  rw [e] at hq
  have h2 : D * star D = ((Complex.normSq D : ℝ) : ℂ) := by
    rw [Complex.star_def, Complex.mul_conj]
  rw [h2] at hq
  have h3 : (0 : ℝ) ≤ -(2 * Complex.normSq D) := by exact_mod_cast hq
  have h4 : Complex.normSq D = 0 := le_antisymm (by linarith) (Complex.normSq_nonneg D)
  exact sub_eq_zero.mp (Complex.normSq_eq_zero.mp h4)

section Pure
variable {m n : Type*} [Fintype m] [Fintype n] [DecidableEq m] [DecidableEq n]

theorem minors_eq_zero_of_ppt_pure (ψ : m × n → ℂ) (h : (pTAp (vecMulVec ψ (star ψ))).PosSemidef)
    (a₁ a₂ : m) (b₁ b₂ : n) : ψ (a₁, b₁) * ψ (a₂, b₂) = ψ (a₁, b₂) * ψ (a₂, b₁) := by
  -- the `2 ⊗ 2` corner of the rows `a₁, a₂` and the columns `b₁, b₂` is the partial transpose of `K Kᴴ` for `K x y = ψ (f (x, y))`
  let f : Fin 2 × Fin 2 → m × n := fun p => (![a₁, a₂] p.1, ![b₁, b₂] p.2)
  exact det_eq_zero_of_ppt_pure22 (fun x y => ψ (f (x, y))) (h.submatrix f)

theorem pure_ppt_iff_product (ψ : m × n → ℂ) :
    (pTAp (vecMulVec ψ (star ψ))).PosSemidef ↔ ∃ (a : m → ℂ) (b : n → ℂ), ∀ i, ψ i = a i.1 * b i.2 := by
  constructor
  · intro h
    obtain ⟨a, b, hab⟩ := exists_mul_of_minors_eq_zero (fun x y => ψ (x, y)) (minors_eq_zero_of_ppt_pure ψ h)
    exact ⟨a, b, fun i => hab i.1 i.2⟩
  · rintro ⟨a, b, hab⟩
    rw [funext hab]
    exact posSemidef_pTL_iff.mpr (posSemidef_pTR_vecMulVec_mul a b)

end Pure

section Value
variable {m : Type*} [Fintype m] [DecidableEq m] {d : ℕ}

theorem fosV_pure_ppt (ℓ : ℕ) (ψ : m × Fin d → ℂ) (hψ : ψ ⬝ᵥ star ψ = 1) (h : (pTAp (vecMulVec ψ (star ψ))).PosSemidef) :
    IsGreatest (fosSet ℓ (vecMulVec ψ (star ψ))) 1 ∧ fosV ℓ (vecMulVec ψ (star ψ)) = 1 := by
  obtain ⟨a, b, hab⟩ := (pure_ppt_iff_product ψ).mp h
  obtain ⟨a', b', ha', hb', hab'⟩ := exists_unit_factors ψ hψ a b hab
  have e : vecMulVec ψ (star ψ) = fosProdRho a' b' := by
    rw [fosProdRho_eq_vecMulVec]
    have : ψ = fun i : m × Fin d => a' i.1 * b' i.2 := funext hab'
    rw [this]
  rw [e]
  exact ⟨fos_isGreatest_product ℓ a' b' ha' hb', fosV_product ℓ a' b' ha' hb'⟩

end Value
end Toq.Metrics
