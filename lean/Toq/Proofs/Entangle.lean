import Toq.Model.Entangle
import Toq.Spec.Entangle
import Toq.Proofs.Idx
import Toq.Proofs.Perms
import Toq.Proofs.Cert
import Toq.Proofs.Rank
import Toq.Proofs.Spectral
import Mathlib.Tactic.Ring
import Mathlib.Algebra.BigOperators.Group.Finset.Basic
/-!
# C14: the flat-index mirrors, planted states and the trace norm

Three ideas carry the file.  The mirrors of the NumPy reshapes and of `_operator_schmidt_rank` split a flat index with `/` and `%`; evaluated
at `a·d + b` with `b < d` they read the digits `a`, `b` (`Nat.mul_add_div_of_lt`, `Nat.mul_add_mod_of_lt`), which gives one equation lemma per definition.  A planted state
has the amplitude matrix `A = U D Wᴴ` with isometries `U`, `W` and a rectangular diagonal `D = planted dA dB s`, so `A Aᴴ = U (D Dᴴ) Uᴴ`
(`Matrix.sandwich_mul_conjTranspose_self`), and `D Dᴴ` is the diagonal matrix of the squares of `plantedDiag dA dB s` (`s a` for `a < dB`, zero for the rows
beyond): for real coefficients `A Aᴴ = conjDiag U d²` of `Toq/Proofs/Spectral.lean`, whose positive square root `conjDiag U d` and trace are known (`planted_amp_mul_ct`).
The trace norm is used only through its characterisation: `‖X‖₁ = tr P` for the positive semidefinite `P` with `P² = XᴴX`.
-/

namespace Toq.Entangle
open Toq.Perms Matrix
open scoped ComplexOrder MatrixOrder Kronecker

theorem toM_mmul {α : Type} [NonUnitalNonAssocSemiring α] (r k c : Nat) (X Y : Nat → Nat → α) :
    toM r c (mmul k X Y) = toM r k X * toM k c Y := by
  ext i j
  rw [Matrix.mul_apply]
  exact sumN_eq_sum_fin _ k

theorem traceM_eq_trace {α : Type} [AddCommMonoid α] (n : Nat) (ρ : Nat → Nat → α) : traceM n ρ = (toM n n ρ).trace :=
  sumN_eq_sum_fin _ n

theorem opVec_flat {α : Type} {N : Nat} (ρ : Nat → Nat → α) (r c : Nat) (hc : c < N) : opVec N ρ (r * N + c) = ρ r c := by
  unfold opVec
  rw [Nat.mul_add_div_of_lt hc, Nat.mul_add_mod_of_lt hc]

theorem kron2_flat {α : Type} [Mul α] {dB dB' : Nat} (U V : Nat → Nat → α) (a b a' b' : Nat) (hb : b < dB) (hb' : b' < dB') :
    kron2 dB dB' U V (a * dB + b) (a' * dB' + b') = U a a' * V b b' := by
  unfold kron2
  rw [Nat.mul_add_div_of_lt hb, Nat.mul_add_mod_of_lt hb, Nat.mul_add_div_of_lt hb', Nat.mul_add_mod_of_lt hb']

theorem reshapeDim_apply {α : Type} (dA dB : Nat) (ψ : Nat → α) (a b : Nat) :
    reshapeDim dA dB ψ a b = ψ (a * dB + b) :=
  congrArg ψ (enc_two (fnOfList [dA, dB]) (fnOfList [a, b]))

theorem reshapeRevC_apply {α : Type} (dA dB : Nat) (ψ : Nat → α) (r c : Nat) :
    reshapeRevC dA dB ψ r c = ψ (r * dA + c) :=
  congrArg ψ (enc_two (fnOfList [dB, dA]) (fnOfList [r, c]))

theorem operatorSchmidtVec_flat {α : Type} (dA dB : Nat) (ρ : Nat → Nat → α) (a a' b b' : Nat)
    (ha : a < dA) (ha' : a' < dA) (hb : b < dB) (hb' : b' < dB) :
    operatorSchmidtVec dA dB ρ (((a * dA + a') * dB + b) * dB + b') = ρ (a * dB + b) (a' * dB + b') :=
  permuteVec_swap_mid_four_halves ρ (fnOfList [dA, dB, dA, dB]) a b a' b' ha hb ha' hb'

theorem operatorAmp_flat {α : Type} (dA dB : Nat) (ρ : Nat → Nat → α) (a a' b b' : Nat)
    (ha : a < dA) (ha' : a' < dA) (hb : b < dB) (hb' : b' < dB) :
    operatorAmp dA dB ρ (a * dA + a') (b * dB + b') = ρ (a * dB + b) (a' * dB + b') := by
  have hL : (a * dA + a') * (dB * dB) + (b * dB + b') = ((a * dA + a') * dB + b) * dB + b' := by ring
  unfold operatorAmp
  rw [reshapeDim_apply, hL, operatorSchmidtVec_flat dA dB ρ a a' b b' ha ha' hb hb']

theorem ampMat_kronApply {α : Type} [CommSemiring α] (dB dA' dB' : Nat) (U V : Nat → Nat → α) (ψ : Nat → α)
    (a b : Nat) (hb : b < dB) :
    ampMat dB (kronApply dB dA' dB' U V ψ) a b
      = sumN dA' fun a' => sumN dB' fun b' => U a a' * ampMat dB' ψ a' b' * V b b' := by
  unfold ampMat kronApply
  rw [sumN_mul_range]
  refine sumN_congr _ _ _ fun a' _ => sumN_congr _ _ _ fun b' hb' => ?_
  rw [kron2_flat U V a b a' b' hb hb', mul_right_comm]

theorem traceNorm_spec {ι : Type} [Fintype ι] [DecidableEq ι] (X : Matrix ι ι ℂ) :
    ∃ P : Matrix ι ι ℂ, P.PosSemidef ∧ P * P = Xᴴ * X ∧ traceNorm X = P.trace :=
  ⟨_, Toq.Metrics.sqrtM_posSemidef _, Toq.Metrics.sqrtM_mul_self (Matrix.posSemidef_conjTranspose_mul_self X), rfl⟩

theorem traceNorm_eq_of_sq {ι : Type} [Fintype ι] [DecidableEq ι] {X P : Matrix ι ι ℂ} (hP : P.PosSemidef) (h : P * P = Xᴴ * X) :
    traceNorm X = P.trace :=
  congrArg Matrix.trace (Toq.Metrics.sqrtM_unique hP h)

theorem norm_det_of_unitary {n : Type} [Fintype n] [DecidableEq n] (U : Matrix n n ℂ) (hU : Uᴴ * U = 1) : ‖U.det‖ = 1 :=
  CStarRing.norm_of_mem_unitary (Matrix.det_of_mem_unitary (Matrix.mem_unitaryGroup_iff'.mpr hU))

theorem isUnit_det_kron_conj {R : Type} [CommRing R] [StarRing R] {m : Type} [Fintype m] [DecidableEq m]
    (U : Matrix m m R) (hU : IsUnit U.det) : IsUnit (U ⊗ₖ U.map star).det := by
  rw [Matrix.det_kronecker]
  have h2 : IsUnit (U.map star).det := by
    rw [show (U.map star).det = star U.det from (RingHom.map_det (starRingEnd R) U).symm]; exact hU.star
  exact (hU.pow _).mul (h2.pow _)

theorem sum_ite_val_eq {M : Type} [AddCommMonoid M] (n k : Nat) (c : M) :
    (∑ b : Fin n, if k = b.val then c else 0) = if k < n then c else 0 := by
  by_cases h : k < n
  · rw [if_pos h, Finset.sum_eq_single (⟨k, h⟩ : Fin n) (fun b _ hb => if_neg fun e => hb (Fin.ext e.symm))
      (fun hk => absurd (Finset.mem_univ _) hk), if_pos rfl]
  · rw [if_neg h]
    exact Finset.sum_eq_zero fun b _ => if_neg fun (e : k = b.val) => h (e ▸ b.isLt)

theorem planted_conjTranspose (dA dB : Nat) (s : Nat → ℂ) :
    (planted dA dB s)ᴴ = planted dB dA (fun i => star (s i)) := by
  ext b a
  simp only [Matrix.conjTranspose_apply, planted, eq_comm (a := b.val)]
  split
  · next h => rw [h]
  · exact star_zero _

theorem planted_mul_planted {α : Type} [NonUnitalNonAssocSemiring α] (dA dB dC : Nat) (s t : Nat → α) :
    planted dA dB s * planted dB dC t = planted dA dC fun i => if i < dB then s i * t i else 0 := by
  ext a c
  have hb : ∀ b : Fin dB, planted dA dB s a b * planted dB dC t b c
      = if a.val = b.val then s a.val * (if a.val = c.val then t a.val else 0) else 0 := fun b => by
    unfold planted
    split
    · next h => rw [← h]
    · exact zero_mul _
  rw [Matrix.mul_apply, Finset.sum_congr rfl fun b _ => hb b, sum_ite_val_eq]
  show _ = if a.val = c.val then (if a.val < dB then s a.val * t a.val else 0) else 0
  by_cases hac : a.val = c.val
  · rw [if_pos hac, if_pos hac]
  · rw [if_neg hac, if_neg hac, mul_zero, ite_self]

theorem planted_self {α : Type} [Zero α] (d : Nat) (s : Nat → α) : planted d d s = Matrix.diagonal fun a : Fin d => s a.val := by
  ext a b
  simp only [planted, Matrix.diagonal_apply, Fin.ext_iff]

theorem planted_mul_ct (dA dB : Nat) (s : Nat → ℂ) :
    planted dA dB s * (planted dA dB s)ᴴ
      = Matrix.diagonal (fun a : Fin dA => if a.val < dB then s a.val * star (s a.val) else 0) := by
  rw [planted_conjTranspose, planted_mul_planted, planted_self]

theorem planted_ofReal_conjTranspose (dA dB : Nat) (s : Nat → ℝ) :
    (planted dA dB fun i => (s i : ℂ))ᴴ = planted dB dA fun i => (s i : ℂ) := by
  rw [planted_conjTranspose]
  congr 1
  funext i
  exact Complex.conj_ofReal (s i)

/-- the singular values of `planted dA dB s`, one for each row -/
def plantedDiag (dA dB : Nat) (s : Nat → ℝ) : Fin dA → ℝ := fun a => if a.val < dB then s a.val else 0

theorem plantedDiag_nonneg {dA dB : Nat} {s : Nat → ℝ} (hs : ∀ i, 0 ≤ s i) (a : Fin dA) : 0 ≤ plantedDiag dA dB s a := by
  unfold plantedDiag
  split
  exacts [hs _, le_rfl]

theorem sum_plantedDiag (dA dB : Nat) (s : Nat → ℝ) : ∑ a, plantedDiag dA dB s a = ∑ i ∈ Finset.range (min dA dB), s i := by
  unfold plantedDiag
  rw [Fin.sum_univ_eq_sum_range (fun i => if i < dB then s i else 0) dA, ← Finset.sum_filter]
  congr 1
  ext i
  simp [Finset.mem_filter]

theorem planted_amp_mul_ct {dA dB : Nat} (s : Nat → ℝ) (U : Matrix (Fin dA) (Fin dA) ℂ) {W : Matrix (Fin dB) (Fin dB) ℂ}
    (hW : Wᴴ * W = 1) :
    (U * planted dA dB (fun i => (s i : ℂ)) * Wᴴ) * (U * planted dA dB (fun i => (s i : ℂ)) * Wᴴ)ᴴ
      = Toq.Metrics.conjDiag U fun a => plantedDiag dA dB s a * plantedDiag dA dB s a := by
  rw [sandwich_mul_conjTranspose_self hW, planted_mul_ct]
  unfold Toq.Metrics.conjDiag plantedDiag
  congr 3
  funext a
  by_cases h : a.val < dB
  · simp only [if_pos h, Complex.star_def, Complex.conj_ofReal, Complex.ofReal_mul]
  · simp only [if_neg h, mul_zero, Complex.ofReal_zero]

/-- `Aᴴ = W Dᴴ Uᴴ` is of the same form with the two sides exchanged -/
theorem planted_amp_ct_mul {dA dB : Nat} (s : Nat → ℝ) {U : Matrix (Fin dA) (Fin dA) ℂ} (hU : Uᴴ * U = 1)
    (W : Matrix (Fin dB) (Fin dB) ℂ) :
    (U * planted dA dB (fun i => (s i : ℂ)) * Wᴴ)ᴴ * (U * planted dA dB (fun i => (s i : ℂ)) * Wᴴ)
      = Toq.Metrics.conjDiag W fun b => plantedDiag dB dA s b * plantedDiag dB dA s b := by
  have hct : (U * planted dA dB (fun i => (s i : ℂ)) * Wᴴ)ᴴ = W * planted dB dA (fun i => (s i : ℂ)) * Uᴴ := by
    rw [Matrix.conjTranspose_mul, Matrix.conjTranspose_mul, Matrix.conjTranspose_conjTranspose, planted_ofReal_conjTranspose,
      Matrix.mul_assoc]
  have h := planted_amp_mul_ct s W hU
  rwa [← hct, Matrix.conjTranspose_conjTranspose] at h

theorem sumQ_eq_sum (l : List Rat) : sumQ l = l.sum := by
  unfold sumQ
  rw [List.sum_eq_foldl]

theorem sublist_sum_le_take (l : List Rat) (hs : l.Pairwise (fun a b => b ≤ a)) (h0 : ∀ x ∈ l, 0 ≤ x) :
    ∀ (k : Nat) (t : List Rat), t.Sublist l → t.length ≤ k → t.sum ≤ (l.take k).sum := by
  induction l with
  | nil =>
    intro k t ht _
    rw [List.sublist_nil.mp ht, List.take_nil]
  | cons x l' ih =>
    have hs' := List.pairwise_cons.mp hs
    have h0' : ∀ y ∈ l', 0 ≤ y := fun y hy => h0 y (List.mem_cons_of_mem _ hy)
    intro k t ht hk
    cases k with
    | zero => rw [List.eq_nil_of_length_eq_zero (Nat.le_zero.mp hk), List.take_zero]
    | succ k =>
      rw [List.take_succ_cons, List.sum_cons]
      cases ht with
      | cons _ ht' =>
        -- `x` is not used by `t`: its first entry, if any, is at most `x`
        cases t with
        | nil =>
          rw [List.sum_nil]
          exact add_nonneg (h0 x List.mem_cons_self) (List.sum_nonneg fun y hy => h0' y (List.mem_of_mem_take hy))
        | cons y t'' =>
          rw [List.sum_cons]
          exact add_le_add (hs'.1 y (ht'.subset List.mem_cons_self))
            (ih hs'.2 h0' k t'' ((List.sublist_cons_self y t'').trans ht') (Nat.le_of_succ_le_succ hk))
      | cons_cons _ ht' =>
        rw [List.sum_cons]
        exact add_le_add le_rfl (ih hs'.2 h0' k _ ht' (Nat.le_of_succ_le_succ hk))

theorem rankQ_congr (n m : Nat) (A B : Nat → Nat → QI) (h : ∀ i j, i < n → j < m → A i j = B i j) : rankQ n m A = rankQ n m B := by
  unfold rankQ Toq.Rank.rankFn
  have : (EMat.ofFn (n := n) (m := m) fun i j => A i.val j.val) = (EMat.ofFn (n := n) (m := m) fun i j => B i.val j.val) := by
    congr 1; funext i j; exact h i.val j.val i.isLt j.isLt
  rw [this]

end Toq.Entangle
