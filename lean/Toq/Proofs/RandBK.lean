import Toq.Proofs.Rand
import Toq.Proofs.Cert
/-!
# Barnum–Knill: `P(M)² ≤ P_pgm · tr(Σ pᵢρᵢ)` for every measurement `M`

Route (no fourth roots needed): for a positive semidefinite `S` the real form `⟪X, Y⟫_S = Re tr(S Xᴴ S Y)` on matrices is
symmetric and positive semidefinite (`tr(S · XᴴSX) ≥ 0` is `psd_trace_mul_nonneg`), hence, summed over a family, a positive
semidefinite symmetric bilinear form over `ℝ` (`bkSum`), which satisfies Cauchy–Schwarz.  With `S = (Σ Aᵢ)^{-1/2}`, `R = S⁻¹`, `Xᵢ = Aᵢ = pᵢρᵢ`, `Yᵢ = R Mᵢ R`:

* `⟪Aᵢ, R Mᵢ R⟫_S = Re tr(Aᵢ Mᵢ)`  — the success probability of `M`;
* `⟪Aᵢ, Aᵢ⟫_S = Re tr(Aᵢ · S Aᵢ S)` — the success probability of the pretty good measurement;
* `⟪R Mᵢ R, R Mᵢ R⟫_S = Re tr(R Mᵢ R · Mᵢ) ≤ Re tr(R Mᵢ R)` because `0 ≤ Mᵢ ≤ 1`, and `Σᵢ tr(R Mᵢ R) = tr(R R) = tr(Σ Aᵢ)`.
-/

open Matrix
open scoped ComplexOrder MatrixOrder

namespace Toq.Rand

variable {ι : Type*} [Fintype ι] [DecidableEq ι] {κ : Type*} [Fintype κ]

noncomputable def bkForm (S X Y : Matrix ι ι ℂ) : ℝ := (S * Xᴴ * S * Y).trace.re

theorem bkForm_self_nonneg {S : Matrix ι ι ℂ} (hS : S.PosSemidef) (X : Matrix ι ι ℂ) : 0 ≤ bkForm S X X := by
  unfold bkForm
  rw [Matrix.mul_assoc, Matrix.mul_assoc, ← Matrix.mul_assoc Xᴴ]
  exact psd_trace_mul_nonneg hS (hS.conjTranspose_mul_mul_same X)

omit [DecidableEq ι] in
theorem bkForm_symm {S : Matrix ι ι ℂ} (hS : Sᴴ = S) (X Y : Matrix ι ι ℂ) : bkForm S X Y = bkForm S Y X := by
  -- `tr(S Yᴴ S X)` is the trace of `(S Xᴴ S Y)ᴴ` with the trailing `S` moved to the front
  have h : (S * Xᴴ * S * Y)ᴴ = Yᴴ * S * X * S := by
    rw [conjTranspose_mul, conjTranspose_mul, conjTranspose_mul, conjTranspose_conjTranspose, hS]
    simp only [Matrix.mul_assoc]
  unfold bkForm
  rw [← Complex.conj_re (S * Xᴴ * S * Y).trace, ← Complex.star_def, ← trace_conjTranspose, h,
    Matrix.trace_mul_comm, ← Matrix.mul_assoc, ← Matrix.mul_assoc]

omit [DecidableEq ι] in
theorem bkForm_add_left (S X X' Y : Matrix ι ι ℂ) : bkForm S (X + X') Y = bkForm S X Y + bkForm S X' Y := by
  unfold bkForm
  rw [conjTranspose_add, Matrix.mul_add, Matrix.add_mul, Matrix.add_mul, trace_add, Complex.add_re]

omit [DecidableEq ι] in
theorem bkForm_add_right (S X Y Y' : Matrix ι ι ℂ) : bkForm S X (Y + Y') = bkForm S X Y + bkForm S X Y' := by
  unfold bkForm
  rw [Matrix.mul_add, trace_add, Complex.add_re]

omit [DecidableEq ι] in
theorem bkForm_smul_right (S X Y : Matrix ι ι ℂ) (t : ℝ) : bkForm S X (t • Y) = t * bkForm S X Y := by
  unfold bkForm
  rw [Matrix.mul_smul, trace_smul, Complex.real_smul, Complex.re_ofReal_mul]

omit [DecidableEq ι] in
theorem bkForm_smul_left {S : Matrix ι ι ℂ} (hS : Sᴴ = S) (X Y : Matrix ι ι ℂ) (t : ℝ) :
    bkForm S (t • X) Y = t * bkForm S X Y := by
  rw [bkForm_symm hS, bkForm_smul_right, bkForm_symm hS]

noncomputable def bkSum {S : Matrix ι ι ℂ} (hS : Sᴴ = S) : LinearMap.BilinForm ℝ (κ → Matrix ι ι ℂ) :=
  LinearMap.mk₂ ℝ (fun X Y => ∑ i, bkForm S (X i) (Y i))
    (fun X X' Y => by simp only [Pi.add_apply, bkForm_add_left, Finset.sum_add_distrib])
    (fun c X Y => by simp only [Pi.smul_apply, bkForm_smul_left hS, Finset.mul_sum, smul_eq_mul])
    (fun X Y Y' => by simp only [Pi.add_apply, bkForm_add_right, Finset.sum_add_distrib])
    (fun c X Y => by simp only [Pi.smul_apply, bkForm_smul_right, Finset.mul_sum, smul_eq_mul])

theorem bkForm_cauchy_schwarz {S : Matrix ι ι ℂ} (hS : S.PosSemidef) (X Y : κ → Matrix ι ι ℂ) :
    (∑ i, bkForm S (X i) (Y i)) ^ 2 ≤ (∑ i, bkForm S (X i) (X i)) * ∑ i, bkForm S (Y i) (Y i) :=
  (bkSum hS.isHermitian.eq).apply_sq_le_of_symm (fun Z => Finset.sum_nonneg fun i _ => bkForm_self_nonneg hS (Z i))
    ⟨fun Z W => Finset.sum_congr rfl fun i _ => bkForm_symm hS.isHermitian.eq (Z i) (W i)⟩ X Y

theorem normaliser_inverse {S P : Matrix ι ι ℂ} (hS : Sᴴ = S) (h : S * P * S = 1) :
    S * (P * S) = 1 ∧ (P * S) * S = 1 ∧ (P * S)ᴴ = P * S ∧ (P * S) * (P * S) = P := by
  have h1 : S * (P * S) = 1 := by rw [← Matrix.mul_assoc]; exact h
  refine ⟨h1, mul_eq_one_comm.mp h1, ?_, ?_⟩
  · -- `(P S)ᴴ` is a left inverse of `Sᴴ = S` and `P S` a right inverse
    have h2 : (P * S)ᴴ * S = 1 := by
      have := congrArg conjTranspose h1
      rwa [conjTranspose_mul, hS, conjTranspose_one] at this
    exact left_inv_eq_right_inv h2 h1
  · rw [Matrix.mul_assoc, h1, Matrix.mul_one]

theorem bkForm_conj_inverse {S R : Matrix ι ι ℂ} (hSR : S * R = 1) (hRS : R * S = 1) (X Y : Matrix ι ι ℂ) :
    bkForm S X (R * Y * R) = (Xᴴ * Y).trace.re := by
  unfold bkForm
  have h : S * Xᴴ * S * (R * Y * R) = S * (Xᴴ * ((S * R) * Y * R)) := by simp only [Matrix.mul_assoc]
  rw [h, hSR, Matrix.one_mul, Matrix.trace_mul_comm S, Matrix.mul_assoc, Matrix.mul_assoc, hRS, Matrix.mul_one]

theorem barnum_knill (A M : κ → Matrix ι ι ℂ) (S : Matrix ι ι ℂ) (hA : ∀ i, (A i).PosSemidef) (hS : S.PosSemidef)
    (hSPS : S * (∑ i, A i) * S = 1) (hM : IsPOVM M) :
    (∑ i, (A i * M i).trace.re) ^ 2 ≤ (∑ i, (A i * (S * A i * S)).trace.re) * (∑ i, A i).trace.re := by
  have hAh : ∀ i, (A i)ᴴ = A i := fun i => (hA i).isHermitian.eq
  obtain ⟨hSR, hRS, hRh, hRR⟩ := normaliser_inverse hS.isHermitian.eq hSPS
  generalize (∑ i, A i) * S = R at hSR hRS hRh hRR
  have e1 : ∀ i, bkForm S (A i) (R * M i * R) = (A i * M i).trace.re := fun i => by
    rw [bkForm_conj_inverse hSR hRS, hAh]
  have e2 : ∀ i, bkForm S (A i) (A i) = (A i * (S * A i * S)).trace.re := fun i => by
    unfold bkForm
    rw [hAh i, Matrix.trace_mul_comm (A i)]
  -- `Re tr(R Mᵢ R · (1 − Mᵢ)) ≥ 0`: both factors are positive semidefinite
  have e3 : ∀ i, bkForm S (R * M i * R) (R * M i * R) ≤ (R * M i * R).trace.re := fun i => by
    have hpsd : (R * M i * R).PosSemidef := by
      have := (hM.1 i).mul_mul_conjTranspose_same R
      rwa [hRh] at this
    have hnn := psd_trace_mul_nonneg hpsd (hM.one_sub_posSemidef i)
    rw [Matrix.mul_sub, Matrix.mul_one, trace_sub, Complex.sub_re] at hnn
    rw [bkForm_conj_inverse hSR hRS, hpsd.isHermitian.eq]
    linarith
  have e4 : ∑ i, (R * M i * R).trace.re = (∑ i, A i).trace.re := by
    rw [← Complex.re_sum, ← trace_sum, ← Finset.sum_mul, ← Finset.mul_sum, hM.2, Matrix.mul_one, hRR]
  have hcs := bkForm_cauchy_schwarz hS A (fun i => R * M i * R)
  simp_rw [e1, e2] at hcs
  refine hcs.trans (mul_le_mul_of_nonneg_left ?_ ?_)
  · rw [← e4]; exact Finset.sum_le_sum (fun i _ => e3 i)
  · exact Finset.sum_nonneg (fun i _ => by rw [← e2]; exact bkForm_self_nonneg hS _)

end Toq.Rand
