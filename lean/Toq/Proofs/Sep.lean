import Toq.Model.Sep
import Toq.Proofs.SepCriteria
import Toq.Proofs.Cert
import Toq.Proofs.Idx
/-!
# The C15 model on flat indices

`unflat` reads a matrix on the flat index `a * dB + b` of the executable model as a pair-indexed one, and the `…_toM` / `unflat_…` lemmas say that
the executable operators compute the pair-indexed ones of `Proofs/SepCriteria`.  The smallest-eigenvalue certificates and the rational form of the
Gurvits–Barnum ball test are read over `ℝ` here as well.
-/

open Matrix
open scoped ComplexOrder MatrixOrder Kronecker

namespace Toq.Sep

section Bridge
variable {dA dB : Nat}

@[simp] theorem fstI_pair (a : Fin dA) (b : Fin dB) : fstI (pair a b) = a :=
  Fin.ext (Nat.mul_add_divMod_of_lt b.isLt).1

@[simp] theorem sndI_pair (a : Fin dA) (b : Fin dB) : sndI (pair a b) = b :=
  Fin.ext (Nat.mul_add_divMod_of_lt b.isLt).2

@[simp] theorem pair_fst_snd (i : Fin (dA * dB)) : pair (fstI i) (sndI i) = i := by
  apply Fin.ext
  simp only [fstI, sndI, pair]
  exact Nat.div_add_mod' _ _

def pairEquiv (dA dB : Nat) : Fin dA × Fin dB ≃ Fin (dA * dB) where
  toFun p := pair p.1 p.2
  invFun i := (fstI i, sndI i)
  left_inv p := by simp
  right_inv i := by simp

@[simp] theorem pairEquiv_apply (a : Fin dA) (b : Fin dB) : pairEquiv dA dB (a, b) = pair a b := rfl

/-- Mathlib's equivalence, up to the spelling `b + dB * a` of the flat index -/
theorem pairEquiv_eq (dA dB : Nat) : pairEquiv dA dB = finProdFinEquiv :=
  Equiv.ext fun p => Fin.ext <| show p.1.val * dB + p.2.val = p.2.val + dB * p.1.val by rw [Nat.mul_comm, Nat.add_comm]

def unflat (M : Matrix (Fin (dA * dB)) (Fin (dA * dB)) ℂ) :
    Matrix (Fin dA × Fin dB) (Fin dA × Fin dB) ℂ :=
  M.submatrix (pairEquiv dA dB) (pairEquiv dA dB)

@[simp] theorem unflat_apply (M : Matrix (Fin (dA * dB)) (Fin (dA * dB)) ℂ) (a a' : Fin dA)
    (b b' : Fin dB) : unflat M (a, b) (a', b') = M (pair a b) (pair a' b') := rfl

theorem unflat_posSemidef_iff (M : Matrix (Fin (dA * dB)) (Fin (dA * dB)) ℂ) :
    (unflat M).PosSemidef ↔ M.PosSemidef :=
  posSemidef_submatrix_equiv (pairEquiv dA dB)

theorem unflat_mul (M N : Matrix (Fin (dA * dB)) (Fin (dA * dB)) ℂ) :
    unflat (M * N) = unflat M * unflat N :=
  (Matrix.submatrix_mul_equiv M N _ (pairEquiv dA dB) _).symm

theorem unflat_conjTranspose (M : Matrix (Fin (dA * dB)) (Fin (dA * dB)) ℂ) :
    unflat Mᴴ = (unflat M)ᴴ := rfl

theorem unflat_add (M N : Matrix (Fin (dA * dB)) (Fin (dA * dB)) ℂ) :
    unflat (M + N) = unflat M + unflat N := rfl

theorem unflat_smul (c : ℂ) (M : Matrix (Fin (dA * dB)) (Fin (dA * dB)) ℂ) :
    unflat (c • M) = c • unflat M := rfl

theorem unflat_sub (M N : Matrix (Fin (dA * dB)) (Fin (dA * dB)) ℂ) : unflat (M - N) = unflat M - unflat N := rfl

theorem unflat_one : unflat (1 : Matrix (Fin (dA * dB)) (Fin (dA * dB)) ℂ) = 1 :=
  Matrix.submatrix_one_equiv (pairEquiv dA dB)

theorem trace_unflat (M : Matrix (Fin (dA * dB)) (Fin (dA * dB)) ℂ) : (unflat M).trace = M.trace :=
  trace_submatrix_equiv (pairEquiv dA dB) M

theorem unflat_ptB (X : EMat (dA * dB) (dA * dB)) : unflat (ptB X).toM = ptBM (unflat X.toM) := by
  ext ⟨a, b⟩ ⟨a', b'⟩
  simp [ptB, ptBM]

theorem unflat_ptA (X : EMat (dA * dB) (dA * dB)) : unflat (ptA X).toM = ptAM (unflat X.toM) := by
  ext ⟨a, b⟩ ⟨a', b'⟩
  simp [ptA, ptAM]

theorem unflat_kron (U : EMat dA dA) (V : EMat dB dB) : unflat (kron U V).toM = U.toM ⊗ₖ V.toM := by
  ext ⟨a, b⟩ ⟨a', b'⟩
  simp [kron, kroneckerMap_apply, QI.toC_mul]

theorem outer_toM {n : Nat} (v : EMat n 1) : (outer v).toM = proj v.colC := by
  ext i j
  simp [outer, proj, EMat.colC, vecMulVec_apply, EMat.sumFin_toC, QI.toC_mul, QI.toC_conj]

theorem sepMix_isSepMix (ws : List Rat) (as : List (EMat dA 1)) (bs : List (EMat dB 1))
    (h : ∀ w ∈ ws, 0 ≤ w) : IsSepMix (unflat (sepMix ws as bs).toM) := by
  fun_induction sepMix ws as bs with
  | case1 w ws a as b bs ih =>
    rw [EMat.toM_add, EMat.toM_smul, unflat_add, unflat_smul, unflat_kron, outer_toM, outer_toM]
    exact (isSepMix_smul_kron_proj (by exact_mod_cast h w List.mem_cons_self) _ _).add
      (ih fun x hx => h x (List.mem_cons_of_mem _ hx))
  | case2 => rw [EMat.toM_zero]; exact isSepMix_zero

theorem unflat_pt (sys : Nat) (X : EMat (dA * dB) (dA * dB)) :
    unflat (pt sys X).toM = if sys = 1 then ptAM (unflat X.toM) else ptBM (unflat X.toM) := by
  unfold pt
  split
  · exact unflat_ptA X
  · exact unflat_ptB X

theorem IsSepMix.pt_posSemidef {X : EMat (dA * dB) (dA * dB)} (h : IsSepMix (unflat X.toM)) (sys : Nat) :
    (pt sys X).toM.PosSemidef := by
  rw [← unflat_posSemidef_iff, unflat_pt]
  split
  · exact h.ptAM_posSemidef
  · exact h.ptBM_posSemidef

theorem ptrBE_toM (X : EMat (dA * dB) (dA * dB)) : (ptrBE X).toM = ptrB (unflat X.toM) := by
  ext a a'
  simp only [ptrBE, ptrB, unflat_apply, EMat.toM_apply, EMat.get_ofFn, EMat.sumFin_toC]

theorem ptrAE_toM (X : EMat (dA * dB) (dA * dB)) : (ptrAE X).toM = ptrA (unflat X.toM) := by
  ext b b'
  simp only [ptrAE, ptrA, unflat_apply, EMat.toM_apply, EMat.get_ofFn, EMat.sumFin_toC]

end Bridge

section LamMin
variable {n k : Nat}

theorem checkLamMinLower_eq {A : EMat n n} {c : Rat} {L : EMat n k} {lo : Rat}
    (h : checkLamMinLower A c L = some lo) : EMat.psdCert (A - EMat.scalar c) L = true ∧ lo = c :=
  (check_eq_some.mp h).imp_right Eq.symm

theorem checkLamMinLower_psd {A : EMat n n} {c : Rat} {L : EMat n k} {lo : Rat}
    (h : checkLamMinLower A c L = some lo) :
    (A.toM - (((lo : ℝ) : ℂ)) • (1 : Matrix (Fin n) (Fin n) ℂ)).PosSemidef := by
  obtain ⟨hc, rfl⟩ := checkLamMinLower_eq h
  exact psdCert_denote hc (by rw [EMat.toM_sub, EMat.toM_scalar])

theorem normSqV_cast (v : EMat n 1) : ((normSqV v : Rat) : ℝ) = (star v.colC ⬝ᵥ v.colC).re :=
  congrArg Complex.re (EMat.toC_normSq v)

theorem quadForm_cast (A : EMat n n) (v : EMat n 1) :
    ((quadForm A v : Rat) : ℝ) = (star v.colC ⬝ᵥ (A.toM *ᵥ v.colC)).re :=
  congrArg Complex.re (EMat.toC_quad A v)

theorem checkLamMinUpper_eq {A : EMat n n} {v : EMat n 1} {hi : Rat}
    (h : checkLamMinUpper A v = some hi) : 0 < normSqV v ∧ hi = quadForm A v / normSqV v :=
  (check_eq_some.mp h).imp_right Eq.symm

theorem checkLamMinUpper_bound {A : EMat n n} {v : EMat n 1} {hi : Rat}
    (h : checkLamMinUpper A v = some hi) (c : ℝ)
    (hc : (A.toM - (c : ℂ) • (1 : Matrix (Fin n) (Fin n) ℂ)).PosSemidef) : c ≤ (hi : ℝ) := by
  obtain ⟨hpos, rfl⟩ := checkLamMinUpper_eq h
  have h1 := hc.le_re_quad v.colC
  rw [← quadForm_cast, ← normSqV_cast] at h1
  have hN : (0 : ℝ) < ((normSqV v : Rat) : ℝ) := by exact_mod_cast hpos
  rwa [Rat.cast_div, le_div_iff₀ hN]

theorem checkLamMinUpper_neg_not_psd {A : EMat n n} {v : EMat n 1} {hi : Rat} (h : checkLamMinUpper A v = some hi) (hneg : hi < 0) :
    ¬ A.toM.PosSemidef := fun hA =>
  have h0 : (0 : ℝ) ≤ (hi : ℝ) := checkLamMinUpper_bound h 0 (by rwa [Complex.ofReal_zero, zero_smul, sub_zero])
  absurd (by exact_mod_cast h0) (not_le.mpr hneg)

theorem lamMinVerdict_eq_some {A : EMat n n} {tol c : Rat} {L : EMat n k} {v : EMat n 1} {b : Bool}
    (h : lamMinVerdict A tol c L v = some b) :
    (b = true ∧ ∃ lo, checkLamMinLower A c L = some lo ∧ -tol ≤ lo) ∨
    (b = false ∧ ∃ hi, checkLamMinUpper A v = some hi ∧ hi < -tol) := by
  unfold lamMinVerdict at h
  -- the upper certificate is consulted in the same way whether or not a lower one was accepted
  have upper : ∀ {b}, (match checkLamMinUpper A v with
        | some hi => if hi < -tol then some false else none
        | none => none) = some b → b = false ∧ ∃ hi, checkLamMinUpper A v = some hi ∧ hi < -tol := by
    intro b hb
    cases hhi : checkLamMinUpper A v with
    | none => rw [hhi] at hb; cases hb
    | some hi =>
      rw [hhi] at hb
      obtain ⟨hlt, rfl⟩ := check_eq_some.mp hb
      exact ⟨rfl, hi, rfl, hlt⟩
  cases hlo : checkLamMinLower A c L with
  | none => rw [hlo] at h; exact .inr (upper h)
  | some lo =>
    rw [hlo] at h
    dsimp only at h
    by_cases hle : -tol ≤ lo
    · rw [if_pos hle] at h; exact .inl ⟨(Option.some.inj h).symm, lo, rfl, hle⟩
    · rw [if_neg hle] at h; exact .inr (upper h)

theorem lamMinVerdict_sound {A : EMat n n} {tol c : Rat} {L : EMat n k} {v : EMat n 1} {b : Bool}
    (h : lamMinVerdict A tol c L v = some b) :
    b = true ↔ (A.toM + ((tol : ℝ) : ℂ) • (1 : Matrix (Fin n) (Fin n) ℂ)).PosSemidef := by
  have e : A.toM + ((tol : ℝ) : ℂ) • (1 : Matrix (Fin n) (Fin n) ℂ) = A.toM - ((-(tol : ℝ) : ℝ) : ℂ) • 1 := by
    rw [Complex.ofReal_neg, neg_smul, sub_neg_eq_add]
  rw [e]
  rcases lamMinVerdict_eq_some h with ⟨rfl, lo, hlo, hle⟩ | ⟨rfl, hi, hhi, hlt⟩
  · exact iff_of_true rfl ((checkLamMinLower_psd hlo).sub_smul_one_mono (by exact_mod_cast hle))
  · refine iff_of_false Bool.false_ne_true fun hpsd => ?_
    have h1 := checkLamMinUpper_bound hhi _ hpsd
    have h2 : ((hi : Rat) : ℝ) < -(tol : ℝ) := by exact_mod_cast hlt
    linarith

end LamMin

section Ball
variable {n : Nat}

theorem frob2_cast {r c : Nat} (M : EMat r c) : ((frob2 M : Rat) : ℝ) = frobSq M.toM := by
  unfold frob2 frobSq
  rw [EMat.sumFinQ_cast]
  refine Finset.sum_congr rfl fun i _ => ?_
  rw [EMat.sumFinQ_cast]
  refine Finset.sum_congr rfl fun j _ => ?_
  simp [Complex.normSq_apply]

theorem trRe_cast (M : EMat n n) : ((trRe M : Rat) : ℝ) = (Matrix.trace M.toM).re := EMat.re_trace M

theorem frobSq_affine (q r : ℝ) (X : Matrix (Fin n) (Fin n) ℂ) :
    frobSq ((q : ℂ) • X - (r : ℂ) • (1 : Matrix (Fin n) (Fin n) ℂ))
      = q ^ 2 * frobSq X - 2 * q * r * (Matrix.trace X).re + n * r ^ 2 := by
  unfold frobSq
  have h : ∀ i j, Complex.normSq (((q : ℂ) • X - (r : ℂ) • (1 : Matrix (Fin n) (Fin n) ℂ)) i j)
      = q ^ 2 * Complex.normSq (X i j) - 2 * q * r * (if i = j then (X i j).re else 0)
        + (if i = j then r ^ 2 else 0) := by
    intro i j
    simp only [Matrix.sub_apply, Matrix.smul_apply, Matrix.one_apply, smul_eq_mul, Complex.normSq_apply,
      Complex.sub_re, Complex.sub_im, Complex.re_ofReal_mul, Complex.im_ofReal_mul]
    split <;> simp <;> ring
  simp_rw [h]
  simp only [Finset.sum_add_distrib, Finset.sum_sub_distrib, ← Finset.mul_sum, Finset.sum_ite_eq,
    Finset.mem_univ, if_true, Matrix.trace, Matrix.diag_apply, Complex.re_sum, Finset.sum_const,
    Finset.card_univ, Fintype.card_fin, nsmul_eq_mul]

theorem frobSq_pos_of_trace {X : Matrix (Fin n) (Fin n) ℂ} (h : 0 < (Matrix.trace X).re) :
    0 < frobSq X := by
  refine (frobSq_nonneg X).lt_of_ne' fun h0 => ?_
  rw [eq_zero_of_frobSq_eq_zero h0] at h
  simp at h

/-- the comparison made by `in_separable_ball` after its two normalisations `ρ = X / tr X`, `ρ / ‖ρ‖_F²` -/
theorem sepBallMirror_frobSq_iff (X : Matrix (Fin n) (Fin n) ℂ) (ht : 0 < (Matrix.trace X).re) :
    frobSq (((1 / frobSq (((1 / (Matrix.trace X).re : ℝ) : ℂ) • X) : ℝ) : ℂ)
        • (((1 / (Matrix.trace X).re : ℝ) : ℂ) • X) - 1) ≤ 1
      ↔ ((n : ℝ) - 1) * frobSq X ≤ (Matrix.trace X).re * (Matrix.trace X).re := by
  set t := (Matrix.trace X).re
  set ρ := ((1 / t : ℝ) : ℂ) • X with hρ
  have hF := frobSq_pos_of_trace ht
  have hs : frobSq ρ = frobSq X / (t * t) := by
    rw [hρ, frobSq_smul]; field_simp
  have htr : (Matrix.trace ρ).re = 1 := by
    rw [hρ, Matrix.re_trace_smul]
    exact one_div_mul_cancel ht.ne'
  have e : frobSq (((1 / frobSq ρ : ℝ) : ℂ) • ρ - 1) = n - 1 / frobSq ρ := by
    have h0 : frobSq ρ ≠ 0 := by rw [hs]; positivity
    rw [← one_smul ℂ (1 : Matrix (Fin n) (Fin n) ℂ), ← Complex.ofReal_one, frobSq_affine, htr]
    field_simp; ring
  rw [e, hs, one_div_div, sub_le_comm, le_div_iff₀ hF]

/-- the ball inequality `‖X/t − 1/n‖_F² ≤ 1/(n(n−1))` as a polynomial inequality: by `frobSq_affine` the left side is `F/t² − 1/n` with
`F = ‖X‖_F²`, and `1/(n(n−1)) + 1/n = 1/(n−1)` -/
theorem sepBall_frobSq_iff (X : Matrix (Fin n) (Fin n) ℂ) (ht : 0 < (Matrix.trace X).re) (hn : 2 ≤ n) :
    let t := (Matrix.trace X).re
    frobSq (((1 / t : ℝ) : ℂ) • X - ((1 / (n : ℝ) : ℝ) : ℂ) • (1 : Matrix (Fin n) (Fin n) ℂ))
        ≤ 1 / ((n : ℝ) * ((n : ℝ) - 1))
      ↔ ((n : ℝ) - 1) * frobSq X ≤ t * t := by
  intro t
  have ht : 0 < t := ht
  have hn1 : (0 : ℝ) < (n : ℝ) - 1 := by
    have : (2 : ℝ) ≤ (n : ℝ) := by exact_mod_cast hn
    linarith
  have hn0 : (n : ℝ) ≠ 0 := by linarith
  have e : (1 / t) ^ 2 * frobSq X - 2 * (1 / t) * (1 / n) * t + n * (1 / (n : ℝ)) ^ 2 = frobSq X / (t * t) - 1 / n := by
    field_simp [ht.ne']; ring
  have e2 : 1 / ((n : ℝ) * (n - 1)) + 1 / n = 1 / (n - 1) := by
    field_simp; ring
  rw [frobSq_affine, e, sub_le_iff_le_add, e2, div_le_div_iff₀ (mul_pos ht ht) hn1, one_mul, mul_comm]

theorem inSepBall_iff (thr : Rat) (M : EMat n n) :
    inSepBall thr M = true ↔ (thr : ℝ) ≤ (Matrix.trace M.toM).re ∧
      ((n : ℝ) - 1) * frobSq M.toM ≤ (Matrix.trace M.toM).re * (Matrix.trace M.toM).re := by
  unfold inSepBall
  rw [Bool.and_eq_true, decide_eq_true_eq, decide_eq_true_eq, ← trRe_cast, ← frob2_cast]
  simp only [← Rat.cast_le (K := ℝ), Rat.cast_sub, Rat.cast_mul, Rat.cast_natCast, Rat.cast_one]

theorem inSepBallMirror_iff (thr : Rat) (M : EMat n n) :
    inSepBallMirror thr M = true ↔ (thr : ℝ) ≤ (Matrix.trace M.toM).re ∧
      frobSq (((1 / frobSq (((1 / (Matrix.trace M.toM).re : ℝ) : ℂ) • M.toM) : ℝ) : ℂ)
        • (((1 / (Matrix.trace M.toM).re : ℝ) : ℂ) • M.toM) - 1) ≤ 1 := by
  unfold inSepBallMirror
  rw [← trRe_cast, Rat.cast_le]
  split
  · next ht => exact iff_of_false Bool.false_ne_true fun h => absurd h.1 (not_le.mpr ht)
  · next ht =>
    have e1 : (EMat.smul (1 / trRe M) M).toM = ((1 / ((trRe M : Rat) : ℝ) : ℝ) : ℂ) • M.toM := by
      rw [EMat.toM_smul, Rat.cast_div, Rat.cast_one]
    have e2 : (EMat.smul (1 / frob2 (EMat.smul (1 / trRe M) M)) (EMat.smul (1 / trRe M) M) - EMat.one).toM
        = ((1 / frobSq (((1 / ((trRe M : Rat) : ℝ) : ℝ) : ℂ) • M.toM) : ℝ) : ℂ)
            • (((1 / ((trRe M : Rat) : ℝ) : ℝ) : ℂ) • M.toM) - 1 := by
      rw [EMat.toM_sub, EMat.toM_smul, EMat.toM_one, Rat.cast_div, Rat.cast_one, frob2_cast, e1]
    rw [decide_eq_true_eq, and_iff_right (not_lt.mp ht), ← e2, ← frob2_cast]
    norm_cast

end Ball

end Toq.Sep
