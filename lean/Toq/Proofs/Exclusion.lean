import Toq.Model.Exclusion
import Toq.Proofs.DiscrimArgs
/-!
# Helper lemmas for C11 (state exclusion)

Minimum-error exclusion of `(p_i, ρ_i)` is minimum-error discrimination (`Toq.Proofs.Discrim`) of the weighted states `−p_i ρ_i`
(`meVal_neg_smul`); `Toq.Properties.C11` reads its gap identity, attainment and weak duality off those of discrimination at that instance.

Soundness of the function-indexed core checkers of `Toq.Model.Exclusion`.

The argument handling and the arithmetic `is_antidistinguishable` does after the solve: `Toq.Excl.toDensityVec`, `defaultProbs`, `ratAbs`,
`isclose` (`Toq.Model.Exclusion`) have the bodies of `sdToDensityVec`, `sdDefaultProbs`, `sdRatAbs`, `sdIsclose` (`Toq.Model.DiscrimArgs`),
whose lemmas are used.
-/

open Matrix
open scoped ComplexOrder MatrixOrder

namespace Toq.Excl
open EMat Toq.Discrim

section Generic
variable {ι κ : Type*} [Fintype ι] [Fintype κ]

theorem meVal_neg_smul (ρ : κ → Matrix ι ι ℂ) (p : κ → ℝ) (M : κ → Matrix ι ι ℂ) :
    meVal (fun i => -((p i : ℂ) • ρ i)) M = -Toq.Rand.successProb ρ p M := by
  rw [← meVal_smul]
  unfold meVal
  simp only [Matrix.neg_mul, Matrix.trace_neg, Complex.neg_re, Finset.sum_neg_distrib]

variable [DecidableEq ι]

theorem zero_mem_lowerBounds_successValues (ρ : κ → Matrix ι ι ℂ) (p : κ → ℝ) (hρ : ∀ i, (ρ i).PosSemidef) (hp : ∀ i, 0 ≤ p i) :
    0 ∈ lowerBounds (Toq.Rand.successValues ρ p) :=
  mem_lowerBounds_values.mpr fun M hM => me_nonneg ρ p M hρ hp hM.1

end Generic

variable {d : Nat}

theorem exclValueFn_cast (k : Nat) (ρ : Fin k → EMat d d) (p : Fin k → Rat) (M : Fin k → EMat d d) :
    ((exclValueFn k ρ p M : Rat) : ℝ)
      = ∑ i, ((p i : Rat) : ℝ) * ((ρ i).toM * (M i).toM).trace.re :=
  minErrValueFn_cast k ρ p M

theorem checkExclPrimalFn_sound (k : Nat) (ρ : Fin k → EMat d d) (p : Fin k → Rat)
    (M LM : Fin k → EMat d d) (hi : Rat) (h : checkExclPrimalFn k ρ p M LM = some hi) :
    Toq.Rand.IsPOVM (fun i => (M i).toM) ∧
      Toq.Rand.successProb (fun i => (ρ i).toM) (fun i => ((p i : Rat) : ℝ)) (fun i => (M i).toM) = (hi : ℝ) :=
  checkMinErrPrimalFn_sound k ρ p M LM hi h

theorem exclDualPsdOk_sound {k : Nat} {ρ : Fin k → EMat d d} {p : Fin k → Rat} {Y : EMat d d} {LY : Fin k → EMat d d}
    (h : exclDualPsdOk k ρ p Y LY = true) (i : Fin k) : ((((p i : Rat) : ℝ) : ℂ) • (ρ i).toM - Y.toM).PosSemidef :=
  psdCert_denote ((allFin_iff _ _).mp h i) (by rw [exclDualSlack, toM_sub, toM_smul])

theorem checkExclDualFn_sound (k : Nat) (ρ : Fin k → EMat d d) (p : Fin k → Rat) (Y : EMat d d)
    (LY : Fin k → EMat d d) (lo : Rat) (h : checkExclDualFn k ρ p Y LY = some lo) :
    Y.toM.IsHermitian ∧ (∀ i, ((((p i : Rat) : ℝ) : ℂ) • (ρ i).toM - Y.toM).PosSemidef) ∧
      Y.toM.trace.re = (lo : ℝ) := by
  obtain ⟨rfl, hH, hY⟩ := guard_eq_some h
  exact ⟨isHermitian_sound _ hH, exclDualPsdOk_sound hY, (re_trace Y).symm⟩

theorem toM_sumStates (k : Nat) (ρ : Fin k → EMat d d) (p : Fin k → Rat) :
    (sumStates k ρ p).toM = ∑ i, (((p i : Rat) : ℝ) : ℂ) • (ρ i).toM := by
  unfold sumStates
  rw [toM_sumMats]
  exact Finset.sum_congr rfl fun i _ => toM_smul _ _

theorem toM_unambRest (k : Nat) (M : Fin k → EMat d d) :
    (unambRest k M).toM = 1 - ∑ i, (M i).toM := by
  unfold unambRest
  rw [toM_sub, toM_one, toM_sumMats]

theorem unambZeroLhs_cast (k : Nat) (ρ : Fin k → EMat d d) (p : Fin k → Rat) (M : Fin k → EMat d d)
    (i : Fin k) :
    ((unambZeroLhs ρ p M i : Rat) : ℝ) = (((((p i : Rat) : ℝ) : ℂ) • (ρ i).toM) * (M i).toM).trace.re := by
  unfold unambZeroLhs
  rw [re_trace, toM_mul, toM_smul]

theorem checkUnambExclPrimalFn_sound (k : Nat) (ρ : Fin k → EMat d d) (p : Fin k → Rat)
    (M LM : Fin k → EMat d d) (LR : EMat d d) (hi : Rat)
    (h : checkUnambExclPrimalFn k ρ p M LM LR = some hi) :
    (∀ i, (M i).toM.PosSemidef) ∧ (1 - ∑ i, (M i).toM).PosSemidef ∧
      (∀ i, (((((p i : Rat) : ℝ) : ℂ) • (ρ i).toM) * (M i).toM).trace.re = 0) ∧
      ((∑ i, (((p i : Rat) : ℝ) : ℂ) • (ρ i).toM) * (1 - ∑ i, (M i).toM)).trace.re = (hi : ℝ) := by
  obtain ⟨hc, rfl⟩ := check_eq_some.mp h
  simp only [Bool.and_eq_true] at hc
  obtain ⟨⟨hpsd, hrest⟩, hz⟩ := hc
  refine ⟨povmPsdOk_sound hpsd, psdCert_denote hrest (toM_unambRest k M), fun i => ?_, ?_⟩
  · rw [← unambZeroLhs_cast, of_decide_eq_true ((allFin_iff _ _).mp hz i), Rat.cast_zero]
  · rw [unambExclValueFn, re_trace, toM_mul, toM_sumStates, toM_unambRest]

theorem toM_unambDualSlack (k : Nat) (ρ : Fin k → EMat d d) (p : Fin k → Rat) (N : EMat d d)
    (a : Fin k → Rat) (i : Fin k) :
    (unambDualSlack k ρ p N a i).toM
      = N.toM + (((a i : Rat) : ℝ) : ℂ) • ((((p i : Rat) : ℝ) : ℂ) • (ρ i).toM)
        - ∑ j, (((p j : Rat) : ℝ) : ℂ) • (ρ j).toM := by
  unfold unambDualSlack
  rw [toM_sub, toM_add, toM_smul, toM_smul, toM_sumStates]

theorem checkUnambExclDualFn_sound (k : Nat) (ρ : Fin k → EMat d d) (p : Fin k → Rat) (N : EMat d d)
    (a : Fin k → Rat) (LN : EMat d d) (LD : Fin k → EMat d d) (lo : Rat)
    (h : checkUnambExclDualFn k ρ p N a LN LD = some lo) :
    N.toM.PosSemidef ∧
      (∀ i, (N.toM + (((a i : Rat) : ℝ) : ℂ) • ((((p i : Rat) : ℝ) : ℂ) • (ρ i).toM)
        - ∑ j, (((p j : Rat) : ℝ) : ℂ) • (ρ j).toM).PosSemidef) ∧
      (∑ j, (((p j : Rat) : ℝ) : ℂ) • (ρ j).toM).trace.re - N.toM.trace.re = (lo : ℝ) := by
  obtain ⟨rfl, hN, hD⟩ := guard_eq_some h
  refine ⟨psdCert_sound _ _ hN, fun i => psdCert_denote ((allFin_iff _ _).mp hD i) (toM_unambDualSlack k ρ p N a i), ?_⟩
  rw [unambDualBound, Rat.cast_sub, re_trace, re_trace, toM_sumStates]

theorem unambDualCodeObjective_eq (k : Nat) (ρ : Fin k → EMat d d) (p : Fin k → Rat) (N : EMat d d) :
    unambDualCodeObjective N = unambDualBound k ρ p N + (1 - (sumStates k ρ p).trace.re) := by
  unfold unambDualCodeObjective unambDualBound
  ring

theorem toDensityVec_eq : @toDensityVec d = sdToDensityVec := rfl

theorem defaultProbs_eq : defaultProbs = sdDefaultProbs := rfl

theorem isclose_eq : isclose = sdIsclose := rfl

theorem isclose_iff (a b : Rat) : isclose a b = true ↔ |a - b| ≤ 1 / 100000000 + 1 / 100000 * |b| :=
  isclose_eq ▸ sdIsclose_iff a b

theorem antidistTest_iff (v : Rat) : antidistTest v = true ↔ |v| ≤ 1 / 100000000 := by
  unfold antidistTest
  rw [isclose_iff]
  simp

theorem antidistTest_iff_real (v : Rat) : antidistTest v = true ↔ |(v : ℝ)| ≤ 1 / 100000000 := by
  rw [antidistTest_iff, ← Rat.cast_abs, ← Rat.cast_le (K := ℝ), Rat.cast_div, Rat.cast_one, Rat.cast_ofNat]

end Toq.Excl
