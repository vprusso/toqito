import Toq.Proofs.ChannelProps
import Mathlib.LinearAlgebra.Matrix.NonsingularInverse
import Mathlib.LinearAlgebra.Matrix.Hermitian
import Mathlib.Analysis.Matrix.PosDef
/-!
# Choi's characterisation of the extreme points of the set of channels  (helper lemmas for C06)

`IsExtremeChannel Φ` (`Toq/Spec/ChannelProps.lean`): `Φ` is a channel and is not a proper convex combination of two
channels.  For operators `W_1 … W_r` that form a basis of `span{K_i}` (= the operators whose column-stacking vectors
span the column space of the Choi matrix) the theorem `choiExtreme_iff_of_basis` says

    Φ extreme   ⇔   the r² operators W_kᴴ W_l are linearly independent.

Route (Choi 1975; Watrous, Theorem 2.31), with `L = leftInv V = (VᴴV)⁻¹Vᴴ` the left inverse of a matrix `V` with independent columns and `V L`
the orthogonal projector onto its column space:
* `factor_through` — a Hermitian `A` that vanishes on `ker Vᴴ` is `V M Vᴴ` with `M = L A Lᴴ`;
* `ker_of_dominated` — `0 ≤ B ≤ c·A` implies `ker A ⊆ ker B`;
* `ptraceOut_sandwich` — `Tr_out (V M Vᴴ) = (Σ_kl M_kl W_lᴴ W_k)ᵀ`, so trace preservation of two maps with
  coefficient matrices `M`, `M₀` gives `Σ (M - M₀)_kl W_lᴴ W_k = 0`;
* `exists_pos_perturb` — for positive definite `M₀` and Hermitian `H` both `M₀ ± εH` are positive semidefinite for
  some `ε > 0`;
* `eq_zero_of_extreme` — an extreme `J` is not the midpoint of `J ± E`, so the perturbation `E = ε·V H Vᴴ` vanishes.
-/
open Toq.ChanPropSpec Matrix
open scoped ComplexOrder

namespace Toq.ChanPropProofs

section Algebra
variable {N : Type*} [Fintype N] {r : Nat}

theorem gram_isUnit_det (V : Matrix N (Fin r) ℂ) (hV : Function.Injective V.mulVec) : IsUnit (Vᴴ * V).det :=
  (Matrix.isUnit_iff_isUnit_det _).mp (Matrix.PosDef.conjTranspose_mul_self V hV).isUnit

noncomputable def leftInv (V : Matrix N (Fin r) ℂ) : Matrix (Fin r) N ℂ := (Vᴴ * V)⁻¹ * Vᴴ

theorem leftInv_mul (V : Matrix N (Fin r) ℂ) (hV : Function.Injective V.mulVec) : leftInv V * V = 1 := by
  rw [leftInv, Matrix.mul_assoc, Matrix.nonsing_inv_mul _ (gram_isUnit_det V hV)]

theorem conjTranspose_mul_leftInv (V : Matrix N (Fin r) ℂ) (hV : Function.Injective V.mulVec) : Vᴴ * (leftInv V)ᴴ = 1 := by
  rw [← Matrix.conjTranspose_mul, leftInv_mul V hV, Matrix.conjTranspose_one]

theorem mul_leftInv_hermitian (V : Matrix N (Fin r) ℂ) : (V * leftInv V)ᴴ = V * leftInv V := by
  rw [leftInv, Matrix.conjTranspose_mul, Matrix.conjTranspose_mul, Matrix.conjTranspose_conjTranspose,
    (Matrix.isHermitian_conjTranspose_mul_self V).inv.eq, Matrix.mul_assoc]

theorem leftInv_sandwich (V : Matrix N (Fin r) ℂ) (hV : Function.Injective V.mulVec) (M : Matrix (Fin r) (Fin r) ℂ) :
    leftInv V * (V * M * Vᴴ) * (leftInv V)ᴴ = M := by
  rw [Matrix.mul_assoc V, ← Matrix.mul_assoc (leftInv V), leftInv_mul V hV, Matrix.one_mul, Matrix.mul_assoc,
    conjTranspose_mul_leftInv V hV, Matrix.mul_one]

theorem mul_left_cancel_of_injective (V : Matrix N (Fin r) ℂ) (hV : Function.Injective V.mulVec) {m : Type*}
    (X Y : Matrix (Fin r) m ℂ) (h : V * X = V * Y) : X = Y := by
  rw [← Matrix.one_mul X, ← Matrix.one_mul Y, ← leftInv_mul V hV, Matrix.mul_assoc, Matrix.mul_assoc, h]

theorem sandwich_injective (V : Matrix N (Fin r) ℂ) (hV : Function.Injective V.mulVec)
    (M M' : Matrix (Fin r) (Fin r) ℂ) (h : V * M * Vᴴ = V * M' * Vᴴ) : M = M' := by
  rw [← leftInv_sandwich V hV M, h, leftInv_sandwich V hV M']

/-- `A = P A P` for the projector `P = V·leftInv V`, whose kernel `ker Vᴴ` the Hermitian `A` annihilates -/
theorem factor_through [DecidableEq N] (V : Matrix N (Fin r) ℂ) (hV : Function.Injective V.mulVec) (A : Matrix N N ℂ)
    (hA : A.IsHermitian) (hker : ∀ y, Vᴴ *ᵥ y = 0 → A *ᵥ y = 0) :
    A = V * (leftInv V * A * (leftInv V)ᴴ) * Vᴴ := by
  have hPH := mul_leftInv_hermitian V
  have hVP : Vᴴ * (V * leftInv V) = Vᴴ := by
    have := congrArg Matrix.conjTranspose (show V * leftInv V * V = V by rw [Matrix.mul_assoc, leftInv_mul V hV, Matrix.mul_one])
    rwa [Matrix.conjTranspose_mul, hPH] at this
  have h1 : A = A * (V * leftInv V) := by
    refine Matrix.mulVec_injective (funext fun x => ?_)
    rw [← Matrix.mulVec_mulVec, eq_comm, ← sub_eq_zero, ← Matrix.mulVec_sub]
    apply hker
    rw [Matrix.mulVec_sub, Matrix.mulVec_mulVec, hVP, sub_self]
  have h2 : A = V * leftInv V * A := by
    have := congrArg Matrix.conjTranspose h1
    rwa [Matrix.conjTranspose_mul, hPH, hA.eq] at this
  calc A = V * leftInv V * (A * (V * leftInv V)ᴴ) := by rw [hPH, ← h1, ← h2]
    _ = V * (leftInv V * A * (leftInv V)ᴴ) * Vᴴ := by
      rw [Matrix.conjTranspose_mul]; simp only [Matrix.mul_assoc]

theorem ker_of_dominated {A B : Matrix N N ℂ} (hB : B.PosSemidef) (c : ℂ) (h : (c • A - B).PosSemidef)
    (y : N → ℂ) (hy : A *ᵥ y = 0) : B *ᵥ y = 0 := by
  rw [← hB.dotProduct_mulVec_zero_iff]
  have h1 := h.dotProduct_mulVec_nonneg y
  have h2 := hB.dotProduct_mulVec_nonneg y
  rw [Matrix.sub_mulVec, Matrix.smul_mulVec, hy, smul_zero, zero_sub, dotProduct_neg] at h1
  exact le_antisymm (neg_nonneg.mp h1) h2

end Algebra

section Perturb
variable {r : Nat}

/-- `M₀ + t·H = (M₀ - δ·1) + (t·H + δ·1)` with `δ` below the spectrum of `M₀`, and `t·H + δ·1 ⪰ 0` is read off the
    eigenvalues `λ_i` of `H` for `|t| = δ / (1 + Σ|λ_i|)`. -/
theorem exists_pos_perturb {M₀ H : Matrix (Fin r) (Fin r) ℂ} (hM : M₀.PosDef) (hH : H.IsHermitian) :
    ∃ ε : ℝ, 0 < ε ∧ (M₀ + (ε : ℂ) • H).PosSemidef ∧ (M₀ - (ε : ℂ) • H).PosSemidef := by
  obtain ⟨δ, hδ, hMδ⟩ := hM.exists_pos_smul_one_le
  set S := ∑ j, |hH.eigenvalues j| with hS
  have hS0 : 0 ≤ S := Finset.sum_nonneg fun j _ => abs_nonneg _
  have hle : ∀ i, |hH.eigenvalues i| ≤ S := fun i =>
    Finset.single_le_sum (f := fun j => |hH.eigenvalues j|) (fun j _ => abs_nonneg _) (Finset.mem_univ i)
  have hε : 0 < δ / (1 + S) := div_pos hδ (by linarith)
  have key : ∀ t : ℝ, |t| = δ / (1 + S) → (M₀ + (t : ℂ) • H).PosSemidef := fun t ht => by
    have h2 : ((t : ℂ) • H + (δ : ℂ) • (1 : Matrix (Fin r) (Fin r) ℂ)).PosSemidef :=
      (Toq.Metrics.posSemidef_smul_add_smul_one_iff hH t δ).mpr fun i => by
        have h3 : |t * hH.eigenvalues i| ≤ δ := by
          rw [abs_mul, ht]
          exact (mul_le_mul_of_nonneg_left (by linarith [hle i]) hε.le).trans_eq (div_mul_cancel₀ _ (by linarith))
        linarith [neg_abs_le (t * hH.eigenvalues i)]
    have := hMδ.add h2
    rwa [sub_add_add_cancel] at this
  refine ⟨_, hε, key _ (abs_of_pos hε), ?_⟩
  have := key (-(δ / (1 + S))) (by rw [abs_neg, abs_of_pos hε])
  rwa [Complex.ofReal_neg, neg_smul, ← sub_eq_add_neg] at this

end Perturb

section ColSpace
variable {N : Type*} [Fintype N] {r : Nat}

theorem rank_of_injective (V : Matrix N (Fin r) ℂ) (hV : Function.Injective V.mulVec) : V.rank = r :=
  (Matrix.linearIndependent_col_iff_rank V).mp (Matrix.mulVec_injective_iff.mp hV)

/-- If the `r = rank J` independent columns of `V` lie in the column space of the Hermitian matrix `J`
    (`V = J·C`), they span it; hence `J` vanishes on the kernel of `Vᴴ`. -/
theorem ker_of_colspace [DecidableEq N] (J : Matrix N N ℂ) (hJ : J.IsHermitian) (V : Matrix N (Fin r) ℂ)
    (hV : Function.Injective V.mulVec) (Cc : Matrix N (Fin r) ℂ) (hcol : V = J * Cc) (hr : J.rank = r) :
    ∀ y, Vᴴ *ᵥ y = 0 → J *ᵥ y = 0 := by
  have hle : LinearMap.range V.mulVecLin ≤ LinearMap.range J.mulVecLin := by
    rw [hcol, Matrix.mulVecLin_mul]
    exact LinearMap.range_comp_le_range _ _
  have heq := Submodule.eq_of_le_of_finrank_eq hle (show V.rank = J.rank by rw [rank_of_injective V hV, hr])
  -- the columns of `J` lie in the column space of `V`, which the projector `P = V·leftInv V` fixes: `P J = J`, hence `J = J P`
  have hPJ : V * leftInv V * J = J := by
    refine Matrix.mulVec_injective (funext fun x => ?_)
    obtain ⟨c, hc⟩ : J *ᵥ x ∈ LinearMap.range V.mulVecLin := heq ▸ ⟨x, rfl⟩
    rw [← Matrix.mulVec_mulVec, ← hc, Matrix.mulVecLin_apply, Matrix.mulVec_mulVec, Matrix.mul_assoc, leftInv_mul V hV,
      Matrix.mul_one]
  have hJP : J = J * (V * leftInv V) := by
    have := congrArg Matrix.conjTranspose hPJ
    rwa [Matrix.conjTranspose_mul, mul_leftInv_hermitian, hJ.eq, eq_comm] at this
  intro y hy
  rw [hJP, leftInv, ← Matrix.mulVec_mulVec, ← Matrix.mulVec_mulVec, ← Matrix.mulVec_mulVec, hy, Matrix.mulVec_zero,
    Matrix.mulVec_zero, Matrix.mulVec_zero]

end ColSpace

section Channel
variable {di dO r : Nat}

def prodSum (W : Fin r → Matrix (Fin dO) (Fin di) ℂ) : Matrix (Fin r) (Fin r) ℂ →ₗ[ℂ] Matrix (Fin di) (Fin di) ℂ where
  toFun M := ∑ k, ∑ l, M k l • ((W l)ᴴ * W k)
  map_add' M M' := by simp only [Matrix.add_apply, add_smul, Finset.sum_add_distrib]
  map_smul' c M := by simp only [Matrix.smul_apply, smul_eq_mul, mul_smul, Finset.smul_sum, RingHom.id_apply]

theorem prodSum_apply (W : Fin r → Matrix (Fin dO) (Fin di) ℂ) (M : Matrix (Fin r) (Fin r) ℂ) :
    prodSum W M = ∑ k, ∑ l, M k l • ((W l)ᴴ * W k) := rfl

theorem prodSum_conjTranspose (W : Fin r → Matrix (Fin dO) (Fin di) ℂ) (M : Matrix (Fin r) (Fin r) ℂ) :
    prodSum W Mᴴ = (prodSum W M)ᴴ := by
  simp only [prodSum_apply, Matrix.conjTranspose_sum, Matrix.conjTranspose_smul, Matrix.conjTranspose_mul,
    Matrix.conjTranspose_conjTranspose, Matrix.conjTranspose_apply]
  rw [Finset.sum_comm]

theorem prodSum_one (W : Fin r → Matrix (Fin dO) (Fin di) ℂ) : prodSum W 1 = ∑ k, (W k)ᴴ * W k := by
  simp only [prodSum_apply, Matrix.one_apply, ite_smul, one_smul, zero_smul, Finset.sum_ite_eq, Finset.mem_univ, if_true]

theorem ptraceOut_sandwich (W : Fin r → Matrix (Fin dO) (Fin di) ℂ) (M : Matrix (Fin r) (Fin r) ℂ) :
    ptraceOut (vecMat W * M * (vecMat W)ᴴ) = (prodSum W M)ᵀ := by
  ext i j
  simp only [ptraceOut, Matrix.transpose_apply, prodSum_apply, Matrix.sum_apply, Matrix.smul_apply, smul_eq_mul,
    Matrix.mul_apply, Matrix.conjTranspose_apply, vecMat_apply, Finset.sum_mul, Finset.mul_sum]
  -- the same threefold sum, over `a, l, k` on the left and over `k, l, a` on the right: `a` is moved inside, then `l` and `k` exchanged
  rw [Finset.sum_comm]
  rw [Finset.sum_congr rfl fun l _ => Finset.sum_comm]
  rw [Finset.sum_comm]
  refine Finset.sum_congr rfl fun k _ => Finset.sum_congr rfl fun l _ => Finset.sum_congr rfl fun a _ => ?_
  ring

/-- a relation `Σ M_kl W_lᴴ W_k = 0` splits into its Hermitian parts `M + Mᴴ`, `i(M - Mᴴ)`: if no Hermitian coefficient matrix gives
    a relation, none does -/
theorem prodSum_injective_of_hermitian (W : Fin r → Matrix (Fin dO) (Fin di) ℂ)
    (hHerm : ∀ H : Matrix (Fin r) (Fin r) ℂ, H.IsHermitian → prodSum W H = 0 → H = 0) :
    ∀ M, prodSum W M = 0 → M = 0 := by
  intro M hM
  have hMH : prodSum W Mᴴ = 0 := by rw [prodSum_conjTranspose, hM, Matrix.conjTranspose_zero]
  have h1 : M + Mᴴ = 0 :=
    hHerm _ (by rw [Matrix.IsHermitian, Matrix.conjTranspose_add, Matrix.conjTranspose_conjTranspose, add_comm])
      (by rw [(prodSum W).map_add, hM, hMH, add_zero])
  have h2 : Complex.I • (M - Mᴴ) = 0 :=
    hHerm _ (by
      rw [Matrix.IsHermitian, Matrix.conjTranspose_smul, Matrix.conjTranspose_sub, Matrix.conjTranspose_conjTranspose,
        Complex.star_def, Complex.conj_I, neg_smul, ← smul_neg, neg_sub])
      (by rw [(prodSum W).map_smul, (prodSum W).map_sub, hM, hMH, sub_zero, smul_zero])
  have h3 : M - Mᴴ = 0 := (smul_eq_zero.mp h2).resolve_left Complex.I_ne_zero
  have h4 : (2 : ℂ) • M = 0 := by
    rw [two_smul]
    calc M + M = (M + Mᴴ) + (M - Mᴴ) := by abel
      _ = 0 := by rw [h1, h3, add_zero]
  exact (smul_eq_zero.mp h4).resolve_left two_ne_zero

theorem ptraceOut_sandwich_eq_one_iff (W : Fin r → Matrix (Fin dO) (Fin di) ℂ) (M : Matrix (Fin r) (Fin r) ℂ) :
    ptraceOut (vecMat W * M * (vecMat W)ᴴ) = 1 ↔ prodSum W M = 1 := by
  rw [ptraceOut_sandwich, Matrix.transpose_eq_one]

theorem vecMat_mulVec (W : Fin r → Matrix (Fin dO) (Fin di) ℂ) (x : Fin r → ℂ) :
    vecMat W *ᵥ x = kvec (∑ k, x k • W k) := by
  funext p
  simp only [Matrix.mulVec, dotProduct, vecMat, kvec, Matrix.sum_apply, Matrix.smul_apply, smul_eq_mul, mul_comm]

theorem vecMat_injective (W : Fin r → Matrix (Fin dO) (Fin di) ℂ) (hLI : LinearIndependent ℂ W) :
    Function.Injective (vecMat W).mulVec := by
  intro x y hxy
  have h0 : vecMat W *ᵥ (x - y) = 0 := by rw [Matrix.mulVec_sub, hxy, sub_self]
  rw [vecMat_mulVec] at h0
  have h1 : ∑ k, (x - y) k • W k = 0 := kvec_injective (by rw [h0]; rfl)
  have := Fintype.linearIndependent_iff.mp hLI (x - y) h1
  funext k
  exact sub_eq_zero.mp (this k)

theorem linearIndependent_products_iff (W : Fin r → Matrix (Fin dO) (Fin di) ℂ) :
    LinearIndependent ℂ (fun p : Fin r × Fin r => (W p.1)ᴴ * W p.2) ↔ ∀ M, prodSum W M = 0 → M = 0 := by
  have key : ∀ g : Fin r × Fin r → ℂ, ∑ p, g p • ((W p.1)ᴴ * W p.2) = prodSum W (fun k l => g (l, k)) := by
    intro g
    rw [Fintype.sum_prod_type, Finset.sum_comm]
    rfl
  rw [Fintype.linearIndependent_iff]
  constructor
  · intro h M hM
    have := h (fun p => M p.2 p.1) (by rw [key]; exact hM)
    ext k l
    exact this (l, k)
  · intro h g hg
    rw [key] at hg
    have := h _ hg
    intro p
    exact congrFun (congrFun this p.2) p.1

theorem eq_zero_of_extreme {J E : TMat di dO} (hext : IsChoiExtreme J) (hp : IsChoiChannel (J + E))
    (hm : IsChoiChannel (J - E)) : E = 0 := by
  have hmid : J = ((1 / 2 : ℝ) : ℂ) • (J + E) + ((1 - 1 / 2 : ℝ) : ℂ) • (J - E) := by
    have hhalf : ((1 - 1 / 2 : ℝ) : ℂ) = ((1 / 2 : ℝ) : ℂ) := by norm_num
    rw [hhalf, ← smul_add, add_add_sub_cancel, ← two_smul ℂ J, smul_smul]
    norm_num
  exact add_eq_left.mp (hext.2 _ _ (1 / 2) hp hm (by norm_num) (by norm_num) hmid).1

theorem choi_eq_of_ker_le (W : Fin r → Matrix (Fin dO) (Fin di) ℂ) (hV : Function.Injective (vecMat W).mulVec)
    (hprod : ∀ M, prodSum W M = 0 → M = 0) (J J' : TMat di dO) (M₀ : Matrix (Fin r) (Fin r) ℂ)
    (hJfac : J = vecMat W * M₀ * (vecMat W)ᴴ) (hJ : IsChoiChannel J) (hJ' : IsChoiChannel J')
    (hker : ∀ y, (vecMat W)ᴴ *ᵥ y = 0 → J' *ᵥ y = 0) : J' = J := by
  obtain ⟨M, hfac⟩ : ∃ M, J' = vecMat W * M * (vecMat W)ᴴ := ⟨_, factor_through (vecMat W) hV J' hJ'.1.isHermitian hker⟩
  have h1 : prodSum W M = 1 := (ptraceOut_sandwich_eq_one_iff W M).mp (hfac ▸ hJ'.2)
  have h0 : prodSum W M₀ = 1 := (ptraceOut_sandwich_eq_one_iff W M₀).mp (hJfac ▸ hJ.2)
  rw [hfac, hJfac, sub_eq_zero.mp (hprod (M - M₀) (by rw [(prodSum W).map_sub, h1, h0, sub_self]))]

/-- **Choi's theorem, Choi-matrix form**: `hcol`, `hr` say that the column-stacking vectors of the independent `W_1 … W_r`
    span the column space of `J`. -/
theorem choiExtreme_iff_of_basis (J : TMat di dO) (hJ : IsChoiChannel J) (W : Fin r → Matrix (Fin dO) (Fin di) ℂ)
    (hLI : LinearIndependent ℂ W) (Cc : Matrix (Fin di × Fin dO) (Fin r) ℂ) (hcol : vecMat W = J * Cc)
    (hr : J.rank = r) :
    IsChoiExtreme J ↔ LinearIndependent ℂ (fun p : Fin r × Fin r => (W p.1)ᴴ * W p.2) := by
  rw [linearIndependent_products_iff]
  have hV := vecMat_injective W hLI
  have hkerJ := ker_of_colspace J hJ.1.isHermitian (vecMat W) hV Cc hcol hr
  have hJfac := factor_through (vecMat W) hV J hJ.1.isHermitian hkerJ
  have hM₀psd := hJ.1.mul_mul_conjTranspose_same (leftInv (vecMat W))
  set V := vecMat W
  set M₀ := leftInv V * J * (leftInv V)ᴴ
  have hT₀ : prodSum W M₀ = 1 := (ptraceOut_sandwich_eq_one_iff W M₀).mp (hJfac ▸ hJ.2)
  constructor
  · intro hext
    -- `V = J C = V M₀ Vᴴ C`, so `Vᴴ C` is an inverse of `M₀`
    have hM₀unit : IsUnit M₀ := by
      have e : V * (1 : Matrix (Fin r) (Fin r) ℂ) = V * (M₀ * (Vᴴ * Cc)) := by
        rw [Matrix.mul_one]
        conv_lhs => rw [hcol, hJfac]
        simp only [Matrix.mul_assoc]
      have h1 := mul_left_cancel_of_injective V hV _ _ e
      exact ⟨⟨M₀, Vᴴ * Cc, h1.symm, mul_eq_one_comm.mp h1.symm⟩, rfl⟩
    have hM₀pd : M₀.PosDef := hM₀psd.posDef_iff_isUnit.mpr hM₀unit
    -- Hermitian relations vanish: `V (M₀ ± εH) Vᴴ` are Choi matrices of channels around `J`
    have hHerm : ∀ H : Matrix (Fin r) (Fin r) ℂ, H.IsHermitian → prodSum W H = 0 → H = 0 := by
      intro H hH hH0
      obtain ⟨ε, hε, hp, hm⟩ := exists_pos_perturb hM₀pd hH
      have hch : ∀ M : Matrix (Fin r) (Fin r) ℂ, M.PosSemidef → prodSum W M = 1 → IsChoiChannel (V * M * Vᴴ) :=
        fun M hM hT => ⟨hM.mul_mul_conjTranspose_same V, (ptraceOut_sandwich_eq_one_iff W M).mpr hT⟩
      have hE : V * ((ε : ℂ) • H) * Vᴴ = V * (0 : Matrix (Fin r) (Fin r) ℂ) * Vᴴ := by
        rw [Matrix.mul_zero, Matrix.zero_mul]
        refine eq_zero_of_extreme hext ?_ ?_
        · rw [hJfac, ← Matrix.add_mul, ← Matrix.mul_add]
          exact hch _ hp (by rw [(prodSum W).map_add, (prodSum W).map_smul, hH0, smul_zero, add_zero, hT₀])
        · rw [hJfac, ← Matrix.sub_mul, ← Matrix.mul_sub]
          exact hch _ hm (by rw [(prodSum W).map_sub, (prodSum W).map_smul, hH0, smul_zero, sub_zero, hT₀])
      exact (smul_eq_zero.mp (sandwich_injective V hV _ _ hE)).resolve_left (Complex.ofReal_ne_zero.mpr hε.ne')
    exact prodSum_injective_of_hermitian W hHerm
  · intro hprod
    refine ⟨hJ, fun J₀ J₁ t h0 h1 ht0 ht1 hc => ?_⟩
    -- in `J = s·J' + (1-s)·J''` the channel `J'` is dominated by `s⁻¹·J`, so it has the kernel of `J`, hence equals `J`
    have key : ∀ (J' J'' : TMat di dO) (s : ℝ), IsChoiChannel J' → IsChoiChannel J'' → 0 < s → s < 1 →
        J = (s : ℂ) • J' + ((1 - s : ℝ) : ℂ) • J'' → J' = J := fun J' J'' s h' h'' hs0 hs1 hc => by
      have hsne : (s : ℂ) ≠ 0 := Complex.ofReal_ne_zero.mpr hs0.ne'
      have e : (s : ℂ)⁻¹ • J - J' = ((s⁻¹ * (1 - s) : ℝ) : ℂ) • J'' := by
        rw [hc, smul_add, smul_smul, smul_smul, inv_mul_cancel₀ hsne, one_smul, add_sub_cancel_left]
        push_cast; rfl
      have hd : ((s : ℂ)⁻¹ • J - J').PosSemidef :=
        e ▸ h''.1.smul (Complex.zero_le_real.mpr (mul_nonneg (inv_pos.mpr hs0).le (by linarith)))
      exact choi_eq_of_ker_le W hV hprod J J' M₀ hJfac hJ h' fun y hy => ker_of_dominated h'.1 _ hd y (hkerJ y hy)
    refine ⟨key J₀ J₁ t h0 h1 ht0 ht1 hc, key J₁ J₀ (1 - t) h1 h0 (by linarith) (by linarith) ?_⟩
    rw [sub_sub_cancel, add_comm]
    exact hc

end Channel

section Kraus
variable {di dO r : Nat}

theorem isChoiChannel_kraus (K : Fin r → Matrix (Fin dO) (Fin di) ℂ) (hTP : ∑ k, (K k)ᴴ * K k = 1) :
    IsChoiChannel (vecMat K * (vecMat K)ᴴ) := by
  refine ⟨Matrix.posSemidef_self_mul_conjTranspose _, ?_⟩
  have := ptraceOut_sandwich K 1
  rw [Matrix.mul_one] at this
  rw [this, prodSum_one, hTP, Matrix.transpose_one]

/-- **Choi's theorem, Kraus form** (on the Choi matrix `Σ vec K_k vec K_kᴴ`). -/
theorem choiExtreme_kraus_iff (K : Fin r → Matrix (Fin dO) (Fin di) ℂ) (hLI : LinearIndependent ℂ K)
    (hTP : ∑ k, (K k)ᴴ * K k = 1) :
    IsChoiExtreme (vecMat K * (vecMat K)ᴴ) ↔ LinearIndependent ℂ (fun p : Fin r × Fin r => (K p.1)ᴴ * K p.2) := by
  have hV := vecMat_injective K hLI
  refine choiExtreme_iff_of_basis _ (isChoiChannel_kraus K hTP) K hLI (leftInv (vecMat K))ᴴ ?_ ?_
  · rw [Matrix.mul_assoc, conjTranspose_mul_leftInv _ hV, Matrix.mul_one]
  · rw [Matrix.rank_self_mul_conjTranspose, rank_of_injective _ hV]

theorem linearIndependent_of_products (W : Fin r → Matrix (Fin dO) (Fin di) ℂ)
    (h : LinearIndependent ℂ (fun p : Fin r × Fin r => (W p.1)ᴴ * W p.2)) : LinearIndependent ℂ W := by
  rw [linearIndependent_products_iff] at h
  rw [Fintype.linearIndependent_iff]
  intro g hg k
  -- the relation `Σ_l g_l W_l = 0` multiplied by `W_kᴴ` is a relation among the products
  have := h (Matrix.of fun k' l => if l = k then g k' else 0) (by
    simp only [prodSum_apply, Matrix.of_apply, ite_smul, zero_smul, Finset.sum_ite_eq', Finset.mem_univ, if_true,
      ← Matrix.mul_smul, ← Matrix.mul_sum, hg, Matrix.mul_zero])
  simpa using congrFun (congrFun this k) k

end Kraus

section Model
open Toq.ChannelProps Toq.Rank Toq.ChannelOps

/-- row-major flattening of a square matrix -/
def flatL (d : Nat) : Matrix (Fin d) (Fin d) ℂ ≃ₗ[ℂ] (Fin (d * d) → ℂ) :=
  (LinearEquiv.curry ℂ ℂ (Fin d) (Fin d)).symm ≪≫ₗ LinearEquiv.funCongrLeft ℂ ℂ finProdFinEquiv.symm

theorem flatL_apply (d : Nat) (M : Matrix (Fin d) (Fin d) ℂ) (f : Fin (d * d)) :
    flatL d M f = M (finProdFinEquiv.symm f).1 (finProdFinEquiv.symm f).2 := rfl

def opFam (di dO : Nat) (Ks : List (Nat → Nat → QI)) : Fin Ks.length → Matrix (Fin dO) (Fin di) ℂ :=
  fun k => fnToM dO di Ks[k]

theorem adjMulEntry_toC (di dO : Nat) (W W' : Nat → Nat → QI) (f : Fin (di * di)) :
    (adjMulEntry di dO W W' f.val).toC = flatL di ((fnToM dO di W)ᴴ * fnToM dO di W') f := by
  rw [flatL_apply, ← fnToM_conj, ← fnToM_sumN_mul]
  rfl

/-- the operators of the list are named by any family `W` over `Fin r` (`r` the length): `opFam` for a Kraus list, `colOps` for pivot columns -/
theorem prodRows_rank_iff (di dO : Nat) {r : Nat} (Ws : List (Nat → Nat → QI)) (hr : Ws.length = r)
    (W : Fin r → Matrix (Fin dO) (Fin di) ℂ) (hW : ∀ k : Fin r, fnToM dO di (Ws.getD k.val fun _ _ => 0) = W k) :
    rankQ (r * r) (di * di) (prodRows di dO Ws) = r * r ↔
      LinearIndependent ℂ (fun p : Fin r × Fin r => (W p.1)ᴴ * W p.2) := by
  unfold rankQ
  rw [rankFn_eq_rank, ← linearIndependent_row_iff_rank]
  have hrow : (fnToM (r * r) (di * di) (prodRows di dO Ws).get).row
      = (fun p : Fin r × Fin r => flatL di ((W p.1)ᴴ * W p.2)) ∘ finProdFinEquiv.symm := by
    funext t
    funext f
    simp only [Matrix.row, fnToM, Function.comp]
    unfold prodRows
    rw [hr, QM.get_ofFn _ _ _ _ _ t.isLt f.isLt, adjMulEntry_toC, ← hW, ← hW]
    rfl
  rw [hrow, linearIndependent_equiv finProdFinEquiv.symm]
  exact (flatL di).toLinearMap.linearIndependent_iff (flatL di).ker

theorem prodRows_rank_opFam_iff (di dO : Nat) (Ws : List (Nat → Nat → QI)) :
    rankQ (Ws.length * Ws.length) (di * di) (prodRows di dO Ws) = Ws.length * Ws.length ↔
    LinearIndependent ℂ (fun p : Fin Ws.length × Fin Ws.length => (opFam di dO Ws p.1)ᴴ * opFam di dO Ws p.2) :=
  prodRows_rank_iff di dO Ws rfl _ fun k => by rw [List.getD_eq_getElem _ _ k.isLt]; rfl

/-- reading a `dO × di` operator off a vector over the pair index `i·dO + a`: the inverse of `kvec` on flat indices -/
def unflatL (di dO : Nat) : (Fin (di * dO) → ℂ) ≃ₗ[ℂ] Matrix (Fin dO) (Fin di) ℂ :=
  LinearEquiv.funCongrLeft ℂ ℂ finProdFinEquiv ≪≫ₗ LinearEquiv.curry ℂ ℂ (Fin di) (Fin dO) ≪≫ₗ
    Matrix.transposeLinearEquiv (Fin di) (Fin dO) ℂ ℂ

theorem unflatL_apply (di dO : Nat) (v : Fin (di * dO) → ℂ) (a : Fin dO) (i : Fin di) :
    unflatL di dO v a i = v (finProdFinEquiv (i, a)) := rfl

/-- the operators whose column-stacking vectors are the columns `q k` of `J` -/
def colOps {di dO r : Nat} (J : Matrix (Fin (di * dO)) (Fin (di * dO)) ℂ) (q : Fin r → Fin (di * dO)) :
    Fin r → Matrix (Fin dO) (Fin di) ℂ := fun k => unflatL di dO fun i => J i (q k)

/-- the form `V = J·C` that `choiExtreme_iff_of_basis` asks for, `C` a selection of columns -/
theorem vecMat_colOps {di dO r : Nat} (J : EMat (di * dO) (di * dO)) (q : Fin r → Fin (di * dO)) :
    vecMat (colOps J.toM q) = toChoi J * (1 : Matrix (Fin (di * dO)) (Fin (di * dO)) ℂ).submatrix finProdFinEquiv q := by
  rw [Matrix.mul_submatrix_one, toChoi_eq_submatrix, Matrix.submatrix_submatrix, Function.comp_id, ← Function.comp_assoc,
    Equiv.self_comp_symm, Function.id_comp]
  rfl

/-- Choi's criterion on any `rank J` independent columns `piv` of the exact Choi matrix of a channel -/
theorem rank_prodRows_cols_iff (c : ChoiForm) (hJ : IsChoiChannel (toChoi c.J)) (piv : List Nat)
    (hlt : ∀ q ∈ piv, q < c.di * c.dO)
    (hLI : LinearIndependent ℂ fun t : Fin piv.length => fun i : Fin (c.di * c.dO) => (c.toQM.get i.val piv[t.val]).toC)
    (hlen : piv.length = (fnToM (c.di * c.dO) (c.di * c.dO) c.toQM.get).rank) :
    rankQ (piv.length * piv.length) (c.di * c.di) (prodRows c.di c.dO (piv.map (unvecCol c.di c.dO c.toQM)))
        = piv.length * piv.length ↔ IsChoiExtreme (toChoi c.J) := by
  let q : Fin piv.length → Fin (c.di * c.dO) := fun k => ⟨piv[k.val], hlt _ (List.getElem_mem _)⟩
  have hW : ∀ k : Fin piv.length,
      fnToM c.dO c.di ((piv.map (unvecCol c.di c.dO c.toQM)).getD k.val fun _ _ => 0) = colOps c.J.toM q k := fun k => by
    rw [List.getD_eq_getElem _ _ (by rw [List.length_map]; exact k.isLt), List.getElem_map]
    ext a i
    rw [colOps, unflatL_apply, EMat.toM_apply, ← toQM_get c _ _ (finProdFinEquiv (i, a)).isLt (q k).isLt, finProdFinEquiv_val]
    rfl
  rw [prodRows_rank_iff c.di c.dO _ (List.length_map _) _ hW]
  refine (choiExtreme_iff_of_basis (toChoi c.J) hJ _ ?_ _ (vecMat_colOps c.J q) ?_).symm
  · rw [← qmToM_toQM]
    exact hLI.map' (unflatL c.di c.dO).toLinearMap (unflatL c.di c.dO).ker
  · rw [rank_toChoi, ← qmToM_toQM]
    exact hlen.symm

theorem extremalDecide_iff_choiExtreme (c : ChoiForm) (hJ : IsChoiChannel (toChoi c.J)) :
    extremalDecide c.di c.dO c.toQM = true ↔ IsChoiExtreme (toChoi c.J) := by
  unfold extremalDecide pivotCols
  rw [beq_iff_eq]
  exact rank_prodRows_cols_iff c hJ _ (pivotsFn_lt _ _ _) (pivotsFn_linearIndependent _ _ _) (pivotsFn_length _ _ _)

theorem products_independent_of_single {di dO r : Nat} (K : Fin r → Matrix (Fin dO) (Fin di) ℂ) (hr : r = 1) (hd : 0 < di)
    (hTP : ∑ k, (K k)ᴴ * K k = 1) : LinearIndependent ℂ (fun p : Fin r × Fin r => (K p.1)ᴴ * K p.2) := by
  subst hr
  have : Nonempty (Fin di) := ⟨⟨0, hd⟩⟩
  rw [linearIndependent_products_iff]
  intro M hM
  rw [Fin.sum_univ_one] at hTP
  have h2 : prodSum K M = M 0 0 • 1 := by
    rw [prodSum_apply, Fin.sum_univ_one, Fin.sum_univ_one, hTP]
  rw [h2] at hM
  have h3 : M 0 0 = 0 := (smul_eq_zero.mp hM).resolve_right one_ne_zero
  ext k l
  rw [Subsingleton.elim k 0, Subsingleton.elim l 0, h3]
  rfl

theorem extremalAsCoded_iff_choiExtreme (di dO : Nat) (Ks : List (Nat → Nat → QI)) (hd : 0 < di)
    (hLI : LinearIndependent ℂ (opFam di dO Ks))
    (hTP : ∑ k, (opFam di dO Ks k)ᴴ * opFam di dO Ks k = 1) :
    extremalAsCoded di dO Ks = true ↔
      IsChoiExtreme (vecMat (opFam di dO Ks)
        * (vecMat (opFam di dO Ks))ᴴ) := by
  rw [choiExtreme_kraus_iff _ hLI hTP]
  unfold extremalAsCoded
  by_cases hr : Ks.length = 1
  · have hb : (Ks.length == 1) = true := by simpa using hr
    simp only [hb, if_true, true_iff]
    exact products_independent_of_single (opFam di dO Ks) hr hd hTP
  · have hb : (Ks.length == 1) = false := by simpa using hr
    simp only [hb, Bool.false_eq_true, if_false, beq_iff_eq]
    exact prodRows_rank_opFam_iff di dO Ks

end Model

end Toq.ChanPropProofs
