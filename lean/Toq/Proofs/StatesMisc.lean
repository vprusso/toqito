import Toq.Proofs.StatesMore
import Mathlib.Tactic.IntervalCases
import Mathlib.Algebra.Ring.Hom.Defs
import Mathlib.Algebra.GroupWithZero.Units.Lemmas
import Mathlib.Data.Nat.Prime.Basic
/-!
# Lemmas for C17 about single constructors: `gisin` as a mixture, the Gram matrix of `pusey_barrett_rudolph`,
the pure component and the entries of `breuer`, the tensor power behind `brauer`, the prime test of `mutually_unbiased_basis`
-/
open Toq.Matrices Toq.Spec17

namespace Toq.States

section gisin
variable {α : Type} [Field α]

/-- the `ρ_θ` block of `gisin` (its `rt`, off-diagonal entries `-sin(2θ)/2 = -(2 s c)/2`) is the outer product of `ψ_θ` -/
theorem gisin_rt (s c : α) (h2 : (2 : α) ≠ 0) (i j : Nat) :
    (if i = 1 ∧ j = 1 then s * s else if (i = 1 ∧ j = 2) ∨ (i = 2 ∧ j = 1) then (0 - 2 * s * c) / 2
      else if i = 2 ∧ j = 2 then c * c else 0) = gisinPsi s c i * gisinPsi s c j := by
  have e : (0 - 2 * s * c) / 2 = s * (0 - c) := by
    rw [zero_sub, neg_div, mul_assoc, mul_div_cancel_left₀ _ h2, zero_sub, mul_neg]
  rw [e]
  unfold gisinPsi
  -- both sides vanish unless `i, j ∈ {1, 2}`, where the entries are `s²`, `−sc`, `−sc`, `c²`
  rcases (by omega : i = 1 ∨ i = 2 ∨ (i ≠ 1 ∧ i ≠ 2)) with rfl | rfl | ⟨hi1, hi2⟩
  · rcases (by omega : j = 1 ∨ j = 2 ∨ (j ≠ 1 ∧ j ≠ 2)) with rfl | rfl | ⟨hj1, hj2⟩
    · rw [if_pos ⟨rfl, rfl⟩, if_pos rfl]
    · rw [if_neg (by decide), if_pos (Or.inl ⟨rfl, rfl⟩), if_pos rfl, if_neg (by decide), if_pos rfl]
    · rw [if_neg fun h => hj1 h.2, if_neg fun h => h.elim (fun h => hj2 h.2) (fun h => hj1 h.2), if_neg fun h => hj2 h.2,
        if_neg hj1, if_neg hj2, mul_zero]
  · rcases (by omega : j = 1 ∨ j = 2 ∨ (j ≠ 1 ∧ j ≠ 2)) with rfl | rfl | ⟨hj1, hj2⟩
    · rw [if_neg (by decide), if_pos (Or.inr ⟨rfl, rfl⟩), if_neg (by decide), if_pos rfl, if_pos rfl, mul_comm]
    · rw [if_neg (by decide), if_neg (by decide), if_pos ⟨rfl, rfl⟩, if_neg (by decide), if_pos rfl, zero_sub, neg_mul_neg]
    · rw [if_neg fun h => hj1 h.2, if_neg fun h => h.elim (fun h => hj2 h.2) (fun h => hj1 h.2), if_neg fun h => hj2 h.2,
        if_neg hj1, if_neg hj2, mul_zero]
  · rw [if_neg fun h => hi1 h.1, if_neg fun h => h.elim (fun h => hi1 h.1) (fun h => hi2 h.1), if_neg fun h => hi2 h.1,
      if_neg hi1, if_neg hi2, zero_mul]

end gisin

section pbr
variable {α : Type} [CommRing α]

theorem pbrAmp_gram (c s : α) (b b' : Nat) (hb : b < 2) (hb' : b' < 2) :
    sumN 2 (fun x => pbrAmp c s b x * pbrAmp c s b' x) = if b = b' then c * c + s * s else c * c - s * s := by
  simp only [sumN, pbrAmp]
  interval_cases b <;> interval_cases b' <;> simp <;> ring

theorem pbrGram_pow (c s : α) (h : c * c + s * s = 1) : ∀ n t t',
    pbrGram c s n t t' = (c * c - s * s) ^ popcount n (t ^^^ t')
  | 0, _, _ => by simp [pbrGram, popcount, sumN]
  | n + 1, t, t' => by
    show pbrGram c s n (t / 2) (t' / 2) * _ = _
    rw [pbrGram_pow c s h n, popcount_succ_low, Nat.xor_div_two, h, Nat.add_comm, pow_add]
    congr 1
    have hx : (t ^^^ t') % 2 = if t % 2 = t' % 2 then 0 else 1 := by
      have key := @Nat.xor_mod_two_eq_one t t'
      split <;> omega
    rw [hx]
    by_cases hh : t % 2 = t' % 2
    · rw [if_pos hh, if_pos hh, pow_zero]
    · rw [if_neg hh, if_neg hh, pow_one]
end pbr

theorem breuerPsi_flat (d i j : Nat) (hj : j < d) :
    breuerPsi d (i * d + j) = if j + i + 1 = d then (if j % 2 = 0 then -1 else 1) else 0 := by
  unfold breuerPsi
  rw [Nat.mul_add_div_of_lt hj, Nat.mul_add_mod_of_lt hj]

section breuer_field
variable {α : Type} [Field α]

theorem breuer_entry (d : Nat) (lam : α) (h2 : (2 : α) ≠ 0) (r c : Nat) :
    breuer d (breuerPsi d) lam r c
      = ((1 - lam) / ((d : α) * ((d : α) + 1))) * delta r c + ((1 - lam) / ((d : α) * ((d : α) + 1))) * swapOp d r c
        + (lam / (d : α)) * (((breuerPsi d r : Int) : α) * ((breuerPsi d c : Int) : α)) := by
  have e : ∀ x : α, (1 - lam) * 2 * (x / 2) = (1 - lam) * x := fun x => by rw [mul_assoc, mul_div_cancel₀ x h2]
  unfold breuer
  rw [Nat.cast_ofNat, e]
  ring

end breuer_field

theorem brauerPhi_enc (d : Nat) (x : Nat → Nat) : ∀ p, (∀ k, k < 2 * p → x k < d) →
    brauerPhi d p (enc (fun _ => d) x (2 * p)) = if ∀ k, k < p → x (2 * k) = x (2 * k + 1) then 1 else 0
  | 0, _ => by simp [brauerPhi]
  | p + 1, hx => by
    have h1 := hx (2 * p) (by omega)
    have h2 := hx (2 * p + 1) (by omega)
    have e : enc (fun _ => d) x (2 * (p + 1)) = enc (fun _ => d) x (2 * p) * (d * d) + (x (2 * p) * d + x (2 * p + 1)) := by
      show (enc (fun _ => d) x (2 * p) * d + x (2 * p)) * d + x (2 * p + 1) = _
      ring
    have hlt : x (2 * p) * d + x (2 * p + 1) < d * d := Nat.mul_add_lt_mul h1 h2
    show brauerPhi d p (enc (fun _ => d) x (2 * (p + 1)) / (d * d)) * maxEntS d (enc (fun _ => d) x (2 * (p + 1)) % (d * d)) = _
    rw [e, Nat.mul_add_div_of_lt hlt, Nat.mul_add_mod_of_lt hlt, maxEntS_flat d _ _ h1 h2,
      brauerPhi_enc d x p (fun k hk => hx k (by omega))]
    exact (ite_zero_mul_ite_zero ..).trans (if_congr Nat.forall_lt_succ_right.symm (mul_one 1) rfl)

theorem maxEntS_sq_sum (d : Nat) : inner (d * d) (maxEntS d) (maxEntS d) = (d : Int) :=
  sumN_flat_diag d _ fun i j hi hj => by
    rw [maxEntS_flat d i j hi hj]
    split <;> rfl

theorem brauerPhi_sq_sum (d : Nat) : ∀ p, sumN ((d * d) ^ p) (fun r => brauerPhi d p r * brauerPhi d p r) = (d : Int) ^ p
  | 0 => by simp [sumN, brauerPhi]
  | p + 1 => by
    rw [Nat.pow_succ, pow_succ, ← brauerPhi_sq_sum d p, ← maxEntS_sq_sum d]
    exact sumN_kron' _ _ _ _ _ fun _ => mul_mul_mul_comm _ _ _ _

theorem isPrimeB_iff (n : Nat) : isPrimeB n = true ↔ n.Prime := by
  unfold isPrimeB
  rw [Bool.and_eq_true, decide_eq_true_eq, List.all_eq_true, Nat.prime_def_lt']
  constructor
  · rintro ⟨h2, hall⟩
    refine ⟨h2, fun m hm2 hmn hdvd => ?_⟩
    have := hall (m - 2) (List.mem_range.mpr (by omega))
    rw [Nat.sub_add_cancel hm2] at this
    have hz := Nat.mod_eq_zero_of_dvd hdvd
    simp [hz] at this
  · rintro ⟨h2, hall⟩
    refine ⟨h2, fun k hk => ?_⟩
    have hk' := List.mem_range.mp hk
    simp only [bne_iff_ne, ne_eq]
    intro hz
    exact hall (k + 2) (by omega) (by omega) (Nat.dvd_of_mod_eq_zero hz)
end Toq.States
