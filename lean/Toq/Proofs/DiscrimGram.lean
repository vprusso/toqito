import Toq.Proofs.Discrim
/-!
# Strong duality of the Gram-form program of unambiguous discrimination for linearly independent states

`G ⪰ λ·1` with `λ > 0` (the Gram matrix of linearly independent vectors), priors `p_i > 0`.

* dual program: minimise `g(Z) = Re tr(G Z)` over `Z ⪰ 0`, `Re Z_ii ≥ p_i`; `g(Z) ≥ λ Re tr Z`, so the sublevel sets are compact and a
  minimiser `Z` exists (`ug_min_attained`);
* at a minimiser, `q_i := Re (G Z)_ii / Re Z_ii` is primal feasible (`q ≥ 0`, `G − diag q ⪰ 0`), `q_i (Re Z_ii − p_i) = 0`, and
  `Σ p_i q_i = g(Z)` (`ug_strong_duality_gen`).  Feasibility of `q` comes from first-order optimality of `Z` along the curves
  `t ↦ (1 − tC)(Z + t xxᴴ)(1 − tC) + t² K` with real diagonal `C`, `K` chosen so that the diagonal constraint stays satisfied for
  every `t ≥ 0` (section `Minimiser`: `ug_first_order`, `ug_min_diag_nonneg`, `ug_min_slack`, `ug_min_quad`);
* for every PSD `G` and priors `p ≥ 0` the primal maximum equals the dual infimum (`ug_no_gap_gen`): limit `n → ∞` of the
  programs for `G + ε_n`, `p + ε_n`, `ε_n = 1/(n+1)`, whose optimal primal points lie in nested compact sets.
-/

open Matrix
open scoped ComplexOrder MatrixOrder

namespace Toq.Discrim

theorem uaDualFeasible_diagonal {κ : Type*} [DecidableEq κ] (p : κ → ℝ) (hp : ∀ i, 0 ≤ p i) :
    UaDualFeasible p (Matrix.diagonal fun i => (p i : ℂ)) :=
  ⟨Matrix.posSemidef_diagonal_ofReal p hp, fun i => by rw [Matrix.diagonal_apply_eq, Complex.ofReal_re]⟩

section Gram
variable {κ : Type*} [Fintype κ]

/-- objective of the dual Gram-form program -/
noncomputable def ugObj (G Z : Matrix κ κ ℂ) : ℝ := (G * Z).trace.re

theorem ugObj_add (G X Y : Matrix κ κ ℂ) : ugObj G (X + Y) = ugObj G X + ugObj G Y := by
  unfold ugObj; rw [Matrix.mul_add, Matrix.trace_add, Complex.add_re]

theorem ugObj_sub (G X Y : Matrix κ κ ℂ) : ugObj G (X - Y) = ugObj G X - ugObj G Y := by
  unfold ugObj; rw [Matrix.mul_sub, Matrix.trace_sub, Complex.sub_re]

theorem ugObj_smul (G X : Matrix κ κ ℂ) (t : ℝ) : ugObj G ((t : ℂ) • X) = t * ugObj G X :=
  re_trace_mul_smul G X t

theorem ugObj_continuous (G : Matrix κ κ ℂ) : Continuous fun Z : Matrix κ κ ℂ => ugObj G Z := by
  unfold ugObj
  fun_prop

theorem uaDualFeasible_isClosed (p : κ → ℝ) : IsClosed {Z : Matrix κ κ ℂ | UaDualFeasible p Z} := by
  refine Matrix.isClosed_setOf_posSemidef.and ?_
  simp only [Set.ofPred_forall]
  exact isClosed_iInter fun i => isClosed_le continuous_const (by fun_prop)

variable [DecidableEq κ]

def ugCurve (Z P C K : Matrix κ κ ℂ) (t : ℝ) : Matrix κ κ ℂ :=
  (1 - (t : ℂ) • C) * (Z + (t : ℂ) • P) * (1 - (t : ℂ) • C)ᴴ + ((t * t : ℝ) : ℂ) • K

theorem ugCurve_expand (Z P C K : Matrix κ κ ℂ) (t : ℝ) :
    ugCurve Z P C K t = Z + (t : ℂ) • (P - C * Z - Z * Cᴴ)
      + ((t * t : ℝ) : ℂ) • (C * Z * Cᴴ - C * P - P * Cᴴ + K)
      + ((t * t * t : ℝ) : ℂ) • (C * P * Cᴴ) := by
  unfold ugCurve
  rw [conjTranspose_sub, conjTranspose_one, conjTranspose_smul]
  have ht : star (t : ℂ) = (t : ℂ) := by simp
  rw [ht]
  simp only [Matrix.sub_mul, Matrix.mul_sub, Matrix.add_mul, Matrix.mul_add, Matrix.one_mul, Matrix.mul_one,
    Matrix.smul_mul, Matrix.mul_smul, smul_sub, smul_add, smul_smul, Matrix.mul_assoc]
  push_cast
  module

/-- the objective along the curve is a cubic polynomial in `t`; only its linear coefficient matters below -/
theorem ugObj_curve (G Z P C K : Matrix κ κ ℂ) : ∃ a2 a3 : ℝ, ∀ t : ℝ,
    ugObj G (ugCurve Z P C K t)
      = ugObj G Z + t * (ugObj G P - ugObj G (C * Z) - ugObj G (Z * Cᴴ) + t * (a2 + t * a3)) := by
  refine ⟨ugObj G (C * Z * Cᴴ - C * P - P * Cᴴ + K), ugObj G (C * P * Cᴴ), fun t => ?_⟩
  rw [ugCurve_expand, ugObj_add, ugObj_add, ugObj_add, ugObj_smul, ugObj_smul, ugObj_smul, ugObj_sub, ugObj_sub]
  ring

theorem ugObj_ge (G Z : Matrix κ κ ℂ) (lam : ℝ) (hG : (G - (lam : ℂ) • (1 : Matrix κ κ ℂ)).PosSemidef)
    (hZ : Z.PosSemidef) : lam * Z.trace.re ≤ ugObj G Z := by
  have h := psd_trace_mul_nonneg hG hZ
  rw [Matrix.sub_mul, Matrix.trace_sub, Complex.sub_re, Matrix.smul_mul, Matrix.one_mul, Matrix.trace_smul,
    smul_eq_mul, Complex.re_ofReal_mul] at h
  unfold ugObj
  linarith

theorem ug_min_attained (G : Matrix κ κ ℂ) (p : κ → ℝ) (lam : ℝ) (hlam : 0 < lam)
    (hG : (G - (lam : ℂ) • (1 : Matrix κ κ ℂ)).PosSemidef) (hp : ∀ i, 0 ≤ p i) :
    ∃ Z, UaDualFeasible p Z ∧ ∀ Z', UaDualFeasible p Z' → ugObj G Z ≤ ugObj G Z' := by
  classical
  set Z0 : Matrix κ κ ℂ := Matrix.diagonal fun i => (p i : ℂ)
  have hZ0f : UaDualFeasible p Z0 := uaDualFeasible_diagonal p hp
  set g0 := ugObj G Z0
  set c := g0 / lam + 1
  set S : Set (Matrix κ κ ℂ) := {Z | UaDualFeasible p Z ∧ ugObj G Z ≤ g0}
  have hclosed : IsClosed S := (uaDualFeasible_isClosed p).and (isClosed_le (ugObj_continuous G) continuous_const)
  have hcomp : IsCompact S := by
    refine IsCompact.of_isClosed_subset (Matrix.isCompact_setOf_posSemidef_diag_le c) hclosed fun Z hZ => ⟨hZ.1.1, fun x => ?_⟩
    have h1 := hZ.1.1.re_diag_le_re_trace x
    have h2 := ugObj_ge G Z lam hG hZ.1.1
    have h3 : Z.trace.re ≤ g0 / lam := by
      rw [le_div_iff₀ hlam]; linarith [hZ.2]
    linarith
  obtain ⟨Z, hZ, hmin⟩ := hcomp.exists_isMinOn ⟨Z0, hZ0f, le_refl _⟩ (ugObj_continuous G).continuousOn
  refine ⟨Z, hZ.1, fun Z' hZ' => ?_⟩
  by_cases h : ugObj G Z' ≤ g0
  · exact hmin (show Z' ∈ S from ⟨hZ', h⟩)
  · push Not at h
    exact (hZ.2.trans h.le)

theorem ugCurve_psd {Z P K : Matrix κ κ ℂ} (C : Matrix κ κ ℂ) (hZ : Z.PosSemidef) (hP : P.PosSemidef)
    (hK : K.PosSemidef) (t : ℝ) (ht : 0 ≤ t) : (ugCurve Z P C K t).PosSemidef := by
  unfold ugCurve
  exact ((hZ.add (hP.smul_ofReal ht)).mul_mul_conjTranspose_same _).add (hK.smul_ofReal (mul_nonneg ht ht))

theorem ug_diag_conj_apply (d : κ → ℝ) (X : Matrix κ κ ℂ) (i : κ) :
    ((Matrix.diagonal fun j => (d j : ℂ)) * X * (Matrix.diagonal fun j => (d j : ℂ))ᴴ) i i
      = ((d i * d i : ℝ) : ℂ) * X i i := by
  rw [Matrix.diagonal_conjTranspose, Matrix.mul_diagonal, Matrix.diagonal_mul, Pi.star_apply, Complex.star_def,
    Complex.conj_ofReal, Complex.ofReal_mul]
  ring

theorem ugCurve_diag (Z P : Matrix κ κ ℂ) (c k : κ → ℝ) (t : ℝ) (i : κ) :
    (ugCurve Z P (Matrix.diagonal fun j => (c j : ℂ)) (Matrix.diagonal fun j => (k j : ℂ)) t i i).re
      = (1 - t * c i) * (1 - t * c i) * ((Z i i).re + t * (P i i).re) + t * t * k i := by
  have hD : (1 - (t : ℂ) • Matrix.diagonal fun j => (c j : ℂ))
      = Matrix.diagonal fun j => (((1 - t * c j : ℝ)) : ℂ) := by
    rw [← Matrix.diagonal_one, ← Matrix.diagonal_smul, Matrix.diagonal_sub]
    exact congrArg _ (funext fun j => by simp)
  rw [ugCurve, hD, Matrix.add_apply, ug_diag_conj_apply, Matrix.smul_apply, Matrix.diagonal_apply_eq, Matrix.add_apply,
    Matrix.smul_apply, smul_eq_mul, smul_eq_mul, Complex.add_re, Complex.re_ofReal_mul, Complex.re_ofReal_mul,
    Complex.add_re, Complex.re_ofReal_mul, Complex.ofReal_re]

theorem ugObj_diag_mul (G Z : Matrix κ κ ℂ) (hG : G.IsHermitian) (hZ : Z.IsHermitian) (c : κ → ℝ) :
    ugObj G ((Matrix.diagonal fun j => (c j : ℂ)) * Z) = ∑ i, c i * ((G * Z) i i).re ∧
      ugObj G (Z * (Matrix.diagonal fun j => (c j : ℂ))ᴴ) = ∑ i, c i * ((G * Z) i i).re := by
  have hZG : ∀ i, ((Z * G) i i).re = ((G * Z) i i).re := fun i => by
    rw [hG.mul_eq_conjTranspose hZ rfl, conjTranspose_apply, Complex.star_def, Complex.conj_re]
  have hD : (Matrix.diagonal fun j => (c j : ℂ))ᴴ = Matrix.diagonal fun j => (c j : ℂ) :=
    Matrix.isHermitian_diagonal_iff.mpr fun i => Complex.conj_ofReal _
  -- a cyclic move brings the diagonal factor to the front
  constructor
  · rw [ugObj, Matrix.trace_mul_comm, Matrix.mul_assoc, Matrix.re_trace_diagonal_ofReal_mul]
    exact Finset.sum_congr rfl fun i _ => by rw [hZG]
  · rw [ugObj, hD, ← Matrix.mul_assoc, Matrix.trace_mul_comm, Matrix.re_trace_diagonal_ofReal_mul]

section Minimiser
variable {G Z : Matrix κ κ ℂ} {p : κ → ℝ} (hG : G.IsHermitian) (hZ : Z.PosSemidef) (hZp : ∀ i, p i ≤ (Z i i).re)
  (hmin : ∀ Z', UaDualFeasible p Z' → ugObj G Z ≤ ugObj G Z')
include hG hZ hmin

/-- `hfeas`: the diagonal of the curve (`ugCurve_diag`) stays above `p` for small `t > 0` -/
theorem ug_first_order (P : Matrix κ κ ℂ) (c k : κ → ℝ) (t0 : ℝ) (hP : P.PosSemidef) (hk : ∀ i, 0 ≤ k i)
    (ht0 : 0 < t0)
    (hfeas : ∀ t, 0 < t → t ≤ t0 → ∀ i, p i ≤
      (1 - t * c i) * (1 - t * c i) * ((Z i i).re + t * (P i i).re) + t * t * k i) :
    0 ≤ ugObj G P - 2 * ∑ i, c i * ((G * Z) i i).re := by
  obtain ⟨e1, e2⟩ := ugObj_diag_mul G Z hG hZ.isHermitian c
  obtain ⟨a2, a3, hcurve⟩ := ugObj_curve G Z P (Matrix.diagonal fun j => (c j : ℂ)) (Matrix.diagonal fun j => (k j : ℂ))
  refine nonneg_of_first_order (g := fun t => a2 + t * a3) (by fun_prop) ht0 fun t ht htt => ?_
  have h1 := hmin _ ⟨ugCurve_psd (Matrix.diagonal fun j => (c j : ℂ)) hZ hP (Matrix.posSemidef_diagonal_ofReal k hk) t ht.le,
    fun i => by rw [ugCurve_diag]; exact hfeas t ht htt i⟩
  rw [hcurve, e1, e2] at h1
  linarith

include hZp

/-- the curve that rescales the `i`-th row and column of `Z` by `1 − tc` -/
theorem ug_first_order_scale (i : κ) (c t0 : ℝ) (ht0 : 0 < t0)
    (hfeas : ∀ t, 0 < t → t ≤ t0 → p i ≤ (1 - t * c) * (1 - t * c) * (Z i i).re) :
    c * ((G * Z) i i).re ≤ 0 := by
  have := ug_first_order hG hZ hmin 0 (fun j => if j = i then c else 0) (fun _ => 0) t0 Matrix.PosSemidef.zero
    (fun _ => le_rfl) ht0 fun t ht htt j => by
      rw [Matrix.zero_apply, Complex.zero_re, mul_zero, add_zero, mul_zero, add_zero]
      split_ifs with hj
      · rw [hj]; exact hfeas t ht htt
      · rw [mul_zero, sub_zero, one_mul, one_mul]; exact hZp j
  rw [show ugObj G 0 = 0 by rw [ugObj, Matrix.mul_zero, Matrix.trace_zero, Complex.zero_re],
    Finset.sum_eq_single i (fun j _ hj => by rw [if_neg hj, zero_mul]) (fun h => absurd (Finset.mem_univ i) h),
    if_pos rfl] at this
  linarith

/-- enlarging one diagonal entry of `Z` stays feasible -/
theorem ug_min_diag_nonneg (i : κ) : 0 ≤ ((G * Z) i i).re := by
  have := ug_first_order_scale hG hZ hZp hmin i (-1) 1 one_pos fun t ht _ =>
    (hZp i).trans (le_mul_of_one_le_left (hZ.re_diag_nonneg i) (by linarith [mul_nonneg ht.le ht.le]))
  linarith

variable (hp : ∀ i, 0 < p i)
include hp

/-- complementary slackness: shrinking a slack diagonal entry stays feasible -/
theorem ug_min_slack (i : κ) (hi : p i < (Z i i).re) : ((G * Z) i i).re = 0 := by
  have hz : 0 < (Z i i).re := (hp i).trans hi
  refine le_antisymm ?_ (ug_min_diag_nonneg hG hZ hZp hmin i)
  have := ug_first_order_scale hG hZ hZp hmin i 1 (((Z i i).re - p i) / (2 * (Z i i).re))
    (div_pos (sub_pos.mpr hi) (by linarith)) fun t ht htt => by
    have h2 : t * (2 * (Z i i).re) ≤ (Z i i).re - p i := by rwa [le_div_iff₀ (by linarith)] at htt
    linarith [mul_nonneg (mul_nonneg ht.le ht.le) hz.le]
  rwa [one_mul] at this

/-- moving `Z` towards `xxᴴ` while rescaling by `c_i = |x_i|²/(2 z_i)` and adding `t² diag(3 c_i² z_i)` turns the diagonal into
`z_i (1 + 2 t³ c_i³) ≥ z_i`; first-order optimality then reads `Σ_i (r_i/z_i) |x_i|² ≤ xᴴ G x` (`r_i = Re (G Z)_ii`,
`z_i = Re Z_ii`) -/
theorem ug_min_quad (x : κ → ℂ) :
    ∑ i, ((G * Z) i i).re / (Z i i).re * Complex.normSq (x i) ≤ (star x ⬝ᵥ (G *ᵥ x)).re := by
  have hz : ∀ i, 0 < (Z i i).re := fun i => (hp i).trans_le (hZp i)
  obtain ⟨c, hc0, hc⟩ : ∃ c : κ → ℝ, (∀ i, 0 ≤ c i) ∧ ∀ i, Complex.normSq (x i) = 2 * (Z i i).re * c i :=
    ⟨fun i => Complex.normSq (x i) / (2 * (Z i i).re),
      fun i => div_nonneg (Complex.normSq_nonneg _) (by linarith [hz i]),
      fun i => (mul_div_cancel₀ _ (by linarith [hz i])).symm⟩
  have hP : ∀ i, ((vecMulVec x (star x)) i i).re = 2 * (Z i i).re * c i := fun i => by
    rw [Matrix.vecMulVec_apply, Pi.star_apply, Complex.star_def, Complex.mul_conj, Complex.ofReal_re, hc]
  have := ug_first_order hG hZ hmin (vecMulVec x (star x)) c (fun i => 3 * c i * c i * (Z i i).re) 1
    (Matrix.posSemidef_vecMulVec_self_star x)
    (fun i => mul_nonneg (mul_nonneg (mul_nonneg (by norm_num) (hc0 i)) (hc0 i)) (hz i).le) one_pos
    fun t ht _ i => by
      have h3 : 0 ≤ t * t * t * (c i * c i * c i) * (Z i i).re :=
        mul_nonneg (mul_nonneg (mul_nonneg (mul_nonneg ht.le ht.le) ht.le)
          (mul_nonneg (mul_nonneg (hc0 i) (hc0 i)) (hc0 i))) (hz i).le
      rw [hP, show (1 - t * c i) * (1 - t * c i) * ((Z i i).re + t * (2 * (Z i i).re * c i)) + t * t * (3 * c i * c i * (Z i i).re)
        = (Z i i).re + 2 * (t * t * t * (c i * c i * c i) * (Z i i).re) by ring]
      linarith [hZp i]
  rw [ugObj, Matrix.trace_mul_vecMulVec_star, Finset.mul_sum] at this
  refine le_trans (le_of_eq (Finset.sum_congr rfl fun i _ => ?_)) (sub_nonneg.mp this)
  have := (hz i).ne'
  rw [hc]
  field_simp

end Minimiser

theorem ug_strong_duality_gen (G : Matrix κ κ ℂ) (p : κ → ℝ) (lam : ℝ) (hlam : 0 < lam)
    (hG : (G - (lam : ℂ) • (1 : Matrix κ κ ℂ)).PosSemidef) (hp : ∀ i, 0 < p i) :
    ∃ (q : κ → ℝ) (Z : Matrix κ κ ℂ), UaFeasible G q ∧ UaDualFeasible p Z ∧ ∑ i, p i * q i = (G * Z).trace.re := by
  obtain ⟨Z, ⟨hZ, hZp⟩, hmin⟩ := ug_min_attained G p lam hlam hG fun i => (hp i).le
  have hGh : G.IsHermitian := by
    have := hG.isHermitian.add (Matrix.isHermitian_one.smul_ofReal lam)
    rwa [sub_add_cancel] at this
  have hz : ∀ i, 0 < (Z i i).re := fun i => (hp i).trans_le (hZp i)
  refine ⟨fun i => ((G * Z) i i).re / (Z i i).re, Z,
    ⟨fun i => div_nonneg (ug_min_diag_nonneg hGh hZ hZp hmin i) (hz i).le,
      ua_slack_psd G _ hGh (ug_min_quad hGh hZ hZp hmin hp)⟩, ⟨hZ, hZp⟩, ?_⟩
  rw [Matrix.trace, Complex.re_sum]
  refine Finset.sum_congr rfl fun i _ => ?_
  show p i * (((G * Z) i i).re / (Z i i).re) = ((G * Z) i i).re
  rcases (hZp i).lt_or_eq with h | h
  · rw [ug_min_slack hGh hZ hZp hmin hp i h, zero_div, mul_zero]
  · rw [h, mul_div_cancel₀ _ (hz i).ne']

theorem uaDualValues_nonempty (G : Matrix κ κ ℂ) (p : κ → ℝ) (hp : ∀ i, 0 ≤ p i) : (uaDualValues G p).Nonempty :=
  ⟨_, _, uaDualFeasible_diagonal p hp, rfl⟩

theorem uaDualValues_bddBelow (G : Matrix κ κ ℂ) (p : κ → ℝ) (hG : G.PosSemidef) : BddBelow (uaDualValues G p) :=
  ⟨0, by rintro v ⟨Z, hZ, rfl⟩; exact psd_trace_mul_nonneg hG hZ.1⟩

noncomputable def ugEps (n : ℕ) : ℝ := 1 / ((n : ℝ) + 1)

theorem ugEps_pos (n : ℕ) : 0 < ugEps n := by unfold ugEps; positivity

theorem ugEps_anti (n : ℕ) : ugEps (n + 1) ≤ ugEps n := by
  unfold ugEps
  apply one_div_le_one_div_of_le (by positivity)
  push_cast; linarith

theorem ugEps_limit (a b : ℝ) (h : ∀ n, 0 ≤ a + ugEps n * b) : 0 ≤ a := by
  have hlim : Filter.Tendsto (fun n => a + ugEps n * b) Filter.atTop (nhds (a + 0 * b)) :=
    tendsto_const_nhds.add (tendsto_one_div_add_atTop_nhds_zero_nat.mul_const b)
  rw [zero_mul, add_zero] at hlim
  exact ge_of_tendsto' hlim h

def ugLevel (G : Matrix κ κ ℂ) (p : κ → ℝ) (d : ℝ) (n : ℕ) : Set (κ → ℝ) :=
  {q | (∀ i, 0 ≤ q i) ∧ (G + ((ugEps n : ℝ) : ℂ) • (1 : Matrix κ κ ℂ) - Matrix.diagonal fun i => (q i : ℂ)).PosSemidef ∧
    d ≤ ∑ i, (p i + ugEps n) * q i}

theorem ugLevel_isClosed (G : Matrix κ κ ℂ) (p : κ → ℝ) (d : ℝ) (n : ℕ) : IsClosed (ugLevel G p d n) := by
  refine IsClosed.and ?_ (IsClosed.and ?_ (isClosed_le continuous_const (by fun_prop)))
  · simp only [Set.ofPred_forall]
    exact isClosed_iInter fun i => isClosed_le continuous_const (continuous_apply i)
  · refine Matrix.isClosed_setOf_posSemidef.preimage (continuous_const.sub (Continuous.matrix_diagonal ?_))
    exact continuous_pi fun i => Complex.continuous_ofReal.comp (continuous_apply i)

theorem ugLevel_anti (G : Matrix κ κ ℂ) (p : κ → ℝ) (d : ℝ) (n : ℕ) : ugLevel G p d (n + 1) ⊆ ugLevel G p d n := by
  rintro q ⟨h0, h1, h2⟩
  refine ⟨h0, ?_, ?_⟩
  · have e : G + ((ugEps n : ℝ) : ℂ) • (1 : Matrix κ κ ℂ) - Matrix.diagonal (fun i => (q i : ℂ))
        = (G + ((ugEps (n + 1) : ℝ) : ℂ) • (1 : Matrix κ κ ℂ) - Matrix.diagonal fun i => (q i : ℂ))
          + (((ugEps n - ugEps (n + 1) : ℝ)) : ℂ) • (1 : Matrix κ κ ℂ) := by
      push_cast
      module
    rw [e]
    exact h1.add (Matrix.PosSemidef.one.smul_ofReal (by linarith [ugEps_anti n]))
  · refine h2.trans (Finset.sum_le_sum fun i _ => ?_)
    exact mul_le_mul_of_nonneg_right (by linarith [ugEps_anti n]) (h0 i)

theorem ugLevel_zero_isCompact (G : Matrix κ κ ℂ) (p : κ → ℝ) (d : ℝ) : IsCompact (ugLevel G p d 0) := by
  refine IsCompact.of_isClosed_subset (isCompact_univ_pi fun i : κ => isCompact_Icc (a := (0 : ℝ))
    (b := (G i i).re + 1)) (ugLevel_isClosed G p d 0) ?_
  rintro q ⟨h0, h1, -⟩ i -
  refine ⟨h0 i, ?_⟩
  have := h1.re_diag_nonneg i
  simp [ugEps] at this
  linarith

theorem ug_no_gap_gen (G : Matrix κ κ ℂ) (p : κ → ℝ) (hG : G.PosSemidef) (hp : ∀ i, 0 ≤ p i) :
    IsGreatest (uaValues G p) (sInf (uaDualValues G p)) := by
  classical
  set d := sInf (uaDualValues G p) with hd
  have hbdd := uaDualValues_bddBelow G p hG
  -- every level set is non-empty: strong duality of the regularised program
  have hne : ∀ n, (ugLevel G p d n).Nonempty := by
    intro n
    have hGl : (G + ((ugEps n : ℝ) : ℂ) • (1 : Matrix κ κ ℂ) - ((ugEps n : ℝ) : ℂ) • (1 : Matrix κ κ ℂ)).PosSemidef := by
      rw [add_sub_cancel_right]; exact hG
    obtain ⟨q, Z, ⟨h1, h2⟩, ⟨h3, h4⟩, h5⟩ := ug_strong_duality_gen (G + ((ugEps n : ℝ) : ℂ) • (1 : Matrix κ κ ℂ))
      (fun i => p i + ugEps n) (ugEps n) (ugEps_pos n) hGl (fun i => by linarith [hp i, ugEps_pos n])
    refine ⟨q, h1, h2, ?_⟩
    rw [h5]
    have hZf : UaDualFeasible p Z := ⟨h3, fun i => by linarith [h4 i, ugEps_pos n]⟩
    have h6 : d ≤ ugObj G Z := csInf_le hbdd ⟨Z, hZf, rfl⟩
    have h7 : ugObj G Z ≤ ((G + ((ugEps n : ℝ) : ℂ) • (1 : Matrix κ κ ℂ)) * Z).trace.re := by
      rw [Matrix.add_mul, Matrix.trace_add, Complex.add_re]
      exact le_add_of_nonneg_right
        (psd_trace_mul_nonneg (Matrix.PosSemidef.one.smul_ofReal (ugEps_pos n).le) h3)
    linarith
  obtain ⟨q, hq⟩ := IsCompact.nonempty_iInter_of_sequence_nonempty_isCompact_isClosed (ugLevel G p d)
    (ugLevel_anti G p d) hne (ugLevel_zero_isCompact G p d) (ugLevel_isClosed G p d)
  rw [Set.mem_iInter] at hq
  have hq0 : ∀ i, 0 ≤ q i := (hq 0).1
  have hfeas : (G - Matrix.diagonal fun i => (q i : ℂ)).PosSemidef := by
    refine ua_slack_psd G q hG.isHermitian fun x => ?_
    refine sub_nonneg.mp (ugEps_limit _ (star x ⬝ᵥ x).re fun n => ?_)
    have h1 := (Complex.nonneg_iff.mp ((hq n).2.1.dotProduct_mulVec_nonneg x)).1
    rw [Matrix.sub_mulVec, Matrix.add_mulVec, dotProduct_sub, dotProduct_add, Matrix.star_dotProduct_diagonal_ofReal_mulVec,
      Matrix.smul_mulVec, Matrix.one_mulVec, dotProduct_smul, Complex.sub_re, Complex.add_re, smul_eq_mul,
      Complex.re_ofReal_mul, Complex.ofReal_re] at h1
    linarith
  have hval : d ≤ ∑ i, p i * q i := by
    refine sub_nonneg.mp (ugEps_limit _ (∑ i, q i) fun n => ?_)
    have h1 := (hq n).2.2
    simp only [add_mul, Finset.sum_add_distrib, ← Finset.mul_sum] at h1
    linarith
  have hle : ∀ a ∈ uaValues G p, a ≤ d := fun a ha =>
    le_csInf (uaDualValues_nonempty G p hp) fun b hb => uaValues_le_uaDualValues G p a ha b hb
  exact ⟨⟨q, ⟨hq0, hfeas⟩, le_antisymm (hle _ ⟨q, ⟨hq0, hfeas⟩, rfl⟩) hval⟩, fun a ha => hle a ha⟩

end Gram

end Toq.Discrim
