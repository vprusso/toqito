import Toq.Proofs.Spectral
import Mathlib.Analysis.Matrix.Spectrum
import Mathlib.Analysis.Matrix.PosDef
import Mathlib.LinearAlgebra.Matrix.PosDef
import Mathlib.LinearAlgebra.Matrix.Rank
import Mathlib.Tactic.Ring
import Mathlib.Tactic.Linarith
/-!
# Spectral facts behind the C16 predicates (all sizes)

Facts about complex matrices and their eigenvalues (Mathlib's `Matrix.IsHermitian.eigenvalues`, through `A = U · diag(λ) · Uᴴ` of
`Proofs/Spectral.lean`); nothing in this file mentions the model.

The first two sections translate between the exact deciders of `Toq/Model/MatrixPreds.lean`, which avoid eigenvalues (`Tr ρ² = 1`,
`A + μ·1` PSD), and the Python code (`is_pure`, `is_positive_semidefinite`), which is written with them:
* purity: for a density matrix `Tr ρ² = 1` ⇔ one eigenvalue is 1 and the others 0 (`purity_iff`) ⇔ the largest eigenvalue is 1 ⇔
  rank one (`rank_eq_one_iff`; with it a Hermitian matrix of rank one and positive trace is `v vᴴ`, the criterion of C06's `unitaryV`);
  `Tr ρ² ≤ 1 − 2m` ⇒ all eigenvalues `≤ 1 − m`;
* `A + t·1` PSD ⇔ every eigenvalue `≥ −t` (`posSemidef_add_smul_one_iff` of `Proofs/Spectral.lean`) in the forms the deciders use.

The rest (Frobenius norm, `singularValue`, `gramMatrix`, trace norm) feeds five theorems of `Properties/C16.lean`, Part 7
(`gram_posSemidef`, `frobenius_eq_singular_values`, `nonzero_singular_values_eq_rank`, `singular_values_hermitian`,
`trace_norm_hermitian`): statements about the mathematics `kp_norm`, `trace_norm`, `vectors_to_gram_matrix` implement, with no
executable counterpart here (`gramMatrix` is not related to the model's `MatrixOps.gram`, `singularValue` to nothing that runs);
`gram_chol_roundtrip` is the one identity of the Cholesky branch of `vectors_from_gram_matrix`, over any commutative star ring.
-/

open Matrix Unitary
open Toq.Metrics (conjDiag exists_conjDiag conjDiag_mul conjDiag_trace)
open scoped ComplexOrder

namespace Toq.MatrixSpectral

variable {n : Type*} [Fintype n] [DecidableEq n]

/-! ## Purity (`is_pure`: "largest eigenvalue is 1" versus the decider's `Tr ρ² = 1`) -/

theorem trace_sq_eq_sum_sq (A : Matrix n n ℂ) (hA : A.IsHermitian) :
    (A * A).trace = ∑ i, ((hA.eigenvalues i : ℝ) : ℂ) ^ 2 := by
  obtain ⟨U, hU, e⟩ := exists_conjDiag hA
  conv_lhs => rw [e]
  rw [conjDiag_mul hU, conjDiag_trace hU]
  simp [sq]

/-- the real number the decider `pureV` computes -/
theorem trace_sq_re (A : Matrix n n ℂ) (hA : A.IsHermitian) :
    ((A * A).trace).re = ∑ i, (hA.eigenvalues i) ^ 2 := by
  rw [trace_sq_eq_sum_sq A hA, Complex.re_sum]
  refine Finset.sum_congr rfl fun i _ => ?_
  rw [← Complex.ofReal_pow, Complex.ofReal_re]

theorem trace_eq_sum (A : Matrix n n ℂ) (hA : A.IsHermitian) :
    A.trace = ∑ i, ((hA.eigenvalues i : ℝ) : ℂ) :=
  hA.trace_eq_sum_eigenvalues

theorem trace_re (A : Matrix n n ℂ) (hA : A.IsHermitian) :
    (A.trace).re = ∑ i, hA.eigenvalues i := by
  rw [hA.trace_eq_sum_eigenvalues, Complex.re_sum]
  simp

theorem sum_eigenvalues_eq_one {ρ : Matrix n n ℂ} (hρ : ρ.IsHermitian) (htr : ρ.trace = 1) :
    ∑ i, hρ.eigenvalues i = 1 := by
  rw [← trace_re ρ hρ, htr, Complex.one_re]

theorem eigenvalue_mem_Icc {ρ : Matrix n n ℂ} (hρ : ρ.PosSemidef) (htr : ρ.trace = 1) (i : n) :
    0 ≤ hρ.1.eigenvalues i ∧ hρ.1.eigenvalues i ≤ 1 := by
  refine ⟨hρ.eigenvalues_nonneg i, ?_⟩
  rw [← sum_eigenvalues_eq_one hρ.1 htr]
  exact Finset.single_le_sum (fun j _ => hρ.eigenvalues_nonneg j) (Finset.mem_univ i)

theorem trace_sq_eq_one_iff (A : Matrix n n ℂ) (hA : A.IsHermitian) :
    (A * A).trace = 1 ↔ ∑ i, hA.eigenvalues i ^ 2 = 1 := by
  rw [trace_sq_eq_sum_sq A hA, ← Complex.ofReal_one]
  simp only [← Complex.ofReal_pow, ← Complex.ofReal_sum, Complex.ofReal_inj]

omit [DecidableEq n] in
theorem eq_zero_of_sum_eq_one {l : n → ℝ} (h0 : ∀ i, 0 ≤ l i) (h1 : ∑ i, l i = 1) {i j : n} (hi : l i = 1) (hj : j ≠ i) :
    l j = 0 := by
  classical
  have hs : l i + ∑ k ∈ Finset.univ.erase i, l k = 1 := by
    rw [Finset.add_sum_erase _ _ (Finset.mem_univ i)]; exact h1
  exact (Finset.sum_eq_zero_iff_of_nonneg (fun k _ => h0 k)).1 (by linarith) j
    (Finset.mem_erase.2 ⟨hj, Finset.mem_univ j⟩)

omit [DecidableEq n] in
theorem sum_sq_eq_one_iff (l : n → ℝ) (h0 : ∀ i, 0 ≤ l i) (h1 : ∑ i, l i = 1) :
    ∑ i, l i ^ 2 = 1 ↔ ∃ i, l i = 1 ∧ ∀ j, j ≠ i → l j = 0 := by
  classical
  have hle : ∀ i, l i ≤ 1 := fun i => by
    rw [← h1]; exact Finset.single_le_sum (fun j _ => h0 j) (Finset.mem_univ i)
  constructor
  · intro h
    -- `Σ (l_i − l_i²) = 0` with non-negative terms, so every `l_i` is `0` or `1`, and not all are `0`
    have hz : ∑ i, l i * (1 - l i) = 0 := by
      simp only [mul_sub, mul_one, ← sq, Finset.sum_sub_distrib, h, h1, sub_self]
    have hall := (Finset.sum_eq_zero_iff_of_nonneg fun i _ => mul_nonneg (h0 i) (sub_nonneg.2 (hle i))).1 hz
    obtain ⟨i, hi⟩ : ∃ i, l i = 1 := by
      by_contra hne
      push Not at hne
      have : ∑ i, l i = 0 := Finset.sum_eq_zero fun i _ =>
        (mul_eq_zero.1 (hall i (Finset.mem_univ i))).resolve_right fun h => hne i (sub_eq_zero.1 h).symm
      rw [h1] at this; exact one_ne_zero this
    exact ⟨i, hi, fun j hj => eq_zero_of_sum_eq_one h0 h1 hi hj⟩
  · rintro ⟨i, hi, hz⟩
    rw [Finset.sum_eq_single i (fun j _ hj => by rw [hz j hj]; ring)
      (fun h => absurd (Finset.mem_univ i) h), hi]
    ring

theorem purity_iff {ρ : Matrix n n ℂ} (hρ : ρ.PosSemidef) (htr : ρ.trace = 1) :
    (ρ * ρ).trace = 1 ↔ ∃ i, hρ.1.eigenvalues i = 1 ∧ ∀ j, j ≠ i → hρ.1.eigenvalues j = 0 :=
  (trace_sq_eq_one_iff ρ hρ.1).trans
    (sum_sq_eq_one_iff hρ.1.eigenvalues hρ.eigenvalues_nonneg (sum_eigenvalues_eq_one hρ.1 htr))

/-- the largest eigenvalue is the quantity `np.max(eigs)` that `is_pure` compares with 1 -/
theorem purity_iff_isGreatest {ρ : Matrix n n ℂ} (hρ : ρ.PosSemidef) (htr : ρ.trace = 1) :
    (ρ * ρ).trace = 1 ↔ IsGreatest (Set.range hρ.1.eigenvalues) 1 := by
  rw [purity_iff hρ htr]
  constructor
  · rintro ⟨i, hi, _⟩
    exact ⟨⟨i, hi⟩, by rintro _ ⟨j, rfl⟩; exact (eigenvalue_mem_Icc hρ htr j).2⟩
  · rintro ⟨⟨i, hi⟩, _⟩
    exact ⟨i, hi, fun j hj => eq_zero_of_sum_eq_one hρ.eigenvalues_nonneg (sum_eigenvalues_eq_one hρ.1 htr) hi hj⟩

/-- the rank counts the non-zero eigenvalues: rank one means exactly one of them -/
theorem rank_eq_one_iff {A : Matrix n n ℂ} (hA : A.IsHermitian) :
    A.rank = 1 ↔ ∃ i, hA.eigenvalues i ≠ 0 ∧ ∀ j, j ≠ i → hA.eigenvalues j = 0 := by
  rw [hA.rank_eq_card_non_zero_eigs, Fintype.card_eq_one_iff]
  constructor
  · rintro ⟨⟨i, hi⟩, huniq⟩
    exact ⟨i, hi, fun j hj => by_contra fun hne => hj (congrArg Subtype.val (huniq ⟨j, hne⟩))⟩
  · rintro ⟨i, hi, hz⟩
    exact ⟨⟨i, hi⟩, fun ⟨j, hj⟩ => Subtype.ext (by_contra fun hne => hj (hz j hne))⟩

/-- rank one is the documented meaning of "pure"; the one non-zero eigenvalue is the trace -/
theorem purity_iff_rank_one {ρ : Matrix n n ℂ} (hρ : ρ.PosSemidef) (htr : ρ.trace = 1) :
    (ρ * ρ).trace = 1 ↔ ρ.rank = 1 := by
  rw [purity_iff hρ htr, rank_eq_one_iff hρ.1]
  refine exists_congr fun i => and_congr_left fun hz => ?_
  have h1 : hρ.1.eigenvalues i = 1 := by
    rw [← sum_eigenvalues_eq_one hρ.1 htr, Finset.sum_eq_single i (fun j _ hj => hz j hj) (fun h => absurd (Finset.mem_univ i) h)]
  exact iff_of_true h1 (h1 ▸ one_ne_zero)

/-- the one non-zero eigenvalue `λ` is the trace, and `v = √λ · u` for its eigenvector `u` (the criterion of `is_unitary` on a
    Choi matrix) -/
theorem hermitian_rank_one_eq (A : Matrix n n ℂ) (hA : A.IsHermitian)
    (hr : A.rank = 1) (ht : 0 < A.trace.re) : ∃ v : n → ℂ, A = vecMulVec v (star v) := by
  obtain ⟨U, lam, hAe, ⟨i₀, -, hz⟩, htrs⟩ : ∃ (U : Matrix n n ℂ) (lam : n → ℝ), A = U * diagonal (fun i => (lam i : ℂ)) * Uᴴ ∧
      (∃ i, lam i ≠ 0 ∧ ∀ j, j ≠ i → lam j = 0) ∧ A.trace = ∑ i, (lam i : ℂ) := by
    obtain ⟨U, -, hAe⟩ := exists_conjDiag hA
    exact ⟨U, hA.eigenvalues, hAe, (rank_eq_one_iff hA).mp hr, hA.trace_eq_sum_eigenvalues⟩
  have htr : A.trace = (lam i₀ : ℂ) := by
    rw [htrs]
    exact Finset.sum_eq_single i₀ (fun i _ hi => by rw [hz i hi]; simp) (fun h => absurd (Finset.mem_univ _) h)
  have hpos : 0 < lam i₀ := by
    rw [htr] at ht; simpa using ht
  refine ⟨fun p => ((Real.sqrt (lam i₀) : ℝ) : ℂ) * U p i₀, ?_⟩
  ext p q
  have hs : ((Real.sqrt (lam i₀) : ℝ) : ℂ) * ((Real.sqrt (lam i₀) : ℝ) : ℂ) = (lam i₀ : ℂ) := by
    rw [← Complex.ofReal_mul, Real.mul_self_sqrt hpos.le]
  rw [hAe, Matrix.mul_apply]
  rw [Finset.sum_eq_single i₀ (fun i _ hi => by rw [Matrix.mul_diagonal, hz i hi]; simp)
    (fun h => absurd (Finset.mem_univ _) h)]
  rw [Matrix.mul_diagonal, Matrix.conjTranspose_apply, vecMulVec_apply, Pi.star_apply, star_mul', ← hs]
  simp only [Complex.star_def, Complex.conj_ofReal]
  ring

/-- every eigenvalue, in particular the largest one, which `is_pure` compares with 1.  No trace hypothesis is needed:
    `λ² ≤ Σλ² ≤ 1 − 2m ≤ (1 − m)²`. -/
theorem eigenvalue_le_of_purity_le {ρ : Matrix n n ℂ} (hρ : ρ.PosSemidef)
    {m : ℝ} (hp : ((ρ * ρ).trace).re ≤ 1 - 2 * m) (i : n) :
    hρ.1.eigenvalues i ≤ 1 - m := by
  rw [trace_sq_re ρ hρ.1] at hp
  have h1 : hρ.1.eigenvalues i * hρ.1.eigenvalues i ≤ 1 - 2 * m := by
    rw [← sq]
    exact (Finset.single_le_sum (f := fun j => hρ.1.eigenvalues j ^ 2) (fun j _ => sq_nonneg _)
      (Finset.mem_univ i)).trans hp
  have hm1 : 0 ≤ 1 - m := by linarith [mul_self_nonneg (hρ.1.eigenvalues i)]
  exact nonneg_le_nonneg_of_sq_le_sq hm1 (by linarith [mul_self_nonneg m])

/-! ## Shifted positive semidefiniteness (`is_positive_semidefinite`: `all(eigvalsh(A) ≥ −atol)`) -/

theorem not_posSemidef_shift_iff (A : Matrix n n ℂ) (hA : A.IsHermitian) (t : ℝ) :
    ¬ (A + (t : ℂ) • (1 : Matrix n n ℂ)).PosSemidef ↔ ∃ i, hA.eigenvalues i < -t := by
  rw [Toq.Metrics.posSemidef_add_smul_one_iff hA t]
  push Not
  rfl

omit [Fintype n] in
/-- The "yes" test of `is_positive_definite`: if `A − μ·1` is still PSD for some `μ > 0` then `A` is positive definite
    (`A = (A + t·1) + (−t)·1` with `t = −μ`). -/
theorem posDef_of_posSemidef_shift (A : Matrix n n ℂ) {t : ℝ} (ht : t < 0)
    (h : (A + (t : ℂ) • (1 : Matrix n n ℂ)).PosSemidef) : A.PosDef := by
  have hpd : (((-t : ℝ) : ℂ) • (1 : Matrix n n ℂ)).PosDef :=
    Matrix.PosDef.one.smul (by exact_mod_cast neg_pos.mpr ht)
  have e : A = (A + (t : ℂ) • 1) + ((-t : ℝ) : ℂ) • 1 := by
    rw [add_assoc, ← add_smul, Complex.ofReal_neg, add_neg_cancel, zero_smul, add_zero]
  rw [e]
  exact Matrix.PosDef.posSemidef_add h hpd

theorem posSemidef_iff_eigenvalues (A : Matrix n n ℂ) (hA : A.IsHermitian) :
    A.PosSemidef ↔ ∀ i, 0 ≤ hA.eigenvalues i :=
  hA.posSemidef_iff_eigenvalues_nonneg

/-! ## Frobenius shortcut of `kp_norm` (`k ≥ min(shape)` and `p = 2`) -/

section Frobenius
variable {m : Type*} [Fintype m]

theorem frobenius_sq_eq_sum_eigenvalues (A : Matrix m n ℂ) :
    ∑ i, ∑ j, ‖A i j‖ ^ 2 = ∑ k, (isHermitian_conjTranspose_mul_self A).eigenvalues k := by
  rw [← Matrix.re_trace_conjTranspose_mul_self, trace_re]

/-- The singular values of `A`: square roots of the eigenvalues of `Aᴴ A` (indexed by the columns; for a
    tall/wide matrix the entries beyond `min(shape)` are zeros, see `card_nonzero_singularValues_le`). -/
noncomputable def singularValue (A : Matrix m n ℂ) (k : n) : ℝ :=
  Real.sqrt ((isHermitian_conjTranspose_mul_self A).eigenvalues k)

theorem singularValue_nonneg (A : Matrix m n ℂ) (k : n) : 0 ≤ singularValue A k :=
  Real.sqrt_nonneg _

theorem singularValue_sq (A : Matrix m n ℂ) (k : n) :
    singularValue A k ^ 2 = (isHermitian_conjTranspose_mul_self A).eigenvalues k :=
  Real.sq_sqrt (eigenvalues_conjTranspose_mul_self_nonneg A k)

theorem frobenius_sq_eq_sum_singularValue_sq (A : Matrix m n ℂ) :
    ∑ i, ∑ j, ‖A i j‖ ^ 2 = ∑ k, singularValue A k ^ 2 := by
  rw [frobenius_sq_eq_sum_eigenvalues]
  simp only [singularValue_sq]

theorem card_nonzero_singularValues_eq_rank (A : Matrix m n ℂ) :
    Fintype.card {k // singularValue A k ≠ 0} = A.rank := by
  have h1 : Fintype.card {k // singularValue A k ≠ 0} =
      Fintype.card {k // (isHermitian_conjTranspose_mul_self A).eigenvalues k ≠ 0} := by
    refine Fintype.card_congr (Equiv.subtypeEquivRight fun k => ?_)
    unfold singularValue
    rw [Ne, Real.sqrt_eq_zero (eigenvalues_conjTranspose_mul_self_nonneg A k)]
  rw [h1, ← (isHermitian_conjTranspose_mul_self A).rank_eq_card_non_zero_eigs,
    rank_conjTranspose_mul_self]

/-- At most `min(rows, cols)` singular values are non-zero, so "all" singular values are the `min(shape)` ones
    `np.linalg.svd` returns; the remaining ones contribute 0. -/
theorem card_nonzero_singularValues_le (A : Matrix m n ℂ) :
    Fintype.card {k // singularValue A k ≠ 0} ≤ min (Fintype.card m) (Fintype.card n) := by
  rw [card_nonzero_singularValues_eq_rank]
  exact le_min (rank_le_card_height A) (rank_le_card_width A)

end Frobenius

section Gram
variable {k d : Type*} [Fintype d]

/-- Gram matrix of a family of vectors, `G i j = ⟨v_i, v_j⟩ = Σ_a conj(v_i a) · v_j a`
    (`vectors_to_gram_matrix`). -/
def gramMatrix (v : k → d → ℂ) : Matrix k k ℂ := Matrix.of fun i j => star (v i) ⬝ᵥ v j

variable [Fintype k]

theorem gramMatrix_posSemidef (v : k → d → ℂ) : (gramMatrix v).PosSemidef := Matrix.posSemidef_gram v

theorem gramMatrix_isHermitian (v : k → d → ℂ) : (gramMatrix v).IsHermitian :=
  (gramMatrix_posSemidef v).1

theorem gramMatrix_eigenvalues_nonneg [DecidableEq k] (v : k → d → ℂ) (i : k) :
    0 ≤ (gramMatrix_isHermitian v).eigenvalues i := (gramMatrix_posSemidef v).eigenvalues_nonneg i

end Gram

section GramAlgebra
variable {R : Type*} [CommRing R] [StarRing R] {ι κ : Type*} [Fintype κ]

/-- Cholesky-branch round trip of `vectors_from_gram_matrix`: if `G = L · Lᴴ` then the returned
    vectors `w i = conj(L[i, :])` have Gram matrix `G`. -/
theorem gram_chol_roundtrip (G : ι → ι → R) (L : ι → κ → R)
    (hG : ∀ i j, G i j = ∑ k, L i k * star (L j k)) (i j : ι) :
    ∑ k, star (star (L i k)) * star (L j k) = G i j := by
  rw [hG]
  simp only [star_star]

end GramAlgebra

/-! ## Trace norm (`trace_norm`, singular values of Hermitian matrices) -/

/-- `U` is any isometry, not the eigenvector matrix of `B`: both multisets are the roots of the characteristic polynomial -/
theorem eigenvalues_multiset_of_conjDiag {B : Matrix n n ℂ} (hB : B.IsHermitian) {U : Matrix n n ℂ} (hU : Uᴴ * U = 1)
    (d : n → ℝ) (h : B = conjDiag U d) :
    Multiset.map hB.eigenvalues Finset.univ.val = Multiset.map d Finset.univ.val := by
  have h1 := hB.roots_charpoly_eq_eigenvalues
  have h2 : B.charpoly = ∏ i, (Polynomial.X - Polynomial.C ((d i : ℝ) : ℂ)) := Toq.Metrics.charpoly_of_diagonalisation hU h
  have h3 : B.charpoly.roots = Multiset.map (fun i => ((d i : ℝ) : ℂ)) Finset.univ.val := by
    rw [h2, Polynomial.roots_prod]
    · simp
    · simp [Finset.prod_ne_zero_iff, Polynomial.X_sub_C_ne_zero]
  rw [h3] at h1
  have h4 : Multiset.map Complex.ofReal (Multiset.map d Finset.univ.val) =
      Multiset.map Complex.ofReal (Multiset.map hB.eigenvalues Finset.univ.val) := by
    rw [Multiset.map_map, Multiset.map_map]; exact h1
  exact (Multiset.map_injective Complex.ofReal_injective h4).symm

theorem sum_comp_eigenvalues_of_conjDiag {B : Matrix n n ℂ} (hB : B.IsHermitian) {U : Matrix n n ℂ} (hU : Uᴴ * U = 1)
    (d : n → ℝ) (h : B = conjDiag U d) (f : ℝ → ℝ) : ∑ i, f (hB.eigenvalues i) = ∑ i, f (d i) := by
  have := congrArg (fun s => (Multiset.map f s).sum) (eigenvalues_multiset_of_conjDiag hB hU d h)
  simpa [Multiset.map_map] using this

theorem conjTranspose_mul_self_conjDiag (A : Matrix n n ℂ) (hA : A.IsHermitian) :
    ∃ U : Matrix n n ℂ, Uᴴ * U = 1 ∧ Aᴴ * A = conjDiag U fun i => hA.eigenvalues i ^ 2 := by
  obtain ⟨U, hU, e⟩ := exists_conjDiag hA
  refine ⟨U, hU, ?_⟩
  rw [hA.eq]
  conv_lhs => rw [e]
  rw [conjDiag_mul hU]
  simp only [sq]

theorem singular_sq_multiset_hermitian (A : Matrix n n ℂ) (hA : A.IsHermitian) :
    Multiset.map (isHermitian_conjTranspose_mul_self A).eigenvalues Finset.univ.val =
      Multiset.map (fun i => hA.eigenvalues i ^ 2) Finset.univ.val :=
  let ⟨_, hU, e⟩ := conjTranspose_mul_self_conjDiag A hA
  eigenvalues_multiset_of_conjDiag _ hU _ e

theorem singularValue_multiset_hermitian (A : Matrix n n ℂ) (hA : A.IsHermitian) :
    Multiset.map (singularValue A) Finset.univ.val = Multiset.map (fun i => |hA.eigenvalues i|) Finset.univ.val := by
  have h := congrArg (Multiset.map Real.sqrt) (singular_sq_multiset_hermitian A hA)
  rw [Multiset.map_map, Multiset.map_map] at h
  -- `singularValue A k` is `√` of the `k`-th eigenvalue of `Aᴴ A` by definition, and `√(λ²) = |λ|`
  exact h.trans (Multiset.map_congr rfl fun i _ => Real.sqrt_sq_eq_abs _)

theorem traceNorm_hermitian (A : Matrix n n ℂ) (hA : A.IsHermitian) :
    ∑ k, singularValue A k = ∑ i, |hA.eigenvalues i| :=
  congrArg Multiset.sum (singularValue_multiset_hermitian A hA)

theorem traceNorm_posSemidef (A : Matrix n n ℂ) (hA : A.PosSemidef) :
    ∑ k, singularValue A k = (A.trace).re := by
  rw [traceNorm_hermitian A hA.1, trace_re A hA.1]
  exact Finset.sum_congr rfl fun i _ => abs_of_nonneg (hA.eigenvalues_nonneg i)

theorem traceNorm_density (ρ : Matrix n n ℂ) (hρ : ρ.PosSemidef) (htr : ρ.trace = 1) :
    ∑ k, singularValue ρ k = 1 := by
  rw [traceNorm_posSemidef ρ hρ, htr, Complex.one_re]

/-- the Frobenius norm² of a Hermitian matrix is `Re Tr A²`, the quantity the purity decider computes -/
theorem sum_singularValue_sq_hermitian (A : Matrix n n ℂ) (hA : A.IsHermitian) :
    ∑ k, singularValue A k ^ 2 = ((A * A).trace).re := by
  obtain ⟨_, hU, e⟩ := conjTranspose_mul_self_conjDiag A hA
  rw [trace_sq_re A hA]
  simp only [singularValue_sq]
  exact sum_comp_eigenvalues_of_conjDiag _ hU _ e id

/-- The hypotheses "PSD, trace 1" are satisfiable with a non-trivial instance (`|0⟩⟨0|` on a qubit), and
    for it the purity test succeeds. -/
example : (diagonal ![(1 : ℂ), 0]).PosSemidef ∧ (diagonal ![(1 : ℂ), 0]).trace = 1 ∧
    (diagonal ![(1 : ℂ), 0] * diagonal ![(1 : ℂ), 0]).trace = 1 := by
  refine ⟨PosSemidef.diagonal fun i => ?_, ?_, ?_⟩
  · fin_cases i <;> simp
  · simp [trace_diagonal]
  · simp [diagonal_mul_diagonal, trace_diagonal]

end Toq.MatrixSpectral
