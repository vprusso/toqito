import Toq.Proofs.PPTDisc
import Toq.Proofs.Bipartite
import Toq.Spec.Combinat
import Mathlib.Algebra.BigOperators.Fin
import Mathlib.Analysis.InnerProductSpace.Positive
/-!
# C12: the constraint set of the symmetric-extension hierarchy at every level

`symmetric_extension_hierarchy(states, probs, level, dim=[dX, dY])` attaches to every measurement operator `M` (on `X ⊗ Y`)
an operator `x_var` on `X ⊗ Y^{⊗ level}` (`dim_list = [dX, dY, …, dY]`, the copies of `Y` are the last tensor factors) with

* `partial_trace(x_var, [2, …, level], dim_list) == M`           (trace out every copy but the first),
* `x_var ⪰ 0`, `M ⪰ 0`,
* `(1 ⊗ Π_sym) x_var (1 ⊗ Π_sym) == x_var`, `Π_sym = symmetric_projection(dY, level)`,
* `partial_transpose(x_var, [0], dim_list) ⪰ 0`,
* `partial_transpose(x_var, [t + 1], dim_list) ⪰ 0` for the copies `t = 1 … level − 1`.

Here an operator on `X ⊗ Y^{⊗ L}` is a matrix indexed by `HIdx m d L = m × (Fin L → Fin d)` (`m` the index set of `X`, the digit
vector lists the copies of `Y` in toqito's order).  `margLast`, `prodExt` (with `tensorVec`), `pTX`, `pTY t` are `Matrix.ptrLast`, `Matrix.prodOp`
(with `Matrix.tensorVec`), `Matrix.pTL`, `Matrix.pTS (· = t)` of `Proofs/Bipartite` at this index type (`margLast_eq`, `prodExt_eq`, `pTX_eq`,
`pTY_eq`), and their lemmas are those.
`SymExtAt ℓ M` is the constraint set of level `ℓ + 1`; this file proves

* level one is the PPT condition (`symExtAt_zero_iff`),
* a feasible point of level `ℓ + 2` restricts (trace over the last copy) to one of level `ℓ + 1` (`SymExtAt.pred`),
* product operators `A ⊗ b bᴴ` are feasible at every level (`symExtAt_rankOne`), feasibility is additive (`symExtAt_sum`),
* `IsSymPPT S σ`: the conditions on the variable alone (positive semidefinite, supported on the symmetric subspace, positive partial transposes on
  a family `S` of sets of copies), closed under the trace over the last copy (`IsSymPPT.margLast`) and satisfied by the product points
  (`isSymPPT_prodExt`); the programs of C13 (`Toq.Metrics.FosFeasible`) and C20 (`Toq.ChanMetrics.Fos.Feasible`) are this with their own families,
* the support condition `(1 ⊗ Π_sym) X (1 ⊗ Π_sym) = X` is invariance of the entries under permuting the copies on either
  side (`sym_iff_isBoseSym`); `Π_sym` is the projector `symSpec` of C18 (`symPC_eq_symSpec`).
-/

open Matrix Equiv
open scoped ComplexOrder MatrixOrder Kronecker

namespace Toq.PPTDisc

section Hier
variable {m : Type*} {d : ℕ}

abbrev HIdx (m : Type*) (d L : ℕ) := m × (Fin L → Fin d)

def snocI {L : ℕ} (i : HIdx m d L) (c : Fin d) : HIdx m d (L + 1) :=
  (i.1, Fin.snoc (α := fun _ => Fin d) i.2 c)

def margLast {L : ℕ} (X : Matrix (HIdx m d (L + 1)) (HIdx m d (L + 1)) ℂ) :
    Matrix (HIdx m d L) (HIdx m d L) ℂ :=
  fun i j => ∑ c, X (snocI i c) (snocI j c)

/-- trace out every copy of `Y` but the first (`partial_trace(x_var, [2, …, level], dim_list)`) -/
def margTo1 : (ℓ : ℕ) → Matrix (HIdx m d (ℓ + 1)) (HIdx m d (ℓ + 1)) ℂ → Matrix (HIdx m d 1) (HIdx m d 1) ℂ
  | 0, X => X
  | ℓ + 1, X => margTo1 ℓ (margLast X)

def oneCopy (i : m × Fin d) : HIdx m d 1 := (i.1, fun _ => i.2)

def oneCopyEquiv : m × Fin d ≃ HIdx m d 1 where
  toFun := oneCopy
  invFun i := (i.1, i.2 0)
  left_inv i := rfl
  right_inv i := by
    refine Prod.ext rfl (funext fun t => ?_)
    rw [Subsingleton.elim t 0]; rfl

def toMN (Z : Matrix (HIdx m d 1) (HIdx m d 1) ℂ) : Matrix (m × Fin d) (m × Fin d) ℂ :=
  Z.submatrix oneCopy oneCopy

def pTX {L : ℕ} (X : Matrix (HIdx m d L) (HIdx m d L) ℂ) : Matrix (HIdx m d L) (HIdx m d L) ℂ :=
  fun i j => X (j.1, i.2) (i.1, j.2)

def pTY {L : ℕ} (t : Fin L) (X : Matrix (HIdx m d L) (HIdx m d L) ℂ) : Matrix (HIdx m d L) (HIdx m d L) ℂ :=
  fun i j => X (i.1, Function.update i.2 t (j.2 t)) (j.1, Function.update j.2 t (i.2 t))

def permC (d L : ℕ) (σ : Perm (Fin L)) : Matrix (Fin L → Fin d) (Fin L → Fin d) ℂ :=
  fun f g => if f = g ∘ σ then 1 else 0

noncomputable def symPC (d L : ℕ) : Matrix (Fin L → Fin d) (Fin L → Fin d) ℂ :=
  ((L.factorial : ℂ)⁻¹) • ∑ σ : Perm (Fin L), permC d L σ

theorem permC_eq_permMat (d L : ℕ) (σ : Perm (Fin L)) :
    permC d L σ = (Toq.Combinat.Spec.permMat d L σ).map (fun q : ℚ => (q : ℂ)) := by
  ext f g
  simp only [permC, Toq.Combinat.Spec.permMat, Matrix.map_apply, apply_ite (fun q : ℚ => (q : ℂ)), Rat.cast_one,
    Rat.cast_zero]

/-- `symPC d L` is `symmetric_projection(d, L)` as C18 specifies it, over `ℂ` -/
theorem symPC_eq_symSpec (d L : ℕ) :
    symPC d L = (Toq.Combinat.Spec.symSpec d L).map (fun q : ℚ => (q : ℂ)) := by
  ext f g
  simp only [symPC, Toq.Combinat.Spec.symSpec, permC_eq_permMat, Matrix.map_apply, Matrix.smul_apply,
    Matrix.sum_apply, smul_eq_mul, Rat.cast_mul, Rat.cast_inv, Rat.cast_natCast, Rat.cast_sum]

theorem permC_transpose {L : ℕ} (σ : Perm (Fin L)) : (permC d L σ)ᵀ = permC d L σ⁻¹ := by
  ext f g
  rw [transpose_apply, permC, permC, Perm.inv_def]
  exact if_congr ((Equiv.comp_symm_eq σ f g).symm.trans eq_comm) rfl rfl

theorem symPC_transpose {L : ℕ} : (symPC d L)ᵀ = symPC d L := by
  rw [symPC, transpose_smul, transpose_sum]
  simp only [permC_transpose]
  exact congrArg _ (Equiv.sum_comp (Equiv.inv (Perm (Fin L))) (permC d L))

theorem one_kron_symPC_transpose [DecidableEq m] {L : ℕ} :
    ((1 : Matrix m m ℂ) ⊗ₖ symPC d L)ᵀ = (1 : Matrix m m ℂ) ⊗ₖ symPC d L := by
  rw [← kroneckerMap_transpose, transpose_one, symPC_transpose]

def IsBoseSym {L : ℕ} (X : Matrix (HIdx m d L) (HIdx m d L) ℂ) : Prop :=
  ∀ (σ : Perm (Fin L)) (a : m) (f : Fin L → Fin d) (j : HIdx m d L),
    X (a, f ∘ σ) j = X (a, f) j ∧ X j (a, f ∘ σ) = X j (a, f)

theorem margLast_eq {L : ℕ} (X : Matrix (HIdx m d (L + 1)) (HIdx m d (L + 1)) ℂ) : margLast X = ptrLast X := rfl

theorem pTX_eq {L : ℕ} (X : Matrix (HIdx m d L) (HIdx m d L) ℂ) : pTX X = pTL X := rfl

theorem margTo1_add : ∀ (ℓ : ℕ) (X Y : Matrix (HIdx m d (ℓ + 1)) (HIdx m d (ℓ + 1)) ℂ),
    margTo1 ℓ (X + Y) = margTo1 ℓ X + margTo1 ℓ Y
  | 0, _, _ => rfl
  | ℓ + 1, X, Y => (congrArg (margTo1 ℓ) (ptrLast_add X Y)).trans (margTo1_add ℓ _ _)

theorem margTo1_zero : ∀ (ℓ : ℕ), margTo1 ℓ (0 : Matrix (HIdx m d (ℓ + 1)) (HIdx m d (ℓ + 1)) ℂ) = 0
  | 0 => rfl
  | ℓ + 1 => (congrArg (margTo1 ℓ) ptrLast_zero).trans (margTo1_zero ℓ)

theorem pTX_margLast {L : ℕ} (X : Matrix (HIdx m d (L + 1)) (HIdx m d (L + 1)) ℂ) :
    pTX (margLast X) = margLast (pTX X) := rfl

theorem update_eq_ite {α β : Type*} [DecidableEq α] (f g : α → β) (a : α) :
    Function.update f a (g a) = fun s => if s = a then g s else f s :=
  funext fun s => (Function.update_apply f a (g a) s).trans (ite_congr rfl (fun h => by rw [h]) fun _ => rfl)

theorem pTY_eq {L : ℕ} (t : Fin L) (X : Matrix (HIdx m d L) (HIdx m d L) ℂ) : pTY t X = pTS (· = t) X := by
  ext i j
  simp only [pTY, pTS, update_eq_ite]

theorem pTY_margLast {L : ℕ} (t : Fin L) (X : Matrix (HIdx m d (L + 1)) (HIdx m d (L + 1)) ℂ) :
    pTY t (margLast X) = margLast (pTY t.castSucc X) := by
  rw [pTY_eq, pTY_eq]
  exact pTS_ptrLast (· = t) (· = t.castSucc) (fun s => Fin.castSucc_inj) X

/-- the permutation of `L + 1` copies that permutes the first `L` by `σ` and fixes the last -/
def extendLast {L : ℕ} (σ : Perm (Fin L)) : Perm (Fin (L + 1)) :=
  finSuccEquivLast.symm.permCongr (optionCongr σ)

theorem extendLast_castSucc {L : ℕ} (σ : Perm (Fin L)) (t : Fin L) : extendLast σ t.castSucc = (σ t).castSucc := by
  simp [extendLast]

theorem extendLast_last {L : ℕ} (σ : Perm (Fin L)) : extendLast σ (Fin.last L) = Fin.last L := by
  simp [extendLast]

theorem snoc_comp_extendLast {L : ℕ} (σ : Perm (Fin L)) (f : Fin L → Fin d) (c : Fin d) :
    (Fin.snoc (α := fun _ => Fin d) f c : Fin (L + 1) → Fin d) ∘ extendLast σ
      = Fin.snoc (α := fun _ => Fin d) (f ∘ σ) c := by
  ext t
  cases t using Fin.lastCases with
  | last => rw [Function.comp_apply, extendLast_last, Fin.snoc_last, Fin.snoc_last]
  | cast t => rw [Function.comp_apply, extendLast_castSucc, Fin.snoc_castSucc, Fin.snoc_castSucc, Function.comp_apply]

theorem IsBoseSym.margLast {L : ℕ} {X : Matrix (HIdx m d (L + 1)) (HIdx m d (L + 1)) ℂ}
    (h : IsBoseSym X) : IsBoseSym (margLast X) := by
  intro σ a f j
  have key := fun c => h (extendLast σ) a (Fin.snoc (α := fun _ => Fin d) f c) (snocI j c)
  simp only [snoc_comp_extendLast] at key
  exact ⟨Finset.sum_congr rfl fun c _ => (key c).1, Finset.sum_congr rfl fun c _ => (key c).2⟩

theorem toMN_posSemidef {Z : Matrix (HIdx m d 1) (HIdx m d 1) ℂ} : (toMN Z).PosSemidef ↔ Z.PosSemidef :=
  Matrix.posSemidef_submatrix_equiv oneCopyEquiv

theorem pTAp_toMN (Z : Matrix (HIdx m d 1) (HIdx m d 1) ℂ) : pTAp (toMN Z) = toMN (pTX Z) := rfl

def tensorVec {L : ℕ} (β : Fin L → Fin d → ℂ) : (Fin L → Fin d) → ℂ := fun f => ∏ s, β s (f s)

def prodExt {L : ℕ} (A : Matrix m m ℂ) (β : Fin L → Fin d → ℂ) : Matrix (HIdx m d L) (HIdx m d L) ℂ :=
  A ⊗ₖ vecMulVec (tensorVec β) (star (tensorVec β))

theorem prodExt_eq {L : ℕ} (A : Matrix m m ℂ) (β : Fin L → Fin d → ℂ) : prodExt A β = prodOp A β := rfl

theorem pTX_prodExt {L : ℕ} (A : Matrix m m ℂ) (β : Fin L → Fin d → ℂ) :
    pTX (prodExt A β) = prodExt Aᵀ β := rfl

theorem pTY_prodExt {L : ℕ} (t : Fin L) (A : Matrix m m ℂ) (β : Fin L → Fin d → ℂ) :
    pTY t (prodExt A β) = prodExt A (Function.update β t (star (β t))) := by
  rw [pTY_eq, update_eq_ite β (fun s => star (β s))]
  exact pTS_prodOp (· = t) A β

/-- one factor `‖b‖²` for each copy traced out (`ptrLast_prodOp`) -/
theorem toMN_margTo1_prodExt (b : Fin d → ℂ) : ∀ (ℓ : ℕ) (A : Matrix m m ℂ),
    toMN (margTo1 ℓ (prodExt A fun _ : Fin (ℓ + 1) => b)) = (b ⬝ᵥ star b) ^ ℓ • (A ⊗ₖ vecMulVec b (star b))
  | 0, A => by
    ext i j
    simp only [margTo1, toMN, oneCopy, submatrix_apply, prodExt_eq, prodOp_apply, Fin.prod_univ_castSucc, Fin.prod_univ_zero, one_mul,
      kroneckerMap_apply, vecMulVec_apply, Pi.star_apply, pow_zero, one_smul]
  | ℓ + 1, A => by
    rw [margTo1, margLast_eq, prodExt_eq, ptrLast_prodOp]
    exact (toMN_margTo1_prodExt b ℓ _).trans (by rw [smul_kronecker, smul_smul, pow_succ])

end Hier

section HierTrace
variable {m : Type*} [Fintype m] {d : ℕ}

theorem trace_margTo1 : ∀ (ℓ : ℕ) (X : Matrix (HIdx m d (ℓ + 1)) (HIdx m d (ℓ + 1)) ℂ),
    (margTo1 ℓ X).trace = X.trace
  | 0, _ => rfl
  | ℓ + 1, X => (trace_margTo1 ℓ (margLast X)).trans (trace_ptrLast X)

theorem margTo1_posSemidef : ∀ (ℓ : ℕ) {X : Matrix (HIdx m d (ℓ + 1)) (HIdx m d (ℓ + 1)) ℂ},
    X.PosSemidef → (margTo1 ℓ X).PosSemidef
  | 0, _, h => h
  | ℓ + 1, _, h => margTo1_posSemidef ℓ h.ptrLast

theorem trace_toMN (Z : Matrix (HIdx m d 1) (HIdx m d 1) ℂ) : (toMN Z).trace = Z.trace :=
  trace_submatrix_equiv oneCopyEquiv Z

end HierTrace

section Sym
variable {m : Type*} [Fintype m] [DecidableEq m] {d : ℕ}

theorem sum_permC_mul {L : ℕ} (σ : Perm (Fin L)) (f : Fin L → Fin d) (x : (Fin L → Fin d) → ℂ) :
    ∑ g, permC d L σ f g * x g = x (f ∘ σ.symm) := by
  simp only [permC, ← Equiv.comp_symm_eq, ite_mul, one_mul, zero_mul, Finset.sum_ite_eq, Finset.mem_univ, if_true]

theorem sum_symPC_mul {L : ℕ} (f : Fin L → Fin d) (x : (Fin L → Fin d) → ℂ) :
    ∑ g, symPC d L f g * x g = ((L.factorial : ℂ)⁻¹) * ∑ σ : Perm (Fin L), x (f ∘ σ) := by
  simp only [symPC, Matrix.smul_apply, Matrix.sum_apply, smul_eq_mul, mul_assoc, Finset.sum_mul, ← Finset.mul_sum]
  rw [Finset.sum_comm]
  simp only [sum_permC_mul]
  exact congrArg _ (Equiv.sum_comp (Equiv.inv (Perm (Fin L))) fun σ => x (f ∘ σ))

theorem symPC_left {L : ℕ} (X : Matrix (HIdx m d L) (HIdx m d L) ℂ) (a : m) (f : Fin L → Fin d)
    (j : HIdx m d L) :
    (((1 : Matrix m m ℂ) ⊗ₖ symPC d L) * X) (a, f) j
      = ((L.factorial : ℂ)⁻¹) * ∑ σ : Perm (Fin L), X (a, f ∘ σ) j :=
  (one_kronecker_mul_apply _ X a f j).trans (sum_symPC_mul f fun g => X (a, g) j)

theorem symPC_right {L : ℕ} (X : Matrix (HIdx m d L) (HIdx m d L) ℂ) (i : HIdx m d L) (a : m)
    (g : Fin L → Fin d) :
    (X * ((1 : Matrix m m ℂ) ⊗ₖ symPC d L)) i (a, g)
      = ((L.factorial : ℂ)⁻¹) * ∑ σ : Perm (Fin L), X i (a, g ∘ σ) := by
  have h := symPC_left Xᵀ a g i
  rw [← one_kron_symPC_transpose, ← transpose_mul] at h
  exact h

/-- an average over all `τ` does not change when `τ` is replaced by `σ τ` -/
theorem symPC_mul_comp_perm {L : ℕ} (Z : Matrix (HIdx m d L) (HIdx m d L) ℂ) (σ : Perm (Fin L)) (a : m)
    (f : Fin L → Fin d) (j : HIdx m d L) :
    (((1 : Matrix m m ℂ) ⊗ₖ symPC d L) * Z) (a, f ∘ σ) j = (((1 : Matrix m m ℂ) ⊗ₖ symPC d L) * Z) (a, f) j := by
  rw [symPC_left, symPC_left]
  exact congrArg _ (Equiv.sum_comp (Equiv.mulLeft σ) fun τ : Perm (Fin L) => Z (a, f ∘ τ) j)

theorem symPC_mul_eq_self {L : ℕ} {X : Matrix (HIdx m d L) (HIdx m d L) ℂ}
    (h : ∀ (σ : Perm (Fin L)) a f j, X (a, f ∘ σ) j = X (a, f) j) :
    ((1 : Matrix m m ℂ) ⊗ₖ symPC d L) * X = X := by
  ext ⟨a, f⟩ j
  rw [symPC_left]
  simp only [h]
  -- the average of a constant is the constant
  rw [Finset.sum_const, Finset.card_univ, Fintype.card_perm, Fintype.card_fin, nsmul_eq_mul, ← mul_assoc,
    inv_mul_cancel₀ (by exact_mod_cast Nat.factorial_ne_zero L), one_mul]

/-- `1 ⊗ Π_sym` is symmetric, so the statement about columns is the one about rows for `Xᵀ` -/
theorem sym_iff_isBoseSym {L : ℕ} (X : Matrix (HIdx m d L) (HIdx m d L) ℂ) :
    ((1 : Matrix m m ℂ) ⊗ₖ symPC d L) * X * ((1 : Matrix m m ℂ) ⊗ₖ symPC d L) = X ↔ IsBoseSym X := by
  constructor
  · intro h
    have rows : ∀ Z : Matrix (HIdx m d L) (HIdx m d L) ℂ,
        ((1 : Matrix m m ℂ) ⊗ₖ symPC d L) * Z * ((1 : Matrix m m ℂ) ⊗ₖ symPC d L) = Z →
        ∀ (σ : Perm (Fin L)) a f j, Z (a, f ∘ σ) j = Z (a, f) j := fun Z hZ σ a f j => by
      rw [← hZ, Matrix.mul_assoc]
      exact symPC_mul_comp_perm _ σ a f j
    have ht := congrArg transpose h
    rw [transpose_mul, transpose_mul, one_kron_symPC_transpose, ← Matrix.mul_assoc] at ht
    exact fun σ a f j => ⟨rows X h σ a f j, rows Xᵀ ht σ a f j⟩
  · intro h
    have hc := congrArg transpose (symPC_mul_eq_self (X := Xᵀ) fun σ a f j => (h σ a f j).2)
    rw [transpose_mul, transpose_transpose, one_kron_symPC_transpose] at hc
    rw [symPC_mul_eq_self fun σ a f j => (h σ a f j).1, hc]

theorem sym_margLast {L : ℕ} {X : Matrix (HIdx m d (L + 1)) (HIdx m d (L + 1)) ℂ}
    (h : ((1 : Matrix m m ℂ) ⊗ₖ symPC d (L + 1)) * X * ((1 : Matrix m m ℂ) ⊗ₖ symPC d (L + 1)) = X) :
    ((1 : Matrix m m ℂ) ⊗ₖ symPC d L) * margLast X * ((1 : Matrix m m ℂ) ⊗ₖ symPC d L) = margLast X :=
  (sym_iff_isBoseSym _).mpr ((sym_iff_isBoseSym X).mp h).margLast

theorem sym_prodExt_const {L : ℕ} (A : Matrix m m ℂ) (b : Fin d → ℂ) :
    ((1 : Matrix m m ℂ) ⊗ₖ symPC d L) * prodExt A (fun _ => b) * ((1 : Matrix m m ℂ) ⊗ₖ symPC d L) = prodExt A fun _ => b :=
  (sym_iff_isBoseSym _).mpr fun σ a f j => prodOp_const_comp_perm A b σ a f j

/-- what the extension hierarchies ask of their variable on `X ⊗ Y^{⊗ L}`: positive semidefinite, supported on the symmetric subspace of the
copies, with positive semidefinite partial transposes on a family `S k` of sets of copies (C13: the prefixes `{t < j}`, `1 ≤ j ≤ ℓ`; C20: the
prefixes `{t ≤ j}`) -/
structure IsSymPPT {L : ℕ} {κ : Sort*} (S : κ → Fin L → Prop) [∀ k, DecidablePred (S k)]
    (σ : Matrix (HIdx m d L) (HIdx m d L) ℂ) : Prop where
  psd : σ.PosSemidef
  sym : ((1 : Matrix m m ℂ) ⊗ₖ symPC d L) * σ * ((1 : Matrix m m ℂ) ⊗ₖ symPC d L) = σ
  ppt : ∀ k, (pTS (S k) σ).PosSemidef

theorem IsSymPPT.margLast {L : ℕ} {κ κ' : Sort*} {S : κ → Fin L → Prop} [∀ k, DecidablePred (S k)]
    {S' : κ' → Fin (L + 1) → Prop} [∀ k, DecidablePred (S' k)] {σ : Matrix (HIdx m d (L + 1)) (HIdx m d (L + 1)) ℂ}
    (h : IsSymPPT S' σ) (lift : κ → κ') (hl : ∀ k t, S' (lift k) (Fin.castSucc t) ↔ S k t) : IsSymPPT S (margLast σ) :=
  ⟨h.psd.ptrLast, sym_margLast h.sym, fun k => pTS_ptrLast (S k) (S' (lift k)) (hl k) σ ▸ (h.ppt (lift k)).ptrLast⟩

theorem isSymPPT_prodExt {L : ℕ} {κ : Sort*} (S : κ → Fin L → Prop) [∀ k, DecidablePred (S k)] {A : Matrix m m ℂ}
    (hA : A.PosSemidef) (b : Fin d → ℂ) : IsSymPPT S (prodExt A fun _ => b) :=
  ⟨hA.prodOp _, sym_prodExt_const A b, fun k => pTS_prodOp (S k) A _ ▸ hA.prodOp _⟩

/-- the constraints `symmetric_extension_hierarchy(level = ℓ + 1)` puts on one measurement operator `M` (besides `M ⪰ 0`):
an extension to `X ⊗ Y^{⊗(ℓ+1)}` that is positive semidefinite, has marginal `M` on `X ⊗ Y`, is supported on the symmetric
subspace of the copies, and has positive semidefinite partial transposes on `X` and on each of the copies `2 … ℓ + 1` -/
def SymExtAt (ℓ : ℕ) (M : Matrix (m × Fin d) (m × Fin d) ℂ) : Prop :=
  ∃ X : Matrix (HIdx m d (ℓ + 1)) (HIdx m d (ℓ + 1)) ℂ, X.PosSemidef ∧ toMN (margTo1 ℓ X) = M ∧
    ((1 : Matrix m m ℂ) ⊗ₖ symPC d (ℓ + 1)) * X * ((1 : Matrix m m ℂ) ⊗ₖ symPC d (ℓ + 1)) = X ∧
    (pTX X).PosSemidef ∧ ∀ t : Fin (ℓ + 1), t ≠ 0 → (pTY t X).PosSemidef

theorem SymExtAt.pred {ℓ : ℕ} {M : Matrix (m × Fin d) (m × Fin d) ℂ} (h : SymExtAt (ℓ + 1) M) :
    SymExtAt ℓ M := by
  obtain ⟨X, hX, hM, hs, hx, hy⟩ := h
  refine ⟨margLast X, hX.ptrLast, hM, sym_margLast hs, ?_, fun t ht => ?_⟩
  · rw [pTX_margLast]; exact hx.ptrLast
  · rw [pTY_margLast]
    exact (hy t.castSucc fun h0 => ht (Fin.castSucc_eq_zero_iff.mp h0)).ptrLast

theorem SymExtAt.of_le {ℓ ℓ' : ℕ} (hl : ℓ ≤ ℓ') {M : Matrix (m × Fin d) (m × Fin d) ℂ}
    (h : SymExtAt ℓ' M) : SymExtAt ℓ M := by
  induction hl with
  | refl => exact h
  | step _ ih => exact ih h.pred

theorem symExtAt_zero_iff (M : Matrix (m × Fin d) (m × Fin d) ℂ) :
    SymExtAt 0 M ↔ M.PosSemidef ∧ (pTAp M).PosSemidef := by
  constructor
  · rintro ⟨X, hX, rfl, -, hx, -⟩
    rw [margTo1, pTAp_toMN]
    exact ⟨toMN_posSemidef.mpr hX, toMN_posSemidef.mpr hx⟩
  · rintro ⟨h1, h2⟩
    -- `M` itself, read on `X ⊗ Y^{⊗ 1}`; with one copy there is nothing to permute and no copy `t ≠ 0`
    have e : toMN (M.submatrix oneCopyEquiv.symm oneCopyEquiv.symm) = M := Matrix.ext fun _ _ => rfl
    refine ⟨M.submatrix oneCopyEquiv.symm oneCopyEquiv.symm, toMN_posSemidef.mp (e.symm ▸ h1), e,
      (sym_iff_isBoseSym _).mpr fun σ a f j => ?_, toMN_posSemidef.mp ?_,
      fun t ht => absurd (Subsingleton.elim (α := Fin 1) t 0) ht⟩
    · rw [Subsingleton.elim (α := Perm (Fin 1)) σ 1]
      exact ⟨rfl, rfl⟩
    · rwa [← pTAp_toMN, e]

theorem SymExtAt.zero (ℓ : ℕ) : SymExtAt ℓ (0 : Matrix (m × Fin d) (m × Fin d) ℂ) := by
  refine ⟨0, Matrix.PosSemidef.zero, ?_, by rw [Matrix.mul_zero, Matrix.zero_mul], Matrix.PosSemidef.zero,
    fun t _ => Matrix.PosSemidef.zero⟩
  rw [margTo1_zero]; rfl

theorem SymExtAt.add {ℓ : ℕ} {M N : Matrix (m × Fin d) (m × Fin d) ℂ} (hM : SymExtAt ℓ M)
    (hN : SymExtAt ℓ N) : SymExtAt ℓ (M + N) := by
  obtain ⟨X, hX, hXM, hXs, hX1, hX2⟩ := hM
  obtain ⟨Y, hY, hYN, hYs, hY1, hY2⟩ := hN
  refine ⟨X + Y, hX.add hY, ?_, by rw [Matrix.mul_add, Matrix.add_mul, hXs, hYs], hX1.add hY1,
    fun t ht => (hX2 t ht).add (hY2 t ht)⟩
  rw [margTo1_add, ← hXM, ← hYN]; rfl

theorem symExtAt_sum {ℓ : ℕ} {ι : Type*} (s : Finset ι) (M : ι → Matrix (m × Fin d) (m × Fin d) ℂ)
    (h : ∀ j ∈ s, SymExtAt ℓ (M j)) : SymExtAt ℓ (∑ j ∈ s, M j) :=
  Finset.sum_induction M (SymExtAt ℓ) (fun _ _ => SymExtAt.add) (SymExtAt.zero ℓ) h

/-- a product operator `A ⊗ b bᴴ` (`A ⪰ 0`) has the extension `‖b‖^{-2ℓ} A ⊗ (b bᴴ)^{⊗(ℓ+1)}` at level `ℓ + 1` -/
theorem symExtAt_rankOne (ℓ : ℕ) {A : Matrix m m ℂ} (hA : A.PosSemidef) (b : Fin d → ℂ) :
    SymExtAt ℓ (A ⊗ₖ vecMulVec b (star b)) := by
  by_cases hb : b = 0
  · rw [hb, Matrix.zero_vecMulVec, Matrix.kronecker_zero]; exact SymExtAt.zero ℓ
  have hr : 0 < (b ⬝ᵥ star b) ^ ℓ := pow_pos (dotProduct_self_star_pos_iff.mpr hb) ℓ
  have hA' : (((b ⬝ᵥ star b) ^ ℓ)⁻¹ • A).PosSemidef := hA.smul (RCLike.inv_pos.mpr hr).le
  refine ⟨prodExt (((b ⬝ᵥ star b) ^ ℓ)⁻¹ • A) (fun _ => b), hA'.prodOp _, ?_, sym_prodExt_const _ b, ?_, fun t _ => ?_⟩
  · rw [toMN_margTo1_prodExt, smul_kronecker, smul_smul, mul_inv_cancel₀ hr.ne', one_smul]
  · rw [pTX_prodExt]; exact hA'.transpose.prodOp _
  · rw [pTY_prodExt]; exact hA'.prodOp _

theorem symExtAt_kron (ℓ : ℕ) {A : Matrix m m ℂ} {B : Matrix (Fin d) (Fin d) ℂ} (hA : A.PosSemidef)
    (hB : B.PosSemidef) : SymExtAt ℓ (A ⊗ₖ B) := by
  obtain ⟨r, v, hv⟩ := Matrix.posSemidef_iff_eq_sum_vecMulVec.mp hB
  rw [hv, Matrix.kronecker_sum]
  exact symExtAt_sum _ _ fun c _ => symExtAt_rankOne ℓ hA (v c)

end Sym
end Toq.PPTDisc
