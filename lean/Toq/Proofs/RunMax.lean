import Toq.Model.Games
import Toq.Model.Xor
import Toq.Model.GamesSeesaw
import Toq.Proofs.SumN
import Mathlib.Algebra.Order.Ring.Rat
import Mathlib.Data.List.MinMax
/-!
# The running maximum

`best = -inf; for v in values: best = max(best, v)` (`maxNegInf`, `maxIter`), `np.amax` of the first values (`amax1`,
`Toq.Xor.maxUpTo`) and the fold of the see-saw loop (`Toq.Seesaw.maxOpt`) all compute `List.maximum` of the values they consume, an
element of `WithBot ℚ`: the models write it `Option ℚ` with `none` for `-inf`, which is the same type.  Each spelling gets one lemma
"`= (the list).maximum`" or "`= max`"; membership and domination are then Mathlib's `List.maximum_eq_coe_iff` (`IsListMax`, in which
C07 states what the see-saw loop returns, is `List.maximum = ·`: `isListMax_iff`).

The two ways in which the models use `np.amax` are stated once each: the maximum over all codes is the maximum over the objects they
encode (`amax1_enum_spec`; for digit vectors `amax1_dec_spec`: brute-force enumeration of strategies; for index pairs
`amax1_divMod_spec`), and `Σ_x max_a h a x` is the maximum of `Σ_x h (f x) x` over choice functions `f` (`sumN_amax1_spec`: the
best response of the player who is not enumerated).
-/

namespace Toq.Games

theorem rmax_eq_max (a b : ℚ) : rmax a b = max a b := by
  unfold rmax; rw [max_def]

end Toq.Games

namespace Toq.Seesaw

/-- `m` is the maximum of the list `l` (`none` = `-inf` exactly when the list is empty) -/
def IsListMax (l : List Rat) : Option Rat → Prop
  | none => l = []
  | some v => v ∈ l ∧ ∀ w ∈ l, w ≤ v

theorem maxOpt_eq_max (p q : WithBot ℚ) : (maxOpt p q : WithBot ℚ) = max p q := by
  cases p with
  | bot => exact (bot_sup_eq q).symm
  | coe p =>
    cases q with
    | bot => exact (sup_bot_eq (p : WithBot ℚ)).symm
    | coe q => exact congrArg WithBot.some (Toq.Games.rmax_eq_max p q)

theorem isListMax_iff (l : List ℚ) (m : Option ℚ) : IsListMax l m ↔ l.maximum = m := by
  cases m with
  | none => exact List.maximum_eq_bot.symm
  | some v => exact List.maximum_eq_coe_iff.symm

end Toq.Seesaw

namespace Toq.Games

theorem maxNegInf_eq_maxOpt (p : Option ℚ) (t : ℚ) : maxNegInf p t = Toq.Seesaw.maxOpt p (some t) := by
  cases p <;> rfl

theorem maxNegInf_eq_max (p : WithBot ℚ) (t : ℚ) : (maxNegInf p t : WithBot ℚ) = max p ↑t :=
  (maxNegInf_eq_maxOpt p t).trans (Toq.Seesaw.maxOpt_eq_max p (some t))

/-- `best = m; for v in l: best = max(best, v)` -/
theorem foldl_maxNegInf (l : List ℚ) : ∀ m : WithBot ℚ, (l.foldl maxNegInf m : WithBot ℚ) = max m l.maximum := by
  induction l with
  | nil => exact fun m => (sup_bot_eq m).symm
  | cons t l ih =>
    intro m
    rw [List.maximum_cons, ← max_assoc, ← maxNegInf_eq_max]
    exact ih _

/-- `best = a; for v in l: best = max(best, v)` (Python's `max` of the non-empty list `a :: l`) -/
theorem foldl_rmax (l : List ℚ) : ∀ a : ℚ, ((l.foldl rmax a : ℚ) : WithBot ℚ) = max ↑a l.maximum := by
  induction l with
  | nil => exact fun a => (sup_bot_eq (a : WithBot ℚ)).symm
  | cons t l ih =>
    intro a
    rw [List.foldl_cons, ih, rmax_eq_max, List.maximum_cons, WithBot.coe_max, max_assoc]

theorem maxIter_eq_maximum (f : Nat → ℚ) : ∀ n, (maxIter n f : WithBot ℚ) = ((List.range n).map f).maximum
  | 0 => rfl
  | n + 1 => by
    rw [List.range_succ, List.map_append, List.map_singleton, List.maximum_concat, ← maxIter_eq_maximum f n]
    exact maxNegInf_eq_max _ _

/-- the running maximum that starts at `-inf` is, after `m + 1` iterations, `np.amax` of the first `m + 1` values -/
theorem maxIter_eq_some_amax1 (f : Nat → ℚ) : ∀ m, maxIter (m + 1) f = some (amax1 m f)
  | 0 => rfl
  | m + 1 => by
    show maxNegInf (maxIter (m + 1) f) (f (m + 1)) = _
    rw [maxIter_eq_some_amax1 f m]
    rfl

theorem amax1_eq_maximum (f : Nat → ℚ) (m : Nat) : (amax1 m f : WithBot ℚ) = ((List.range (m + 1)).map f).maximum :=
  (maxIter_eq_some_amax1 f m).symm.trans (maxIter_eq_maximum f (m + 1))

theorem le_amax1 (f : Nat → ℚ) (m k : Nat) (hk : k ≤ m) : f k ≤ amax1 m f :=
  (List.maximum_eq_coe_iff.1 (amax1_eq_maximum f m).symm).2 _
    (List.mem_map.2 ⟨k, List.mem_range.2 (Nat.lt_succ_of_le hk), rfl⟩)

theorem amax1_attained (f : Nat → ℚ) (m : Nat) : ∃ k, k ≤ m ∧ amax1 m f = f k := by
  obtain ⟨k, hk, e⟩ := List.mem_map.1 (List.maximum_eq_coe_iff.1 (amax1_eq_maximum f m).symm).1
  exact ⟨k, Nat.le_of_lt_succ (List.mem_range.1 hk), e.symm⟩

theorem amax1_le (f : Nat → ℚ) (m : Nat) (c : ℚ) (h : ∀ k, k ≤ m → f k ≤ c) : amax1 m f ≤ c := by
  obtain ⟨k, hk, e⟩ := amax1_attained f m
  exact e.trans_le (h k hk)

/-- a monotone map commutes with the running maximum -/
theorem amax1_comp_mono (φ : ℚ → ℚ) (hφ : Monotone φ) (g : Nat → ℚ) (m : Nat) :
    amax1 m (fun i => φ (g i)) = φ (amax1 m g) := by
  apply le_antisymm
  · exact amax1_le _ m _ fun i hi => hφ (le_amax1 g m i hi)
  · obtain ⟨i, hi, e⟩ := amax1_attained g m
    exact e ▸ le_amax1 (fun i => φ (g i)) m i hi

/-- enumeration by codes: `D` decodes the codes `0 … N` into objects with `P`, and every object with `P` has a code `E s ≤ N` that
    decodes to it (as far as `F` can tell).  Then `np.amax` of `F ∘ D` is attained at an object with `P` and dominates every such
    object. -/
theorem amax1_enum_spec {σ : Type*} (P : σ → Prop) (D : ℕ → σ) (E : σ → ℕ) (N : ℕ) (F : σ → ℚ)
    (hD : ∀ i, i ≤ N → P (D i)) (hE : ∀ s, P s → E s ≤ N ∧ F (D (E s)) = F s) :
    (∃ s, P s ∧ F s = amax1 N fun i => F (D i)) ∧ ∀ s, P s → F s ≤ amax1 N fun i => F (D i) := by
  obtain ⟨i, hi, e⟩ := amax1_attained (fun i => F (D i)) N
  exact ⟨⟨D i, hD i hi, e.symm⟩, fun s hs => (hE s hs).2 ▸ le_amax1 (fun i => F (D i)) N _ (hE s hs).1⟩

/-- the maximum over all codes below the capacity is the maximum over all in-range digit vectors (`dec` / `enc`) -/
theorem amax1_dec_spec (d : ℕ → ℕ) (n : ℕ) (hd : ∀ k, k < n → 0 < d k) (F : (ℕ → ℕ) → ℚ)
    (hF : ∀ s s', (∀ k, k < n → s k = s' k) → F s = F s') :
    (∃ s, (∀ k, k < n → s k < d k) ∧ F s = amax1 (prodN d n - 1) fun i => F (dec d n i)) ∧
    ∀ s, (∀ k, k < n → s k < d k) → F s ≤ amax1 (prodN d n - 1) fun i => F (dec d n i) :=
  amax1_enum_spec (fun s => ∀ k, k < n → s k < d k) (dec d n) (enc d · n) _ F
    (fun i _ k hk => dec_lt d n i k hk (hd k hk))
    fun s hs => ⟨Nat.le_sub_one_of_lt (enc_lt d s n hs), hF _ _ (dec_enc d s n hs)⟩

/-- the maximum over the flat index of a C-ordered `A × B` array is the maximum over the index pairs (`k ↦ (k / B, k % B)`,
    `(i, j) ↦ i * B + j`) -/
theorem amax1_divMod_spec (A B : ℕ) (hA : 0 < A) (hB : 0 < B) (G : ℕ → ℕ → ℚ) :
    (∃ i j, (i < A ∧ j < B) ∧ G i j = amax1 (A * B - 1) fun k => G (k / B) (k % B)) ∧
    ∀ i j, i < A ∧ j < B → G i j ≤ amax1 (A * B - 1) fun k => G (k / B) (k % B) := by
  have h := amax1_enum_spec (fun s : ℕ × ℕ => s.1 < A ∧ s.2 < B) (fun k => (k / B, k % B)) (fun s => s.1 * B + s.2)
    (A * B - 1) (fun s => G s.1 s.2)
    (fun k hk => ⟨Nat.div_lt_of_lt_mul (by have := Nat.mul_pos hA hB; rw [Nat.mul_comm]; omega), Nat.mod_lt k hB⟩)
    fun s hs => ⟨Nat.le_sub_one_of_lt (Nat.mul_add_lt_mul hs.1 hs.2), by
      rw [Nat.mul_add_div_of_lt hs.2, Nat.mul_add_mod_of_lt hs.2]⟩
  exact ⟨let ⟨s, hs, e⟩ := h.1; ⟨s.1, s.2, hs, e⟩, fun i j hij => h.2 (i, j) hij⟩

/-- answering every question `x` with the best of the answers `0 … K`: the sum of the maxima is the sum along some choice function,
    and no choice function does better -/
theorem sumN_amax1_spec (h : ℕ → ℕ → ℚ) (K n : ℕ) :
    (∃ f : ℕ → ℕ, (∀ x, f x ≤ K) ∧ sumN n (fun x => amax1 K fun a => h a x) = sumN n fun x => h (f x) x) ∧
    ∀ f : ℕ → ℕ, (∀ x, x < n → f x ≤ K) → sumN n (fun x => h (f x) x) ≤ sumN n fun x => amax1 K fun a => h a x := by
  choose f hf e using fun x => amax1_attained (fun a => h a x) K
  exact ⟨⟨f, hf, sumN_congr _ _ n fun x _ => e x⟩,
    fun f hf => sumN_le_sumN _ _ n fun x hx => le_amax1 (fun a => h a x) K (f x) (hf x hx)⟩

theorem maxIter_of_pos (f : Nat → ℚ) {n : Nat} (hn : 0 < n) : maxIter n f = some (amax1 (n - 1) f) := by
  obtain ⟨m, rfl⟩ := Nat.exists_eq_add_one_of_ne_zero hn.ne'
  exact maxIter_eq_some_amax1 f m

/-- the loop over `n ≥ 1` values returns one of them, and it dominates all of them -/
theorem maxIter_spec (f : Nat → ℚ) (n : Nat) (hn : 0 < n) :
    ∃ v, maxIter n f = some v ∧ (∃ i, i < n ∧ v = f i) ∧ ∀ i, i < n → f i ≤ v := by
  obtain ⟨k, hk, e⟩ := amax1_attained f (n - 1)
  exact ⟨_, maxIter_of_pos f hn, ⟨k, by omega, e⟩, fun i hi => le_amax1 f _ i (by omega)⟩

/-- `Toq.Xor.maxUpTo` is `amax1` (the two models spell the same `np.amax`) -/
theorem maxUpTo_eq_amax1 (f : Nat → ℚ) : ∀ K, Toq.Xor.maxUpTo K f = amax1 K f
  | 0 => rfl
  | K + 1 => by
    rw [Toq.Xor.maxUpTo, amax1, maxUpTo_eq_amax1 f K]
    rfl

end Toq.Games
