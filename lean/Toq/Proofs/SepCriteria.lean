import Toq.Proofs.SepNorm
/-!
# Separable mixtures on pair-indexed matrices and the necessary criteria

Matrices are indexed by pairs `(a, b)` over arbitrary index types.  `ptBM`/`ptAM`, `swapM`, `realignM`, `ptrB`/`ptrA` are `pTR`/`pTL`,
`submatrix Prod.swap Prod.swap`, `realignment`, `ptrR`/`ptrL` of `Proofs/Bipartite` (by `rfl`: `ptBM_eq`, …), whose lemmas apply; `applyB`/`applyA`
are `id ⊗ Λ`, `Λ ⊗ id`; `IsSepMix` is the cone of mixtures `Σ_k w_k (a_k a_kᴴ) ⊗ (b_k b_kᴴ)`.  Each necessary criterion (positive maps: Peres,
reduction, Breuer–Hall, Choi maps; realignment) is proved on one product term and carried over the cone by `IsSepMix.induction`; the bound of
Zhang et al. is proved for mixtures of normalised local operators, a form every separable mixture of trace one has.
-/

open Matrix
open scoped ComplexOrder MatrixOrder Kronecker

namespace Toq.Sep

section Spec
variable {m n : Type*}

def ptBM (X : Matrix (m × n) (m × n) ℂ) : Matrix (m × n) (m × n) ℂ :=
  fun i j => X (i.1, j.2) (j.1, i.2)

def ptAM (X : Matrix (m × n) (m × n) ℂ) : Matrix (m × n) (m × n) ℂ :=
  fun i j => X (j.1, i.2) (i.1, j.2)

def swapM (X : Matrix (m × n) (m × n) ℂ) : Matrix (n × m) (n × m) ℂ :=
  fun i j => X (i.2, i.1) (j.2, j.1)

def proj {ι : Type*} (a : ι → ℂ) : Matrix ι ι ℂ := vecMulVec a (star a)

/-- `ρ` is a finite mixture `Σ_k w_k (a_k a_kᴴ) ⊗ (b_k b_kᴴ)` with non-negative weights
(vectors need not be normalised, weights need not sum to one: the cone of separable operators) -/
def IsSepMix (ρ : Matrix (m × n) (m × n) ℂ) : Prop :=
  ∃ (K : ℕ) (w : Fin K → ℝ) (a : Fin K → m → ℂ) (b : Fin K → n → ℂ),
    (∀ k, 0 ≤ w k) ∧ ρ = ∑ k, (w k : ℂ) • (proj (a k) ⊗ₖ proj (b k))

theorem ptBM_eq (X : Matrix (m × n) (m × n) ℂ) : ptBM X = pTR X := rfl

theorem ptAM_eq (X : Matrix (m × n) (m × n) ℂ) : ptAM X = pTL X := rfl

theorem swapM_eq (X : Matrix (m × n) (m × n) ℂ) : swapM X = X.submatrix Prod.swap Prod.swap := rfl

theorem ptBM_kron (A : Matrix m m ℂ) (B : Matrix n n ℂ) : ptBM (A ⊗ₖ B) = A ⊗ₖ Bᵀ := pTR_kronecker A B

theorem ptBM_involutive (X : Matrix (m × n) (m × n) ℂ) : ptBM (ptBM X) = X := rfl

theorem swapM_kron (A : Matrix m m ℂ) (B : Matrix n n ℂ) : swapM (A ⊗ₖ B) = B ⊗ₖ A := kronecker_submatrix_swap A B

theorem transpose_proj {ι : Type*} (a : ι → ℂ) : (proj a)ᵀ = proj (star a) := by
  ext i j
  simp [proj, vecMulVec_apply, mul_comm]

theorem proj_zero {ι : Type*} : proj (0 : ι → ℂ) = 0 := by
  ext i j; simp [proj, vecMulVec_apply]

theorem proj_smul {ι : Type*} (c : ℂ) (a : ι → ℂ) : proj (c • a) = (c * star c) • proj a := by
  rw [proj, star_smul, smul_vecMulVec, vecMulVec_smul, smul_smul]; rfl

theorem proj_posSemidef {ι : Type*} [Finite ι] (a : ι → ℂ) : (proj a).PosSemidef :=
  posSemidef_vecMulVec_self_star a

theorem frobSq_proj {ι : Type*} [Fintype ι] (a : ι → ℂ) : frobSq (proj a) = nsq a ^ 2 := by
  unfold frobSq nsq proj
  rw [pow_two, Finset.sum_mul_sum]
  refine Finset.sum_congr rfl fun i _ => Finset.sum_congr rfl fun j _ => ?_
  simp [vecMulVec_apply, Complex.normSq_mul, Complex.normSq_conj]

theorem trace_proj {ι : Type*} [Fintype ι] (a : ι → ℂ) : (proj a).trace = ((nsq a : ℝ) : ℂ) := by
  rw [proj, trace_vecMulVec, dotProduct_comm, star_dotProduct_self]

theorem conj_proj {ι : Type*} [Fintype ι] (U : Matrix ι ι ℂ) (a : ι → ℂ) : U * proj a * Uᴴ = proj (U *ᵥ a) := by
  unfold proj
  rw [mul_vecMulVec, vecMulVec_mul, star_mulVec]

/-! ### The cone of separable mixtures

A statement about all mixtures follows from the three cases of `IsSepMix.induction`: `0`, a sum, one product term
`(a aᴴ) ⊗ (b bᴴ)` (a weight `w ≥ 0` goes into `a`).  The operations of this file commute with `0` and `+` by `rfl` unless a
lemma says otherwise. -/

theorem isSepMix_zero : IsSepMix (0 : Matrix (m × n) (m × n) ℂ) :=
  ⟨0, fun _ => 0, fun _ _ => 0, fun _ _ => 0, fun k => k.elim0, by simp⟩

theorem isSepMix_smul_kron_proj {w : ℝ} (hw : 0 ≤ w) (a : m → ℂ) (b : n → ℂ) :
    IsSepMix ((w : ℂ) • (proj a ⊗ₖ proj b)) :=
  ⟨1, fun _ => w, fun _ => a, fun _ => b, fun _ => hw, by simp⟩

theorem isSepMix_kron_proj (a : m → ℂ) (b : n → ℂ) : IsSepMix (proj a ⊗ₖ proj b) := by
  simpa using isSepMix_smul_kron_proj zero_le_one a b

/-- concatenate the two lists of terms -/
theorem IsSepMix.add {ρ σ : Matrix (m × n) (m × n) ℂ} (hρ : IsSepMix ρ) (hσ : IsSepMix σ) : IsSepMix (ρ + σ) := by
  obtain ⟨K, w, a, b, hw, rfl⟩ := hρ
  obtain ⟨K', w', a', b', hw', rfl⟩ := hσ
  refine ⟨K + K', Fin.append w w', Fin.append a a', Fin.append b b', ?_, ?_⟩
  · exact Fin.addCases (fun i => by rw [Fin.append_left]; exact hw i) fun i => by
      rw [Fin.append_right]; exact hw' i
  · simp only [Fin.sum_univ_add, Fin.append_left, Fin.append_right]

theorem IsSepMix.induction {P : Matrix (m × n) (m × n) ℂ → Prop} (h0 : P 0) (hadd : ∀ ρ σ, P ρ → P σ → P (ρ + σ))
    (hterm : ∀ (a : m → ℂ) (b : n → ℂ), P (proj a ⊗ₖ proj b)) {ρ : Matrix (m × n) (m × n) ℂ} (h : IsSepMix ρ) : P ρ := by
  obtain ⟨K, w, a, b, hw, rfl⟩ := h
  refine Finset.sum_induction _ P hadd h0 fun k _ => ?_
  -- `w (a aᴴ) = (√w a)(√w a)ᴴ`
  have e : (w k : ℂ) • (proj (a k) ⊗ₖ proj (b k)) = proj (((√(w k) : ℝ) : ℂ) • a k) ⊗ₖ proj (b k) := by
    rw [proj_smul, Complex.star_def, Complex.conj_ofReal, ← Complex.ofReal_mul, Real.mul_self_sqrt (hw k), smul_kronecker]
  rw [e]
  exact hterm _ _

theorem IsSepMix.smul {ρ : Matrix (m × n) (m × n) ℂ} (h : IsSepMix ρ) {w : ℝ} (hw : 0 ≤ w) : IsSepMix ((w : ℂ) • ρ) :=
  h.induction (P := fun ρ => IsSepMix ((w : ℂ) • ρ)) (by rw [smul_zero]; exact isSepMix_zero)
    (fun _ _ h1 h2 => by rw [smul_add]; exact h1.add h2) (isSepMix_smul_kron_proj hw)

theorem IsSepMix.sum {K : Type*} (s : Finset K) (f : K → Matrix (m × n) (m × n) ℂ) (h : ∀ k ∈ s, IsSepMix (f k)) :
    IsSepMix (∑ k ∈ s, f k) :=
  Finset.sum_induction f IsSepMix (fun _ _ => IsSepMix.add) isSepMix_zero h

theorem IsSepMix.swap {ρ : Matrix (m × n) (m × n) ℂ} (h : IsSepMix ρ) : IsSepMix (swapM ρ) :=
  h.induction (P := fun ρ => IsSepMix (swapM ρ)) isSepMix_zero (fun _ _ => IsSepMix.add) fun a b => by
    rw [swapM_kron]; exact isSepMix_kron_proj b a

theorem IsSepMix.posSemidef [Finite m] [Finite n] {ρ : Matrix (m × n) (m × n) ℂ} (h : IsSepMix ρ) : ρ.PosSemidef :=
  h.induction .zero (fun _ _ => .add) fun a b => (proj_posSemidef a).kronecker (proj_posSemidef b)

end Spec

section PosMap
variable {m n n' : Type*}

def blockB (X : Matrix (m × n) (m × n) ℂ) (a a' : m) : Matrix n n ℂ := fun b b' => X (a, b) (a', b')

def blockA (X : Matrix (m × n) (m × n) ℂ) (b b' : n) : Matrix m m ℂ := fun a a' => X (a, b) (a', b')

def applyB (Λ : Matrix n n ℂ →ₗ[ℂ] Matrix n' n' ℂ) (X : Matrix (m × n) (m × n) ℂ) :
    Matrix (m × n') (m × n') ℂ :=
  fun i j => Λ (blockB X i.1 j.1) i.2 j.2

def applyA (Λ : Matrix m m ℂ →ₗ[ℂ] Matrix n' n' ℂ) (X : Matrix (m × n) (m × n) ℂ) :
    Matrix (n' × n) (n' × n) ℂ :=
  fun i j => Λ (blockA X i.2 j.2) i.1 j.1

/-- `Λ` maps every (unnormalised) pure state `b bᴴ` to a positive semidefinite operator.  Every positive map
has this property (for linear maps it is equivalent to positivity, by the spectral theorem), and it is the
only property the criterion needs. -/
def IsPosOnPure {ι κ : Type*} (Λ : Matrix ι ι ℂ →ₗ[ℂ] Matrix κ κ ℂ) : Prop :=
  ∀ b : ι → ℂ, (Λ (proj b)).PosSemidef

theorem blockB_kron (A : Matrix m m ℂ) (B : Matrix n n ℂ) (a a' : m) :
    blockB (A ⊗ₖ B) a a' = A a a' • B := by
  ext c c'; simp [blockB, kroneckerMap_apply]

theorem applyB_kron (Λ : Matrix n n ℂ →ₗ[ℂ] Matrix n' n' ℂ) (A : Matrix m m ℂ) (B : Matrix n n ℂ) :
    applyB Λ (A ⊗ₖ B) = A ⊗ₖ Λ B := by
  ext ⟨a, b⟩ ⟨a', b'⟩
  simp only [applyB, blockB_kron, map_smul, kroneckerMap_apply, Matrix.smul_apply, smul_eq_mul]

theorem applyB_zero (Λ : Matrix n n ℂ →ₗ[ℂ] Matrix n' n' ℂ) : applyB Λ (0 : Matrix (m × n) (m × n) ℂ) = 0 := by
  ext i j
  exact congrFun₂ (map_zero Λ) i.2 j.2

theorem applyB_add (Λ : Matrix n n ℂ →ₗ[ℂ] Matrix n' n' ℂ) (X Y : Matrix (m × n) (m × n) ℂ) :
    applyB Λ (X + Y) = applyB Λ X + applyB Λ Y := by
  ext i j
  exact congrFun₂ (map_add Λ (blockB X i.1 j.1) (blockB Y i.1 j.1)) i.2 j.2

theorem IsSepMix.applyB_posSemidef [Finite m] [Finite n'] {ρ : Matrix (m × n) (m × n) ℂ} (h : IsSepMix ρ)
    {Λ : Matrix n n ℂ →ₗ[ℂ] Matrix n' n' ℂ} (hΛ : IsPosOnPure Λ) : (applyB Λ ρ).PosSemidef :=
  h.induction (P := fun ρ => (applyB Λ ρ).PosSemidef) (by rw [applyB_zero]; exact .zero)
    (fun _ _ h1 h2 => by rw [applyB_add]; exact h1.add h2)
    fun a b => by rw [applyB_kron]; exact (proj_posSemidef a).kronecker (hΛ b)

theorem applyA_eq (Λ : Matrix m m ℂ →ₗ[ℂ] Matrix n' n' ℂ) (X : Matrix (m × n) (m × n) ℂ) :
    applyA Λ X = swapM (applyB Λ (swapM X)) := rfl

theorem IsSepMix.applyA_posSemidef [Finite n] [Finite n'] {ρ : Matrix (m × n) (m × n) ℂ} (h : IsSepMix ρ)
    {Λ : Matrix m m ℂ →ₗ[ℂ] Matrix n' n' ℂ} (hΛ : IsPosOnPure Λ) : (applyA Λ ρ).PosSemidef := by
  rw [applyA_eq, swapM_eq]
  exact (h.swap.applyB_posSemidef hΛ).submatrix _

end PosMap

section Peres
variable {n : Type*}

def transposeL : Matrix n n ℂ →ₗ[ℂ] Matrix n n ℂ := (Matrix.transposeLinearEquiv n n ℂ ℂ).toLinearMap

@[simp] theorem transposeL_apply (X : Matrix n n ℂ) : transposeL X = Xᵀ := rfl

theorem transposeL_pos [Finite n] : IsPosOnPure (transposeL (n := n)) := fun b => by
  rw [transposeL_apply, transpose_proj]; exact proj_posSemidef _

theorem applyB_transposeL {m : Type*} (X : Matrix (m × n) (m × n) ℂ) :
    applyB transposeL X = ptBM X := rfl

theorem IsSepMix.ptBM_posSemidef {m : Type*} [Finite m] [Finite n] {ρ : Matrix (m × n) (m × n) ℂ}
    (h : IsSepMix ρ) : (ptBM ρ).PosSemidef :=
  h.applyB_posSemidef transposeL_pos

theorem IsSepMix.ptAM_posSemidef {m : Type*} [Finite m] [Finite n] {ρ : Matrix (m × n) (m × n) ℂ}
    (h : IsSepMix ρ) : (ptAM ρ).PosSemidef :=
  posSemidef_pTL_iff.mpr h.ptBM_posSemidef

end Peres

section Realign
variable {m n : Type*}

def realignM (X : Matrix (m × n) (m × n) ℂ) : Matrix (m × m) (n × n) ℂ :=
  fun i j => X (i.1, j.1) (i.2, j.2)

theorem realignM_eq (X : Matrix (m × n) (m × n) ℂ) : realignM X = realignment X := rfl

theorem realignM_kron (A : Matrix m m ℂ) (B : Matrix n n ℂ) :
    realignM (A ⊗ₖ B) = vecMulVec (vecr A) (vecr B) := realignment_kronecker A B

theorem realignM_smul (c : ℂ) (X : Matrix (m × n) (m × n) ℂ) : realignM (c • X) = c • realignM X := rfl

theorem realignM_add (X Y : Matrix (m × n) (m × n) ℂ) : realignM (X + Y) = realignM X + realignM Y := rfl

theorem realignM_sub (X Y : Matrix (m × n) (m × n) ℂ) : realignM (X - Y) = realignM X - realignM Y := rfl

theorem realignM_sum {K : Type*} (s : Finset K) (f : K → Matrix (m × n) (m × n) ℂ) :
    realignM (∑ k ∈ s, f k) = ∑ k ∈ s, realignM (f k) := by
  ext i j; simp [realignM, Matrix.sum_apply]

variable [Fintype m] [Fintype n]

theorem trace_proj_kron (a : m → ℂ) (b : n → ℂ) :
    (proj a ⊗ₖ proj b).trace = ((nsq a * nsq b : ℝ) : ℂ) := by
  rw [trace_kronecker, trace_proj, trace_proj]; push_cast; rfl

variable [DecidableEq n]

theorem IsContr.re_trace_realign_kron_le {W : Matrix (m × m) (n × n) ℂ} (h : IsContr W) (A : Matrix m m ℂ) (B : Matrix n n ℂ) :
    (Wᴴ * realignM (A ⊗ₖ B)).trace.re ≤ √(frobSq A) * √(frobSq B) := by
  rw [realignM_kron, ← Real.sqrt_mul (frobSq_nonneg A)]
  refine h.re_trace_vecMulVec_le (Real.sqrt_nonneg _) (le_of_eq ?_)
  rw [nsq_vecr, nsq_vecr, Real.sq_sqrt (mul_nonneg (frobSq_nonneg A) (frobSq_nonneg B))]

theorem IsSepMix.re_trace_realign_le {ρ : Matrix (m × n) (m × n) ℂ} (hρ : IsSepMix ρ)
    {W : Matrix (m × m) (n × n) ℂ} (h : IsContr W) :
    (Wᴴ * realignM ρ).trace.re ≤ ρ.trace.re :=
  hρ.induction (P := fun ρ => (Wᴴ * realignM ρ).trace.re ≤ ρ.trace.re)
    (by rw [show realignM (0 : Matrix (m × n) (m × n) ℂ) = 0 from rfl, Matrix.mul_zero, Matrix.trace_zero, Matrix.trace_zero])
    (fun _ _ h1 h2 => by
      rw [realignM_add, Matrix.mul_add, Matrix.trace_add, Matrix.trace_add, Complex.add_re, Complex.add_re]
      exact add_le_add h1 h2)
    fun a b => by
      rw [trace_proj_kron, Complex.ofReal_re]
      have := h.re_trace_realign_kron_le (proj a) (proj b)
      rwa [frobSq_proj, frobSq_proj, Real.sqrt_sq (nsq_nonneg a), Real.sqrt_sq (nsq_nonneg b)] at this

end Realign

/-! ## The Zhang–Zhang–Zhang–Guo bound ("beyond realignment")

Covariance form: for `ρ = Σ_k p_k α_k ⊗ β_k` one has `ρ − ρ_A ⊗ ρ_B = Σ_k p_k (α_k − ρ_A) ⊗ (β_k − ρ_B)`, each term realigns to
a rank-one matrix, and Cauchy–Schwarz over `k` bounds the trace norm by the product of the standard deviations
`√(Σ_k p_k ‖α_k − ρ_A‖_F²) = √(Σ_k p_k ‖α_k‖_F² − ‖ρ_A‖_F²) ≤ √(1 − tr ρ_A²)`. -/

section PartialTraceDef
variable {m n : Type*} [Fintype m] [Fintype n]

def ptrB (X : Matrix (m × n) (m × n) ℂ) : Matrix m m ℂ := fun a a' => ∑ b, X (a, b) (a', b)

def ptrA (X : Matrix (m × n) (m × n) ℂ) : Matrix n n ℂ := fun b b' => ∑ a, X (a, b) (a, b')

end PartialTraceDef

section PartialTrace
variable {m n : Type*}

theorem ptrB_eq [Fintype n] (X : Matrix (m × n) (m × n) ℂ) : ptrB X = ptrR X := rfl

theorem ptrA_eq [Fintype m] (X : Matrix (m × n) (m × n) ℂ) : ptrA X = ptrL X := rfl

theorem kron_cov {K : Type*} (s : Finset K) (p : K → ℝ) (α : K → Matrix m m ℂ) (β : K → Matrix n n ℂ)
    (hp : ∑ k ∈ s, p k = 1) :
    ∑ k ∈ s, (p k : ℂ) • ((α k - ∑ l ∈ s, (p l : ℂ) • α l) ⊗ₖ (β k - ∑ l ∈ s, (p l : ℂ) • β l))
      = ∑ k ∈ s, (p k : ℂ) • (α k ⊗ₖ β k)
        - (∑ l ∈ s, (p l : ℂ) • α l) ⊗ₖ (∑ l ∈ s, (p l : ℂ) • β l) := by
  ext ⟨a, b⟩ ⟨a', b'⟩
  have hp' : ∑ k ∈ s, (p k : ℂ) = 1 := by rw [← Complex.ofReal_sum, hp]; simp
  simp only [Matrix.sub_apply, Matrix.sum_apply, Matrix.smul_apply, kroneckerMap_apply, smul_eq_mul]
  exact cov_identity s (fun k => (p k : ℂ)) (fun k => α k a a') (fun k => β k b b') hp'

theorem ptrB_sum_smul_kron [Fintype n] {K : Type*} (s : Finset K) (p : K → ℝ) (α : K → Matrix m m ℂ) (β : K → Matrix n n ℂ)
    (htβ : ∀ k ∈ s, (β k).trace = 1) : ptrB (∑ k ∈ s, (p k : ℂ) • (α k ⊗ₖ β k)) = ∑ k ∈ s, (p k : ℂ) • α k := by
  rw [ptrB_eq, ptrR_sum]
  exact Finset.sum_congr rfl fun k hk => by rw [ptrR_smul, ptrR_kronecker, htβ k hk, one_smul]

theorem ptrA_sum_smul_kron [Fintype m] {K : Type*} (s : Finset K) (p : K → ℝ) (α : K → Matrix m m ℂ) (β : K → Matrix n n ℂ)
    (htα : ∀ k ∈ s, (α k).trace = 1) : ptrA (∑ k ∈ s, (p k : ℂ) • (α k ⊗ₖ β k)) = ∑ k ∈ s, (p k : ℂ) • β k := by
  rw [ptrA_eq, ptrL_sum]
  exact Finset.sum_congr rfl fun k hk => by rw [ptrL_smul, ptrL_kronecker, htα k hk, one_smul]

end PartialTrace

section Zhang
variable {m n : Type*} [Fintype m] [Fintype n] [DecidableEq n]

theorem zhang_general {K : Type*} (s : Finset K) (p : K → ℝ) (α : K → Matrix m m ℂ)
    (β : K → Matrix n n ℂ) (hp : ∀ k ∈ s, 0 ≤ p k) (hsum : ∑ k ∈ s, p k = 1)
    (hfα : ∀ k ∈ s, frobSq (α k) ≤ 1) (hfβ : ∀ k ∈ s, frobSq (β k) ≤ 1)
    {W : Matrix (m × m) (n × n) ℂ} (hW : IsContr W) :
    (Wᴴ * realignM (∑ k ∈ s, (p k : ℂ) • (α k ⊗ₖ β k)
        - (∑ k ∈ s, (p k : ℂ) • α k) ⊗ₖ (∑ k ∈ s, (p k : ℂ) • β k))).trace.re
      ≤ √((1 - frobSq (∑ k ∈ s, (p k : ℂ) • α k)) * (1 - frobSq (∑ k ∈ s, (p k : ℂ) • β k))) := by
  set A := ∑ k ∈ s, (p k : ℂ) • α k
  set B := ∑ k ∈ s, (p k : ℂ) • β k
  have uA : ∑ k ∈ s, p k * frobSq (α k - A) ≤ 1 - frobSq A := frobSq_var_le s p α hp hsum hfα
  have uB : ∑ k ∈ s, p k * frobSq (β k - B) ≤ 1 - frobSq B := frobSq_var_le s p β hp hsum hfβ
  rw [← kron_cov s p α β hsum, realignM_sum, Matrix.mul_sum, Matrix.trace_sum, Complex.re_sum]
  calc ∑ k ∈ s, (Wᴴ * realignM ((p k : ℂ) • ((α k - A) ⊗ₖ (β k - B)))).trace.re
      = ∑ k ∈ s, p k * (Wᴴ * realignM ((α k - A) ⊗ₖ (β k - B))).trace.re := by
        refine Finset.sum_congr rfl fun k _ => ?_
        rw [realignM_smul, Matrix.mul_smul, Matrix.re_trace_smul]
    _ ≤ ∑ k ∈ s, √(p k * frobSq (α k - A)) * √(p k * frobSq (β k - B)) :=
        Finset.sum_le_sum fun k hk => by
          rw [Real.sqrt_mul (hp k hk), Real.sqrt_mul (hp k hk), mul_mul_mul_comm, Real.mul_self_sqrt (hp k hk)]
          exact mul_le_mul_of_nonneg_left (hW.re_trace_realign_kron_le _ _) (hp k hk)
    _ ≤ √(∑ k ∈ s, p k * frobSq (α k - A)) * √(∑ k ∈ s, p k * frobSq (β k - B)) := by
        refine (Real.sum_mul_le_sqrt_mul_sqrt s _ _).trans_eq ?_
        congr 2
        · exact Finset.sum_congr rfl fun k hk => Real.sq_sqrt (mul_nonneg (hp k hk) (frobSq_nonneg _))
        · exact Finset.sum_congr rfl fun k hk => Real.sq_sqrt (mul_nonneg (hp k hk) (frobSq_nonneg _))
    _ ≤ √(1 - frobSq A) * √(1 - frobSq B) :=
        mul_le_mul (Real.sqrt_le_sqrt uA) (Real.sqrt_le_sqrt uB) (Real.sqrt_nonneg _) (Real.sqrt_nonneg _)
    _ = √((1 - frobSq A) * (1 - frobSq B)) :=
        (Real.sqrt_mul ((frobSq_mean_le_one s p α hp hsum hfα)) _).symm

end Zhang

section ZhangSep
variable {m n : Type*} [Fintype m] [Fintype n]

theorem normalised_proj {ι : Type*} [Fintype ι] (a : ι → ℂ) (h : nsq a ≠ 0) :
    ((((1 / nsq a : ℝ)) : ℂ) • proj a).trace = 1 ∧ frobSq ((((1 / nsq a : ℝ)) : ℂ) • proj a) = 1 := by
  constructor
  · rw [Matrix.trace_smul, trace_proj, smul_eq_mul, ← Complex.ofReal_mul, one_div_mul_cancel h]
    simp
  · rw [frobSq_smul, frobSq_proj]
    field_simp

/-- the vanishing terms are dropped, the others rescaled to trace one -/
theorem IsSepMix.exists_normalised {ρ : Matrix (m × n) (m × n) ℂ} (hρ : IsSepMix ρ) :
    ∃ (K : ℕ) (s : Finset (Fin K)) (p : Fin K → ℝ) (α : Fin K → Matrix m m ℂ) (β : Fin K → Matrix n n ℂ),
      (∀ k ∈ s, 0 ≤ p k) ∧ (∀ k ∈ s, (α k).trace = 1 ∧ frobSq (α k) = 1) ∧
      (∀ k ∈ s, (β k).trace = 1 ∧ frobSq (β k) = 1) ∧ ρ = ∑ k ∈ s, (p k : ℂ) • (α k ⊗ₖ β k) := by
  classical
  obtain ⟨K, w, a, b, hw, rfl⟩ := hρ
  refine ⟨K, Finset.univ.filter fun k => nsq (a k) * nsq (b k) ≠ 0, fun k => w k * (nsq (a k) * nsq (b k)),
    fun k => ((1 / nsq (a k) : ℝ) : ℂ) • proj (a k), fun k => ((1 / nsq (b k) : ℝ) : ℂ) • proj (b k),
    fun k _ => mul_nonneg (hw k) (mul_nonneg (nsq_nonneg _) (nsq_nonneg _)),
    fun k hk => normalised_proj _ (left_ne_zero_of_mul (Finset.mem_filter.mp hk).2),
    fun k hk => normalised_proj _ (right_ne_zero_of_mul (Finset.mem_filter.mp hk).2), ?_⟩
  rw [← Finset.sum_filter_of_ne (p := fun k => nsq (a k) * nsq (b k) ≠ 0) fun k _ hne hck => hne ?_]
  · refine Finset.sum_congr rfl fun k hk => ?_
    have hc := (Finset.mem_filter.mp hk).2
    have ha := left_ne_zero_of_mul hc
    have hb := right_ne_zero_of_mul hc
    rw [smul_kronecker, kronecker_smul, smul_smul, smul_smul, ← Complex.ofReal_mul, ← Complex.ofReal_mul]
    congr 2
    field_simp
  · rcases mul_eq_zero.mp hck with h0 | h0
    · rw [eq_zero_of_nsq_eq_zero h0, proj_zero, zero_kronecker, smul_zero]
    · rw [eq_zero_of_nsq_eq_zero h0, proj_zero, kronecker_zero, smul_zero]

variable [DecidableEq n]

theorem IsSepMix.zhang {ρ : Matrix (m × n) (m × n) ℂ} (hρ : IsSepMix ρ) (ht : ρ.trace = 1) :
    0 ≤ 1 - frobSq (ptrB ρ) ∧ 0 ≤ 1 - frobSq (ptrA ρ) ∧
    ∀ W : Matrix (m × m) (n × n) ℂ, IsContr W →
      (Wᴴ * realignM (ρ - ptrB ρ ⊗ₖ ptrA ρ)).trace.re ≤ √((1 - frobSq (ptrB ρ)) * (1 - frobSq (ptrA ρ))) := by
  obtain ⟨K, s, p, α, β, hp, hα, hβ, rfl⟩ := hρ.exists_normalised
  -- the weights of normalised terms add up to the trace
  have hsum : ∑ k ∈ s, p k = 1 := by
    have h : (∑ k ∈ s, (p k : ℂ) • (α k ⊗ₖ β k)).trace = ((∑ k ∈ s, p k : ℝ) : ℂ) := by
      rw [Matrix.trace_sum, Complex.ofReal_sum]
      exact Finset.sum_congr rfl fun k hk => by
        rw [Matrix.trace_smul, trace_kronecker, (hα k hk).1, (hβ k hk).1, mul_one, smul_eq_mul, mul_one]
    exact_mod_cast h.symm.trans ht
  have hfα : ∀ k ∈ s, frobSq (α k) ≤ 1 := fun k hk => (hα k hk).2.le
  have hfβ : ∀ k ∈ s, frobSq (β k) ≤ 1 := fun k hk => (hβ k hk).2.le
  rw [ptrB_sum_smul_kron s p α β fun k hk => (hβ k hk).1, ptrA_sum_smul_kron s p α β fun k hk => (hα k hk).1]
  exact ⟨frobSq_mean_le_one s p α hp hsum hfα, frobSq_mean_le_one s p β hp hsum hfβ,
    fun W hW => zhang_general s p α β hp hsum hfα hfβ hW⟩

end ZhangSep

section Choi
variable {n n' : Type*} [Fintype n]

/-- the linear map with Choi matrix `J = Σ_ij E_ij ⊗ Φ(E_ij)` (toqito's convention): `Φ(X) = Σ_ij X_ij J((i,·),(j,·))` -/
def choiMap (J : Matrix (n × n') (n × n') ℂ) : Matrix n n ℂ →ₗ[ℂ] Matrix n' n' ℂ where
  toFun X := fun b b' => ∑ i, ∑ j, X i j * J (i, b) (j, b')
  map_add' X Y := by
    ext b b'
    change ∑ i, ∑ j, (X + Y) i j * J (i, b) (j, b')
      = (∑ i, ∑ j, X i j * J (i, b) (j, b')) + ∑ i, ∑ j, Y i j * J (i, b) (j, b')
    simp only [Matrix.add_apply, add_mul, Finset.sum_add_distrib]
  map_smul' c X := by
    ext b b'
    change ∑ i, ∑ j, (c • X) i j * J (i, b) (j, b') = c * ∑ i, ∑ j, X i j * J (i, b) (j, b')
    simp only [Matrix.smul_apply, smul_eq_mul, Finset.mul_sum, mul_assoc]

theorem choiMap_apply (J : Matrix (n × n') (n × n') ℂ) (X : Matrix n n ℂ) (b b' : n') :
    choiMap J X b b' = ∑ i, ∑ j, X i j * J (i, b) (j, b') := rfl

theorem choiMap_sub (J J' : Matrix (n × n') (n × n') ℂ) (X : Matrix n n ℂ) :
    choiMap (J - J') X = choiMap J X - choiMap J' X := by
  ext k l
  simp only [choiMap_apply, Matrix.sub_apply, mul_sub, Finset.sum_sub_distrib]

theorem choiMap_diagonal [DecidableEq n] [DecidableEq n'] (d : n × n' → ℂ) (X : Matrix n n ℂ) (k l : n') :
    choiMap (diagonal d) X k l = if k = l then ∑ i, X i i * d (i, k) else 0 := by
  rw [choiMap_apply]
  split
  · next h =>
    subst h
    refine Finset.sum_congr rfl fun i _ => ?_
    rw [Finset.sum_eq_single i (fun j _ hj => by
      rw [diagonal_apply_ne _ (fun e => hj (congrArg Prod.fst e).symm), mul_zero]) (by simp), diagonal_apply_eq]
  · next h =>
    exact Finset.sum_eq_zero fun i _ => Finset.sum_eq_zero fun j _ => by
      rw [diagonal_apply_ne _ (fun e => h (congrArg Prod.snd e)), mul_zero]

/-- `|Ω⟩⟨Ω|` with `Ω = Σ_i |ii⟩` (unnormalised) -/
def omegaProj (n : Type*) [DecidableEq n] : Matrix (n × n) (n × n) ℂ :=
  fun p q => if p.1 = p.2 ∧ q.1 = q.2 then 1 else 0

theorem choiMap_omegaProj [DecidableEq n] (X : Matrix n n ℂ) : choiMap (omegaProj n) X = X := by
  ext k l
  rw [choiMap_apply]
  unfold omegaProj
  rw [ Finset.sum_eq_single k (fun i _ hi => Finset.sum_eq_zero fun j _ => by simp [hi]) (by simp),
    Finset.sum_eq_single l (fun j _ hj => by simp [hj]) (by simp)]
  simp
end Choi

section Reduction
variable {n : Type*}

variable [Fintype n]

theorem quad_proj (b x : n → ℂ) :
    star x ⬝ᵥ (proj b *ᵥ x) = ((Complex.normSq (star b ⬝ᵥ x) : ℝ) : ℂ) := by
  have h1 : star x ⬝ᵥ (proj b *ᵥ x) = (star x ⬝ᵥ b) * (star b ⬝ᵥ x) := by
    simp only [dotProduct, mulVec, proj, vecMulVec_apply, Pi.star_apply, Finset.sum_mul_sum]
    refine Finset.sum_congr rfl fun i _ => ?_
    rw [Finset.mul_sum]
    refine Finset.sum_congr rfl fun j _ => ?_
    ring
  rw [h1, star_dotProduct x b, mul_comm, Complex.star_def, Complex.mul_conj]

variable [DecidableEq n]

def reductionL : Matrix n n ℂ →ₗ[ℂ] Matrix n n ℂ :=
  (LinearMap.smulRight (Matrix.traceLinearMap n ℂ ℂ) (1 : Matrix n n ℂ)) - LinearMap.id

@[simp] theorem reductionL_apply (X : Matrix n n ℂ) : reductionL X = X.trace • (1 : Matrix n n ℂ) - X := rfl

end Reduction

section Bessel
variable {n : Type*} [Fintype n]

theorem bessel_two (b φ x : n → ℂ) (c : ℝ) (hb : nsq b ≤ c) (hφ : nsq φ ≤ c) (horth : star b ⬝ᵥ φ = 0) :
    Complex.normSq (star b ⬝ᵥ x) + Complex.normSq (star φ ⬝ᵥ x) ≤ c * nsq x := by
  set β := star b ⬝ᵥ x with hβ
  set γ := star φ ⬝ᵥ x with hγ
  set T := Complex.normSq β + Complex.normSq γ with hT
  have hT0 : 0 ≤ T := add_nonneg (Complex.normSq_nonneg _) (Complex.normSq_nonneg _)
  -- Cauchy–Schwarz for `x` and the projection `v` of `x` onto the span of `b`, `φ`
  set v : n → ℂ := β • b + γ • φ with hv
  have h1 : star v ⬝ᵥ x = ((T : ℝ) : ℂ) := by
    rw [hv, star_add, add_dotProduct, star_smul, star_smul, smul_dotProduct, smul_dotProduct, ← hβ, ← hγ,
      smul_eq_mul, smul_eq_mul]
    change (starRingEnd ℂ) β * β + (starRingEnd ℂ) γ * γ = _
    rw [mul_comm, Complex.mul_conj, mul_comm ((starRingEnd ℂ) γ), Complex.mul_conj, hT]
    push_cast; rfl
  have h2 : nsq v ≤ c * T := by
    have e : star (β • b) ⬝ᵥ (γ • φ) = 0 := by
      rw [star_smul, smul_dotProduct, dotProduct_smul, horth, smul_zero, smul_zero]
    rw [hv, nsq_add, e, nsq_smul, nsq_smul, Complex.zero_re, mul_zero, add_zero, hT]
    have := mul_le_mul_of_nonneg_left hb (Complex.normSq_nonneg β)
    have := mul_le_mul_of_nonneg_left hφ (Complex.normSq_nonneg γ)
    linarith
  have h3 := normSq_dot_le v x
  rw [h1, Complex.normSq_ofReal] at h3
  rcases hT0.lt_or_eq with hpos | h0
  · have : T * T ≤ T * (c * nsq x) := by
      calc T * T ≤ nsq v * nsq x := h3
        _ ≤ c * T * nsq x := mul_le_mul_of_nonneg_right h2 (nsq_nonneg x)
        _ = T * (c * nsq x) := by ring
    exact le_of_mul_le_mul_left this hpos
  · rw [← h0]
    exact mul_nonneg ((nsq_nonneg b).trans hb) (nsq_nonneg x)

variable [DecidableEq n]

theorem posSemidef_smul_one_sub_proj_sub_proj (b φ : n → ℂ) (c : ℝ) (hb : nsq b ≤ c) (hφ : nsq φ ≤ c)
    (horth : star b ⬝ᵥ φ = 0) : ((c : ℂ) • (1 : Matrix n n ℂ) - proj b - proj φ).PosSemidef := by
  refine PosSemidef.of_dotProduct_mulVec_nonneg ?_ fun x => ?_
  · exact ((isHermitian_one.smul (Complex.conj_ofReal c)).sub (proj_posSemidef b).1).sub (proj_posSemidef φ).1
  · rw [Matrix.sub_mulVec, Matrix.sub_mulVec, dotProduct_sub, dotProduct_sub, Matrix.smul_mulVec,
      Matrix.one_mulVec, dotProduct_smul, star_dotProduct_self, quad_proj, quad_proj, smul_eq_mul,
      ← Complex.ofReal_mul, ← Complex.ofReal_sub, ← Complex.ofReal_sub]
    exact Complex.zero_le_real.mpr (by linarith [bessel_two b φ x c hb hφ horth])

theorem reductionL_pos : IsPosOnPure (reductionL (n := n)) := fun b => by
  have h := posSemidef_smul_one_sub_proj_sub_proj b 0 (nsq b) le_rfl (nsq_zero.trans_le (nsq_nonneg b))
    (dotProduct_zero _)
  rwa [proj_zero, sub_zero, ← trace_proj] at h

end Bessel

section BreuerHall
variable {n : Type*} [Fintype n]

theorem antisymm_quad_zero {U : Matrix n n ℂ} (hU : Uᵀ = -U) (c : n → ℂ) : c ⬝ᵥ (U *ᵥ c) = 0 := by
  have h : c ⬝ᵥ (U *ᵥ c) = - (c ⬝ᵥ (U *ᵥ c)) := by
    conv_lhs => rw [dotProduct_mulVec, ← mulVec_transpose, hU, dotProduct_comm, Matrix.neg_mulVec,
      dotProduct_neg]
  exact self_eq_neg.mp h

variable [DecidableEq n]

def breuerHallL (U : Matrix n n ℂ) : Matrix n n ℂ →ₗ[ℂ] Matrix n n ℂ :=
  reductionL - (LinearMap.mulLeft ℂ U ∘ₗ LinearMap.mulRight ℂ Uᴴ) ∘ₗ transposeL

theorem breuerHallL_apply (U X : Matrix n n ℂ) :
    breuerHallL U X = X.trace • (1 : Matrix n n ℂ) - X - U * (Xᵀ * Uᴴ) := rfl

/-- the image of `b bᴴ` is `‖b‖²·1 − b bᴴ − φ φᴴ` with `φ = U b̄ ⟂ b`, `‖φ‖ ≤ ‖b‖` -/
theorem breuerHallL_pos {U : Matrix n n ℂ} (hanti : Uᵀ = -U) (hU : IsContr U) :
    IsPosOnPure (breuerHallL U) := fun b => by
  rw [breuerHallL_apply, trace_proj, transpose_proj, ← Matrix.mul_assoc, conj_proj]
  exact posSemidef_smul_one_sub_proj_sub_proj b _ (nsq b) le_rfl (nsq_star b ▸ hU.nsq_mulVec_le (star b))
    (antisymm_quad_zero hanti (star b))

end BreuerHall

/-- the Choi matrix built by `is_separable` for the qutrit maps of Ha and Kye:
`diag(a+1, c, b, b, a+1, c, c, b, a+1) − |Ω⟩⟨Ω|`, `Ω = Σ_i |ii⟩` -/
def haChoi (a b c : ℝ) : Matrix (Fin 3 × Fin 3) (Fin 3 × Fin 3) ℂ := fun p q =>
  (if p = q then (if p.2 = p.1 then (a : ℂ) + 1 else if p.2 = p.1 + 1 then (c : ℂ) else (b : ℂ)) else 0)
    - (if p.1 = p.2 ∧ q.1 = q.2 then 1 else 0)

/-- the map with that Choi matrix is the generalised Choi map `Φ[a,b,c]` of Cho, Kye and Lee -/
theorem choiMap_haChoi (a b c : ℝ) (X : Matrix (Fin 3) (Fin 3) ℂ) (k l : Fin 3) :
    choiMap (haChoi a b c) X k l
      = (if k = l then (a : ℂ) * X k k + b * X (k + 1) (k + 1) + c * X (k + 2) (k + 2) else 0)
        - (if k = l then 0 else X k l) := by
  have e : haChoi a b c = diagonal (fun p : Fin 3 × Fin 3 =>
        if p.2 = p.1 then (a : ℂ) + 1 else if p.2 = p.1 + 1 then (c : ℂ) else (b : ℂ))
      - omegaProj (Fin 3) := by
    ext p q
    simp only [haChoi, omegaProj, Matrix.sub_apply, diagonal_apply]
  rw [e, choiMap_sub, Matrix.sub_apply, choiMap_diagonal, choiMap_omegaProj]
  split
  · next h =>
    subst h
    rw [Fin.sum_univ_three]
    -- the three diagonal entries of `D` in row `k`: `a + 1` at `k`, `b` at `k + 1`, `c` at `k + 2`
    fin_cases k <;>
      simp (decide := true) only [Fin.zero_eta, Fin.mk_one, Fin.reduceFinMk, Fin.reduceAdd, if_true, if_false,
        sub_zero] <;>
      ring
  · rfl

theorem applyB_reductionL {m n : Type*} [Fintype n] [DecidableEq n] (X : Matrix (m × n) (m × n) ℂ) :
    applyB reductionL X = ptrB X ⊗ₖ (1 : Matrix n n ℂ) - X := by
  ext ⟨a, b⟩ ⟨a', b'⟩
  simp only [applyB, reductionL_apply, blockB, ptrB, Matrix.trace, diag_apply, Matrix.sub_apply, Matrix.smul_apply,
    kroneckerMap_apply, smul_eq_mul]

/-- `swapM` commutes with `-` and turns `ptrB` into `ptrA` by `rfl` -/
theorem applyA_reductionL {m n : Type*} [Fintype m] [DecidableEq m] (X : Matrix (m × n) (m × n) ℂ) :
    applyA reductionL X = (1 : Matrix m m ℂ) ⊗ₖ ptrA X - X := by
  rw [applyA_eq, applyB_reductionL]
  exact congrArg (· - X) (swapM_kron (ptrA X) 1)

end Toq.Sep
