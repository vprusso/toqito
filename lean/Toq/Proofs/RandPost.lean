import Toq.Model.RandPost
import Toq.Model.RandDraws
import Toq.Spec.Rand
import Toq.Proofs.Cert
import Toq.Proofs.SumN
import Toq.Proofs.Entangle
/-!
# Refinement of the executable post-processing models (`Toq/Model/RandPost.lean`) to the matrix vocabulary, and facts about the
draw programs (`Toq/Model/RandDraws.lean`)

`toMat`, `mmul`, `trc` are `toM`, `mmul`, `traceM` of C14 (`toMat_eq_toM`, `mmul_eq_mmul`, `trc_eq_traceM`), so product and trace are read by C14's
lemmas (`toMat_mmul`, `trc_eq`); the models of `Toq/Model/RandPost.lean` are compositions of `mmul`, `ctr`, `msum`, `mdiag` (`hermTwice` alone is written
entrywise), so that reading one through `toMat` is a rewrite with the lemmas of these four (`…_refines`).  The exact matrices of the driver are read through `toMatQ`, which is `Toq.Rank.fnToM`
(`toMatQ_eq_fnToM`), and the same statements hold of them by its lemmas.  Of the draw programs it is
shown that each begins with a construction and that a construction resets the stream.
-/

open Matrix
open scoped ComplexOrder MatrixOrder

namespace Toq.Rand

def toMat (n m : Nat) (A : Nat → Nat → ℂ) : Matrix (Fin n) (Fin m) ℂ := Matrix.of fun i j => A i.val j.val

@[simp] theorem toMat_apply (n m : Nat) (A : Nat → Nat → ℂ) (i : Fin n) (j : Fin m) : toMat n m A i j = A i.val j.val := rfl

theorem toMat_eq_toM (n m : Nat) (A : Nat → Nat → ℂ) : toMat n m A = Toq.Entangle.toM n m A := rfl
theorem mmul_eq_mmul {α : Type} [Add α] [Mul α] [Zero α] : mmul (α := α) = Toq.Entangle.mmul := rfl
theorem trc_eq_traceM {α : Type} [Add α] [Zero α] : trc (α := α) = Toq.Entangle.traceM := rfl

theorem toMat_mmul (n m p : Nat) (A B : Nat → Nat → ℂ) : toMat n p (mmul m A B) = toMat n m A * toMat m p B :=
  Toq.Entangle.toM_mmul n m p A B

theorem toMat_ctr (n m : Nat) (A : Nat → Nat → ℂ) : toMat m n (ctr star A) = (toMat n m A)ᴴ := by
  ext i j
  simp [ctr, conjTranspose_apply]

theorem trc_eq (n : Nat) (A : Nat → Nat → ℂ) : trc n A = (toMat n n A).trace :=
  Toq.Entangle.traceM_eq_trace n A

theorem toMat_msum (n m k : Nat) (F : Nat → Nat → Nat → ℂ) : toMat n m (msum k F) = ∑ y : Fin k, toMat n m (F y.val) := by
  ext i j
  rw [Matrix.sum_apply]
  exact sumN_eq_sum_fin _ k

theorem toMat_mdiag (d : Nat) (v : Nat → ℂ) : toMat d d (mdiag v) = diagonal (fun i : Fin d => v i.val) := by
  ext i j
  by_cases h : i = j
  · subst h; simp [mdiag]
  · have : i.val ≠ j.val := fun e => h (Fin.ext e)
    simp [mdiag, h, this]

theorem densityNum_refines (d k : Nat) (G : Nat → Nat → ℂ) :
    toMat d d (densityNum star k G) = toMat d k G * (toMat d k G)ᴴ := by
  unfold densityNum; rw [toMat_mmul, toMat_ctr]

theorem gramOf_refines (d : Nat) (U : Nat → Nat → ℂ) : toMat d d (gramOf star d U) = (toMat d d U)ᴴ * toMat d d U := by
  unfold gramOf; rw [toMat_mmul, toMat_ctr]

theorem hermTwice_refines (d : Nat) (R : Nat → Nat → ℂ) : toMat d d (hermTwice star R) = (toMat d d R)ᴴ + toMat d d R := by
  ext i j
  simp [hermTwice, conjTranspose_apply]

theorem povmCore_refines (d : Nat) (Ay U : Nat → Nat → ℂ) :
    toMat d d (povmCore star d Ay U) = (toMat d d Ay * toMat d d U)ᴴ * (toMat d d Ay * toMat d d U) := by
  unfold povmCore; rw [toMat_mmul, toMat_ctr, toMat_mmul]

theorem eigRecon_refines (d : Nat) (U : Nat → Nat → ℂ) (s : Nat → ℂ) :
    toMat d d (eigRecon star d U s) = toMat d d U * diagonal (fun i : Fin d => s i.val) * (toMat d d U)ᴴ := by
  unfold eigRecon; rw [toMat_mmul, toMat_mmul, toMat_ctr, toMat_mdiag]

/-- the operator of `povm_post` entry by entry: the core `(A U)ᴴ (A U)` divided by `√sᵢ √sⱼ` -/
theorem povm_model_entry {ι : Type*} [Fintype ι] [DecidableEq ι] (A U : Matrix ι ι ℂ) (s : ι → ℝ) (i j : ι) :
    ((A * U * diagonal (fun l => (((Real.sqrt (s l))⁻¹ : ℝ) : ℂ)))ᴴ * (A * U * diagonal (fun l => (((Real.sqrt (s l))⁻¹ : ℝ) : ℂ)))) i j
      = ((A * U)ᴴ * (A * U)) i j * ((((Real.sqrt (s i))⁻¹ : ℝ) : ℂ) * (((Real.sqrt (s j))⁻¹ : ℝ) : ℂ)) := by
  rw [conjTranspose_mul, diagonal_conjTranspose, Matrix.mul_assoc, ← Matrix.mul_assoc ((A * U)ᴴ), Matrix.diagonal_mul,
    Matrix.mul_diagonal]
  simp only [Pi.star_apply, Complex.star_def, Complex.conj_ofReal]
  ring

theorem measResult_refines (m d : Nat) (K ρ : Nat → Nat → ℂ) :
    toMat m m (measResult star d K ρ) = toMat m d K * toMat d d ρ * (toMat m d K)ᴴ := by
  unfold measResult; rw [toMat_mmul, toMat_mmul, toMat_ctr]

theorem measCompleteness_refines (d m k : Nat) (K : Nat → Nat → Nat → ℂ) :
    toMat d d (measCompleteness star m k K) = ∑ i : Fin k, (toMat m d (K i.val))ᴴ * toMat m d (K i.val) := by
  unfold measCompleteness
  rw [toMat_msum]
  refine Finset.sum_congr rfl (fun y _ => ?_)
  rw [toMat_mmul, toMat_ctr]

/-- `povmNormaliser` is `measCompleteness` on square blocks -/
theorem povmNormaliser_refines (d no : Nat) (A : Nat → Nat → Nat → ℂ) :
    toMat d d (povmNormaliser star d no A) = ∑ y : Fin no, (toMat d d (A y.val))ᴴ * toMat d d (A y.val) :=
  measCompleteness_refines d d no A

/-- the exact matrices of the driver read as complex matrices -/
def toMatQ (n m : Nat) (A : Nat → Nat → QI) : Matrix (Fin n) (Fin m) ℂ := toMat n m (fun i j => (A i j).toC)

theorem toMatQ_eq_fnToM (n m : Nat) (A : Nat → Nat → QI) : toMatQ n m A = Toq.Rank.fnToM n m A := rfl

theorem toMatQ_mmul (n m p : Nat) (A B : Nat → Nat → QI) : toMatQ n p (mmul m A B) = toMatQ n m A * toMatQ m p B :=
  Toq.Rank.fnToM_sumN_mul n m p A B

theorem toMatQ_ctr (n m : Nat) (A : Nat → Nat → QI) : toMatQ m n (ctr QI.conj A) = (toMatQ n m A)ᴴ :=
  Toq.Rank.fnToM_conj m n A

theorem toMatQ_trace (n : Nat) (A : Nat → Nat → QI) : (toMatQ n n A).trace = (trc n A).toC :=
  Toq.Rank.fnToM_trace n A

theorem toMatQ_measResult (d m : Nat) (K ρ : Nat → Nat → QI) :
    toMatQ m m (measResult QI.conj d K ρ) = toMatQ m d K * toMatQ d d ρ * (toMatQ m d K)ᴴ := by
  unfold measResult; rw [toMatQ_mmul, toMatQ_mmul, toMatQ_ctr]

theorem gtMargin_sound (x t : Rat) (ht : 0 ≤ t) (b : Bool) (h : gtMargin x t = some b) : b = true ↔ x > t := by
  unfold gtMargin at h
  split_ifs at h with h1 h2 h3 <;> rw [Option.some.injEq] at h <;> subst h
  · exact iff_of_true rfl ((le_mul_of_one_le_right ht (by norm_num)).trans_lt h1)
  · exact iff_of_false Bool.false_ne_true (not_lt.mpr (h2.le.trans (mul_le_of_le_one_right ht (by norm_num))))
  · rw [h3]; exact decide_eq_true_iff

theorem measureOne_prob_eq (d m : Nat) (tol : Rat) (K ρ : Nat → Nat → QI) :
    (measureOne d tol K ρ m).prob = (trc m (measResult QI.conj d K ρ)).re := by
  unfold measureOne; rfl

theorem measureOne_of_positive (d m : Nat) (tol : Rat) (K ρ : Nat → Nat → QI)
    (h : (measureOne d tol K ρ m).positive = some true) :
    (measureOne d tol K ρ m).postDim = m ∧ (measureOne d tol K ρ m).post
      = fun i j => QI.smul (1 / (measureOne d tol K ρ m).prob) (measResult QI.conj d K ρ i j) :=
  ⟨if_pos h, if_pos h⟩

theorem measureOne_of_not_positive (d m : Nat) (tol : Rat) (K ρ : Nat → Nat → QI)
    (h : (measureOne d tol K ρ m).positive ≠ some true) :
    (measureOne d tol K ρ m).postDim = d ∧ (measureOne d tol K ρ m).post = fun _ _ => 0 :=
  ⟨if_neg h, if_neg h⟩

/-- The draw programs are built from `.ok (.construct :: _)`, `.error _`, `if` / `match` and `>>=`, and the property passes through each
of these. -/
def BeginsC (p : Except String (List Ev)) : Prop := ∀ evs, p = .ok evs → ∃ r, evs = .construct :: r

theorem beginsC_ok (r : List Ev) : BeginsC (.ok (.construct :: r)) := fun _ h => ⟨r, (Except.ok.inj h).symm⟩

theorem beginsC_error (e : String) : BeginsC (.error e) := fun _ h => nomatch h

theorem BeginsC.ite {c : Prop} [Decidable c] {p q : Except String (List Ev)} (hp : BeginsC p) (hq : BeginsC q) :
    BeginsC (if c then p else q) := by
  split <;> assumption

theorem beginsC_bind {α : Type} (x : Except String α) {f : α → Except String (List Ev)} (hf : ∀ a, BeginsC (f a)) :
    BeginsC (x >>= f) := by
  cases x with
  | error e => exact beginsC_error e
  | ok a => exact hf a

theorem unitaryTrace_beginsC (dim : DimArg) (r : Bool) : BeginsC (unitaryTrace dim r) := by
  unfold unitaryTrace
  split
  exacts [beginsC_error _, (beginsC_error _).ite (beginsC_ok _)]

theorem trace_beginsC : ∀ c : Call, BeginsC (trace c)
  | .unitary dim r => unitaryTrace_beginsC dim r
  | .basis dim r => unitaryTrace_beginsC (.int dim) r
  | .density _ _ _ _ =>
      -- Bures: the own draws followed by those of `random_unitary`, if the shapes broadcast; Haar: the own draws
      BeginsC.ite (beginsC_bind _ fun _ => by split; exacts [beginsC_error _, beginsC_ok _]) (beginsC_ok _)
  | .stateVector _ _ _ => beginsC_bind _ fun ⟨_, _, _, _⟩ => BeginsC.ite (beginsC_ok _) (beginsC_ok _)
  | .psd _ _ => beginsC_ok _
  | .states _ _ => beginsC_ok _
  | .povm _ _ _ => beginsC_ok _
  | .circulant _ => beginsC_ok _
  | .ginibre _ _ => beginsC_ok _

theorem unitaryTrace_int (d : Nat) (r : Bool) :
    unitaryTrace (.int d) r = .ok ([.construct, .draw ⟨.standardNormal, [d, d]⟩] ++ optDraw (!r) ⟨.standardNormal, [d, d]⟩) := by
  simp [unitaryTrace, unitaryDims]

/-- `random_state_vector` with `dim = [d0, d1]` and `0 < k_param < min(d0, d1)`: the Schmidt branch draws `a`, `b` (and their
imaginary parts unless `is_real`) -/
theorem stateVectorTrace_schmidt (d0 d1 k : Nat) (r : Bool) (hk : 0 < k) (hk' : k < min d0 d1) :
    stateVectorTrace (.list [d0, d1]) r k
      = .ok ([.construct, .draw ⟨.random, [d0 * k, 1]⟩, .draw ⟨.random, [d1 * k, 1]⟩]
          ++ optDraw (!r) ⟨.random, [d0 * k, 1]⟩ ++ optDraw (!r) ⟨.random, [d1 * k, 1]⟩) := by
  simp [stateVectorTrace, svBranch, hk, hk', bind, Except.bind]

/-- the Bures branch draws its own Ginibre factor exactly like the Haar branch and then exactly what
`random_unitary(dim, is_real, seed)` draws -/
theorem density_bures_trace (dim : Nat) (r : Bool) (k : Option Nat) (evs : List Ev)
    (h : trace (.density dim r k true) = .ok evs) :
    ∃ own u, trace (.density dim r k false) = .ok own ∧ trace (.unitary (.int dim) r) = .ok u ∧ evs = own ++ u := by
  simp only [trace, densityTrace, if_true, unitaryTrace_int, bind, Except.bind] at h
  -- the shapes `(d, d) + (d, k)` broadcast, or the call raises
  cases hb : buresCols dim (k.getD dim) with
  | none => rw [hb] at h; cases h
  | some c =>
    rw [hb] at h
    exact ⟨_, _, by simp [trace, densityTrace], unitaryTrace_int dim r, (Except.ok.inj h).symm⟩

/-- whatever happened before, the events after a `construct` are interpreted from the seed alone (a helper generator such as
`random_unitary(dim, is_real, seed=seed)` inside the Bures branch restarts the stream) -/
theorem interp_append_construct {Seed St Arr : Type} (prim : Prim Seed St Arr) (seed : Seed) :
    ∀ (pre : List Ev) (st : Option St) (rest : List Ev),
      interp prim seed st (pre ++ .construct :: rest)
        = interp prim seed st pre ++ interp prim seed none (.construct :: rest)
  | [], st, rest => by cases st <;> rfl
  | .construct :: pre, st, rest => by
      cases st <;> exact interp_append_construct prim seed pre _ rest
  | .draw d :: pre, none, rest => congrArg (none :: ·) (interp_append_construct prim seed pre none rest)
  | .draw d :: pre, some s, rest =>
      congrArg (some (prim.next s d).2 :: ·) (interp_append_construct prim seed pre _ rest)

/-- the helper generator of the Bures branch: the arrays it yields are those of a stand-alone `random_unitary` call with the same seed -/
theorem bures_interp {Seed St Arr : Type} (prim : Prim Seed St Arr) (seed : Seed) (dim : Nat) (r : Bool) (k : Option Nat)
    (evs : List Ev) (h : trace (.density dim r k true) = .ok evs) :
    ∃ own u, trace (.density dim r k false) = .ok own ∧ trace (.unitary (.int dim) r) = .ok u ∧
      interp prim seed none evs = interp prim seed none own ++ interp prim seed none u := by
  obtain ⟨own, u, h1, h2, h3⟩ := density_bures_trace dim r k evs h
  refine ⟨own, u, h1, h2, ?_⟩
  obtain ⟨rest, rfl⟩ := trace_beginsC _ u h2
  rw [h3]
  exact interp_append_construct prim seed own none rest

end Toq.Rand
