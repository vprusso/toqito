import Toq.Model.PermsArgs
import Toq.Proofs.Perms
/-!
# How `swap.py` and `permute_systems.py` prepare their arguments (`Toq/Model/PermsArgs.lean`, for C01)

The list `swap.py` builds is the transposition `swapPerm` (`swapPermList_eq`); when `dim` is omitted the subsystem dimension is the exact
root `iroot` of the total dimension (`iroot_some_pow`) and the dimension list is `[r] * n`, of product `r ^ n` (`prodN_replicate`). -/

namespace Toq.Perms

theorem swapPermList_apply (n s1 s2 k : Nat) (h1 : s1 < n) (h2 : s2 < n) (hk : k < n) :
    (fnOfList (swapPermList n s1 s2)) k = swapPerm s1 s2 k := by
  unfold fnOfList swapPermList swapPerm
  -- reading `(range n)` after the two assignments: the later one (position `s2`) is looked at first
  rw [List.getD_eq_getElem?_getD, List.getElem?_set, List.getElem?_set, List.length_set, List.length_range, if_pos h1, if_pos h2,
    List.getElem?_range hk]
  by_cases hk2 : s2 = k
  · subst hk2
    rw [if_pos rfl, Option.getD_some, if_pos rfl]
    split
    · next h => exact h.symm
    · rfl
  · rw [if_neg hk2, if_neg (Ne.symm hk2)]
    by_cases hk1 : s1 = k
    · rw [if_pos hk1, if_pos hk1.symm, Option.getD_some]
    · rw [if_neg hk1, if_neg (Ne.symm hk1), Option.getD_some]

theorem swapPermList_eq (n s1 s2 : Nat) (h1 : s1 < n) (h2 : s2 < n) :
    swapPermList n s1 s2 = listOfFn n (swapPerm s1 s2) := by
  apply List.ext_getElem
  · simp [swapPermList, listOfFn]
  · intro k hk1 hk2
    have hk : k < n := by simpa [listOfFn] using hk2
    have e : (swapPermList n s1 s2)[k] = fnOfList (swapPermList n s1 s2) 0 k := by
      simp [fnOfList, List.getD_eq_getElem?_getD, List.getElem?_eq_getElem hk1]
    rw [e, swapPermList_apply n s1 s2 k h1 h2 hk]; simp [listOfFn]

section swap
variable (n s1 s2 : Nat) (h1 : s1 < n) (h2 : s2 < n)
include h1 h2

theorem permIndex_swapPermList (d : Nat → Nat) (inv : Bool) (m : Nat) :
    permIndex n (fnOfList (swapPermList n s1 s2)) d inv m = permIndex n (swapPerm s1 s2) d inv m :=
  permIndex_congr_perm n _ d _ (swapPerm_isPermN n s1 s2 h1 h2) (fun k hk => swapPermList_apply n s1 s2 k h1 h2 hk) inv m

theorem permIndex_swap_swap (d : Nat → Nat) (m : Nat) (hm : m < prodN d n) :
    permIndex n (fnOfList (swapPermList n s1 s2)) d false
      (permIndex n (fnOfList (swapPermList n s1 s2)) (fun k => d (swapPerm s1 s2 k)) false m) = m := by
  have hs := swapPerm_isPermN n s1 s2 h1 h2
  -- two calls compose to one with `swapPerm ∘ swapPerm`, which is the identity
  rw [permIndex_swapPermList n s1 s2 h1 h2, permIndex_swapPermList n s1 s2 h1 h2,
    permIndex_comp n _ _ hs hs d (prodN_pos_of_lt d n m hm) m,
    permIndex_congr_perm n _ d (fun k => k) (Toq.C01.IsPermN.id n) (fun k _ => swapPerm_swapPerm s1 s2 k) false m]
  exact permIndex_id n d m hm

end swap

theorem iroot_some_pow {N k r : Nat} (h : iroot N k = some r) : r ^ k = N := by
  unfold iroot at h
  rw [List.find?_range_eq_some] at h
  simpa using h.1

theorem le_of_pow_eq {N k r : Nat} (hk : 0 < k) (h : r ^ k = N) : r ≤ N :=
  h ▸ Nat.le_self_pow (Nat.ne_of_gt hk) r

theorem prodN_replicate (r n m : Nat) (h : n ≤ m) : prodN (fnOfList (List.replicate m r)) n = r ^ n :=
  (prodN_congr _ (fun _ => r) n fun k hk => by
    rw [fnOfList, List.getD_eq_getElem _ _ (by rw [List.length_replicate]; exact Nat.lt_of_lt_of_le hk h), List.getElem_replicate]).trans
    (prodN_const r n)

end Toq.Perms
