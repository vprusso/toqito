import Toq.Proofs.States
import Toq.Model.StatesExtra
import Mathlib.Tactic.NormNum
import Mathlib.Algebra.CharZero.Defs
import Mathlib.LinearAlgebra.Matrix.NonsingularInverse
/-!
# The bit count of `hadamard` and the completeness of the diagonal Gell-Mann matrices (lemmas for C17)

`_hamming_distance` in `hadamard` is Kernighan's loop `x &= x - 1`: each round clears the lowest set bit, so with enough fuel it
returns the number of set bits (`hammingLoop_eq_popcount`).  The diagonal generalised Gell-Mann matrices resolve the diagonal
matrix units: their row orthogonality `R Rᵀ = diag ‖D_l‖²` (`sumN_dvec_mul`) is transposed into column completeness through
Mathlib's `mul_eq_one_comm` on `Matrix (Fin d) (Fin d) α` (`gm_diag_complete`).
-/
open Toq.Matrices Toq.Spec17

namespace Toq.States

theorem popcount_zero : ∀ n, popcount n 0 = 0
  | 0 => rfl
  | n + 1 => by rw [popcount_succ_high, popcount_zero n, Nat.zero_testBit]; rfl

theorem popcount_le : ∀ n x, popcount n x ≤ n
  | 0, _ => Nat.le_refl 0
  | n + 1, x => by
    rw [popcount_succ_high]
    have := popcount_le n x
    split <;> omega

theorem popcount_clear_lowest : ∀ n x, 0 < x → x < 2 ^ n → popcount n (x &&& (x - 1)) + 1 = popcount n x
  | 0, x, h0, h => by simp at h; omega
  | n + 1, x, h0, h => by
    rw [popcount_succ_low, popcount_succ_low n x, Nat.and_div_two]
    have hz : (x &&& (x - 1)) % 2 = 0 := by
      rcases Nat.mod_two_eq_zero_or_one (x &&& (x - 1)) with hh | hh
      · exact hh
      · rw [Nat.and_mod_two_eq_one] at hh; omega
    rw [hz, Nat.zero_add]
    rcases Nat.mod_two_eq_zero_or_one x with hx | hx
    · have e : (x - 1) / 2 = x / 2 - 1 := by omega
      rw [e, hx, Nat.zero_add]
      exact popcount_clear_lowest n (x / 2) (by omega) (by rw [Nat.pow_succ] at h; omega)
    · have e : (x - 1) / 2 = x / 2 := by omega
      rw [e, Nat.and_self, hx, Nat.add_comm]

theorem hammingLoop_eq_popcount (n : Nat) : ∀ fuel x, x < 2 ^ n → popcount n x < fuel → hammingLoop fuel x = popcount n x
  | 0, _, _, h => by omega
  | fuel + 1, x, hx, h => by
    unfold hammingLoop
    by_cases h0 : x = 0
    · rw [if_pos h0, h0, popcount_zero]
    · rw [if_neg h0]
      have hc := popcount_clear_lowest n x (by omega) hx
      have hlt : x &&& (x - 1) < 2 ^ n := Nat.lt_of_le_of_lt Nat.and_le_left hx
      rw [hammingLoop_eq_popcount n fuel _ hlt (by omega)]
      omega

theorem hadamardS_eq_pow : ∀ n i j, hadamardS n i j = (-1 : Int) ^ popcount n (i &&& j)
  | 0, _, _ => rfl
  | n + 1, i, j => by
    show hadamardS n i j * (if i.testBit n && j.testBit n then -1 else 1) = _
    rw [hadamardS_eq_pow n i j, popcount_succ_high, Nat.testBit_and]
    by_cases h : (i.testBit n && j.testBit n) = true
    · rw [if_pos h, if_pos h, pow_succ]
    · rw [if_neg h, if_neg h, mul_one, Nat.add_zero]

section gmspan
variable {α : Type} [Field α] [CharZero α]

/-- **diagonal completeness** `Σ_l D_l[k] D_l[i] / ‖D_l‖² = δ_{ki}` is row orthogonality transposed: the `d × d` matrix `R` with
    rows `D_l = dvec l` has `R Rᵀ = diag ‖D_l‖²` (`sumN_dvec_mul`), so `diag(‖D_l‖²)⁻¹ R` is a left inverse of `Rᵀ`, hence a
    right inverse. -/
theorem gm_diag_complete (d : Nat) (hd : 0 < d) (k i : Nat) (hk : k < d) (hi : i < d) :
    sumN d (fun l => ((dvec l k : Int) : α) * ((dvec l i : Int) : α) / ((dnorm d l : Int) : α)) = if k = i then 1 else 0 := by
  have hn : ∀ l, ((dnorm d l : Int) : α) ≠ 0 := fun l => by
    unfold dnorm
    split
    · exact Int.cast_ne_zero.mpr (Int.natCast_ne_zero.mpr hd.ne')
    · exact Int.cast_ne_zero.mpr (mul_ne_zero (Int.natCast_ne_zero.mpr ‹_›) (by omega))
  let A : Matrix (Fin d) (Fin d) α := fun l k => ((dvec l k : Int) : α) / ((dnorm d l : Int) : α)
  let B : Matrix (Fin d) (Fin d) α := fun k l => ((dvec l k : Int) : α)
  have hAB : A * B = 1 := by
    ext l l'
    rw [Matrix.mul_apply, ← sumN_eq_sum_fin (fun k => ((dvec l k : Int) : α) / ((dnorm d l : Int) : α) * ((dvec l' k : Int) : α)),
      sumN_congr _ (fun k => ((dvec l k * dvec l' k : Int) : α) * (((dnorm d l : Int) : α))⁻¹) d fun k _ => by
        rw [Int.cast_mul, div_eq_mul_inv, mul_right_comm],
      sumN_mul_right, ← sumN_intCast, sumN_dvec_mul l l' d l.2 l'.2, Matrix.one_apply]
    by_cases h : l = l'
    · rw [if_pos (congrArg Fin.val h), if_pos h]
      exact mul_inv_cancel₀ (hn l)
    · rw [if_neg fun hh => h (Fin.ext hh), if_neg h, Int.cast_zero, zero_mul]
  have hBA : B * A = 1 := mul_eq_one_comm.mp hAB
  replace hBA := congrFun (congrFun hBA ⟨k, hk⟩) ⟨i, hi⟩
  rw [Matrix.mul_apply, ← sumN_eq_sum_fin (fun l => ((dvec l k : Int) : α) * (((dvec l i : Int) : α) / ((dnorm d l : Int) : α))),
    Matrix.one_apply] at hBA
  rw [sumN_congr _ _ d fun l _ => mul_div_assoc _ _ _, hBA]
  exact if_congr Fin.mk_eq_mk rfl rfl

end gmspan

end Toq.States
