import Toq.Proofs.MatrixOps
import Mathlib.Data.Finset.Card
import Mathlib.Data.List.GetD
/-!
# The search of the exact UPB decider `upbV`: what it finds, and that the order of the vectors does not matter

`upbV` (`Toq/Model/MatrixPreds.lean`) is the exact decider of toqito's
`is_unextendible_product_basis(vecs, dims)`.  This file proves

* `mem_assignments_iff`: `assignments n m` lists exactly the functions `{0..n-1} → {0..m-1}`;
* `upbV_no_iff` / `upbV_yes_iff`: when the guards pass, the verdict is "not a UPB" exactly when the (zero-padded)
   vectors can be distributed over the parties such that every party has a non-zero local vector annihilated by all
   the local factors it received (`NotUPBList`);
* `upbV_perm`: the complete result (guards included) does not depend on the order in which the vectors are listed;
* `notUPB_surj_iff`: when every local dimension is at least 2, a distribution exists iff one exists that serves every party.

The local factors are read from the table `upbFactor`, that is, from what `localFactors` returns.  Nothing here says what
`localFactors` and the guard `isProductExact` compute (that the entries are tensor factors of the vectors), so the reading is
one of the search, not of "some product vector is orthogonal to all vectors".

`upbFacs`, `upbFactor`, `upbTest`, `upbWitness` are the `let`s of `upbV` as functions (`upbV_eq`).
-/

namespace Toq.MatrixPreds
open Toq.MatrixOps Matrix

theorem mem_assignments_iff (m : Nat) (n : Nat) (asg : List Nat) :
    asg ∈ assignments n m ↔ asg.length = n ∧ ∀ x ∈ asg, x < m :=
  mem_consEnum_iff m (fun n => assignments n m) rfl (fun k l => by
    simp only [assignments, List.mem_flatMap, List.mem_map, List.mem_range]
    exact ⟨fun ⟨t, ht, a, ha, e⟩ => ⟨a, ha, t, ht, e.symm⟩, fun ⟨a, ha, t, ht, e⟩ => ⟨t, ht, a, ha, e.symm⟩⟩) n asg

/-- the table of local factors `upbV` builds: vector `k < n` contributes `localFactors dims (vs k)`, the padding
    vectors `n ≤ k < max n (#parties)` contribute zero factors -/
def upbFacs (dims : List Nat) (n : Nat) (vs : Nat → Nat → QI) : List (List (List QI)) :=
  (List.range (max n dims.length)).map fun k =>
    if k < n then localFactors dims (vs k) else dims.map (fun di => List.replicate di 0)

/-- entry `t` of the `i`-th local factor of (padded) vector `k`, read from the table exactly as `upbV` reads it -/
def upbFactor (dims : List Nat) (n : Nat) (vs : Nat → Nat → QI) (k i t : Nat) : QI :=
  (((upbFacs dims n vs).getD k []).getD i []).getD t 0

/-- the rank test of `upbV` for party `i` under the assignment `asg` -/
def upbTest (dims : List Nat) (n : Nat) (vs : Nat → Nat → QI) (asg : List Nat) (i : Nat) : Bool :=
  let mine := (List.range (max n dims.length)).filter (fun k => asg.getD k 0 == i)
  let di := dims.getD i 1
  let M : QMat := (mine.map fun k => ((((upbFacs dims n vs).getD k []).getD i []).toArray)).toArray
  rank mine.length di M < di

def upbWitness (dims : List Nat) (n : Nat) (vs : Nat → Nat → QI) (surjOnly : Bool) : Bool :=
  (assignments (max n dims.length) dims.length).any fun asg =>
    (!surjOnly || (List.range dims.length).all (fun i => asg.contains i)) &&
    (List.range dims.length).all fun i => upbTest dims n vs asg i

theorem upbV_eq (dims : List Nat) (n : Nat) (vs : Nat → Nat → QI) (surj : Bool) (m : Rat) :
    upbV dims n vs surj m =
      if !(List.range n).all (fun k => isProductExact dims (vs k)) then .error "NotProduct"
      else if n ≥ 2 ∧ eqV (gramOffDiag (dims.foldl (· * ·) 1) n vs) (zeroMat n n) m != .yes then .ok .unknown
      else .ok (.ofBool (!upbWitness dims n vs surj)) := rfl

theorem qi_default : (default : QI) = 0 := rfl

theorem upbTest_iff (dims : List Nat) (n : Nat) (vs : Nat → Nat → QI) (asg : List Nat) (i : Nat) :
    upbTest dims n vs asg i = true ↔
      ∃ y : Fin (dims.getD i 1) → ℂ, y ≠ 0 ∧ ∀ k, k < max n dims.length → asg.getD k 0 = i →
        ∑ t : Fin (dims.getD i 1), (upbFactor dims n vs k i t.val).toC * y t = 0 := by
  unfold upbTest
  simp only [decide_eq_true_eq]
  rw [rank_eq_rank, Matrix.rank_lt_cols_iff_kernel]
  refine exists_congr fun y => and_congr_right fun _ => ?_
  rw [qmatToM_mulVec_eq_zero_iff _ (by simp)]
  -- the rows are the factors of the vectors `k` with `asg[k] = i`, read with default `0`
  simp only [List.mem_toArray, List.forall_mem_map, List.mem_filter, List.mem_range, and_imp, beq_iff_eq,
    List.getElem!_toArray, List.getElem!_eq_getElem?_getD, ← List.getD_eq_getElem?_getD, qi_default, upbFactor]

/-- "the `n'` vectors with local-factor table `F` can be distributed over the parties (list form: `asg[k]` is the party
    of vector `k`; every party is served if `surj`) such that every party `i` has a non-zero local vector annihilated by
    all the local factors it received" -/
def NotUPBList (dims : List Nat) (n' : Nat) (surj : Bool) (F : Nat → Nat → Nat → QI) : Prop :=
  ∃ asg : List Nat, asg.length = n' ∧ (∀ x ∈ asg, x < dims.length) ∧
    (surj = true → ∀ i, i < dims.length → i ∈ asg) ∧
    ∀ i, i < dims.length → ∃ y : Fin (dims.getD i 1) → ℂ, y ≠ 0 ∧
      ∀ k, k < n' → asg.getD k 0 = i → ∑ t : Fin (dims.getD i 1), (F k i t.val).toC * y t = 0

def UpbValid (dims : List Nat) (n' : Nat) (F : Nat → Nat → Nat → QI) (a : Nat → Nat) : Prop :=
  (∀ k, k < n' → a k < dims.length) ∧
    ∀ i, i < dims.length → ∃ y : Fin (dims.getD i 1) → ℂ, y ≠ 0 ∧
      ∀ k, k < n' → a k = i → ∑ t : Fin (dims.getD i 1), (F k i t.val).toC * y t = 0

/-- `NotUPBList` with the distribution as a function `a : vector index → party` (`notUPBList_iff`) -/
def NotUPB (dims : List Nat) (n' : Nat) (surj : Bool) (F : Nat → Nat → Nat → QI) : Prop :=
  ∃ a : Nat → Nat, UpbValid dims n' F a ∧ (surj = true → ∀ i, i < dims.length → ∃ k, k < n' ∧ a k = i)

theorem notUPBList_iff (dims : List Nat) (n' : Nat) (surj : Bool) (F : Nat → Nat → Nat → QI) :
    NotUPBList dims n' surj F ↔ NotUPB dims n' surj F := by
  constructor
  · rintro ⟨asg, rfl, hlt, hs, hy⟩
    refine ⟨fun k => asg.getD k 0, ⟨fun k hk => ?_, hy⟩, fun hsurj i hi => ?_⟩
    · show asg.getD k 0 < _
      rw [List.getD_eq_getElem asg 0 hk]
      exact hlt _ (List.getElem_mem _)
    · obtain ⟨k, hk, hki⟩ := List.getElem_of_mem (hs hsurj i hi)
      exact ⟨k, hk, (List.getD_eq_getElem asg 0 hk).trans hki⟩
  · rintro ⟨a, ⟨hlt, hy⟩, hs⟩
    have hget : ∀ k, k < n' → ((List.range n').map a).getD k 0 = a k := fun k hk => by
      rw [List.getD_eq_getElem _ 0 (by simpa using hk), List.getElem_map, List.getElem_range]
    refine ⟨(List.range n').map a, by simp, ?_, ?_, ?_⟩
    · intro x hx
      obtain ⟨k, hk, rfl⟩ := List.mem_map.mp hx
      exact hlt k (List.mem_range.mp hk)
    · intro hsurj i hi
      obtain ⟨k, hk, hki⟩ := hs hsurj i hi
      exact List.mem_map.mpr ⟨k, List.mem_range.mpr hk, hki⟩
    · intro i hi
      obtain ⟨y, hy0, hyk⟩ := hy i hi
      exact ⟨y, hy0, fun k hk hki => hyk k hk (by rw [← hget k hk]; exact hki)⟩

theorem upbWitness_iff (dims : List Nat) (n : Nat) (vs : Nat → Nat → QI) (surj : Bool) :
    upbWitness dims n vs surj = true ↔ NotUPBList dims (max n dims.length) surj (upbFactor dims n vs) := by
  unfold upbWitness NotUPBList
  rw [List.any_eq_true]
  refine exists_congr fun asg => ?_
  rw [mem_assignments_iff, Bool.and_eq_true, List.all_eq_true, and_assoc]
  refine and_congr_right fun _ => and_congr_right fun _ => and_congr ?_ ?_
  · cases surj <;> simp [List.all_eq_true]
  · refine forall_congr' fun i => ?_
    rw [List.mem_range, upbTest_iff]

theorem upbFactor_lt (dims : List Nat) (n : Nat) (vs : Nat → Nat → QI) (k i t : Nat) (hk : k < n) :
    upbFactor dims n vs k i t = ((localFactors dims (vs k)).getD i []).getD t 0 := by
  unfold upbFactor upbFacs
  have hk' : k < max n dims.length := by omega
  simp [List.getD, hk, hk']

theorem getD_map_replicate_zero (dims : List Nat) (i t : Nat) :
    ((dims.map fun di => List.replicate di (0 : QI)).getD i []).getD t 0 = 0 := by
  by_cases hi : i < dims.length
  · by_cases ht : t < dims[i] <;> simp [List.getD, hi, ht]
  · simp [List.getD, hi]

theorem upbFactor_pad (dims : List Nat) (n : Nat) (vs : Nat → Nat → QI) (k i t : Nat) (hk : n ≤ k) :
    upbFactor dims n vs k i t = 0 := by
  by_cases hk' : k < max n dims.length
  · have : (upbFacs dims n vs).getD k [] = dims.map fun di => List.replicate di 0 := by
      simp [upbFacs, List.getD, hk', show ¬ k < n by omega]
    rw [upbFactor, this]
    exact getD_map_replicate_zero dims i t
  · simp [upbFactor, upbFacs, List.getD, hk']

theorem upbV_of_guards (dims : List Nat) (n : Nat) (vs : Nat → Nat → QI) (surj : Bool) (m : Rat)
    (hprod : ∀ k, k < n → isProductExact dims (vs k) = true)
    (hgram : 2 ≤ n → eqV (gramOffDiag (dims.foldl (· * ·) 1) n vs) (zeroMat n n) m = .yes) :
    upbV dims n vs surj m = .ok (.ofBool (!upbWitness dims n vs surj)) := by
  rw [upbV_eq, if_neg, if_neg]
  · rintro ⟨h2, hne⟩
    rw [hgram h2] at hne
    exact absurd hne (by decide)
  · have : (List.range n).all (fun k => isProductExact dims (vs k)) = true := by
      rw [List.all_eq_true]
      intro k hk
      exact hprod k (List.mem_range.mp hk)
    simp [this]

theorem upbV_verdict (dims : List Nat) (n : Nat) (vs : Nat → Nat → QI) (surj : Bool) (m : Rat)
    (hprod : ∀ k, k < n → isProductExact dims (vs k) = true)
    (hgram : 2 ≤ n → eqV (gramOffDiag (dims.foldl (· * ·) 1) n vs) (zeroMat n n) m = .yes) :
    (upbV dims n vs surj m = .ok .no ↔ upbWitness dims n vs surj = true) ∧
      (upbV dims n vs surj m = .ok .yes ↔ upbWitness dims n vs surj = false) := by
  rw [upbV_of_guards dims n vs surj m hprod hgram]
  cases upbWitness dims n vs surj <;> simp [Verdict.ofBool]

theorem upbV_no_iff (dims : List Nat) (n : Nat) (vs : Nat → Nat → QI) (surj : Bool) (m : Rat)
    (hprod : ∀ k, k < n → isProductExact dims (vs k) = true)
    (hgram : 2 ≤ n → eqV (gramOffDiag (dims.foldl (· * ·) 1) n vs) (zeroMat n n) m = .yes) :
    upbV dims n vs surj m = .ok .no ↔ NotUPBList dims (max n dims.length) surj (upbFactor dims n vs) :=
  (upbV_verdict dims n vs surj m hprod hgram).1.trans (upbWitness_iff dims n vs surj)

theorem upbV_yes_iff (dims : List Nat) (n : Nat) (vs : Nat → Nat → QI) (surj : Bool) (m : Rat)
    (hprod : ∀ k, k < n → isProductExact dims (vs k) = true)
    (hgram : 2 ≤ n → eqV (gramOffDiag (dims.foldl (· * ·) 1) n vs) (zeroMat n n) m = .yes) :
    upbV dims n vs surj m = .ok .yes ↔
      ¬ ∃ asg : List Nat, asg.length = max n dims.length ∧ (∀ x ∈ asg, x < dims.length) ∧
        (surj = true → ∀ i, i < dims.length → i ∈ asg) ∧
        ∀ i, i < dims.length → ∃ y : Fin (dims.getD i 1) → ℂ, y ≠ 0 ∧
          ∀ k, k < max n dims.length → asg.getD k 0 = i →
            ∑ t : Fin (dims.getD i 1), (upbFactor dims n vs k i t.val).toC * y t = 0 :=
  ((upbV_verdict dims n vs surj m hprod hgram).2.trans Bool.eq_false_iff).trans (not_congr (upbWitness_iff dims n vs surj))

structure PermOn (n : Nat) (σ τ : Nat → Nat) : Prop where
  lt : ∀ k, k < n → σ k < n
  inv_lt : ∀ k, k < n → τ k < n
  left_inv : ∀ k, k < n → τ (σ k) = k
  right_inv : ∀ k, k < n → σ (τ k) = k

theorem PermOn.symm {n : Nat} {σ τ : Nat → Nat} (h : PermOn n σ τ) : PermOn n τ σ := ⟨h.inv_lt, h.lt, h.right_inv, h.left_inv⟩

def extendPerm (n : Nat) (σ : Nat → Nat) : Nat → Nat := fun k => if k < n then σ k else k

theorem PermOn.extend {n N : Nat} {σ τ : Nat → Nat} (h : PermOn n σ τ) (hN : n ≤ N) :
    PermOn N (extendPerm n σ) (extendPerm n τ) := by
  have key : ∀ {σ τ : Nat → Nat}, PermOn n σ τ → (∀ k, k < N → extendPerm n σ k < N) ∧
      ∀ k, extendPerm n τ (extendPerm n σ k) = k := by
    intro σ τ h
    refine ⟨fun k hk => ?_, fun k => ?_⟩
    · unfold extendPerm; split
      · next hkn => exact lt_of_lt_of_le (h.lt k hkn) hN
      · exact hk
    · unfold extendPerm
      by_cases hkn : k < n
      · rw [if_pos hkn, if_pos (h.lt k hkn), h.left_inv k hkn]
      · rw [if_neg hkn, if_neg hkn]
  exact ⟨(key h).1, (key h.symm).1, fun k _ => (key h).2 k, fun k _ => (key h.symm).2 k⟩

theorem notUPB_transport (dims : List Nat) (n' : Nat) (surj : Bool) (F F' : Nat → Nat → Nat → QI) (σ τ : Nat → Nat)
    (hp : PermOn n' σ τ) (hF : ∀ k, k < n' → ∀ i t, F' k i t = F (σ k) i t) :
    NotUPB dims n' surj F' → NotUPB dims n' surj F := by
  rintro ⟨a, ⟨hlt, hy⟩, hs⟩
  refine ⟨fun k => a (τ k), ⟨fun k hk => hlt _ (hp.inv_lt k hk), fun i hi => ?_⟩, fun hsurj i hi => ?_⟩
  · obtain ⟨y, hy0, hyk⟩ := hy i hi
    refine ⟨y, hy0, fun k hk hki => ?_⟩
    have := hyk (τ k) (hp.inv_lt k hk) hki
    simpa only [hF (τ k) (hp.inv_lt k hk), hp.right_inv k hk] using this
  · obtain ⟨k, hk, hki⟩ := hs hsurj i hi
    exact ⟨σ k, hp.lt k hk, by show a (τ (σ k)) = i; rw [hp.left_inv k hk]; exact hki⟩

/-- the factor table of the reordered list is the reordered factor table (padding vectors stay in place) -/
theorem upbFactor_perm (dims : List Nat) (n : Nat) (vs : Nat → Nat → QI) (σ : Nat → Nat)
    (hσ : ∀ k, k < n → σ k < n) (k i t : Nat) :
    upbFactor dims n (fun k => vs (σ k)) k i t = upbFactor dims n vs (extendPerm n σ k) i t := by
  unfold extendPerm
  by_cases hk : k < n
  · rw [if_pos hk, upbFactor_lt _ _ _ _ _ _ hk, upbFactor_lt _ _ _ _ _ _ (hσ k hk)]
  · rw [if_neg hk, upbFactor_pad _ _ _ _ _ _ (by omega), upbFactor_pad _ _ _ _ _ _ (by omega)]

theorem upbWitness_perm (dims : List Nat) (n : Nat) (vs : Nat → Nat → QI) (surj : Bool) (σ τ : Nat → Nat)
    (hp : PermOn n σ τ) :
    upbWitness dims n (fun k => vs (σ k)) surj = upbWitness dims n vs surj := by
  rw [Bool.eq_iff_iff, upbWitness_iff, upbWitness_iff, notUPBList_iff, notUPBList_iff]
  have he := hp.extend (le_max_left n dims.length)
  constructor
  · exact notUPB_transport dims _ surj _ _ (extendPerm n σ) (extendPerm n τ) he
      (fun k _ i t => upbFactor_perm dims n vs σ hp.lt k i t)
  · refine notUPB_transport dims _ surj _ _ (extendPerm n τ) (extendPerm n σ) he.symm ?_
    intro k hk i t
    rw [upbFactor_perm dims n vs σ hp.lt, he.right_inv k hk]

theorem all_range_perm (n : Nat) (p : Nat → Bool) (σ τ : Nat → Nat) (hp : PermOn n σ τ) :
    (List.range n).all (fun k => p (σ k)) = (List.range n).all p := by
  rw [Bool.eq_iff_iff, List.all_eq_true, List.all_eq_true]
  simp only [List.mem_range]
  constructor
  · intro h k hk
    have := h (τ k) (hp.inv_lt k hk)
    rwa [hp.right_inv k hk] at this
  · intro h k hk
    exact h (σ k) (hp.lt k hk)

theorem gramOffDiag_yes_iff (D n : Nat) (vs : Nat → Nat → QI) (m : Rat) :
    eqV (gramOffDiag D n vs) (zeroMat n n) m = .yes ↔
      ∀ i j, i < n → j < n → i ≠ j → (gram D n vs).f i j = 0 := by
  rw [eqV_yes_iff (gramOffDiag D n vs) (zeroMat n n) m rfl rfl]
  constructor
  · intro h i j hi hj hij
    have := h i j hi hj
    simpa [gramOffDiag, zeroMat, hij] using this
  · intro h i j hi hj
    by_cases hij : i = j
    · simp [gramOffDiag, zeroMat, hij]
    · have := h i j hi hj hij
      simpa [gramOffDiag, zeroMat, hij] using this

theorem gramOffDiag_yes_perm (D n : Nat) (vs : Nat → Nat → QI) (m : Rat) (σ τ : Nat → Nat) (hp : PermOn n σ τ) :
    eqV (gramOffDiag D n (fun k => vs (σ k))) (zeroMat n n) m = .yes ↔
      eqV (gramOffDiag D n vs) (zeroMat n n) m = .yes := by
  rw [gramOffDiag_yes_iff, gramOffDiag_yes_iff]
  have hg : ∀ i j, (gram D n (fun k => vs (σ k))).f i j = (gram D n vs).f (σ i) (σ j) := fun _ _ => rfl
  constructor
  · intro h i j hi hj hij
    have hne : τ i ≠ τ j := fun he => hij (by rw [← hp.right_inv i hi, ← hp.right_inv j hj, he])
    have := h (τ i) (τ j) (hp.inv_lt i hi) (hp.inv_lt j hj) hne
    rwa [hg, hp.right_inv i hi, hp.right_inv j hj] at this
  · intro h i j hi hj hij
    have hne : σ i ≠ σ j := fun he => hij (by rw [← hp.left_inv i hi, ← hp.left_inv j hj, he])
    rw [hg]
    exact h (σ i) (σ j) (hp.lt i hi) (hp.lt j hj) hne

theorem upbV_perm (dims : List Nat) (n : Nat) (vs : Nat → Nat → QI) (surj : Bool) (m : Rat) (σ τ : Nat → Nat)
    (hσ : ∀ k, k < n → σ k < n) (hτ : ∀ k, k < n → τ k < n)
    (hτσ : ∀ k, k < n → τ (σ k) = k) (hστ : ∀ k, k < n → σ (τ k) = k) :
    upbV dims n (fun k => vs (σ k)) surj m = upbV dims n vs surj m := by
  have hp : PermOn n σ τ := ⟨hσ, hτ, hτσ, hστ⟩
  rw [upbV_eq, upbV_eq, upbWitness_perm dims n vs surj σ τ hp,
    all_range_perm n (fun k => isProductExact dims (vs k)) σ τ hp]
  have hiff := gramOffDiag_yes_perm (dims.foldl (· * ·) 1) n vs m σ τ hp
  have hb : (eqV (gramOffDiag (dims.foldl (· * ·) 1) n (fun k => vs (σ k))) (zeroMat n n) m != Verdict.yes)
      = (eqV (gramOffDiag (dims.foldl (· * ·) 1) n vs) (zeroMat n n) m != Verdict.yes) := by
    rw [Bool.eq_iff_iff]
    simp only [bne_iff_ne, ne_eq, hiff]
  rw [hb]

theorem upbV_perm_equiv (dims : List Nat) (n : Nat) (vs : Nat → Nat → QI) (surj : Bool) (m : Rat)
    (σ : Equiv.Perm (Fin n)) :
    upbV dims n (fun k => if h : k < n then vs (σ ⟨k, h⟩).val else vs k) surj m = upbV dims n vs surj m := by
  have hfun : (fun k => if h : k < n then vs (σ ⟨k, h⟩).val else vs k)
      = (fun k => vs ((fun k => if h : k < n then (σ ⟨k, h⟩).val else k) k)) := by
    funext k
    by_cases h : k < n <;> simp [h]
  rw [hfun]
  refine upbV_perm dims n vs surj m _ (fun k => if h : k < n then (σ.symm ⟨k, h⟩).val else k) ?_ ?_ ?_ ?_
  · intro k hk; simp [hk]
  · intro k hk; simp [hk]
  · intro k hk; simp [hk]
  · intro k hk; simp [hk]

theorem exists_kernel_single_row (d : Nat) (hd : 2 ≤ d) (f : Fin d → ℂ) :
    ∃ y : Fin d → ℂ, y ≠ 0 ∧ ∑ t, f t * y t = 0 := by
  have h : (Matrix.of fun (_ : Fin 1) (t : Fin d) => f t).rank < d :=
    lt_of_le_of_lt (Matrix.rank_le_height _) (by omega)
  obtain ⟨y, hy0, hy⟩ := (Matrix.rank_lt_cols_iff_kernel _).mp h
  refine ⟨y, hy0, ?_⟩
  have := congrFun hy 0
  simpa [Matrix.mulVec, dotProduct] using this

open Classical in
noncomputable def emptyParties (np n' : Nat) (a : Nat → Nat) : Finset Nat :=
  (Finset.range np).filter (fun i => ∀ k, k < n' → a k ≠ i)

theorem mem_emptyParties (np n' : Nat) (a : Nat → Nat) (i : Nat) :
    i ∈ emptyParties np n' a ↔ i < np ∧ ∀ k, k < n' → a k ≠ i := by
  unfold emptyParties
  simp

/-- serve an empty party with a vector taken from a party that has at least two -/
theorem upbValid_step (dims : List Nat) (n' : Nat) (F : Nat → Nat → Nat → QI)
    (hn : dims.length ≤ n') (hd : ∀ i, i < dims.length → 2 ≤ dims.getD i 1)
    (a : Nat → Nat) (hv : UpbValid dims n' F a) (i : Nat) (hi : i ∈ emptyParties dims.length n' a) :
    ∃ a', UpbValid dims n' F a' ∧ emptyParties dims.length n' a' ⊆ (emptyParties dims.length n' a).erase i := by
  classical
  obtain ⟨hinp, hiempty⟩ := (mem_emptyParties _ _ _ _).mp hi
  obtain ⟨hlt, hy⟩ := hv
  -- pigeonhole: two vectors at the same party
  have hcard : ((Finset.range dims.length).erase i).card < (Finset.range n').card := by
    rw [Finset.card_erase_of_mem (Finset.mem_range.mpr hinp), Finset.card_range, Finset.card_range]
    omega
  have hmaps : Set.MapsTo a (Finset.range n') ((Finset.range dims.length).erase i) := by
    intro k hk
    have hk' : k < n' := Finset.mem_range.mp hk
    exact Finset.mem_coe.mpr (Finset.mem_erase.mpr ⟨hiempty k hk', Finset.mem_range.mpr (hlt k hk')⟩)
  obtain ⟨k1, hk1, k2, hk2, hne, heq⟩ := Finset.exists_ne_map_eq_of_card_lt_of_maps_to hcard hmaps
  have hk1' : k1 < n' := Finset.mem_range.mp hk1
  have hk2' : k2 < n' := Finset.mem_range.mp hk2
  -- the new distribution sends `k1` to `i` and agrees with `a` elsewhere
  have hup : ∀ k, (k = k1 ∧ Function.update a k1 i k = i) ∨ (k ≠ k1 ∧ Function.update a k1 i k = a k) := fun k =>
    (eq_or_ne k k1).imp (fun h => ⟨h, h ▸ Function.update_self ..⟩) fun h => ⟨h, Function.update_of_ne h ..⟩
  refine ⟨Function.update a k1 i, ⟨fun k hk => ?_, fun i' hi' => ?_⟩, fun i' hi' => ?_⟩
  · rcases hup k with ⟨_, e⟩ | ⟨_, e⟩ <;> rw [e]
    exacts [hinp, hlt k hk]
  · by_cases hii : i' = i
    · -- party `i` holds `k1` only: one linear condition
      subst hii
      obtain ⟨y, hy0, hyk⟩ := exists_kernel_single_row (dims.getD i' 1) (hd i' hi') (fun t => (F k1 i' t.val).toC)
      refine ⟨y, hy0, fun k hk hki => ?_⟩
      rcases hup k with ⟨rfl, _⟩ | ⟨_, e⟩
      · exact hyk
      · exact absurd (e.symm.trans hki) (hiempty k hk)
    · -- every other party keeps a subset of its vectors
      obtain ⟨y, hy0, hyk⟩ := hy i' hi'
      refine ⟨y, hy0, fun k hk hki => ?_⟩
      rcases hup k with ⟨_, e⟩ | ⟨_, e⟩
      · exact absurd (hki.symm.trans e) hii
      · exact hyk k hk (e.symm.trans hki)
  · -- an empty party of the new distribution is not `i` and was empty before: `k2` still serves the party of `k1`
    obtain ⟨hi'np, hi'empty⟩ := (mem_emptyParties _ _ _ _).mp hi'
    have hii : i' ≠ i := fun he => hi'empty k1 hk1' (((hup k1).resolve_right fun h => h.1 rfl).2.trans he.symm)
    refine Finset.mem_erase.mpr ⟨hii, (mem_emptyParties _ _ _ _).mpr ⟨hi'np, fun k hk => ?_⟩⟩
    rcases hup k with ⟨rfl, _⟩ | ⟨_, e⟩
    · rw [heq, ← ((hup k2).resolve_left fun h => hne h.1.symm).2]
      exact hi'empty k2 hk2'
    · rw [← e]
      exact hi'empty k hk

theorem upbValid_surj (dims : List Nat) (n' : Nat) (F : Nat → Nat → Nat → QI)
    (hn : dims.length ≤ n') (hd : ∀ i, i < dims.length → 2 ≤ dims.getD i 1) :
    ∀ (c : Nat) (a : Nat → Nat), (emptyParties dims.length n' a).card ≤ c → UpbValid dims n' F a →
      ∃ a', UpbValid dims n' F a' ∧ ∀ i, i < dims.length → ∃ k, k < n' ∧ a' k = i := by
  -- without empty parties the distribution is surjective
  have surj_of_empty : ∀ a, emptyParties dims.length n' a = ∅ → ∀ i, i < dims.length → ∃ k, k < n' ∧ a k = i := by
    intro a hempty i hi
    have hnot : i ∉ emptyParties dims.length n' a := by rw [hempty]; exact Finset.notMem_empty i
    rw [mem_emptyParties] at hnot
    by_contra hcon
    exact hnot ⟨hi, fun k hk hki => hcon ⟨k, hk, hki⟩⟩
  intro c
  induction c with
  | zero =>
    intro a hc hv
    exact ⟨a, hv, surj_of_empty a (Finset.card_eq_zero.mp (Nat.le_zero.mp hc))⟩
  | succ c ih =>
    intro a hc hv
    by_cases hempty : emptyParties dims.length n' a = ∅
    · exact ⟨a, hv, surj_of_empty a hempty⟩
    · obtain ⟨i, hi⟩ := Finset.nonempty_iff_ne_empty.mpr hempty
      obtain ⟨a', hv', hsub⟩ := upbValid_step dims n' F hn hd a hv i hi
      refine ih a' ?_ hv'
      have h1 := Finset.card_le_card hsub
      rw [Finset.card_erase_of_mem hi] at h1
      omega

theorem notUPB_surj_iff (dims : List Nat) (n' : Nat) (F : Nat → Nat → Nat → QI)
    (hn : dims.length ≤ n') (hd : ∀ i, i < dims.length → 2 ≤ dims.getD i 1) :
    NotUPB dims n' true F ↔ NotUPB dims n' false F := by
  constructor
  · rintro ⟨a, hv, _⟩
    exact ⟨a, hv, fun h => absurd h (by decide)⟩
  · rintro ⟨a, hv, _⟩
    obtain ⟨a', hv', hs⟩ := upbValid_surj dims n' F hn hd _ a (le_refl _) hv
    exact ⟨a', hv', fun _ => hs⟩

theorem upbV_no_iff_fn (dims : List Nat) (n : Nat) (vs : Nat → Nat → QI) (surj : Bool) (m : Rat)
    (hprod : ∀ k, k < n → isProductExact dims (vs k) = true)
    (hgram : 2 ≤ n → eqV (gramOffDiag (dims.foldl (· * ·) 1) n vs) (zeroMat n n) m = .yes) :
    upbV dims n vs surj m = .ok .no ↔
      ∃ a : Nat → Nat, (∀ k, k < max n dims.length → a k < dims.length) ∧
        (surj = true → ∀ i, i < dims.length → ∃ k, k < max n dims.length ∧ a k = i) ∧
        ∀ i, i < dims.length → ∃ y : Fin (dims.getD i 1) → ℂ, y ≠ 0 ∧
          ∀ k, k < max n dims.length → a k = i →
            ∑ t : Fin (dims.getD i 1), (upbFactor dims n vs k i t.val).toC * y t = 0 := by
  rw [upbV_no_iff dims n vs surj m hprod hgram]
  exact (notUPBList_iff dims (max n dims.length) surj (upbFactor dims n vs)).trans
    ⟨fun ⟨a, ⟨h1, h3⟩, h2⟩ => ⟨a, h1, h2, h3⟩, fun ⟨a, h1, h2, h3⟩ => ⟨a, ⟨h1, h3⟩, h2⟩⟩

/-- `|00⟩, i|01⟩, |1⟩(|0⟩+|1⟩), |1⟩(|0⟩-|1⟩)` in `ℂ² ⊗ ℂ²` (unnormalised) -/
def upbExample : Nat → Nat → QI := fun k j =>
  match k, j with
  | 0, 0 => 1
  | 1, 1 => ⟨0, 1⟩
  | 2, 2 => 1
  | 2, 3 => 1
  | 3, 2 => 1
  | 3, 3 => -1
  | _, _ => 0

/-- the guards are satisfiable: the first three vectors are exactly product and mutually orthogonal and do not form a UPB
    (`|1⟩(|0⟩-|1⟩)` is orthogonal to them); all four (a full product basis) do; a reordering gives the same answer -/
example : (∀ k, k < 3 → isProductExact [2, 2] (upbExample k) = true) ∧
    eqV (gramOffDiag 4 3 upbExample) (zeroMat 3 3) (1 / 1000) = .yes ∧
    upbV [2, 2] 3 upbExample true (1 / 1000) = .ok .no ∧
    upbV [2, 2] 3 (fun k => upbExample ([2, 0, 1].getD k 0)) true (1 / 1000) = .ok .no ∧
    upbV [2, 2] 4 upbExample true (1 / 1000) = .ok .yes := by
  decide +kernel

end Toq.MatrixPreds
