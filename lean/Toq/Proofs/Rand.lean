import Toq.Model.Rand
import Toq.Spec.Rand
import Toq.Proofs.Povm
import Mathlib.Algebra.BigOperators.Group.Finset.Basic
import Mathlib.RingTheory.RootsOfUnity.Complex
import Mathlib.Tactic.Ring
/-!
# Lemmas behind C19

The seeding state machine `Toq.Rand.run`: both "does not disturb" properties are views of one theorem, `run_filter_view` (deleting the
operations outside a class is invisible through a view of the world that those operations do not change and the others read alone).
Then matrix algebra over ℂ for the post-processing of the generators: the pretty good measurement as a conjugated family
(`povm_of_conj`), the pretty bad one as the frame measurement at `λ = 1` (`isPOVM_framePovm`), the Born rule of `measure`, and the
circulant Gram matrix `Fᴴ diag(λ) F`, whose entries are sums of
`star (ω ^ a) * ω ^ b` and so depend on `b - a` modulo the order of the root only (`star_pow_mul_pow_congr`); NumPy's root
`dftRoot d` is a primitive `d`-th root of unity, and only the cosine formula of the entries needs its polar form.
-/

open Matrix
open scoped ComplexOrder MatrixOrder

namespace Toq.Rand

section machine
variable {Gen Args Seed G E V : Type}

theorem run_nil (env : Env Gen Args Seed G E V) (w : World G E) : run env w [] = (w, []) := rfl

theorem run_cons (env : Env Gen Args Seed G E V) (w : World G E) (op : Op Gen Args) (rest : List (Op Gen Args)) :
    run env w (op :: rest) = ((run env (step env w op).1 rest).1, (step env w op).2 :: (run env (step env w op).1 rest).2) := rfl

theorem step_seeded (env : Env Gen Args Seed G E V) (w : World G E) (g : Gen) (a : Args) (s : Nat) :
    step env w (.seeded g a s) = (w, some (env.draws g a (env.user s))) := rfl

theorem run_length (env : Env Gen Args Seed G E V) : ∀ (h : List (Op Gen Args)) (w : World G E), (run env w h).2.length = h.length
  | [], _ => rfl
  | op :: rest, w => by rw [run_cons, List.length_cons, List.length_cons, run_length env rest]

theorem run_getElem? (env : Env Gen Args Seed G E V) : ∀ (h : List (Op Gen Args)) (w : World G E) (i : Nat) (op : Op Gen Args),
    h[i]? = some op → (run env w h).2[i]? = some (step env (run env w (h.take i)).1 op).2
  | [], _, _, _, hi => by simp at hi
  | _ :: _, _, 0, _, hi => by
    rw [List.getElem?_cons_zero, Option.some.injEq] at hi
    subst hi
    rfl
  | _ :: rest, _, i + 1, op, hi => by
    rw [List.getElem?_cons_succ] at hi
    rw [run_cons, List.getElem?_cons_succ, List.take_succ_cons, run_cons]
    exact run_getElem? env rest _ i op hi

theorem step_world_of_seeded (env : Env Gen Args Seed G E V) (w : World G E) :
    ∀ op : Op Gen Args, op.isSeeded = true → (step env w op).1 = w
  | .seeded _ _ _, _ => rfl

theorem step_glob_of_not_global (env : Env Gen Args Seed G E V) (w : World G E) :
    ∀ op : Op Gen Args, op.isGlobal = false → (step env w op).1.glob = w.glob
  | .seeded _ _ _, _ => rfl
  | .unseeded _ _, _ => rfl
  | .rngDraw _, _ => rfl
  | .rngDrawFresh, _ => rfl

theorem step_global_congr (env : Env Gen Args Seed G E V) (w w' : World G E) (hg : w.glob = w'.glob) :
    ∀ op : Op Gen Args, op.isGlobal = true →
      (step env w op).1.glob = (step env w' op).1.glob ∧ (step env w op).2 = (step env w' op).2
  | .npSeed _, _ => ⟨rfl, rfl⟩
  | .globalDraw, _ => by
      show (env.gnext w.glob).1 = (env.gnext w'.glob).1 ∧ some (env.gnext w.glob).2 = some (env.gnext w'.glob).2
      rw [hg]; exact ⟨rfl, rfl⟩

theorem run_filter_view {α : Type} (env : Env Gen Args Seed G E V) (p : Op Gen Args → Bool) (view : World G E → α)
    (hskip : ∀ w op, p op = false → view (step env w op).1 = view w)
    (hread : ∀ w w' op, p op = true → view w = view w' →
      view (step env w op).1 = view (step env w' op).1 ∧ (step env w op).2 = (step env w' op).2) :
    ∀ (h : List (Op Gen Args)) (w w' : World G E), view w = view w' →
      view (run env w' (h.filter p)).1 = view (run env w h).1 ∧
      (run env w' (h.filter p)).2 = outputsWhere p h (run env w h).2
  | [], w, w', hv => ⟨hv.symm, rfl⟩
  | op :: rest, w, w', hv => by
      cases hop : p op
      · have ih := run_filter_view env p view hskip hread rest (step env w op).1 w' ((hskip w op hop).trans hv)
        simpa only [List.filter, hop, run_cons, outputsWhere, Bool.false_eq_true, if_false] using ih
      · obtain ⟨h1, h2⟩ := hread w w' op hop hv
        obtain ⟨i1, i2⟩ := run_filter_view env p view hskip hread rest (step env w op).1 (step env w' op).1 h1
        simp only [List.filter, hop, run_cons, outputsWhere, if_true]
        exact ⟨i1, by rw [i2, h2]⟩
end machine

theorem rank_smul_le {m n : Type*} [Fintype n] (c : ℂ) (A : Matrix m n ℂ) : (c • A).rank ≤ A.rank := by
  classical
  have : c • A = A * (c • (1 : Matrix n n ℂ)) := by simp
  rw [this]; exact rank_mul_le_left _ _

theorem norm_csign (z : ℂ) : ‖csign z‖ = 1 := by
  unfold csign
  split_ifs with h
  · exact norm_one
  · rw [norm_div, Complex.norm_real, norm_norm, div_self (norm_ne_zero_iff.mpr h)]

theorem csign_unimodular (z : ℂ) : star (csign z) * csign z = 1 := by
  rw [Complex.star_def, Complex.conj_mul', norm_csign]; norm_num

theorem rsign_unimodular (x : ℝ) : star (rsign x) * rsign x = 1 := by
  unfold rsign; split_ifs <;> simp

section povm
variable {ι : Type*} [Fintype ι] [DecidableEq ι] {κ : Type*} [Fintype κ]

theorem isPOVM_basis : IsPOVM fun i : ι => diagonal fun j : ι => if j = i then (1 : ℂ) else 0 := by
  refine ⟨fun i => PosSemidef.diagonal fun j => ?_, ?_⟩
  · show (0 : ℂ) ≤ if j = i then 1 else 0
    split_ifs
    exacts [zero_le_one, le_rfl]
  · ext a b
    rw [Matrix.sum_apply]
    by_cases h : a = b
    · subst h
      simp only [diagonal_apply_eq, one_apply_eq, Finset.sum_ite_eq, Finset.mem_univ, if_true]
    · simp only [diagonal_apply_ne _ h, one_apply_ne h, Finset.sum_const_zero]

theorem pgm_is_povm (ρ : κ → Matrix ι ι ℂ) (p : κ → ℝ) (S : Matrix ι ι ℂ)
    (hρ : ∀ i, (ρ i).PosSemidef) (hp : ∀ i, 0 ≤ p i) (hS : Sᴴ = S)
    (hSPS : S * (∑ i, (p i : ℂ) • ρ i) * S = 1) :
    IsPOVM (fun i => S * ((p i : ℂ) • ρ i) * S) := by
  have := povm_of_conj S (fun i => (p i : ℂ) • ρ i)
    (fun i => (hρ i).smul_ofReal (hp i)) (by rw [hS]; exact hSPS)
  rwa [hS] at this

theorem pbm_is_povm (G : κ → Matrix ι ι ℂ) (hG : IsPOVM G) (hn : 2 ≤ Fintype.card κ) :
    IsPOVM (fun i => ((Fintype.card κ : ℂ) - 1)⁻¹ • (1 - G i)) := by
  -- the frame measurement `(1 − Gᵢ)/(n − λ)` at `λ = 1`
  have h := isPOVM_framePovm G 1 (by exact_mod_cast hn) hG.one_sub_posSemidef (by rw [hG.2, Complex.ofReal_one, one_smul])
  rwa [← pbmOf_eq_framePovm] at h
end povm

section measure
variable {ι : Type*} [Fintype ι] {μ : Type*} [Fintype μ] {κ : Type*} [Fintype κ]

theorem measure_born (K : Matrix μ ι ℂ) (ρ : Matrix ι ι ℂ) :
    (K * ρ * Kᴴ).trace = (Kᴴ * K * ρ).trace := by
  rw [Matrix.mul_assoc, Matrix.trace_mul_comm, Matrix.trace_mul_comm (Kᴴ * K), Matrix.mul_assoc]

theorem measure_probs_sum_one [DecidableEq ι] (K : κ → Matrix μ ι ℂ) (ρ : Matrix ι ι ℂ) (hK : ∑ i, (K i)ᴴ * K i = 1)
    (hρ : ρ.trace = 1) : ∑ i, (K i * ρ * (K i)ᴴ).trace.re = 1 := by
  simp_rw [measure_born]
  rw [← Complex.re_sum, ← Matrix.trace_sum, ← Matrix.sum_mul, hK, Matrix.one_mul, hρ, Complex.one_re]

theorem measure_post_normalised (K : Matrix μ ι ℂ) (ρ : Matrix ι ι ℂ) (hρ : ρ.PosSemidef)
    (hp : (K * ρ * Kᴴ).trace.re ≠ 0) :
    ((((K * ρ * Kᴴ).trace.re : ℝ) : ℂ)⁻¹ • (K * ρ * Kᴴ)).PosSemidef ∧
    ((((K * ρ * Kᴴ).trace.re : ℝ) : ℂ)⁻¹ • (K * ρ * Kᴴ)).trace = 1 := by
  have hA := hρ.mul_mul_conjTranspose_same K
  rw [← trace_eq_re_of_psd hA]
  exact ⟨hA.inv_trace_smul, trace_inv_trace_smul _ fun h0 => hp (by rw [h0, Complex.zero_re])⟩
end measure

section circulant
variable {d : Nat}

theorem circGram_apply (c : ℝ) (ω : ℂ) (lam : Fin d → ℝ) (i j : Fin d) :
    circGram d c ω lam i j = ∑ k : Fin d, (c : ℂ) ^ 2 * (lam k : ℂ) * (star (ω ^ (k.val * i.val)) * ω ^ (k.val * j.val)) := by
  unfold circGram
  rw [Matrix.mul_apply]
  refine Finset.sum_congr rfl (fun k _ => ?_)
  rw [Matrix.mul_diagonal, conjTranspose_apply, dftMat_apply, dftMat_apply]
  simp only [star_mul', Complex.star_def, Complex.conj_ofReal]
  ring

theorem circGram_psd (c : ℝ) (ω : ℂ) (lam : Fin d → ℝ) (h : ∀ k, 0 ≤ lam k) : (circGram d c ω lam).PosSemidef :=
  (PosSemidef.diagonal fun k => by show (0 : ℂ) ≤ _; exact_mod_cast h k).conjTranspose_mul_mul_same _

theorem star_pow_mul_pow_congr {ω : ℂ} (hu : star ω * ω = 1) {a b a' b' : Nat} (h : ω ^ (a' + b) = ω ^ (a + b')) :
    star (ω ^ a) * ω ^ b = star (ω ^ a') * ω ^ b' := by
  have hinv : ∀ m : Nat, star (ω ^ m) * ω ^ m = 1 := fun m => by rw [star_pow, ← mul_pow, hu, one_pow]
  rw [pow_add, pow_add] at h
  -- insert `star(ω^a') ω^a' = 1` on the left, exchange `ω^a' ω^b` for `ω^a ω^b'`, cancel `star(ω^a) ω^a = 1`
  linear_combination (-(star (ω ^ a) * ω ^ b)) * hinv a' + star (ω ^ a) * star (ω ^ a') * h + star (ω ^ a') * ω ^ b' * hinv a

theorem circGram_circulant (c : ℝ) (ω : ℂ) (lam : Fin d → ℝ) (hω : ω ^ d = 1) (hu : star ω * ω = 1)
    (i j i' j' : Fin d) (h : (i.val + j'.val) % d = (i'.val + j.val) % d) :
    circGram d c ω lam i j = circGram d c ω lam i' j' := by
  rw [circGram_apply, circGram_apply]
  refine Finset.sum_congr rfl (fun k _ => ?_)
  rw [star_pow_mul_pow_congr hu]
  rw [← Nat.mul_add, ← Nat.mul_add, pow_mul', pow_mul', pow_eq_pow_mod (i'.val + j.val) hω, ← h, ← pow_eq_pow_mod _ hω]

theorem posSemidef_re {ι : Type*} [Fintype ι] {C : Matrix ι ι ℂ} (hC : C.PosSemidef) :
    (Matrix.of fun i j => (C i j).re : Matrix ι ι ℝ).PosSemidef := by
  refine PosSemidef.of_dotProduct_mulVec_nonneg ?_ fun x => ?_
  · ext i j
    have := congrArg Complex.re (hC.isHermitian.apply i j)
    rwa [Complex.star_def, Complex.conj_re] at this
  · have e : star x ⬝ᵥ (Matrix.of fun i j => (C i j).re) *ᵥ x
        = ((star fun i => (x i : ℂ)) ⬝ᵥ C *ᵥ fun i => (x i : ℂ)).re := by
      simp only [dotProduct, mulVec, Pi.star_apply, star_trivial, Complex.star_def, Complex.conj_ofReal, Complex.re_sum,
        Complex.mul_re, Complex.ofReal_re, Complex.ofReal_im, mul_zero, zero_mul, sub_zero, Matrix.of_apply]
    rw [e]
    exact (Complex.nonneg_iff.mp (hC.dotProduct_mulVec_nonneg fun i => (x i : ℂ))).1

theorem dftRoot_pow_eq (d n : Nat) : dftRoot d ^ n = Complex.exp ((((-(2 * Real.pi * n / d)) : ℝ) : ℂ) * Complex.I) := by
  unfold dftRoot; rw [← Complex.exp_nat_mul]; congr 1; push_cast; ring

theorem dftRoot_phase (d : Nat) (k i j : Nat) :
    star (dftRoot d ^ (k * i)) * dftRoot d ^ (k * j)
      = Complex.exp ((((-(2 * Real.pi * k * ((j : ℝ) - i) / d)) : ℝ) : ℂ) * Complex.I) := by
  rw [dftRoot_pow_eq, dftRoot_pow_eq, Complex.star_def, ← Complex.exp_conj, ← Complex.exp_add]
  congr 1
  simp only [map_mul, Complex.conj_ofReal, Complex.conj_I]
  push_cast; ring

theorem dftRoot_isPrimitiveRoot (d : Nat) (hd : d ≠ 0) : IsPrimitiveRoot (dftRoot d) d := by
  unfold dftRoot
  rw [neg_div, Complex.exp_neg]
  exact (Complex.isPrimitiveRoot_exp d hd).inv

end circulant

end Toq.Rand
