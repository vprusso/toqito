import Toq.Proofs.Metrics
/-!
# Matsumoto fidelity: the Hermitian-restricted program computes `tr(ρ # σ)` for positive definite `ρ` (Cree–Sikora)

Feasibility of `ρ # σ`, and `W ≤ ρ # σ` for every Hermitian feasible `W` by a Schur complement and operator monotonicity of the square
root (`sub_posSemidef_of_sq_le_sq`).
-/

open Matrix
open scoped ComplexOrder MatrixOrder

namespace Toq.Metrics
section Matsumoto
variable {ι : Type*} [Fintype ι] [DecidableEq ι]

/-- the matrix geometric mean `ρ # σ = ρ^{1/2} (ρ^{-1/2} σ ρ^{-1/2})^{1/2} ρ^{1/2}` (for invertible `ρ`), written with Mathlib's `CFC.sqrt`
like `docFid`; the proofs rewrite with `geoMean_eq` -/
noncomputable def geoMean (ρ σ : Matrix ι ι ℂ) : Matrix ι ι ℂ :=
  CFC.sqrt ρ * CFC.sqrt ((CFC.sqrt ρ)⁻¹ * σ * (CFC.sqrt ρ)⁻¹) * CFC.sqrt ρ

theorem geoMean_eq (ρ σ : Matrix ι ι ℂ) :
    geoMean ρ σ = sqrtM ρ * sqrtM ((sqrtM ρ)⁻¹ * σ * (sqrtM ρ)⁻¹) * sqrtM ρ := rfl

/-- with `R = √ρ`, `T = √(R⁻¹ σ R⁻¹)`: `ρ # σ = Rᴴ (T R)` and `(T R)ᴴ (T R) = R T² R = σ` -/
theorem geoMean_feasible {ρ σ : Matrix ι ι ℂ} (hρ : ρ.PosDef) (hσ : σ.PosSemidef) :
    (geoMean ρ σ).IsHermitian ∧ FidFeasible ρ σ (geoMean ρ σ) := by
  rw [geoMean_eq]
  set R := sqrtM ρ with hR
  have hRH : R.IsHermitian := sqrtM_isHermitian ρ
  have eR : R * R = ρ := sqrtM_mul_self hρ.posSemidef
  set T := sqrtM (R⁻¹ * σ * R⁻¹) with hT
  have hTH : T.IsHermitian := sqrtM_isHermitian _
  have eT : T * T = R⁻¹ * σ * R⁻¹ := sqrtM_mul_self (sqrtM_inv_conj_posSemidef ρ hσ)
  have hGH : (R * T * R).IsHermitian := by
    unfold Matrix.IsHermitian
    rw [Matrix.conjTranspose_mul, Matrix.conjTranspose_mul, hRH.eq, hTH.eq, Matrix.mul_assoc]
  refine ⟨hGH, ?_⟩
  have hg : FidFeasible (Rᴴ * R) ((T * R)ᴴ * (T * R)) (Rᴴ * (T * R)) := fidFeasible_gram R (T * R)
  have e3 : (T * R)ᴴ * (T * R) = σ := by
    rw [Matrix.conjTranspose_mul, hRH.eq, hTH.eq]
    calc R * T * (T * R) = R * (T * T) * R := by simp only [Matrix.mul_assoc]
      _ = σ := by rw [eT]; exact sqrtM_conj_inv_conj hρ σ
  rwa [e3, hRH.eq, eR, ← Matrix.mul_assoc] at hg

/-- the Schur complement `σ − W ρ⁻¹ W ⪰ 0`, conjugated by `R⁻¹`, is `T² − K² ⪰ 0` with `K = R⁻¹ W R⁻¹`; so `K ⪯ T` and
`tr W = tr(ρ K) ≤ tr(ρ T)` -/
theorem trace_le_trace_geoMean {ρ σ W : Matrix ι ι ℂ} (hρ : ρ.PosDef) (hσ : σ.PosSemidef) (hW : W.IsHermitian)
    (hF : FidFeasible ρ σ W) : W.trace.re ≤ (geoMean ρ σ).trace.re := by
  rw [geoMean_eq]
  set R := sqrtM ρ with hR
  have eR : R * R = ρ := sqrtM_mul_self hρ.posSemidef
  have hRiH : R⁻¹.IsHermitian := (sqrtM_isHermitian ρ).inv
  set T := sqrtM (R⁻¹ * σ * R⁻¹) with hT
  have hTp : T.PosSemidef := sqrtM_posSemidef _
  have eT : T * T = R⁻¹ * σ * R⁻¹ := sqrtM_mul_self (sqrtM_inv_conj_posSemidef ρ hσ)
  set K := R⁻¹ * W * R⁻¹ with hKd
  have hKH : K.IsHermitian := by
    unfold Matrix.IsHermitian
    rw [hKd, Matrix.conjTranspose_mul, Matrix.conjTranspose_mul, hRiH.eq, hW.eq, Matrix.mul_assoc]
  have hρi : ρ⁻¹ = R⁻¹ * R⁻¹ := by rw [← eR, Matrix.mul_inv_rev]
  have : Invertible ρ := hρ.isUnit.invertible
  have hs := ((Matrix.PosDef.fromBlocks₁₁ W σ hρ).mp hF).conjTranspose_mul_mul_same R⁻¹
  have hsch : (T * T - K * K).PosSemidef := by
    rwa [hRiH.eq, hW.eq, hρi, Matrix.mul_sub, Matrix.sub_mul, ← eT,
      show R⁻¹ * (W * (R⁻¹ * R⁻¹) * W) * R⁻¹ = K * K by rw [hKd]; simp only [Matrix.mul_assoc]] at hs
  have hnn := psd_trace_mul_nonneg hρ.posSemidef (sub_posSemidef_of_sq_le_sq hKH hTp hsch)
  have eW : W = R * K * R := by rw [hKd, hR]; exact (sqrtM_conj_inv_conj hρ W).symm
  rw [eW, hR, trace_sqrtM_conj hρ.posSemidef, trace_sqrtM_conj hρ.posSemidef]
  rw [Matrix.mul_sub, Matrix.trace_sub, Complex.sub_re] at hnn
  linarith

theorem matsumotoV_eq_trace_geoMean {ρ σ : Matrix ι ι ℂ} (hρ : ρ.PosDef) (hσ : σ.PosSemidef) :
    matsumotoV ρ σ = (geoMean ρ σ).trace.re :=
  le_antisymm (matsumotoV_le hρ.posSemidef hσ fun _ hW hF => trace_le_trace_geoMean hρ hσ hW hF)
    (le_matsumotoV (geoMean_feasible hρ hσ).1 (geoMean_feasible hρ hσ).2)

end Matsumoto
end Toq.Metrics
