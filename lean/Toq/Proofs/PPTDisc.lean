import Toq.Model.PPTDisc
import Toq.Proofs.Discrim
import Toq.Proofs.Bipartite
import Mathlib.LinearAlgebra.Matrix.Kronecker
/-!
# C12: the partial transpose, the PPT duality gap, soundness of the checkers

An operator on `ℂ^dA ⊗ ℂ^dB` is a matrix on composite indices `Fin (dA * dB)` (`i = a·dB + b`); `toP` / `ofP` read it on index
pairs and back (`Matrix.reindex` along `finProdFinEquiv`).  On pairs the partial transpose `pTBp` is `Matrix.pTR` of `Proofs/Bipartite`
(`pTBp_eq`; `pTAp` is its transpose, `pTAp_eq`, which is `Matrix.pTL` by `rfl`), whose algebra is carried over:
`pTBf = ofP ∘ pTR ∘ toP`, `kronF A B = ofP (A ⊗ₖ B)`.  `T_A = (T_B)ᵀ`, so a
statement that holds of `T_B` and survives a transpose holds of `pTf sys` for every `sys` (`pTf_cases`).

* the bridge from the executable `Toq.PPTDisc.pTB`/`pTA`/`pT` on exact matrices;
* the duality gap for any trace-self-adjoint positivity constraint (`ppt_gap_gen`), weak duality as its sign, complementary slackness
  as its vanishing, and soundness of the core checkers;
* the constraints of level 2 of the symmetric-extension hierarchy (`SymExt2`) and their satisfaction by product operators.
-/

open Matrix
open scoped ComplexOrder MatrixOrder Kronecker

namespace Toq.PPTDisc

section Prod
variable {m n : Type*}
variable {R : Type*}

/-- partial transpose on the second factor -/
def pTBp (X : Matrix (m × n) (m × n) R) : Matrix (m × n) (m × n) R :=
  fun i j => X (i.1, j.2) (j.1, i.2)

/-- partial transpose on the first factor -/
def pTAp (X : Matrix (m × n) (m × n) R) : Matrix (m × n) (m × n) R :=
  fun i j => X (j.1, i.2) (i.1, j.2)

theorem pTBp_eq (X : Matrix (m × n) (m × n) R) : pTBp X = pTR X := rfl

theorem pTAp_eq (X : Matrix (m × n) (m × n) R) : pTAp X = (pTBp X)ᵀ := rfl

theorem pTAp_kronecker [Mul R] (A : Matrix m m R) (B : Matrix n n R) : pTAp (A ⊗ₖ B) = Aᵀ ⊗ₖ B := rfl

end Prod

section FinLevel
variable {dA dB : Nat} {R : Type*}

/-- view a matrix on composite indices `a·dB + b` as a matrix on index pairs `(a, b)` -/
def toP (X : Matrix (Fin (dA * dB)) (Fin (dA * dB)) R) : Matrix (Fin dA × Fin dB) (Fin dA × Fin dB) R :=
  X.submatrix finProdFinEquiv finProdFinEquiv

/-- a matrix on index pairs `(a, b)` as a matrix on composite indices -/
def ofP (Z : Matrix (Fin dA × Fin dB) (Fin dA × Fin dB) R) : Matrix (Fin (dA * dB)) (Fin (dA * dB)) R :=
  Z.submatrix finProdFinEquiv.symm finProdFinEquiv.symm

@[simp] theorem toP_ofP (Z : Matrix (Fin dA × Fin dB) (Fin dA × Fin dB) R) : toP (ofP Z) = Z :=
  (Matrix.reindex finProdFinEquiv finProdFinEquiv).symm_apply_apply Z

@[simp] theorem ofP_toP (X : Matrix (Fin (dA * dB)) (Fin (dA * dB)) R) : ofP (toP X) = X :=
  (Matrix.reindex finProdFinEquiv finProdFinEquiv).apply_symm_apply X

theorem ofP_mul [NonUnitalNonAssocSemiring R] (Z W : Matrix (Fin dA × Fin dB) (Fin dA × Fin dB) R) :
    ofP (Z * W) = ofP Z * ofP W :=
  (Matrix.submatrix_mul_equiv Z W _ _ _).symm

theorem toP_mul [NonUnitalNonAssocSemiring R] (X Y : Matrix (Fin (dA * dB)) (Fin (dA * dB)) R) :
    toP (X * Y) = toP X * toP Y :=
  (Matrix.submatrix_mul_equiv X Y _ _ _).symm

theorem trace_ofP [AddCommMonoid R] (Z : Matrix (Fin dA × Fin dB) (Fin dA × Fin dB) R) :
    (ofP Z).trace = Z.trace :=
  trace_submatrix_equiv finProdFinEquiv.symm Z

theorem ofP_one [Zero R] [One R] : ofP (1 : Matrix (Fin dA × Fin dB) (Fin dA × Fin dB) R) = 1 :=
  Matrix.submatrix_one_equiv _

theorem ofP_conjTranspose [Star R] (Z : Matrix (Fin dA × Fin dB) (Fin dA × Fin dB) R) :
    ofP Zᴴ = (ofP Z)ᴴ := rfl

theorem ofP_transpose (Z : Matrix (Fin dA × Fin dB) (Fin dA × Fin dB) R) : ofP Zᵀ = (ofP Z)ᵀ := rfl

theorem ofP_sum [AddCommMonoid R] {ι : Type*} (s : Finset ι) (Z : ι → Matrix (Fin dA × Fin dB) (Fin dA × Fin dB) R) :
    ofP (∑ a ∈ s, Z a) = ∑ a ∈ s, ofP (Z a) :=
  Matrix.submatrix_sum s Z _ _

theorem toP_sum [AddCommMonoid R] {ι : Type*} (s : Finset ι) (X : ι → Matrix (Fin (dA * dB)) (Fin (dA * dB)) R) :
    toP (∑ a ∈ s, X a) = ∑ a ∈ s, toP (X a) :=
  Matrix.submatrix_sum s X _ _

theorem ofP_posSemidef {Z : Matrix (Fin dA × Fin dB) (Fin dA × Fin dB) ℂ} :
    (ofP Z).PosSemidef ↔ Z.PosSemidef := Matrix.posSemidef_submatrix_equiv _

theorem toP_posSemidef {X : Matrix (Fin (dA * dB)) (Fin (dA * dB)) ℂ} :
    (toP X).PosSemidef ↔ X.PosSemidef := Matrix.posSemidef_submatrix_equiv _

def pTBf (X : Matrix (Fin (dA * dB)) (Fin (dA * dB)) R) : Matrix (Fin (dA * dB)) (Fin (dA * dB)) R :=
  ofP (pTBp (toP X))

def pTAf (X : Matrix (Fin (dA * dB)) (Fin (dA * dB)) R) : Matrix (Fin (dA * dB)) (Fin (dA * dB)) R :=
  ofP (pTAp (toP X))

/-- partial transpose on party `sys` (`0` = first, otherwise second) -/
def pTf (sys : Nat) (X : Matrix (Fin (dA * dB)) (Fin (dA * dB)) R) :
    Matrix (Fin (dA * dB)) (Fin (dA * dB)) R :=
  if sys = 0 then pTAf X else pTBf X

/-- Kronecker product on composite indices -/
def kronF [Mul R] (A : Matrix (Fin dA) (Fin dA) R) (B : Matrix (Fin dB) (Fin dB) R) :
    Matrix (Fin (dA * dB)) (Fin (dA * dB)) R :=
  ofP (A ⊗ₖ B)

theorem pTf_sys_zero (X : Matrix (Fin (dA * dB)) (Fin (dA * dB)) R) : pTf 0 X = pTAf X := if_pos rfl

theorem pTf_sys_one (X : Matrix (Fin (dA * dB)) (Fin (dA * dB)) R) : pTf 1 X = pTBf X := if_neg one_ne_zero

theorem pTf_cases {P : (Matrix (Fin (dA * dB)) (Fin (dA * dB)) R → Matrix (Fin (dA * dB)) (Fin (dA * dB)) R) → Prop}
    (sys : Nat) (hB : P pTBf) (hA : P fun X => (pTBf X)ᵀ) : P (pTf sys) := by
  by_cases h : sys = 0
  · exact (funext fun X => if_pos h : pTf sys = fun X => (pTBf X)ᵀ) ▸ hA
  · exact (funext fun X => if_neg h : pTf sys = pTBf) ▸ hB

theorem pTBf_eq (X : Matrix (Fin (dA * dB)) (Fin (dA * dB)) R) : pTBf X = ofP (pTR (toP X)) := rfl

theorem pTBf_apply (X : Matrix (Fin (dA * dB)) (Fin (dA * dB)) R) (i j : Fin (dA * dB)) :
    pTBf X i j = X (finProdFinEquiv ((finProdFinEquiv.symm i).1, (finProdFinEquiv.symm j).2))
      (finProdFinEquiv ((finProdFinEquiv.symm j).1, (finProdFinEquiv.symm i).2)) := rfl

theorem pTAf_eq_transpose (X : Matrix (Fin (dA * dB)) (Fin (dA * dB)) R) : pTAf X = (pTBf X)ᵀ := rfl

theorem pTBf_transpose (X : Matrix (Fin (dA * dB)) (Fin (dA * dB)) R) : pTBf Xᵀ = (pTBf X)ᵀ := rfl

theorem pTBf_add [Add R] (X Y : Matrix (Fin (dA * dB)) (Fin (dA * dB)) R) :
    pTBf (X + Y) = pTBf X + pTBf Y := rfl
theorem pTBf_sub [Sub R] (X Y : Matrix (Fin (dA * dB)) (Fin (dA * dB)) R) :
    pTBf (X - Y) = pTBf X - pTBf Y := rfl
theorem pTBf_smul {S : Type*} [SMul S R] (c : S) (X : Matrix (Fin (dA * dB)) (Fin (dA * dB)) R) :
    pTBf (c • X) = c • pTBf X := rfl
theorem pTBf_zero [Zero R] : pTBf (0 : Matrix (Fin (dA * dB)) (Fin (dA * dB)) R) = 0 := rfl

theorem pTBf_sum [AddCommMonoid R] {ι : Type*} (s : Finset ι)
    (X : ι → Matrix (Fin (dA * dB)) (Fin (dA * dB)) R) : pTBf (∑ i ∈ s, X i) = ∑ i ∈ s, pTBf (X i) := by
  simp only [pTBf_eq, toP_sum, pTR_sum, ofP_sum]

theorem pTBf_pTBf (X : Matrix (Fin (dA * dB)) (Fin (dA * dB)) R) : pTBf (pTBf X) = X := by
  rw [pTBf_eq, pTBf_eq, toP_ofP, pTR_pTR, ofP_toP]

theorem trace_pTBf [AddCommMonoid R] (X : Matrix (Fin (dA * dB)) (Fin (dA * dB)) R) :
    (pTBf X).trace = X.trace := by
  rw [pTBf_eq, trace_ofP, trace_pTR, ← trace_ofP, ofP_toP]

theorem trace_pTBf_mul [CommSemiring R] (A B : Matrix (Fin (dA * dB)) (Fin (dA * dB)) R) :
    (pTBf A * B).trace = (A * pTBf B).trace := by
  rw [pTBf_eq, pTBf_eq]
  conv_lhs => rw [← ofP_toP B, ← ofP_mul, trace_ofP, trace_pTR_mul]
  conv_rhs => rw [← ofP_toP A, ← ofP_mul, trace_ofP]

theorem pTBf_kronF [Mul R] (A : Matrix (Fin dA) (Fin dA) R) (B : Matrix (Fin dB) (Fin dB) R) :
    pTBf (kronF A B) = kronF A Bᵀ := by
  rw [pTBf_eq, kronF, toP_ofP, pTR_kronecker, kronF]

theorem kronF_mul [CommSemiring R] (A C : Matrix (Fin dA) (Fin dA) R) (B D : Matrix (Fin dB) (Fin dB) R) :
    kronF A B * kronF C D = kronF (A * C) (B * D) := by
  unfold kronF; rw [← ofP_mul, ← Matrix.mul_kronecker_mul]

theorem kronF_one [MulZeroOneClass R] :
    kronF (1 : Matrix (Fin dA) (Fin dA) R) (1 : Matrix (Fin dB) (Fin dB) R) = 1 :=
  (congrArg ofP Matrix.one_kronecker_one).trans ofP_one

theorem kronF_conjTranspose (A : Matrix (Fin dA) (Fin dA) ℂ) (B : Matrix (Fin dB) (Fin dB) ℂ) :
    (kronF A B)ᴴ = kronF Aᴴ Bᴴ :=
  congrArg ofP (Matrix.conjTranspose_kronecker A B)

theorem kronF_mem_unitaryGroup {U : Matrix (Fin dA) (Fin dA) ℂ} {V : Matrix (Fin dB) (Fin dB) ℂ} (hU : Uᴴ * U = 1) (hV : Vᴴ * V = 1) :
    kronF U V ∈ Matrix.unitaryGroup (Fin (dA * dB)) ℂ := by
  rw [Matrix.mem_unitaryGroup_iff', Matrix.star_eq_conjTranspose, kronF_conjTranspose, kronF_mul, hU, hV, kronF_one]

theorem kronF_posSemidef {A : Matrix (Fin dA) (Fin dA) ℂ} {B : Matrix (Fin dB) (Fin dB) ℂ}
    (hA : A.PosSemidef) (hB : B.PosSemidef) : (kronF A B).PosSemidef :=
  ofP_posSemidef.mpr (hA.kronecker hB)

theorem kronF_sum_left [NonUnitalNonAssocSemiring R] {ι : Type*} (s : Finset ι) (A : ι → Matrix (Fin dA) (Fin dA) R)
    (B : Matrix (Fin dB) (Fin dB) R) : kronF (∑ a ∈ s, A a) B = ∑ a ∈ s, kronF (A a) B :=
  (congrArg ofP (sum_kronecker s A B)).trans (ofP_sum s _)

theorem kronF_sum_right [NonUnitalNonAssocSemiring R] {ι : Type*} (s : Finset ι) (A : Matrix (Fin dA) (Fin dA) R)
    (B : ι → Matrix (Fin dB) (Fin dB) R) : kronF A (∑ b ∈ s, B b) = ∑ b ∈ s, kronF A (B b) :=
  (congrArg ofP (kronecker_sum s A B)).trans (ofP_sum s _)

/-- sum over the guesses first (every outcome pair has exactly one), then over Bob's outcomes, then over Alice's -/
theorem kronF_locc_sum {α β κ : Type*} [Fintype α] [Fintype β] [Fintype κ] [DecidableEq κ]
    {A : α → Matrix (Fin dA) (Fin dA) ℂ} {B : α → β → Matrix (Fin dB) (Fin dB) ℂ} (hAsum : ∑ a, A a = 1)
    (hBsum : ∀ a, ∑ b, B a b = 1) (g : α × β → κ) :
    ∑ i, ∑ ab : α × β, kronF (if g ab = i then A ab.1 else 0) (B ab.1 ab.2) = 1 := by
  rw [Finset.sum_comm]
  simp only [← kronF_sum_left, Finset.sum_ite_eq, Finset.mem_univ, if_true]
  rw [Fintype.sum_prod_type]
  simp only [← kronF_sum_right, hBsum]
  rw [← kronF_sum_left, hAsum, kronF_one]

theorem toP_kronF [Mul R] (A : Matrix (Fin dA) (Fin dA) R) (B : Matrix (Fin dB) (Fin dB) R) :
    toP (kronF A B) = A ⊗ₖ B := toP_ofP _

theorem pTBf_kron_mul_kron [CommSemiring R] (A C : Matrix (Fin dA) (Fin dA) R)
    (B D : Matrix (Fin dB) (Fin dB) R) (X : Matrix (Fin (dA * dB)) (Fin (dA * dB)) R) :
    pTBf (kronF A B * X * kronF C D) = kronF A Dᵀ * pTBf X * kronF C Bᵀ := by
  rw [pTBf_eq, toP_mul, toP_mul, toP_kronF, toP_kronF, pTR_kronecker_mul_kronecker, ofP_mul, ofP_mul]
  rfl

theorem pTf_posSemidef_iff (sys : Nat) (X : Matrix (Fin (dA * dB)) (Fin (dA * dB)) ℂ) :
    (pTf sys X).PosSemidef ↔ (pTBf X).PosSemidef :=
  pTf_cases (P := fun T => (T X).PosSemidef ↔ (pTBf X).PosSemidef) sys Iff.rfl Matrix.posSemidef_transpose_iff

theorem pTAf_posSemidef_iff (X : Matrix (Fin (dA * dB)) (Fin (dA * dB)) ℂ) :
    (pTAf X).PosSemidef ↔ (pTAp (toP X)).PosSemidef := ofP_posSemidef

theorem pTBf_one [MulZeroOneClass R] : pTBf (1 : Matrix (Fin (dA * dB)) (Fin (dA * dB)) R) = 1 := by
  rw [← kronF_one, pTBf_kronF, Matrix.transpose_one]

theorem pTf_one [MulZeroOneClass R] (sys : Nat) : pTf sys (1 : Matrix (Fin (dA * dB)) (Fin (dA * dB)) R) = 1 :=
  pTf_cases (P := fun T => T 1 = 1) sys pTBf_one ((congrArg Matrix.transpose pTBf_one).trans Matrix.transpose_one)

theorem pTf_zero [Zero R] (sys : Nat) : pTf sys (0 : Matrix (Fin (dA * dB)) (Fin (dA * dB)) R) = 0 :=
  pTf_cases (P := fun T => T 0 = 0) sys rfl rfl

theorem pTf_add [Add R] (sys : Nat) (X Y : Matrix (Fin (dA * dB)) (Fin (dA * dB)) R) : pTf sys (X + Y) = pTf sys X + pTf sys Y :=
  pTf_cases (P := fun T => T (X + Y) = T X + T Y) sys (pTBf_add X Y) (congrArg Matrix.transpose (pTBf_add X Y))

theorem pTf_smul {S : Type*} [SMul S R] (sys : Nat) (c : S) (X : Matrix (Fin (dA * dB)) (Fin (dA * dB)) R) :
    pTf sys (c • X) = c • pTf sys X :=
  pTf_cases (P := fun T => T (c • X) = c • T X) sys (pTBf_smul c X) (congrArg Matrix.transpose (pTBf_smul c X))

theorem pTf_pTf (sys : Nat) (X : Matrix (Fin (dA * dB)) (Fin (dA * dB)) R) : pTf sys (pTf sys X) = X :=
  pTf_cases (P := fun T => T (T X) = X) sys (pTBf_pTBf X)
    (by simp only [pTBf_transpose, pTBf_pTBf, Matrix.transpose_transpose])

theorem trace_pTf [AddCommMonoid R] (sys : Nat) (X : Matrix (Fin (dA * dB)) (Fin (dA * dB)) R) : (pTf sys X).trace = X.trace :=
  pTf_cases (P := fun T => (T X).trace = X.trace) sys (trace_pTBf X) ((Matrix.trace_transpose _).trans (trace_pTBf X))

/-- for `T_A = (T_B)ᵀ` move the transpose to `B` first: `tr(Xᵀ B) = tr(X Bᵀ)` -/
theorem trace_pTf_mul [CommSemiring R] (sys : Nat) (A B : Matrix (Fin (dA * dB)) (Fin (dA * dB)) R) :
    (pTf sys A * B).trace = (A * pTf sys B).trace := by
  refine pTf_cases (P := fun T => (T A * B).trace = (A * T B).trace) sys (trace_pTBf_mul A B) ?_
  have h1 : ((pTBf A)ᵀ * B).trace = (pTBf A * Bᵀ).trace := by
    rw [← Matrix.trace_transpose, Matrix.transpose_mul, Matrix.transpose_transpose, Matrix.trace_mul_comm]
  beta_reduce
  rw [h1, trace_pTBf_mul, pTBf_transpose]

theorem pTf_one_posSemidef (sys : Nat) : (pTf sys (1 : Matrix (Fin (dA * dB)) (Fin (dA * dB)) ℂ)).PosSemidef := by
  rw [pTf_one]; exact Matrix.PosSemidef.one

theorem pTf_zero_posSemidef (sys : Nat) : (pTf sys (0 : Matrix (Fin (dA * dB)) (Fin (dA * dB)) ℂ)).PosSemidef := by
  rw [pTf_zero]; exact Matrix.PosSemidef.zero

end FinLevel

section Bridge
open EMat
variable {dA dB : Nat}

theorem mkIdx_eq (a : Fin dA) (b : Fin dB) : mkIdx a b = finProdFinEquiv (a, b) := by
  apply Fin.ext
  simp only [mkIdx, finProdFinEquiv_apply_val]
  rw [Nat.mul_comm, Nat.add_comm]

theorem fstI_eq (i : Fin (dA * dB)) : fstI i = (finProdFinEquiv.symm i).1 := rfl
theorem sndI_eq (i : Fin (dA * dB)) : sndI i = (finProdFinEquiv.symm i).2 := rfl

theorem toM_pTB (X : EMat (dA * dB) (dA * dB)) : (pTB X).toM = pTBf X.toM := by
  ext i j
  simp only [pTB, toM_apply, get_ofFn, pTBf_apply, mkIdx_eq, fstI_eq, sndI_eq]

theorem toM_pTA (X : EMat (dA * dB) (dA * dB)) : (pTA X).toM = pTAf X.toM := by
  ext i j
  simp only [pTA, toM_apply, get_ofFn, pTAf_eq_transpose, Matrix.transpose_apply, pTBf_apply, mkIdx_eq,
    fstI_eq, sndI_eq]

theorem toM_pT (sys : Nat) (X : EMat (dA * dB) (dA * dB)) : (pT sys X).toM = pTf sys X.toM := by
  unfold pT pTf
  split
  · exact toM_pTA X
  · exact toM_pTB X

end Bridge

section Duality
variable {ι κ : Type*} [Fintype ι] [DecidableEq ι] [Fintype κ]
open Toq.Discrim

/-- the minimum-error gap (`Toq.Discrim.me_gap_eq`) for the states shifted by `T(Q_i)`; `tr(T(Q_i) M_i) = tr(Q_i T(M_i))` is the
second sum -/
theorem ppt_gap_gen (T : Matrix ι ι ℂ → Matrix ι ι ℂ)
    (hT : ∀ A B, (T A * B).trace = (A * T B).trace)
    (ρ : κ → Matrix ι ι ℂ) (p : κ → ℝ) (M Q : κ → Matrix ι ι ℂ) (Y : Matrix ι ι ℂ) (hsum : ∑ i, M i = 1) :
    Y.trace.re - Toq.Rand.successProb ρ p M
      = ∑ i, ((Y - (p i : ℂ) • ρ i - T (Q i)) * M i).trace.re + ∑ i, (Q i * T (M i)).trace.re := by
  have h := me_gap_eq (fun i => (p i : ℂ) • ρ i + T (Q i)) M Y hsum
  have hQ : meVal (fun i => T (Q i)) M = ∑ i, (Q i * T (M i)).trace.re :=
    Finset.sum_congr rfl fun i _ => congrArg Complex.re (hT (Q i) (M i))
  rw [meVal_add, meVal_smul, hQ, ← sub_sub, sub_eq_iff_eq_add] at h
  simp only [sub_sub]
  exact h

theorem ppt_weak_duality_gen (T : Matrix ι ι ℂ → Matrix ι ι ℂ)
    (hT : ∀ A B, (T A * B).trace = (A * T B).trace)
    (ρ : κ → Matrix ι ι ℂ) (p : κ → ℝ) {M Q : κ → Matrix ι ι ℂ} {Y : Matrix ι ι ℂ}
    (hM : Toq.Rand.IsPOVM M) (hTM : ∀ i, (T (M i)).PosSemidef)
    (hYQ : ∀ i, (Q i).PosSemidef ∧ (Y - (p i : ℂ) • ρ i - T (Q i)).PosSemidef) :
    Toq.Rand.successProb ρ p M ≤ Y.trace.re := by
  rw [← sub_nonneg, ppt_gap_gen T hT ρ p M Q Y hM.2]
  exact add_nonneg (sum_psd_trace_mul_nonneg (fun i => (hYQ i).2) hM.1) (sum_psd_trace_mul_nonneg (fun i => (hYQ i).1) hTM)

theorem ppt_gap_zero_iff_gen (T : Matrix ι ι ℂ → Matrix ι ι ℂ)
    (hT : ∀ A B, (T A * B).trace = (A * T B).trace)
    (ρ : κ → Matrix ι ι ℂ) (p : κ → ℝ) {M Q : κ → Matrix ι ι ℂ} {Y : Matrix ι ι ℂ}
    (hM : Toq.Rand.IsPOVM M) (hTM : ∀ i, (T (M i)).PosSemidef)
    (hYQ : ∀ i, (Q i).PosSemidef ∧ (Y - (p i : ℂ) • ρ i - T (Q i)).PosSemidef) :
    Toq.Rand.successProb ρ p M = Y.trace.re ↔
      ∀ i, (Y - (p i : ℂ) • ρ i - T (Q i)) * M i = 0 ∧ Q i * T (M i) = 0 := by
  have hS := fun i => (hYQ i).2
  have hQ := fun i => (hYQ i).1
  rw [eq_comm, ← sub_eq_zero, ppt_gap_gen T hT ρ p M Q Y hM.2,
    add_eq_zero_iff_of_nonneg (sum_psd_trace_mul_nonneg hS hM.1) (sum_psd_trace_mul_nonneg hQ hTM),
    sum_psd_trace_mul_eq_zero_iff hS hM.1, sum_psd_trace_mul_eq_zero_iff hQ hTM, forall_and]

end Duality

section Sound
open EMat Toq.Discrim
variable {dA dB : Nat}

theorem lens4Ok_iff (k a b c d : Nat) : lens4Ok k a b c d = true ↔ a = k ∧ b = k ∧ c = k ∧ d = k := by
  simp [lens4Ok, and_assoc]

theorem forall_mem_primalPsdExprs (sys k : Nat) (M : Fin k → EMat (dA * dB) (dA * dB))
    (P : EMat (dA * dB) (dA * dB) → Prop) :
    (∀ E ∈ primalPsdExprs sys k M, P E) ↔ (∀ i, P (M i)) ∧ ∀ i, P (pT sys (M i)) := by
  simp only [primalPsdExprs, List.forall_mem_append, List.forall_mem_map, List.mem_finRange, true_imp_iff]

theorem forall_mem_dualPsdExprs (sys k : Nat) (ρ : Fin k → EMat (dA * dB) (dA * dB)) (p : Fin k → Rat)
    (Y : EMat (dA * dB) (dA * dB)) (Q : Fin k → EMat (dA * dB) (dA * dB)) (P : EMat (dA * dB) (dA * dB) → Prop) :
    (∀ E ∈ dualPsdExprs sys k ρ p Y Q, P E) ↔ (∀ i, P (dualSlack sys k ρ p Y Q i)) ∧ ∀ i, P (Q i) := by
  simp only [dualPsdExprs, List.forall_mem_append, List.forall_mem_map, List.mem_finRange, true_imp_iff]

theorem toM_dualSlack (sys k : Nat) (ρ : Fin k → EMat (dA * dB) (dA * dB)) (p : Fin k → Rat)
    (Y : EMat (dA * dB) (dA * dB)) (Q : Fin k → EMat (dA * dB) (dA * dB)) (i : Fin k) :
    (dualSlack sys k ρ p Y Q i).toM = Y.toM - (((p i : Rat) : ℝ) : ℂ) • (ρ i).toM - pTf sys (Q i).toM := by
  rw [dualSlack, toM_sub, toM_sub, toM_smul, toM_pT]

theorem pptPsdOk_sound {sys k : Nat} {M LT : Fin k → EMat (dA * dB) (dA * dB)} (h : pptPsdOk sys k M LT = true)
    (i : Fin k) : (pTf sys (M i).toM).PosSemidef := by
  rw [← toM_pT]; exact psdCert_sound _ _ ((allFin_iff _ _).mp h i)

theorem checkPPTPrimalFn_sound (sys k : Nat) (ρ : Fin k → EMat (dA * dB) (dA * dB)) (p : Fin k → Rat)
    (M LM LT : Fin k → EMat (dA * dB) (dA * dB)) (lo : Rat)
    (h : checkPPTPrimalFn sys k ρ p M LM LT = some lo) :
    (Toq.Rand.IsPOVM (fun i => (M i).toM) ∧ ∀ i, (pTf sys (M i).toM).PosSemidef) ∧
      Toq.Rand.successProb (fun i => (ρ i).toM) (fun i => ((p i : Rat) : ℝ)) (fun i => (M i).toM) = (lo : ℝ) := by
  obtain ⟨hc, rfl⟩ := check_eq_some.mp h
  simp only [Bool.and_eq_true] at hc
  exact ⟨⟨⟨povmPsdOk_sound hc.1.1, povmSumOk_sound hc.1.2⟩, pptPsdOk_sound hc.2⟩, (minErrValueFn_cast k ρ p M).symm⟩

theorem checkPPTDualFn_sound (sys k : Nat) (ρ : Fin k → EMat (dA * dB) (dA * dB)) (p : Fin k → Rat)
    (Y : EMat (dA * dB) (dA * dB)) (Q LQ LS : Fin k → EMat (dA * dB) (dA * dB)) (hi : Rat)
    (h : checkPPTDualFn sys k ρ p Y Q LQ LS = some hi) :
    (∀ i, (Q i).toM.PosSemidef ∧
        (Y.toM - (((p i : Rat) : ℝ) : ℂ) • (ρ i).toM - pTf sys (Q i).toM).PosSemidef) ∧
      Y.toM.trace.re = (hi : ℝ) := by
  obtain ⟨hc, rfl⟩ := check_eq_some.mp h
  simp only [Bool.and_eq_true] at hc
  exact ⟨fun i => ⟨povmPsdOk_sound hc.1.2 i, psdCert_denote ((allFin_iff _ _).mp hc.2 i) (toM_dualSlack sys k ρ p Y Q i)⟩,
    (re_trace Y).symm⟩

end Sound

/-! Level 2 of the hierarchy written out on index triples `(x, y, y₂)`, for index sets of any type (`Toq.C12.separable_meas_feasible`).
`SymExtAt 1` (`Proofs/PPTDiscHier`) describes the same constraints with the copies as a digit vector `Fin 2 → Fin d`; no theorem
relates the two descriptions. -/

section SymExt2
variable {m n : Type*} [Fintype m] [Fintype n] [DecidableEq m] [DecidableEq n]

/-- trace out the last factor of `X ⊗ Y ⊗ Y₂` -/
def ptrace3 (X : Matrix (m × n × n) (m × n × n) ℂ) : Matrix (m × n) (m × n) ℂ :=
  fun i j => ∑ c, X (i.1, i.2, c) (j.1, j.2, c)

/-- the operator exchanging the two copies `Y ⊗ Y₂` -/
def swapOp (n : Type*) [DecidableEq n] : Matrix (n × n) (n × n) ℂ := fun i j => if i.1 = j.2 ∧ i.2 = j.1 then 1 else 0

/-- projection onto the symmetric subspace of `Y ⊗ Y₂` -/
noncomputable def symProj2 (n : Type*) [DecidableEq n] : Matrix (n × n) (n × n) ℂ := (1 / 2 : ℂ) • (1 + swapOp n)

/-- partial transpose on the first factor `X` of `X ⊗ Y ⊗ Y₂` -/
def pT3X (X : Matrix (m × n × n) (m × n × n) ℂ) : Matrix (m × n × n) (m × n × n) ℂ :=
  fun i j => X (j.1, i.2) (i.1, j.2)

/-- partial transpose on the last factor `Y₂` of `X ⊗ Y ⊗ Y₂` -/
def pT3Y2 (X : Matrix (m × n × n) (m × n × n) ℂ) : Matrix (m × n × n) (m × n × n) ℂ :=
  fun i j => X (i.1, i.2.1, j.2.2) (j.1, j.2.1, i.2.2)

/-- the constraints toqito's `symmetric_extension_hierarchy(level=2)` puts on one measurement operator `M`:
a positive semidefinite extension `X` on `X ⊗ Y ⊗ Y₂` with marginal `M`, supported on the symmetric subspace
of the two copies, with positive semidefinite partial transposes on `X` and on `Y₂` -/
def SymExt2 (M : Matrix (m × n) (m × n) ℂ) : Prop :=
  ∃ X : Matrix (m × n × n) (m × n × n) ℂ, X.PosSemidef ∧ ptrace3 X = M ∧
    ((1 : Matrix m m ℂ) ⊗ₖ symProj2 n) * X * ((1 : Matrix m m ℂ) ⊗ₖ symProj2 n) = X ∧
    (pT3X X).PosSemidef ∧ (pT3Y2 X).PosSemidef

end SymExt2

section SymExt2Lemmas
variable {m n : Type*}

theorem pT3X_kronecker (A : Matrix m m ℂ) (Z : Matrix (n × n) (n × n) ℂ) : pT3X (A ⊗ₖ Z) = Aᵀ ⊗ₖ Z := rfl

theorem pT3Y2_kronecker (A : Matrix m m ℂ) (B C : Matrix n n ℂ) : pT3Y2 (A ⊗ₖ (B ⊗ₖ C)) = A ⊗ₖ (B ⊗ₖ Cᵀ) := rfl

section
variable [Fintype n]

theorem ptrace3_add (X Y : Matrix (m × n × n) (m × n × n) ℂ) : ptrace3 (X + Y) = ptrace3 X + ptrace3 Y := by
  ext i j; simp only [ptrace3, Matrix.add_apply, Finset.sum_add_distrib]

end

variable [DecidableEq n]

theorem swapOp_eq : swapOp n = swapMatrix n := by
  ext i j
  simp only [swapOp, swapMatrix, submatrix_apply, one_apply, Equiv.refl_apply, Equiv.prodComm_apply, Prod.ext_iff,
    Prod.fst_swap, Prod.snd_swap, and_comm]

theorem symProj2_eq : symProj2 n = symmProj n := by rw [symProj2, swapOp_eq, symmProj]

variable [Fintype n]

/-- exchanging the copies on either side only reorders the four scalar factors of an entry -/
theorem symProj2_rankOne (b : n → ℂ) :
    symProj2 n * (vecMulVec b (star b) ⊗ₖ vecMulVec b (star b)) * symProj2 n
      = vecMulVec b (star b) ⊗ₖ vecMulVec b (star b) := by
  rw [symProj2_eq, symmProj_mul_of_swapMatrix_mul, mul_symmProj_of_mul_swapMatrix]
  · rw [mul_swapMatrix]; ext i j
    simp only [submatrix_apply, Prod.fst_swap, Prod.snd_swap, id, kroneckerMap_apply, vecMulVec_apply]
    ring
  · rw [swapMatrix_mul]; ext i j
    simp only [submatrix_apply, Prod.fst_swap, Prod.snd_swap, id, kroneckerMap_apply, vecMulVec_apply]
    ring

variable [Fintype m] [DecidableEq m]

theorem symExt2_zero : SymExt2 (0 : Matrix (m × n) (m × n) ℂ) := by
  refine ⟨0, Matrix.PosSemidef.zero, ?_, by rw [Matrix.mul_zero, Matrix.zero_mul], Matrix.PosSemidef.zero,
    Matrix.PosSemidef.zero⟩
  ext i j; simp only [ptrace3, Matrix.zero_apply, Finset.sum_const_zero]

theorem symExt2_add {M N : Matrix (m × n) (m × n) ℂ} (hM : SymExt2 M) (hN : SymExt2 N) : SymExt2 (M + N) := by
  obtain ⟨X, hX, hXM, hXs, hX1, hX2⟩ := hM
  obtain ⟨Y, hY, hYN, hYs, hY1, hY2⟩ := hN
  exact ⟨X + Y, hX.add hY, by rw [ptrace3_add, hXM, hYN], by rw [Matrix.mul_add, Matrix.add_mul, hXs, hYs],
    hX1.add hY1, hX2.add hY2⟩

theorem symExt2_sum {ι : Type*} (s : Finset ι) (M : ι → Matrix (m × n) (m × n) ℂ)
    (h : ∀ j ∈ s, SymExt2 (M j)) : SymExt2 (∑ j ∈ s, M j) :=
  Finset.sum_induction M SymExt2 (fun _ _ => symExt2_add) symExt2_zero h

theorem symExt2_product {A : Matrix m m ℂ} (hA : A.PosSemidef) (b : n → ℂ) (hb : b ⬝ᵥ star b = 1) :
    SymExt2 (A ⊗ₖ vecMulVec b (star b)) := by
  have hB : (vecMulVec b (star b)).PosSemidef := Matrix.posSemidef_vecMulVec_self_star b
  refine ⟨A ⊗ₖ (vecMulVec b (star b) ⊗ₖ vecMulVec b (star b)), hA.kronecker (hB.kronecker hB), ?_, ?_, ?_, ?_⟩
  · ext i j
    simp only [ptrace3, Matrix.kroneckerMap_apply, Matrix.vecMulVec_apply]
    rw [← Finset.mul_sum, ← Finset.mul_sum, ← dotProduct, hb, mul_one]
  · rw [← Matrix.mul_kronecker_mul, ← Matrix.mul_kronecker_mul, Matrix.one_mul, Matrix.mul_one, symProj2_rankOne]
  · rw [pT3X_kronecker]; exact hA.transpose.kronecker (hB.kronecker hB)
  · rw [pT3Y2_kronecker]; exact hA.kronecker (hB.kronecker hB.transpose)

end SymExt2Lemmas
end Toq.PPTDisc
