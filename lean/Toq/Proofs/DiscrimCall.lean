import Toq.Model.DiscrimCall
/-!
# The binding of the option arguments of `state_distinguishability` (`Toq.Model.DiscrimCall`)

`sdBind` on a well-formed call (`sdBind_eq_some`), positional values as keywords (`sdOptValue_zip`), more than three positional options.
-/

namespace Toq.Discrim

theorem any_key_iff {kw : List (String × String)} {n : String} : (kw.any fun e => e.1 == n) = true ↔ ∃ e ∈ kw, e.1 = n := by
  simp only [List.any_eq_true, beq_iff_eq]

theorem sdBind_eq_some {pos : List String} {kw : List (String × String)} (hl : pos.length ≤ 3)
    (hk : ∀ n ∈ sdOptNames.take pos.length, ∀ e ∈ kw, e.1 ≠ n) :
    sdBind pos kw = some ⟨sdOptValue pos kw 0 "strategy" sdDefaultStrategy, sdOptValue pos kw 1 "solver" sdDefaultSolver,
      sdOptValue pos kw 2 "primal_dual" sdDefaultPrimalDual⟩ := by
  unfold sdBind
  rw [if_neg (Nat.not_lt.mpr hl), if_neg]
  rw [List.any_eq_true]
  rintro ⟨n, hn, h⟩
  obtain ⟨e, he, hen⟩ := any_key_iff.mp h
  exact hk n hn e he hen

theorem lookup_zip_append : ∀ (ks : List String) (vs : List String) (kw : List (String × String)) (i : Nat) (hi : i < ks.length),
    ks.Nodup → (ks.zip vs ++ kw).lookup ks[i] = (vs[i]?).or (kw.lookup ks[i])
  | _ :: _, [], kw, i, hi, _ => by simp
  | k :: ks, v :: vs, kw, 0, _, _ => by simp
  | k :: ks, v :: vs, kw, i + 1, hi, hnd => by
    have hne : (ks[i]'(Nat.lt_of_succ_lt_succ hi) == k) = false :=
      beq_eq_false_iff_ne.mpr fun h => (List.nodup_cons.mp hnd).1 (h ▸ List.getElem_mem _)
    rw [List.zip_cons_cons, List.cons_append, List.getElem_cons_succ, List.lookup_cons, hne, List.getElem?_cons_succ]
    exact lookup_zip_append ks vs kw i _ (List.nodup_cons.mp hnd).2

theorem sdOptValue_zip (pos : List String) (kw : List (String × String)) (i : Nat) (hi : i < sdOptNames.length) (dflt : String) :
    sdOptValue pos kw i (sdOptNames[i]) dflt = sdOptValue [] (sdOptNames.zip pos ++ kw) i (sdOptNames[i]) dflt := by
  unfold sdOptValue
  -- `by decide`: the option names are distinct
  rw [List.getElem?_nil, lookup_zip_append sdOptNames pos kw i hi (by decide)]
  cases pos[i]? <;> rfl

theorem sdBind_four (a b c e : String) (rest : List String) (kw : List (String × String)) :
    sdBind (a :: b :: c :: e :: rest) kw = none := by
  simp [sdBind]

theorem lookup_cons_ne (k n v : String) (kw : List (String × String)) (h : (n == k) = false) :
    List.lookup n ((k, v) :: kw) = List.lookup n kw := by
  simp [List.lookup, h]

end Toq.Discrim
