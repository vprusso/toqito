import Toq.Model.GamesExtra
import Toq.Proofs.Games
import Mathlib.Tactic.Ring
import Mathlib.Algebra.BigOperators.Field
import Mathlib.Data.Nat.Cast.Order.Ring
/-!
# The pool branch of `classical_value`, product games, `from_bcs_game` (model: `Toq/Model/GamesExtra.lean`), C07

The pool branch of `classical_value` takes `max` of the list the loop branch folds over; an entry of the `reps`-fold product game is
read at the digits of its four indices, so sums over the product alphabets factor over the rounds (`sum_prodFn_digits`);
`from_bcs_game` marks a variable by `np.diff`, which compares the codes of an assignment and of its flip, a distance of one digit
weight apart (`enc_setAt`). -/

namespace Toq.Games
open Spec

/-- the answer function that `process_iteration` decodes from the loop counter `i`: question `y` is
    answered by digit `y` (most significant first) of `i` written with `n` digits in base `b` -/
def decStrategy (b n : Nat) (hb : 0 < b) (i : Fin (b ^ n)) : Fin n → Fin b :=
  fun y => ⟨dec (fun _ => b) n i.1 y.1, dec_lt (fun _ => b) n i.1 y.1 y.2 hb⟩

theorem decStrategy_eq (b n : Nat) (hb : 0 < b) : decStrategy b n hb = strategyEquiv b n := rfl

theorem dec_strategy_inverse (b n : Nat) (hb : 0 < b) :
    (∀ i k, k < n → dec (fun _ => b) n i k < b) ∧
    (∀ i, i < b ^ n → enc (fun _ => b) (dec (fun _ => b) n i) n = i) ∧
    (∀ s : Nat → Nat, (∀ k, k < n → s k < b) →
      enc (fun _ => b) s n < b ^ n ∧ ∀ k, k < n → dec (fun _ => b) n (enc (fun _ => b) s n) k = s k) :=
  ⟨fun i k hk => dec_lt (fun _ => b) n i k hk hb,
   fun i hi => enc_dec_pow b n i hi,
   fun s hs => ⟨enc_lt_pow b s n hs, fun k hk => dec_enc (fun _ => b) s n hs k hk⟩⟩

/-- Python's `max(lst)` (`none` where Python raises) -/
theorem maxList_eq_maximum : ∀ l : List ℚ, (maxList l : WithBot ℚ) = l.maximum
  | [] => rfl
  | a :: l => (foldl_rmax l a).trans (List.maximum_cons a l).symm

/-- `max([f(0), …, f(N-1)])` is what `p = -inf; for i in range(N): p = max(p, f(i))` leaves in `p`: both are the maximum of
    the list of results (for `N = 0` the first raises and the second is `-inf`; both are `none` here) -/
theorem classicalValuePool_eq_loop (N nbo nbi : Nat) (t : Pred) (nao nai : Nat) :
    classicalValuePool N nbo nbi t nao nai = classicalValueLoop N nbo nbi t nao nai := by
  unfold classicalValuePool classicalValueLoop
  simp only [List.map_map]
  exact (maxList_eq_maximum _).trans (maxIter_eq_maximum (fun i => processIteration i nbo nbi t nao nai) N).symm

theorem classicalValueCode_eq_fixed (ao bo ai bi : Nat) (prob : Prob) (pred : Pred) :
    classicalValueCode ao bo ai bi prob pred = classicalValueFixed ao bo ai bi prob pred := by
  unfold classicalValueCode classicalValueFixed classicalValueGen
  -- the pool branch is the loop branch, so the `if num_iterations > 1000` has two equal arms
  simp only [classicalValuePool_eq_loop, ite_self, if_true]
  rfl

/-- the pool branch is really taken by some sizes and not by others (threshold 1000) -/
example : (2 : Nat) ^ 10 > 1000 ∧ ¬ ((2 : Nat) ^ 9 > 1000) := by decide

/-- the factor of round `k` reads the question digits off the two odometers, which show digit `k` of the row index `x` and of `y`
    (flat column index `x * bi ^ r + y`; `iterOdo_eq_dec`) -/
theorem productPred_isProdForm (ao bo ai bi r : Nat) (hr : 0 < r) (pred : Pred) (x y : Nat) (hx : x < ai ^ r) (hy : y < bi ^ r) :
    IsProdForm ao bo r (fun k a b => pred a b (dec (fun _ => ai) r x k) (dec (fun _ => bi) r y k))
      (fun a b => productPred ao bo ai bi r pred a b x y) := by
  obtain ⟨m, rfl⟩ : ∃ m, r = m + 1 := ⟨r - 1, by omega⟩
  intro a b ha hb
  show productPred ao bo ai bi (m + 1) pred _ _ x y = _
  unfold productPred
  rw [Nat.add_sub_cancel, kronChain_isProdForm ao bo _ m a b ha hb]
  refine prodFn_congr _ _ _ fun k hk => ?_
  have hai : 0 < ai := Nat.zero_lt_of_lt (dec_lt_pow hx k hk)
  have hbi : 0 < bi := Nat.zero_lt_of_lt (dec_lt_pow hy k hk)
  show pred _ _ (iterOdo _ _ x k) (iterOdo _ _ (x * bi ^ (m + 1) + y) k) = _
  rw [iterOdo_eq_dec (fun _ => ai) (m + 1) (fun _ _ => hai) x k hk, prodN_const, Nat.mod_eq_of_lt hx,
    iterOdo_eq_dec (fun _ => bi) (m + 1) (fun _ _ => hbi) _ k hk, prodN_const, (Nat.mul_add_divMod_of_lt hy).2]

theorem productPred_total (ao bo ai bi r : Nat) (hr : 0 < r) (pred : Pred) (a b x y : Nat)
    (ha : a < ao ^ r) (hb : b < bo ^ r) (hx : x < ai ^ r) (hy : y < bi ^ r) :
    productPred ao bo ai bi r pred a b x y
      = prodFn r (fun k => pred (dec (fun _ => ao) r a k) (dec (fun _ => bo) r b k)
          (dec (fun _ => ai) r x k) (dec (fun _ => bi) r y k)) :=
  (productPred_isProdForm ao bo ai bi r hr pred x y hx hy).total ha hb

theorem productProb_total (ai bi r : Nat) (hr : 0 < r) (prob : Prob) (x y : Nat)
    (hx : x < ai ^ r) (hy : y < bi ^ r) :
    productProb ai bi r prob x y
      = prodFn r (fun k => prob (dec (fun _ => ai) r x k) (dec (fun _ => bi) r y k)) :=
  (fastExp_isProdForm ai bi prob r hr).total hx hy

theorem productProb_isDistribution (ai bi r : Nat) (hr : 0 < r) (prob : Prob)
    (hp : IsDistribution ai bi prob) :
    IsDistribution (ai ^ r) (bi ^ r) (productProb ai bi r prob) := by
  rw [isDistribution_iff_sumN] at hp ⊢
  refine ⟨fun x y hx hy => ?_, ?_⟩
  · rw [productProb_total ai bi r hr prob x y hx hy]
    exact prodFn_nonneg _ r fun k hk => hp.1 _ _ (dec_lt_pow hx k hk) (dec_lt_pow hy k hk)
  · rw [sumN_congr _ _ (ai ^ r) (fun x hx => sumN_congr _ _ (bi ^ r) (fun y hy =>
      productProb_total ai bi r hr prob x y hx hy)), sum_prodFn_digits ai bi (fun _ => prob) r, hp.2, prodFn_const, one_pow]

theorem productPred_in01 (ao bo ai bi r : Nat) (hr : 0 < r) (pred : Pred)
    (hv : PredIn01 ao bo ai bi pred) :
    PredIn01 (ao ^ r) (bo ^ r) (ai ^ r) (bi ^ r) (productPred ao bo ai bi r pred) := by
  intro a b x y ha hb hx hy
  rw [productPred_total ao bo ai bi r hr pred a b x y ha hb hx hy]
  exact prodFn_mem01 _ r fun k hk => hv _ _ _ _ (dec_lt_pow ha k hk) (dec_lt_pow hb k hk)
    (dec_lt_pow hx k hk) (dec_lt_pow hy k hk)

theorem productStrategy_lt (nin nout r : Nat) (f : Nat → Nat → Nat) (hn : 0 < nin)
    (hf : ∀ k x, k < r → x < nin → f k x < nout) (X : Nat) :
    productStrategy nin nout r f X < nout ^ r :=
  enc_lt_pow nout _ r (fun k hk => hf k _ hk (dec_lt (fun _ => nin) r X k hk hn))

/-- for a question code inside the shape no positivity of `nin` has to be assumed -/
theorem productStrategy_lt_of_lt (nin nout r : Nat) (f : Nat → Nat → Nat)
    (hf : ∀ k x, k < r → x < nin → f k x < nout) {X : Nat} (hX : X < nin ^ r) :
    productStrategy nin nout r f X < nout ^ r :=
  enc_lt_pow nout _ r fun k hk => hf k _ hk (dec_lt_pow hX k hk)

theorem dec_productStrategy (nin nout r : Nat) (f : Nat → Nat → Nat) (X k : Nat) (hX : X < nin ^ r)
    (hf : ∀ k x, k < r → x < nin → f k x < nout) (hk : k < r) :
    dec (fun _ => nout) r (productStrategy nin nout r f X) k = f k (dec (fun _ => nin) r X k) :=
  dec_enc (fun _ => nout) _ r (fun k hk => hf k _ hk (dec_lt_pow hX k hk)) k hk

/-- every summand factors over the rounds, then `sum_prodFn_digits` -/
theorem detValueN_product (ao bo ai bi r : Nat) (hr : 0 < r) (prob : Prob) (pred : Pred)
    (f g : Nat → Nat → Nat)
    (hf : ∀ k x, k < r → x < ai → f k x < ao) (hg : ∀ k y, k < r → y < bi → g k y < bo) :
    detValueN (ai ^ r) (bi ^ r) (productProb ai bi r prob) (productPred ao bo ai bi r pred)
        (productStrategy ai ao r f) (productStrategy bi bo r g)
      = prodFn r (fun k => detValueN ai bi prob pred (f k) (g k)) := by
  unfold detValueN
  rw [← sum_prodFn_digits ai bi (fun k x y => prob x y * pred (f k x) (g k y) x y) r]
  refine sumN_congr _ _ _ fun X hX => sumN_congr _ _ _ fun Y hY => ?_
  rw [productProb_total ai bi r hr prob X Y hX hY,
    productPred_total ao bo ai bi r hr pred _ _ X Y (productStrategy_lt_of_lt ai ao r f hf hX)
      (productStrategy_lt_of_lt bi bo r g hg hY) hX hY, prodFn_mul]
  refine prodFn_congr _ _ _ fun k hk => ?_
  rw [dec_productStrategy ai ao r f X k hX hf hk, dec_productStrategy bi bo r g Y k hY hg hk]

theorem productStrategy_ext_lt (nin nout r : Nat) (f : Nat → Fin nin → Fin nout) (X : Nat)
    (hX : X < nin ^ r) : productStrategy nin nout r (fun k => ext (f k)) X < nout ^ r :=
  productStrategy_lt_of_lt nin nout r _ (fun k x _ hx => ext_lt (f k) x hx) hX

/-- product strategy as a function between the finite index types: question code `X < nin^r` ↦ code of
    the per-round answers `f k (digit k of X)` -/
def productStrategyFin (nin nout r : Nat) (f : Nat → Fin nin → Fin nout) :
    Fin (nin ^ r) → Fin (nout ^ r) := fun X =>
  ⟨productStrategy nin nout r (fun k => ext (f k)) X.1, productStrategy_ext_lt nin nout r f X.1 X.2⟩

theorem detValue_product (ao bo ai bi r : Nat) (hr : 0 < r) (prob : Prob) (pred : Pred)
    (f : Nat → Fin ai → Fin ao) (g : Nat → Fin bi → Fin bo) :
    detValue (ao ^ r) (bo ^ r) (ai ^ r) (bi ^ r) (productProb ai bi r prob)
        (productPred ao bo ai bi r pred) (productStrategyFin ai ao r f) (productStrategyFin bi bo r g)
      = prodFn r (fun k => detValue ao bo ai bi prob pred (f k) (g k)) := by
  rw [← detValueN_eq (ao ^ r) (bo ^ r) (ai ^ r) (bi ^ r) _ _
    (productStrategy ai ao r (fun k => ext (f k))) (productStrategy bi bo r (fun k => ext (g k)))
    (productStrategyFin ai ao r f) (productStrategyFin bi bo r g) (fun _ => rfl) (fun _ => rfl),
    detValueN_product ao bo ai bi r hr prob pred _ _
      (fun k x _ hx => ext_lt (f k) x hx) (fun k y _ hy => ext_lt (g k) y hy)]
  exact prodFn_congr _ _ _ fun k _ => detValueN_ext ao bo ai bi prob pred (f k) (g k)

theorem maxDetValue_product_ge (ao bo ai bi r : Nat) [NeZero ao] [NeZero bo] (hr : 0 < r)
    (prob : Prob) (pred : Pred) :
    (∀ (f : Nat → Fin ai → Fin ao) (g : Nat → Fin bi → Fin bo),
      prodFn r (fun k => detValue ao bo ai bi prob pred (f k) (g k))
        ≤ maxDetValue (ao ^ r) (bo ^ r) (ai ^ r) (bi ^ r) (productProb ai bi r prob)
            (productPred ao bo ai bi r pred)) ∧
    (maxDetValue ao bo ai bi prob pred) ^ r
      ≤ maxDetValue (ao ^ r) (bo ^ r) (ai ^ r) (bi ^ r) (productProb ai bi r prob)
          (productPred ao bo ai bi r pred) := by
  have h1 : ∀ (f : Nat → Fin ai → Fin ao) (g : Nat → Fin bi → Fin bo),
      prodFn r (fun k => detValue ao bo ai bi prob pred (f k) (g k))
        ≤ maxDetValue (ao ^ r) (bo ^ r) (ai ^ r) (bi ^ r) (productProb ai bi r prob)
            (productPred ao bo ai bi r pred) := by
    intro f g
    rw [← detValue_product ao bo ai bi r hr prob pred f g]
    exact (maxDetValue_isMaxDet (ao ^ r) (bo ^ r) (ai ^ r) (bi ^ r) _ _).2 _ _
  refine ⟨h1, ?_⟩
  obtain ⟨⟨f, g, hfg⟩, _⟩ := maxDetValue_isMaxDet ao bo ai bi prob pred
  have := h1 (fun _ => f) (fun _ => g)
  rwa [hfg, prodFn_const] at this

/-- `dependent_variables[j].sum()` is the number of variables `i < n` with `bcsDepends n c j i` -/
theorem bcsDepCount_eq_card (n : Nat) (c : Nat → Nat → Int) (j : Nat) :
    bcsDepCount n c j = ((Finset.range n).filter (fun i => bcsDepends n c j i = true)).card :=
  sumN_ite_eq_card (fun i => bcsDepends n c j i) n

theorem bcsDepCount_pos (n : Nat) (c : Nat → Nat → Int) (j i : Nat) (hi : i < n)
    (hd : bcsDepends n c j i = true) : 0 < bcsDepCount n c j := by
  rw [bcsDepCount_eq_card]
  exact Finset.card_pos.mpr ⟨i, by simp [hi, hd]⟩

theorem bcsDepCount_le (n : Nat) (c : Nat → Nat → Int) (j : Nat) : bcsDepCount n c j ≤ n := by
  rw [bcsDepCount_eq_card]
  exact le_trans (Finset.card_filter_le _ _) (by simp)

/-- the denominator `dependent_variables[j].sum()`, a sum of floats `0.` / `1.`, is the count -/
theorem bcsDepCount_cast (n : Nat) (c : Nat → Nat → Int) (j : Nat) :
    sumN n (fun i => if bcsDepends n c j i then (1 : ℚ) else 0) = (bcsDepCount n c j : ℚ) :=
  sumN_ite_cast (fun i => bcsDepends n c j i) n

theorem bcsProb_formula (m n : Nat) (c : Nat → Nat → Int) (j i : Nat) :
    bcsProb m n c j i
      = if bcsDepends n c j i = true then 1 / ((m : ℚ) * (bcsDepCount n c j : ℚ)) else 0 := by
  unfold bcsProb
  show _ * ((if bcsDepends n c j i then (1 : ℚ) else 0) / sumN n _) = _
  rw [bcsDepCount_cast]
  split
  · rw [div_mul_div_comm, one_mul]
  · rw [zero_div, mul_zero]

/-- uniform over the `m ≥ 1` constraints, then uniform over the variables the chosen constraint depends on; a constraint
    that depends on no variable makes Python divide `0 / 0` and is excluded by hypothesis -/
theorem bcsProb_isDistribution (m n : Nat) (c : Nat → Nat → Int) (hm : 0 < m)
    (hdep : ∀ j, j < m → ∃ i, i < n ∧ bcsDepends n c j i = true) :
    IsDistribution m n (bcsProb m n c) := by
  constructor
  · intro j i _ _
    rw [bcsProb_formula]
    split
    · exact one_div_nonneg.mpr (mul_nonneg (Nat.cast_nonneg _) (Nat.cast_nonneg _))
    · exact le_refl _
  · have hrow : ∀ j : Fin m, ∑ i : Fin n, bcsProb m n c j i = 1 / (m : ℚ) := by
      intro j
      obtain ⟨i0, hi0, hd⟩ := hdep j j.2
      have hS : sumN n (fun i' => if bcsDepends n c j i' then (1 : ℚ) else 0) ≠ 0 := by
        rw [bcsDepCount_cast]
        exact Nat.cast_ne_zero.2 (Nat.pos_iff_ne_zero.1 (bcsDepCount_pos n c j i0 hi0 hd))
      have hs := sumN_eq_sum_fin (fun i' => if bcsDepends n c (j : Nat) i' then (1 : ℚ) else 0) n
      unfold bcsProb
      dsimp only
      rw [← Finset.mul_sum, ← Finset.sum_div, ← hs, div_self hS, mul_one]
    rw [Finset.sum_congr rfl (fun j _ => hrow j)]
    have hm' : (m : ℚ) ≠ 0 := by exact_mod_cast (Nat.pos_iff_ne_zero.mp hm)
    rw [Finset.sum_const, Finset.card_univ, Fintype.card_fin, nsmul_eq_mul, mul_one_div_cancel hm']

/-- `d ^ (n - 1 - i)` is the weight of position `i`; the difference of the codes is written without subtraction.  Proof: split
    the code into the digits before `i`, digit `i`, and the `n - 1 - i` digits after it. -/
theorem enc_setAt (d : Nat) (v : Nat → Nat) (i a n : Nat) (hi : i < n) :
    enc (fun _ => d) (setAt v i a) n + v i * d ^ (n - 1 - i)
      = enc (fun _ => d) v n + a * d ^ (n - 1 - i) := by
  obtain ⟨m, rfl⟩ : ∃ m, n = i + 1 + m := ⟨n - 1 - i, by omega⟩
  rw [show i + 1 + m - 1 - i = m by omega, enc_add_range_pow d _ (i + 1) m, enc_add_range_pow d v (i + 1) m, enc_setAt_last,
    enc_succ (fun _ => d) v i,
    enc_congr _ _ (fun k => setAt v i a (i + 1 + k)) (fun k => v (i + 1 + k)) m (fun _ _ => rfl)
      (fun k _ => setAt_ne v i a _ (by omega))]
  ring

theorem enc_flipAt_of_zero (n i : Nat) (hi : i < n) (s : Nat → Nat) (h : s i = 0) :
    enc (fun _ => 2) (flipAt s i) n = enc (fun _ => 2) s n + 2 ^ (n - 1 - i) := by
  have hf := enc_setAt 2 s i 1 n hi
  rw [h, Nat.zero_mul, Nat.add_zero, Nat.one_mul] at hf
  rw [flipAt, h]
  exact hf

theorem flipAt_flipAt (s : Nat → Nat) (i : Nat) (hsi : s i < 2) (k : Nat) : flipAt (flipAt s i) i k = s k := by
  unfold flipAt
  by_cases hk : k = i
  · subst hk
    rw [setAt_same, setAt_same]
    omega
  · rw [setAt_ne _ _ _ _ hk, setAt_ne _ _ _ _ hk]

/-- Meaning of `np.diff(constraints[j], axis=i).any()`: some assignment of the `n` binary variables changes the value of
    constraint `j` when variable `i` alone is flipped (`c j (enc s)` = `constraints[j][s]`, first variable most significant). -/
theorem bcsDepends_iff (n : Nat) (c : Nat → Nat → Int) (j i : Nat) (hi : i < n) :
    bcsDepends n c j i = true ↔
      ∃ s : Nat → Nat, (∀ k, k < n → s k < 2) ∧
        c j (enc (fun _ => 2) (flipAt s i) n) ≠ c j (enc (fun _ => 2) s n) := by
  unfold bcsDepends
  rw [anyBelow_iff]
  simp only [Bool.and_eq_true, beq_iff_eq, bne_iff_ne, ne_eq]
  constructor
  · -- the digits of the code `s0` found by the loop are an assignment with bit `i` clear
    rintro ⟨s0, hs0, hb, hne⟩
    refine ⟨dec (fun _ => 2) n s0, dec_lt_pow hs0, ?_⟩
    rw [enc_flipAt_of_zero n i hi (dec (fun _ => 2) n s0) hb, enc_dec_pow 2 n s0 hs0]
    exact fun heq => hne (sub_eq_zero.mpr heq)
  · -- of `s` and its flip, the loop meets the code of the one with bit `i` clear
    have key : ∀ t : Nat → Nat, (∀ k, k < n → t k < 2) → t i = 0 →
        c j (enc (fun _ => 2) (flipAt t i) n) ≠ c j (enc (fun _ => 2) t n) →
        ∃ s0, s0 < 2 ^ n ∧ bit n s0 i = 0 ∧ ¬ c j (s0 + 2 ^ (n - 1 - i)) - c j s0 = 0 := fun t ht h0 hne =>
      ⟨enc (fun _ => 2) t n, enc_lt_pow 2 t n ht, (bit_enc n t ht i hi).trans h0,
        fun hz => hne (by rw [enc_flipAt_of_zero n i hi t h0]; exact sub_eq_zero.mp hz)⟩
    rintro ⟨s, hs, hne⟩
    rcases (show s i = 0 ∨ s i = 1 by have := hs i hi; omega) with h | h
    · exact key s hs h hne
    · refine key (flipAt s i) (fun k hk => ?_) (by unfold flipAt; rw [setAt_same, h]) ?_
      · unfold flipAt
        by_cases hki : k = i
        · rw [hki, setAt_same]; omega
        · rw [setAt_ne _ _ _ _ hki]; exact hs k hk
      · rw [enc_congr_digits _ _ s n fun k _ => flipAt_flipAt s i (hs i hi) k]
        exact Ne.symm hne

theorem bcsDepends_false_iff (n : Nat) (c : Nat → Nat → Int) (j i : Nat) (hi : i < n) :
    bcsDepends n c j i = false ↔
      ∀ s : Nat → Nat, (∀ k, k < n → s k < 2) →
        c j (enc (fun _ => 2) (flipAt s i) n) = c j (enc (fun _ => 2) s n) := by
  rw [← Bool.not_eq_true, bcsDepends_iff n c j i hi]
  constructor
  · intro h s hs
    by_contra hne
    exact h ⟨s, hs, hne⟩
  · rintro h ⟨s, hs, hne⟩
    exact hne (h s hs)

/-- a concrete parity constraint `x0 ⊕ x1` on 3 variables (entries in C order) depends on variables 0 and 1
    and not on variable 2: two dependent variables, probabilities `1/(m·2)`, `1/(m·2)`, `0` -/
example : let c : Nat → Nat → Int := fun _ s => if (s / 4 + s / 2) % 2 = 1 then 1 else 0
    bcsDepends 3 c 0 0 = true ∧ bcsDepends 3 c 0 1 = true ∧ bcsDepends 3 c 0 2 = false ∧
      bcsDepCount 3 c 0 = 2 := by
  decide

/-- the hypothesis of `bcsProb_isDistribution` is satisfiable: two constraints on 3 variables
    (`x0 ⊕ x1` and `x2`), each depending on at least one variable (on 2 resp. 1 of them) -/
example : let c : Nat → Nat → Int := fun j s =>
      if j = 0 then (if (s / 4 + s / 2) % 2 = 1 then 1 else 0) else (if s % 2 = 1 then 1 else 0)
    (∀ j, j < 2 → ∃ i, i < 3 ∧ bcsDepends 3 c j i = true) ∧ bcsDepCount 3 c 0 = 2 ∧ bcsDepCount 3 c 1 = 1 := by
  intro c
  refine ⟨fun j hj => ?_, by decide, by decide⟩
  rcases (show j = 0 ∨ j = 1 by omega) with rfl | rfl
  · exact ⟨0, by omega, by decide⟩
  · exact ⟨2, by omega, by decide⟩

/-- the hypotheses of the product-game theorems are satisfiable with unequal sizes: a product strategy of
    the `(ao, bo, ai, bi) = (2, 3, 3, 2)` game over 2 rounds, evaluated by the model (Alice answers
    `x mod 2` in round 0 and `0` in round 1; question code `7 = (2, 1)₃` ↦ answer code `(0, 0)₂ = 0`,
    question code `5 = (1, 2)₃` ↦ `(1, 0)₂ = 2`) -/
example : productStrategy 3 2 2 (fun k x => if k = 0 then x % 2 else 0) 7 = 0 ∧
    productStrategy 3 2 2 (fun k x => if k = 0 then x % 2 else 0) 5 = 2 ∧
    (∀ k x, k < 2 → x < 3 → (fun k x => if k = 0 then x % 2 else 0) k x < 2) := by
  refine ⟨by decide, by decide, ?_⟩
  intro k x _ _
  dsimp only
  split <;> omega

end Toq.Games
