import Toq.Model.States
import Toq.Proofs.States
import Mathlib.Analysis.Real.Sqrt
/-!
Scale invariance of the constructors that normalise a user-supplied coefficient vector (`ghz`, `w_state`):
`coeff ↦ coeff / ‖coeff‖` followed by the fill loop gives the same state for `c` and for `t·c`, every `t > 0`
(however small or large).  `ghzGenG`, `wGenG` are the loops of `ghzGen`, `wGen` with the scalar type left open (all are `pickG` of
`Proofs/States`, which commutes with any zero-preserving map: `pickG_map`); `ghzGenG_cast`, `wGenG_cast` tie them to the integer models.
-/
namespace Toq.States

theorem pickG_int (m : Nat) (idx : Nat → Nat) (c : Nat → Int) (j : Nat) : pickG m idx c j = pick m idx c j := rfl

theorem pickG_map {α β : Type} [Zero α] [Zero β] (φ : α → β) (h0 : φ 0 = 0) (idx : Nat → Nat) (c : Nat → α) (j : Nat) :
    ∀ m, pickG m idx (fun i => φ (c i)) j = φ (pickG m idx c j)
  | 0 => h0.symm
  | m + 1 => by
    rw [pickG_succ, pickG_succ, pickG_map φ h0 idx c j m]
    by_cases h : idx m = j
    · rw [if_pos h, if_pos h]
    · rw [if_neg h, if_neg h]

theorem pickG_smul {α : Type} [MulZeroClass α] (t : α) (m : Nat) (idx : Nat → Nat) (c : Nat → α) (j : Nat) :
    pickG m idx (fun i => t * c i) j = t * pickG m idx c j :=
  pickG_map (fun x => t * x) (mul_zero t) idx c j m

/-- `ghz(dim, n, coeff)` before normalisation, any scalar type -/
def ghzGenG {α : Type} [Zero α] (d n : Nat) (c : Nat → α) : Nat → α := fun j => pickG d (ghzIdx d n) c j

/-- `w_state(n, coeff)` before normalisation, any scalar type -/
def wGenG {α : Type} [Zero α] (n : Nat) (c : Nat → α) : Nat → α :=
  fun j => pickG n (fun i => 2 ^ i) (fun i => c (n - i - 1)) j

theorem ghzGenG_int (d n : Nat) (c : Nat → Int) : ghzGenG d n c = ghzGen d n c := rfl

theorem wGenG_int (n : Nat) (c : Nat → Int) : wGenG n c = wGen n c := rfl

theorem ghzGenG_cast (d n : Nat) (c : Nat → Int) (j : Nat) :
    ghzGenG d n (fun i => ((c i : Int) : ℝ)) j = ((ghzGen d n c j : Int) : ℝ) :=
  pickG_map (fun x : Int => (x : ℝ)) Int.cast_zero (ghzIdx d n) c j d

theorem wGenG_cast (n : Nat) (c : Nat → Int) (j : Nat) :
    wGenG n (fun i => ((c i : Int) : ℝ)) j = ((wGen n c j : Int) : ℝ) :=
  pickG_map (fun x : Int => (x : ℝ)) Int.cast_zero (fun i => 2 ^ i) (fun i => c (n - i - 1)) j n

theorem sumN_scale_sq {α : Type} [CommSemiring α] (t : α) (c : Nat → α) (m : Nat) :
    sumN m (fun i => (t * c i) * (t * c i)) = t * t * sumN m (fun i => c i * c i) := by
  rw [← sumN_mul_left]
  exact sumN_congr _ _ m fun i _ => by ring

theorem pickG_normalised_scale (t : ℝ) (ht : 0 < t) (m : Nat) (idx : Nat → Nat) (c : Nat → ℝ) (S : ℝ) (j : Nat) :
    pickG m idx (fun i => t * c i) j / Real.sqrt (t * t * S) = pickG m idx c j / Real.sqrt S := by
  rw [pickG_smul, Real.sqrt_mul (mul_self_nonneg t), Real.sqrt_mul_self ht.le]
  exact mul_div_mul_left _ (Real.sqrt S) ht.ne'

end Toq.States
