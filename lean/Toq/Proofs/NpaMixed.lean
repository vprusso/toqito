import Toq.Proofs.NpaSeesaw
import Toq.Proofs.Bipartite
/-!
# Mixed-state strategies (C07)

A general finite-dimensional strategy shares a **density matrix** `ρ` on `ℂ^dA ⊗ ℂ^dB` and measures POVMs `E x a`,
`F y b`; the behaviour is `p(a,b|x,y) = tr((E x a ⊗ F y b) ρ)`.  Tracing out Alice turns it into a feasible point of the
see-saw programs on Bob's space: `σ x a = tr_A[(E x a ⊗ 1) ρ]`, `τ = tr_A ρ`, with `tr(F y b σ x a) = p(a,b|x,y)`.  With
`Toq/Proofs/NpaSeesaw.lean` (purification of `τ`) and `Toq/Proofs/NpaPovm.lean` (Naimark) such a strategy is a commuting
projective strategy on a larger space with the same behaviour, hence inside every NPA level.
-/

namespace Toq.Npa
open Matrix
open scoped ComplexOrder Kronecker

section Mixed

/-- A **general finite-dimensional quantum strategy**: a density matrix `rho` on `ℂ^dA ⊗ ℂ^dB` and POVMs for every
    question of the game. -/
structure MixedStrategy (dA dB ao bo ai bi : Nat) where
  E : Nat → Nat → Matrix (Fin dA) (Fin dA) ℂ
  F : Nat → Nat → Matrix (Fin dB) (Fin dB) ℂ
  rho : Matrix (Fin dA × Fin dB) (Fin dA × Fin dB) ℂ
  E_povm : ∀ x, x < ai → IsPovmN ao (E x)
  F_povm : ∀ y, y < bi → IsPovmN bo (F y)
  rho_psd : rho.PosSemidef
  rho_tr : rho.trace = 1

variable {dA dB ao bo ai bi : Nat} (T : MixedStrategy dA dB ao bo ai bi)

/-- the behaviour `p(a, b | x, y) = tr((E x a ⊗ F y b) ρ)` (zero outside the alphabets) -/
def MixedStrategy.K : Nat → Nat → Nat → Nat → ℂ := fun a b x y =>
  if a < ao ∧ b < bo ∧ x < ai ∧ y < bi then ((T.E x a ⊗ₖ T.F y b) * T.rho).trace else 0

/-- the assemblage Alice's measurements prepare on Bob's side -/
def MixedStrategy.sigma (x a : Nat) : Matrix (Fin dB) (Fin dB) ℂ :=
  ptrL ((T.E x a ⊗ₖ (1 : Matrix (Fin dB) (Fin dB) ℂ)) * T.rho)

theorem MixedStrategy.sigma_psd (x a : Nat) (hx : x < ai) (ha : a < ao) : (T.sigma x a).PosSemidef := by
  obtain ⟨C, hC⟩ := ((T.E_povm x hx).1 a ha).exists_eq_conjTranspose_mul_self
  unfold MixedStrategy.sigma
  have e : (T.E x a ⊗ₖ (1 : Matrix (Fin dB) (Fin dB) ℂ)) * T.rho
      = (Cᴴ ⊗ₖ (1 : Matrix (Fin dB) (Fin dB) ℂ)) * ((C ⊗ₖ (1 : Matrix (Fin dB) (Fin dB) ℂ)) * T.rho) := by
    rw [← Matrix.mul_assoc, ← Matrix.mul_kronecker_mul, Matrix.one_mul, ← hC]
  rw [e, ptrL_kronecker_one_mul_comm]
  have e2 : (C ⊗ₖ (1 : Matrix (Fin dB) (Fin dB) ℂ)) * T.rho * (Cᴴ ⊗ₖ (1 : Matrix (Fin dB) (Fin dB) ℂ))
      = (C ⊗ₖ (1 : Matrix (Fin dB) (Fin dB) ℂ)) * T.rho * (C ⊗ₖ (1 : Matrix (Fin dB) (Fin dB) ℂ))ᴴ := by
    rw [Matrix.conjTranspose_kronecker, Matrix.conjTranspose_one]
  rw [e2]
  exact (T.rho_psd.mul_mul_conjTranspose_same _).ptrL

/-- the feasible point of the see-saw programs obtained by tracing out Alice -/
def MixedStrategy.toSeesaw : SeesawPoint dB ao bo ai bi where
  sigma := T.sigma
  tau := ptrL T.rho
  B := T.F
  sigma_psd := fun x a hx ha => T.sigma_psd x a hx ha
  sigma_sum := fun x hx => by
    unfold MixedStrategy.sigma
    rw [← sumN_map ptrL ptrL_zero ptrL_add, sumN_mul_right, sumN_kronecker_one, (T.E_povm x hx).2, Matrix.one_kronecker_one, Matrix.one_mul]
  tau_tr := by rw [trace_ptrL, T.rho_tr]
  tau_psd := T.rho_psd.ptrL
  B_povm := T.F_povm

theorem MixedStrategy.toSeesaw_K : T.toSeesaw.K = T.K := by
  funext a b x y
  unfold SeesawPoint.K MixedStrategy.K
  by_cases h : a < ao ∧ b < bo ∧ x < ai ∧ y < bi
  · rw [if_pos h, if_pos h]
    obtain ⟨ha, hb, hx, hy⟩ := h
    show ((T.F y b)ᴴ * T.sigma x a).trace = _
    unfold MixedStrategy.sigma
    rw [((T.F_povm y hy).1 b hb).1.eq, ← trace_one_kronecker_mul, ← Matrix.mul_assoc, ← Matrix.mul_kronecker_mul, Matrix.one_mul,
      Matrix.mul_one]
  · rw [if_neg h, if_neg h]

theorem MixedStrategy.exists_strategy (hao : 0 < ao) (hbo : 0 < bo) :
    ∃ (D : Nat) (S : QStrategy D ao bo ai bi), S.K = T.K := by
  obtain ⟨D, S, hS⟩ := T.toSeesaw.exists_strategy hao hbo
  exact ⟨D, S, by rw [hS, T.toSeesaw_K]⟩

end Mixed

end Toq.Npa
