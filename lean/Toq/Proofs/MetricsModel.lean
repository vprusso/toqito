import Toq.Proofs.MetricsClassical
import Mathlib.Data.Rat.Floor
/-!
# The executable classical evaluators, rounding and guards of `Toq.Model.Metrics` against the real-valued definitions

Each evaluator is a `sumFinQ` whose cast is the corresponding real sum; `np.round` is controlled through one case lemma
(`roundHalfEven_spec`: floor or floor + 1 according to the fractional part), from which the error bound and monotonicity follow.
-/

open Matrix

namespace Toq.Metrics
open EMat

section ModelBridge
variable {n : Nat}

theorem absQ_cast (x : Rat) : ((absQ x : Rat) : ℝ) = |(x : ℝ)| := by
  unfold absQ
  split_ifs with h
  · have : (x : ℝ) < 0 := by exact_mod_cast h
    rw [abs_of_neg this, Rat.cast_neg]
  · have : (0 : ℝ) ≤ x := by exact_mod_cast not_lt.mp h
    rw [abs_of_nonneg this]

theorem sumFinQ_cast_congr {f : Fin n → Rat} {g : Fin n → ℝ} (h : ∀ i, ((f i : Rat) : ℝ) = g i) :
    ((sumFinQ n f : Rat) : ℝ) = ∑ i, g i := by
  rw [sumFinQ_cast]; exact Finset.sum_congr rfl fun i _ => h i

theorem classTD_cast (p q : Fin n → Rat) :
    ((classTD p q : Rat) : ℝ) = cTD (fun i => (p i : ℝ)) (fun i => (q i : ℝ)) := by
  unfold classTD cTD
  rw [Rat.cast_div, Rat.cast_ofNat, sumFinQ_cast_congr fun i => by rw [absQ_cast, Rat.cast_sub]]

theorem classHS_cast (p q : Fin n → Rat) :
    ((classHS p q : Rat) : ℝ) = ∑ i, ((p i : ℝ) - q i) ^ 2 :=
  sumFinQ_cast_congr fun i => by push_cast; ring

theorem classTrProd_cast (p q : Fin n → Rat) : ((classTrProd p q : Rat) : ℝ) = ∑ i, (p i : ℝ) * q i :=
  sumFinQ_cast_congr fun i => by push_cast; ring

theorem classTrProd4_cast (p q : Fin n → Rat) :
    ((classTrProd4 p q : Rat) : ℝ) = ∑ i, ((p i : ℝ) * q i) ^ 2 :=
  sumFinQ_cast_congr fun i => by push_cast; ring

theorem classSubFidRad_cast (p q : Fin n → Rat) :
    ((classSubFidRad p q : Rat) : ℝ) = 2 * ((∑ i, (p i : ℝ) * q i) ^ 2 - ∑ i, ((p i : ℝ) * q i) ^ 2) := by
  unfold classSubFidRad
  rw [Rat.cast_mul, Rat.cast_sub, Rat.cast_mul, classTrProd_cast, classTrProd4_cast, Rat.cast_ofNat, sq]

theorem isProb_sound (p : Fin n → Rat) (h : isProb p = true) : IsProb (fun i => (p i : ℝ)) := by
  simp only [isProb, Bool.and_eq_true, allFin_iff, decide_eq_true_eq] at h
  refine ⟨fun i => by
    have := h.1 i
    show (0 : ℝ) ≤ ((p i : ℚ) : ℝ)
    exact_mod_cast this, ?_⟩
  have := congrArg (fun x : Rat => (x : ℝ)) h.2
  simp only [sumFinQ_cast, Rat.cast_one] at this
  exact this

theorem checkClassFidLower_core (p q s : Fin n → Rat) (lo : Rat) (h : checkClassFidLower p q s = some lo) :
    (lo : ℝ) ≤ cFid (fun i => (p i : ℝ)) (fun i => (q i : ℝ)) := by
  obtain ⟨hc, hv⟩ := check_eq_some.mp h
  simp only [allFin_iff, Bool.and_eq_true, decide_eq_true_eq] at hc
  rw [← hv, sumFinQ_cast]
  refine Finset.sum_le_sum fun i _ => Real.le_sqrt_of_sq_le ?_
  have h2 : ((s i * s i : Rat) : ℝ) ≤ ((p i * q i : Rat) : ℝ) := by exact_mod_cast (hc i).2
  push_cast at h2
  rwa [sq]

theorem checkClassFidUpper_core (p q s : Fin n → Rat) (hi : Rat) (h : checkClassFidUpper p q s = some hi) :
    cFid (fun i => (p i : ℝ)) (fun i => (q i : ℝ)) ≤ (hi : ℝ) := by
  obtain ⟨hc, hv⟩ := check_eq_some.mp h
  simp only [allFin_iff, Bool.and_eq_true, decide_eq_true_eq] at hc
  rw [← hv, sumFinQ_cast]
  refine Finset.sum_le_sum fun i _ => ?_
  have h0 : (0 : ℝ) ≤ s i := by exact_mod_cast (hc i).1
  have h2 : ((p i * q i : Rat) : ℝ) ≤ ((s i * s i : Rat) : ℝ) := by exact_mod_cast (hc i).2
  push_cast at h2
  rw [← Real.sqrt_mul_self h0]
  exact Real.sqrt_le_sqrt h2

theorem rat_floor_eq (x : ℚ) : (x.floor : ℤ) = ⌊x⌋ := rfl

theorem roundHalfEven_spec (x : ℚ) :
    (roundHalfEven x = ⌊x⌋ ∧ x - ⌊x⌋ ≤ 1 / 2) ∨ (roundHalfEven x = ⌊x⌋ + 1 ∧ 1 / 2 ≤ x - ⌊x⌋) := by
  have e : roundHalfEven x = if x - ⌊x⌋ < 1 / 2 then ⌊x⌋ else if 1 / 2 < x - ⌊x⌋ then ⌊x⌋ + 1
      else if ⌊x⌋ % 2 = 0 then ⌊x⌋ else ⌊x⌋ + 1 := rfl
  rw [e]
  by_cases h1 : x - ⌊x⌋ < 1 / 2
  · exact Or.inl ⟨if_pos h1, h1.le⟩
  · by_cases h2 : 1 / 2 < x - ⌊x⌋
    · exact Or.inr ⟨(if_neg h1).trans (if_pos h2), h2.le⟩
    · rw [if_neg h1, if_neg h2]
      split_ifs
      · exact Or.inl ⟨rfl, not_lt.mp h2⟩
      · exact Or.inr ⟨rfl, not_lt.mp h1⟩

theorem roundHalfEven_sub_le (x : ℚ) : |((roundHalfEven x : ℤ) : ℚ) - x| ≤ 1 / 2 := by
  have h1 : ((⌊x⌋ : ℤ) : ℚ) ≤ x := Int.floor_le x
  have h2 : x < ⌊x⌋ + 1 := Int.lt_floor_add_one x
  rw [abs_le]
  rcases roundHalfEven_spec x with ⟨e, h⟩ | ⟨e, h⟩ <;> rw [e]
  · constructor <;> linarith
  · push_cast; constructor <;> linarith

theorem roundHalfEven_mono {x y : ℚ} (h : x ≤ y) : roundHalfEven x ≤ roundHalfEven y := by
  have hfl : ⌊x⌋ ≤ ⌊y⌋ := Int.floor_le_floor h
  rcases roundHalfEven_spec x with ⟨ex, hx⟩ | ⟨ex, hx⟩ <;> rcases roundHalfEven_spec y with ⟨ey, hy⟩ | ⟨ey, hy⟩
  · rw [ex, ey]; exact hfl
  · rw [ex, ey]; omega
  · rcases hfl.eq_or_lt with he | hlt
    · -- equal floors, `rint x = ⌊x⌋ + 1`, `rint y = ⌊y⌋`: both fractional parts are `1/2`, so `x = y`
      have hc : ((⌊x⌋ : ℤ) : ℚ) = ⌊y⌋ := by rw [he]
      have hxy : x = y := le_antisymm h (by linarith [hc])
      exact hxy ▸ le_rfl
    · rw [ex, ey]; omega
  · rw [ex, ey]; omega

theorem pow10_pos (d : ℕ) : (0 : ℚ) < (10 : ℚ) ^ d := by positivity

theorem roundDec_sub_le (x : ℚ) (d : ℕ) : |roundDec x d - x| ≤ 1 / (2 * (10 : ℚ) ^ d) := by
  unfold roundDec
  have hp := pow10_pos d
  have h := roundHalfEven_sub_le (x * (10 : ℚ) ^ d)
  have e : ((roundHalfEven (x * (10 : ℚ) ^ d) : ℤ) : ℚ) / (10 : ℚ) ^ d - x
      = (((roundHalfEven (x * (10 : ℚ) ^ d) : ℤ) : ℚ) - x * (10 : ℚ) ^ d) / (10 : ℚ) ^ d := by
    field_simp
  rw [e, abs_div, abs_of_pos hp, div_le_div_iff₀ hp (by positivity)]
  calc |((roundHalfEven (x * (10 : ℚ) ^ d) : ℤ) : ℚ) - x * (10 : ℚ) ^ d| * (2 * (10 : ℚ) ^ d)
      ≤ 1 / 2 * (2 * (10 : ℚ) ^ d) := mul_le_mul_of_nonneg_right h (by positivity)
    _ = 1 * (10 : ℚ) ^ d := by ring

theorem roundDec_mono {x y : ℚ} (h : x ≤ y) (d : ℕ) : roundDec x d ≤ roundDec y d := by
  unfold roundDec
  have hp := pow10_pos d
  refine div_le_div_of_nonneg_right ?_ hp.le
  exact_mod_cast roundHalfEven_mono (mul_le_mul_of_nonneg_right h hp.le)

theorem roundDec_mul_pow (x : ℚ) (d : ℕ) : ∃ k : ℤ, roundDec x d * (10 : ℚ) ^ d = k := by
  refine ⟨roundHalfEven (x * (10 : ℚ) ^ d), ?_⟩
  unfold roundDec
  rw [div_mul_cancel₀ _ (pow10_pos d).ne']

theorem roundDecEncl_core (lo hi : ℚ) (d : ℕ) (r : ℚ) (h : roundDecEncl lo hi d = some r) :
    ∀ x : ℚ, lo ≤ x → x ≤ hi → roundDec x d = r := by
  obtain ⟨hc, hv⟩ := check_eq_some.mp h
  intro x h1 h2
  rw [← hv]
  exact le_antisymm (hc.2 ▸ roundDec_mono h2 d) (roundDec_mono h1 d)

theorem guardShapeFirst_value_iff (s a b : Bool) : guardShapeFirst s a b = .value ↔ s = true ∧ a = true ∧ b = true := by
  cases s <;> cases a <;> cases b <;> simp [guardShapeFirst]

theorem guardDensityFirst_value_iff (s a b : Bool) :
    guardDensityFirst s a b = .value ↔ s = true ∧ a = true ∧ b = true := by
  cases s <;> cases a <;> cases b <;> simp [guardDensityFirst]

theorem densityGuard_of_exact (minEig : ℚ) (h : 0 ≤ minEig) : densityGuard true minEig 1 0 = true := by
  simp only [densityGuard, Bool.true_and, Bool.and_eq_true, decide_eq_true_eq]
  refine ⟨?_, ?_⟩
  · have : -guardAtol ≤ 0 := by unfold guardAtol; norm_num
    linarith
  · unfold guardAtol guardRtol; norm_num

theorem densityGuard_accepts (herm : Bool) (minEig trRe trIm : ℚ) (h : densityGuard herm minEig trRe trIm = true) :
    herm = true ∧ -(1 / 100000000 : ℚ) ≤ minEig ∧ |trRe - 1| ≤ 1001 / 100000000 := by
  unfold densityGuard at h
  rw [Bool.and_eq_true, Bool.and_eq_true] at h
  obtain ⟨⟨h1, h2⟩, h3⟩ := h
  have h2' := of_decide_eq_true h2
  have h3' := of_decide_eq_true h3
  unfold guardAtol at h2'
  unfold guardAtol guardRtol at h3'
  refine ⟨h1, h2', abs_le_of_sq_le_sq ?_ (by norm_num)⟩
  calc (trRe - 1) ^ 2 = (trRe - 1) * (trRe - 1) := sq _
    _ ≤ (1 / 100000000 + 1 / 100000) * (1 / 100000000 + 1 / 100000) := by linarith [mul_self_nonneg trIm]
    _ = (1001 / 100000000) ^ 2 := by norm_num

end ModelBridge
end Toq.Metrics
