import Toq.Model.ChannelOps
import Toq.Spec.ChannelOps
import Toq.Proofs.Idx
import Toq.Proofs.Perms
import Toq.Proofs.Scalar
import Mathlib.Algebra.BigOperators.Group.Finset.Basic
import Mathlib.Algebra.BigOperators.Ring.Finset
import Mathlib.Algebra.Star.Basic
import Mathlib.Algebra.Star.BigOperators
import Mathlib.Tactic.Ring
import Mathlib.Algebra.Ring.Defs
import Mathlib.LinearAlgebra.Matrix.Charpoly.Basic
import Mathlib.LinearAlgebra.Matrix.ConjTranspose
import Mathlib.LinearAlgebra.Matrix.Trace
import Mathlib.Tactic.IntervalCases
import Mathlib.Data.List.GetD
/-!
# Entry formulas of the mirror models in `Toq/Model/ChannelOps.lean` (for C04 / C05)

Every model function is a composition of NumPy array operations on flat indices.  The lemmas here turn each of them
into a formula for one entry of the result at a digit-wise index (`i * d + a` for the pair `(i, a)`), written with the
sums `sumN` in which the specification (`Toq/Spec/ChannelOps.lean`) is stated.  Two facts carry most of the proofs: a sum over a
product range is an iterated sum over the digits (`sumN_mul_range`), and a sum with a single non-zero term is that
term (`sumN_eq_single`); a statement at all digit indices is a statement below the shape (`forall_lt_mul_iff₂`).
The list forms of `phi_op` enter only through what the cascade extracts from them (`phi.split = some (as, bs)`), and the
dimension vectors of `partial_channel` only through the products before and after the target, which the entry
lemmas take as free naturals (`partialKrausLists_e`, `embedChoiAt`).  Every representation denotes a map through its
Choi entries (`applyChoiSpec`; Kraus families by `applySpec_eq_applyChoiSpec`), and the adjoint identity is proved
about those.  `toM` reads a function matrix as a Mathlib matrix for the statements made in Mathlib's vocabulary
(Kraus sums, characteristic polynomials).
-/
open Toq.Perms Toq.ChannelSpec

namespace Toq.ChannelOps
open Mat

/-- in proofs the conjugation of the models is the `star` of a star-ring -/
scoped instance starHasConj {α : Type} [Star α] : HasConj α := ⟨star⟩

theorem conj_eq_star {α : Type} [Star α] (x : α) : HasConj.conj x = star x := rfl

section sums
variable {α : Type} [CommSemiring α]

theorem sumN_add_fn (f g : Nat → α) (n : Nat) : sumN n (fun k => f k + g k) = sumN n f + sumN n g :=
  sumN_add_distrib f g n

theorem sumN_congr' (f g : Nat → α) (n : Nat) (h : ∀ k, k < n → f k = g k) : sumN n f = sumN n g :=
  sumN_congr f g n h

end sums

theorem star_sumN {α : Type} [AddMonoid α] [StarAddMonoid α] (f : Nat → α) (n : Nat) :
    star (sumN n f) = sumN n (fun k => star (f k)) :=
  sumN_map star (star_zero α) star_add f n

theorem prodBefore_two (d : Nat) : prodBefore (fnOfList [d, d]) 2 = d := Nat.one_mul d

theorem prodAfter_two (d : Nat) : prodAfter (fnOfList [d, d]) 2 2 = 1 := rfl

theorem prodBefore_one (d : Nat → Nat) : prodBefore d 1 = 1 := rfl

theorem prodAfter_one_two (d : Nat) : prodAfter (fnOfList [d, d]) 2 1 = d := Nat.one_mul d

theorem swap_index (d0 d1 y0 y1 : Nat) (h0 : y0 < d1) (h1 : y1 < d0) :
    permIndex 2 (swapPerm 0 1) (fnOfList [d0, d1]) false (y0 * d0 + y1) = y1 * d1 + y0 := by
  rw [permIndex_false_eq 2 _ _ (swapPerm_isPermN 2 0 1 Nat.zero_lt_two Nat.one_lt_two), specIndex_swap2,
    Nat.mul_add_mod_of_lt h1, Nat.mul_add_div_of_lt h1, Nat.mod_eq_of_lt h0]

section shaped
variable {α : Type}

def Shaped (l : List (Mat α)) (r c : Nat) : Prop := ∀ m ∈ l, m.r = r ∧ m.c = c

theorem allShape_iff (l : List (Mat α)) (r c : Nat) : allShape l r c = true ↔ Shaped l r c := by
  simp only [allShape, Shaped, List.all_eq_true, Bool.and_eq_true, beq_iff_eq]

theorem shaped_map {β : Type} (F : List β) (mk : β → Mat α) (r c : Nat)
    (h : ∀ x ∈ F, (mk x).r = r ∧ (mk x).c = c) : Shaped (F.map mk) r c := by
  intro m hm
  obtain ⟨x, hx, rfl⟩ := List.mem_map.mp hm
  exact h x hx

theorem shaped_map_T (l : List (Mat α)) (r c : Nat) (h : Shaped l r c) : Shaped (l.map Mat.T) c r :=
  shaped_map l Mat.T c r fun x hx => ⟨(h x hx).2, (h x hx).1⟩

theorem shaped_map_ct [HasConj α] (l : List (Mat α)) (r c : Nat) (h : Shaped l r c) : Shaped (l.map Mat.ct) c r :=
  shaped_map l Mat.ct c r fun x hx => ⟨(h x hx).2, (h x hx).1⟩

theorem shaped_unique {l : List (Mat α)} (hne : l ≠ []) {r c r' c' : Nat} (h : Shaped l r c) (h' : Shaped l r' c') :
    r = r' ∧ c = c' := by
  obtain ⟨k, hk⟩ := List.exists_mem_of_ne_nil l hne
  exact ⟨(h k hk).1.symm.trans (h' k hk).1, (h k hk).2.symm.trans (h' k hk).2⟩

end shaped

section lists
variable {α : Type} [Zero α]

def fam (l : List (Mat α)) : Nat → Nat → Nat → α := fun k => (l.getD k default).e

theorem fam_cons_zero (m : Mat α) (l : List (Mat α)) : fam (m :: l) 0 = m.e := rfl

theorem fam_cons_succ (m : Mat α) (l : List (Mat α)) (k : Nat) : fam (m :: l) (k + 1) = fam l k := rfl

theorem fam_map {β : Type} (F : List β) (mk : β → Mat α) (d : β) (k : Nat) (hk : k < F.length) :
    fam (F.map mk) k = (mk (F.getD k d)).e := by
  unfold fam
  rw [List.getD_eq_getElem?_getD, List.getD_eq_getElem?_getD, List.getElem?_map,
    List.getElem?_eq_getElem hk]
  rfl

theorem getD_shape (l : List (Mat α)) (r c k : Nat) (h : Shaped l r c) (hk : k < l.length) :
    (l.getD k default).r = r ∧ (l.getD k default).c = c := by
  apply h
  rw [List.getD_eq_getElem?_getD, List.getElem?_eq_getElem hk]
  simp

theorem hcat_c (l : List (Mat α)) (r d : Nat) (h : Shaped l r d) : (hcat l).c = l.length * d := by
  induction l with
  | nil => simp [hcat]
  | cons m ms ih =>
    have hm := h m (by simp)
    have := ih (fun x hx => h x (by simp [hx]))
    simp only [hcat, List.length_cons, this, hm.2]
    rw [Nat.succ_mul, Nat.add_comm]

theorem hcat_r (m : Mat α) (l : List (Mat α)) : (hcat (m :: l)).r = m.r := rfl

theorem hcat_e (l : List (Mat α)) (r d : Nat) (h : Shaped l r d) (a k i : Nat) (hk : k < l.length) (hi : i < d) :
    (hcat l).e a (k * d + i) = fam l k a i := by
  induction l generalizing k with
  | nil => simp at hk
  | cons m ms ih =>
    have hm := h m (by simp)
    have hms : Shaped ms r d := fun x hx => h x (by simp [hx])
    cases k with
    | zero =>
      simp only [hcat, Nat.zero_mul, Nat.zero_add, fam_cons_zero]
      rw [if_pos (by omega)]
    | succ k =>
      simp only [hcat, fam_cons_succ]
      rw [if_neg (by rw [hm.2, Nat.succ_mul]; omega)]
      have : (k + 1) * d + i - m.c = k * d + i := by rw [hm.2, Nat.succ_mul]; omega
      rw [this]
      exact ih hms k (by simpa using hk)

theorem vcat_eq_hcat_T (l : List (Mat α)) : vcat l = (hcat (l.map Mat.T)).T := by
  induction l with
  | nil => rfl
  | cons m ms ih =>
    show (⟨m.r + (vcat ms).r, m.c, fun i j => if i < m.r then m.e i j else (vcat ms).e (i - m.r) j⟩ : Mat α) = _
    rw [ih]; rfl

theorem vcat_r (l : List (Mat α)) (d c : Nat) (h : Shaped l d c) : (vcat l).r = l.length * d := by
  rw [vcat_eq_hcat_T, ← List.length_map (f := Mat.T)]
  exact hcat_c (l.map Mat.T) c d (shaped_map_T l d c h)

theorem vcat_c (m : Mat α) (l : List (Mat α)) : (vcat (m :: l)).c = m.c := rfl

theorem vcat_e (l : List (Mat α)) (d c : Nat) (h : Shaped l d c) (b k j : Nat) (hk : k < l.length) (hj : j < d) :
    (vcat l).e (k * d + j) b = fam l k j b := by
  rw [vcat_eq_hcat_T]
  show (hcat (l.map Mat.T)).e b (k * d + j) = _
  rw [hcat_e (l.map Mat.T) c d (shaped_map_T l d c h) b k j (by simpa using hk) hj, fam_map l Mat.T default k hk]
  rfl

end lists

section mapM
variable {β γ δ : Type}

theorem mapM_option_map (g : β → Option γ) (f : γ → δ) (l : List β) :
    l.mapM (fun x => (g x).map f) = (l.mapM g).map (List.map f) := by
  induction l with
  | nil => rfl
  | cons x t ih =>
    simp only [List.mapM_cons, ih]
    cases g x <;> cases t.mapM g <;> rfl

theorem mapM_eq_some {g : β → Option γ} : ∀ {l : List β} {l' : List γ}, l.mapM g = some l' →
    ∃ hl : l'.length = l.length, ∀ k (hk : k < l.length), g l[k] = some (l'[k]'(hl ▸ hk))
  | [], l', h => by
    cases (Option.some.inj h); exact ⟨rfl, fun k hk => absurd hk (Nat.not_lt_zero k)⟩
  | x :: t, l', h => by
    rw [List.mapM_cons] at h
    cases hx : g x with
    | none => rw [hx] at h; cases h
    | some y =>
      cases ht : t.mapM g with
      | none => rw [hx, ht] at h; cases h
      | some ys =>
        rw [hx, ht] at h
        cases (Option.some.inj h)
        obtain ⟨hl, he⟩ := mapM_eq_some ht
        refine ⟨by simp [hl], fun k hk => ?_⟩
        cases k with
        | zero => exact hx
        | succ k => exact he k (by simpa using hk)

theorem mapM_pair_lengths {g g' : β → Option γ} {l : List β} {as bs : List γ} (hne : l ≠ [])
    (h0 : l.mapM g = some as) (h1 : l.mapM g' = some bs) : as.length = bs.length ∧ as ≠ [] := by
  obtain ⟨l0, _⟩ := mapM_eq_some h0
  obtain ⟨l1, _⟩ := mapM_eq_some h1
  refine ⟨by rw [l0, l1], ?_⟩
  rintro rfl
  exact hne (List.length_eq_zero_iff.mp l0.symm)

end mapM

section cascade
variable {α : Type}

theorem split_flat (ks : List (Mat α)) (h : ks ≠ []) : (KrausArg.flat ks).split = some (ks, ks) := by
  cases ks with
  | nil => exact absurd rfl h
  | cons k t => simp [KrausArg.split]

theorem split_nested (ll : List (List (Mat α))) (hne : ll ≠ []) :
    (KrausArg.nested ll).split = if nestedIsCP ll then some (ll.flatten, ll.flatten) else
      (ll.mapM (fun k => k[0]?)).bind fun a => (ll.mapM (fun k => k[1]?)).bind fun b => some (a, b) := by
  cases ll with
  | nil => exact absurd rfl hne
  | cons l t => rfl

theorem split_column (ks : List (Mat α)) (h : ks ≠ []) : (KrausArg.column ks).split = some (ks, ks) := by
  have hcp : nestedIsCP (ks.map (fun k => [k])) = true := by
    cases ks with
    | nil => exact absurd rfl h
    | cons k t => simp [nestedIsCP]
  rw [KrausArg.column, split_nested _ (by simpa using h), if_pos hcp, ← List.flatMap_def, List.flatMap_singleton']

theorem split_row (ks : List (Mat α)) (h : ks.length = 1 ∨ 2 < ks.length) :
    (KrausArg.row ks).split = some (ks, ks) := by
  have hcp : nestedIsCP [ks] = true := by
    rcases h with h | h <;> simp [nestedIsCP, h]
  rw [KrausArg.row, split_nested _ (by simp), if_pos hcp]
  simp

theorem mapM_pairs (as bs : List (Mat α)) (hl : as.length = bs.length) :
    ((as.zip bs).map (fun ab => [ab.1, ab.2])).mapM (fun k => k[0]?) = some as ∧
    ((as.zip bs).map (fun ab => [ab.1, ab.2])).mapM (fun k => k[1]?) = some bs := by
  rw [List.mapM_map, List.mapM_map]
  constructor
  · show (as.zip bs).mapM (fun ab => pure ab.1) = _
    rw [List.mapM_pure, List.map_fst_zip (by omega)]; rfl
  · show (as.zip bs).mapM (fun ab => pure ab.2) = _
    rw [List.mapM_pure, List.map_snd_zip (by omega)]; rfl

/-- a list of pairs is never read as completely positive: its entries have two elements -/
theorem isCP_pairs (as bs : List (Mat α)) : (KrausArg.pairs as bs).isCP = false := by
  cases as with
  | nil => rfl
  | cons a t => cases bs with
    | nil => rfl
    | cons b u => simp [KrausArg.pairs, KrausArg.isCP, nestedIsCP]

theorem split_pairs (as bs : List (Mat α)) (hl : as.length = bs.length) (h : as ≠ []) :
    (KrausArg.pairs as bs).split = some (as, bs) := by
  obtain ⟨h0, h1⟩ := mapM_pairs as bs hl
  have hne : (as.zip bs).map (fun ab => [ab.1, ab.2]) ≠ [] := by
    rw [Ne, List.map_eq_nil_iff, List.zip_eq_nil_iff]
    rintro (e | e)
    · exact h e
    · subst e; exact h (List.length_eq_zero_iff.mp hl)
  rw [KrausArg.pairs, split_nested _ hne, show nestedIsCP _ = false from isCP_pairs as bs,
    if_neg Bool.false_ne_true, h0, h1]
  rfl

theorem flatten_ne_nil_of_cp (ll : List (List (Mat α))) (h : nestedIsCP ll = true) : ll.flatten ≠ [] := by
  cases ll with
  | nil => simp [nestedIsCP] at h
  | cons l t => cases l with
    | nil => simp [nestedIsCP] at h
    | cons k l => simp

theorem split_eq_some (phi : KrausArg α) (as bs : List (Mat α)) (h : phi.split = some (as, bs)) :
    (∃ l, phi = .flat l ∧ l ≠ [] ∧ as = l ∧ bs = l) ∨
    (∃ ll, phi = .nested ll ∧ ll ≠ [] ∧ nestedIsCP ll = true ∧ as = ll.flatten ∧ bs = ll.flatten) ∨
    (∃ ll, phi = .nested ll ∧ ll ≠ [] ∧ nestedIsCP ll = false ∧
      ll.mapM (fun k => k[0]?) = some as ∧ ll.mapM (fun k => k[1]?) = some bs) := by
  cases phi with
  | flat l =>
    have hne : l ≠ [] := by rintro rfl; cases h
    rw [split_flat l hne] at h
    have e := Prod.mk.inj (Option.some.inj h)
    exact .inl ⟨l, rfl, hne, e.1.symm, e.2.symm⟩
  | nested ll =>
    have hne : ll ≠ [] := by rintro rfl; cases h
    rw [split_nested ll hne] at h
    by_cases hcp : nestedIsCP ll = true
    · rw [if_pos hcp] at h
      have e := Prod.mk.inj (Option.some.inj h)
      exact .inr (.inl ⟨ll, rfl, hne, hcp, e.1.symm, e.2.symm⟩)
    · rw [if_neg hcp] at h
      cases h0 : ll.mapM (fun k => k[0]?) with
      | none => rw [h0] at h; cases h
      | some a =>
        cases h1 : ll.mapM (fun k => k[1]?) with
        | none => rw [h0, h1] at h; cases h
        | some b =>
          rw [h0, h1] at h
          have e := Prod.mk.inj (Option.some.inj h)
          exact .inr (.inr ⟨ll, rfl, hne, by simpa using hcp, e.1 ▸ h0, e.2 ▸ h1⟩)

theorem split_of_isCP (phi : KrausArg α) (as bs : List (Mat α)) (hcp : phi.isCP = true)
    (h : phi.split = some (as, bs)) : as = bs := by
  rcases split_eq_some phi as bs h with ⟨l, rfl, _, rfl, rfl⟩ | ⟨ll, rfl, _, _, rfl, rfl⟩ | ⟨ll, rfl, _, hcp', _, _⟩
  · rfl
  · rfl
  · rw [show nestedIsCP ll = true from hcp] at hcp'; cases hcp'

theorem split_length (phi : KrausArg α) (as bs : List (Mat α)) (h : phi.split = some (as, bs)) :
    as.length = bs.length ∧ as ≠ [] := by
  rcases split_eq_some phi as bs h with ⟨l, rfl, hne, rfl, rfl⟩ | ⟨ll, rfl, _, hcp, rfl, rfl⟩ | ⟨ll, rfl, hne, _, h0, h1⟩
  · exact ⟨rfl, hne⟩
  · exact ⟨rfl, flatten_ne_nil_of_cp ll hcp⟩
  · exact mapM_pair_lengths hne h0 h1

theorem split_cp_forms (ks : List (Mat α)) (h : ks ≠ []) (phi : KrausArg α)
    (hform : phi = .flat ks ∨ phi = KrausArg.column ks ∨ (phi = KrausArg.row ks ∧ (ks.length = 1 ∨ 2 < ks.length))) :
    phi.split = some (ks, ks) ∧ phi.isCP = true := by
  rcases hform with rfl | rfl | ⟨rfl, hr⟩
  · exact ⟨split_flat ks h, rfl⟩
  · refine ⟨split_column ks h, ?_⟩
    cases ks with
    | nil => exact absurd rfl h
    | cons k t => simp [KrausArg.column, KrausArg.isCP, nestedIsCP]
  · refine ⟨split_row ks hr, ?_⟩
    rcases hr with hr | hr <;> simp [KrausArg.row, KrausArg.isCP, nestedIsCP, hr]

theorem nestedIsCP_map (f : Mat α → Mat α) (ll : List (List (Mat α))) :
    nestedIsCP (ll.map (fun x => x.map f)) = nestedIsCP ll := by
  cases ll with
  | nil => rfl
  | cons l t => simp [nestedIsCP]

theorem mapM_getElem?_map (f : Mat α → Mat α) (n : Nat) (ll : List (List (Mat α))) :
    (ll.map (fun x => x.map f)).mapM (fun k => k[n]?) = (ll.mapM (fun k => k[n]?)).map (fun l => l.map f) := by
  rw [List.mapM_map]
  simp only [Function.comp_def, List.getElem?_map]
  exact mapM_option_map _ _ _

end cascade

section channelDim
variable {α : Type}

theorem checkDims_none (i0 i1 o0 o1 : Nat) : checkDims i0 i1 o0 o1 true .none = .ok (i0, o0, i1, o1) := by
  simp [checkDims]

theorem channelDimPairs_ok (p : List (Mat α)) (t : List (List (Mat α))) (a b : Mat α)
    (h0 : p[0]? = some a) (h1 : p[1]? = some b) (h : (p :: t).all (pairShapeOk (a.c, a.r, b.c, b.r)) = true) :
    channelDimPairs (p :: t) true .none = .ok ⟨a.c, b.c, a.r, b.r, some (t.length + 1)⟩ := by
  simp only [channelDimPairs, h0, h1, checkDims_none, h]
  simp [packDims]

theorem channelDimCP_of_shaped (ks : List (Mat α)) (hne : ks ≠ []) (d_in d_out : Nat) (hs : Shaped ks d_out d_in) :
    channelDimCP ks true .none = .ok ⟨d_in, d_in, d_out, d_out, some ks.length⟩ := by
  cases ks with
  | nil => exact absurd rfl hne
  | cons k t =>
    obtain ⟨rfl, rfl⟩ := hs k (by simp)
    simp [channelDimCP, checkDims_none, (allShape_iff _ _ _).mpr hs, packDims]

theorem channelDimKraus_of_split (phi : KrausArg α) (as bs : List (Mat α)) (hsplit : phi.split = some (as, bs))
    (di0 di1 do0 do1 : Nat) (ha : Shaped as do0 di0) (hb : Shaped bs do1 di1) :
    channelDimKraus phi true .none = .ok ⟨di0, di1, do0, do1, some as.length⟩ := by
  rcases split_eq_some phi as bs hsplit with ⟨l, rfl, hne, rfl, rfl⟩ | ⟨ll, rfl, _, hcp, rfl, rfl⟩ | ⟨ll, rfl, hne, hcp, h0, h1⟩
  · obtain ⟨rfl, rfl⟩ := shaped_unique hne ha hb
    exact channelDimCP_of_shaped _ hne _ _ ha
  · obtain ⟨rfl, rfl⟩ := shaped_unique (flatten_ne_nil_of_cp ll hcp) ha hb
    simp only [channelDimKraus, hcp, if_true]
    exact channelDimCP_of_shaped _ (flatten_ne_nil_of_cp ll hcp) _ _ ha
  · -- entry `k` of `ll` starts with `as[k]`, `bs[k]`
    obtain ⟨la, ea⟩ := mapM_eq_some h0
    obtain ⟨lb, eb⟩ := mapM_eq_some h1
    have hall : ll.all (pairShapeOk (di0, do0, di1, do1)) = true := by
      rw [List.all_eq_true]; intro p hp
      obtain ⟨k, hk, rfl⟩ := List.getElem_of_mem hp
      have h2 := ha _ (List.getElem_mem (la ▸ hk))
      have h3 := hb _ (List.getElem_mem (lb ▸ hk))
      simp [pairShapeOk, ea k hk, eb k hk, h2.1, h2.2, h3.1, h3.2]
    cases ll with
    | nil => exact absurd rfl hne
    | cons p t =>
      obtain ⟨rfl, rfl⟩ := ha _ (List.getElem_mem (la ▸ List.length_pos_iff.mpr hne))
      obtain ⟨rfl, rfl⟩ := hb _ (List.getElem_mem (lb ▸ List.length_pos_iff.mpr hne))
      simp only [channelDimKraus, hcp, Bool.false_eq_true, if_false, la]
      exact channelDimPairs_ok p t _ _ (ea 0 (Nat.zero_lt_succ _)) (eb 0 (Nat.zero_lt_succ _)) hall

theorem channelDimChoi_mat (di0 do0 di1 do1 : Nat) :
    channelDimChoi (di0 * do0) (di1 * do1) true (.mat di0 do0 di1 do1) = .ok ⟨di0, di1, do0, do1, none⟩ := by
  simp [channelDimChoi, expandDim, packDims]

end channelDim

section embedForms
variable {α : Type} [Mul α] [Zero α] [One α]

theorem embedArg_split (phi : KrausArg α) (sys n : Nat) (rd cd : Nat → Nat) :
    (embedArg phi sys n rd cd).bind KrausArg.split
      = phi.split.map fun ab =>
          (ab.1.map (embed (prodBefore rd sys) (prodAfter rd n sys)),
           ab.2.map (if phi.isCP then embed (prodBefore rd sys) (prodAfter rd n sys)
                     else embed (prodBefore cd sys) (prodAfter cd n sys))) := by
  have flatCase : ∀ l : List (Mat α), l ≠ [] → ∀ f : Mat α → Mat α,
      (KrausArg.flat (l.map f)).split = some (l.map f, l.map f) :=
    fun l hl f => split_flat _ (by simpa using hl)
  cases phi with
  | flat l =>
    cases l with
    | nil => rfl
    | cons k t => exact flatCase (k :: t) (by simp) _
  | nested ll =>
    by_cases hne : ll = []
    · subst hne; rfl
    have hne' : ll.isEmpty = false := by simpa [List.isEmpty_iff] using hne
    by_cases hcp : nestedIsCP ll = true
    · simp only [embedArg, KrausArg.split, KrausArg.isCP, hne', hcp, if_true, Bool.false_eq_true, if_false,
        Option.bind_some, Option.map_some]
      exact flatCase _ (flatten_ne_nil_of_cp ll hcp) _
    · simp only [embedArg, KrausArg.split, KrausArg.isCP, hne', hcp, Bool.false_eq_true, if_false, mapM_option_map]
      cases h0 : ll.mapM (fun k => k[0]?) with
      | none => rfl
      | some as =>
        cases h1 : ll.mapM (fun k => k[1]?) with
        | none => rfl
        | some bs =>
          obtain ⟨hl, has⟩ := mapM_pair_lengths hne h0 h1
          exact split_pairs (as.map _) (bs.map _) (by simpa using hl) (by simpa using has)

end embedForms

section applyForms
variable {α : Type} [Add α] [Mul α] [Zero α] [One α] [HasConj α]

theorem applyKraus_of_split (X : Mat α) (phi : KrausArg α) (as bs : List (Mat α))
    (h : phi.split = some (as, bs)) : applyKraus X phi = some (applyKrausLists X as bs) := by
  simp [applyKraus, h]

theorem partialChannelKraus_of_split (rho : Mat α) (phi : KrausArg α) (as bs : List (Mat α))
    (hsplit : phi.split = some (as, bs)) (sys n : Nat) (rd cd : Nat → Nat) :
    partialChannelKraus rho phi sys n rd cd
      = some (applyKrausLists rho (as.map (embed (prodBefore rd sys) (prodAfter rd n sys)))
          (bs.map (if phi.isCP then embed (prodBefore rd sys) (prodAfter rd n sys)
                   else embed (prodBefore cd sys) (prodAfter cd n sys)))) := by
  have := embedArg_split phi sys n rd cd
  rw [hsplit] at this
  unfold partialChannelKraus applyKraus
  cases h : embedArg phi sys n rd cd with
  | none => rw [h] at this; cases this
  | some psi =>
    rw [h] at this
    simp only [Option.bind_some, Option.map_some] at this ⊢
    rw [this]; rfl

theorem applyKrausLists_shape (X : Mat α) (as bs : List (Mat α)) (do0 do1 c0 c1 : Nat)
    (ha : Shaped as do0 c0) (hb : Shaped bs do1 c1) (hl : as.length = bs.length) (h : as ≠ []) :
    (applyKrausLists X as bs).r = do0 ∧ (applyKrausLists X as bs).c = do1 := by
  cases as with
  | nil => exact absurd rfl h
  | cons a t => cases bs with
    | nil => simp at hl
    | cons b u => exact ⟨(ha a (by simp)).1, (hb b (by simp)).1⟩

end applyForms

section kron
variable {α : Type} [Mul α]

theorem kron_e (A B : Mat α) (x y x' y' : Nat) (hy : y < B.r) (hy' : y' < B.c) :
    (kron A B).e (x * B.r + y) (x' * B.c + y') = A.e x x' * B.e y y' := by
  obtain ⟨h1, h2⟩ := Nat.mul_add_divMod_of_lt (q := x) hy
  obtain ⟨h3, h4⟩ := Nat.mul_add_divMod_of_lt (q := x') hy'
  simp only [kron, h1, h2, h3, h4]

theorem kron3_e (A B C : Mat α) (x y z x' y' z' : Nat) (hy : y < B.r) (hz : z < C.r) (hy' : y' < B.c) (hz' : z' < C.c) :
    (kron (kron A B) C).e ((x * B.r + y) * C.r + z) ((x' * B.c + y') * C.c + z') = A.e x x' * B.e y y' * C.e z z' := by
  rw [kron_e (kron A B) C _ z _ z' hz hz', kron_e A B x y x' y' hy hy']

end kron

section kronIdentity
variable {α : Type} [CommSemiring α]

theorem kron_identity_e (n : Nat) (X : Mat α) (k i k' j : Nat) (hi : i < X.r) (hj : j < X.c) :
    (kron (identity n) X).e (k * X.r + i) (k' * X.c + j) = (if k = k' then 1 else 0) * X.e i j :=
  kron_e (identity n) X k i k' j hi hj

theorem kron_row_identity_e (n p : Nat) (v : Nat → α) (a f a' : Nat) (ha : a < p) (ha' : a' < p) :
    (kron (row n v) (identity p)).e a (f * p + a') = if a = a' then v f else 0 := by
  have := kron_e (row n v) (identity p) 0 a f a' ha ha'
  rw [Nat.zero_mul, Nat.zero_add] at this
  refine this.trans ?_
  show v f * (if a = a' then 1 else 0) = _
  rw [mul_ite, mul_one, mul_zero]

theorem embed_r (pre post : Nat) (m : Mat α) : (embed pre post m).r = pre * m.r * post := rfl

theorem embed_c (pre post : Nat) (m : Mat α) : (embed pre post m).c = pre * m.c * post := rfl

/-- the shape of `m` is passed as two equations: the callers know it from `getD_shape` for an element of a list -/
theorem embed_e (pre post : Nat) (m : Mat α) {r c : Nat} (hr : m.r = r) (hc : m.c = c) (p a q p' i q' : Nat)
    (ha : a < r) (hi : i < c) (hq : q < post) (hq' : q' < post) :
    (embed pre post m).e ((p * r + a) * post + q) ((p' * c + i) * post + q')
      = (if p = p' then 1 else 0) * m.e a i * (if q = q' then 1 else 0) := by
  subst hr hc
  exact kron3_e (identity pre) m (identity post) p a q p' i q' ha hq hi hq'

theorem embed_e_diag (pre post : Nat) (m : Mat α) {r c : Nat} (hr : m.r = r) (hc : m.c = c) (p a q i : Nat)
    (ha : a < r) (hi : i < c) (hq : q < post) :
    (embed pre post m).e ((p * r + a) * post + q) ((p * c + i) * post + q) = m.e a i := by
  rw [embed_e pre post m hr hc p a q p i q ha hi hq hq, if_pos rfl, if_pos rfl, one_mul, mul_one]

theorem embed_e_of_ne (pre post : Nat) (m : Mat α) {r c : Nat} (hr : m.r = r) (hc : m.c = c) (p a q p' i q' : Nat)
    (ha : a < r) (hi : i < c) (hq : q < post) (hq' : q' < post) (hne : p' ≠ p ∨ q' ≠ q) :
    (embed pre post m).e ((p * r + a) * post + q) ((p' * c + i) * post + q') = 0 := by
  rw [embed_e pre post m hr hc p a q p' i q' ha hi hq hq']
  rcases hne with h | h
  · rw [if_neg (Ne.symm h), zero_mul, zero_mul]
  · rw [if_neg (Ne.symm h), mul_zero]

theorem shaped_map_embed (l : List (Mat α)) (r c pre post : Nat) (h : Shaped l r c) :
    Shaped (l.map (embed pre post)) (pre * r * post) (pre * c * post) :=
  shaped_map l (embed pre post) _ _ fun x hx => by rw [embed_r, embed_c, (h x hx).1, (h x hx).2]; exact ⟨rfl, rfl⟩

end kronIdentity

section unit
variable {α : Type} [NonAssocSemiring α]

theorem unit_self (i j : Nat) : (unit i j i j : α) = 1 := if_pos ⟨rfl, rfl⟩

theorem unit_of_ne_left {i i' : Nat} (h : i' ≠ i) (j j' : Nat) : (unit i j i' j' : α) = 0 := if_neg fun e => h e.1

theorem unit_of_ne_right {j j' : Nat} (h : j' ≠ j) (i i' : Nat) : (unit i j i' j' : α) = 0 := if_neg fun e => h e.2

theorem unit_comm (i j q q' : Nat) : (unit i j q q' : α) = unit q q' i j :=
  if_congr (and_congr eq_comm eq_comm) rfl rfl

theorem sumN_sumN_mul_unit (f : Nat → Nat → α) {m n i j : Nat} (hi : i < m) (hj : j < n) :
    (sumN m fun a => sumN n fun b => f a b * unit i j a b) = f i j := by
  rw [sumN_eq_single _ i _ hi fun a _ hne => sumN_eq_zero _ _ fun b _ => by rw [unit_of_ne_left hne, mul_zero],
    sumN_eq_single _ j _ hj fun b _ hne => by rw [unit_of_ne_right hne, mul_zero], unit_self, mul_one]

end unit

section maxEnt
variable {α : Type} [CommSemiring α] [StarRing α]

theorem star_ite_one_zero (c : Prop) [Decidable c] : star (if c then (1 : α) else 0) = if c then 1 else 0 := by
  split
  · exact star_one α
  · exact star_zero α

theorem maxEnt_mul_r (d1 d2 : Nat) : ((maxEnt (α := α) d1).mul (maxEnt d2).ct).r = d1 * d1 := rfl

theorem maxEnt_mul_c (d1 d2 : Nat) : ((maxEnt (α := α) d1).mul (maxEnt d2).ct).c = d2 * d2 := rfl

/-- the unnormalised maximally entangled operator `ψ_{d1} ψ_{d2}ᴴ = Σ_ij E_ij ⊗ E_ij`: a contraction of length one,
    `δ_{p i} · conj δ_{p' j}` -/
theorem maxEnt_mul_e (d1 d2 p i p' j : Nat) (hi : i < d1) (hj : j < d2) :
    ((maxEnt (α := α) d1).mul (maxEnt d2).ct).e (p * d1 + i) (p' * d2 + j) = unit p p' i j := by
  obtain ⟨h1, h2⟩ := Nat.mul_add_divMod_of_lt (q := p) hi
  obtain ⟨h3, h4⟩ := Nat.mul_add_divMod_of_lt (q := p') hj
  simp only [Mat.mul, maxEnt, Mat.ct, Mat.T, Mat.conj, identity, sumN, zero_add, h1, h2, h3, h4, conj_eq_star,
    star_ite_one_zero]
  rw [ite_zero_mul_ite_zero, mul_one]
  exact if_congr (and_congr eq_comm eq_comm) rfl rfl

end maxEnt

section reshape
variable {α : Type}

/-- the array `b_mat` of `apply_channel`: `J.T` with its row factors swapped, transposed and reshaped column-major to
    `(p0·r·c) × p1`, holds `J[(i,a),(j,b)]` at row `(j, i, a)`, column `b`; `row + p0·(r·c)·b` is the flat index
    that `np.reshape(·, order="F")` reads -/
theorem reshapeF_swap2_e (J : Mat α) (r c p0 p1 i j a b : Nat) (hJr : J.r = r * p0)
    (hi : i < r) (hj : j < c) (ha : a < p0) (hb : b < p1) :
    (reshapeF (swap2 J.T (fnOfList [c, p1]) (fnOfList [r, p0]) true).T (p0 * (r * c)) p1).e ((j * r + i) * p0 + a) b
      = J.e (i * p0 + a) (j * p1 + b) := by
  have hflat : (j * r + i) * p0 + a + p0 * (r * c) * b = (b * c + j) * (r * p0) + (i * p0 + a) := by ring
  obtain ⟨h3, h4⟩ := Nat.mul_add_divMod_of_lt (q := b * c + j) (Nat.mul_add_lt_mul hi ha)
  simp only [reshapeF, Mat.T, swap2, permuteMat, hJr, hflat, h3, h4, if_true, swap_index c p1 b j hb hj]

end reshape

section applyC
variable {α : Type} [CommSemiring α]

/-- the model (and so this formula) is the code for `J` that is not vector-shaped, see `swap2` -/
theorem applyChoi_e (X J : Mat α) (p0 p1 : Nat) (hxr : 0 < X.r) (hxc : 0 < X.c)
    (hJr : J.r = X.r * p0) (hJc : J.c = X.c * p1) (a b : Nat) (ha : a < p0) (hb : b < p1) :
    (applyChoi X J).e a b = applyChoiSpec J.e X.r X.c p0 p1 X.e a b := by
  have e0 : J.r / X.r = p0 := by rw [hJr]; exact Nat.mul_div_cancel_left _ hxr
  have e1 : J.c / X.c = p1 := by rw [hJc]; exact Nat.mul_div_cancel_left _ hxc
  unfold applyChoi
  simp only [e0, e1]
  show sumN (X.r * X.c * p0) (fun t =>
      (kron (row (X.r * X.c) X.vecF) (identity p0)).e a t *
      (reshapeF (swap2 J.T (fnOfList [X.c, p1]) (fnOfList [X.r, p0]) true).T (p0 * (X.r * X.c)) p1).e t b) = _
  rw [sumN_mul_range]
  -- the identity factor of `kron(vec X, I)` keeps the output row `a`
  refine Eq.trans (sumN_congr _ _ _ fun f _ => sumN_eq_single _ a _ ha fun a' ha' hne => ?_) ?_
  · rw [kron_row_identity_e _ _ _ a f a' ha ha', if_neg (Ne.symm hne), zero_mul]
  rw [Nat.mul_comm X.r X.c, sumN_mul_range]
  unfold applyChoiSpec
  rw [sumN_comm]
  apply sumN_congr; intro i hi
  apply sumN_congr; intro j hj
  rw [Nat.mul_comm X.c X.r, reshapeF_swap2_e J X.r X.c p0 p1 i j a b hJr hi hj ha hb,
    kron_row_identity_e _ _ _ a _ a ha ha, if_pos rfl]
  obtain ⟨h1, h2⟩ := Nat.mul_add_divMod_of_lt (q := j) hi
  simp only [Mat.vecF, h1, h2]

end applyC

section embedChoi
variable {α : Type} [CommSemiring α] [StarRing α]

theorem embedChoi_r (J : Mat α) (sys n : Nat) (rd cd : Nat → Nat) :
    (embedChoi J sys n rd cd).r
      = prodBefore rd sys * prodBefore rd sys * J.r * (prodAfter rd n sys * prodAfter rd n sys) := rfl

theorem embedChoi_c (J : Mat α) (sys n : Nat) (rd cd : Nat → Nat) :
    (embedChoi J sys n rd cd).c
      = prodBefore cd sys * prodBefore cd sys * J.c * (prodAfter cd n sys * prodAfter cd n sys) := rfl

def embedChoiAt (r1 c1 r2 c2 d0 d1 : Nat) (J : Mat α) : Mat α :=
  (kron (kron ((maxEnt r1).mul (maxEnt c1).ct) J) ((maxEnt r2).mul (maxEnt c2).ct)).permute 6 (fnOfList [0, 2, 4, 1, 3, 5])
    (fnOfList [r1, r1, d0, J.r / d0, r2, r2]) (fnOfList [c1, c1, d1, J.c / d1, c2, c2])

theorem embedChoi_eq (J : Mat α) (sys n : Nat) (rd cd : Nat → Nat) :
    embedChoi J sys n rd cd = embedChoiAt (prodBefore rd sys) (prodBefore cd sys) (prodAfter rd n sys) (prodAfter cd n sys)
      (rd (sys - 1)) (cd (sys - 1)) J := rfl

theorem perm6_index (x0 x1 x2 x3 x4 x5 p i q p2 a q2 : Nat)
    (h0 : p < x0) (h1 : i < x2) (h2 : q < x4) (h3 : p2 < x1) (h4 : a < x3) (h5 : q2 < x5) :
    permIndex 6 (fnOfList [0, 2, 4, 1, 3, 5]) (fnOfList [x0, x1, x2, x3, x4, x5]) false
      (((((p * x2 + i) * x4 + q) * x1 + p2) * x3 + a) * x5 + q2)
      = ((((p * x1 + p2) * x2 + i) * x3 + a) * x4 + q) * x5 + q2 := by
  have := permIndex_enc 6 (fnOfList [0, 2, 4, 1, 3, 5]) (fnOfList [x0, x1, x2, x3, x4, x5]) (fnOfList [p, i, q, p2, a, q2])
    ((isPerm_eq_true_iff 6 _).mp (by decide)) (by intro k hk; interval_cases k <;> assumption)
  simp only [enc, Nat.zero_mul, Nat.zero_add] at this
  exact this

/-- input labels `(p,i,q)` / `(p',j,q')`, output labels `(p2,a,q2)` / `(p2',b,q2')`: the Choi matrix of `id ⊗ Φ_J ⊗ id` -/
theorem embedChoiAt_e (J : Mat α) (r1 c1 r2 c2 d0 d1 o0 o1 : Nat) (hd0 : 0 < d0) (hd1 : 0 < d1)
    (hJr : J.r = d0 * o0) (hJc : J.c = d1 * o1) (p i q p2 a q2 p' j q' p2' b q2' : Nat)
    (hp : p < r1) (hi : i < d0) (hq : q < r2) (hp2 : p2 < r1) (ha : a < o0) (hq2 : q2 < r2)
    (hp' : p' < c1) (hj : j < d1) (hq' : q' < c2) (hp2' : p2' < c1) (hb : b < o1) (hq2' : q2' < c2) :
    (embedChoiAt r1 c1 r2 c2 d0 d1 J).e
        (((((p * d0 + i) * r2 + q) * r1 + p2) * o0 + a) * r2 + q2)
        (((((p' * d1 + j) * c2 + q') * c1 + p2') * o1 + b) * c2 + q2')
      = unit p p' p2 p2' * J.e (i * o0 + a) (j * o1 + b) * unit q q' q2 q2' := by
  have e0 : J.r / d0 = o0 := by rw [hJr]; exact Nat.mul_div_cancel_left _ hd0
  have e1 : J.c / d1 = o1 := by rw [hJc]; exact Nat.mul_div_cancel_left _ hd1
  unfold embedChoiAt
  rw [e0, e1]
  show (kron (kron ((maxEnt r1).mul (maxEnt c1).ct) J) ((maxEnt r2).mul (maxEnt c2).ct)).e
      (permIndex 6 _ (fnOfList [r1, r1, d0, o0, r2, r2]) false _) (permIndex 6 _ (fnOfList [c1, c1, d1, o1, c2, c2]) false _) = _
  rw [perm6_index r1 r1 d0 o0 r2 r2 p i q p2 a q2 hp hi hq hp2 ha hq2,
    perm6_index c1 c1 d1 o1 c2 c2 p' j q' p2' b q2' hp' hj hq' hp2' hb hq2']
  -- the three Kronecker factors read the digit pairs `(p, p2)`, `((i, a))`, `(q, q2)`
  have hK := kron3_e ((maxEnt (α := α) r1).mul (maxEnt c1).ct) J ((maxEnt r2).mul (maxEnt c2).ct)
    (p * r1 + p2) (i * o0 + a) (q * r2 + q2) (p' * c1 + p2') (j * o1 + b) (q' * c2 + q2')
    (by rw [hJr]; exact Nat.mul_add_lt_mul hi ha) (by rw [maxEnt_mul_r]; exact Nat.mul_add_lt_mul hq hq2)
    (by rw [hJc]; exact Nat.mul_add_lt_mul hj hb) (by rw [maxEnt_mul_c]; exact Nat.mul_add_lt_mul hq' hq2')
  rw [maxEnt_mul_r, maxEnt_mul_c, hJr, hJc] at hK
  have regroup : ∀ x d0 o0 i a r2 q q2 : Nat,
      (((x * d0 + i) * o0 + a) * r2 + q) * r2 + q2 = (x * (d0 * o0) + (i * o0 + a)) * (r2 * r2) + (q * r2 + q2) := by
    intros; ring
  rw [regroup, regroup, hK, maxEnt_mul_e r1 c1 p p2 p' p2' hp2 hp2', maxEnt_mul_e r2 c2 q q2 q' q2' hq2 hq2']

/-- `apply_channel` with the embedded Choi matrix is `id ⊗ Φ_J ⊗ id`: only the digits `(p, ·, q)`, `(p', ·, q')` of the
    input indices of `ρ` contribute -/
theorem applyChoi_embedChoiAt_e (rho J : Mat α) (r1 c1 r2 c2 d0 d1 o0 o1 : Nat) (hd0 : 0 < d0) (hd1 : 0 < d1)
    (hJr : J.r = d0 * o0) (hJc : J.c = d1 * o1) (hr : rho.r = r1 * d0 * r2) (hc : rho.c = c1 * d1 * c2)
    (p a q p' b q' : Nat) (hp : p < r1) (ha : a < o0) (hq : q < r2) (hp' : p' < c1) (hb : b < o1) (hq' : q' < c2) :
    (applyChoi rho (embedChoiAt r1 c1 r2 c2 d0 d1 J)).e ((p * o0 + a) * r2 + q) ((p' * o1 + b) * c2 + q')
      = sumN d0 fun i => sumN d1 fun j =>
          rho.e ((p * d0 + i) * r2 + q) ((p' * d1 + j) * c2 + q') * J.e (i * o0 + a) (j * o1 + b) := by
  have hE := embedChoiAt_e J r1 c1 r2 c2 d0 d1 o0 o1 hd0 hd1 hJr hJc
  have hphir : (embedChoiAt r1 c1 r2 c2 d0 d1 J).r = rho.r * (r1 * o0 * r2) := by
    show r1 * r1 * J.r * (r2 * r2) = _
    rw [hJr, hr]; ring
  have hphic : (embedChoiAt r1 c1 r2 c2 d0 d1 J).c = rho.c * (c1 * o1 * c2) := by
    show c1 * c1 * J.c * (c2 * c2) = _
    rw [hJc, hc]; ring
  have hxr : 0 < rho.r := by
    rw [hr]; exact Nat.mul_pos (Nat.mul_pos (Nat.zero_lt_of_lt hp) hd0) (Nat.zero_lt_of_lt hq)
  have hxc : 0 < rho.c := by
    rw [hc]; exact Nat.mul_pos (Nat.mul_pos (Nat.zero_lt_of_lt hp') hd1) (Nat.zero_lt_of_lt hq')
  rw [applyChoi_e rho _ (r1 * o0 * r2) (c1 * o1 * c2) hxr hxc hphir hphic _ _
    (Nat.mul_add_lt_mul (Nat.mul_add_lt_mul hp ha) hq) (Nat.mul_add_lt_mul (Nat.mul_add_lt_mul hp' hb) hq')]
  unfold applyChoiSpec
  rw [hr, hc]
  have append : ∀ R r1 o0 r2 p2 a q2 : Nat,
      R * (r1 * o0 * r2) + ((p2 * o0 + a) * r2 + q2) = ((R * r1 + p2) * o0 + a) * r2 + q2 := by
    intros; ring
  -- the summand at row digits `(p₀, i, q₀)` and column digits `(p₀', j, q₀')`
  have key : ∀ p₀ i q₀ p₀' j q₀', p₀ < r1 → i < d0 → q₀ < r2 → p₀' < c1 → j < d1 → q₀' < c2 →
      rho.e ((p₀ * d0 + i) * r2 + q₀) ((p₀' * d1 + j) * c2 + q₀') *
        (embedChoiAt r1 c1 r2 c2 d0 d1 J).e (((p₀ * d0 + i) * r2 + q₀) * (r1 * o0 * r2) + ((p * o0 + a) * r2 + q))
          (((p₀' * d1 + j) * c2 + q₀') * (c1 * o1 * c2) + ((p' * o1 + b) * c2 + q'))
      = rho.e ((p₀ * d0 + i) * r2 + q₀) ((p₀' * d1 + j) * c2 + q₀') *
        (unit p₀ p₀' p p' * J.e (i * o0 + a) (j * o1 + b) * unit q₀ q₀' q q') := by
    intro p₀ i q₀ p₀' j q₀' hp₀ hi hq₀ hp₀' hj hq₀'
    rw [append, append, hE p₀ i q₀ p a q p₀' j q₀' p' b q' hp₀ hi hq₀ hp ha hq hp₀' hj hq₀' hp' hb hq']
  refine (sumN_digits3_pick r1 d0 r2 p q hp hq _ fun p₀ i q₀ hp₀ hi hq₀ hne => ?_).trans ?_
  · rw [sumN_mul_range, sumN_mul_range]
    refine sumN_eq_zero _ _ fun p₀' hp₀' => sumN_eq_zero _ _ fun j hj => sumN_eq_zero _ _ fun q₀' hq₀' => ?_
    rw [key p₀ i q₀ p₀' j q₀' hp₀ hi hq₀ hp₀' hj hq₀']
    rcases hne with h | h
    · rw [unit_of_ne_left (Ne.symm h), zero_mul, zero_mul, mul_zero]
    · rw [unit_of_ne_left (Ne.symm h), mul_zero, mul_zero]
  apply sumN_congr; intro i hi
  refine (sumN_digits3_pick c1 d1 c2 p' q' hp' hq' _ fun p₀' j q₀' hp₀' hj hq₀' hne => ?_).trans ?_
  · rw [key p i q p₀' j q₀' hp hi hq hp₀' hj hq₀']
    rcases hne with h | h
    · rw [unit_of_ne_right (Ne.symm h), zero_mul, zero_mul, mul_zero]
    · rw [unit_of_ne_right (Ne.symm h), mul_zero, mul_zero]
  apply sumN_congr; intro j hj
  rw [key p i q p' j q' hp hi hq hp' hj hq', unit_self, unit_self, one_mul, mul_one]

end embedChoi

section applyK
variable {α : Type} [CommSemiring α] [StarRing α]

theorem hsInner_congr_left (m n : Nat) (Y Y' Z : Nat → Nat → α) (h : ∀ a b, a < m → b < n → Y a b = Y' a b) :
    hsInner m n Y Z = hsInner m n Y' Z :=
  sumN_congr _ _ _ fun a ha => sumN_congr _ _ _ fun b hb => by rw [h a b ha hb]

theorem hsInner_congr_right (m n : Nat) (Y Z Z' : Nat → Nat → α) (h : ∀ a b, a < m → b < n → Z a b = Z' a b) :
    hsInner m n Y Z = hsInner m n Y Z' :=
  sumN_congr _ _ _ fun a ha => sumN_congr _ _ _ fun b hb => by rw [h a b ha hb]

theorem applyKrausLists_eq (X : Mat α) (as bs : List (Mat α)) (do0 do1 : Nat)
    (ha : Shaped as do0 X.r) (hb : Shaped bs do1 X.c) (hl : as.length = bs.length) :
    (applyKrausLists X as bs).e = applySpec as.length (fam as) (fam bs) X.r X.c X.e := by
  funext a b
  show sumN (as.length * X.c) (fun c => sumN (hcat as).c (fun t => (hcat as).e a t *
      (kron (identity as.length) X).e t c) * (vcat (bs.map Mat.ct)).e c b) = _
  rw [hcat_c as do0 X.r ha, sumN_mul_range]
  unfold applySpec
  apply sumN_congr; intro k' hk'
  refine Eq.trans ?_ (sumN_comm _ _ _)
  apply sumN_congr; intro j hj
  have hk'b : k' < bs.length := hl ▸ hk'
  rw [vcat_e _ X.c do1 (shaped_map_ct bs do1 X.c hb) b k' j (by simpa using hk'b) hj, fam_map bs Mat.ct default k' hk'b,
    sumN_mul_range]
  -- the identity factor of `kron(I, X)` keeps block `k'` of the concatenated left operators
  rw [sumN_eq_single _ k' _ hk' fun k _ hne => sumN_eq_zero _ _ fun i hi => by
    rw [kron_identity_e _ X k i k' j hi hj, if_neg hne, zero_mul, mul_zero]]
  rw [← sumN_mul_right]
  apply sumN_congr; intro i hi
  rw [hcat_e as do0 X.r ha a k' i hk' hi, kron_identity_e _ X k' i k' j hi hj, if_pos rfl, one_mul]
  rfl

theorem applySpec_inner (r : Nat) (A B : Nat → Nat → Nat → α) (di0 di1 : Nat) (X : Nat → Nat → α) (a b : Nat) :
    applySpec r A B di0 di1 X a b
      = sumN di0 fun i => sumN di1 fun j => sumN r fun k => A k a i * X i j * HasConj.conj (B k b j) := by
  unfold applySpec
  rw [sumN_comm, sumN_congr _ _ _ fun i _ => sumN_comm (fun k j => A k a i * X i j * HasConj.conj (B k b j)) r di1]

theorem applySpec_congr (r : Nat) (A B : Nat → Nat → Nat → α) (di0 di1 : Nat) (X X' : Nat → Nat → α)
    (h : ∀ i j, i < di0 → j < di1 → X i j = X' i j) (a b : Nat) :
    applySpec r A B di0 di1 X a b = applySpec r A B di0 di1 X' a b := by
  unfold applySpec
  apply sumN_congr; intro k _
  apply sumN_congr; intro i hi
  apply sumN_congr; intro j hj
  rw [h i j hi hj]

theorem applySpec_mul_left_right (r : Nat) (A B : Nat → Nat → Nat → α) (di0 di1 : Nat) (X : Nat → Nat → α) (c c' : α) (a b : Nat) :
    applySpec r A B di0 di1 (fun i j => c * X i j * c') a b = c * applySpec r A B di0 di1 X a b * c' := by
  unfold applySpec
  rw [← sumN_mul_left, ← sumN_mul_right]
  refine sumN_congr _ _ _ fun k _ => ?_
  rw [← sumN_mul_left, ← sumN_mul_right]
  refine sumN_congr _ _ _ fun i _ => ?_
  rw [← sumN_mul_left, ← sumN_mul_right]
  exact sumN_congr _ _ _ fun j _ => by ring

theorem applySpec_unit (r : Nat) (A B : Nat → Nat → Nat → α) (di0 di1 i j a b : Nat) (hi : i < di0) (hj : j < di1) :
    applySpec r A B di0 di1 (unit i j) a b = sumN r (fun k => A k a i * HasConj.conj (B k b j)) := by
  unfold applySpec
  apply sumN_congr; intro k _
  simp only [mul_right_comm _ (unit i j _ _)]
  exact sumN_sumN_mul_unit (fun i' j' => A k a i' * HasConj.conj (B k b j')) hi hj

theorem applyChoiSpec_of_choi (r : Nat) (A B : Nat → Nat → Nat → α) (di0 di1 do0 do1 : Nat) (J X : Nat → Nat → α)
    (hJ : ∀ i a j b, i < di0 → a < do0 → j < di1 → b < do1 →
      J (i * do0 + a) (j * do1 + b) = applySpec r A B di0 di1 (unit i j) a b)
    (a b : Nat) (ha : a < do0) (hb : b < do1) :
    applyChoiSpec J di0 di1 do0 do1 X a b = applySpec r A B di0 di1 X a b := by
  rw [applySpec_inner]
  unfold applyChoiSpec
  apply sumN_congr; intro i hi
  apply sumN_congr; intro j hj
  rw [hJ i a j b hi ha hj hb, applySpec_unit r A B di0 di1 i j a b hi hj, ← sumN_mul_left]
  apply sumN_congr; intro k _; ring

theorem choiSpec_entry (r : Nat) (A B : Nat → Nat → Nat → α) (di0 di1 do0 do1 i a j b : Nat)
    (ha : a < do0) (hb : b < do1) :
    choiSpec r A B di0 di1 do0 do1 (i * do0 + a) (j * do1 + b) = applySpec r A B di0 di1 (unit i j) a b := by
  obtain ⟨h1, h2⟩ := Nat.mul_add_divMod_of_lt (q := i) ha
  obtain ⟨h3, h4⟩ := Nat.mul_add_divMod_of_lt (q := j) hb
  simp only [choiSpec, h1, h2, h3, h4]

theorem applySpec_eq_applyChoiSpec (r : Nat) (A B : Nat → Nat → Nat → α) (di0 di1 do0 do1 : Nat) (X : Nat → Nat → α)
    (a b : Nat) (ha : a < do0) (hb : b < do1) :
    applySpec r A B di0 di1 X a b = applyChoiSpec (choiSpec r A B di0 di1 do0 do1) di0 di1 do0 do1 X a b :=
  (applyChoiSpec_of_choi r A B di0 di1 do0 do1 _ X
    (fun i a j b _ ha' _ hb' => choiSpec_entry r A B di0 di1 do0 do1 i a j b ha' hb') a b ha hb).symm

end applyK

section partialChannel
variable {α : Type} [CommSemiring α] [StarRing α]

theorem partialKrausLists_e (rho : Mat α) (as bs : List (Mat α)) (pre post pre' post' d0 d1 do0 do1 : Nat)
    (ha : Shaped as do0 d0) (hb : Shaped bs do1 d1) (hl : as.length = bs.length)
    (hr : rho.r = pre * d0 * post) (hc : rho.c = pre' * d1 * post')
    (p a q p' b q' : Nat) (hp : p < pre) (hA : a < do0) (hq : q < post) (hp' : p' < pre') (hB : b < do1)
    (hq' : q' < post') :
    (applyKrausLists rho (as.map (embed pre post)) (bs.map (embed pre' post'))).e
        ((p * do0 + a) * post + q) ((p' * do1 + b) * post' + q')
      = sumN as.length fun k => sumN d0 fun i => sumN d1 fun j =>
          fam as k a i * rho.e ((p * d0 + i) * post + q) ((p' * d1 + j) * post' + q') * HasConj.conj (fam bs k b j) := by
  have ha' := shaped_map_embed as do0 d0 pre post ha
  have hb' := shaped_map_embed bs do1 d1 pre' post' hb
  rw [← hr] at ha'; rw [← hc] at hb'
  rw [applyKrausLists_eq rho _ _ _ _ ha' hb' (by simpa using hl)]
  unfold applySpec
  rw [List.length_map]
  apply sumN_congr; intro k hk
  have hk' : k < bs.length := by omega
  obtain ⟨hAr, hAc⟩ := getD_shape as do0 d0 k ha hk
  obtain ⟨hBr, hBc⟩ := getD_shape bs do1 d1 k hb hk'
  rw [fam_map as _ default k hk, fam_map bs _ default k hk', hr, hc]
  -- only the digits `(p, ·, q)` of the row index and `(p', ·, q')` of the column index of `ρ` contribute
  refine (sumN_digits3_pick pre d0 post p q hp hq _ fun p₂ i q₂ _ hi hq₂ hne => ?_).trans ?_
  · refine sumN_eq_zero _ _ fun Jc _ => ?_
    rw [embed_e_of_ne pre post _ hAr hAc p a q p₂ i q₂ hA hi hq hq₂ hne, zero_mul, zero_mul]
  apply sumN_congr; intro i hi
  refine (sumN_digits3_pick pre' d1 post' p' q' hp' hq' _ fun p₂ j q₂ _ hj hq₂ hne => ?_).trans ?_
  · rw [embed_e_of_ne pre' post' _ hBr hBc p' b q' p₂ j q₂ hB hj hq' hq₂ hne, conj_eq_star, star_zero, mul_zero]
  apply sumN_congr; intro j hj
  rw [embed_e_diag pre post _ hAr hAc p a q i hA hi hq, embed_e_diag pre' post' _ hBr hBc p' b q' j hB hj hq']
  rfl

theorem partialKrausLists_shape (rho : Mat α) (as bs : List (Mat α)) (pre post pre' post' d0 d1 do0 do1 : Nat)
    (ha : Shaped as do0 d0) (hb : Shaped bs do1 d1) (hl : as.length = bs.length) (hne : as ≠ []) :
    (applyKrausLists rho (as.map (embed pre post)) (bs.map (embed pre' post'))).r = pre * do0 * post ∧
    (applyKrausLists rho (as.map (embed pre post)) (bs.map (embed pre' post'))).c = pre' * do1 * post' :=
  applyKrausLists_shape rho _ _ _ _ _ _ (shaped_map_embed as do0 d0 pre post ha) (shaped_map_embed bs do1 d1 pre' post' hb)
    (by simpa using hl) (by simpa using hne)

end partialChannel

section krausToChoi
variable {α : Type} [CommSemiring α] [StarRing α]

theorem krausToChoi_eq (phi : KrausArg α) (as bs : List (Mat α)) (hsplit : phi.split = some (as, bs))
    (di0 di1 do0 do1 : Nat) (ha : Shaped as do0 di0) (hb : Shaped bs do1 di1) (sys : Nat) :
    krausToChoi phi sys = some (applyKrausLists ((maxEnt di0).mul (maxEnt di1).ct)
      (as.map (embed (prodBefore (fnOfList [di0, di0]) sys) (prodAfter (fnOfList [di0, di0]) 2 sys)))
      (bs.map (embed (prodBefore (fnOfList [di1, di1]) sys) (prodAfter (fnOfList [di1, di1]) 2 sys)))) := by
  unfold krausToChoi
  rw [channelDimKraus_of_split phi as bs hsplit di0 di1 do0 do1 ha hb]
  simp only []
  rw [partialChannelKraus_of_split _ phi as bs hsplit]
  by_cases hcp : phi.isCP = true
  · -- one list on both sides: its operators have `di0 = di1` columns
    obtain ⟨_, hne⟩ := split_length phi as bs hsplit
    cases split_of_isCP phi as bs hcp hsplit
    obtain ⟨_, rfl⟩ := shaped_unique hne ha hb
    rw [if_pos hcp]
  · rw [if_neg hcp]

theorem krausToChoi_of_split (phi : KrausArg α) (as bs : List (Mat α)) (di0 di1 do0 do1 : Nat)
    (hsplit : phi.split = some (as, bs)) (ha : Shaped as do0 di0) (hb : Shaped bs do1 di1) :
    ∃ J, krausToChoi phi = some J ∧ J.r = di0 * do0 ∧ J.c = di1 * do1 ∧
      ∀ i a j b, i < di0 → a < do0 → j < di1 → b < do1 →
        J.e (i * do0 + a) (j * do1 + b) = applySpec as.length (fam as) (fam bs) di0 di1 (unit i j) a b := by
  obtain ⟨hl, hne⟩ := split_length phi as bs hsplit
  have hk := krausToChoi_eq phi as bs hsplit di0 di1 do0 do1 ha hb 2
  rw [prodBefore_two, prodAfter_two, prodBefore_two, prodAfter_two] at hk
  obtain ⟨hr, hc⟩ := partialKrausLists_shape ((maxEnt (α := α) di0).mul (maxEnt di1).ct) as bs di0 1 di1 1 di0 di1 do0 do1
    ha hb hl hne
  refine ⟨_, hk, by rw [hr, Nat.mul_one], by rw [hc, Nat.mul_one], ?_⟩
  intro i a j b hi hA hj hB
  have := partialKrausLists_e ((maxEnt di0).mul (maxEnt di1).ct) as bs di0 1 di1 1 di0 di1 do0 do1 ha hb hl
    (by rw [maxEnt_mul_r, Nat.mul_one]) (by rw [maxEnt_mul_c, Nat.mul_one]) i a 0 j b 0 hi hA Nat.one_pos hj hB Nat.one_pos
  simp only [Nat.mul_one, Nat.add_zero] at this
  rw [this]
  exact applySpec_congr _ _ _ _ _ _ _ (fun i' j' hi' hj' => maxEnt_mul_e di0 di1 i i' j j' hi' hj') a b

theorem krausToChoi_sys1_of_split (phi : KrausArg α) (as bs : List (Mat α)) (di0 di1 do0 do1 : Nat)
    (hsplit : phi.split = some (as, bs)) (ha : Shaped as do0 di0) (hb : Shaped bs do1 di1) :
    ∃ J, krausToChoi phi 1 = some J ∧ J.r = do0 * di0 ∧ J.c = do1 * di1 ∧
      ∀ a q b q', a < do0 → q < di0 → b < do1 → q' < di1 →
        J.e (a * di0 + q) (b * di1 + q') = applySpec as.length (fam as) (fam bs) di0 di1 (unit q q') a b := by
  obtain ⟨hl, hne⟩ := split_length phi as bs hsplit
  have hk := krausToChoi_eq phi as bs hsplit di0 di1 do0 do1 ha hb 1
  rw [prodBefore_one, prodAfter_one_two, prodBefore_one, prodAfter_one_two] at hk
  obtain ⟨hr, hc⟩ := partialKrausLists_shape ((maxEnt (α := α) di0).mul (maxEnt di1).ct) as bs 1 di0 1 di1 di0 di1 do0 do1
    ha hb hl hne
  refine ⟨_, hk, by rw [hr, Nat.one_mul], by rw [hc, Nat.one_mul], ?_⟩
  intro a q b q' hA hq hB hq'
  have := partialKrausLists_e ((maxEnt di0).mul (maxEnt di1).ct) as bs 1 di0 1 di1 di0 di1 do0 do1 ha hb hl
    (by rw [maxEnt_mul_r, Nat.one_mul]) (by rw [maxEnt_mul_c, Nat.one_mul]) 0 a q 0 b q' Nat.one_pos hA hq Nat.one_pos hB hq'
  simp only [Nat.zero_mul, Nat.zero_add] at this
  rw [this]
  exact applySpec_congr _ _ _ _ _ _ _
    (fun i' j' _ _ => (maxEnt_mul_e di0 di1 i' q j' q' hq hq').trans (unit_comm i' j' q q')) a b

end krausToChoi

section naturalRep
variable {α : Type} [CommSemiring α] [StarRing α]

theorem naturalRep_e (ks : List (Mat α)) (d_out d_in : Nat) (hs : Shaped ks d_out d_in) (h : ks ≠ []) :
    ∃ N, naturalRep ks = some N ∧ N.r = d_out * d_out ∧ N.c = d_in * d_in ∧
      ∀ a b i j, a < d_out → b < d_out → i < d_in → j < d_in →
        N.e (a * d_out + b) (i * d_in + j) = sumN ks.length (fun k => fam ks k a i * HasConj.conj (fam ks k b j)) := by
  cases ks with
  | nil => exact absurd rfl h
  | cons k0 t =>
    have h0 := hs k0 (by simp)
    have hall : allShape (k0 :: t) k0.r k0.c = true := by
      rw [allShape_iff, h0.1, h0.2]; exact hs
    refine ⟨_, by simp only [naturalRep, hall]; rfl, by simp [h0.1], by simp [h0.2], ?_⟩
    intro a b i j ha hb hi hj
    simp only []
    rw [foldl_add_eq_sumN]
    apply sumN_congr; intro k hk
    obtain ⟨hr, hc⟩ := getD_shape (k0 :: t) d_out d_in k hs hk
    obtain ⟨h1, h2⟩ := Nat.mul_add_divMod_of_lt (q := a) hb
    obtain ⟨h3, h4⟩ := Nat.mul_add_divMod_of_lt (q := i) hj
    simp only [kron, Mat.conj, hr, hc, h1, h2, h3, h4, fam]

theorem naturalRep_vec_e (N : Nat → Nat → α) (r : Nat) (K : Nat → Nat → Nat → α) (d_out d_in : Nat) (X : Nat → Nat → α)
    (hN : ∀ a b i j, a < d_out → b < d_out → i < d_in → j < d_in →
      N (a * d_out + b) (i * d_in + j) = sumN r (fun k => K k a i * HasConj.conj (K k b j)))
    (a b : Nat) (ha : a < d_out) (hb : b < d_out) :
    sumN (d_in * d_in) (fun q => N (a * d_out + b) q * vecR d_in X q) = applySpec r K K d_in d_in X a b := by
  rw [sumN_mul_range, applySpec_inner]
  apply sumN_congr; intro i hi
  apply sumN_congr; intro j hj
  obtain ⟨h1, h2⟩ := Nat.mul_add_divMod_of_lt (q := i) hj
  rw [hN a b i j ha hb hi hj, ← sumN_mul_right]
  apply sumN_congr; intro k _
  simp only [vecR, h1, h2]
  ring

end naturalRep

section toMat
variable {α : Type}

def toM (m n : Nat) (f : Nat → Nat → α) : Matrix (Fin m) (Fin n) α := fun i j => f i j

variable [CommSemiring α]

theorem toM_identity (d : Nat) : toM d d (identity (α := α) d).e = 1 :=
  Matrix.ext fun a b => (if_congr Fin.val_inj rfl rfl).trans (Matrix.one_apply (i := a) (j := b)).symm

theorem tr_eq_trace (d : Nat) (M : Nat → Nat → α) : tr d M = Matrix.trace (toM d d M) := by
  simp only [tr, toM, sumN_eq_sum_fin, Matrix.trace, Matrix.diag]

end toMat

section bridge
variable {α : Type} [CommSemiring α] [StarRing α]

theorem toM_applySpec (r : Nat) (A B : Nat → Nat → Nat → α) (di0 di1 do0 do1 : Nat) (X : Nat → Nat → α) :
    toM do0 do1 (applySpec r A B di0 di1 X)
      = ∑ k : Fin r, toM do0 di0 (A k) * toM di0 di1 X * (toM do1 di1 (B k)).conjTranspose := by
  ext a b
  simp only [toM, applySpec, sumN_eq_sum_fin, Matrix.sum_apply, Matrix.mul_apply, Matrix.conjTranspose_apply,
    conj_eq_star, Finset.sum_mul]
  apply Finset.sum_congr rfl; intro k _
  exact Finset.sum_comm

theorem hsInner_eq_trace (m n : Nat) (Y Z : Nat → Nat → α) :
    hsInner m n Y Z = Matrix.trace ((toM m n Y).conjTranspose * toM m n Z) := by
  simp only [hsInner, toM, sumN_eq_sum_fin, Matrix.trace, Matrix.diag, Matrix.mul_apply,
    Matrix.conjTranspose_apply, conj_eq_star]
  exact Finset.sum_comm

theorem toM_adj (m n : Nat) (A : Nat → Nat → α) :
    toM n m (fun i a => HasConj.conj (A a i)) = (toM m n A).conjTranspose := by
  ext i a; simp [toM, Matrix.conjTranspose_apply, conj_eq_star]

theorem toM_applyKrausLists (X : Mat α) (as bs : List (Mat α)) (do0 do1 : Nat)
    (ha : Shaped as do0 X.r) (hb : Shaped bs do1 X.c) (hl : as.length = bs.length) :
    toM do0 do1 (applyKrausLists X as bs).e
      = ∑ k : Fin as.length, toM do0 X.r (fam as k) * toM X.r X.c X.e * (toM do1 X.c (fam bs k)).conjTranspose := by
  rw [applyKrausLists_eq X as bs do0 do1 ha hb hl, toM_applySpec]

end bridge

section dualChannel
variable {α : Type} [CommSemiring α] [StarRing α]

theorem ct_ct (m : Mat α) : m.ct.ct = m := by
  cases m; simp [Mat.ct, Mat.conj, Mat.T, conj_eq_star]

theorem map_ct_ct (l : List (Mat α)) : (l.map Mat.ct).map Mat.ct = l := by
  simp [List.map_map, Function.comp_def, ct_ct]

theorem split_dualKraus (phi : KrausArg α) :
    (dualKraus phi).split = phi.split.map (fun ab => (ab.1.map Mat.ct, ab.2.map Mat.ct)) := by
  cases phi with
  | flat l =>
    cases l with
    | nil => simp [dualKraus, KrausArg.split]
    | cons k t => simp [dualKraus, KrausArg.split]
  | nested ll =>
    cases ll with
    | nil => simp [dualKraus, KrausArg.split]
    | cons l t =>
      simp only [dualKraus, KrausArg.split]
      have hcp := nestedIsCP_map Mat.ct (l :: t)
      simp only [List.map_cons] at hcp
      simp only [List.map_cons, List.isEmpty_cons, Bool.false_eq_true, if_false, hcp]
      by_cases h : nestedIsCP (l :: t) = true
      · simp [h, List.map_flatten]
      · simp only [h]
        have h0 := mapM_getElem?_map Mat.ct 0 (l :: t)
        have h1 := mapM_getElem?_map Mat.ct 1 (l :: t)
        simp only [List.map_cons] at h0 h1
        rw [h0, h1]
        cases (List.mapM (fun k => k[0]?) (l :: t)) <;> cases (List.mapM (fun k => k[1]?) (l :: t)) <;> rfl

theorem applyKraus_dualKraus (Y : Mat α) (phi : KrausArg α) (as bs : List (Mat α))
    (hsplit : phi.split = some (as, bs)) :
    applyKraus Y (dualKraus phi) = some (applyKrausLists Y (as.map Mat.ct) (bs.map Mat.ct)) :=
  applyKraus_of_split Y _ _ _ (by rw [split_dualKraus, hsplit]; rfl)

theorem applyKrausLists_ct_eq (Y : Mat α) (as bs : List (Mat α)) (di0 di1 : Nat)
    (ha : Shaped as Y.r di0) (hb : Shaped bs Y.c di1) (hl : as.length = bs.length) :
    (applyKrausLists Y (as.map Mat.ct) (bs.map Mat.ct)).e
      = applySpec as.length (adj (fam as)) (adj (fam bs)) Y.r Y.c Y.e := by
  rw [applyKrausLists_eq Y _ _ di0 di1 (shaped_map_ct as _ _ ha) (shaped_map_ct bs _ _ hb) (by simpa using hl),
    List.length_map]
  funext i j
  unfold applySpec
  refine sumN_congr _ _ _ fun k hk => ?_
  rw [fam_map as Mat.ct default k hk, fam_map bs Mat.ct default k (hl ▸ hk)]
  rfl

theorem toM_applyKrausLists_dual (Y : Mat α) (as bs : List (Mat α)) (di0 di1 : Nat)
    (ha : Shaped as Y.r di0) (hb : Shaped bs Y.c di1) (hl : as.length = bs.length) :
    toM di0 di1 (applyKrausLists Y (as.map Mat.ct) (bs.map Mat.ct)).e
      = ∑ k : Fin as.length, (toM Y.r di0 (fam as k)).conjTranspose * toM Y.r Y.c Y.e * toM Y.c di1 (fam bs k) := by
  rw [applyKrausLists_ct_eq Y as bs di0 di1 ha hb hl, toM_applySpec]
  refine Finset.sum_congr rfl fun k _ => ?_
  rw [show toM di0 Y.r (adj (fam as) k) = _ from toM_adj Y.r di0 (fam as k),
    show toM di1 Y.c (adj (fam bs) k) = _ from toM_adj Y.c di1 (fam bs k), Matrix.conjTranspose_conjTranspose]

theorem dualChoi_e (J : Mat α) (di0 do0 di1 do1 : Nat) (hJr : J.r = di0 * do0) (hJc : J.c = di1 * do1) :
    ∃ D, dualChoi J (.mat di0 do0 di1 do1) = .ok D ∧ D.r = do0 * di0 ∧ D.c = do1 * di1 ∧
      ∀ a i b j, a < do0 → i < di0 → b < do1 → j < di1 →
        D.e (a * di0 + i) (b * di1 + j) = HasConj.conj (J.e (i * do0 + a) (j * do1 + b)) := by
  refine ⟨swap2 J.conj (fnOfList [di0, do0]) (fnOfList [di1, do1]) false, ?_, ?_, ?_, ?_⟩
  · unfold dualChoi
    rw [hJr, hJc, channelDimChoi_mat]
    rfl
  · show J.r = _; rw [hJr, Nat.mul_comm]
  · show J.c = _; rw [hJc, Nat.mul_comm]
  · intro a i b j ha hi hb hj
    simp only [swap2, permuteMat, Mat.conj, swap_index di0 do0 a i ha hi, swap_index di1 do1 b j hb hj]
    rfl

theorem dual_adjoint_choiSpec (J D X Y : Nat → Nat → α) (di0 di1 do0 do1 : Nat)
    (hD : ∀ a i b j, a < do0 → i < di0 → b < do1 → j < di1 →
      D (a * di0 + i) (b * di1 + j) = HasConj.conj (J (i * do0 + a) (j * do1 + b))) :
    hsInner do0 do1 Y (applyChoiSpec J di0 di1 do0 do1 X)
      = hsInner di0 di1 (applyChoiSpec D do0 do1 di0 di1 Y) X := by
  unfold hsInner applyChoiSpec
  simp only [conj_eq_star]
  -- both sides are `Σ_{a,b,i,j} star (Y a b) · X i j · J[(i,a),(j,b)]`, summed in the two orders
  refine Eq.trans (sumN_congr _ _ _ fun a _ => sumN_congr _ _ _ fun b _ => ?_)
    ((sumN_comm22 (fun a b i j => star (Y a b) * X i j * J (i * do0 + a) (j * do1 + b)) do0 do1 di0 di1).trans
      (sumN_congr _ _ _ fun i hi => sumN_congr _ _ _ fun j hj => ?_))
  · rw [← sumN_mul_left]
    refine sumN_congr _ _ _ fun i _ => ?_
    rw [← sumN_mul_left]
    exact sumN_congr _ _ _ fun j _ => (mul_assoc _ _ _).symm
  · rw [star_sumN, ← sumN_mul_right]
    refine sumN_congr _ _ _ fun a ha => ?_
    rw [star_sumN, ← sumN_mul_right]
    refine sumN_congr _ _ _ fun b hb => ?_
    rw [hD a i b j ha hi hb hj, conj_eq_star, star_mul', star_star]
    ring

theorem choiSpec_adj (r : Nat) (A B : Nat → Nat → Nat → α) (di0 di1 do0 do1 a i b j : Nat)
    (ha : a < do0) (hi : i < di0) (hb : b < do1) (hj : j < di1) :
    choiSpec r (adj A) (adj B) do0 do1 di0 di1 (a * di0 + i) (b * di1 + j)
      = HasConj.conj (choiSpec r A B di0 di1 do0 do1 (i * do0 + a) (j * do1 + b)) := by
  rw [choiSpec_entry _ _ _ _ _ _ _ a i b j hi hj, choiSpec_entry _ _ _ _ _ _ _ i a j b ha hb,
    applySpec_unit r A B di0 di1 i j a b hi hj, applySpec_unit r (adj A) (adj B) do0 do1 a b i j ha hb, conj_eq_star, star_sumN]
  apply sumN_congr; intro k _
  simp only [adj, conj_eq_star, star_mul', star_star]

theorem applySpec_adjoint (r : Nat) (A B : Nat → Nat → Nat → α) (di0 di1 do0 do1 : Nat) (X Y : Nat → Nat → α) :
    hsInner do0 do1 Y (applySpec r A B di0 di1 X) = hsInner di0 di1 (applySpec r (adj A) (adj B) do0 do1 Y) X := by
  rw [hsInner_congr_right do0 do1 Y _ _ (applySpec_eq_applyChoiSpec r A B di0 di1 do0 do1 X),
    hsInner_congr_left di0 di1 _ _ X (applySpec_eq_applyChoiSpec r (adj A) (adj B) do0 do1 di0 di1 Y)]
  exact dual_adjoint_choiSpec _ _ X Y di0 di1 do0 do1 (choiSpec_adj r A B di0 di1 do0 do1)

theorem dual_adjoint_lists (X Y : Mat α) (as bs : List (Mat α))
    (ha : Shaped as Y.r X.r) (hb : Shaped bs Y.c X.c) (hl : as.length = bs.length) :
    hsInner Y.r Y.c Y.e (applyKrausLists X as bs).e
      = hsInner X.r X.c (applyKrausLists Y (as.map Mat.ct) (bs.map Mat.ct)).e X.e := by
  rw [applyKrausLists_eq X as bs Y.r Y.c ha hb hl, applyKrausLists_ct_eq Y as bs X.r X.c ha hb hl]
  exact applySpec_adjoint _ _ _ _ _ _ _ _ _

end dualChannel

section complList
variable {α : Type} [CommSemiring α]

/-- the list returned by `complementary_channel`: operator `row` stacks row `row` of every `K_i` -/
def complList (ops : List (Mat α)) (d : Nat) : List (Mat α) :=
  (List.range d).map (fun row => (⟨ops.length, d, fun i c => (ops.getD i default).e row c⟩ : Mat α))

theorem complList_length (ops : List (Mat α)) (d : Nat) : (complList ops d).length = d := by
  simp [complList]

theorem complList_shaped (ops : List (Mat α)) (d : Nat) : Shaped (complList ops d) ops.length d := by
  intro m hm
  obtain ⟨row, _, rfl⟩ := List.mem_map.mp hm
  exact ⟨rfl, rfl⟩

theorem complList_shaped_sq (ops : List (Mat α)) (d : Nat) (hl : ops.length = d) : Shaped (complList ops d) d d := by
  have := complList_shaped ops d
  rwa [hl] at this

theorem complList_ne_nil (ops : List (Mat α)) (d : Nat) (hd : d ≠ 0) : complList ops d ≠ [] :=
  fun h => hd (by rw [← complList_length ops d, h]; rfl)

theorem fam_complList_eq_complStack (ops : List (Mat α)) (d row : Nat) (h : row < d) :
    fam (complList ops d) row = complStack (fam ops) row := by
  unfold fam complList
  rw [List.getD_eq_getElem?_getD, List.getElem?_map, List.getElem?_range h]
  rfl

theorem fam_complList (ops : List (Mat α)) (d row i c : Nat) (h : row < d) :
    fam (complList ops d) row i c = fam ops i row c :=
  congrFun (congrFun (fam_complList_eq_complStack ops d row h) i) c

end complList

section complementary
variable {α : Type} [CommSemiring α] [StarRing α]

theorem complementary_ok [DecidableEq α] (ops : List (Mat α)) (d : Nat) (scale2 : α)
    (hs : Shaped ops d d) (hne : ops ≠ [])
    (hcomplete : ∀ i j, i < d → j < d → (sumKdK ops d).e i j = if i = j then scale2 else 0) :
    complementary ops scale2 = .ok (complList ops d) := by
  cases ops with
  | nil => exact absurd rfl hne
  | cons k0 t =>
    have h0 := hs k0 (by simp)
    have hsq : (k0 :: t).any (fun k => k.r != k.c) = false := by
      rw [List.any_eq_false]; intro k hk
      have := hs k hk
      simp [this.1, this.2]
    have heq : (k0 :: t).any (fun k => k.r != k0.r) = false := by
      rw [List.any_eq_false]; intro k hk
      have := hs k hk
      simp [this.1, h0.1]
    have hc : allBelow k0.r (fun i => allBelow k0.r (fun j =>
        decide ((sumKdK (k0 :: t) k0.r).e i j = if i = j then scale2 else 0))) = true := by
      rw [h0.1, allBelow_iff]; intro i hi
      rw [allBelow_iff]; intro j hj
      simp [hcomplete i j hi hj]
    rw [h0.1] at heq hc
    simp only [complementary, h0.1, hsq, heq, hc]
    rfl

theorem compl_entry_lists (rho : Mat α) (ops : List (Mat α)) (d : Nat) (hr : rho.r = d) (hc : rho.c = d) (i j : Nat) :
    (applyKrausLists rho (complList ops d) (complList ops d)).e i j
      = tr d (applySpec 1 (fun _ => fam ops i) (fun _ => fam ops j) d d rho.e) := by
  have hsh := complList_shaped ops d
  rw [applyKrausLists_eq rho _ _ ops.length ops.length (by rw [hr]; exact hsh) (by rw [hc]; exact hsh) rfl]
  unfold applySpec tr
  rw [complList_length, hr, hc]
  apply sumN_congr; intro row hrow
  simp only [sumN, zero_add]
  apply sumN_congr; intro a _
  apply sumN_congr; intro b _
  rw [fam_complList ops d row i a hrow, fam_complList ops d row j b hrow]

theorem compl_entry_toM (rho : Mat α) (ops : List (Mat α)) (d : Nat) (hr : rho.r = d) (hc : rho.c = d) (i j : Nat) :
    (applyKrausLists rho (complList ops d) (complList ops d)).e i j
      = Matrix.trace (toM d d (fam ops i) * toM d d rho.e * (toM d d (fam ops j)).conjTranspose) := by
  rw [compl_entry_lists rho ops d hr hc i j, tr_eq_trace, toM_applySpec, Fin.sum_univ_one]

theorem sumKdK_e (ops : List (Mat α)) (d : Nat) (hs : Shaped ops d d) (a b : Nat) :
    (sumKdK ops d).e a b
      = sumN ops.length (fun k => sumN d (fun row => HasConj.conj (fam ops k row a) * fam ops k row b)) := by
  simp only [sumKdK]
  rw [foldl_add_eq_sumN]
  apply sumN_congr; intro k hk
  obtain ⟨hr, _⟩ := getD_shape ops d d k hs hk
  simp only [Mat.mul, Mat.ct, Mat.T, Mat.conj, hr, fam]

theorem toM_sumKdK (ops : List (Mat α)) (d : Nat) (hs : Shaped ops d d) :
    toM d d (sumKdK ops d).e = ∑ k : Fin ops.length, (toM d d (fam ops k)).conjTranspose * toM d d (fam ops k) := by
  ext a b
  simp only [toM, sumKdK_e ops d hs, sumN_eq_sum_fin, Matrix.sum_apply, Matrix.mul_apply, Matrix.conjTranspose_apply,
    conj_eq_star]

end complementary

section spectrum
variable {α : Type} [CommRing α] [StarRing α]

def colsKpsi {ι m : Type} [Fintype m] (K : ι → Matrix m m α) (ψ : m → α) : Matrix m ι α :=
  fun a i => (K i).mulVec ψ a

theorem sandwich_vecMulVec {m : Type} [Fintype m] (K L : Matrix m m α) (ψ : m → α) :
    K * Matrix.vecMulVec ψ (star ψ) * L.conjTranspose = Matrix.vecMulVec (K.mulVec ψ) (star (L.mulVec ψ)) := by
  rw [Matrix.mul_vecMulVec, Matrix.vecMulVec_mul, Matrix.star_mulVec]

theorem colsKpsi_mul_conjTranspose {ι m : Type} [Fintype ι] [Fintype m] (K : ι → Matrix m m α) (ψ : m → α) :
    colsKpsi K ψ * (colsKpsi K ψ).conjTranspose
      = ∑ i, Matrix.vecMulVec ((K i).mulVec ψ) (star ((K i).mulVec ψ)) := by
  ext a b
  simp only [Matrix.mul_apply, Matrix.conjTranspose_apply, colsKpsi, Matrix.sum_apply, Matrix.vecMulVec_apply, Pi.star_apply]

theorem colsKpsi_conjTranspose_mul_apply {ι m : Type} [Fintype m] (K : ι → Matrix m m α) (ψ : m → α) (j i : ι) :
    ((colsKpsi K ψ).conjTranspose * colsKpsi K ψ) j i = (K i).mulVec ψ ⬝ᵥ star ((K j).mulVec ψ) := by
  simp only [Matrix.mul_apply, Matrix.conjTranspose_apply, colsKpsi, dotProduct, Pi.star_apply, mul_comm]

end spectrum

end Toq.ChannelOps
