import Toq.Proofs.ExtGames
import Mathlib.LinearAlgebra.Matrix.Vec
/-!
# C09: the NPA constraint generator with referee blocks is sound for commuting-measurement strategies

`ExtendedNonlocalGame.commuting_measurement_value_upper_bound(k)` calls `npa_constraints(mat, k, referee_dim = d)`; the
mirror `Toq.Npa.npaConstraints` of that generator is read with values in `d × d` blocks (`Blk d ρ`, see
`Toq/Proofs/ExtGames.lean`).  The point of a **commuting-measurement strategy**:

* players' space `ℂ^D`, projective measurements `A x a`, `B y b` on it, Alice's commuting with Bob's;
* the shared state `u = Σ_p |p⟩ ⊗ psi p ∈ ℂ^d ⊗ ℂ^D`, a unit vector;
* block of an operator `M` on `ℂ^D`: `blockOf M [p, q] = ⟨psi q| M |psi p⟩ = ⟨p| Tr_H((1 ⊗ M)|u⟩⟨u|) |q⟩`;
* `ρ = blockOf 1` (the referee's reduced state), `K(a,b|x,y) = blockOf (A x a · B y b)`;
* moment blocks `R i j = blockOf ((W_i† W_j)†) = blockOf (W_j† W_i)`, i.e. `R i j [p, q] = ⟨W_j psi_q, W_i psi_p⟩`, where `W_i` is
  the operator of `words[i]`.

**On the convention of `R`.**  The flat matrix with the blocks `blockOf (W_i† W_j)` (no adjoint) is in general *not*
positive semidefinite: `Σ conj(z_{p,i}) ⟨W_i ψ_q, W_j ψ_p⟩ z_{q,j} = Σ_{p,q} ⟨X_p ψ_q, X_q ψ_p⟩` with `X_p = Σ_i z_{p,i} W_i`, which is
`-2‖a‖²` for `ψ_0 = e_0, ψ_1 = e_1`, `X_0 e_1 = a = -X_1 e_0`, `X_0 e_0 = X_1 e_1 = 0` — it is the partial transpose (in the referee
index) of a Gram matrix (`Toq.C09.ext_moment_blocks_need_adjoint`).  The positive semidefinite one is the entrywise conjugate of the Gram matrix of the vectors
`W_i ψ_p`, which has the blocks `blockOf (W_j† W_i)`; this is also the point the harness plugs into toqito's constraint objects
(`rvar.save_value((vmᴴ vm).conj())`).  The map `M ↦ blockOf Mᴴ` is additive, sends `1` to `ρ` and `Mᴴ M` to a positive
semidefinite block; so the blocks of the adjoint word operators satisfy the constraints of every level
(`Toq.Npa.IsHermCommMeas.npa_sound` at `φ = blkH`), with the same assemblage `K` because `(A B)† = B A = A B`.
-/

open Matrix Kronecker
open scoped ComplexOrder

namespace Toq.ExtGames
open Toq.Npa

section Block
variable {d D : Nat}

/-- the `d × d` block of an operator `M` on the players' space: `[p, q] ↦ ⟨psi q| M |psi p⟩` -/
def blockOf (psi : Fin d → Fin D → ℂ) (M : Matrix (Fin D) (Fin D) ℂ) : Matrix (Fin d) (Fin d) ℂ :=
  Matrix.of fun p q => star (psi q) ⬝ᵥ (M *ᵥ psi p)

variable (psi : Fin d → Fin D → ℂ)

theorem blockOf_apply (M : Matrix (Fin D) (Fin D) ℂ) (p q : Fin d) :
    blockOf psi M p q = star (psi q) ⬝ᵥ (M *ᵥ psi p) := rfl

/-- with `Ψ` the `d × D` matrix of the vectors `psi p`, the block is `Ψ Mᵀ Ψᴴ`: additive in `M`, positive semidefinite when `M` is
    (the transpose is why the blocks of `W_i† W_j` are the partial transpose of a Gram matrix, see the file header) -/
theorem blockOf_eq_mul (M : Matrix (Fin D) (Fin D) ℂ) : blockOf psi M = Matrix.of psi * Mᵀ * (Matrix.of psi)ᴴ := by
  ext p q
  simp only [blockOf, of_apply, dotProduct, mulVec, Pi.star_apply, Matrix.mul_apply, transpose_apply, conjTranspose_apply,
    Finset.sum_mul, Finset.mul_sum]
  exact Finset.sum_congr rfl fun k _ => Finset.sum_congr rfl fun l _ => by ring

theorem blockOf_zero : blockOf psi 0 = 0 := by
  rw [blockOf_eq_mul, transpose_zero, Matrix.mul_zero, Matrix.zero_mul]

theorem blockOf_add (M N : Matrix (Fin D) (Fin D) ℂ) : blockOf psi (M + N) = blockOf psi M + blockOf psi N := by
  simp only [blockOf_eq_mul, transpose_add, Matrix.mul_add, Matrix.add_mul]

theorem blockOf_psd {M : Matrix (Fin D) (Fin D) ℂ} (hM : M.PosSemidef) : (blockOf psi M).PosSemidef := by
  rw [blockOf_eq_mul]
  exact hM.transpose.mul_mul_conjTranspose_same _

theorem blockOf_gram_apply (M N : Matrix (Fin D) (Fin D) ℂ) (p q : Fin d) :
    blockOf psi (Mᴴ * N) p q = star (M *ᵥ psi q) ⬝ᵥ (N *ᵥ psi p) := by
  rw [blockOf_apply, star_dotProduct_conjTranspose_mul_mulVec]

theorem blockOf_one_trace : (blockOf psi 1).trace = ∑ p, star (psi p) ⬝ᵥ psi p := by
  simp only [Matrix.trace, Matrix.diag_apply, blockOf, of_apply, one_mulVec]

end Block

section Flat
variable {d : Nat} {ρ : Matrix (Fin d) (Fin d) ℂ}

/-- the flat `d·n × d·n` matrix with the blocks `R i j` in the layout of `npa_constraints(…, referee_dim = d)`:
    flat index `i + n·p` (`= finProdFinEquiv (p, i)`) for referee index `p` and word number `i`, so that
    `r_var[i::n, j::n]` is block `(i, j)` -/
def flatBlk (n : Nat) (R : Nat → Nat → Blk d ρ) : Matrix (Fin (d * n)) (Fin (d * n)) ℂ :=
  Matrix.of fun s t =>
    (R (finProdFinEquiv.symm s).2 (finProdFinEquiv.symm t).2).mat (finProdFinEquiv.symm s).1 (finProdFinEquiv.symm t).1

theorem flatBlk_apply (n : Nat) (R : Nat → Nat → Blk d ρ) (p q : Fin d) (i j : Fin n) :
    flatBlk n R (finProdFinEquiv (p, i)) (finProdFinEquiv (q, j)) = (R i j).mat p q := by
  simp only [flatBlk, Matrix.of_apply, Equiv.symm_apply_apply]

end Flat

section Strategy

/-- A commuting-measurement strategy for an extended nonlocal game with referee dimension `d`: projective measurements
    `A x a` (Alice) and `B y b` (Bob) on the players' space `ℂ^D`, every operator of Alice commuting with every operator of
    Bob (tensor-product strategies are the special case), and a unit vector `u = Σ_p |p⟩ ⊗ psi p ∈ ℂ^d ⊗ ℂ^D` shared with
    the referee.  As in `Toq.Npa.QStrategy` the algebraic rules are required for all indices (extend by zero operators). -/
structure ExtQStrategy (d D ao bo ai bi : Nat) where
  A : Nat → Nat → Matrix (Fin D) (Fin D) ℂ
  B : Nat → Nat → Matrix (Fin D) (Fin D) ℂ
  psi : Fin d → Fin D → ℂ
  A_herm : ∀ x a, (A x a)ᴴ = A x a
  A_idem : ∀ x a, A x a * A x a = A x a
  A_orth : ∀ x a a', a ≠ a' → A x a * A x a' = 0
  A_sum : ∀ x, x < ai → sumN ao (fun a => A x a) = 1
  B_herm : ∀ y b, (B y b)ᴴ = B y b
  B_idem : ∀ y b, B y b * B y b = B y b
  B_orth : ∀ y b b', b ≠ b' → B y b * B y b' = 0
  B_sum : ∀ y, y < bi → sumN bo (fun b => B y b) = 1
  comm : ∀ x a y b, A x a * B y b = B y b * A x a
  psi_norm : ∑ p, star (psi p) ⬝ᵥ psi p = 1

variable {d D ao bo ai bi : Nat} (S : ExtQStrategy d D ao bo ai bi)

def ExtQStrategy.o (s : Sym) : Matrix (Fin D) (Fin D) ℂ :=
  match s.player with
  | .none => 1
  | .alice => S.A s.question s.answer
  | .bob => S.B s.question s.answer

theorem ExtQStrategy.o_eq : S.o = symVal S.A S.B := rfl

def ExtQStrategy.ofHerm {A B : Nat → Nat → Matrix (Fin D) (Fin D) ℂ} (h : IsHermCommMeas A B ao bo ai bi)
    (psi : Fin d → Fin D → ℂ) (hpsi : ∑ p, star (psi p) ⬝ᵥ psi p = 1) : ExtQStrategy d D ao bo ai bi :=
  { h with A := A, B := B, psi := psi, psi_norm := hpsi }

theorem ExtQStrategy.isHermCommMeas : IsHermCommMeas S.A S.B ao bo ai bi :=
  ⟨⟨S.A_idem, S.A_orth, S.A_sum, S.B_idem, S.B_orth, S.B_sum, S.comm⟩, S.A_herm, S.B_herm⟩

/-- the referee's reduced state `ρ[p, q] = ⟨psi q | psi p⟩` -/
def ExtQStrategy.rho : Matrix (Fin d) (Fin d) ℂ := blockOf S.psi 1

/-- the block of an operator, as a value of the NPA generator (`1` is read as `ρ`) -/
def ExtQStrategy.blk (M : Matrix (Fin D) (Fin D) ℂ) : Blk d S.rho := Blk.of S.rho (blockOf S.psi M)

/-- the referee block of the adjoint: the map through which `IsHermCommMeas.npa_sound` reads the operators; `ev` and `R` are its
    values by definition, `K` because `A x a * B y b` is Hermitian (`K_eq`) -/
def ExtQStrategy.blkH (M : Matrix (Fin D) (Fin D) ℂ) : Blk d S.rho := S.blk Mᴴ

/-- value of a word: the block of the adjoint of its operator (see the remark on the convention in the file header) -/
def ExtQStrategy.ev (w : Word) : Blk d S.rho := S.blk (opW S.o w)ᴴ

/-- the assemblage `K(a, b | x, y) = Tr_H((1 ⊗ A x a · B y b)|u⟩⟨u|)` -/
def ExtQStrategy.K : Nat → Nat → Nat → Nat → Blk d S.rho := fun a b x y => S.blk (S.A x a * S.B y b)

/-- the moment blocks `R[i, j] = ev(words[i]† · words[j])`; `R[i, j][p, q] = ⟨W_j psi_q, W_i psi_p⟩` (`R_apply`) -/
def ExtQStrategy.R (words : List Word) : Nat → Nat → Blk d S.rho :=
  fun i j => S.ev ((wordAt words i).reverse ++ wordAt words j)

/-- the moment matrix in the flat layout of the code -/
def ExtQStrategy.Rflat (words : List Word) : Matrix (Fin (d * words.length)) (Fin (d * words.length)) ℂ :=
  flatBlk words.length (S.R words)

theorem ExtQStrategy.blk_mat (M : Matrix (Fin D) (Fin D) ℂ) : (S.blk M).mat = blockOf S.psi M := rfl

theorem ExtQStrategy.blkH_unital : IsUnitalAdd S.blkH :=
  ⟨(congrArg S.blk conjTranspose_zero).trans (blockOf_zero S.psi),
    fun M N => (congrArg S.blk (conjTranspose_add M N)).trans (blockOf_add S.psi _ _), congrArg S.blk conjTranspose_one⟩

theorem ExtQStrategy.blkH_gram_nonneg (M : Matrix (Fin D) (Fin D) ℂ) : 0 ≤ S.blkH (Mᴴ * M) :=
  (Blk.nonneg_iff _).mpr (blockOf_psd S.psi (posSemidef_conjTranspose_mul_self M).conjTranspose)

theorem ExtQStrategy.K_eq : S.K = fun a b x y => S.blkH (S.A x a * S.B y b) :=
  funext fun a => funext fun b => funext fun x => funext fun y =>
    (congrArg S.blk (S.isHermCommMeas.AB_herm x a y b)).symm

theorem ExtQStrategy.K_nonneg (a b x y : Nat) : (0 : Blk d S.rho) ≤ S.K a b x y := by
  rw [S.K_eq]
  exact S.isHermCommMeas.nonneg S.blkH_gram_nonneg a b x y

theorem ExtQStrategy.K_psd (a b x y : Nat) : (S.K a b x y).mat.PosSemidef :=
  (Blk.nonneg_iff _).mp (S.K_nonneg a b x y)

theorem ExtQStrategy.R_apply (words : List Word) (i j : Nat) (p q : Fin d) :
    (S.R words i j).mat p q
      = star (opW (symVal S.A S.B) (wordAt words j) *ᵥ S.psi q) ⬝ᵥ (opW (symVal S.A S.B) (wordAt words i) *ᵥ S.psi p) := by
  show blockOf S.psi ((opW (symVal S.A S.B) ((wordAt words i).reverse ++ wordAt words j))ᴴ) p q = _
  rw [opW_append, S.isHermCommMeas.opW_reverse, conjTranspose_mul, conjTranspose_conjTranspose, blockOf_gram_apply]

/-- the flat moment matrix is the entrywise conjugate of the Gram matrix of the vectors `W_i psi_p`, hence
    positive semidefinite -/
theorem ExtQStrategy.Rflat_psd (words : List Word) : (S.Rflat words).PosSemidef := by
  have h : S.Rflat words = Matrix.of fun s t : Fin (d * words.length) =>
      star (opW (symVal S.A S.B) (wordAt words (finProdFinEquiv.symm t).2) *ᵥ S.psi (finProdFinEquiv.symm t).1)
        ⬝ᵥ (opW (symVal S.A S.B) (wordAt words (finProdFinEquiv.symm s).2) *ᵥ S.psi (finProdFinEquiv.symm s).1) :=
    Matrix.ext fun s t => S.R_apply words _ _ _ _
  rw [h]
  exact (posSemidef_gram fun s : Fin (d * words.length) =>
    opW (symVal S.A S.B) (wordAt words (finProdFinEquiv.symm s).2) *ᵥ S.psi (finProdFinEquiv.symm s).1).transpose

theorem ExtQStrategy.Rflat_apply (words : List Word) (i j : Fin words.length) (p q : Fin d) :
    S.Rflat words (finProdFinEquiv (p, i)) (finProdFinEquiv (q, j)) = (S.R words i j).mat p q :=
  flatBlk_apply _ _ p q i j

theorem ExtQStrategy.rho_density : IsDensity S.rho := by
  refine ⟨blockOf_psd S.psi PosSemidef.one, ?_⟩
  unfold ExtQStrategy.rho
  rw [blockOf_one_trace, S.psi_norm]

/-- the structure is inhabited with a referee of dimension 2 (sizes `(ao, bo, ai, bi) = (2, 3, 2, 2)`, players' space of
    dimension 1: both players always answer 0; `psi = (3/5, 4/5)`, so `ρ = [[9, 12], [12, 16]] / 25` is not diagonal);
    genuinely entangled instances are exercised numerically by the harness -/
example : Nonempty (ExtQStrategy 2 1 2 3 2 2) :=
  ⟨.ofHerm (isHermCommMeas_const 2 2 (ca := 0) (cb := 0) (by norm_num) (by norm_num)) (fun p _ => if p = 0 then 3 / 5 else 4 / 5) (by
    simp only [Fin.sum_univ_two, dotProduct, Finset.univ_unique, Finset.sum_singleton, Pi.star_apply]
    norm_num)⟩

end Strategy

section Objective
variable {d D : Nat}

/-- `tr(Q · blockOf M) = ⟨u| Q ⊗ M |u⟩` for `u = Σ_p |p⟩ ⊗ psi p`, which is `vec Ψᵀ` for the matrix `Ψ` of `blockOf_eq_mul` -/
theorem trace_mul_blockOf (psi : Fin d → Fin D → ℂ) (Q : Matrix (Fin d) (Fin d) ℂ) (M : Matrix (Fin D) (Fin D) ℂ) :
    (Q * blockOf psi M).trace
      = star (fun pk : Fin d × Fin D => psi pk.1 pk.2) ⬝ᵥ ((Q ⊗ₖ M) *ᵥ (fun pk : Fin d × Fin D => psi pk.1 pk.2)) := by
  show _ = star (vec (Matrix.of psi)ᵀ) ⬝ᵥ ((Q ⊗ₖ M) *ᵥ vec (Matrix.of psi)ᵀ)
  rw [kronecker_mulVec_vec, star_vec_dotProduct_vec, blockOf_eq_mul, ← trace_transpose]
  simp only [transpose_mul, transpose_transpose, Matrix.mul_assoc]
  rfl

variable {ao bo ai bi : Nat} (S : ExtQStrategy d D ao bo ai bi)

/-- the shared unit vector `u ∈ ℂ^d ⊗ ℂ^D` -/
def ExtQStrategy.uvec : Fin d × Fin D → ℂ := fun pk => S.psi pk.1 pk.2

theorem ExtQStrategy.uvec_norm : star S.uvec ⬝ᵥ S.uvec = 1 := by
  rw [← S.psi_norm]
  simp only [dotProduct, Fintype.sum_prod_type, ExtQStrategy.uvec, Pi.star_apply]

theorem ExtQStrategy.objective_term (P : Matrix (Fin d) (Fin d) ℂ) (a b x y : Nat) :
    (P * (S.K a b x y).mat).trace = star S.uvec ⬝ᵥ ((P ⊗ₖ (S.A x a * S.B y b)) *ᵥ S.uvec) :=
  trace_mul_blockOf S.psi P (S.A x a * S.B y b)

end Objective

section Model
variable {d : Nat} {ρ : Matrix (Fin d) (Fin d) ℂ}

theorem ext_flat_psd_restrict (n m : Nat) (φ : Nat → Nat) (R : Nat → Nat → Blk d ρ) (hφ : ∀ i, i < m → φ i < n)
    (h : (flatBlk n R).PosSemidef) : (flatBlk m (fun i j => R (φ i) (φ j))).PosSemidef := by
  let e : Fin (d * m) → Fin (d * n) := fun s =>
    finProdFinEquiv ((finProdFinEquiv.symm s).1, ⟨φ (finProdFinEquiv.symm s).2, hφ _ (finProdFinEquiv.symm s).2.2⟩)
  have he : flatBlk m (fun i j => R (φ i) (φ j)) = (flatBlk n R).submatrix e e := by
    ext s t
    simp only [flatBlk, Matrix.of_apply, Matrix.submatrix_apply, Equiv.symm_apply_apply, e]
  rw [he]
  exact h.submatrix _

end Model

end Toq.ExtGames
