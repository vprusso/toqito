import Toq.Proofs.Metrics
/-!
# Classical (commuting) case of the state distance measures

For probability vectors `p, q` on a finite index set: classical (Bhattacharyya) fidelity `cFid p q = Σ √(p_i q_i)`, classical trace
(total variation) distance `cTD p q = ½ Σ |p_i − q_i|`, and their laws (Fuchs–van de Graaf from `|p − q| = |√p − √q| (√p + √q)` and Cauchy–Schwarz);
`subfid_scalar` and `sum_abs_div_two_eq_sqrt` are the scalar cores of `sub-fidelity ≤ F²` and of the trace distance of two pure states.
-/

namespace Toq.Metrics
section Classical
variable {ι : Type*} [Fintype ι]

noncomputable def cFid (p q : ι → ℝ) : ℝ := ∑ i, Real.sqrt (p i * q i)

noncomputable def cTD (p q : ι → ℝ) : ℝ := (∑ i, |p i - q i|) / 2

def IsProb (p : ι → ℝ) : Prop := (∀ i, 0 ≤ p i) ∧ ∑ i, p i = 1

theorem cFid_nonneg (p q : ι → ℝ) : 0 ≤ cFid p q :=
  Finset.sum_nonneg fun _ _ => Real.sqrt_nonneg _

theorem cFid_symm (p q : ι → ℝ) : cFid p q = cFid q p := by
  unfold cFid; simp only [mul_comm]

theorem cTD_symm (p q : ι → ℝ) : cTD p q = cTD q p := by
  unfold cTD; simp only [abs_sub_comm]

theorem cTD_nonneg (p q : ι → ℝ) : 0 ≤ cTD p q :=
  div_nonneg (Finset.sum_nonneg fun _ _ => abs_nonneg _) (by norm_num)

theorem cTD_self (p : ι → ℝ) : cTD p p = 0 := by simp [cTD]

theorem cTD_triangle (p q r : ι → ℝ) : cTD p r ≤ cTD p q + cTD q r := by
  unfold cTD
  rw [← add_div, ← Finset.sum_add_distrib]
  refine div_le_div_of_nonneg_right (Finset.sum_le_sum fun i _ => ?_) (by norm_num)
  exact abs_sub_le _ _ _

theorem cTD_eq_zero_iff (p q : ι → ℝ) : cTD p q = 0 ↔ p = q := by
  constructor
  · intro h
    have h0 : ∑ i, |p i - q i| = 0 := by unfold cTD at h; linarith
    have := (Finset.sum_eq_zero_iff_of_nonneg fun i _ => abs_nonneg (p i - q i)).mp h0
    funext i
    exact sub_eq_zero.mp (abs_eq_zero.mp (this i (Finset.mem_univ i)))
  · rintro rfl; exact cTD_self p

theorem cTD_le_one {p q : ι → ℝ} (hp : IsProb p) (hq : IsProb q) : cTD p q ≤ 1 := by
  unfold cTD
  have : ∑ i, |p i - q i| ≤ ∑ i, (p i + q i) := Finset.sum_le_sum fun i _ => by
    rw [abs_le]; constructor <;> linarith [hp.1 i, hq.1 i]
  rw [Finset.sum_add_distrib, hp.2, hq.2] at this
  linarith

theorem sum_sqrt_add_mul_sq {p q : ι → ℝ} (hp : IsProb p) (hq : IsProb q) (c : ℝ) :
    ∑ i, (Real.sqrt (p i) + c * Real.sqrt (q i)) ^ 2 = 1 + c ^ 2 + 2 * c * cFid p q := by
  have : ∀ i, (Real.sqrt (p i) + c * Real.sqrt (q i)) ^ 2 = p i + c ^ 2 * q i + 2 * c * Real.sqrt (p i * q i) := by
    intro i
    rw [Real.sqrt_mul (hp.1 i), add_sq, mul_pow, Real.sq_sqrt (hp.1 i), Real.sq_sqrt (hq.1 i)]; ring
  simp only [this, Finset.sum_add_distrib, ← Finset.mul_sum, hp.2, hq.2, cFid]
  ring

theorem sum_sqrt_sub_sq {p q : ι → ℝ} (hp : IsProb p) (hq : IsProb q) :
    ∑ i, (Real.sqrt (p i) - Real.sqrt (q i)) ^ 2 = 2 - 2 * cFid p q := by
  have := sum_sqrt_add_mul_sq hp hq (-1)
  simp only [neg_one_mul, ← sub_eq_add_neg] at this
  linarith

theorem sum_sqrt_add_sq {p q : ι → ℝ} (hp : IsProb p) (hq : IsProb q) :
    ∑ i, (Real.sqrt (p i) + Real.sqrt (q i)) ^ 2 = 2 + 2 * cFid p q := by
  have := sum_sqrt_add_mul_sq hp hq 1
  simp only [one_mul] at this
  linarith

theorem cFid_le_one {p q : ι → ℝ} (hp : IsProb p) (hq : IsProb q) : cFid p q ≤ 1 := by
  have h := sum_sqrt_sub_sq hp hq
  have : 0 ≤ ∑ i, (Real.sqrt (p i) - Real.sqrt (q i)) ^ 2 := Finset.sum_nonneg fun _ _ => sq_nonneg _
  linarith

theorem cFid_self {p : ι → ℝ} (hp : IsProb p) : cFid p p = 1 := by
  unfold cFid
  rw [← hp.2]
  exact Finset.sum_congr rfl fun i _ => Real.sqrt_mul_self (hp.1 i)

theorem cFid_eq_one_iff {p q : ι → ℝ} (hp : IsProb p) (hq : IsProb q) : cFid p q = 1 ↔ p = q := by
  constructor
  · intro h
    have h0 : ∑ i, (Real.sqrt (p i) - Real.sqrt (q i)) ^ 2 = 0 := by rw [sum_sqrt_sub_sq hp hq, h]; norm_num
    have := (Finset.sum_eq_zero_iff_of_nonneg fun i _ => sq_nonneg (Real.sqrt (p i) - Real.sqrt (q i))).mp h0
    funext i
    have hi : Real.sqrt (p i) = Real.sqrt (q i) :=
      sub_eq_zero.mp ((pow_eq_zero_iff (two_ne_zero)).mp (this i (Finset.mem_univ i)))
    calc p i = Real.sqrt (p i) ^ 2 := (Real.sq_sqrt (hp.1 i)).symm
      _ = Real.sqrt (q i) ^ 2 := by rw [hi]
      _ = q i := Real.sq_sqrt (hq.1 i)
  · rintro rfl; exact cFid_self hp

theorem abs_sub_eq_sqrt_mul {a b : ℝ} (ha : 0 ≤ a) (hb : 0 ≤ b) :
    |a - b| = |Real.sqrt a - Real.sqrt b| * (Real.sqrt a + Real.sqrt b) := by
  rw [← abs_of_nonneg (add_nonneg (Real.sqrt_nonneg a) (Real.sqrt_nonneg b)), ← abs_mul, mul_comm,
    ← mul_self_sub_mul_self, Real.mul_self_sqrt ha, Real.mul_self_sqrt hb]

theorem one_sub_cFid_le_cTD {p q : ι → ℝ} (hp : IsProb p) (hq : IsProb q) : 1 - cFid p q ≤ cTD p q := by
  have h := sum_sqrt_sub_sq hp hq
  have hle : ∑ i, (Real.sqrt (p i) - Real.sqrt (q i)) ^ 2 ≤ ∑ i, |p i - q i| := by
    refine Finset.sum_le_sum fun i _ => ?_
    rw [abs_sub_eq_sqrt_mul (hp.1 i) (hq.1 i), ← sq_abs, sq]
    refine mul_le_mul_of_nonneg_left ?_ (abs_nonneg _)
    rw [abs_le]
    constructor <;> linarith [Real.sqrt_nonneg (p i), Real.sqrt_nonneg (q i)]
  unfold cTD
  linarith

theorem cTD_sq_add_cFid_sq_le_one {p q : ι → ℝ} (hp : IsProb p) (hq : IsProb q) :
    cTD p q ^ 2 + cFid p q ^ 2 ≤ 1 := by
  have hcs := Finset.sum_mul_sq_le_sq_mul_sq Finset.univ
    (fun i => |Real.sqrt (p i) - Real.sqrt (q i)|) (fun i => Real.sqrt (p i) + Real.sqrt (q i))
  have e1 : ∑ i, |Real.sqrt (p i) - Real.sqrt (q i)| * (Real.sqrt (p i) + Real.sqrt (q i)) = ∑ i, |p i - q i| :=
    Finset.sum_congr rfl fun i _ => (abs_sub_eq_sqrt_mul (hp.1 i) (hq.1 i)).symm
  have e2 : ∑ i, |Real.sqrt (p i) - Real.sqrt (q i)| ^ 2 = 2 - 2 * cFid p q := by
    rw [← sum_sqrt_sub_sq hp hq]; exact Finset.sum_congr rfl fun i _ => sq_abs _
  rw [e1, e2, sum_sqrt_add_sq hp hq] at hcs
  unfold cTD
  nlinarith

theorem cTD_le_sqrt {p q : ι → ℝ} (hp : IsProb p) (hq : IsProb q) :
    cTD p q ≤ Real.sqrt (1 - cFid p q ^ 2) := by
  refine Real.le_sqrt_of_sq_le ?_
  linarith [cTD_sq_add_cFid_sq_le_one hp hq]

theorem cFid_eq_zero_of_disjoint {p q : ι → ℝ} (h : ∀ i, p i * q i = 0) : cFid p q = 0 := by
  unfold cFid; simp [h]

theorem cTD_eq_one_of_disjoint {p q : ι → ℝ} (hp : IsProb p) (hq : IsProb q) (h : ∀ i, p i * q i = 0) :
    cTD p q = 1 := by
  have h1 := one_sub_cFid_le_cTD hp hq
  rw [cFid_eq_zero_of_disjoint h] at h1
  linarith [cTD_le_one hp hq]

/-- every `λ_i` is `0` or has `λ_i² = c`, so `|λ_i| √c = λ_i²` for every `i` -/
theorem sum_abs_div_two_eq_sqrt {lam : ι → ℝ} {c : ℝ} (hl : ∀ i, lam i * lam i * lam i = c * lam i)
    (hsq : ∑ i, lam i * lam i = 2 * c) : (∑ i, |lam i|) / 2 = Real.sqrt c := by
  have hc : 0 ≤ c := by nlinarith [Finset.sum_nonneg fun i (_ : i ∈ Finset.univ) => mul_self_nonneg (lam i)]
  have hμμ : Real.sqrt c * Real.sqrt c = c := Real.mul_self_sqrt hc
  have habs : ∀ i, |lam i| * Real.sqrt c = lam i * lam i := by
    intro i
    rcases eq_or_ne (lam i) 0 with h0 | h0
    · rw [h0, abs_zero, zero_mul, mul_zero]
    · have h2 : lam i * lam i = c := mul_right_cancel₀ h0 (hl i)
      rw [← abs_mul_abs_self (lam i)] at h2 ⊢
      rw [show |lam i| = Real.sqrt c from (Real.sqrt_eq_iff_mul_self_eq hc (abs_nonneg _)).mpr h2.symm |>.symm]
  have hsum : (∑ i, |lam i|) * Real.sqrt c = 2 * c := by
    rw [Finset.sum_mul]; simp only [habs]; exact hsq
  rcases hc.eq_or_lt with h0 | hpos
  · rw [← h0, Real.sqrt_zero]
    have hz : ∀ i, lam i = 0 := fun i => by
      have := (Finset.sum_eq_zero_iff_of_nonneg fun i _ => mul_self_nonneg (lam i)).mp (by rw [hsq, ← h0, mul_zero]) i
        (Finset.mem_univ i)
      exact mul_self_eq_zero.mp this
    simp [hz]
  · have hμ : 0 < Real.sqrt c := Real.sqrt_pos.mpr hpos
    have : ∑ i, |lam i| = 2 * Real.sqrt c := mul_right_cancel₀ hμ.ne' (by rw [hsum, mul_assoc, hμμ])
    rw [this]; ring

end Classical

section Scalar
variable {ι : Type*} [Fintype ι] [DecidableEq ι]

theorem sum_offDiag_mul (a : ι → ℝ) :
    ∑ i, ∑ j, (if i = j then 0 else a i * a j) = (∑ i, a i) ^ 2 - ∑ i, a i ^ 2 := by
  have : ∀ i, ∑ j, (if i = j then 0 else a i * a j) = a i * (∑ j, a j) - a i ^ 2 := by
    intro i
    have : ∀ j, (if i = j then 0 else a i * a j) = a i * a j - (if i = j then a i * a j else 0) := by
      intro j; split_ifs <;> ring
    simp only [this, Finset.sum_sub_distrib, Finset.sum_ite_eq, Finset.mem_univ, if_true, ← Finset.mul_sum]
    ring
  simp only [this, Finset.sum_sub_distrib, ← Finset.sum_mul]; ring

/-- With `o_ij = s_i s_j` off the diagonal, `T = Σ o_ij = (Σ s)² − Σ s²` and `Q = Σ o_ij² = (Σ s²)² − Σ s⁴`; the claim is `2 Q ≤ T²`, which
holds term by term: `2 o_ij² = o_ij (o_ij + o_ji) ≤ o_ij T`. -/
theorem subfid_scalar (s : ι → ℝ) (hs : ∀ i, 0 ≤ s i) :
    ∑ i, s i ^ 2 + Real.sqrt (2 * ((∑ i, s i ^ 2) ^ 2 - ∑ i, s i ^ 4)) ≤ (∑ i, s i) ^ 2 := by
  set o : ι → ι → ℝ := fun i j => if i = j then 0 else s i * s j with ho
  have ho0 : ∀ i j, 0 ≤ o i j := fun i j => by
    simp only [ho]; split_ifs
    · exact le_rfl
    · exact mul_nonneg (hs i) (hs j)
  set T := ∑ i, ∑ j, o i j with hT
  set Q := ∑ i, ∑ j, o i j ^ 2 with hQ
  have eT : T = (∑ i, s i) ^ 2 - ∑ i, s i ^ 2 := sum_offDiag_mul s
  have eQ : Q = (∑ i, s i ^ 2) ^ 2 - ∑ i, s i ^ 4 := by
    have : ∀ i j, o i j ^ 2 = if i = j then 0 else s i ^ 2 * s j ^ 2 := by
      intro i j; simp only [ho]; split_ifs <;> ring
    simp only [hQ, this, sum_offDiag_mul fun i => s i ^ 2, ← pow_mul]
  have hT0 : 0 ≤ T := Finset.sum_nonneg fun i _ => Finset.sum_nonneg fun j _ => ho0 i j
  have pair : ∀ i j, i ≠ j → o i j + o j i ≤ T := by
    intro i j hij
    have e : T = ∑ p ∈ (Finset.univ : Finset (ι × ι)), o p.1 p.2 := by
      rw [hT, ← Finset.sum_product']; rfl
    rw [e]
    have hne : ((i, j) : ι × ι) ≠ (j, i) := fun h => hij (Prod.ext_iff.mp h).1
    have := Finset.sum_le_sum_of_subset_of_nonneg (f := fun p : ι × ι => o p.1 p.2)
      (Finset.subset_univ ({(i, j), (j, i)} : Finset (ι × ι))) fun p _ _ => ho0 p.1 p.2
    rwa [Finset.sum_pair hne] at this
  have key : 2 * Q ≤ T ^ 2 := by
    have : T ^ 2 = ∑ i, ∑ j, o i j * T := by
      rw [sq, hT, Finset.sum_mul]; refine Finset.sum_congr rfl fun i _ => ?_; rw [Finset.sum_mul]
    rw [this, hQ, Finset.mul_sum]
    refine Finset.sum_le_sum fun i _ => ?_
    rw [Finset.mul_sum]
    refine Finset.sum_le_sum fun j _ => ?_
    by_cases hij : i = j
    · have : o i j = 0 := by simp [ho, hij]
      rw [this]; simp
    · have hsym : o j i = o i j := by
        simp only [ho, if_neg hij, if_neg (Ne.symm hij)]; ring
      have := pair i j hij
      rw [hsym] at this
      nlinarith [ho0 i j]
  rw [← eQ]
  have : Real.sqrt (2 * Q) ≤ T := by
    rw [show T = Real.sqrt (T ^ 2) from (Real.sqrt_sq hT0).symm]
    exact Real.sqrt_le_sqrt key
  linarith

end Scalar

end Toq.Metrics
