import Mathlib.Analysis.Matrix.Order
import Mathlib.Data.Matrix.ColumnRowPartitioned
import Mathlib.LinearAlgebra.Matrix.Gershgorin
/-!
# Positive semidefinite matrices, the real trace pairing, and conjugation: what every weak-duality argument shares

No model in this file.  By section:

* Gershgorin's criterion for a Hermitian matrix (`Matrix.posSemidef_of_diagDominant`).
* Entries, quadratic forms and the trace pairing.  Entries of a PSD matrix (`|Z_ab|² ≤ Z_aa Z_bb` and what follows, with the converse for
  `2 × 2` matrices); real multiples and real diagonal matrices; quadratic forms read on one vector, the sesquilinear form under a sandwich,
  Gram matrices; products of Hermitian matrices, Hermitian idempotents; normalising a PSD matrix to trace one.  The real trace pairing
  `(A * B).trace.re` is ℝ-linear in each factor and symmetric; for PSD matrices it is non-negative, real, monotone for the Loewner order
  (written `(B - A).PosSemidef` throughout, as the statements of the properties write it), at most `c · tr ρ` below `c • 1`, zero only for a zero
  product; conversely a Hermitian matrix that pairs non-negatively with every PSD matrix is PSD; the same for a family of pairs (a duality gap).
* Conjugation `A ↦ S A T` by a matrix with a one-sided inverse `T S = 1` (no positivity in it: products, traces and cancellation over any
  semiring), isometries `Wᴴ W = 1` (the convention for unitaries too), and the exchange matrix as the unitary at hand that is not diagonal.
* Positivity of `2 × 2` block matrices, all from the Gram form `[A B]ᴴ M [A B]`.

The spectral theorem enters twice: through the eigenvalues in Gershgorin's criterion, and through the factorisation `A = Cᴴ C` of a PSD matrix
(`Matrix.PosSemidef.exists_eq_conjTranspose_mul_self`, from the C⋆-algebra order on matrices), on which the pairing of two PSD matrices and the
diagonal block matrix rest.  Nothing else here needs more than the definition; square roots, `conjDiag` and the functional calculus are in
`Toq.Proofs.Spectral`.
-/

open Matrix
open scoped ComplexOrder

section Gershgorin
variable {ι : Type*} [Fintype ι] [DecidableEq ι]

/-- A Hermitian matrix whose (real) diagonal dominates the off-diagonal row sums of moduli is
positive semidefinite. -/
theorem Matrix.posSemidef_of_diagDominant {A : Matrix ι ι ℂ} (hA : A.IsHermitian)
    (h : ∀ i, ∑ j ∈ Finset.univ.erase i, ‖A i j‖ ≤ (A i i).re) : A.PosSemidef := by
  rw [hA.posSemidef_iff_eigenvalues_nonneg]
  intro j
  have hev : Module.End.HasEigenvalue (Matrix.toLin' A) ((hA.eigenvalues j : ℝ) : ℂ) := by
    refine Module.End.hasEigenvalue_of_hasEigenvector (x := ⇑(hA.eigenvectorBasis j)) ⟨?_, ?_⟩
    · rw [Module.End.mem_eigenspace_iff, Matrix.toLin'_apply, hA.mulVec_eigenvectorBasis j]
      rfl
    · intro h0
      exact hA.eigenvectorBasis.orthonormal.ne_zero j (by ext i; exact congrFun h0 i)
  obtain ⟨i, hi⟩ := eigenvalue_mem_ball hev
  rw [mem_closedBall_iff_norm'] at hi
  have hdiag : A i i = ((A i i).re : ℂ) := (hA.coe_re_apply_self i).symm
  rw [hdiag, ← Complex.ofReal_sub, Complex.norm_real, Real.norm_eq_abs] at hi
  have := (le_abs_self _).trans (hi.trans (h i))
  simp only [Pi.zero_apply]
  linarith

end Gershgorin

/-! ## Entries and quadratic forms of positive semidefinite matrices, and their trace pairing -/

section Trace
variable {ι : Type*}

theorem Matrix.PosSemidef.ite_zero {c : Prop} [Decidable c] {A : Matrix ι ι ℂ} (hA : A.PosSemidef) :
    (if c then A else 0).PosSemidef := by
  split
  exacts [hA, Matrix.PosSemidef.zero]

theorem Matrix.PosSemidef.re_diag_nonneg {A : Matrix ι ι ℂ} (hA : A.PosSemidef) (a : ι) : 0 ≤ (A a a).re :=
  (Complex.nonneg_iff.mp hA.diag_nonneg).1

theorem Matrix.PosSemidef.diag_eq_re {A : Matrix ι ι ℂ} (hA : A.PosSemidef) (a : ι) : A a a = ((A a a).re : ℂ) :=
  Complex.eq_re_of_ofReal_le (r := 0) (Complex.ofReal_zero ▸ hA.diag_nonneg)

theorem Matrix.PosSemidef.norm_diag {A : Matrix ι ι ℂ} (hA : A.PosSemidef) (a : ι) : ‖A a a‖ = (A a a).re := by
  rw [hA.diag_eq_re a, Complex.norm_real, Complex.ofReal_re, Real.norm_of_nonneg (hA.re_diag_nonneg a)]

/-- Cauchy–Schwarz for the entries of a PSD matrix: `|Z_ab|² ≤ Z_aa Z_bb` (the determinant of the `{a, b}` minor is `≥ 0`) -/
theorem Matrix.PosSemidef.norm_sq_apply_le {Z : Matrix ι ι ℂ} (hZ : Z.PosSemidef) (a b : ι) :
    ‖Z a b‖ ^ 2 ≤ (Z a a).re * (Z b b).re := by
  have hba : Z b a = (starRingEnd ℂ) (Z a b) := (hZ.isHermitian.apply b a).symm
  have hi : (Z a a).im = 0 := Complex.conj_eq_iff_im.mp (hZ.isHermitian.apply a a)
  have h := (Complex.nonneg_iff.mp (hZ.submatrix ![a, b]).det_nonneg).1
  simp only [Matrix.det_fin_two, Matrix.submatrix_apply, Matrix.cons_val_zero, Matrix.cons_val_one] at h
  rwa [hba, Complex.mul_conj', Complex.sub_re, Complex.mul_re, hi, zero_mul, sub_zero, ← Complex.ofReal_pow, Complex.ofReal_re,
    sub_nonneg] at h

/-- a PSD matrix with a vanishing diagonal entry has the whole column and row zero -/
theorem Matrix.PosSemidef.apply_eq_zero_of_diag_eq_zero {Z : Matrix ι ι ℂ} (hZ : Z.PosSemidef) {j : ι} (h : Z j j = 0) (a : ι) :
    Z a j = 0 ∧ Z j a = 0 := by
  have key : ∀ a b, (Z a a).re * (Z b b).re = 0 → Z a b = 0 := fun a b h0 =>
    norm_eq_zero.mp (pow_eq_zero_iff two_ne_zero |>.mp (le_antisymm ((hZ.norm_sq_apply_le a b).trans_eq h0) (sq_nonneg _)))
  exact ⟨key a j (by rw [h, Complex.zero_re, mul_zero]), key j a (by rw [h, Complex.zero_re, zero_mul])⟩

/-- entries of a PSD matrix with diagonal `≤ c` have modulus `≤ c` -/
theorem Matrix.PosSemidef.norm_apply_le {Z : Matrix ι ι ℂ} (hZ : Z.PosSemidef) (c : ℝ) (h : ∀ a, (Z a a).re ≤ c)
    (a b : ι) : ‖Z a b‖ ≤ c := by
  have hc : 0 ≤ c := (hZ.re_diag_nonneg a).trans (h a)
  refine (pow_le_pow_iff_left₀ (norm_nonneg _) hc two_ne_zero).mp ((hZ.norm_sq_apply_le a b).trans ?_)
  rw [sq]
  exact mul_le_mul (h a) (h b) (hZ.re_diag_nonneg b) hc

theorem Matrix.posSemidef_diagonal_ofReal [DecidableEq ι] (p : ι → ℝ) (hp : ∀ i, 0 ≤ p i) :
    (Matrix.diagonal fun i => (p i : ℂ)).PosSemidef :=
  Matrix.PosSemidef.diagonal fun i => Complex.zero_le_real.mpr (hp i)

theorem Matrix.PosSemidef.smul_ofReal {A : Matrix ι ι ℂ} (hA : A.PosSemidef) {c : ℝ} (hc : 0 ≤ c) : ((c : ℂ) • A).PosSemidef :=
  hA.smul (Complex.zero_le_real.mpr hc)

theorem Matrix.IsHermitian.smul_ofReal {A : Matrix ι ι ℂ} (hA : A.IsHermitian) (c : ℝ) : ((c : ℂ) • A).IsHermitian :=
  IsSelfAdjoint.smul (Complex.conj_ofReal c) hA

theorem Matrix.PosSemidef.add_smul_one_mono [DecidableEq ι] {A : Matrix ι ι ℂ} {c c' : ℝ}
    (h : (A + (c : ℂ) • (1 : Matrix ι ι ℂ)).PosSemidef) (hc : c ≤ c') : (A + (c' : ℂ) • (1 : Matrix ι ι ℂ)).PosSemidef := by
  rw [← add_add_sub_cancel A ((c' : ℂ) • 1) ((c : ℂ) • 1), ← sub_smul, ← Complex.ofReal_sub]
  exact h.add (PosSemidef.one.smul_ofReal (sub_nonneg.mpr hc))

theorem Matrix.PosSemidef.sub_smul_one_mono [DecidableEq ι] {A : Matrix ι ι ℂ} {c c' : ℝ}
    (h : (A - (c : ℂ) • (1 : Matrix ι ι ℂ)).PosSemidef) (hc : c' ≤ c) :
    (A - (c' : ℂ) • (1 : Matrix ι ι ℂ)).PosSemidef := by
  rw [sub_eq_add_neg, ← neg_smul, ← Complex.ofReal_neg] at h ⊢
  exact h.add_smul_one_mono (neg_le_neg hc)

/-- **A Hermitian `2 × 2` matrix is PSD iff its diagonal and its determinant are non-negative.**  For `⇐` it is
`x⁻¹ c cᴴ + diag(0, y − |w|²/x)` with `c = (x, w̄)` (also for `x = 0`, where `w = 0` and `0⁻¹ = 0`). -/
theorem Matrix.posSemidef_fin_two_iff {x y : ℝ} {w : ℂ} :
    (!![(x : ℂ), w; (starRingEnd ℂ) w, (y : ℂ)] : Matrix (Fin 2) (Fin 2) ℂ).PosSemidef ↔ 0 ≤ x ∧ 0 ≤ y ∧ ‖w‖ ^ 2 ≤ x * y := by
  refine ⟨fun h => ⟨h.re_diag_nonneg 0, h.re_diag_nonneg 1, h.norm_sq_apply_le 0 1⟩, ?_⟩
  rintro ⟨hx, hy, h⟩
  obtain ⟨c, hc0, hc1⟩ : ∃ c : Fin 2 → ℂ, c 0 = x ∧ c 1 = (starRingEnd ℂ) w := ⟨![x, (starRingEnd ℂ) w], rfl, rfl⟩
  obtain ⟨r, hr0, hr1⟩ : ∃ r : Fin 2 → ℝ, r 0 = 0 ∧ r 1 = y - ‖w‖ ^ 2 / x := ⟨![0, y - ‖w‖ ^ 2 / x], rfl, rfl⟩
  have hr : ∀ i, 0 ≤ r i := by
    refine Fin.forall_fin_two.mpr ⟨hr0.ge, ?_⟩
    rw [hr1]
    rcases hx.eq_or_lt with h0 | h0
    · rw [← h0, div_zero, sub_zero]; exact hy
    · rw [sub_nonneg, div_le_iff₀ h0, mul_comm]; exact h
  have hw0 : x = 0 → w = 0 := fun h0 => by
    rw [h0, zero_mul] at h
    exact norm_eq_zero.mp (pow_eq_zero_iff two_ne_zero |>.mp (le_antisymm h (sq_nonneg _)))
  -- `x⁻¹ (x z) = z` also for `x = 0`, for the entries `z = x, w, w̄`, which vanish with `x`
  have hxz : ∀ z : ℂ, (x = 0 → z = 0) → ((x⁻¹ : ℝ) : ℂ) * (x * z) = z := fun z hz => by
    by_cases h0 : x = 0
    · rw [hz h0, mul_zero, mul_zero]
    · rw [← mul_assoc, Complex.ofReal_inv, inv_mul_cancel₀ (Complex.ofReal_ne_zero.mpr h0), one_mul]
  have hww : ((x⁻¹ : ℝ) : ℂ) * ((starRingEnd ℂ) w * w) + ((y - ‖w‖ ^ 2 / x : ℝ) : ℂ) = y := by
    rw [Complex.conj_mul']
    push_cast
    ring
  have hN : ∀ a b, (((x⁻¹ : ℝ) : ℂ) • vecMulVec c (star c) + Matrix.diagonal fun i => (r i : ℂ)) a b
      = ((x⁻¹ : ℝ) : ℂ) * (c a * (starRingEnd ℂ) (c b)) + if a = b then (r a : ℂ) else 0 :=
    fun a b => by rw [Matrix.add_apply, Matrix.smul_apply, vecMulVec_apply, Matrix.diagonal_apply]; rfl
  have e : (!![(x : ℂ), w; (starRingEnd ℂ) w, (y : ℂ)] : Matrix (Fin 2) (Fin 2) ℂ)
      = ((x⁻¹ : ℝ) : ℂ) • vecMulVec c (star c) + Matrix.diagonal fun i => (r i : ℂ) := by
    rw [Matrix.eta_fin_two (_ + _), hN, hN, hN, hN, hc0, hc1, Complex.conj_ofReal, Complex.conj_conj, if_pos rfl, if_pos rfl,
      if_neg (by decide), if_neg (by decide), hr0, hr1, Complex.ofReal_zero, add_zero, add_zero, add_zero,
      hxz x fun h0 => by rw [h0, Complex.ofReal_zero], hxz w hw0, mul_comm ((starRingEnd ℂ) w) (x : ℂ),
      hxz _ fun h0 => by rw [hw0 h0, map_zero], hww]
  rw [e]
  exact ((Matrix.posSemidef_vecMulVec_self_star c).smul_ofReal (inv_nonneg.mpr hx)).add (Matrix.posSemidef_diagonal_ofReal r hr)

variable [Fintype ι]

/-- a Hermitian matrix is PSD as soon as the real parts of its quadratic form are non-negative -/
theorem Matrix.PosSemidef.of_re_dotProduct_mulVec_nonneg {A : Matrix ι ι ℂ} (hA : A.IsHermitian)
    (h : ∀ x : ι → ℂ, 0 ≤ (star x ⬝ᵥ (A *ᵥ x)).re) : A.PosSemidef :=
  Matrix.PosSemidef.of_dotProduct_mulVec_nonneg hA fun x =>
    Complex.nonneg_iff.mpr ⟨h x, (hA.im_star_dotProduct_mulVec_self x).symm⟩

/-- `tr(H xxᴴ) = xᴴ H x` -/
theorem Matrix.trace_mul_vecMulVec_star (H : Matrix ι ι ℂ) (x : ι → ℂ) :
    (H * vecMulVec x (star x)).trace = star x ⬝ᵥ (H *ᵥ x) := by
  rw [Matrix.mul_vecMulVec, Matrix.trace_vecMulVec, dotProduct_comm]

/-- moving an operator to the other side of the inner product: `⟨u, Mᴴ N v⟩ = ⟨M u, N v⟩` -/
theorem Matrix.star_dotProduct_conjTranspose_mul_mulVec {m n p : Type*} [Fintype m] [Fintype n] [Fintype p] (M : Matrix m n ℂ)
    (N : Matrix m p ℂ) (u : n → ℂ) (v : p → ℂ) : star u ⬝ᵥ ((Mᴴ * N) *ᵥ v) = star (M *ᵥ u) ⬝ᵥ (N *ᵥ v) := by
  rw [← mulVec_mulVec, dotProduct_mulVec, ← star_mulVec]

/-- a Gram matrix `G[s,t] = ⟨v_s, v_t⟩` is positive semidefinite: it is `Vᴴ V` for the matrix `V` with the columns `v s` -/
theorem Matrix.posSemidef_gram {κ n : Type*} [Fintype κ] [Fintype n] (v : κ → n → ℂ) :
    (Matrix.of fun s t => star (v s) ⬝ᵥ v t).PosSemidef :=
  posSemidef_conjTranspose_mul_self (Matrix.of fun (k : n) (s : κ) => v s k)

theorem Matrix.PosSemidef.re_diag_le_re_trace {Z : Matrix ι ι ℂ} (hZ : Z.PosSemidef) (a : ι) : (Z a a).re ≤ Z.trace.re := by
  unfold Matrix.trace
  rw [Complex.re_sum]
  exact Finset.single_le_sum (f := fun i => (Z i i).re) (fun i _ => hZ.re_diag_nonneg i) (Finset.mem_univ a)

/-- the trace of a PSD matrix is a non-negative real -/
theorem trace_eq_re_of_psd {ρ : Matrix ι ι ℂ} (hρ : ρ.PosSemidef) : ρ.trace = ((ρ.trace.re : ℝ) : ℂ) :=
  Complex.eq_re_of_ofReal_le (r := 0) (Complex.ofReal_zero ▸ hρ.trace_nonneg)

theorem trace_re_nonneg_of_psd {ρ : Matrix ι ι ℂ} (hρ : ρ.PosSemidef) : 0 ≤ ρ.trace.re :=
  (Complex.nonneg_iff.mp hρ.trace_nonneg).1

/-! A PSD matrix with non-zero trace, divided by its trace, is a density operator. -/

theorem Matrix.PosSemidef.inv_trace_smul {A : Matrix ι ι ℂ} (hA : A.PosSemidef) : (A.trace⁻¹ • A).PosSemidef :=
  hA.smul (inv_nonneg.mpr hA.trace_nonneg)

theorem Matrix.trace_inv_trace_smul (A : Matrix ι ι ℂ) (h : A.trace ≠ 0) : (A.trace⁻¹ • A).trace = 1 := by
  rw [Matrix.trace_smul, smul_eq_mul, inv_mul_cancel₀ h]

/-- the trace pairing of two Hermitian matrices is real -/
theorem Matrix.IsHermitian.trace_mul_im_eq_zero {A B : Matrix ι ι ℂ} (hA : A.IsHermitian) (hB : B.IsHermitian) :
    (A * B).trace.im = 0 := by
  have h : star (A * B).trace = (A * B).trace := by
    rw [← Matrix.trace_conjTranspose, Matrix.conjTranspose_mul, hA.eq, hB.eq, Matrix.trace_mul_comm]
  exact Complex.conj_eq_iff_im.mp h

/-- for Hermitian `A`, `B` a product in the other order is the adjoint -/
theorem Matrix.IsHermitian.mul_eq_conjTranspose {A B C : Matrix ι ι ℂ} (hA : A.IsHermitian) (hB : B.IsHermitian)
    (h : A * B = C) : B * A = Cᴴ := by
  rw [← h, Matrix.conjTranspose_mul, hA.eq, hB.eq]

/-- what a Hermitian `M` kills is orthogonal to what it keeps: `ρ σ = ρ (M σ) = 0` -/
theorem Matrix.IsHermitian.mul_eq_zero_of_mul_eq_self {ρ σ M : Matrix ι ι ℂ} (hσ : σ.IsHermitian) (hM : M.IsHermitian)
    (h1 : ρ * M = 0) (h2 : σ * M = σ) : ρ * σ = 0 := by
  rw [← hσ.eq, ← hσ.mul_eq_conjTranspose hM h2, ← Matrix.mul_assoc, h1, Matrix.zero_mul]

/-! `Re tr` is ℝ-linear in each factor of the pairing, and the pairing is symmetric. -/

theorem Matrix.re_trace_smul (c : ℝ) (A : Matrix ι ι ℂ) : ((c : ℂ) • A).trace.re = c * A.trace.re := by
  rw [Matrix.trace_smul, smul_eq_mul, Complex.re_ofReal_mul]

theorem re_trace_mul_smul (A ρ : Matrix ι ι ℂ) (t : ℝ) : (A * ((t : ℂ) • ρ)).trace.re = t * (A * ρ).trace.re := by
  rw [Matrix.mul_smul, Matrix.re_trace_smul]

theorem re_trace_smul_mul (c : ℝ) (A B : Matrix ι ι ℂ) : (((c : ℂ) • A) * B).trace.re = c * (A * B).trace.re := by
  rw [Matrix.smul_mul, Matrix.re_trace_smul]

theorem Matrix.re_trace_sum_smul {κ : Type*} [Fintype κ] (ρ : κ → Matrix ι ι ℂ) (p : κ → ℝ) :
    (∑ j, (p j : ℂ) • ρ j).trace.re = ∑ j, p j * (ρ j).trace.re := by
  rw [Matrix.trace_sum, Complex.re_sum]
  exact Finset.sum_congr rfl fun j _ => Matrix.re_trace_smul (p j) (ρ j)

theorem Matrix.re_trace_conjTranspose (A : Matrix ι ι ℂ) : Aᴴ.trace.re = A.trace.re := by
  rw [Matrix.trace_conjTranspose, Complex.star_def, Complex.conj_re]

/-- the real trace pairing `Re tr(Aᴴ B)` is symmetric -/
theorem Matrix.re_trace_conjTranspose_mul (A B : Matrix ι ι ℂ) : (Aᴴ * B).trace.re = (Bᴴ * A).trace.re := by
  rw [← re_trace_conjTranspose, Matrix.conjTranspose_mul, Matrix.conjTranspose_conjTranspose]

theorem Matrix.re_trace_conjTranspose_mul_herm (Q K : Matrix ι ι ℂ) (hK : K.IsHermitian) :
    (Qᴴ * K).trace.re = (Q * K).trace.re := by
  rw [re_trace_conjTranspose_mul, hK.eq, Matrix.trace_mul_comm]

theorem Matrix.re_trace_conjTranspose_mul_self {κ : Type*} [Fintype κ] (A : Matrix κ ι ℂ) :
    (Aᴴ * A).trace.re = ∑ i, ∑ j, ‖A i j‖ ^ 2 := by
  simp only [Matrix.trace, Matrix.diag_apply, Matrix.mul_apply, Matrix.conjTranspose_apply, Complex.re_sum]
  rw [Finset.sum_comm]
  refine Finset.sum_congr rfl fun i _ => Finset.sum_congr rfl fun j _ => ?_
  rw [mul_comm, Complex.star_def, Complex.mul_conj, Complex.normSq_eq_norm_sq]
  exact_mod_cast rfl

theorem Matrix.eq_zero_of_re_trace_conjTranspose_mul_self {A : Matrix ι ι ℂ} (h : (Aᴴ * A).trace.re = 0) : A = 0 := by
  obtain ⟨-, him⟩ := Complex.nonneg_iff.mp (Matrix.posSemidef_conjTranspose_mul_self A).trace_nonneg
  exact Matrix.trace_conjTranspose_mul_self_eq_zero_iff.mp (Complex.ext h him.symm)

/-- a Hermitian matrix whose pairing with every PSD matrix is non-negative is PSD (pair it with `x xᴴ`): the converse of
`psd_trace_mul_nonneg` -/
theorem psd_of_trace_mul_nonneg {W : Matrix ι ι ℂ} (hW : W.IsHermitian)
    (h : ∀ ρ : Matrix ι ι ℂ, ρ.PosSemidef → 0 ≤ (W * ρ).trace.re) : W.PosSemidef :=
  .of_re_dotProduct_mulVec_nonneg hW fun x =>
    Matrix.trace_mul_vecMulVec_star W x ▸ h _ (Matrix.posSemidef_vecMulVec_self_star x)

theorem Matrix.PosSemidef.mul_mul_same_of_isHermitian {S σ : Matrix ι ι ℂ} (hσ : σ.PosSemidef) (hS : S.IsHermitian) :
    (S * σ * S).PosSemidef := by
  have := hσ.conjTranspose_mul_mul_same S
  rwa [hS.eq] at this

/-- a Hermitian idempotent is positive semidefinite -/
theorem Toq.Metrics.posSemidef_of_isHermitian_idem {E : Matrix ι ι ℂ} (hH : E.IsHermitian) (hEE : E * E = E) : E.PosSemidef := by
  have := Matrix.posSemidef_conjTranspose_mul_self E
  rwa [hH.eq, hEE] at this

variable [DecidableEq ι]

section
-- the only two facts of the file that are read off the C⋆-algebra order on matrices
open scoped MatrixOrder

/-- `1 - E` is a Hermitian idempotent with `E` -/
theorem Toq.Metrics.posSemidef_one_sub_of_idem {E : Matrix ι ι ℂ} (hH : E.IsHermitian) (hEE : E * E = E) :
    (1 - E).PosSemidef :=
  Matrix.nonneg_iff_posSemidef.mp (IsStarProjection.nonneg (IsStarProjection.one_sub ⟨hEE, hH⟩))

theorem Matrix.PosSemidef.exists_eq_conjTranspose_mul_self {A : Matrix ι ι ℂ} (hA : A.PosSemidef) :
    ∃ C : Matrix ι ι ℂ, A = Cᴴ * C :=
  CStarAlgebra.nonneg_iff_eq_star_mul_self.mp hA.nonneg

end

theorem Matrix.PosSemidef.exists_eq_mul_conjTranspose_self {A : Matrix ι ι ℂ} (hA : A.PosSemidef) :
    ∃ C : Matrix ι ι ℂ, A = C * Cᴴ := by
  obtain ⟨C, rfl⟩ := hA.exists_eq_conjTranspose_mul_self
  exact ⟨Cᴴ, by rw [Matrix.conjTranspose_conjTranspose]⟩

/-- the trace of a product of two PSD matrices is a non-negative real: with `B = Cᴴ C`,
`tr (A Cᴴ C) = tr (C A Cᴴ)` is the trace of a PSD matrix -/
theorem Matrix.PosSemidef.trace_mul_nonneg {A B : Matrix ι ι ℂ} (hA : A.PosSemidef) (hB : B.PosSemidef) :
    0 ≤ (A * B).trace := by
  obtain ⟨C, rfl⟩ := hB.exists_eq_conjTranspose_mul_self
  rw [← Matrix.mul_assoc, Matrix.trace_mul_comm, ← Matrix.mul_assoc]
  exact (hA.mul_mul_conjTranspose_same C).trace_nonneg

theorem Matrix.PosSemidef.trace_mul_eq_ofReal_re {A B : Matrix ι ι ℂ} (hA : A.PosSemidef) (hB : B.PosSemidef) :
    (A * B).trace = (((A * B).trace.re : ℝ) : ℂ) :=
  Complex.ext rfl (Complex.nonneg_iff.mp (hA.trace_mul_nonneg hB)).2.symm

theorem psd_trace_mul_nonneg {A B : Matrix ι ι ℂ} (hA : A.PosSemidef) (hB : B.PosSemidef) :
    0 ≤ (A * B).trace.re :=
  (Complex.nonneg_iff.mp (hA.trace_mul_nonneg hB)).1

/-- positive semidefinite `A`, `B` with `tr (A B) = 0` have `A B = 0`: with `A = Cᴴ C`, `B = Dᴴ D` the trace is that of
`N Nᴴ` for `N = C Dᴴ`, so `N = 0`, and `A B = Cᴴ N D` -/
theorem Matrix.PosSemidef.mul_eq_zero_of_trace_mul_eq_zero {A B : Matrix ι ι ℂ} (hA : A.PosSemidef) (hB : B.PosSemidef)
    (h : (A * B).trace = 0) : A * B = 0 := by
  obtain ⟨C, rfl⟩ := hA.exists_eq_conjTranspose_mul_self
  obtain ⟨D, rfl⟩ := hB.exists_eq_conjTranspose_mul_self
  have hN : C * Dᴴ = 0 := Matrix.trace_mul_conjTranspose_self_eq_zero_iff.mp <| by
    rw [Matrix.conjTranspose_mul, Matrix.conjTranspose_conjTranspose, ← Matrix.mul_assoc, Matrix.trace_mul_comm,
      Matrix.mul_assoc C, ← Matrix.mul_assoc]
    exact h
  rw [Matrix.mul_assoc, ← Matrix.mul_assoc C, hN, Matrix.zero_mul, Matrix.mul_zero]

theorem psd_trace_mul_eq_zero_iff {A B : Matrix ι ι ℂ} (hA : A.PosSemidef) (hB : B.PosSemidef) :
    (A * B).trace.re = 0 ↔ A * B = 0 :=
  ⟨fun h => hA.mul_eq_zero_of_trace_mul_eq_zero hB (by rw [hA.trace_mul_eq_ofReal_re hB, h, Complex.ofReal_zero]),
    fun h => by rw [h, Matrix.trace_zero, Complex.zero_re]⟩

/-- the trace pairing with a PSD matrix is monotone for the Loewner order -/
theorem re_trace_mul_le_of_sub_psd {A B X : Matrix ι ι ℂ} (h : (B - A).PosSemidef) (hX : X.PosSemidef) :
    (A * X).trace.re ≤ (B * X).trace.re := by
  have := psd_trace_mul_nonneg h hX
  rwa [Matrix.sub_mul, Matrix.trace_sub, Complex.sub_re, sub_nonneg] at this

theorem re_trace_smul_one_mul (c : ℝ) (ρ : Matrix ι ι ℂ) : (((c : ℂ) • (1 : Matrix ι ι ℂ)) * ρ).trace.re = c * ρ.trace.re := by
  rw [re_trace_smul_mul, Matrix.one_mul]

/-- below `c • 1` the pairing with a PSD matrix `ρ` is at most `c · tr ρ` -/
theorem re_trace_mul_le_of_smul_one_sub_psd {A ρ : Matrix ι ι ℂ} {c : ℝ} (h : ((c : ℂ) • (1 : Matrix ι ι ℂ) - A).PosSemidef)
    (hρ : ρ.PosSemidef) : (A * ρ).trace.re ≤ c * ρ.trace.re :=
  (re_trace_mul_le_of_sub_psd h hρ).trans_eq (re_trace_smul_one_mul c ρ)

/-- positive semidefiniteness of a shift `A + c·1`, read on one vector: `0 ≤ Re xᴴAx + c·xᴴx` -/
theorem Matrix.PosSemidef.re_quad_add_nonneg {A : Matrix ι ι ℂ} {c : ℝ}
    (h : (A + (c : ℂ) • (1 : Matrix ι ι ℂ)).PosSemidef) (x : ι → ℂ) :
    0 ≤ (star x ⬝ᵥ (A *ᵥ x)).re + c * (star x ⬝ᵥ x).re := by
  have h0 := (Complex.nonneg_iff.mp (h.dotProduct_mulVec_nonneg x)).1
  rwa [Matrix.add_mulVec, Matrix.smul_mulVec, Matrix.one_mulVec, dotProduct_add, dotProduct_smul, smul_eq_mul,
    Complex.add_re, Complex.re_ofReal_mul] at h0

theorem Matrix.re_trace_diagonal_ofReal_mul (q : ι → ℝ) (Z : Matrix ι ι ℂ) :
    ((Matrix.diagonal fun i => (q i : ℂ)) * Z).trace.re = ∑ i, q i * (Z i i).re := by
  simp only [Matrix.trace, Matrix.diag_apply, Matrix.diagonal_mul, Complex.re_sum, Complex.re_ofReal_mul]

theorem Matrix.star_dotProduct_diagonal_ofReal_mulVec (q : ι → ℝ) (x : ι → ℂ) :
    star x ⬝ᵥ ((Matrix.diagonal fun i => (q i : ℂ)) *ᵥ x) = ((∑ i, q i * Complex.normSq (x i) : ℝ) : ℂ) := by
  simp only [dotProduct, Matrix.mulVec_diagonal, Pi.star_apply, Complex.ofReal_sum, Complex.ofReal_mul]
  refine Finset.sum_congr rfl fun i _ => ?_
  rw [Complex.normSq_eq_conj_mul_self, Complex.star_def]
  ring

/-- `A − c·1 ⪰ 0` read on one vector: `c·xᴴx ≤ Re xᴴAx` -/
theorem Matrix.PosSemidef.le_re_quad {A : Matrix ι ι ℂ} {c : ℝ}
    (h : (A - (c : ℂ) • (1 : Matrix ι ι ℂ)).PosSemidef) (x : ι → ℂ) :
    c * (star x ⬝ᵥ x).re ≤ (star x ⬝ᵥ (A *ᵥ x)).re := by
  rw [sub_eq_add_neg, ← neg_smul, ← Complex.ofReal_neg] at h
  linarith [h.re_quad_add_nonneg x]

/-! A duality gap is a sum of pairings of PSD matrices: it is non-negative (weak duality) and vanishes only if every product
does (complementary slackness). -/

theorem sum_psd_trace_mul_nonneg {κ : Type*} [Fintype κ] {S X : κ → Matrix ι ι ℂ} (hS : ∀ i, (S i).PosSemidef)
    (hX : ∀ i, (X i).PosSemidef) : 0 ≤ ∑ i, (S i * X i).trace.re :=
  Finset.sum_nonneg fun i _ => psd_trace_mul_nonneg (hS i) (hX i)

theorem sum_psd_trace_mul_eq_zero_iff {κ : Type*} [Fintype κ] {S X : κ → Matrix ι ι ℂ} (hS : ∀ i, (S i).PosSemidef)
    (hX : ∀ i, (X i).PosSemidef) : ∑ i, (S i * X i).trace.re = 0 ↔ ∀ i, S i * X i = 0 := by
  rw [Finset.sum_eq_zero_iff_of_nonneg fun i _ => psd_trace_mul_nonneg (hS i) (hX i)]
  exact forall_congr' fun i => by rw [psd_trace_mul_eq_zero_iff (hS i) (hX i), imp_iff_right (Finset.mem_univ i)]

end Trace

/-! ## Conjugation `A ↦ S A T` with `T S = 1` (a unitary or an isometry `S` with `T = Sᴴ`, a similarity with `T = S⁻¹`) -/

section Conj
variable {m n R : Type*}

theorem Matrix.conjTranspose_map_star [InvolutiveStar R] (V : Matrix m n R) : (V.map star)ᴴ = Vᵀ := by
  ext i j; exact star_star _

/-- the entrywise conjugate of an isometry is an isometry -/
theorem Matrix.isometry_map_star [Fintype m] [DecidableEq n] [CommSemiring R] [StarRing R] {V : Matrix m n R} (hV : Vᴴ * V = 1) :
    (V.map star)ᴴ * V.map star = 1 := by
  have h : (Vᴴ * V)ᵀ = 1 := by rw [hV, Matrix.transpose_one]
  rwa [Matrix.transpose_mul, ← Matrix.conjTranspose_map_star] at h

variable [Fintype m] [Fintype n] [DecidableEq n]

theorem Matrix.conj_mul_conj_eq [Semiring R] {S : Matrix m n R} {T : Matrix n m R} (h : T * S = 1) (A B : Matrix n n R) :
    (S * A * T) * (S * B * T) = S * (A * B) * T := by
  rw [Matrix.mul_assoc S B, ← Matrix.mul_assoc (S * A * T), Matrix.mul_assoc (S * A), h, Matrix.mul_one,
    ← Matrix.mul_assoc, Matrix.mul_assoc S A B]

theorem Matrix.trace_conj_eq [CommSemiring R] {S : Matrix m n R} {T : Matrix n m R} (h : T * S = 1) (A : Matrix n n R) :
    (S * A * T).trace = A.trace := by
  rw [Matrix.trace_mul_cycle, h, Matrix.one_mul]

theorem Matrix.conj_conj_cancel [Semiring R] {S : Matrix m n R} {T : Matrix n m R} (h : T * S = 1) (A : Matrix n n R) :
    T * (S * A * T) * S = A := by
  rw [show T * (S * A * T) * S = (T * S) * A * (T * S) by simp only [Matrix.mul_assoc], h, Matrix.one_mul, Matrix.mul_one]

/-- `Wᴴ W = 1` cancels in the middle of a product -/
theorem Matrix.mul_conjTranspose_mul_cancel {l k : Type*} [Semiring R] [StarRing R] {W : Matrix m n R} (hW : Wᴴ * W = 1) (A : Matrix l n R)
    (B : Matrix n k R) : A * Wᴴ * (W * B) = A * B := by
  rw [Matrix.mul_assoc, ← Matrix.mul_assoc Wᴴ, hW, Matrix.one_mul]

/-- `A Aᴴ` for `A = U D Wᴴ` -/
theorem Matrix.sandwich_mul_conjTranspose_self {l k : Type*} [Fintype k] [Semiring R] [StarRing R] {W : Matrix m n R} (hW : Wᴴ * W = 1)
    (U : Matrix l k R) (D : Matrix k n R) : (U * D * Wᴴ) * (U * D * Wᴴ)ᴴ = U * (D * Dᴴ) * Uᴴ := by
  rw [Matrix.conjTranspose_mul, Matrix.conjTranspose_conjTranspose, Matrix.conjTranspose_mul, Matrix.mul_conjTranspose_mul_cancel hW,
    ← Matrix.mul_assoc, Matrix.mul_assoc U D]

/-- the exchange matrix is unitary: a witness that is not diagonal -/
theorem Matrix.exchange_conjTranspose_mul_self : (!![0, 1; 1, 0] : Matrix (Fin 2) (Fin 2) ℂ)ᴴ * !![0, 1; 1, 0] = 1 := by
  rw [← Matrix.ext_iff]
  simp [Fin.forall_fin_two, Matrix.mul_apply]

end Conj

/-! ## Positivity of `2 × 2` block matrices -/

namespace Matrix
section Blocks
variable {n ι : Type*}

theorem PosSemidef.fromBlocks_swap {A B Z W : Matrix n n ℂ} (h : (fromBlocks A Z W B).PosSemidef) :
    (fromBlocks B W Z A).PosSemidef := by
  have h2 := h.submatrix Sum.swap
  rwa [Matrix.fromBlocks_submatrix_sum_swap_sum_swap] at h2

theorem PosSemidef.fromBlocks_smul {A B C D : Matrix n n ℂ} (h : (fromBlocks A B C D).PosSemidef) {c : ℂ}
    (hc : 0 ≤ c) : (fromBlocks (c • A) (c • B) (c • C) (c • D)).PosSemidef := by
  have := h.smul hc
  rwa [Matrix.fromBlocks_smul] at this

variable [Fintype n] [Fintype ι]

theorem trace_fromBlocks {R : Type*} [AddCommMonoid R] (A : Matrix n n R) (B : Matrix n ι R) (C : Matrix ι n R) (D : Matrix ι ι R) :
    (fromBlocks A B C D).trace = A.trace + D.trace := by
  simp only [Matrix.trace, Matrix.diag_apply, Fintype.sum_sum_type, Matrix.fromBlocks_apply₁₁, Matrix.fromBlocks_apply₂₂]

/-- Gram form with a middle factor: the block matrix is `[A B]ᴴ M [A B]` -/
theorem PosSemidef.fromBlocks_gram {M : Matrix n n ℂ} (hM : M.PosSemidef) (A B : Matrix n ι ℂ) :
    (fromBlocks (Aᴴ * M * A) (Aᴴ * M * B) (Bᴴ * M * A) (Bᴴ * M * B)).PosSemidef := by
  have h := hM.conjTranspose_mul_mul_same (fromCols A B)
  rwa [conjTranspose_fromCols_eq_fromRows_conjTranspose, fromRows_mul, fromRows_mul_fromCols] at h

variable [DecidableEq n]

theorem posSemidef_fromBlocks_gram (A B : Matrix n ι ℂ) :
    (fromBlocks (Aᴴ * A) (Aᴴ * B) (Bᴴ * A) (Bᴴ * B)).PosSemidef := by
  simpa using PosSemidef.one.fromBlocks_gram A B

theorem PosSemidef.fromBlocks_diag {ρ σ : Matrix n n ℂ} (hρ : ρ.PosSemidef) (hσ : σ.PosSemidef) :
    (fromBlocks ρ 0 0 σ).PosSemidef := by
  obtain ⟨C, rfl⟩ := hρ.exists_eq_conjTranspose_mul_self
  obtain ⟨D, rfl⟩ := hσ.exists_eq_conjTranspose_mul_self
  have h := (posSemidef_fromBlocks_gram C 0).add (posSemidef_fromBlocks_gram 0 D)
  rw [fromBlocks_add] at h
  simpa using h

theorem PosSemidef.fromBlocks_same {A : Matrix n n ℂ} (hA : A.PosSemidef) : (fromBlocks A A A A).PosSemidef := by
  simpa using hA.fromBlocks_gram (1 : Matrix n n ℂ) 1

theorem PosSemidef.fromBlocks_same_neg {A : Matrix n n ℂ} (hA : A.PosSemidef) : (fromBlocks A (-A) (-A) A).PosSemidef := by
  simpa using hA.fromBlocks_gram (1 : Matrix n n ℂ) (-1)

theorem PosSemidef.fromBlocks_conj {A B Z : Matrix n n ℂ} (U V : Matrix n n ℂ)
    (h : (fromBlocks A Z Zᴴ B).PosSemidef) :
    (fromBlocks (U * A * Uᴴ) (U * Z * Vᴴ) ((U * Z * Vᴴ)ᴴ) (V * B * Vᴴ)).PosSemidef := by
  have h2 := h.mul_mul_conjTranspose_same (fromBlocks U 0 0 V)
  rw [Matrix.fromBlocks_conjTranspose, Matrix.fromBlocks_multiply, Matrix.fromBlocks_multiply] at h2
  simpa [Matrix.conjTranspose_mul, Matrix.mul_assoc] using h2

theorem PosSemidef.fromBlocks_phase {A B Z : Matrix n n ℂ} (u : ℂ) (hu : u * star u = 1)
    (h : (fromBlocks A Z Zᴴ B).PosSemidef) : (fromBlocks A (u • Z) (u • Z)ᴴ B).PosSemidef := by
  have h2 := PosSemidef.fromBlocks_conj (u • (1 : Matrix n n ℂ)) 1 h
  have e1 : u • (1 : Matrix n n ℂ) * A * (u • (1 : Matrix n n ℂ))ᴴ = A := by
    rw [Matrix.conjTranspose_smul, Matrix.conjTranspose_one, Matrix.smul_mul, Matrix.one_mul, Matrix.mul_smul,
      Matrix.mul_one, smul_smul, mul_comm, hu, one_smul]
  rwa [e1, Matrix.conjTranspose_one, Matrix.mul_one, Matrix.mul_one, Matrix.one_mul, Matrix.smul_mul,
    Matrix.one_mul] at h2

/-- the block matrix is `½ [[P+Q, P+Q],[P+Q, P+Q]] + ½ [[P−Q, −(P−Q)],[−(P−Q), P−Q]]` -/
theorem posSemidef_fromBlocks_of_add_sub {P Q : Matrix n n ℂ} (hp : (P + Q).PosSemidef) (hm : (P - Q).PosSemidef) :
    (fromBlocks P Q Q P).PosSemidef := by
  have half : (0 : ℂ) ≤ 1 / 2 := by rw [Complex.nonneg_iff]; simp
  have h := ((PosSemidef.fromBlocks_same hp).smul half).add ((PosSemidef.fromBlocks_same_neg hm).smul half)
  rw [Matrix.fromBlocks_smul, Matrix.fromBlocks_smul, Matrix.fromBlocks_add] at h
  have e1 : (1 / 2 : ℂ) • (P + Q) + (1 / 2 : ℂ) • (P - Q) = P := by
    rw [← smul_add, add_add_sub_cancel, ← two_smul ℂ P, smul_smul, one_div, inv_mul_cancel₀ two_ne_zero, one_smul]
  have e2 : (1 / 2 : ℂ) • (P + Q) + (1 / 2 : ℂ) • (-(P - Q)) = Q := by
    rw [← smul_add, ← sub_eq_add_neg, add_sub_sub_cancel, ← two_smul ℂ Q, smul_smul, one_div,
      inv_mul_cancel₀ two_ne_zero, one_smul]
  rwa [e1, e2] at h

/-- the core of weak duality for a program whose feasible points are PSD block matrices -/
theorem PosSemidef.re_trace_fromBlocks_mul_nonneg {A B X X' Y Z C C' : Matrix n n ℂ}
    (hP : (fromBlocks A X X' B).PosSemidef) (hD : (fromBlocks Y C C' Z).PosSemidef) :
    0 ≤ (A * Y).trace.re + (X * C').trace.re + (X' * C).trace.re + (B * Z).trace.re := by
  have h := psd_trace_mul_nonneg hP hD
  rwa [fromBlocks_multiply, trace_fromBlocks, Matrix.trace_add, Matrix.trace_add, Complex.add_re, Complex.add_re,
    Complex.add_re, ← add_assoc] at h

end Blocks
end Matrix
