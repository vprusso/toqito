import Toq.Proofs.MatrixOps
import Mathlib.LinearAlgebra.Matrix.Trace
import Mathlib.LinearAlgebra.Matrix.Determinant.Basic
import Mathlib.LinearAlgebra.Matrix.Block
import Mathlib.LinearAlgebra.Matrix.Circulant
import Mathlib.Data.Matrix.PEquiv
import Mathlib.LinearAlgebra.LinearIndependent.Basic
import Mathlib.Order.Fin.Basic
import Mathlib.Analysis.Complex.Basic
/-!
# Invariance of the matrix / state-set predicates of C16 under the property-preserving transformations

The harness (`harness/corr/c16.py`, `PREDS[..]["tr"]` and `set_transforms`) re-asks every verdict after a
transformation that is supposed to preserve the predicate.  That each predicate's *defining relation* is preserved by each such
transformation is stated predicate by predicate in `Toq/Properties/C16.lean` (Parts 3 and 8) and proved there, cell by cell, from
what this file says about the *transformations* (for Mathlib matrices of every size): what each transformation does to products,
adjoints, traces, row sums and moduli; the cells in the form `P (T A) ↔ P A` with their one-direction forms (`density_conj`,
`sdd_neg`, `comm_submatrix`, …); and the closure of the same classes under products, sums and multiples (stochastic and circulant
matrices, circulant matrices commute, unitaries under reindexing and phases).

Conventions (harness name in brackets): permutation similarity `P A Pᵀ` [`t_perm`] is `A.submatrix σ σ` (`σ : n ≃ n`), left
permutation [`t_left_perm`] is `A.submatrix σ id` (see `perm_similarity_eq_submatrix`, `perm_left_eq_submatrix`), "phase"
[`t_phase`] is `D A Dᴴ` with `D = diagonal d`, `star (d i) * d i = 1` (a unitary, `phase_unitary`), "conj" [`t_conj`] is
`A.map star`, unitary conjugation [`t_unitary`] is `U A Uᴴ` with `Uᴴ U = 1`, similarity [`t_similarity`] is `S A S⁻¹`,
scaling [`t_scale`] is `c • A`, [`t_add_identity`] is `A + c • 1`, a cyclic shift [`t_cyclic`] is
`A.submatrix (· + s) (· + s)`.

Entrywise conjugation, permutation similarity and unitary conjugation are injective maps of the matrix ring that respect
products and adjoints (`StarEmbedding`); every predicate given by an equation in `*`, `ᴴ`, `-` and `1` (Hermitian,
anti-Hermitian, normal, unitary, idempotent, commuting) is carried through such a map once and for all.  Transposition
reverses products and negation is not multiplicative; for these two the same rewriting is done where the cell is stated.
Predicates that only look at the moduli of the entries row by row (diagonal dominance) go through `rowDom_congr` /
`rowDom_submatrix`, row and column sums through `rowSums_submatrix_iff`, inner products through `inner_mulVec`.  A circulant
matrix is one with shift-invariant entries over a finite commutative index group, `A (i + k) (j + k) = A i j`; it is Mathlib's
`Matrix.circulant` of its first column (`eq_circulant`).
-/

namespace Toq.MatrixInv
set_option linter.unusedSectionVars false
open Matrix

variable {n : Type} [Fintype n] [DecidableEq n]

section sums
variable {α : Type} [AddCommMonoid α]

theorem rowSums_submatrix_iff (A : Matrix n n α) (σ τ : n ≃ n) (c : α) :
    (∀ i, ∑ j, (A.submatrix σ τ) i j = c) ↔ ∀ i, ∑ j, A i j = c := by
  simp only [submatrix_apply, Equiv.sum_comp τ (A _)]
  exact σ.forall_congr_right (q := fun i => ∑ j, A i j = c)

theorem colSums_submatrix_iff (A : Matrix n n α) (σ τ : n ≃ n) (c : α) :
    (∀ j, ∑ i, (A.submatrix σ τ) i j = c) ↔ ∀ j, ∑ i, A i j = c :=
  rowSums_submatrix_iff Aᵀ τ σ c

end sums

section star
variable {R : Type} [CommRing R] [StarRing R]

theorem map_star_eq (A : Matrix n n R) : A.map star = (Aᴴ)ᵀ := rfl

theorem map_star_conjTranspose (A : Matrix n n R) : (A.map star)ᴴ = Aᵀ :=
  Matrix.conjTranspose_map_star A

theorem map_star_mul (A B : Matrix n n R) : (A * B).map star = A.map star * B.map star := by
  rw [map_star_eq, conjTranspose_mul, transpose_mul]; rfl

theorem perm_similarity_eq_submatrix (σ : n ≃ n) (A : Matrix n n R) :
    σ.toPEquiv.toMatrix * A * (σ.toPEquiv.toMatrix : Matrix n n R)ᵀ = A.submatrix σ σ := by
  rw [← PEquiv.toMatrix_symm, ← Equiv.toPEquiv_symm, PEquiv.toMatrix_toPEquiv_mul, PEquiv.mul_toMatrix_toPEquiv,
    submatrix_submatrix]
  rfl

theorem perm_left_eq_submatrix (σ : n ≃ n) (A : Matrix n n R) :
    σ.toPEquiv.toMatrix * A = A.submatrix σ id :=
  PEquiv.toMatrix_toPEquiv_mul σ A

theorem perm_eq_one_submatrix (σ : n ≃ n) :
    (σ.toPEquiv.toMatrix : Matrix n n R) = (1 : Matrix n n R).submatrix σ id := by
  rw [← perm_left_eq_submatrix, Matrix.mul_one]

theorem perm_matrix_unitary (σ : n ≃ n) :
    ((σ.toPEquiv.toMatrix : Matrix n n R))ᴴ * σ.toPEquiv.toMatrix = 1 := by
  rw [perm_eq_one_submatrix, conjTranspose_submatrix, conjTranspose_one, submatrix_mul_equiv, Matrix.mul_one,
    submatrix_id_id]

theorem phase_unitary (d : n → R) (hd : ∀ i, star (d i) * d i = 1) :
    (diagonal d)ᴴ * diagonal d = 1 ∧ diagonal d * (diagonal d)ᴴ = 1 := by
  have h : (diagonal d)ᴴ * diagonal d = 1 := by
    rw [diagonal_conjTranspose, diagonal_mul_diagonal, ← diagonal_one]
    exact congrArg diagonal (funext hd)
  exact ⟨h, mul_eq_one_comm.mp h⟩

theorem phase_conj_apply (d : n → R) (A : Matrix n n R) (i j : n) :
    (diagonal d * A * (diagonal d)ᴴ) i j = d i * A i j * star (d j) := by
  rw [diagonal_conjTranspose, mul_diagonal, diagonal_mul]; rfl

theorem similarity_inj {S Sinv : Matrix n n R} (h : Sinv * S = 1) {A B : Matrix n n R} :
    S * A * Sinv = S * B * Sinv ↔ A = B :=
  (Function.LeftInverse.injective (g := fun M => Sinv * M * S) (Matrix.conj_conj_cancel h)).eq_iff

theorem one_similarity (S Sinv : Matrix n n R) (hS : S * Sinv = 1) : S * 1 * Sinv = 1 := by
  rw [Matrix.mul_one, hS]

theorem trace_similarity (A S Sinv : Matrix n n R) (hS : Sinv * S = 1) : (S * A * Sinv).trace = A.trace :=
  Matrix.trace_conj_eq hS A

/-- What entrywise conjugation, simultaneous reindexing and unitary conjugation have in common.  A predicate given by an
    equation in `*`, `ᴴ`, `-` and `1` holds of `T A` exactly when it holds of `A`: push `T` outwards with the first four
    fields, then cancel it with the last (the `_iff` lemmas of the namespace). -/
structure StarEmbedding (T : Matrix n n R → Matrix n n R) : Prop where
  mul : ∀ A B, T A * T B = T (A * B)
  conjTranspose : ∀ A, (T A)ᴴ = T Aᴴ
  neg : ∀ A, -T A = T (-A)
  one : T 1 = 1
  injective : Function.Injective T

theorem map_star_embedding : StarEmbedding fun A : Matrix n n R => A.map star where
  mul A B := (map_star_mul A B).symm
  conjTranspose _ := rfl
  neg A := (Matrix.map_neg star star_neg A).symm
  one := Matrix.map_one star (star_zero R) (star_one R)
  injective := map_injective star_injective

theorem submatrix_embedding (σ : n ≃ n) : StarEmbedding fun A : Matrix n n R => A.submatrix σ σ where
  mul A B := submatrix_mul_equiv A B σ σ σ
  conjTranspose A := conjTranspose_submatrix A σ σ
  neg _ := rfl
  one := submatrix_one_equiv σ
  injective := (reindex σ.symm σ.symm).injective

theorem conj_embedding (U : Matrix n n R) (hU : Uᴴ * U = 1) : StarEmbedding fun A => U * A * Uᴴ where
  mul := Matrix.conj_mul_conj_eq hU
  conjTranspose A := by
    rw [conjTranspose_mul, conjTranspose_mul, conjTranspose_conjTranspose, Matrix.mul_assoc]
  neg A := by rw [Matrix.mul_neg, Matrix.neg_mul]
  one := one_similarity U Uᴴ (mul_eq_one_comm.mp hU)
  injective _ _ := (similarity_inj hU).mp

namespace StarEmbedding
variable {T : Matrix n n R → Matrix n n R} (h : StarEmbedding T)
include h

theorem inj {A B : Matrix n n R} : T A = T B ↔ A = B := h.injective.eq_iff

theorem eq_one_iff {A : Matrix n n R} : T A = 1 ↔ A = 1 := h.injective.eq_iff' h.one

theorem herm_iff (A : Matrix n n R) : (T A).IsHermitian ↔ A.IsHermitian := by
  rw [IsHermitian, h.conjTranspose, h.inj]; rfl

theorem antiherm_iff (A : Matrix n n R) : (T A)ᴴ = -T A ↔ Aᴴ = -A := by
  rw [h.conjTranspose, h.neg, h.inj]

theorem normal_iff (A : Matrix n n R) : T A * (T A)ᴴ = (T A)ᴴ * T A ↔ A * Aᴴ = Aᴴ * A := by
  rw [h.conjTranspose, h.mul, h.mul, h.inj]

theorem unitary_iff (U : Matrix n n R) :
    ((T U)ᴴ * T U = 1 ∧ T U * (T U)ᴴ = 1) ↔ (Uᴴ * U = 1 ∧ U * Uᴴ = 1) := by
  rw [h.conjTranspose, h.mul, h.mul, h.eq_one_iff, h.eq_one_iff]

theorem idem_iff (A : Matrix n n R) : T A * T A = T A ↔ A * A = A := by
  rw [h.mul, h.inj]

theorem comm_iff (A B : Matrix n n R) : T A * T B = T B * T A ↔ A * B = B * A := by
  rw [h.mul, h.mul, h.inj]

end StarEmbedding

theorem herm_add (A B : Matrix n n R) (hA : A.IsHermitian) (hB : B.IsHermitian) : (A + B).IsHermitian := hA.add hB

theorem commutator_add_smul_one (A : Matrix n n R) (c : R) :
    (A + c • (1 : Matrix n n R)) * (A + c • (1 : Matrix n n R))ᴴ
        - (A + c • (1 : Matrix n n R))ᴴ * (A + c • (1 : Matrix n n R)) = A * Aᴴ - Aᴴ * A := by
  simp only [conjTranspose_add, conjTranspose_smul, conjTranspose_one, add_mul, mul_add, smul_mul_assoc,
    mul_smul_comm, Matrix.one_mul, Matrix.mul_one, smul_add, smul_smul, mul_comm (star c) c]
  abel

theorem unitary_submatrix_two (U : Matrix n n R) (σ τ : n ≃ n) (hU : Uᴴ * U = 1 ∧ U * Uᴴ = 1) :
    (U.submatrix σ τ)ᴴ * U.submatrix σ τ = 1 ∧ U.submatrix σ τ * (U.submatrix σ τ)ᴴ = 1 := by
  rw [conjTranspose_submatrix, submatrix_mul_equiv, submatrix_mul_equiv, hU.1, hU.2, submatrix_one_equiv,
    submatrix_one_equiv]
  exact ⟨rfl, rfl⟩

theorem unitary_smul (U : Matrix n n R) (c : R) (hc : star c * c = 1) (hU : Uᴴ * U = 1 ∧ U * Uᴴ = 1) :
    (c • U)ᴴ * (c • U) = 1 ∧ (c • U) * (c • U)ᴴ = 1 := by
  rw [conjTranspose_smul, smul_mul_smul_comm, smul_mul_smul_comm, hU.1, hU.2, hc, mul_comm, hc, one_smul]
  exact ⟨rfl, rfl⟩

theorem pseudoU_mul_left (J A W : Matrix n n R) (hW : Wᴴ * J * W = J) (hA : Aᴴ * J * A = J) :
    (W * A)ᴴ * J * (W * A) = J := by
  rw [conjTranspose_mul]
  calc Aᴴ * Wᴴ * J * (W * A) = Aᴴ * (Wᴴ * J * W) * A := by simp only [Matrix.mul_assoc]
    _ = J := by rw [hW, hA]

theorem pseudoU_smul (J A : Matrix n n R) (c : R) (hc : star c * c = 1) (hA : Aᴴ * J * A = J) :
    (c • A)ᴴ * J * (c • A) = J := by
  rw [conjTranspose_smul, smul_mul_assoc, smul_mul_assoc, mul_smul_comm, smul_smul, hc, one_smul, hA]

theorem idem_conjTranspose (A : Matrix n n R) (hA : A * A = A) : Aᴴ * Aᴴ = Aᴴ := by
  rw [← conjTranspose_mul, hA]

theorem projection_conj (A U : Matrix n n R) (hU : Uᴴ * U = 1) (hA : A.IsHermitian ∧ A * A = A) :
    (U * A * Uᴴ).IsHermitian ∧ (U * A * Uᴴ) * (U * A * Uᴴ) = U * A * Uᴴ :=
  ⟨((conj_embedding U hU).herm_iff A).mpr hA.1, ((conj_embedding U hU).idem_iff A).mpr hA.2⟩

theorem projection_transpose_conj_submatrix (A : Matrix n n R) (σ : n ≃ n) (hA : A.IsHermitian ∧ A * A = A) :
    (Aᵀ.IsHermitian ∧ Aᵀ * Aᵀ = Aᵀ) ∧ ((A.map star).IsHermitian ∧ A.map star * A.map star = A.map star) ∧
      ((A.submatrix σ σ).IsHermitian ∧ A.submatrix σ σ * A.submatrix σ σ = A.submatrix σ σ) :=
  ⟨⟨isHermitian_transpose_iff.mpr hA.1, by rw [← transpose_mul, hA.2]⟩,
    ⟨(map_star_embedding.herm_iff A).mpr hA.1, (map_star_embedding.idem_iff A).mpr hA.2⟩,
    ⟨((submatrix_embedding σ).herm_iff A).mpr hA.1, ((submatrix_embedding σ).idem_iff A).mpr hA.2⟩⟩

theorem diag_phase_eq (A : Matrix n n R) (d : n → R) (hd : ∀ i, star (d i) * d i = 1)
    (hA : ∀ i j, i ≠ j → A i j = 0) : diagonal d * A * (diagonal d)ᴴ = A := by
  ext i j
  rw [phase_conj_apply]
  by_cases h : i = j
  · subst h; rw [mul_right_comm, mul_comm (d i), hd, one_mul]
  · rw [hA i j h, mul_zero, zero_mul]

theorem comm_map_star (A B : Matrix n n R) (h : A * B = B * A) : A.map star * B.map star = B.map star * A.map star :=
  (map_star_embedding.comm_iff A B).mpr h

theorem comm_submatrix (A B : Matrix n n R) (σ : n ≃ n) (h : A * B = B * A) :
    A.submatrix σ σ * B.submatrix σ σ = B.submatrix σ σ * A.submatrix σ σ :=
  ((submatrix_embedding σ).comm_iff A B).mpr h

theorem permMat_submatrix_iff (A : Matrix n n R) (σ τ : n ≃ n) :
    ((∀ i j, (A.submatrix σ τ) i j = 0 ∨ (A.submatrix σ τ) i j = 1) ∧ (∀ i, ∑ j, (A.submatrix σ τ) i j = 1) ∧
      (∀ j, ∑ i, (A.submatrix σ τ) i j = 1)) ↔
    ((∀ i j, A i j = 0 ∨ A i j = 1) ∧ (∀ i, ∑ j, A i j = 1) ∧ (∀ j, ∑ i, A i j = 1)) :=
  and_congr (Equiv.forall₂_congr σ τ Iff.rfl)
    (and_congr (rowSums_submatrix_iff A σ τ 1) (colSums_submatrix_iff A σ τ 1))

section circulant
variable {G : Type} [Fintype G] [DecidableEq G] [AddCommGroup G]

theorem circ_smul (A : Matrix G G R) (c : R) (hA : ∀ i j k : G, A (i + k) (j + k) = A i j) :
    ∀ i j k : G, (c • A) (i + k) (j + k) = (c • A) i j := fun i j k => congrArg (c • ·) (hA i j k)

theorem circ_add (A B : Matrix G G R) (hA : ∀ i j k : G, A (i + k) (j + k) = A i j)
    (hB : ∀ i j k : G, B (i + k) (j + k) = B i j) :
    ∀ i j k : G, (A + B) (i + k) (j + k) = (A + B) i j := fun i j k => congrArg₂ (· + ·) (hA i j k) (hB i j k)

theorem circ_one : ∀ i j k : G, (1 : Matrix G G R) (i + k) (j + k) = (1 : Matrix G G R) i j := fun i j k => by
  simp only [one_apply, add_left_inj]

theorem circ_shift_eq (A : Matrix G G R) (s : G) (hA : ∀ i j k : G, A (i + k) (j + k) = A i j) :
    A.submatrix (· + s) (· + s) = A := by
  ext i j; exact hA i j s

theorem circ_shift (A : Matrix G G R) (s : G) (hA : ∀ i j k : G, A (i + k) (j + k) = A i j) :
    ∀ i j k : G, (A.submatrix (· + s) (· + s)) (i + k) (j + k) = (A.submatrix (· + s) (· + s)) i j := by
  rw [circ_shift_eq A s hA]; exact hA

theorem eq_circulant (A : Matrix G G R) (hA : ∀ i j k : G, A (i + k) (j + k) = A i j) : A = circulant fun i => A i 0 :=
  Matrix.ext fun i j => by rw [circulant_apply, ← hA (i - j) 0 j, sub_add_cancel, zero_add]

theorem circulant_shift (v : G → R) (i j k : G) : circulant v (i + k) (j + k) = circulant v i j :=
  congrArg v (add_sub_add_right_eq_sub i j k)

theorem circ_mul (A B : Matrix G G R) (hA : ∀ i j k : G, A (i + k) (j + k) = A i j)
    (hB : ∀ i j k : G, B (i + k) (j + k) = B i j) :
    ∀ i j k : G, (A * B) (i + k) (j + k) = (A * B) i j := by
  rw [eq_circulant A hA, eq_circulant B hB, circulant_mul]
  exact circulant_shift _

theorem circ_comm (A B : Matrix G G R) (hA : ∀ i j k : G, A (i + k) (j + k) = A i j)
    (hB : ∀ i j k : G, B (i + k) (j + k) = B i j) : A * B = B * A := by
  rw [eq_circulant A hA, eq_circulant B hB]
  exact circulant_mul_comm _ _

end circulant

theorem trace_map_star (A : Matrix n n R) : (A.map star).trace = star A.trace := by
  rw [map_star_eq, trace_transpose, trace_conjTranspose]

theorem trace_submatrix (A : Matrix n n R) (σ : n ≃ n) : (A.submatrix σ σ).trace = A.trace :=
  Equiv.sum_comp σ fun i => A i i

/-- an isometry drops out of a Gram product (so does the QR factor in the eigen-branch of `vectors_from_gram_matrix`) -/
theorem isometry_mul_gram {n m l : Type} [Fintype n] [Fintype m] [Fintype l] [DecidableEq l] {R : Type} [CommRing R] [StarRing R]
    (Q : Matrix m l R) (T : Matrix l n R) (hQ : Qᴴ * Q = 1) : (Q * T)ᴴ * (Q * T) = Tᴴ * T := by
  rw [conjTranspose_mul, Matrix.mul_conjTranspose_mul_cancel hQ]

theorem trace_sq_conj (A U : Matrix n n R) (hU : Uᴴ * U = 1) :
    ((U * A * Uᴴ) * (U * A * Uᴴ)).trace = (A * A).trace := by
  rw [Matrix.conj_mul_conj_eq hU, Matrix.trace_conj_eq hU]

end star

section order
variable {S : Type} [CommRing S] [PartialOrder S] [StarRing S] [StarOrderedRing S]

theorem psd_map_star_iff (A : Matrix n n S) : (A.map star).PosSemidef ↔ A.PosSemidef := by
  rw [map_star_eq, posSemidef_transpose_iff, posSemidef_conjTranspose_iff]

theorem psd_conj_iff (A U : Matrix n n S) (hU : Uᴴ * U = 1) : (U * A * Uᴴ).PosSemidef ↔ A.PosSemidef :=
  (IsUnit.of_mul_eq_one_right Uᴴ hU).posSemidef_star_right_conjugate_iff

theorem pd_smul [PosSMulStrictMono S S] (A : Matrix n n S) (c : S) (hc : 0 < c) (hA : A.PosDef) :
    (c • A).PosDef := hA.smul hc

theorem density_conj_iff (A U : Matrix n n S) (hU : Uᴴ * U = 1) :
    ((U * A * Uᴴ).PosSemidef ∧ (U * A * Uᴴ).trace = 1) ↔ (A.PosSemidef ∧ A.trace = 1) := by
  rw [psd_conj_iff A U hU, Matrix.trace_conj_eq hU]

theorem density_submatrix_iff (A : Matrix n n S) (σ : n ≃ n) :
    ((A.submatrix σ σ).PosSemidef ∧ (A.submatrix σ σ).trace = 1) ↔ (A.PosSemidef ∧ A.trace = 1) := by
  rw [posSemidef_submatrix_equiv, trace_submatrix]

theorem density_transpose_iff (A : Matrix n n S) : (Aᵀ.PosSemidef ∧ Aᵀ.trace = 1) ↔ (A.PosSemidef ∧ A.trace = 1) := by
  rw [posSemidef_transpose_iff, trace_transpose]

theorem density_conj (A U : Matrix n n S) (hU : Uᴴ * U = 1) (hA : A.PosSemidef ∧ A.trace = 1) :
    (U * A * Uᴴ).PosSemidef ∧ (U * A * Uᴴ).trace = 1 :=
  (density_conj_iff A U hU).mpr hA

theorem density_transpose (A : Matrix n n S) (hA : A.PosSemidef ∧ A.trace = 1) :
    Aᵀ.PosSemidef ∧ Aᵀ.trace = 1 :=
  (density_transpose_iff A).mpr hA

theorem density_submatrix (A : Matrix n n S) (σ : n ≃ n) (hA : A.PosSemidef ∧ A.trace = 1) :
    (A.submatrix σ σ).PosSemidef ∧ (A.submatrix σ σ).trace = 1 :=
  (density_submatrix_iff A σ).mpr hA

theorem pure_conj_iff (A U : Matrix n n S) (hU : Uᴴ * U = 1) :
    ((U * A * Uᴴ).PosSemidef ∧ (U * A * Uᴴ).trace = 1 ∧ ((U * A * Uᴴ) * (U * A * Uᴴ)).trace = 1) ↔
      (A.PosSemidef ∧ A.trace = 1 ∧ (A * A).trace = 1) := by
  rw [psd_conj_iff A U hU, Matrix.trace_conj_eq hU, trace_sq_conj A U hU]

theorem pure_conj (A U : Matrix n n S) (hU : Uᴴ * U = 1) (hA : A.PosSemidef ∧ A.trace = 1 ∧ (A * A).trace = 1) :
    (U * A * Uᴴ).PosSemidef ∧ (U * A * Uᴴ).trace = 1 ∧ ((U * A * Uᴴ) * (U * A * Uᴴ)).trace = 1 :=
  (pure_conj_iff A U hU).mpr hA

theorem mixed_conj (A U : Matrix n n S) (hU : Uᴴ * U = 1) (hA : (A * A).trace ≠ 1) :
    ((U * A * Uᴴ) * (U * A * Uᴴ)).trace ≠ 1 := by rwa [trace_sq_conj A U hU]

end order

/-! Diagonal dominance, strict and non-strict, compares row by row the sum of the off-diagonal moduli with the diagonal modulus;
the comparison `r` is `<` for the strict and `≤` for the non-strict one. -/

section diagDom
variable {𝕜 : Type} [RCLike 𝕜]

theorem rowDom_congr (r : ℝ → ℝ → Prop) {A B : Matrix n n 𝕜} (h : ∀ i j, ‖B i j‖ = ‖A i j‖) :
    (∀ i, r (∑ j ∈ Finset.univ.erase i, ‖B i j‖) ‖B i i‖) ↔ ∀ i, r (∑ j ∈ Finset.univ.erase i, ‖A i j‖) ‖A i i‖ := by
  simp only [h]

theorem offdiag_sum_submatrix (A : Matrix n n 𝕜) (σ : n ≃ n) (i : n) :
    ∑ j ∈ Finset.univ.erase i, ‖(A.submatrix σ σ) i j‖ = ∑ j ∈ Finset.univ.erase (σ i), ‖A (σ i) j‖ :=
  Finset.sum_equiv σ (fun j => by simp only [Finset.mem_erase, Finset.mem_univ, and_true, σ.injective.ne_iff])
    fun j _ => rfl

theorem rowDom_submatrix (r : ℝ → ℝ → Prop) (A : Matrix n n 𝕜) (σ : n ≃ n) :
    (∀ i, r (∑ j ∈ Finset.univ.erase i, ‖(A.submatrix σ σ) i j‖) ‖(A.submatrix σ σ) i i‖) ↔
      ∀ i, r (∑ j ∈ Finset.univ.erase i, ‖A i j‖) ‖A i i‖ := by
  simp only [offdiag_sum_submatrix]
  exact σ.forall_congr_right (q := fun i => r (∑ j ∈ Finset.univ.erase i, ‖A i j‖) ‖A i i‖)

theorem norm_phase_conj_apply (A : Matrix n n 𝕜) (d : n → 𝕜) (hd : ∀ i, ‖d i‖ = 1) (i j : n) :
    ‖(diagonal d * A * (diagonal d)ᴴ) i j‖ = ‖A i j‖ := by
  rw [phase_conj_apply]; simp only [norm_mul, norm_star, hd, one_mul, mul_one]

theorem sdd_map_star (A : Matrix n n 𝕜) (hA : ∀ i, ∑ j ∈ Finset.univ.erase i, ‖A i j‖ < ‖A i i‖) :
    ∀ i, ∑ j ∈ Finset.univ.erase i, ‖(A.map star) i j‖ < ‖(A.map star) i i‖ :=
  (rowDom_congr (· < ·) (B := A.map star) fun i j => norm_star (A i j)).mpr hA

theorem dd_map_star (A : Matrix n n 𝕜) (hA : ∀ i, ∑ j ∈ Finset.univ.erase i, ‖A i j‖ ≤ ‖A i i‖) :
    ∀ i, ∑ j ∈ Finset.univ.erase i, ‖(A.map star) i j‖ ≤ ‖(A.map star) i i‖ :=
  (rowDom_congr (· ≤ ·) (B := A.map star) fun i j => norm_star (A i j)).mpr hA

theorem sdd_neg (A : Matrix n n 𝕜) (hA : ∀ i, ∑ j ∈ Finset.univ.erase i, ‖A i j‖ < ‖A i i‖) :
    ∀ i, ∑ j ∈ Finset.univ.erase i, ‖(-A) i j‖ < ‖(-A) i i‖ :=
  (rowDom_congr (· < ·) (B := -A) fun i j => norm_neg (A i j)).mpr hA

theorem dd_neg (A : Matrix n n 𝕜) (hA : ∀ i, ∑ j ∈ Finset.univ.erase i, ‖A i j‖ ≤ ‖A i i‖) :
    ∀ i, ∑ j ∈ Finset.univ.erase i, ‖(-A) i j‖ ≤ ‖(-A) i i‖ :=
  (rowDom_congr (· ≤ ·) (B := -A) fun i j => norm_neg (A i j)).mpr hA

theorem sdd_phase (A : Matrix n n 𝕜) (d : n → 𝕜) (hd : ∀ i, ‖d i‖ = 1)
    (hA : ∀ i, ∑ j ∈ Finset.univ.erase i, ‖A i j‖ < ‖A i i‖) :
    ∀ i, ∑ j ∈ Finset.univ.erase i, ‖(diagonal d * A * (diagonal d)ᴴ) i j‖ < ‖(diagonal d * A * (diagonal d)ᴴ) i i‖ :=
  (rowDom_congr (· < ·) (norm_phase_conj_apply A d hd)).mpr hA

theorem dd_phase (A : Matrix n n 𝕜) (d : n → 𝕜) (hd : ∀ i, ‖d i‖ = 1)
    (hA : ∀ i, ∑ j ∈ Finset.univ.erase i, ‖A i j‖ ≤ ‖A i i‖) :
    ∀ i, ∑ j ∈ Finset.univ.erase i, ‖(diagonal d * A * (diagonal d)ᴴ) i j‖ ≤ ‖(diagonal d * A * (diagonal d)ᴴ) i i‖ :=
  (rowDom_congr (· ≤ ·) (norm_phase_conj_apply A d hd)).mpr hA

/-- a unit-modulus number has `star d * d = 1` (links the two ways of saying "phase") -/
theorem star_mul_self_of_norm_one (d : 𝕜) (hd : ‖d‖ = 1) : star d * d = 1 := by
  rw [RCLike.star_def, RCLike.conj_mul, hd, RCLike.ofReal_one, one_pow]

end diagDom

section ordered
variable {K : Type} [CommRing K] [LinearOrder K] [IsStrictOrderedRing K]

theorem colStoch_transpose (A : Matrix n n K) (hA : (∀ i j, 0 ≤ A i j) ∧ ∀ j, ∑ i, A i j = 1) :
    (∀ i j, 0 ≤ Aᵀ i j) ∧ ∀ i, ∑ j, Aᵀ i j = 1 := ⟨fun i j => hA.1 j i, fun i => hA.2 i⟩

theorem rowStoch_mul (A B : Matrix n n K) (hA : (∀ i j, 0 ≤ A i j) ∧ ∀ i, ∑ j, A i j = 1)
    (hB : (∀ i j, 0 ≤ B i j) ∧ ∀ i, ∑ j, B i j = 1) :
    (∀ i j, 0 ≤ (A * B) i j) ∧ ∀ i, ∑ j, (A * B) i j = 1 := by
  refine ⟨fun i j => Finset.sum_nonneg fun k _ => mul_nonneg (hA.1 i k) (hB.1 k j), fun i => ?_⟩
  simp only [Matrix.mul_apply]
  rw [Finset.sum_comm]
  simp only [← Finset.mul_sum, hB.2, mul_one, hA.2]

theorem colStoch_mul (A B : Matrix n n K) (hA : (∀ i j, 0 ≤ A i j) ∧ ∀ j, ∑ i, A i j = 1)
    (hB : (∀ i j, 0 ≤ B i j) ∧ ∀ j, ∑ i, B i j = 1) :
    (∀ i j, 0 ≤ (A * B) i j) ∧ ∀ j, ∑ i, (A * B) i j = 1 := by
  have h := rowStoch_mul Bᵀ Aᵀ (colStoch_transpose B hB) (colStoch_transpose A hA)
  rw [← transpose_mul] at h
  exact ⟨fun i j => h.1 j i, h.2⟩

theorem totPos_transpose {p q : ℕ} (A : Matrix (Fin p) (Fin q) K)
    (hA : ∀ (k : ℕ) (r : Fin k ↪o Fin p) (c : Fin k ↪o Fin q), 0 < (A.submatrix r c).det) :
    ∀ (k : ℕ) (r : Fin k ↪o Fin q) (c : Fin k ↪o Fin p), 0 < (Aᵀ.submatrix r c).det := by
  intro k r c
  rw [← transpose_submatrix, det_transpose]; exact hA k c r

/-- an increasing selection conjugated by the two order reversals is an increasing selection -/
def revEmb {k p : ℕ} (r : Fin k ↪o Fin p) : Fin k ↪o Fin p :=
  OrderEmbedding.ofStrictMono (fun i => Fin.rev (r (Fin.rev i))) (by
    intro i j hij
    exact Fin.rev_lt_rev.mpr (r.strictMono (Fin.rev_lt_rev.mpr hij)))

theorem revEmb_apply {k p : ℕ} (r : Fin k ↪o Fin p) (i : Fin k) : revEmb r i = Fin.rev (r (Fin.rev i)) := rfl

/-- a minor of the matrix with both orders reversed is, up to reversing the selections' own order, the minor of the
    original matrix at the reversed selections -/
theorem totPos_reverse_both {p q : ℕ} (A : Matrix (Fin p) (Fin q) K)
    (hA : ∀ (k : ℕ) (r : Fin k ↪o Fin p) (c : Fin k ↪o Fin q), 0 < (A.submatrix r c).det) :
    ∀ (k : ℕ) (r : Fin k ↪o Fin p) (c : Fin k ↪o Fin q),
      0 < ((A.submatrix Fin.rev Fin.rev).submatrix r c).det := by
  intro k r c
  have e : (A.submatrix Fin.rev Fin.rev).submatrix r c
      = (A.submatrix (revEmb r) (revEmb c)).submatrix (Fin.revPerm : Fin k ≃ Fin k) Fin.revPerm := by
    ext i j
    simp only [submatrix_apply, revEmb_apply, Fin.revPerm_apply, Fin.rev_rev]
  rw [e, det_submatrix_equiv_self]
  exact hA k _ _

end ordered

section sets
variable {ι : Type} {R : Type} [CommRing R] [StarRing R]

theorem inner_mulVec (U : Matrix n n R) (hU : Uᴴ * U = 1) (x y : n → R) :
    star (U.mulVec x) ⬝ᵥ U.mulVec y = star x ⬝ᵥ y := by
  rw [star_mulVec, dotProduct_mulVec, vecMul_vecMul, hU, vecMul_one]

theorem inner_smul_smul (a b : R) (x y : n → R) : star (a • x) ⬝ᵥ (b • y) = star a * b * (star x ⬝ᵥ y) := by
  rw [star_smul, smul_dotProduct, dotProduct_smul, smul_eq_mul, smul_eq_mul, mul_assoc]

theorem linIndep_common_unitary_iff (U : Matrix n n R) (hU : Uᴴ * U = 1) (v : ι → (n → R)) :
    LinearIndependent R (fun k => U.mulVec (v k)) ↔ LinearIndependent R v := by
  have inj : Function.Injective U.mulVec :=
    Function.LeftInverse.injective (g := Uᴴ.mulVec) fun x => by rw [mulVec_mulVec, hU, one_mulVec]
  exact LinearMap.linearIndependent_iff_of_injOn U.mulVecLin inj.injOn

theorem linIndep_common_unitary (U : Matrix n n R) (hU : Uᴴ * U = 1) (v : ι → (n → R))
    (hv : LinearIndependent R v) : LinearIndependent R (fun k => U.mulVec (v k)) :=
  (linIndep_common_unitary_iff U hU v).mpr hv

theorem linIndep_units_smul_iff (c : ι → Rˣ) (v : ι → (n → R)) :
    LinearIndependent R (fun k => (c k : R) • v k) ↔ LinearIndependent R v :=
  LinearIndependent.units_smul_iff v c

theorem orthonormal_phases [DecidableEq ι] (c : ι → R) (hc : ∀ k, star (c k) * c k = 1) (v : ι → (n → R))
    (hv : ∀ i j, star (v i) ⬝ᵥ v j = if i = j then 1 else 0) :
    ∀ i j, star (c i • v i) ⬝ᵥ (c j • v j) = if i = j then 1 else 0 := by
  intro i j
  rw [inner_smul_smul, hv]
  split_ifs with h
  · rw [h, hc, mul_one]
  · rw [mul_zero]

theorem mub_overlap_common_unitary {κ : Type} (U : Matrix n n R) (hU : Uᴴ * U = 1) (v : ι → (n → R))
    (w : κ → (n → R)) (i : ι) (j : κ) :
    star (U.mulVec (v i)) ⬝ᵥ U.mulVec (w j) = star (v i) ⬝ᵥ w j := inner_mulVec U hU _ _

theorem mub_overlap_sq_common_unitary {κ : Type} (U : Matrix n n R) (hU : Uᴴ * U = 1) (v : ι → (n → R))
    (w : κ → (n → R)) (i : ι) (j : κ) :
    star (star (U.mulVec (v i)) ⬝ᵥ U.mulVec (w j)) * (star (U.mulVec (v i)) ⬝ᵥ U.mulVec (w j))
      = star (star (v i) ⬝ᵥ w j) * (star (v i) ⬝ᵥ w j) := by rw [inner_mulVec U hU]

end sets

end Toq.MatrixInv
