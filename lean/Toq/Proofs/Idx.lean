import Toq.Core.Idx
/-!
# Index arithmetic of `Toq.Core.Idx` (core Lean only)

`enc d · n` and `dec d n` are mutually inverse between in-range digit vectors and the numbers below `prodN d n`
(`enc_lt`, `dec_lt`, `dec_enc`, `enc_dec`); one step of either is the arithmetic of `q * b + r` with `r < b`
(`Nat.mul_add_lt_mul`, `Nat.mul_add_divMod_of_lt`, `Nat.div_mod_of_lt_mul`).  NumPy's F-order is the same code with the positions reversed by `rev`
(`flatF_eq_enc_rev`, `unflatF_eq_dec_rev`); `invPerm n p m` is the least position `< n` where `p` takes the value `m`
(`invPerm_go_spec`, by recursion on the fuel); `allBelow` / `anyBelow` are the bounded quantifiers.  The other recursions are on the length, and a
hypothesis about the positions `< n + 1` is split by `Nat.forall_lt_succ_right`.  Facts of plain arithmetic that core could have are in the
namespace `Nat`; what speaks of indices, digits and the definitions of `Core/Idx` is at the root, as those definitions are.
-/

theorem prodFn_congr [Mul α] [One α] (f g : Nat → α) : ∀ n, (∀ k, k < n → f k = g k) →
    prodFn n f = prodFn n g
  | 0, _ => rfl
  | n + 1, h => by
    obtain ⟨h', hn⟩ := Nat.forall_lt_succ_right.mp h
    rw [prodFn, prodFn, prodFn_congr f g n h', hn]

theorem sumN_congr [Add α] [Zero α] (f g : Nat → α) : ∀ n, (∀ k, k < n → f k = g k) → sumN n f = sumN n g
  | 0, _ => rfl
  | n + 1, h => by
    obtain ⟨h', hn⟩ := Nat.forall_lt_succ_right.mp h
    rw [sumN, sumN, sumN_congr f g n h', hn]

theorem prodN_succ (d : Nat → Nat) (n : Nat) : prodN d (n + 1) = prodN d n * d n := rfl

theorem enc_succ (d x : Nat → Nat) (n : Nat) : enc d x (n + 1) = enc d x n * d n + x n := rfl

theorem prodN_eq_prodFn (d : Nat → Nat) : ∀ n, prodN d n = prodFn n d
  | 0 => rfl
  | n + 1 => by rw [prodN, prodFn, prodN_eq_prodFn d n]

theorem prodN_congr (d e : Nat → Nat) : ∀ n, (∀ k, k < n → d k = e k) → prodN d n = prodN e n := fun n h => by
  rw [prodN_eq_prodFn, prodN_eq_prodFn, prodFn_congr d e n h]

theorem prodN_pos (d : Nat → Nat) : ∀ n, (∀ k, k < n → 0 < d k) → 0 < prodN d n
  | 0, _ => Nat.one_pos
  | n + 1, h => by
    obtain ⟨h', hn⟩ := Nat.forall_lt_succ_right.mp h
    exact Nat.mul_pos (prodN_pos d n h') hn

/-- a product with something below it has only positive factors -/
theorem prodN_pos_of_lt (d : Nat → Nat) : ∀ n i, i < prodN d n → ∀ k, k < n → 0 < d k
  | 0, _, _, k, hk => absurd hk (Nat.not_lt_zero k)
  | n + 1, i, h, k, hk => by
    rcases Nat.lt_succ_iff_lt_or_eq.mp hk with hk | rfl
    · exact prodN_pos_of_lt d n (i / d n) ((Nat.div_lt_iff_lt_mul (Nat.pos_of_lt_mul_left h)).mpr h) k hk
    · exact Nat.pos_of_lt_mul_left h

/-- the code of a digit `r < b` appended to a code `q < e` stays below `e * b` -/
theorem Nat.mul_add_lt_mul {q e r b : Nat} (hq : q < e) (hr : r < b) : q * b + r < e * b :=
  calc q * b + r < q * b + b := Nat.add_lt_add_left hr _
    _ = (q + 1) * b := (Nat.succ_mul _ _).symm
    _ ≤ e * b := Nat.mul_le_mul_right _ hq

theorem enc_lt (d x : Nat → Nat) : ∀ n, (∀ k, k < n → x k < d k) → enc d x n < prodN d n
  | 0, _ => Nat.one_pos
  | n + 1, h => by
    obtain ⟨h', hx⟩ := Nat.forall_lt_succ_right.mp h
    exact Nat.mul_add_lt_mul (enc_lt d x n h') hx

/-- the last digit and the remaining code of `q * b + r` with `r < b` -/
theorem Nat.mul_add_divMod_of_lt {q b r : Nat} (h : r < b) : (q * b + r) / b = q ∧ (q * b + r) % b = r :=
  ⟨by rw [Nat.add_comm, Nat.add_mul_div_right _ _ (Nat.zero_lt_of_lt h), Nat.div_eq_of_lt h, Nat.zero_add],
    Nat.mul_add_mod_of_lt h⟩

theorem Nat.mul_add_div_of_lt {q b r : Nat} (h : r < b) : (q * b + r) / b = q := (Nat.mul_add_divMod_of_lt h).1

/-- the two digits of a number below `a * b` -/
theorem Nat.div_mod_of_lt_mul {x a b : Nat} (hx : x < a * b) : x / b < a ∧ x % b < b ∧ x / b * b + x % b = x :=
  have hb : 0 < b := Nat.pos_of_lt_mul_left hx
  ⟨(Nat.div_lt_iff_lt_mul hb).mpr hx, Nat.mod_lt x hb, Nat.div_add_mod' x b⟩

/-- the two digits of `k` with respect to the radix `d` are `a`, `b` exactly when `k = a * d + b` -/
theorem div_mod_unique (d k a b : Nat) (hb : b < d) : (k / d = a ∧ k % d = b) ↔ k = a * d + b :=
  ⟨fun ⟨h1, h2⟩ => by rw [← h1, ← h2, Nat.div_add_mod' k d], fun h => h ▸ Nat.mul_add_divMod_of_lt hb⟩

/-- a statement about all indices below `a * b` is a statement about all pairs of digits -/
theorem forall_lt_mul_iff {P : Nat → Prop} (a b : Nat) :
    (∀ x, x < a * b → P x) ↔ ∀ i r, i < a → r < b → P (i * b + r) :=
  ⟨fun h _ _ hi hr => h _ (Nat.mul_add_lt_mul hi hr), fun h x hx => by
    obtain ⟨h1, h2, h3⟩ := Nat.div_mod_of_lt_mul hx
    exact h3 ▸ h _ _ h1 h2⟩

/-- the same for a row and a column index: two matrices agree below `(a * b, c * d)` when they agree at all digit indices -/
theorem forall_lt_mul_iff₂ {P : Nat → Nat → Prop} (a b c d : Nat) :
    (∀ x y, x < a * b → y < c * d → P x y)
      ↔ ∀ i r j s, i < a → r < b → j < c → s < d → P (i * b + r) (j * d + s) :=
  ⟨fun h _ _ _ _ hi hr hj hs => h _ _ (Nat.mul_add_lt_mul hi hr) (Nat.mul_add_lt_mul hj hs),
   fun h x y hx hy => (forall_lt_mul_iff (P := fun x => P x y) a b).mpr
    (fun i r hi hr => (forall_lt_mul_iff (P := P (i * b + r)) c d).mpr (fun j s hj hs => h i r j s hi hr hj hs) y hy) x hx⟩

/-- a statement about the numbers below `2` is checked at `0` and `1` (used for the positions of a list written out with two elements) -/
theorem forall_lt_two {P : Nat → Prop} (h0 : P 0) (h1 : P 1) : ∀ k, k < 2 → P k
  | 0, _ => h0
  | 1, _ => h1

theorem forall_lt_four {P : Nat → Prop} (h0 : P 0) (h1 : P 1) (h2 : P 2) (h3 : P 3) : ∀ k, k < 4 → P k
  | 0, _ => h0
  | 1, _ => h1
  | 2, _ => h2
  | 3, _ => h3

theorem dec_enc (d x : Nat → Nat) : ∀ n, (∀ k, k < n → x k < d k) → ∀ k, k < n →
    dec d n (enc d x n) k = x k
  | 0, _, k, hk => absurd hk (Nat.not_lt_zero k)
  | n + 1, h, k, hk => by
    obtain ⟨h', hx⟩ := Nat.forall_lt_succ_right.mp h
    rw [enc, dec, (Nat.mul_add_divMod_of_lt hx).1, (Nat.mul_add_divMod_of_lt hx).2]
    split
    · next hkn => rw [hkn]
    · next hkn => exact dec_enc d x n h' k (Nat.lt_of_le_of_ne (Nat.le_of_lt_succ hk) hkn)

theorem enc_eq_zero (d x : Nat → Nat) : ∀ n, (∀ k, k < n → x k = 0) → enc d x n = 0
  | 0, _ => rfl
  | n + 1, h => by
    obtain ⟨h', hn⟩ := Nat.forall_lt_succ_right.mp h
    rw [enc, enc_eq_zero d x n h', hn, Nat.zero_mul]

theorem enc_zero (d : Nat → Nat) (n : Nat) : enc d (fun _ => 0) n = 0 :=
  enc_eq_zero d _ n fun _ _ => rfl

theorem enc_two (d x : Nat → Nat) : enc d x 2 = x 0 * d 1 + x 1 := by
  rw [enc, enc, enc, Nat.zero_mul, Nat.zero_add]

theorem enc_four (d x : Nat → Nat) : enc d x 4 = ((x 0 * d 1 + x 1) * d 2 + x 2) * d 3 + x 3 := by
  rw [enc, enc, enc_two]

/-- `enc` is injective on digit vectors that are in range -/
theorem enc_injective (d x y : Nat → Nat) (n : Nat) (hx : ∀ k, k < n → x k < d k) (hy : ∀ k, k < n → y k < d k)
    (h : enc d x n = enc d y n) : ∀ k, k < n → x k = y k := fun k hk => by
  rw [← dec_enc d x n hx k hk, h, dec_enc d y n hy k hk]

theorem dec_lt (d : Nat → Nat) : ∀ n i k, k < n → 0 < d k → dec d n i k < d k
  | 0, _, k, hk, _ => absurd hk (Nat.not_lt_zero k)
  | n + 1, i, k, hk, hd => by
    rw [dec]
    split
    · next h => subst h; exact Nat.mod_lt _ hd
    · next h => exact dec_lt d n _ k (Nat.lt_of_le_of_ne (Nat.le_of_lt_succ hk) h) hd

theorem enc_congr (d e x y : Nat → Nat) : ∀ n, (∀ k, k < n → d k = e k) → (∀ k, k < n → x k = y k) →
    enc d x n = enc e y n
  | 0, _, _ => rfl
  | n + 1, hd, h => by
    obtain ⟨hd', hdn⟩ := Nat.forall_lt_succ_right.mp hd
    obtain ⟨h', hn⟩ := Nat.forall_lt_succ_right.mp h
    rw [enc, enc, enc_congr d e x y n hd' h', hn, hdn]

theorem enc_congr_digits (d x y : Nat → Nat) (n : Nat) (h : ∀ k, k < n → x k = y k) : enc d x n = enc d y n :=
  enc_congr d d x y n (fun _ _ => rfl) h

theorem dec_congr (d e : Nat → Nat) : ∀ n i k, (∀ m, m < n → d m = e m) → dec d n i k = dec e n i k
  | 0, _, _, _ => rfl
  | n + 1, i, k, h => by
    obtain ⟨h', hn⟩ := Nat.forall_lt_succ_right.mp h
    rw [dec, dec, hn, dec_congr d e n _ k h']

theorem enc_dec (d : Nat → Nat) : ∀ n i, i < prodN d n → enc d (dec d n i) n = i
  | 0, i, h => (Nat.lt_one_iff.mp h).symm
  | n + 1, i, h => by
    have hq : i / d n < prodN d n := (Nat.div_lt_iff_lt_mul (Nat.pos_of_lt_mul_left h)).mpr h
    have e1 : enc d (dec d (n + 1) i) n = enc d (dec d n (i / d n)) n :=
      enc_congr_digits d _ _ n fun k hk => by rw [dec, if_neg (Nat.ne_of_lt hk)]
    rw [enc, e1, enc_dec d n _ hq, dec, if_pos rfl]
    exact Nat.div_add_mod' i (d n)

/-- a code is determined by its digits -/
theorem enc_eq_of_dec (d : Nat → Nat) (n i : Nat) (x : Nat → Nat) (hi : i < prodN d n) (h : ∀ k, k < n → x k = dec d n i k) :
    enc d x n = i :=
  (enc_congr_digits d x (dec d n i) n h).trans (enc_dec d n i hi)

/-- the code of `m + n` digits is the code of the first `m` shifted past the code of the last `n` -/
theorem enc_add_range (d x : Nat → Nat) (m : Nat) : ∀ n,
    enc d x (m + n) = enc d x m * prodN (fun k => d (m + k)) n + enc (fun k => d (m + k)) (fun k => x (m + k)) n
  | 0 => by rw [prodN, enc, Nat.mul_one, Nat.add_zero]; rfl
  | n + 1 => by
    rw [← Nat.add_assoc, enc, enc_add_range d x m n, prodN, enc, Nat.add_mul, Nat.mul_assoc, Nat.add_assoc]

theorem prodN_succ_shift (s : Nat → Nat) : ∀ n, prodN s (n + 1) = s 0 * prodN (fun k => s (k + 1)) n
  | 0 => by simp [prodN]
  | n + 1 => by rw [prodN, prodN_succ_shift s n, Nat.mul_assoc]; rfl

/-- peel the fastest axis off an F-order index -/
theorem flatF_shift (s idx : Nat → Nat) : ∀ n,
    flatF s idx (n + 1) = flatF (fun k => s (k + 1)) (fun k => idx (k + 1)) n * s 0 + idx 0
  | 0 => by simp [flatF, prodN]
  | n + 1 => by
    rw [flatF, flatF_shift s idx n, prodN_succ_shift s n, flatF, Nat.add_mul, Nat.add_right_comm,
      Nat.mul_left_comm, Nat.mul_comm (s 0)]

/-- peel the fastest axis off an F-order digit -/
theorem unflatF_succ (s : Nat → Nat) (j k : Nat) : unflatF s j (k + 1) = unflatF (fun k => s (k + 1)) (j / s 0) k := by
  rw [unflatF, unflatF, prodN_succ_shift, Nat.div_div_eq_div_mul]

theorem rev_lt (n k : Nat) (hk : k < n) : rev n k < n := by unfold rev; omega

theorem rev_rev (n k : Nat) (hk : k < n) : rev n (rev n k) = k :=
  Nat.sub_sub_self (Nat.le_pred_of_lt hk)

theorem rev_succ_zero (n : Nat) : rev (n + 1) 0 = n := rfl

theorem rev_succ_last (n : Nat) : rev (n + 1) n = 0 := by rw [rev, Nat.add_sub_cancel, Nat.sub_self]

theorem rev_succ_succ (n k : Nat) : rev (n + 1) (k + 1) = rev n k := by
  rw [rev, rev, Nat.add_sub_cancel, Nat.sub_sub, Nat.add_comm]

theorem rev_succ_of_lt {n k : Nat} (hk : k < n) : rev (n + 1) k = rev n k + 1 := by
  rw [rev, rev, Nat.add_sub_cancel, Nat.sub_right_comm, Nat.sub_add_cancel (Nat.sub_pos_of_lt hk)]

/-- F-order with axes reversed is the big-endian code. -/
theorem flatF_eq_enc_rev : ∀ n (s idx : Nat → Nat),
    flatF s idx n = enc (fun k => s (rev n k)) (fun k => idx (rev n k)) n
  | 0, _, _ => rfl
  | n + 1, s, idx => by
    rw [flatF_shift, flatF_eq_enc_rev n, enc, rev_succ_last]
    congr 2
    exact enc_congr _ _ _ _ n (fun k hk => congrArg s (rev_succ_of_lt hk).symm)
      fun k hk => congrArg idx (rev_succ_of_lt hk).symm

/-- F-order digit `m` = big-endian digit `rev n m` with respect to the reversed shape. -/
theorem unflatF_eq_dec_rev : ∀ n (s : Nat → Nat) (j m : Nat), m < n →
    unflatF s j m = dec (fun k => s (rev n k)) n j (rev n m)
  | 0, _, _, m, hm => absurd hm (Nat.not_lt_zero m)
  | n + 1, s, j, 0, _ => by
    rw [dec, rev_succ_zero, if_pos rfl, rev_succ_last, unflatF, prodN, Nat.div_one]
  | n + 1, s, j, m + 1, hm => by
    have hm' : m < n := Nat.lt_of_succ_lt_succ hm
    rw [unflatF_succ, unflatF_eq_dec_rev n _ _ m hm', dec, rev_succ_succ, if_neg (Nat.ne_of_lt (rev_lt n m hm')),
      rev_succ_last]
    exact dec_congr _ _ n _ _ fun k hk => congrArg s (rev_succ_of_lt hk).symm

theorem flatF_congr (s idx idx' : Nat → Nat) :
    ∀ n, (∀ k, k < n → idx k = idx' k) → flatF s idx n = flatF s idx' n
  | 0, _ => rfl
  | n + 1, h => by
    simp only [flatF]
    rw [flatF_congr s idx idx' n (fun k hk => h k (Nat.lt_succ_of_lt hk)), h n (Nat.lt_succ_self n)]

theorem flatF_two (s x : Nat → Nat) : flatF s x 2 = x 0 + x 1 * s 0 := by
  simp [flatF, prodN]

theorem flatF_three (s x : Nat → Nat) : flatF s x 3 = x 0 + x 1 * s 0 + x 2 * (s 0 * s 1) := by
  simp [flatF, prodN]

theorem flatF_four (s x : Nat → Nat) :
    flatF s x 4 = x 0 + x 1 * s 0 + x 2 * (s 0 * s 1) + x 3 * (s 0 * s 1 * s 2) := by
  simp [flatF, prodN]

/-- the F-order digits of an F-order flat index -/
theorem unflatF_flatF (s x : Nat → Nat) (n : Nat) (hx : ∀ k, k < n → x k < s k) (k : Nat) (hk : k < n) :
    unflatF s (flatF s x n) k = x k := by
  rw [unflatF_eq_dec_rev n s _ k hk, flatF_eq_enc_rev,
    dec_enc _ _ n (fun m hm => hx _ (rev_lt n m hm)) _ (rev_lt n k hk)]
  show x (rev n (rev n k)) = x k
  rw [rev_rev n k hk]

theorem invPerm_go_spec (p : Nat → Nat) (m : Nat) : ∀ f k,
    k ≤ invPerm.go p m f k ∧ invPerm.go p m f k ≤ k + f ∧
    (∀ i, k ≤ i → i < invPerm.go p m f k → p i ≠ m) ∧
    (invPerm.go p m f k < k + f → p (invPerm.go p m f k) = m)
  | 0, k => ⟨Nat.le_refl k, Nat.le_refl k, fun i h1 h2 => absurd (Nat.lt_of_le_of_lt h1 h2) (Nat.lt_irrefl k),
      fun h => absurd h (Nat.lt_irrefl k)⟩
  | f + 1, k => by
    rw [invPerm.go]
    split
    · next h => exact ⟨Nat.le_refl k, Nat.le_add_right k _,
        fun i h1 h2 => absurd (Nat.lt_of_le_of_lt h1 h2) (Nat.lt_irrefl k), fun _ => h⟩
    · next h =>
      obtain ⟨h1, h2, h3, h4⟩ := invPerm_go_spec p m f (k + 1)
      refine ⟨Nat.le_of_succ_le h1, by omega, fun i hi1 hi2 => ?_, fun hlt => h4 (by omega)⟩
      rcases Nat.eq_or_lt_of_le hi1 with rfl | hik
      · exact h
      · exact h3 i hik hi2

theorem invPerm_le (n : Nat) (p : Nat → Nat) (m : Nat) : invPerm n p m ≤ n := by
  obtain ⟨_, hle, _, _⟩ := invPerm_go_spec p m n 0
  rwa [Nat.zero_add] at hle

theorem invPerm_min (n : Nat) (p : Nat → Nat) (m i : Nat) (hi : i < invPerm n p m) : p i ≠ m := by
  obtain ⟨_, _, hmin, _⟩ := invPerm_go_spec p m n 0
  exact hmin i (Nat.zero_le i) hi

theorem invPerm_apply (n : Nat) (p : Nat → Nat) (m : Nat) (h : invPerm n p m < n) :
    p (invPerm n p m) = m := by
  obtain ⟨_, _, _, hhit⟩ := invPerm_go_spec p m n 0
  exact hhit (by rwa [Nat.zero_add])

/-- if some position `< n` hits `m`, `invPerm` finds one -/
theorem invPerm_lt_of_hit (n : Nat) (p : Nat → Nat) (m k : Nat) (hk : k < n) (hpk : p k = m) :
    invPerm n p m ≤ k ∧ invPerm n p m < n ∧ p (invPerm n p m) = m := by
  have h1 : invPerm n p m ≤ k := Nat.le_of_not_lt fun h => invPerm_min n p m k h hpk
  have h2 : invPerm n p m < n := Nat.lt_of_le_of_lt h1 hk
  exact ⟨h1, h2, invPerm_apply n p m h2⟩

/-- for `p` injective on `0..n-1`, `invPerm n p m` is *the* position `k < n` with `p k = m` -/
theorem invPerm_eq_of (n : Nat) (p : Nat → Nat)
    (hinj : ∀ a b, a < n → b < n → p a = p b → a = b) (m k : Nat) (hk : k < n) (hpk : p k = m) :
    invPerm n p m = k := by
  obtain ⟨_, h2, h3⟩ := invPerm_lt_of_hit n p m k hk hpk
  exact hinj _ _ h2 hk (h3.trans hpk.symm)

theorem invPerm_go_congr (p q : Nat → Nat) (m : Nat) : ∀ f k, (∀ i, k ≤ i → i < k + f → p i = q i) →
    invPerm.go p m f k = invPerm.go q m f k
  | 0, _, _ => rfl
  | f + 1, k, h => by
    rw [invPerm.go, invPerm.go, h k (Nat.le_refl k) (Nat.lt_add_of_pos_right f.succ_pos),
      invPerm_go_congr p q m f (k + 1) fun i h1 h2 => h i (Nat.le_of_succ_le h1) (by omega)]

theorem invPerm_congr (n : Nat) (p q : Nat → Nat) (m : Nat) (h : ∀ k, k < n → p k = q k) :
    invPerm n p m = invPerm n q m :=
  invPerm_go_congr p q m n 0 (fun i _ hi => h i (by omega))

theorem fnOfList_listOfFn (n : Nat) (f : Nat → Nat) (k : Nat) (hk : k < n) : fnOfList (listOfFn n f) 0 k = f k := by
  simp [fnOfList, listOfFn, hk]

theorem allBelow_iff (q : Nat → Bool) : ∀ n, allBelow n q = true ↔ ∀ k, k < n → q k = true
  | 0 => ⟨fun _ k hk => absurd hk (Nat.not_lt_zero k), fun _ => rfl⟩
  | n + 1 => by rw [allBelow, Bool.and_eq_true, allBelow_iff q n, Nat.forall_lt_succ_right]

theorem allBelow_allBelow_iff (r c : Nat) (p : Nat → Nat → Bool) :
    allBelow r (fun i => allBelow c (p i)) = true ↔ ∀ i j, i < r → j < c → p i j = true := by
  simp only [allBelow_iff]
  exact ⟨fun h i j hi hj => h i hi j hj, fun h i hi j hj => h i j hi hj⟩

theorem anyBelow_iff (q : Nat → Bool) : ∀ n, anyBelow n q = true ↔ ∃ k, k < n ∧ q k = true
  | 0 => ⟨fun h => Bool.noConfusion h, fun ⟨k, hk, _⟩ => absurd hk (Nat.not_lt_zero k)⟩
  | n + 1 => by rw [anyBelow, Bool.or_eq_true, anyBelow_iff q n, Nat.exists_lt_succ_right]
