import Toq.Model.PartialOps
import Toq.Spec.PartialTranspose
import Toq.Proofs.PartialTrace
import Mathlib.Tactic.Ring
/-! The partial-transpose and realignment mirror models compute their specifications (C03).

`permute_systems` with `perm = S ++ rest` makes the code of an index split into a code over `S` and a code over the rest
(`codeOn_mix`); the four-axis reshape / transpose / reshape exchanges the `S`-parts of the row and the column index (`pipeline_eq`);
the inverse `permute_systems` with the flipped dims puts every digit back in place (`permuteMat_inv_codeOn`).  The result's column
dims are its row dims with `rd` and `cd` exchanged (`pTColDims_eq`), so the `pTRowDims_*` lemmas serve both; the laws of the
specification `pTSpec` are identities of `mix` on digit vectors; the realignment is two row swaps around a partial transpose on two
subsystems. -/

namespace Toq.PartialOps
open Toq.Perms Toq.C01 Toq.Spec
open Toq.PTrace (setDiff_eq_others mem_others not_mem_of_mem_others append_others_perm fnOfList_two_pos others subDim codeOn
  codeOn_append codeOn_lt codeOn_mix_of_subset codeOn_mix_of_disjoint subDim_mix_of_subset subDim_mix_of_disjoint
  matFlatF_reshape_transpose
  permuteMat_codeOn permuteMat_inv_codeOn prodN_div_prodList prodList_eq_subDim prodN_eq_subDim_mul)

/-- the three NumPy steps in the middle of `partial_transpose` -/
def pipeline {α : Type} (a : Nat → Nat → α) (R vr sr vc sc : Nat) : Nat → Nat → α :=
  matOfFlatF ((ND.ofFlatF (matFlatF a R) 4 (fnOfList [vr, sr, vc, sc])).transpose
    (fnOfList [0, 3, 2, 1])).vecF (vr * sc)

theorem pipeline_eq {α : Type} (a : Nat → Nat → α) (vr sr vc sc sI vI sJ vJ : Nat)
    (h1 : sI < sc) (h2 : vI < vr) (h3 : sJ < sr) (h4 : vJ < vc) :
    pipeline a (vr * sr) vr sr vc sc (sI * vr + vI) (sJ * vc + vJ) = a (sJ * vr + vI) (sI * vc + vJ) := by
  have hp := (isPerm_eq_true_iff 4 _).mp (by decide : isPerm 4 (fnOfList [0, 3, 2, 1]) = true)
  -- the position is the multi-index `(vI, sI, vJ, sJ)` of the transposed array (shape `[vr, sc, vc, sr]`)
  have hidx : sI * vr + vI + vr * sc * (sJ * vc + vJ)
      = flatF (fun k => fnOfList [vr, sr, vc, sc] 0 (fnOfList [0, 3, 2, 1] 0 k))
          (fnOfList [vI, sI, vJ, sJ]) 4 := by
    rw [flatF_four]
    show _ = vI + sI * vr + vJ * (vr * sc) + sJ * (vr * sc * vc)
    ring
  show ((ND.ofFlatF (matFlatF a (vr * sr)) 4 (fnOfList [vr, sr, vc, sc])).transpose
      (fnOfList [0, 3, 2, 1])).vecF (sI * vr + vI + vr * sc * (sJ * vc + vJ)) = _
  rw [hidx]
  -- before the transposition that is `(vI, sJ, vJ, sI)` for the shape `[vr, sr, vc, sc]`
  refine matFlatF_reshape_transpose a (vr * sr) 4 _ _ _ hp (forall_lt_four h2 h1 h4 h3) _ _
    (Nat.mul_comm vr sr ▸ Nat.mul_add_lt_mul h3 h2) ?_
  rw [flatF_four]
  show vI + sJ * vr + vJ * (vr * sr) + sI * (vr * sr * vc) = _
  ring

theorem partialTranspose_unfold {α : Type} (X : Nat → Nat → α) (n : Nat) (rd cd : Nat → Nat)
    (S : List Nat) :
    partialTranspose X n rd cd S =
      permuteMat
        (pipeline (permuteMat X n (fnOfList (S ++ setDiff n S)) rd cd false false) (prodN rd n)
          (prodN rd n / prodList rd S) (prodList rd S) (prodN cd n / prodList cd S) (prodList cd S))
        n (fnOfList (S ++ setDiff n S))
        (fun k => pTRowDims rd cd S ((fnOfList (S ++ setDiff n S)) k))
        (fun k => pTColDims rd cd S ((fnOfList (S ++ setDiff n S)) k))
        false true := by
  unfold partialTranspose pipeline
  simp only [List.contains_iff_mem, pTRowDims, pTColDims]

theorem pTRowDims_eq_mix (rd cd : Nat → Nat) (S : List Nat) : pTRowDims rd cd S = mix S cd rd := rfl

theorem pTColDims_eq (rd cd : Nat → Nat) (S : List Nat) : pTColDims rd cd S = pTRowDims cd rd S := rfl

section dimsAt
variable {rd cd : Nat → Nat} {S : List Nat} {k : Nat}

theorem pTRowDims_of_mem (h : k ∈ S) : pTRowDims rd cd S k = cd k := if_pos h
theorem pTRowDims_of_not_mem (h : k ∉ S) : pTRowDims rd cd S k = rd k := if_neg h

theorem pTRowDims_pos (hr : 0 < rd k) (hc : 0 < cd k) : 0 < pTRowDims rd cd S k :=
  mix_cases (motive := (0 < ·)) (fun _ => hc) (fun _ => hr)

/-- for the column digits exchange `rd` with `cd` and `a` with `b` -/
theorem srcDigit_lt {a b : Nat → Nat} (ha : a k < pTRowDims rd cd S k) (hb : b k < pTColDims rd cd S k) :
    mix S b a k < rd k :=
  mix_lt_of (fun h => Nat.lt_of_lt_of_eq hb (pTRowDims_of_mem h)) (fun h => Nat.lt_of_lt_of_eq ha (pTRowDims_of_not_mem h))

end dimsAt

theorem pTRowDims_flip (rd cd : Nat → Nat) (S : List Nat) :
    pTRowDims (pTRowDims rd cd S) (pTColDims rd cd S) S = rd :=
  mix_mix_swap S rd cd

theorem pTColDims_flip (rd cd : Nat → Nat) (S : List Nat) :
    pTColDims (pTRowDims rd cd S) (pTColDims rd cd S) S = cd :=
  pTRowDims_flip cd rd S

theorem pTRowDims_self (d : Nat → Nat) (S : List Nat) : pTRowDims d d S = d := mix_self S d

theorem pTColDims_self (d : Nat → Nat) (S : List Nat) : pTColDims d d S = d := mix_self S d

theorem dec_pTRowDims_lt {n : Nat} {rd cd : Nat → Nat} (S : List Nat) (hr : ∀ k, k < n → 0 < rd k) (hc : ∀ k, k < n → 0 < cd k)
    (i k : Nat) (hk : k < n) : dec (pTRowDims rd cd S) n i k < pTRowDims rd cd S k :=
  dec_lt _ _ _ _ hk (pTRowDims_pos (hr k hk) (hc k hk))

section srcDigits
variable {n : Nat} {rd cd : Nat → Nat} (S : List Nat) (hr : ∀ k, k < n → 0 < rd k) (hc : ∀ k, k < n → 0 < cd k) (i j k : Nat) (hk : k < n)
include hr hc hk

theorem srcDigits_lt : mix S (dec (pTColDims rd cd S) n j) (dec (pTRowDims rd cd S) n i) k < rd k :=
  srcDigit_lt (dec_pTRowDims_lt S hr hc i k hk) (dec_pTRowDims_lt S hc hr j k hk)

/-- the row form at `cd rd j i`; stated because `rw` does not see through `pTColDims_eq` -/
theorem srcDigits_lt_col : mix S (dec (pTRowDims rd cd S) n i) (dec (pTColDims rd cd S) n j) k < cd k :=
  srcDigits_lt S hc hr j i k hk

end srcDigits

theorem codeOn_mix (n : Nat) (S : List Nat) (e f a b : Nat → Nat) :
    codeOn (mix S e f) (S ++ others n S) (mix S a b)
      = codeOn e S a * subDim f (others n S) + codeOn f (others n S) b := by
  rw [codeOn_append, codeOn_mix_of_subset e f a b S (fun _ h => h),
    codeOn_mix_of_disjoint e f a b _ not_mem_of_mem_others, subDim_mix_of_disjoint e f _ not_mem_of_mem_others]

theorem pTSpec_eq {α : Type} (X : Nat → Nat → α) (n : Nat) (rd cd : Nat → Nat) (S : List Nat) (i j : Nat) :
    pTSpec X n rd cd S i j
      = X (enc rd (mix S (dec (pTColDims rd cd S) n j) (dec (pTRowDims rd cd S) n i)) n)
          (enc cd (mix S (dec (pTRowDims rd cd S) n i) (dec (pTColDims rd cd S) n j)) n) := rfl

theorem codeOn_pTRowDims (n : Nat) (S : List Nat) (rd cd x : Nat → Nat) :
    codeOn (pTRowDims rd cd S) (S ++ others n S) x
      = codeOn cd S x * subDim rd (others n S) + codeOn rd (others n S) x := by
  have h := codeOn_mix n S cd rd x x
  rwa [mix_self] at h

theorem codeOn_mix_digits (n : Nat) (S : List Nat) (d a b : Nat → Nat) :
    codeOn d (S ++ others n S) (mix S a b) = codeOn d S a * subDim d (others n S) + codeOn d (others n S) b := by
  have h := codeOn_mix n S d d a b
  rwa [mix_self] at h

theorem partialTranspose_eq_spec {α : Type} (X : Nat → Nat → α) (n : Nat) (rd cd : Nat → Nat)
    (S : List Nat) (hr : ∀ k, k < n → 0 < rd k) (hc : ∀ k, k < n → 0 < cd k) (hnd : S.Nodup)
    (hlt : ∀ s ∈ S, s < n) (i j : Nat) :
    partialTranspose X n rd cd S i j = pTSpec X n rd cd S i j := by
  have hL := append_others_perm n S hnd hlt
  have hai := dec_pTRowDims_lt S hr hc i
  have hbj : ∀ k, k < n → dec (pTColDims rd cd S) n j k < pTColDims rd cd S k := dec_pTRowDims_lt S hc hr j
  rw [partialTranspose_unfold, setDiff_eq_others,
    permuteMat_inv_codeOn _ n _ hL (pTRowDims rd cd S) (pTColDims rd cd S), pTSpec_eq]
  generalize dec (pTRowDims rd cd S) n i = ai at *
  generalize dec (pTColDims rd cd S) n j = bj at *
  -- present the entry of `X` that the specification names as an entry of the permuted operator, and split all four codes at `S`
  rw [← permuteMat_codeOn X n _ hL rd cd (mix S bj ai) (mix S ai bj) (fun k hk => srcDigit_lt (hai k hk) (hbj k hk))
      (fun k hk => srcDigit_lt (hbj k hk) (hai k hk)),
    codeOn_mix_digits, codeOn_mix_digits, codeOn_pTRowDims, pTColDims_eq, codeOn_pTRowDims,
    prodN_div_prodList n rd S hr hnd hlt, prodN_div_prodList n cd S hc hnd hlt, prodList_eq_subDim,
    prodList_eq_subDim, prodN_eq_subDim_mul n rd S hnd hlt]
  refine pipeline_eq _ _ _ _ _ _ _ _ _ ?_ ?_ ?_ ?_
  · exact codeOn_lt cd S ai fun k hk => Nat.lt_of_lt_of_eq (hai k (hlt k hk)) (pTRowDims_of_mem hk)
  · exact codeOn_lt rd _ ai fun k hk => Nat.lt_of_lt_of_eq (hai k (mem_others.mp hk).1) (pTRowDims_of_not_mem (mem_others.mp hk).2)
  · exact codeOn_lt rd S bj fun k hk => Nat.lt_of_lt_of_eq (hbj k (hlt k hk)) (pTRowDims_of_mem hk)
  · exact codeOn_lt cd _ bj fun k hk => Nat.lt_of_lt_of_eq (hbj k (mem_others.mp hk).1) (pTRowDims_of_not_mem (mem_others.mp hk).2)

theorem partialTranspose_eq_spec' {α : Type} (X : Nat → Nat → α) (n : Nat) (rd cd : Nat → Nat)
    (S : List Nat) (hr : ∀ k, k < n → 0 < rd k) (hc : ∀ k, k < n → 0 < cd k) (hnd : S.Nodup) (hlt : ∀ s ∈ S, s < n) :
    partialTranspose X n rd cd S = pTSpec X n rd cd S :=
  funext fun i => funext fun j => partialTranspose_eq_spec X n rd cd S hr hc hnd hlt i j

theorem pTSpec_source_lt (n : Nat) (rd cd : Nat → Nat) (S : List Nat) (hr : ∀ k, k < n → 0 < rd k) (hc : ∀ k, k < n → 0 < cd k)
    (i j : Nat) :
    enc rd (mix S (dec (pTColDims rd cd S) n j) (dec (pTRowDims rd cd S) n i)) n < prodN rd n ∧
    enc cd (mix S (dec (pTRowDims rd cd S) n i) (dec (pTColDims rd cd S) n j)) n < prodN cd n :=
  ⟨enc_lt _ _ _ (srcDigits_lt S hr hc i j), enc_lt _ _ _ (srcDigits_lt_col S hr hc i j)⟩

theorem pTSpec_congr {α : Type} {X Y : Nat → Nat → α} (n : Nat) (rd cd : Nat → Nat) (S : List Nat) (hr : ∀ k, k < n → 0 < rd k)
    (hc : ∀ k, k < n → 0 < cd k) (h : ∀ I J, I < prodN rd n → J < prodN cd n → X I J = Y I J) (i j : Nat) :
    pTSpec X n rd cd S i j = pTSpec Y n rd cd S i j :=
  h _ _ (pTSpec_source_lt n rd cd S hr hc i j).1 (pTSpec_source_lt n rd cd S hr hc i j).2

/-- the shape the model reports, `(R / sub_prod_r) * sub_prod_c` rows and `(C / sub_prod_c) * sub_prod_r` columns, is the
    product of the result's row resp. column dims -/
theorem pT_shape (n : Nat) (rd cd : Nat → Nat) (S : List Nat)
    (hr : ∀ k, k < n → 0 < rd k) (hc : ∀ k, k < n → 0 < cd k) (hnd : S.Nodup) (hlt : ∀ s ∈ S, s < n) :
    prodN rd n / prodList rd S * prodList cd S = prodN (pTRowDims rd cd S) n ∧
    prodN cd n / prodList cd S * prodList rd S = prodN (pTColDims rd cd S) n := by
  have h : ∀ rd cd : Nat → Nat, (∀ k, k < n → 0 < rd k) →
      prodN rd n / prodList rd S * prodList cd S = prodN (pTRowDims rd cd S) n := fun rd cd hr => by
    rw [prodN_div_prodList n rd S hr hnd hlt, prodList_eq_subDim, prodN_eq_subDim_mul n (pTRowDims rd cd S) S hnd hlt,
      pTRowDims_eq_mix, subDim_mix_of_disjoint cd rd _ not_mem_of_mem_others, subDim_mix_of_subset cd rd S fun _ h => h]
  exact ⟨h rd cd hr, h cd rd hc⟩

theorem pTSpec_enc {α : Type} (X : Nat → Nat → α) (n : Nat) (rd cd : Nat → Nat) (S : List Nat)
    (a b : Nat → Nat)
    (ha : ∀ k, k < n → a k < pTRowDims rd cd S k) (hb : ∀ k, k < n → b k < pTColDims rd cd S k) :
    pTSpec X n rd cd S (enc (pTRowDims rd cd S) a n) (enc (pTColDims rd cd S) b n)
      = X (enc rd (mix S b a) n) (enc cd (mix S a b) n) :=
  congrArg₂ X
    (enc_congr_digits _ _ _ n fun k hk => mix_congr (dec_enc _ b n hb k hk) (dec_enc _ a n ha k hk))
    (enc_congr_digits _ _ _ n fun k hk => mix_congr (dec_enc _ a n ha k hk) (dec_enc _ b n hb k hk))

theorem pTSpec_involutive {α : Type} (X : Nat → Nat → α) (n : Nat) (rd cd : Nat → Nat) (S : List Nat)
    (hr : ∀ k, k < n → 0 < rd k) (hc : ∀ k, k < n → 0 < cd k) (i j : Nat)
    (hi : i < prodN rd n) (hj : j < prodN cd n) :
    pTSpec (pTSpec X n rd cd S) n (pTRowDims rd cd S) (pTColDims rd cd S) S i j = X i j := by
  have hai : ∀ k, k < n → dec rd n i k < rd k := fun k hk => dec_lt _ _ _ _ hk (hr k hk)
  have hbj : ∀ k, k < n → dec cd n j k < cd k := fun k hk => dec_lt _ _ _ _ hk (hc k hk)
  -- exchanging twice on `S` gives back the digits of `i` and of `j`
  rw [pTSpec_eq (pTSpec X n rd cd S), pTRowDims_flip, pTColDims_flip,
    pTSpec_enc X n rd cd S _ _ (fun k hk => mix_lt (hbj k hk) (hai k hk)) (fun k hk => mix_lt (hai k hk) (hbj k hk)),
    mix_mix_swap, mix_mix_swap, enc_dec _ _ _ hi, enc_dec _ _ _ hj]

theorem pTSpec_all {α : Type} (X : Nat → Nat → α) (n : Nat) (rd cd : Nat → Nat) (S : List Nat)
    (hS : ∀ k, k < n → k ∈ S) (i j : Nat) (hi : i < prodN cd n) (hj : j < prodN rd n) :
    pTSpec X n rd cd S i j = X j i := by
  have e : ∀ rd cd : Nat → Nat, ∀ m, m < n → pTRowDims rd cd S m = cd m := fun _ _ m hm => pTRowDims_of_mem (hS m hm)
  exact congrArg₂ X
    (enc_eq_of_dec rd n j _ hj fun k hk => (mix_of_mem (hS k hk)).trans (dec_congr _ _ _ _ _ (e cd rd)))
    (enc_eq_of_dec cd n i _ hi fun k hk => (mix_of_mem (hS k hk)).trans (dec_congr _ _ _ _ _ (e rd cd)))

theorem pTSpec_compl {α : Type} (X : Nat → Nat → α) (n : Nat) (rd cd : Nat → Nat) (S T : List Nat)
    (hT : ∀ k, k < n → (k ∈ T ↔ k ∉ S)) (i j : Nat) :
    pTSpec X n rd cd T i j = pTSpec X n rd cd S j i := by
  have e : ∀ rd cd : Nat → Nat, ∀ m, m < n → pTRowDims rd cd T m = pTRowDims cd rd S m := fun _ _ m hm => mix_compl (hT m hm)
  exact congrArg₂ X
    (enc_congr_digits _ _ _ n fun k hk => (mix_compl (hT k hk)).trans
      (mix_congr (dec_congr _ _ _ _ _ (e rd cd)) (dec_congr _ _ _ _ _ (e cd rd))))
    (enc_congr_digits _ _ _ n fun k hk => (mix_compl (hT k hk)).trans
      (mix_congr (dec_congr _ _ _ _ _ (e cd rd)) (dec_congr _ _ _ _ _ (e rd cd))))

theorem pTSpec_kron {α : Type} [Mul α] [One α] (n : Nat) (A : Nat → Nat → Nat → α) (rd cd : Nat → Nat)
    (S : List Nat) (hr : ∀ k, k < n → 0 < rd k) (hc : ∀ k, k < n → 0 < cd k) (i j : Nat) :
    pTSpec (kronMat n A rd cd) n rd cd S i j
      = kronMat n (fun k => if k ∈ S then transposeM (A k) else A k)
          (pTRowDims rd cd S) (pTColDims rd cd S) i j := by
  rw [pTSpec_eq]
  refine prodFn_congr _ _ _ fun k hk => ?_
  rw [dec_enc rd (mix S _ _) n (srcDigits_lt S hr hc i j) k hk, dec_enc cd (mix S _ _) n (srcDigits_lt_col S hr hc i j) k hk]
  show _ = (if k ∈ S then transposeM (A k) else A k) _ _
  by_cases h : k ∈ S
  · rw [mix_of_mem h, mix_of_mem h, if_pos h]; rfl
  · rw [mix_of_not_mem h, mix_of_not_mem h, if_neg h]

/-- two subsystems, one of them transposed: the digits of `I` and `J` on it are exchanged (no range hypotheses, hence the `%` on
    the leading digits) -/
theorem pTSpec_two_zero {α : Type} (x : Nat → Nat → α) (a0 a1 b0 b1 I J : Nat) :
    pTSpec x 2 (fnOfList [a0, a1]) (fnOfList [b0, b1]) [0] I J
      = x (((J / b1) % a0) * a1 + I % a1) (((I / a1) % b0) * b1 + J % b1) := by
  rw [pTSpec_eq, enc_two, enc_two]
  rfl

theorem pTSpec_two_one {α : Type} (x : Nat → Nat → α) (a0 a1 b0 b1 I J : Nat) :
    pTSpec x 2 (fnOfList [a0, a1]) (fnOfList [b0, b1]) [1] I J
      = x (((I / b1) % a0) * a1 + J % a1) (((J / a1) % b0) * b1 + I % b1) := by
  rw [pTSpec_eq, enc_two, enc_two]
  rfl

theorem rowSwap2_eq {α : Type} (X : Nat → Nat → α) (d0 d1 e0 e1 i j : Nat) :
    permuteMat X 2 (swapPerm 0 1) (fnOfList [d0, d1]) (fnOfList [e0, e1]) true false i j
      = X ((i % d0) * d1 + (i / d0) % d1) j := by
  have hp := swapPerm_isPermN 2 0 1 (by omega) (by omega)
  rw [permuteMat_false_eq X 2 _ _ _ hp, specIndex_swap2]
  rfl

theorem realignment_eq_spec {α : Type} (X : Nat → Nat → α) (r0 r1 c0 c1 : Nat) (i j : Nat)
    (hi : i < r0 * c0) (hj : j < r1 * c1) :
    realignment X r0 r1 c0 c1 i j = realignSpec X r1 c0 c1 i j := by
  unfold realignment
  rw [rowSwap2_eq,
    partialTranspose_eq_spec _ 2 _ _ [0]
      (fnOfList_two_pos _ _ (Nat.pos_of_lt_mul_right hj) (Nat.pos_of_lt_mul_right hi))
      (fnOfList_two_pos _ _ (Nat.pos_of_lt_mul_left hi) (Nat.pos_of_lt_mul_left hj)) (List.nodup_singleton 0) (by decide),
    pTSpec_two_zero, rowSwap2_eq]
  unfold realignSpec
  obtain ⟨h1, h3, -⟩ := Nat.div_mod_of_lt_mul hi
  obtain ⟨h2, -, -⟩ := Nat.div_mod_of_lt_mul hj
  -- in range the `%` on leading digits are vacuous, and the two row swaps recombine `i / c0`, `i % c0` with `j / c1`
  simp only [Nat.mod_eq_of_lt h1, Nat.mod_eq_of_lt h2, Nat.mod_eq_of_lt h3, Nat.mul_add_mod_of_lt h1, Nat.mul_add_div_of_lt h1]

/-- the realignment index map: range and left inverse (the inverse is the same map with the roles
    of `r1` and `c0` exchanged) -/
theorem realign_idx (r0 r1 c0 c1 i j : Nat) (hi : i < r0 * c0) (hj : j < r1 * c1) :
    realignRow r1 c0 c1 i j < r0 * r1 ∧ realignCol c0 c1 i j < c0 * c1 ∧
    realignRow c0 r1 c1 (realignRow r1 c0 c1 i j) (realignCol c0 c1 i j) = i ∧
    realignCol r1 c1 (realignRow r1 c0 c1 i j) (realignCol c0 c1 i j) = j := by
  obtain ⟨h1, h3, ei⟩ := Nat.div_mod_of_lt_mul hi
  obtain ⟨h2, h4, ej⟩ := Nat.div_mod_of_lt_mul hj
  unfold realignRow realignCol
  refine ⟨Nat.mul_add_lt_mul h1 h2, Nat.mul_add_lt_mul h3 h4, ?_, ?_⟩
  · rw [Nat.mul_add_div_of_lt h2, Nat.mul_add_div_of_lt h4]; exact ei
  · rw [Nat.mul_add_mod_of_lt h2, Nat.mul_add_mod_of_lt h4]; exact ej

theorem realignRowInv_eq (r1 c0 c1 I J : Nat) : realignRowInv r1 c0 c1 I J = realignRow c0 r1 c1 I J := rfl
theorem realignColInv_eq (r1 c1 I J : Nat) : realignColInv r1 c1 I J = realignCol r1 c1 I J := rfl

/-- on the four digits `(a, b, c, e)` of `i = a * c0 + b`, `j = c * c1 + e` the realignment reads `g` at `(a * r1 + c, b * c1 + e)`: the two
    double sums are the same sum over four digits with the two middle ones exchanged -/
theorem sumN_realign {β : Type} [AddCommMonoid β] (g : Nat → Nat → β) (r0 r1 c0 c1 : Nat) :
    sumN (r0 * c0) (fun i => sumN (r1 * c1) (fun j => g (realignRow r1 c0 c1 i j) (realignCol c0 c1 i j)))
      = sumN (r0 * r1) (fun I => sumN (c0 * c1) (fun J => g I J)) := by
  rw [sumN_mul_range _ c0 r0, sumN_mul_range _ r1 r0]
  refine sumN_congr _ _ r0 fun a _ => ?_
  rw [sumN_congr _ _ c0 fun b _ => sumN_mul_range _ c1 r1, sumN_comm]
  refine sumN_congr _ _ r1 fun c _ => (sumN_congr _ _ c0 fun b hb => sumN_congr _ _ c1 fun e he => ?_).trans
    (sumN_mul_range _ c1 c0).symm
  unfold realignRow realignCol
  rw [Nat.mul_add_div_of_lt hb, Nat.mul_add_mod_of_lt hb, Nat.mul_add_div_of_lt he, Nat.mul_add_mod_of_lt he]

end Toq.PartialOps
