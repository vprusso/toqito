import Toq.Proofs.ExtGames
/-!
# C09: the vocabulary of the specification, and what the exact checkers say in it

The statements of `Toq/Properties/C09.lean` speak of a game through `Fin`-indexed answer functions and the mathematical operators
(`avgMat`, `unentValue`, `gProb`, `gPred`), of the non-signalling program (`NSFeasible`, `nsValue`), and of exact flat-indexed
operators through `opOf` and `arrangement`.  In these terms: the executable `avgOperator` at any answer functions on `ℕ` that agree
with `f`, `g` on the questions denotes `avgMat … f g` (`toM_avgOperator_of_agree`); the upper checkers certify `c·1 − avgMat … ⪰ 0`;
an exact operator reindexed by a checked permutation `σ` is the operator read through `arrangement σ` (`toM_submatrix_arrangement`).
-/

open Matrix Kronecker
open scoped ComplexOrder MatrixOrder

namespace Toq.C09
open Toq.ExtGames EMat

section GameSpec
variable {d : Nat} {A B X Y : Type*} [Fintype X] [Fintype Y]

/-- question-averaged referee operator `Σ_{x,y} π(x,y) · P (f x) (g y) x y` for answer functions `f`, `g` -/
noncomputable def avgMat (π : X → Y → ℝ) (P : A → B → X → Y → Matrix (Fin d) (Fin d) ℂ)
    (f : X → A) (g : Y → B) : Matrix (Fin d) (Fin d) ℂ :=
  ∑ x, ∑ y, ((π x y : ℝ) : ℂ) • P (f x) (g y) x y

noncomputable def unentValue (π : X → Y → ℝ) (P : A → B → X → Y → Matrix (Fin d) (Fin d) ℂ)
    (f : X → A) (g : Y → B) (ρ : Matrix (Fin d) (Fin d) ℂ) : ℝ :=
  (avgMat π P f g * ρ).trace.re

end GameSpec

section NS
variable {d : Nat} {A B X Y : Type*} [Fintype A] [Fintype B] [Fintype X] [Fintype Y]

/-- feasible point of the program solved by `nonsignaling_value`: operators `K a b x y ⪰ 0` whose marginals
`Σ_b K a b x y = σ a x`, `Σ_a K a b x y = ρ b y` do not depend on the other player's question and sum to one
density operator `τ` -/
def NSFeasible (K : A → B → X → Y → Matrix (Fin d) (Fin d) ℂ) : Prop :=
  (∀ a b x y, (K a b x y).PosSemidef) ∧
    ∃ (σ : A → X → Matrix (Fin d) (Fin d) ℂ) (ρ : B → Y → Matrix (Fin d) (Fin d) ℂ)
      (τ : Matrix (Fin d) (Fin d) ℂ),
      (∀ a x y, ∑ b, K a b x y = σ a x) ∧ (∀ b x y, ∑ a, K a b x y = ρ b y) ∧
        (∀ x, ∑ a, σ a x = τ) ∧ (∀ y, ∑ b, ρ b y = τ) ∧ IsDensity τ

/-- objective of the non-signalling program, `Σ_{x,y} π(x,y) Σ_{a,b} Re tr(P a b x y · K a b x y)` -/
noncomputable def nsValue (π : X → Y → ℝ) (P K : A → B → X → Y → Matrix (Fin d) (Fin d) ℂ) : ℝ :=
  ∑ x, ∑ y, π x y * ∑ a, ∑ b, (P a b x y * K a b x y).trace.re

end NS

section GameCheck
variable {d : Nat}

def gProb (G : Game d) : Fin G.nX → Fin G.nY → ℝ := fun x y => ((G.prob x.val y.val : Rat) : ℝ)
def gPred (G : Game d) : Fin G.nA → Fin G.nB → Fin G.nX → Fin G.nY → Matrix (Fin d) (Fin d) ℂ :=
  fun a b x y => (G.pred a.val b.val x.val y.val).toM

def extFn {k n : Nat} (f : Fin k → Fin n) : Nat → Nat := fun x => if h : x < k then (f ⟨x, h⟩).val else 0

theorem extFn_eq_ext {k n : Nat} (f : Fin k → Fin n) : extFn f = Toq.Games.ext f := rfl

theorem toM_avgOperator_of_agree (G : Game d) (F F' : Nat → Nat) (f : Fin G.nX → Fin G.nA) (g : Fin G.nY → Fin G.nB)
    (hF : ∀ x : Fin G.nX, F x = f x) (hF' : ∀ y : Fin G.nY, F' y = g y) :
    (avgOperator G F F').toM = avgMat (gProb G) (gPred G) f g := by
  rw [toM_avgOperator]
  unfold avgMat gProb gPred
  exact Finset.sum_congr rfl fun x _ => Finset.sum_congr rfl fun y _ => by rw [hF x, hF' y]

theorem checkUnentUpper_avgMat (G : Game d) (c : Rat) (Ls : Nat → EMat d d) (h : checkUnentUpper G c Ls = true)
    (f : Fin G.nX → Fin G.nA) (g : Fin G.nY → Fin G.nB) :
    ((((c : Rat) : ℝ) : ℂ) • (1 : Matrix (Fin d) (Fin d) ℂ) - avgMat (gProb G) (gPred G) f g).PosSemidef := by
  simp only [checkUnentUpper, allBelow_iff] at h
  -- the checker's loop over the codes of answer functions meets `f` and `g`
  obtain ⟨i, hi, hfi⟩ := fnOfIdx_surj G.nA G.nX (Games.ext f) (Games.ext_lt f)
  obtain ⟨j, hj, hgj⟩ := fnOfIdx_surj G.nB G.nY (Games.ext g) (Games.ext_lt g)
  rw [← toM_avgOperator_of_agree G _ _ f g (fun x => (hfi x x.2).trans (Games.ext_val f x))
    fun y => (hgj y y.2).trans (Games.ext_val g y)]
  exact checkLamMaxUpper_spec _ _ _ (h i hi j hj)

theorem checkUnentConstUpper_avgMat (G : Game d) (c : Rat) (Ls : Nat → EMat d d) (h : checkUnentConstUpper G c Ls = true)
    (a : Fin G.nA) (b : Fin G.nB) :
    ((((c : Rat) : ℝ) : ℂ) • (1 : Matrix (Fin d) (Fin d) ℂ)
      - avgMat (gProb G) (gPred G) (fun _ => a) (fun _ => b)).PosSemidef := by
  simp only [checkUnentConstUpper, allBelow_iff] at h
  rw [← toM_avgOperator_of_agree G (fun _ => a) (fun _ => b) _ _ (fun _ => rfl) fun _ => rfl]
  exact checkLamMaxUpper_spec _ _ _ (h a a.2 b b.2)

end GameCheck

section Hedging
variable {a b k : Nat}

/-- the operator on `ℂ^a ⊗ ℂ^b` denoted by an exact flat-indexed matrix -/
noncomputable def opOf (Q : EMat (a * b) (a * b)) : Matrix (Fin a × Fin b) (Fin a × Fin b) ℂ := unflat Q.toM

/-- the identification (outputs) × (inputs) ≃ flat index in the implementation's order given by a checked
permutation `σ` of the flat indices -/
noncomputable def arrangement (σ : Fin (a * b) → Fin (a * b)) (hσ : isSurj σ = true) :
    Fin a × Fin b ≃ Fin (a * b) :=
  finProdFinEquiv.trans (Equiv.ofBijective σ (isSurj_sound σ hσ))

theorem toM_submatrix_arrangement (σ : Fin (a * b) → Fin (a * b)) (hσ : isSurj σ = true) (Q : EMat (a * b) (a * b)) :
    Q.toM.submatrix (arrangement σ hσ) (arrangement σ hσ) = unflat (reindex σ Q).toM := by
  rw [toM_reindex]
  rfl

end Hedging

/-- exchange of the two middle bits of a 4-bit label: `(y₁ z₁ y₂ z₂) ↔ (y₁ y₂ z₁ z₂)` -/
def swapMid (p : Fin (4 * 4)) : Fin (4 * 4) :=
  ⟨(8 * bit 4 p.val 0 + 4 * bit 4 p.val 2 + 2 * bit 4 p.val 1 + bit 4 p.val 3) % 16, Nat.mod_lt _ (by decide)⟩

/-- the model's `hedgeSigma2` (order `Y₁X₁Y₂X₂` ↔ `Y₁Y₂X₁X₂`) read as an exchange of output bits -/
theorem swapMid_eq_hedgeSigma2 : swapMid = hedgeSigma2 := rfl

end Toq.C09
