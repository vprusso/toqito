import Toq.Proofs.MatrixOpsTol
import Mathlib.Data.Nat.Sqrt
import Mathlib.Data.Rat.Lemmas
/-!
# `is_diagonally_dominant`: the enclosures of the moduli are sound, and what the verdict of `diagDominantV` means

`np.abs` of a complex entry is a square root; the exact decider encloses every modulus between two rationals
(`sqrtEnclosure`: `⌊√(n·d·4^60)⌋ / (d·2^60)` and that plus `1/(d·2^60)`), sums the enclosures along each row and compares the
enclosure of the gap `|a_ii| − Σ_{j≠i} |a_ij|` with the margin.
-/

namespace Toq.MatrixPreds
open Toq.MatrixOps

/-- squares of the scaled fractions `x / (D·c)` against `N / D`, in natural numbers: over the common denominator `D²c²` the two
    sides are `x²·D` and `N·D·c²·D` -/
theorem scaled_sq_cmp {x N D c : Nat} (hD : 0 < D) (hc : 0 < c) :
    (((x : Rat) / ((D * c : Nat) : Rat)) * ((x : Rat) / ((D * c : Nat) : Rat)) ≤ (N : Rat) / (D : Rat)
        ↔ x * x ≤ N * D * (c * c)) ∧
    ((N : Rat) / (D : Rat) ≤ ((x : Rat) / ((D * c : Nat) : Rat)) * ((x : Rat) / ((D * c : Nat) : Rat))
        ↔ N * D * (c * c) ≤ x * x) := by
  have hD' : (0 : Rat) < D := by exact_mod_cast hD
  have hDc : (0 : Rat) < ((D * c : Nat) : Rat) := by exact_mod_cast Nat.mul_pos hD hc
  have e : (N : Rat) * (((D * c : Nat) : Rat) * ((D * c : Nat) : Rat)) = ((N * D * (c * c) : Nat) : Rat) * D := by
    push_cast; ring
  constructor
  · rw [div_mul_div_comm, div_le_div_iff₀ (mul_pos hDc hDc) hD', e, mul_le_mul_iff_left₀ hD']
    exact_mod_cast Iff.rfl
  · rw [div_mul_div_comm, div_le_div_iff₀ hD' (mul_pos hDc hDc), e, mul_le_mul_iff_left₀ hD']
    exact_mod_cast Iff.rfl

/-- with `q = N/D` and `s = ⌊√(N·D·4^k)⌋` the enclosure is `[s, s or s+1] / (D·2^k)`, and `s² ≤ N·D·4^k < (s+1)²` -/
theorem sqrtEnclosure_spec (q : Rat) (hq : 0 ≤ q) :
    0 ≤ (sqrtEnclosure q).1 ∧ (sqrtEnclosure q).1 ≤ (sqrtEnclosure q).2 ∧
      (sqrtEnclosure q).1 * (sqrtEnclosure q).1 ≤ q ∧ q ≤ (sqrtEnclosure q).2 * (sqrtEnclosure q).2 := by
  unfold sqrtEnclosure
  by_cases h0 : q ≤ 0
  · have : q = 0 := le_antisymm h0 hq
    simp [this]
  simp only [h0, ↓reduceIte]
  generalize (60 : Nat) = k
  have hc : 0 < 2 ^ k := Nat.pow_pos (by omega)
  have h4 : 4 ^ k = 2 ^ k * 2 ^ k := by rw [← Nat.mul_pow]
  have hD : 0 < q.den := q.den_pos
  have hqeq : q = ((q.num.toNat : Nat) : Rat) / (q.den : Rat) := by
    have hnum : 0 ≤ q.num := (Rat.num_pos.mpr (lt_of_not_ge h0)).le
    rw [show ((q.num.toNat : Nat) : Rat) = (q.num : Rat) by exact_mod_cast Int.toNat_of_nonneg hnum]
    exact (Rat.num_div_den q).symm
  rw [h4]
  generalize q.num.toNat = N at hqeq ⊢
  generalize q.den = D at hqeq hD ⊢
  subst hqeq
  generalize hs : Nat.sqrt (N * D * (2 ^ k * 2 ^ k)) = s
  have hs1 : s * s ≤ N * D * (2 ^ k * 2 ^ k) := hs ▸ Nat.sqrt_le _
  have hs2 : N * D * (2 ^ k * 2 ^ k) < (s + 1) * (s + 1) := hs ▸ Nat.lt_succ_sqrt _
  have hdn : (0 : Rat) ≤ ((D * 2 ^ k : Nat) : Rat) := Nat.cast_nonneg _
  have hlo := (scaled_sq_cmp (x := s) hD hc).1.mpr hs1
  by_cases hex : s * s = N * D * (2 ^ k * 2 ^ k)
  · have hhi := (scaled_sq_cmp (x := s) hD hc).2.mpr hex.ge
    simp only [hex, ↓reduceIte]
    exact ⟨div_nonneg (Nat.cast_nonneg s) hdn, le_refl _, hlo, hhi⟩
  · have hhi := (scaled_sq_cmp (x := s + 1) hD hc).2.mpr hs2.le
    simp only [hex, ↓reduceIte]
    exact ⟨div_nonneg (Nat.cast_nonneg s) hdn, div_le_div_of_nonneg_right (by exact_mod_cast Nat.le_succ s) hdn, hlo, hhi⟩

theorem absEnclosure_spec (a : QI) :
    (((absEnclosure a).1 : Rat) : ℝ) ≤ ‖a.toC‖ ∧ ‖a.toC‖ ≤ (((absEnclosure a).2 : Rat) : ℝ) := by
  obtain ⟨h0, h01, hlo, hhi⟩ := sqrtEnclosure_spec _ (QI.nsq_nonneg a)
  have h0' : (0 : ℝ) ≤ (((absEnclosure a).1 : Rat) : ℝ) := Rat.cast_nonneg.mpr h0
  have h1' : (0 : ℝ) ≤ (((absEnclosure a).2 : Rat) : ℝ) := Rat.cast_nonneg.mpr (h0.trans h01)
  rw [mul_self_le_mul_self_iff h0' (norm_nonneg _), mul_self_le_mul_self_iff (norm_nonneg _) h1', ← QI.cast_nsq]
  exact ⟨by exact_mod_cast hlo, by exact_mod_cast hhi⟩

def offLo (A : Mat QI) (i j : Nat) : Rat := if j = i then 0 else (absEnclosure (A.f i j)).1
def offHi (A : Mat QI) (i j : Nat) : Rat := if j = i then 0 else (absEnclosure (A.f i j)).2

/-- the enclosure `[gapLo, gapHi]` of the gap `|a_ii| − Σ_{j ≠ i} |a_ij|` of row `i` -/
def gapLo (A : Mat QI) (i : Nat) : Rat := (absEnclosure (A.f i i)).1 - ∑ j ∈ Finset.range A.c, offHi A i j
def gapHi (A : Mat QI) (i : Nat) : Rat := (absEnclosure (A.f i i)).2 - ∑ j ∈ Finset.range A.c, offLo A i j

theorem offFold_eq (A : Mat QI) (i : Nat) : ∀ c,
    (List.range c).foldl (fun (acc : Rat × Rat) j =>
        if j = i then acc else let e := absEnclosure (A.f i j); (acc.1 + e.1, acc.2 + e.2)) (0, 0)
      = (∑ j ∈ Finset.range c, offLo A i j, ∑ j ∈ Finset.range c, offHi A i j)
  | 0 => by simp
  | c + 1 => by
    rw [List.range_succ, List.foldl_append, offFold_eq A i c, Finset.sum_range_succ, Finset.sum_range_succ]
    simp only [List.foldl_cons, List.foldl_nil, offLo, offHi]
    by_cases h : c = i <;> simp [h]

/-- the true gap of row `i`: `|a_ii| − Σ_{j ≠ i} |a_ij|` -/
noncomputable def rowGap (A : Mat QI) (i : Nat) : ℝ :=
  ‖(A.f i i).toC‖ - ∑ j ∈ Finset.range A.c, (if j = i then 0 else ‖(A.f i j).toC‖)

theorem off_bounds (A : Mat QI) (i j : Nat) :
    ((offLo A i j : Rat) : ℝ) ≤ (if j = i then 0 else ‖(A.f i j).toC‖) ∧
      (if j = i then 0 else ‖(A.f i j).toC‖) ≤ ((offHi A i j : Rat) : ℝ) := by
  unfold offLo offHi
  split
  · simp
  · exact absEnclosure_spec _

theorem rowGap_bounds (A : Mat QI) (i : Nat) :
    ((gapLo A i : Rat) : ℝ) ≤ rowGap A i ∧ rowGap A i ≤ ((gapHi A i : Rat) : ℝ) := by
  unfold rowGap gapLo gapHi
  have hd := absEnclosure_spec (A.f i i)
  have hlo := Finset.sum_le_sum fun j (_ : j ∈ Finset.range A.c) => (off_bounds A i j).1
  have hhi := Finset.sum_le_sum fun j (_ : j ∈ Finset.range A.c) => (off_bounds A i j).2
  push_cast
  exact ⟨by linarith [hd.1], by linarith [hd.2]⟩

/-- the verdict on one row, as `diagDominantV` computes it -/
def rowVerdict (A : Mat QI) (strict : Bool) (μ : Rat) (i : Nat) : Verdict :=
  let lo := gapLo A i
  let hi := gapHi A i
  if lo = hi ∧ lo = 0 then (if strict then Verdict.no else Verdict.yes)
  else if μ ≤ lo then Verdict.yes
  else if hi ≤ -μ then Verdict.no
  else Verdict.unknown

theorem diagDominantV_eq (A : Mat QI) (strict : Bool) (m : Rat) :
    diagDominantV A strict m = if !isSquare A then .no
      else Verdict.all ((List.range A.r).map (rowVerdict A strict (m * (1 + maxAbs1 A)))) := by
  unfold diagDominantV
  by_cases hsq : isSquare A = true
  · simp only [hsq, Bool.not_true, Bool.false_eq_true, ↓reduceIte]
    congr 1
    apply List.map_congr_left
    intro i _
    simp only [offFold_eq]
    -- what is left is the cascade of `rowVerdict` against the model's own: the same text
    rfl
  · simp [hsq]

theorem rowVerdict_cases (A : Mat QI) (strict : Bool) (μ : Rat) (i : Nat) :
    (rowVerdict A strict μ i = .yes → (strict = false ∧ gapLo A i = 0) ∨ μ ≤ gapLo A i) ∧
    (rowVerdict A strict μ i = .no → (strict = true ∧ gapHi A i = 0) ∨ gapHi A i ≤ -μ) := by
  unfold rowVerdict
  simp only []
  split
  · rename_i heq
    cases strict
    · exact ⟨fun _ => Or.inl ⟨rfl, heq.2⟩, nofun⟩
    · exact ⟨nofun, fun _ => Or.inl ⟨rfl, heq.1.symm.trans heq.2⟩⟩
  · split
    · rename_i h; exact ⟨fun _ => Or.inr h, nofun⟩
    · split
      · rename_i h; exact ⟨nofun, fun _ => Or.inr h⟩
      · exact ⟨nofun, nofun⟩

theorem rowVerdict_yes (A : Mat QI) (strict : Bool) (μ : Rat) (hμ : 0 < μ) (i : Nat) (h : rowVerdict A strict μ i = .yes) :
    (strict = true → 0 < rowGap A i) ∧ 0 ≤ rowGap A i := by
  obtain ⟨hlo, _⟩ := rowGap_bounds A i
  have hμ' : (0 : ℝ) < ((μ : Rat) : ℝ) := by exact_mod_cast hμ
  rcases (rowVerdict_cases A strict μ i).1 h with ⟨hs, h0⟩ | hm
  · rw [h0] at hlo
    exact ⟨fun h => by simp [hs] at h, by simpa using hlo⟩
  · have : ((μ : Rat) : ℝ) ≤ rowGap A i := le_trans (by exact_mod_cast hm) hlo
    exact ⟨fun _ => by linarith, by linarith⟩

theorem rowVerdict_no (A : Mat QI) (strict : Bool) (μ : Rat) (hμ : 0 < μ) (i : Nat) (h : rowVerdict A strict μ i = .no) :
    (strict = true → rowGap A i ≤ 0) ∧ (strict = false → rowGap A i < 0) := by
  obtain ⟨_, hhi⟩ := rowGap_bounds A i
  have hμ' : (0 : ℝ) < ((μ : Rat) : ℝ) := by exact_mod_cast hμ
  rcases (rowVerdict_cases A strict μ i).2 h with ⟨hs, h0⟩ | hm
  · rw [h0] at hhi
    exact ⟨fun _ => by simpa using hhi, fun h => by simp [hs] at h⟩
  · have : rowGap A i ≤ ((-μ : Rat) : ℝ) := le_trans hhi (by exact_mod_cast hm)
    push_cast at this
    exact ⟨fun _ => by linarith, fun _ => by linarith⟩

end Toq.MatrixPreds
