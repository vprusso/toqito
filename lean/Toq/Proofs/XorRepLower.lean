import Toq.Proofs.XorRep
import Toq.Proofs.PiKron
/-!
# Parallel repetition of XOR games, lower bound (C08): independent play wins with probability `((1 + β)/2)^r`

From a single-round strategy `(ρ, A_x, B_y)` with bias `β = Σ π (-1)^f ⟨A_x B_y⟩` the `r`-fold product strategy — state `ρ^{⊗r}`,
projectors `⊗_k (1 + (-1)^{a_k} A_{x_k})/2` — is a projective strategy of the `r`-fold repetition and wins with probability
exactly `((1 + β)/2)^r`: in the Fourier expansion of `Toq.Proofs.XorRep` its sign observable for the subset `S` of rounds is
`A_{x_k}` in the rounds of `S` and `1` elsewhere, so the term of `S` is `β^{|S|}`.

`piKron` is the `r`-fold Kronecker product on the index type `Fin r → d`: the name under which the statements of C08 speak of
`Toq.ExtGames.piKron` (`piKron_eq`, by `rfl`), whose lemmas (`Toq/Proofs/PiKron.lean`) therefore apply to it as terms, and by
rewriting after `piKron_eq`.
-/

open Matrix
open scoped ComplexOrder MatrixOrder Kronecker

namespace Toq.Xor

section PiKron
variable {d : Type*} {r : Nat}

def piKron (M : Fin r → Matrix d d ℂ) : Matrix (Fin r → d) (Fin r → d) ℂ := fun i j => ∏ k, M k (i k) (j k)

theorem piKron_eq (M : Fin r → Matrix d d ℂ) : piKron M = ExtGames.piKron M := rfl

end PiKron

section ProjOf
variable {d : Type*} [DecidableEq d]

/-- spectral projector of a ±1 observable on the outcome `a` : `(1 + (-1)^a A)/2` -/
noncomputable def projOf (A : Matrix d d ℂ) (a : Bool) : Matrix d d ℂ := ((1 / 2 : ℝ) : ℂ) • (1 + (sgb a : ℂ) • A)

theorem projOf_herm {A : Matrix d d ℂ} (h : A.IsHermitian) (a : Bool) : (projOf A a).IsHermitian := by
  unfold projOf Matrix.IsHermitian
  rw [conjTranspose_smul, conjTranspose_add, conjTranspose_smul, conjTranspose_one, h.eq]
  simp

theorem projOf_sum (A : Matrix d d ℂ) : ∑ a, projOf A a = 1 := by
  rw [Fintype.sum_bool]
  unfold projOf
  simp only [sgb_false, sgb_true]
  push_cast
  module

variable [Fintype d]

/-- with `A² = 1`: `(1 + sA)(1 + tA) = (1 + st) + (s + t)A`, which is `2(1 + sA)` for `t = s` and `0` for `t = −s` -/
theorem projOf_mul {A : Matrix d d ℂ} (h2 : A * A = 1) (a a' : Bool) :
    projOf A a * projOf A a' = if a = a' then projOf A a else 0 := by
  have key : ∀ s t : ℂ, (1 + s • A) * (1 + t • A) = (1 + s * t) • (1 : Matrix d d ℂ) + (s + t) • A := fun s t => by
    simp only [add_mul, mul_add, Matrix.one_mul, Matrix.mul_one, smul_mul_smul_comm, h2]
    module
  have hs : (sgb a : ℂ) * (sgb a : ℂ) = 1 := by exact_mod_cast sgb_mul_self a
  unfold projOf
  rw [smul_mul_smul_comm, key]
  split
  · next h => subst h; rw [hs]; push_cast; module
  · next h => rw [sgb_of_ne h, Complex.ofReal_neg, mul_neg, hs]; module

theorem commute_projOf {A M : Matrix d d ℂ} (h : Commute M A) (a : Bool) : Commute M (projOf A a) :=
  ((Commute.one_right M).add_right (h.smul_right _)).smul_right _

theorem projOf_comm {A B : Matrix d d ℂ} (h : A * B = B * A) (a b : Bool) :
    projOf A a * projOf B b = projOf B b * projOf A a :=
  commute_projOf (commute_projOf (show Commute B A from h.symm) a).symm b

end ProjOf

section ProductStrategy
variable {X Y : Type*} {d : Type*} [DecidableEq d] {r : Nat}

/-- Alice's (or Bob's) projectors in the product strategy: `⊗_k projOf (A (x k)) (a k)` -/
noncomputable def prodProj {Z : Type*} (A : Z → Matrix d d ℂ) (x : Fin r → Z) (a : Fin r → Bool) :
    Matrix (Fin r → d) (Fin r → d) ℂ := piKron fun k => projOf (A (x k)) (a k)

theorem prodProj_herm {Z : Type*} {A : Z → Matrix d d ℂ} (hA : ∀ z, (A z).IsHermitian) (x : Fin r → Z) (a : Fin r → Bool) :
    (prodProj A x a).IsHermitian :=
  (ExtGames.piKron_conjTranspose _).trans (congrArg piKron (funext fun _ => projOf_herm (hA _) _))

theorem prodProj_sum {Z : Type*} (A : Z → Matrix d d ℂ) (x : Fin r → Z) : ∑ a, prodProj A x a = 1 := by
  simp only [prodProj, piKron_eq]
  rw [ExtGames.piKron_sum (fun k a => projOf (A (x k)) a)]
  simp only [projOf_sum]
  exact ExtGames.piKron_one

variable [Fintype d]

/-- different answer strings differ in some round, where the product of the factors vanishes -/
theorem prodProj_mul {Z : Type*} {A : Z → Matrix d d ℂ} (hA : ∀ z, A z * A z = 1) (x : Fin r → Z) (a a' : Fin r → Bool) :
    prodProj A x a * prodProj A x a' = if a = a' then prodProj A x a else 0 := by
  simp only [prodProj, piKron_eq]
  rw [ExtGames.piKron_mul]
  split
  · next he => subst he; exact congrArg ExtGames.piKron (funext fun k => by rw [projOf_mul (hA _), if_pos rfl])
  · next he =>
    obtain ⟨k, hk⟩ := Function.ne_iff.mp he
    exact ExtGames.piKron_zero_of _ k (by rw [projOf_mul (hA _), if_neg hk])

theorem prodProj_comm {Z W : Type*} {A : Z → Matrix d d ℂ} {B : W → Matrix d d ℂ} (h : ∀ z w, A z * B w = B w * A z)
    (x : Fin r → Z) (a : Fin r → Bool) (y : Fin r → W) (b : Fin r → Bool) :
    prodProj A x a * prodProj B y b = prodProj B y b * prodProj A x a := by
  simp only [prodProj, piKron_eq]
  rw [ExtGames.piKron_mul, ExtGames.piKron_mul]
  exact congrArg ExtGames.piKron (funext fun k => projOf_comm (h _ _) _ _)

theorem isProjStrategy_prod {ρ : Matrix d d ℂ} {A : X → Matrix d d ℂ} {B : Y → Matrix d d ℂ} (h : IsStrategy ρ A B) :
    IsProjStrategy (piKron fun _ : Fin r => ρ) (prodProj A) (prodProj B) where
  psd := ExtGames.piKron_psd _ fun _ => h.psd
  tr_one := by rw [piKron_eq, ExtGames.piKron_trace]; simp [h.tr_one]
  P_herm := prodProj_herm h.A_herm
  P_orth := prodProj_mul h.A_sq
  P_sum := prodProj_sum A
  Q_herm := prodProj_herm h.B_herm
  Q_orth := prodProj_mul h.B_sq
  Q_sum := prodProj_sum B
  comm := fun x a y b => prodProj_comm h.comm x a y b

end ProductStrategy

section ProductWins
variable {X Y : Type*} {d : Type*} [DecidableEq d] {r : Nat}

theorem sum_sgb_smul_projOf (A : Matrix d d ℂ) : ∑ a, (sgb a : ℂ) • projOf A a = A := by
  rw [Fintype.sum_bool]
  unfold projOf
  simp only [sgb_false, sgb_true]
  push_cast
  module

theorem realComb_chi_prodProj {Z : Type*} (S : Finset (Fin r)) (A : Z → Matrix d d ℂ) (x : Fin r → Z) :
    realComb (chi S) (prodProj A x) = piKron fun k => if k ∈ S then A (x k) else 1 := by
  have e : ∀ a : Fin r → Bool, ((chi S a : ℝ) : ℂ) • prodProj A x a
      = piKron fun k => ((if k ∈ S then sgb (a k) else 1 : ℝ) : ℂ) • projOf (A (x k)) (a k) := fun a => by
    rw [piKron_eq, ExtGames.piKron_smul, ← Complex.ofReal_prod, Finset.prod_ite_mem_eq]
    rfl
  unfold realComb
  simp only [e]
  simp only [piKron_eq]
  rw [ExtGames.piKron_sum (fun k a => ((if k ∈ S then sgb a else 1 : ℝ) : ℂ) • projOf (A (x k)) a)]
  refine congrArg ExtGames.piKron (funext fun k => ?_)
  split
  · exact sum_sgb_smul_projOf _
  · simp only [Complex.ofReal_one, one_smul, projOf_sum]

variable [Fintype d]

theorem corrQ_prod {ρ : Matrix d d ℂ} {A : X → Matrix d d ℂ} {B : Y → Matrix d d ℂ} (h : IsStrategy ρ A B)
    (S : Finset (Fin r)) (x : Fin r → X) (y : Fin r → Y) :
    corrQ (piKron fun _ : Fin r => ρ) (fun x => realComb (chi S) (prodProj A x)) (fun y => realComb (chi S) (prodProj B y)) x y
      = ∏ k, if k ∈ S then corrQ ρ A B (x k) (y k) else 1 := by
  have hreal : ∀ k, (ρ * (if k ∈ S then A (x k) else 1) * (if k ∈ S then B (y k) else 1)).trace
      = ((if k ∈ S then corrQ ρ A B (x k) (y k) else 1 : ℝ) : ℂ) := by
    intro k
    split
    · apply Complex.ext
      · rfl
      · rw [Complex.ofReal_im, Matrix.mul_assoc]
        apply h.psd.isHermitian.trace_mul_im_eq_zero
        rw [Matrix.IsHermitian, conjTranspose_mul, (h.A_herm _).eq, (h.B_herm _).eq]
        exact (h.comm _ _).symm
    · rw [Matrix.mul_one, Matrix.mul_one, h.tr_one, Complex.ofReal_one]
  show ((piKron fun _ : Fin r => ρ) * realComb (chi S) (prodProj A x) * realComb (chi S) (prodProj B y)).trace.re = _
  rw [realComb_chi_prodProj, realComb_chi_prodProj]
  simp only [piKron_eq]
  rw [ExtGames.piKron_mul, ExtGames.piKron_mul, ExtGames.piKron_trace]
  simp only [hreal]
  rw [← Complex.ofReal_prod, Complex.ofReal_re]

theorem sum_sum_pi_prod {Z W : Type*} [Fintype Z] [Fintype W] (F : Fin r → Z → W → ℝ) :
    ∑ z : Fin r → Z, ∑ w : Fin r → W, ∏ k, F k (z k) (w k) = ∏ k, ∑ z, ∑ w, F k z w := by
  simp only [Fintype.prod_sum]

variable [Fintype X] [Fintype Y]

theorem andWin_prod (π : X → Y → ℝ) (f : X → Y → Bool) (hπ1 : ∑ x, ∑ y, π x y = 1)
    {ρ : Matrix d d ℂ} {A : X → Matrix d d ℂ} {B : Y → Matrix d d ℂ} (h : IsStrategy ρ A B) :
    andWin (r := r) π f (piKron fun _ => ρ) (prodProj A) (prodProj B)
      = ((1 + ∑ x, ∑ y, costB π f x y * corrQ ρ A B x y) / 2) ^ r := by
  -- the term of `S` in the Fourier expansion factorises over the rounds: the bias in the rounds of `S`, `Σπ = 1` elsewhere
  have hterm : ∀ S : Finset (Fin r), ∑ x, ∑ y, piCost (roundCost π f S) x y *
      corrQ (piKron fun _ : Fin r => ρ) (fun x => realComb (chi S) (prodProj A x)) (fun y => realComb (chi S) (prodProj B y)) x y
      = (∑ x, ∑ y, costB π f x y * corrQ ρ A B x y) ^ S.card := by
    intro S
    simp only [corrQ_prod h, piCost, ← Finset.prod_mul_distrib]
    rw [sum_sum_pi_prod (fun k x y => roundCost π f S k x y * if k ∈ S then corrQ ρ A B x y else 1), ← Finset.prod_const,
      ← Finset.prod_ite_mem_eq S]
    refine Finset.prod_congr rfl fun k _ => ?_
    unfold roundCost
    split
    · rfl
    · simpa only [mul_one] using hπ1
  rw [andWin_fourier, Finset.sum_congr rfl fun S _ => hterm S, sum_powerset_pow, ← mul_pow]
  congr 1
  ring

end ProductWins

section CheckerRepLower
open EMat
variable {m n k : Nat}

/-- independent play of the strategy behind an accepted primal certificate of the single game: a projective strategy of the
    `r`-fold repetition that wins with exactly the value `quantum_value` reports for `reps = r` at that certificate -/
theorem checkXorPrimal_repetition_proj (prob : Nat → Nat → Rat) (pred : Nat → Nat → Nat) (hp1 : totalProb m n prob = 1)
    (Γ : EMat (m + n) (m + n)) (L : EMat (m + n) k) (lo : Rat) (h : checkXorPrimal m n (dMat prob pred) Γ L = some lo)
    (r : Nat) :
    ∃ (d : Type) (_ : Fintype d) (_ : DecidableEq d) (ρ : Matrix d d ℂ)
      (P : (Fin r → Fin m) → (Fin r → Bool) → Matrix d d ℂ) (Q : (Fin r → Fin n) → (Fin r → Bool) → Matrix d d ℂ),
      IsProjStrategy ρ P Q ∧ andWin (castD prob) (predBit pred) ρ P Q = ((xorValue (2 * lo) r : Rat) : ℝ) := by
  obtain ⟨c, ⟨d, hF, hD, ρ, A, B, hs, hc⟩, hv⟩ := checkXorPrimal_quantum (dMat prob pred) Γ L lo h
  refine ⟨Fin r → d, inferInstance, inferInstance, piKron fun _ => ρ, prodProj A, prodProj B, isProjStrategy_prod hs, ?_⟩
  rw [andWin_prod (castD prob) (predBit pred) (castD_sum_eq_one hp1) hs, ← castD_dMat]
  simp only [hc, hv, xorValue_two_mul]
  push_cast
  congr 1
  ring

end CheckerRepLower

end Toq.Xor
