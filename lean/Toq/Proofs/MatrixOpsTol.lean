import Toq.Model.MatrixPredsTol
import Toq.Proofs.MatrixOps
import Toq.Proofs.RatReal
/-!
# The tolerance-level mirrors of `Toq/Model/MatrixPredsTol.lean`

* `closeQ` is `QI.closeQ` (`Proofs/RatReal.lean`), NumPy's `|a − b| ≤ atol + rtol·|b|` over the reals; `not_closeQ_of_far`: the
  margin `m·(1+scale)` lies outside it when `TolOK m rtol atol`.
* `eqV_yes_allcloseF` / `eqV_no_allcloseF`: a `yes` of the three-valued equation decider forces `np.allclose` to hold for all
  tolerances; a `no` (violation by `margin·(1+scale)`) forces it to fail whenever `4·rtol ≤ margin`, `4·atol ≤ margin`.
* `Forces`: that relation between a verdict and a Boolean, with its closure under the squareness guard (`SqEq.forces` for the
  predicates that are one guarded equation), conjunction and conditional tests; the agreement of each predicate with its mirror
  (`Toq/Properties/C16.lean`, Part 5) is built from these.
-/

namespace Toq.MatrixPreds
open Toq.MatrixOps

/-- conditions under which the margin `m` of the three-valued deciders dominates the tolerances -/
structure TolOK (m rtol atol : Rat) : Prop where
  m_pos : 0 < m
  rtol_nonneg : 0 ≤ rtol
  atol_nonneg : 0 ≤ atol
  rtol_le : 4 * rtol ≤ m
  atol_le : 4 * atol ≤ m

theorem closeQ_eq (a b : QI) (rtol atol : Rat) : closeQ a b rtol atol = QI.closeQ a b rtol atol := rfl

/-- the margin is `m + m·S`, and `2·atol < m`, `2·rtol ≤ m` -/
theorem not_closeQ_of_far {a b : QI} {m S rtol atol : Rat} (hok : TolOK m rtol atol) (hb : b.abs1 ≤ S)
    (hfar : m * (1 + S) ≤ (a - b).abs1) : closeQ a b rtol atol = false :=
  (closeQ_eq a b rtol atol).trans (QI.not_closeQ_of_affine_margin hok.rtol_nonneg hok.atol_nonneg hb (α := m) (ρ := m)
    (by linarith [hok.m_pos, hok.atol_le]) (by linarith [hok.rtol_nonneg, hok.rtol_le]) (by linarith))

theorem allcloseQ_iff (L R : Mat QI) (rtol atol : Rat) :
    allcloseQ L R rtol atol = true ↔ ∀ i j, i < L.r → j < L.c → closeQ (L.f i j) (R.f i j) rtol atol = true := by
  unfold allcloseQ
  rw [allBelow_allBelow_iff]

theorem allcloseF_iff (L R : Mat QI) (rtol atol : Rat) (hr : R.r = L.r) (hc : R.c = L.c) :
    allcloseF L R rtol atol = true ↔ ∀ i j, i < L.r → j < L.c → closeQ (L.f i j) (R.f i j) rtol atol = true :=
  (allcloseQ_iff _ _ _ _).trans (forall_force_iff L R hr hc (closeQ · · rtol atol = true))

theorem eqV_yes_allcloseF (L R : Mat QI) (m rtol atol : Rat) (hr : R.r = L.r) (hc : R.c = L.c)
    (h : eqV L R m = .yes) : allcloseF L R rtol atol = true := by
  rw [allcloseF_iff L R rtol atol hr hc]
  intro i j hi hj
  rw [(eqV_yes_iff L R m hr hc).mp h i j hi hj]
  exact (closeQ_eq _ _ _ _).trans (QI.closeQ_self _ _ _)

theorem eqV_no_allcloseF (L R : Mat QI) (m rtol atol : Rat) (hr : R.r = L.r) (hc : R.c = L.c) (hok : TolOK m rtol atol)
    (h : eqV L R m = .no) : allcloseF L R rtol atol = false := by
  obtain ⟨S, hS, i, j, hi, hj, hfar⟩ := eqV_no_far L R m hr hc h
  by_contra hne
  have hall : allcloseF L R rtol atol = true := by simpa using hne
  have hij := (allcloseF_iff L R rtol atol hr hc).mp hall i j hi hj
  rw [not_closeQ_of_far hok (hS i j hi hj).2 hfar] at hij
  exact Bool.false_ne_true hij

def Forces (m rtol atol : Rat) (v : Verdict) (t : Bool) : Prop :=
  (v = .yes → t = true) ∧ (TolOK m rtol atol → v = .no → t = false)

theorem Forces.eqV {m rtol atol : Rat} (L R : Mat QI) (hr : R.r = L.r) (hc : R.c = L.c) :
    Forces m rtol atol (eqV L R m) (allcloseF L R rtol atol) :=
  ⟨eqV_yes_allcloseF L R m rtol atol hr hc, eqV_no_allcloseF L R m rtol atol hr hc⟩

theorem Forces.and {m rtol atol : Rat} {v₁ v₂ : Verdict} {t₁ t₂ : Bool} (h₁ : Forces m rtol atol v₁ t₁)
    (h₂ : Forces m rtol atol v₂ t₂) : Forces m rtol atol (v₁.and v₂) (t₁ && t₂) := by
  constructor
  · intro h
    rw [Verdict.and_yes_iff] at h
    rw [h₁.1 h.1, h₂.1 h.2, Bool.and_self]
  · intro hok h
    rw [Verdict.and_no_iff] at h
    rcases h with h | h
    · rw [h₁.2 hok h, Bool.false_and]
    · rw [h₂.2 hok h, Bool.and_false]

theorem Forces.guard {m rtol atol : Rat} (g : Bool) {v : Verdict} {t : Bool} (h : g = false → Forces m rtol atol v t) :
    Forces m rtol atol (if g then .no else v) (if g then false else t) := by
  cases g
  · simpa using h rfl
  · simp [Forces]

theorem Forces.squareGuard {m rtol atol : Rat} (A : Mat QI) {v : Verdict} {t : Bool} (h : A.r = A.c → Forces m rtol atol v t) :
    Forces m rtol atol (if !isSquare A then .no else v) (if !isSquare A then false else t) :=
  Forces.guard _ fun hg => h ((isSquare_iff A).mp (by simpa using hg))

theorem SqEq.forces {m rtol atol : Rat} {A L R : Mat QI} (h : SqEq A L R) :
    Forces m rtol atol (if !isSquare A then .no else MatrixPreds.eqV L R m)
      (if !isSquare A then false else allcloseF L R rtol atol) :=
  Forces.squareGuard A fun hsq => Forces.eqV L R (h.r_eq hsq) (h.c_eq hsq)

theorem Forces.ite {m rtol atol : Rat} (c : Prop) [Decidable c] {v : Verdict} {t : Bool} (h : Forces m rtol atol v t) :
    Forces m rtol atol (if c then v else .yes) (if c then t else true) := by
  by_cases hc : c
  · simpa [hc] using h
  · simp [Forces, hc]

/-- the exact entrywise test `np.all(mat >= 0)`: no tolerance is involved -/
theorem Forces.nonnegative (m rtol atol : Rat) (A : Mat QI) : Forces m rtol atol (nonnegativeV A) (nonnegT A) := by
  unfold nonnegativeV nonnegT Forces
  cases isRealMat A <;> simp [Verdict.ofBool_yes_iff, Verdict.ofBool_no_iff]

end Toq.MatrixPreds
