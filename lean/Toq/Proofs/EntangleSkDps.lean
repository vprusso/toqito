import Toq.Model.EntangleSkDps
import Toq.Proofs.EntangleSk
/-!
# Soundness of the two-copy (Bose-symmetric, PPT) upper certificate for the S(1) operator norm (C14)

For a product vector `x ⊗ y` the vector `w = (x ⊗ y) ⊗ y` on `(A B₁) | B₂` is invariant under the exchange `σ` of the two copies, hence
`⟨w|Π M Π|w⟩ = ⟨w|M|w⟩` and `⟨w|(1 − Π)|w⟩ = 0`; `w` is a product vector of the cut `(A B₁) | B₂`, hence `⟨w|Y^{T_{B₂}}|w⟩ ≥ 0` for `Y ⪰ 0`; and
`⟨w|X ⊗ 1|w⟩ = ⟨x⊗y|X|x⊗y⟩·‖y‖²`.  So `Π (lam·1 − X ⊗ 1 − Y^Γ) Π + t (1 − Π) ⪰ 0` forces `⟨x⊗y|X|x⊗y⟩ ≤ lam ‖x⊗y‖²`
(`expect_le_of_dps_dual`).  The bridge lemmas read the executable `symBB` / `slackDps` on pairs `Fin (dA·dB) × Fin dB`.
-/

open Matrix
open scoped ComplexOrder MatrixOrder Kronecker

set_option linter.unusedSectionVars false

namespace Toq.Entangle
open Toq.Sep

section Abstract
variable {ι : Type} [Fintype ι] [DecidableEq ι]

theorem expect_submatrix_of_invariant (M : Matrix ι ι ℂ) (σ τ : ι ≃ ι) (w : ι → ℂ)
    (hσ : ∀ i, w (σ i) = w i) (hτ : ∀ i, w (τ i) = w i) : expect (M.submatrix σ τ) w = expect M w := by
  -- `(M.submatrix σ τ) w = (M (w ∘ τ⁻¹)) ∘ σ` with `w ∘ τ⁻¹ = w`; then `w̄ = w̄ ∘ σ` and the common `σ` drops out of the dot product
  have hτ' : w ∘ τ.symm = w := funext fun i => by rw [Function.comp_apply, ← hτ (τ.symm i), τ.apply_symm_apply]
  have hσ' : star w ∘ σ = star w := funext fun i => congrArg star (hσ i)
  unfold expect
  rw [Matrix.submatrix_mulVec_equiv, hτ', ← hσ', comp_equiv_dotProduct_comp_equiv, hσ']

/-- the average of `M` over relabelling rows and / or columns by `σ`.  For an involution `σ` this is `Π M Π` with the projector `Π = (1 + P_σ)/2`
    (`P_σ` the permutation matrix); only the averaging formula is used: on a `σ`-invariant vector all four terms have the same expectation -/
noncomputable def symC (σ : ι ≃ ι) (M : Matrix ι ι ℂ) : Matrix ι ι ℂ :=
  ((1 / 4 : ℝ) : ℂ) • (M + M.submatrix σ (Equiv.refl ι) + M.submatrix (Equiv.refl ι) σ + M.submatrix σ σ)

theorem expect_symC (σ : ι ≃ ι) (M : Matrix ι ι ℂ) (w : ι → ℂ) (hσ : ∀ i, w (σ i) = w i) :
    expect (symC σ M) w = expect M w := by
  have h0 : ∀ i, w ((Equiv.refl ι) i) = w i := fun _ => rfl
  unfold symC
  rw [expect_real_smul, expect_add, expect_add, expect_add, expect_submatrix_of_invariant M σ _ w hσ h0,
    expect_submatrix_of_invariant M _ σ w h0 hσ, expect_submatrix_of_invariant M σ σ w hσ hσ]
  ring

end Abstract

section Pairs
variable {P n : Type} [Fintype P] [Fintype n] [DecidableEq P] [DecidableEq n]

theorem vnorm2_tprod (u : P → ℂ) (y : n → ℂ) : vnorm2 (tprod u y) = vnorm2 u * vnorm2 y := by
  unfold vnorm2 tprod
  rw [Fintype.sum_prod_type, Finset.sum_mul_sum]
  refine Finset.sum_congr rfl fun a _ => Finset.sum_congr rfl fun b _ => ?_
  exact Complex.normSq_mul _ _

theorem expect_kron_one_tprod (X : Matrix P P ℂ) (u : P → ℂ) (y : n → ℂ) :
    expect (X ⊗ₖ (1 : Matrix n n ℂ)) (tprod u y) = expect X u * vnorm2 y := by
  rw [expect_eq_trace, expect_eq_trace, ketbra_tprod, ← Matrix.mul_kronecker_mul, Matrix.trace_kronecker, Matrix.one_mul,
    ketbra_eq_proj y, trace_proj, ← vnorm2_eq_nsq, Complex.re_mul_ofReal]

/-- `σ` is any relabelling of `P × n` that leaves `u ⊗ y` invariant; for `P = A B₁`, `n = B₂`, `u = x ⊗ y` it is the exchange of the two copies. -/
theorem expect_le_of_dps_dual (X : Matrix P P ℂ) (Y : Matrix (P × n) (P × n) ℂ) (lam t : ℝ) (σ : P × n ≃ P × n)
    (hY : Y.PosSemidef)
    (hS : (symC σ ((lam : ℂ) • (1 : Matrix (P × n) (P × n) ℂ) - X ⊗ₖ (1 : Matrix n n ℂ) - pT Y
            - (t : ℂ) • (1 : Matrix (P × n) (P × n) ℂ)) + (t : ℂ) • (1 : Matrix (P × n) (P × n) ℂ)).PosSemidef)
    (u : P → ℂ) (y : n → ℂ) (hσ : ∀ i, tprod u y (σ i) = tprod u y i) :
    expect X u * vnorm2 y ≤ lam * (vnorm2 u * vnorm2 y) := by
  -- on the invariant vector `Π` acts as the identity and the two `t` terms cancel: the slack of the PPT relaxation of `X ⊗ 1` remains
  have h := expect_nonneg hS (tprod u y)
  rw [expect_add, expect_symC σ _ _ hσ, expect_sub _ ((t : ℂ) • 1), sub_add_cancel] at h
  have := expect_le_of_dual (Φ := pT) trace_pTR_mul hY (pT_ketbra_tprod_posSemidef u y) h
  rwa [expect_kron_one_tprod, vnorm2_tprod] at this

end Pairs

section Flat
open EMat
variable {dA dB p q : Nat}

/-- the exchange of the two copies on pairs `(A B₁ flat, B₂)`: `((a,b),c) ↦ ((a,c),b)` -/
def swapE (dA dB : Nat) : Fin (dA * dB) × Fin dB ≃ Fin (dA * dB) × Fin dB where
  toFun pc := (pair (fstI pc.1) pc.2, sndI pc.1)
  invFun pc := (pair (fstI pc.1) pc.2, sndI pc.1)
  left_inv pc := by simp
  right_inv pc := by simp

@[simp] theorem swapE_apply (pp : Fin (dA * dB)) (c : Fin dB) : swapE dA dB (pp, c) = (pair (fstI pp) c, sndI pp) := rfl

theorem swapBB_pair (pp : Fin (dA * dB)) (c : Fin dB) :
    swapBB (pair pp c) = pair (pair (fstI pp) c) (sndI pp) := by
  simp only [swapBB, fstI_pair, sndI_pair]

theorem unflat_symBB (M : EMat ((dA * dB) * dB) ((dA * dB) * dB)) :
    unflat (symBB M).toM = symC (swapE dA dB) (unflat M.toM) := by
  -- entry by entry both sides are a quarter of the same four entries; what `norm_num` is left with is the cast of `1/4`
  ext ⟨pp, c⟩ ⟨pp', c'⟩
  simp only [symBB, symC, unflat_apply, EMat.toM_apply, EMat.get_ofFn, swapBB_pair, QI.toC_smul, QI.toC_add, Matrix.smul_apply,
    Matrix.add_apply, Matrix.submatrix_apply, swapE_apply, Equiv.refl_apply, smul_eq_mul]
  norm_num

theorem unflat_dpsBody (X : EMat (dA * dB) (dA * dB)) (Y : EMat ((dA * dB) * dB) ((dA * dB) * dB)) (lam : Rat) :
    unflat (dpsBody X Y lam).toM
      = ((lam : ℝ) : ℂ) • (1 : Matrix (Fin (dA * dB) × Fin dB) (Fin (dA * dB) × Fin dB) ℂ)
        - X.toM ⊗ₖ (1 : Matrix (Fin dB) (Fin dB) ℂ) - pT (unflat Y.toM) := by
  unfold dpsBody
  rw [unflat_scalar_sub_sub, unflat_ptB, unflat_kron, EMat.toM_one, ← pT_eq_ptBM]

theorem unflat_slackDps (X : EMat (dA * dB) (dA * dB)) (Y : EMat ((dA * dB) * dB) ((dA * dB) * dB)) (lam t : Rat) :
    unflat (slackDps X Y lam t).toM
      = symC (swapE dA dB) (((lam : ℝ) : ℂ) • (1 : Matrix (Fin (dA * dB) × Fin dB) (Fin (dA * dB) × Fin dB) ℂ)
          - X.toM ⊗ₖ (1 : Matrix (Fin dB) (Fin dB) ℂ) - pT (unflat Y.toM)
          - ((t : ℝ) : ℂ) • (1 : Matrix (Fin (dA * dB) × Fin dB) (Fin (dA * dB) × Fin dB) ℂ))
        + ((t : ℝ) : ℂ) • (1 : Matrix (Fin (dA * dB) × Fin dB) (Fin (dA * dB) × Fin dB) ℂ) := by
  unfold slackDps
  rw [EMat.toM_add, unflat_add, unflat_symBB, EMat.toM_sub, unflat_sub, unflat_dpsBody, EMat.toM_scalar, unflat_smul, unflat_one]

theorem checkSkUpperDps_eq {X : EMat (dA * dB) (dA * dB)} {Y : EMat ((dA * dB) * dB) ((dA * dB) * dB)}
    {LY : EMat ((dA * dB) * dB) p} {lam t : Rat} {LS : EMat ((dA * dB) * dB) q} {hi : Rat}
    (h : checkSkUpperDps X Y LY lam t LS = some hi) :
    hi = lam ∧ psdCert Y LY = true ∧ psdCert (slackDps X Y lam t) LS = true :=
  guard_eq_some h

/-- the flat vector of `x ⊗ y` -/
def flatProd (x : Fin dA → ℂ) (y : Fin dB → ℂ) : Fin (dA * dB) → ℂ := fun i => x (fstI i) * y (sndI i)

theorem flatV_flatProd (x : Fin dA → ℂ) (y : Fin dB → ℂ) : flatV (flatProd x y) = tprod x y := by
  ext ⟨a, b⟩
  simp [flatV, flatProd, tprod]

theorem tprod_flatProd_swapE (x : Fin dA → ℂ) (y : Fin dB → ℂ) (i : Fin (dA * dB) × Fin dB) :
    tprod (flatProd x y) y (swapE dA dB i) = tprod (flatProd x y) y i := by
  obtain ⟨pp, c⟩ := i
  simp only [swapE_apply, tprod, flatProd, fstI_pair, sndI_pair]
  ring

theorem skValues_le_of_dps_cert {X : EMat (dA * dB) (dA * dB)} {Y : EMat ((dA * dB) * dB) ((dA * dB) * dB)}
    {LY : EMat ((dA * dB) * dB) p} {lam t : Rat} {LS : EMat ((dA * dB) * dB) q}
    (hY : psdCert Y LY = true) (hS : psdCert (slackDps X Y lam t) LS = true) :
    ∀ r ∈ skValues 1 (unflat X.toM), r ≤ (lam : ℝ) := by
  rintro r ⟨v, hv, hn, rfl⟩
  obtain ⟨x, y, rfl⟩ := (schmidtLE_one_iff v).mp hv
  have hSp := unflat_psd_of_cert hS
  rw [unflat_slackDps] at hSp
  have key := expect_le_of_dps_dual X.toM (unflat Y.toM) (lam : ℝ) (t : ℝ) (swapE dA dB) (unflat_psd_of_cert hY) hSp (flatProd x y) y
    (tprod_flatProd_swapE x y)
  rw [expect_flat, vnorm2_flat (flatProd x y), flatV_flatProd, hn, one_mul] at key
  -- `‖x ⊗ y‖ = 1` forces `y ≠ 0`, so `‖y‖²` cancels
  have hy : 0 < vnorm2 y := lt_of_le_of_ne (nsq_nonneg y) fun h0 => by
    rw [vnorm2_tprod, ← h0, mul_zero] at hn
    exact zero_ne_one hn
  exact le_of_mul_le_mul_right key hy

end Flat
end Toq.Entangle
