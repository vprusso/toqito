import Toq.Model.SepCascade
import Toq.Proofs.Sep
import Toq.Proofs.RatReal
/-!
# Lemmas about the decision logic of `is_separable` / `has_symmetric_extension` (`Toq/Model/SepCascade.lean`)

The cascade is a list of stages `if c then some (branch, verdict) else none` read by `firstSome`; every question about it is
answered stage by stage through `check_eq_some`.  The rational comparisons of the model (`gtAddSqrt`, `geSubSqrt`,
the index arithmetic of the spectrum test) are tied to the real-number inequalities of the literature.
-/

open Matrix
open scoped ComplexOrder MatrixOrder Kronecker

namespace Toq.Sep
open EMat

theorem firstSome_mem {α : Type} : ∀ {l : List (Option α)} {a : α}, firstSome l = some a → some a ∈ l
  | [], _, h => by simp [firstSome] at h
  | some b :: l, a, h => by
      simp only [firstSome, Option.some.injEq] at h
      subst h
      exact List.mem_cons_self
  | none :: l, a, h => by
      simp only [firstSome] at h
      exact List.mem_cons_of_mem _ (firstSome_mem h)

theorem firstSome_none_cons {α : Type} (l : List (Option α)) : firstSome (none :: l) = firstSome l := rfl
theorem firstSome_some_cons {α : Type} (a : α) (l : List (Option α)) : firstSome (some a :: l) = some a := rfl

theorem ite_some_true_ne_false {c : Prop} [Decidable c] {b b' : Branch} :
    (if c then some (b, true) else none) ≠ some (b', false) := fun h => by
  cases (check_eq_some.mp h).2

theorem ite_some_false_eq {c : Prop} [Decidable c] {b b' : Branch} :
    (if c then some (b, false) else none) = some (b', false) ↔ b' = b ∧ c := by
  rw [check_eq_some, Prod.mk.injEq, and_iff_left rfl, and_comm, eq_comm]

theorem stage_false {dA dB : Nat} {tol : Rat} {q : Quant} {b : Branch}
    (h : some (b, false) ∈ stages dA dB tol q) :
    (b = .pptReject ∧ q.ppt = false) ∨
    (b = .pptSufficient ∧ q.ppt = false) ∨
    (b = .realignment ∧ 1 + tol < q.realignNorm) ∨
    (b = .zhang ∧ gtAddSqrt q.zhangNorm tol (zhangRadicand q) = true) ∨
    (b = .rank4 ∧ q.rank = 4 ∧ dA = 3 ∧ dB = 3 ∧ max (tol * tol) eps34 ≤ q.absF) ∨
    (b = .haMaps ∧ dA = 3 ∧ dB = 3 ∧ ∃ x ∈ q.haPsd, x = false) := by
  simp only [stages, List.mem_cons, List.not_mem_nil, or_false, eq_comm (a := some (b, false))] at h
  rcases h with h | h | h | h | h | h | h | h | h | h | h | h | h | h
  · exact (ite_some_true_ne_false h).elim                   -- `stDim1`
  · exact .inl (ite_some_false_eq.mp h)                     -- `stPpt`
  · obtain ⟨rfl, hp⟩ := Prod.mk.inj (check_eq_some.mp h).2   -- `stSmall` returns `q.ppt`
    exact .inr (.inl ⟨rfl, hp⟩)
  · exact .inr (.inr (.inl (ite_some_false_eq.mp h)))       -- `stRealign`
  · exact .inr (.inr (.inr (.inl (ite_some_false_eq.mp h)))) -- `stZhang`
  · exact (ite_some_true_ne_false h).elim                   -- `stSpectrum`
  · exact (ite_some_true_ne_false h).elim                   -- `stHankel`
  · exact (ite_some_true_ne_false h).elim                   -- `stHomothetic`
  · exact (ite_some_true_ne_false h).elim                   -- `stLemma1`
  · obtain ⟨⟨hr, hmin, hmax⟩, e⟩ := check_eq_some.mp h       -- `stRank4` returns `|F| < max(tol², ε^{3/4})`
    obtain ⟨rfl, hF⟩ := Prod.mk.inj e
    exact .inr (.inr (.inr (.inr (.inl ⟨rfl, hr, by omega, by omega, not_lt.mp (of_decide_eq_false hF)⟩))))
  · exact (ite_some_true_ne_false h).elim                   -- `stBall`
  · exact (ite_some_true_ne_false h).elim                   -- `stRank1`
  · exact (ite_some_true_ne_false h).elim                   -- `stOsr`
  · obtain ⟨rfl, hA, hB, hany⟩ := ite_some_false_eq.mp h    -- `stHa`
    obtain ⟨x, hx, hx2⟩ := List.any_eq_true.mp hany
    exact .inr (.inr (.inr (.inr (.inr ⟨rfl, hA, hB, x, hx, by simpa using hx2⟩))))

theorem mem_stages_of_sepCascade {dA dB : Nat} {tol : Rat} {q : Quant} {b : Branch} {v : Bool}
    (h : sepCascade dA dB tol q = .verdict b v) : some (b, v) ∈ stages dA dB tol q := by
  unfold sepCascade at h
  cases hf : firstSome (stages dA dB tol q) with
  | none => rw [hf] at h; cases h
  | some r => rw [hf] at h; cases h; exact firstSome_mem hf

theorem sepCascade_of_dim1 {dA dB : Nat} (tol : Rat) (q : Quant) (h : min dA dB = 1) :
    sepCascade dA dB tol q = .verdict .dim1 true := by
  unfold sepCascade stages
  rw [show stDim1 dA dB = some (.dim1, true) from if_pos h, firstSome_some_cons]

theorem sepCascade_of_not_ppt {dA dB : Nat} (tol : Rat) {q : Quant} (hmin : min dA dB ≠ 1) (h : q.ppt = false) :
    sepCascade dA dB tol q = .verdict .pptReject false := by
  unfold sepCascade stages
  rw [show stDim1 dA dB = none from if_neg hmin, show stPpt q = some (.pptReject, false) from if_pos h,
    firstSome_none_cons, firstSome_some_cons]

theorem sepCascade_of_small {dA dB : Nat} (tol : Rat) {q : Quant} (hmin : min dA dB ≠ 1) (h : q.ppt = true)
    (h6 : dA * dB ≤ 6) : sepCascade dA dB tol q = .verdict .pptSufficient q.ppt := by
  unfold sepCascade stages
  rw [show stDim1 dA dB = none from if_neg hmin, show stPpt q = none from if_neg (by rw [h]; exact Bool.noConfusion),
    show stSmall dA dB q = some (.pptSufficient, q.ppt) from if_pos (.inl h6), firstSome_none_cons, firstSome_none_cons,
    firstSome_some_cons]

/-- the stages see `(dA, dB)` only through `min`, `max`, the product and the symmetric condition `dA = 3 ∧ dB = 3`, and the two
purities only through the symmetric `zhangRadicand` -/
theorem stages_swap (dA dB : Nat) (tol : Rat) (q : Quant) :
    stages dB dA tol { q with purA := q.purB, purB := q.purA } = stages dA dB tol q := by
  have hz : zhangRadicand { q with purA := q.purB, purB := q.purA } = zhangRadicand q := mul_comm _ _
  -- the only condition spelt with `dA`, `dB` themselves: `dA = 3 ∧ dB = 3 ∧ …`
  have hHa : stHa dB dA { q with purA := q.purB, purB := q.purA } = stHa dA dB q := by
    unfold stHa; simp only [and_left_comm (a := dB = 3)]
  simp only [stages, hHa, stDim1, stPpt, stSmall, stRealign, stZhang, stSpectrum, stHankel, stHomothetic,
    stLemma1, stRank4, stBall, stRank1, stOsr, lamAt, hz, Nat.min_comm dB dA, Nat.max_comm dB dA,
    Nat.mul_comm dB dA]
  rfl

theorem gtAddSqrt_iff (x tol r : Rat) :
    gtAddSqrt x tol r = true ↔ (tol : ℝ) + √(r : ℝ) < (x : ℝ) := by
  have key : (tol : ℝ) + √(r : ℝ) < (x : ℝ)
      ↔ 0 < (x : ℝ) - (tol : ℝ) ∧ (r : ℝ) < ((x : ℝ) - (tol : ℝ)) * ((x : ℝ) - (tol : ℝ)) := by
    rw [← lt_sub_iff_add_lt', ← sq]
    exact ⟨fun h => have h0 := (Real.sqrt_nonneg _).trans_lt h; ⟨h0, (Real.sqrt_lt' h0).mp h⟩,
      fun h => (Real.sqrt_lt' h.1).mpr h.2⟩
  unfold gtAddSqrt
  rw [Bool.and_eq_true, decide_eq_true_eq, decide_eq_true_eq, key]
  simp only [← Rat.cast_lt (K := ℝ), Rat.cast_sub, Rat.cast_mul, Rat.cast_zero]

theorem geSubSqrt_iff (a b d tol : Rat) :
    geSubSqrt a b d tol = true ↔ (b : ℝ) - 4 * √(max (d : ℝ) 0) - (tol : ℝ) ≤ (a : ℝ) := by
  have hm : (0 : ℝ) ≤ max (d : ℝ) 0 := le_max_right _ _
  -- with `s = b − a − tol`: `s ≤ 4 √m` iff `s ≤ 0` or `s² ≤ 16 m`
  have key : (b : ℝ) - 4 * √(max (d : ℝ) 0) - (tol : ℝ) ≤ (a : ℝ)
      ↔ (b : ℝ) - a - tol ≤ 0 ∨ ((b : ℝ) - a - tol) * ((b : ℝ) - a - tol) ≤ 16 * max (d : ℝ) 0 := by
    rw [sub_right_comm, sub_le_comm, sub_right_comm]
    rcases le_or_gt ((b : ℝ) - a - tol) 0 with h | h
    · exact iff_of_true (h.trans (by positivity)) (Or.inl h)
    · rw [or_iff_right h.not_ge, le_mul_sqrt_iff h.le (by norm_num) hm, sq]
      norm_num
  unfold geSubSqrt
  rw [Bool.or_eq_true, decide_eq_true_eq, decide_eq_true_eq, key]
  simp only [← Rat.cast_le (K := ℝ), Rat.cast_sub, Rat.cast_mul, Rat.cast_max, Rat.cast_zero, Rat.cast_ofNat]

/-- the `k`-th largest eigenvalue, numbered from 1 as in the literature: `λ_k = lam[k − 1]` -/
noncomputable def ev1 (q : Quant) (k : Nat) : ℝ := ((lamAt q (k - 1) : Rat) : ℝ)

theorem stSpectrum_iff (dA dB n : Nat) (hn : 2 ≤ n) (hd : (dA = 2 ∧ dB = n) ∨ (dA = n ∧ dB = 2)) (tol : Rat)
    (q : Quant) :
    stSpectrum dA dB tol q = some (.spectrum2n, true) ↔
      (ev1 q 1 - ev1 q (2 * n - 1)) ^ 2 ≤ 4 * ev1 q (2 * n - 2) * ev1 q (2 * n) + (tol : ℝ) ^ 2 := by
  obtain ⟨hmax, hmin⟩ : max dA dB = n ∧ min dA dB = 2 := by
    rcases hd with ⟨rfl, rfl⟩ | ⟨rfl, rfl⟩
    · exact ⟨max_eq_right hn, min_eq_left hn⟩
    · exact ⟨max_eq_left hn, min_eq_right hn⟩
  have i1 : 2 * n - 1 - 1 = 2 * n - 2 := Nat.sub_sub _ 1 1
  have i2 : 2 * n - 2 - 1 = 2 * n - 3 := Nat.sub_sub _ 2 1
  unfold stSpectrum ev1
  rw [check_eq_some, and_iff_left rfl, hmax, hmin, and_iff_right rfl, i1, i2, sq, sq]
  simp only [← Rat.cast_le (K := ℝ), Rat.cast_sub, Rat.cast_mul, Rat.cast_add, Rat.cast_ofNat, Nat.sub_self]

end Toq.Sep
