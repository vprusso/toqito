import Toq.Proofs.Cert
import Toq.Proofs.SumN
/-!
# Function matrices over `ℚ[i]` read as complex matrices

The executable models keep a matrix as a function `ℕ → ℕ → QI` beside its row and column counts; `fnToM n m f` is the complex `n × m` matrix its
leading block denotes.  The operations the models write with `sumN` and `QI.conj` on such functions go over to Mathlib's product, conjugate
transpose, trace and identity, because `QI.toC` is additive, multiplicative and respects `conj`; and since it is injective, equations between
denoted matrices are equations between the entries below the bounds.  The matrix types of the models over `ℚ[i]` (`Mat QI` and `QMat` of C16, `QM` and
the channel matrices of C06, the driver's exact matrices of C19) are read through `fnToM` of their entry functions (`qmatToM_eq_fnToM`,
`qmToM_eq_fnToM`, `matC_eq_fnToM`, `toMatQ_eq_fnToM`), so their product, adjoint, trace and identity lemmas are instances of these.  The readings without a cast
(`PTrace.toMat`, `PartialOps.toMatR`, `ChannelOps.toM`, `Entangle.toM`, `Rand.toMat` over an arbitrary scalar type) do not go through `fnToM`.
`fnToM` and its lemmas are in the namespace `Toq.Rank`: the statements of C16 name it `Toq.Rank.fnToM`.
-/

theorem QI.toC_sumN (g : ℕ → QI) (n : ℕ) : (sumN n g).toC = sumN n fun i => (g i).toC :=
  sumN_map QI.toC QI.toC_zero QI.toC_add g n

namespace Toq.Rank
open Matrix

/-- the complex `n × m` matrix denoted by the leading block of a function matrix over `ℚ[i]` -/
def fnToM (n m : Nat) (f : Nat → Nat → QI) : Matrix (Fin n) (Fin m) ℂ := fun i j => (f i.val j.val).toC

theorem fnToM_eq_iff (n p : Nat) (f g : Nat → Nat → QI) :
    fnToM n p f = fnToM n p g ↔ ∀ i j, i < n → j < p → f i j = g i j :=
  ⟨fun h i j hi hj => QI.toC_injective (congrFun (congrFun h ⟨i, hi⟩) ⟨j, hj⟩),
    fun h => Matrix.ext fun i j => congrArg QI.toC (h i.val j.val i.isLt j.isLt)⟩

theorem fnToM_sumN_mul (n k p : Nat) (f g : Nat → Nat → QI) :
    fnToM n p (fun i j => sumN k fun l => f i l * g l j) = fnToM n k f * fnToM k p g := by
  ext i j
  rw [Matrix.mul_apply]
  exact (QI.toC_sumN _ k).trans ((sumN_congr _ _ k fun l _ => QI.toC_mul _ _).trans
    (sumN_eq_sum_fin (fun l => (f i l).toC * (g l j).toC) k))

theorem fnToM_conj (n p : Nat) (f : Nat → Nat → QI) : fnToM n p (fun i j => (f j i).conj) = (fnToM p n f)ᴴ :=
  Matrix.ext fun i j => QI.toC_conj (f j.val i.val)

theorem fnToM_trace (n : Nat) (f : Nat → Nat → QI) : (fnToM n n f).trace = (sumN n fun i => f i i).toC :=
  ((QI.toC_sumN (fun i => f i i) n).trans (sumN_eq_sum_fin _ n)).symm

theorem fnToM_ite (n : Nat) : fnToM n n (fun i j => if i = j then 1 else 0) = 1 := by
  ext i j
  simp only [fnToM, Matrix.one_apply, Fin.ext_iff, apply_ite QI.toC, QI.toC_one, QI.toC_zero]

/-- the denoted square matrix is Hermitian iff the exact entries are conjugate-symmetric below the bound -/
theorem fnToM_isHermitian_iff (n : Nat) (f : Nat → Nat → QI) :
    (fnToM n n f).IsHermitian ↔ ∀ i j, i < n → j < n → f i j = (f j i).conj := by
  rw [Matrix.IsHermitian, ← fnToM_conj, fnToM_eq_iff]
  exact forall₄_congr fun i j _ _ => eq_comm

end Toq.Rank
