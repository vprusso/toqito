import Toq.Model.ChanMetricsPath
import Toq.Proofs.ChanMetricsUnitary
import Toq.Proofs.ChannelProps
/-!
# C20: what the channel distance functions do around their semidefinite programs

The mirror `Toq/Model/ChanMetricsPath.lean` is related to the specification level:

* `roundSqrt` is the nearest integer to `√n` (`roundSqrt_spec`), so a `d² × d²` Choi matrix gives the subsystem dimension `d`, and on
  such an argument the cascade `cbPath` is decided by the two verdicts alone (`cbPath_sq`);
* `dualChoi` is the Choi matrix of the adjoint map (`dual_channel`), the denotation of the executable `dualChoiE`; it keeps positivity, and its `ptr2 = Tr_Y`
  is the entrywise conjugate (for a Hermitian argument: the transpose) of `ptr1 = Tr_X` of the argument (`ptr1` is `Matrix.ptrL`);
* the `1 × 1` matrix the CP shortcut computes AS CODED is `conj(tr J)` (`applyEyeAsCoded_toC`, `cpShortcutAsCoded_toC`);
* a verdict `yes` of the mirrored predicates of C06 (`psdV`, `tpV`) is sound for the denotation `toP`.
-/

open Matrix Kronecker
open scoped ComplexOrder MatrixOrder

namespace Toq.ChanMetrics

theorem roundSqrt_sq (d : Nat) : roundSqrt (d * d) = d := by
  unfold roundSqrt
  simp only [Nat.sqrt_eq, Nat.sub_self, Nat.zero_le, if_true]

/-- `roundSqrt n` is the integer nearest to `√n`: `(2r − 1)² < 4n < (2r + 1)²` in the form without subtraction -/
theorem roundSqrt_spec (n : Nat) :
    4 * n < (2 * roundSqrt n + 1) ^ 2 ∧ (roundSqrt n = 0 ∨ (2 * roundSqrt n) ^ 2 + 1 ≤ 4 * n + 4 * roundSqrt n) := by
  have e1 : ∀ r : Nat, (2 * r + 1) ^ 2 = 4 * (r * r) + 4 * r + 1 := fun r => by ring
  have e2 : ∀ r : Nat, (2 * r) ^ 2 = 4 * (r * r) := fun r => by ring
  have e3 : ∀ r : Nat, (r + 1) * (r + 1) = r * r + 2 * r + 1 := fun r => by ring
  have h1 := Nat.sqrt_le n
  have h2 := Nat.lt_succ_sqrt n
  have hv : roundSqrt n = if n - Nat.sqrt n * Nat.sqrt n ≤ Nat.sqrt n then Nat.sqrt n else Nat.sqrt n + 1 := rfl
  rw [Nat.succ_eq_add_one, e3] at h2
  rw [hv]
  -- with `√n · √n` as an atom both cases are linear
  split
  · rw [e1, e2]; omega
  · rw [e1, e2, e3]; omega

section Cascade
open Toq.ChannelProps

theorem cbPath_sq (d : Nat) (cp tp : Verdict) :
    cbPath (d * d) (d * d) cp tp =
      match cp, tp with
      | .unknown, _ => .undecided
      | .no, _ => .sdp d
      | .yes, .yes => .channelOne
      | .yes, .no => .cpShortcut
      | .yes, .unknown => .undecided := by
  unfold cbPath
  rw [if_neg (by simp), roundSqrt_sq]
  cases cp <;> cases tp <;> rfl

variable {d : Nat} {cp tp : Verdict}

theorem cbPath_sq_eq_channelOne_iff :
    cbPath (d * d) (d * d) cp tp = .channelOne ↔ cp = .yes ∧ tp = .yes := by
  rw [cbPath_sq]; cases cp <;> cases tp <;> simp

theorem cbPath_sq_eq_cpShortcut_iff :
    cbPath (d * d) (d * d) cp tp = .cpShortcut ↔ cp = .yes ∧ tp = .no := by
  rw [cbPath_sq]; cases cp <;> cases tp <;> simp

theorem cbPath_sq_eq_sdp_iff {dim : Nat} :
    cbPath (d * d) (d * d) cp tp = .sdp dim ↔ cp = .no ∧ dim = d := by
  rw [cbPath_sq]; cases cp <;> cases tp <;> simp [eq_comm]

end Cascade

section Dual
variable {ι κ : Type*}

/-- Choi matrix (on `Y ⊗ X`) of the adjoint map: `J*((y,x),(y',x')) = conj J((x,y),(x',y'))` -/
def dualChoi (J : Matrix (ι × κ) (ι × κ) ℂ) : Matrix (κ × ι) (κ × ι) ℂ :=
  fun p q => star (J (p.2, p.1) (q.2, q.1))

theorem dualChoi_dualChoi (J : Matrix (ι × κ) (ι × κ) ℂ) : dualChoi (dualChoi J) = J := by
  ext ⟨a, y⟩ ⟨b, z⟩; simp [dualChoi]

theorem dualChoi_posSemidef {J : Matrix (ι × κ) (ι × κ) ℂ} (hJ : J.PosSemidef) : (dualChoi J).PosSemidef :=
  (hJ.submatrix (Prod.swap : κ × ι → ι × κ)).conjTranspose.transpose

variable [Fintype ι]

/-- partial trace over the first factor: `(Tr_X A)_{yz} = Σ_x A_{(x,y),(x,z)}` (`= Φ(1)` for a Choi matrix) -/
def ptr1 (A : Matrix (ι × κ) (ι × κ) ℂ) : Matrix κ κ ℂ := fun y z => ∑ x, A (x, y) (x, z)

theorem ptr1_eq (A : Matrix (ι × κ) (ι × κ) ℂ) : ptr1 A = ptrL A := rfl

theorem ptr2_dualChoi (J : Matrix (ι × κ) (ι × κ) ℂ) : ptr2 (dualChoi J) = (ptr1 J).map star := by
  ext y z
  simp [ptr2, ptr1, dualChoi]

theorem ptr2_dualChoi_of_herm {J : Matrix (ι × κ) (ι × κ) ℂ} (hJ : J.IsHermitian) :
    ptr2 (dualChoi J) = (ptr1 J)ᵀ := by
  rw [ptr2_dualChoi]
  ext y z
  have : ∀ x, star (J (x, y) (x, z)) = J (x, z) (x, y) := fun x => by
    have := congrFun (congrFun hJ.eq (x, z)) (x, y)
    simpa [Matrix.conjTranspose_apply] using this
  simp only [Matrix.map_apply, ptr1, Matrix.transpose_apply, star_sum]
  exact Finset.sum_congr rfl fun x _ => this x

theorem ptr1_choiK (K : Matrix κ ι ℂ) : ptr1 (choiK K) = K * Kᴴ := by
  ext y z
  simp only [ptr1, choiK_apply, Matrix.mul_apply, Matrix.conjTranspose_apply]

theorem trace_dualChoi [Fintype κ] (J : Matrix (ι × κ) (ι × κ) ℂ) : (dualChoi J).trace = star J.trace := by
  simp only [Matrix.trace, Matrix.diag_apply, dualChoi, Fintype.sum_prod_type, star_sum]
  exact Finset.sum_comm

end Dual

section
-- `C20.cbSpectral_cp_eq_max_eigenvalue` applies `ptr1_posSemidef` inside its statement, with the four instance arguments of the section
set_option linter.unusedSectionVars false
variable {ι κ : Type*} [Fintype ι] [DecidableEq ι] [Fintype κ] [DecidableEq κ]

theorem dualChoi_sub (J K : Matrix (ι × κ) (ι × κ) ℂ) : dualChoi (J - K) = dualChoi J - dualChoi K := by
  ext p q; simp [dualChoi]

theorem dualChoi_eq (J : Matrix (ι × κ) (ι × κ) ℂ) :
    dualChoi J = (J.submatrix Prod.swap Prod.swap).map star := by
  ext p q; rfl

theorem dualChoi_isHermitian {J : Matrix (ι × κ) (ι × κ) ℂ} (hJ : J.IsHermitian) : (dualChoi J).IsHermitian :=
  (hJ.submatrix (Prod.swap : κ × ι → ι × κ)).conjTranspose.transpose

theorem ptr1_posSemidef {A : Matrix (ι × κ) (ι × κ) ℂ} (hA : A.PosSemidef) : (ptr1 A).PosSemidef := hA.ptrL

end

section Bridge
open EMat Toq.ChannelProps
variable {dX dY d n : Nat}

theorem toP_dualChoiE (J : EMat (dX * dY) (dX * dY)) : toP (dualChoiE dX dY J) = dualChoi (toP J) := by
  ext ⟨y, a⟩ ⟨z, b⟩
  simp only [toP_apply, dualChoiE, get_ofFn, fstIdx_finProd, sndIdx_finProd, dualChoi, pairIdx_eq, QI.toC_conj]
  rfl

theorem applyEyeAsCoded_toC (Jd : EMat n n) : (applyEyeAsCoded n Jd).toC = Jd.toM.trace := by
  unfold applyEyeAsCoded
  rw [sumFin_toC]
  simp only [Matrix.trace, Matrix.diag_apply, toM_apply]
  refine Finset.sum_congr rfl fun j _ => ?_
  rw [sumFin_toC, Finset.sum_eq_single j]
  · simp [QI.toC_mul]
  · intro i _ hij; simp [QI.toC_mul, hij]
  · intro h; exact absurd (Finset.mem_univ j) h

/-- **the CP shortcut as coded computes `conj(tr J)`** (not `Φ*(1)`: `np.eye(dim_ly)` has the size of the Choi matrix) -/
theorem cpShortcutAsCoded_toC (J : EMat (d * d) (d * d)) : (cpShortcutAsCoded d J).toC = star (toP J).trace := by
  unfold cpShortcutAsCoded
  rw [applyEyeAsCoded_toC, ← trace_toP, toP_dualChoiE, trace_dualChoi]

/-- C06's mirror of `Tr_out` is this model's `ptrY` (the two models index `X ⊗ Y` the same way) -/
theorem ptraceOut_eq_ptrY (J : EMat (dX * dY) (dX * dY)) : Toq.ChannelProps.ptraceOut J = ptrY dX dY J := rfl

theorem tpV_yes_sound (J : EMat (d * d) (d * d)) (h : tpV J = Verdict.yes) : ptr2 (toP J) = 1 := by
  have hb := beq_sound _ _ ((Toq.ChanPropProofs.eqV_yes _ _).mp h)
  rwa [ptraceOut_eq_ptrY, toM_ptrY, toM_one] at hb

theorem psdV_yes_sound {k : Nat} (J : EMat (d * d) (d * d)) (L : Option (EMat (d * d) k)) (v : Option (EMat (d * d) 1)) :
    psdV J L v = Verdict.yes → (toP J).PosSemidef :=
  fun h => (Toq.ChanPropProofs.psdV_yes_posSemidef h).submatrix _

end Bridge

end Toq.ChanMetrics
