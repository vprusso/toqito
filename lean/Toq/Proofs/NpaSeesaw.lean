import Toq.Proofs.NpaPovm
import Toq.Proofs.Spectral
import Mathlib.Analysis.Matrix.HermitianFunctionalCalculus
import Mathlib.Analysis.Matrix.PosDef
import Mathlib.LinearAlgebra.Matrix.Vec
/-!
# The feasible points of the see-saw programs are quantum strategies (C07)

`quantum_value_lower_bound` alternates two semidefinite programs.  A feasible point of Alice's program
(`__optimize_alice`) is an **assemblage**: positive semidefinite `σ x a` with `Σ_a σ x a = τ` for every question `x`,
`tr τ = 1`, `τ ⪰ 0`; a feasible point of Bob's program (`__optimize_bob`) is a family of POVMs `B y b`.  The value of
both programs at `(σ, B)` is `Σ π(x,y) V(a,b|x,y) Re tr(B y bᴴ σ x a)`.

This file proves (Gisin / Hughston–Jozsa–Wootters, finite dimension, without assuming `τ` invertible) that every such
pair is realised by a tensor-product POVM strategy (`PovmStrategy`): with the spectral calculus of `τ`,
`S = √τ`, `G = (√τ)⁺` (pseudo-inverse), `Π = G S` the support projector, `Q = 1 − Π`:

* `σ x a ≤ τ` forces `σ x a = Π σ x a Π` (`supp_absorb`),
* `M x a = G σ x a G + [a = 0] Q` is a POVM with `S M x a S = σ x a`,
* the state `vec S` (purification of `τ`) and Alice's POVM `(M x a)ᵀ` give `⟨ψ| (M x a)ᵀ ⊗ B y b |ψ⟩ = tr(B y b σ x a)`.

Combined with the Naimark dilation of `Toq/Proofs/NpaPovm.lean` every see-saw value is a value of a commuting projective
strategy, hence at most every NPA-level bound.
-/

namespace Toq.Npa
open Matrix
open scoped ComplexOrder Kronecker

open Toq.Metrics (hcfc_mul hcfc_mul_eq hcfc_congr hcfc_isHermitian hcfc_posSemidef sqrtM sqrtM_isHermitian sqrtM_mul_self sqrtM_eq_hcfc)

section Cfc
variable {n : Type} [Fintype n] [DecidableEq n] {A : Matrix n n ℂ} (hA : A.IsHermitian)

theorem hcfc_one : hA.cfc (fun _ => 1) = 1 := Toq.Metrics.hcfc_one hA

theorem hcfc_sub (g h : ℝ → ℝ) : hA.cfc g - hA.cfc h = hA.cfc (fun t => g t - h t) := Toq.Metrics.hcfc_sub hA g h

end Cfc

section Supp
variable {n : Type} [Fintype n] [DecidableEq n] {τ : Matrix n n ℂ} (hτ : τ.PosSemidef)

/-- the pseudo-inverse of `√τ` (`0⁻¹ = 0` on the kernel) -/
noncomputable def pinvSqrt : Matrix n n ℂ := hτ.1.cfc (fun t => (Real.sqrt t)⁻¹)
/-- the projector onto the support of `τ` -/
noncomputable def suppP : Matrix n n ℂ := hτ.1.cfc (fun t => (Real.sqrt t)⁻¹ * Real.sqrt t)

/-- the support projector of the spectral calculus: `(√t)⁻¹ √t = t t⁻¹` on the spectrum of `τ ⪰ 0` -/
theorem suppP_eq_suppProj : suppP hτ = hτ.1.suppProj :=
  hcfc_congr hτ.1 _ _ fun i => by
    rcases (hτ.eigenvalues_nonneg i).eq_or_lt with h0 | hpos
    · rw [← h0, Real.sqrt_zero, mul_zero, zero_mul]
    · rw [inv_mul_cancel₀ (Real.sqrt_pos.mpr hpos).ne', mul_inv_cancel₀ hpos.ne']

theorem pinvSqrt_herm : (pinvSqrt hτ)ᴴ = pinvSqrt hτ := hcfc_isHermitian _ _
theorem suppP_herm : (suppP hτ)ᴴ = suppP hτ := suppP_eq_suppProj hτ ▸ hτ.1.suppProj_isHermitian

theorem pinv_mul_sqrt : pinvSqrt hτ * sqrtM τ = suppP hτ := by
  rw [sqrtM_eq_hcfc hτ]
  exact hcfc_mul _ _ _

theorem sqrt_mul_pinv : sqrtM τ * pinvSqrt hτ = suppP hτ := by
  rw [sqrtM_eq_hcfc hτ]
  exact hcfc_mul_eq _ _ _ _ fun _ => mul_comm _ _

theorem sqrt_mul_suppP : sqrtM τ * suppP hτ = sqrtM τ := by
  rw [sqrtM_eq_hcfc hτ]
  exact hcfc_mul_eq _ _ _ _ fun _ => by rw [mul_comm]; exact inv_mul_mul_self _

theorem suppP_idem : suppP hτ * suppP hτ = suppP hτ := suppP_eq_suppProj hτ ▸ hτ.1.suppProj_idem

theorem mul_suppP : τ * suppP hτ = τ := suppP_eq_suppProj hτ ▸ hτ.1.mul_suppProj

theorem suppP_mul : suppP hτ * τ = τ := suppP_eq_suppProj hτ ▸ hτ.1.suppProj_mul

theorem pinvSqrt_psd : (pinvSqrt hτ).PosSemidef :=
  hcfc_posSemidef _ _ (fun _ => inv_nonneg.mpr (Real.sqrt_nonneg _))

theorem one_sub_suppP_psd : (1 - suppP hτ).PosSemidef := suppP_eq_suppProj hτ ▸ hτ.1.posSemidef_one_sub_suppProj

theorem supp_absorb {σ : Matrix n n ℂ} (hσ : σ.PosSemidef) (hle : (τ - σ).PosSemidef) :
    suppP hτ * σ * suppP hτ = σ :=
  suppP_eq_suppProj hτ ▸ hτ.1.suppProj_absorb hσ hle

end Supp

section Seesaw

theorem psd_sumN_sub {n : Type} [Fintype n] (F : Nat → Matrix n n ℂ) (k : Nat) (h : ∀ a, a < k → (F a).PosSemidef)
    (a : Nat) (ha : a < k) : (sumN k F - F a).PosSemidef := by
  rw [sumN_eq_sum, ← Finset.add_sum_erase _ F (Finset.mem_range.mpr ha), add_sub_cancel_left]
  exact Matrix.posSemidef_sum _ fun b hb => h b (Finset.mem_range.mp (Finset.mem_of_mem_erase hb))

/-- A **feasible point of the two see-saw programs** of `quantum_value_lower_bound` in dimension `d`:
    `sigma x a` are the values of the variables `alice_povms[x, a]` of `__optimize_alice` (constraints
    `alice_povms[x, a] >> 0`, `Σ_a alice_povms[x, a] == tau`, `trace(tau) == 1`, `tau >> 0`) and `B y b` the values of
    `bob_povms[y, b]` of `__optimize_bob` (`bob_povms[y, b] >> 0`, `Σ_b bob_povms[y, b] == I`). -/
structure SeesawPoint (d ao bo ai bi : Nat) where
  sigma : Nat → Nat → Matrix (Fin d) (Fin d) ℂ
  tau : Matrix (Fin d) (Fin d) ℂ
  B : Nat → Nat → Matrix (Fin d) (Fin d) ℂ
  sigma_psd : ∀ x a, x < ai → a < ao → (sigma x a).PosSemidef
  sigma_sum : ∀ x, x < ai → sumN ao (fun a => sigma x a) = tau
  tau_tr : tau.trace = 1
  tau_psd : tau.PosSemidef
  B_povm : ∀ y, y < bi → IsPovmN bo (B y)

variable {d ao bo ai bi : Nat} (P : SeesawPoint d ao bo ai bi)

/-- the coefficient of `prob[x, y] * pred[a, b, x, y]` in the objective of both programs:
    `trace(bob_povms[y, b]ᴴ @ alice_povms[x, a])` (zero outside the alphabets) -/
def SeesawPoint.K : Nat → Nat → Nat → Nat → ℂ := fun a b x y =>
  if a < ao ∧ b < bo ∧ x < ai ∧ y < bi then ((P.B y b)ᴴ * P.sigma x a).trace else 0

/-- Alice's POVM element before transposition: `M x a = G σ(x,a) G + [a = 0]·(1 − Π)` -/
noncomputable def SeesawPoint.M (x a : Nat) : Matrix (Fin d) (Fin d) ℂ :=
  pinvSqrt P.tau_psd * P.sigma x a * pinvSqrt P.tau_psd + (if a = 0 then 1 - suppP P.tau_psd else 0)

theorem SeesawPoint.M_psd (x a : Nat) (hx : x < ai) (ha : a < ao) : (P.M x a).PosSemidef := by
  unfold SeesawPoint.M
  refine Matrix.PosSemidef.add ?_ ?_
  · have := (P.sigma_psd x a hx ha).conjTranspose_mul_mul_same (pinvSqrt P.tau_psd)
    rwa [pinvSqrt_herm] at this
  · split
    · exact one_sub_suppP_psd P.tau_psd
    · exact Matrix.PosSemidef.zero

theorem SeesawPoint.M_sum (x : Nat) (hx : x < ai) (hao : 0 < ao) : sumN ao (fun a => P.M x a) = 1 := by
  unfold SeesawPoint.M
  rw [sumN_add_distrib, sumN_mul_right, sumN_mul_left, P.sigma_sum x hx]
  rw [sumN_ite_eq_swap (fun _ => 1 - suppP P.tau_psd) 0 ao hao]
  have : pinvSqrt P.tau_psd * P.tau * pinvSqrt P.tau_psd = suppP P.tau_psd := by
    calc pinvSqrt P.tau_psd * P.tau * pinvSqrt P.tau_psd
        = pinvSqrt P.tau_psd * (sqrtM P.tau * sqrtM P.tau) * pinvSqrt P.tau_psd := by
          rw [sqrtM_mul_self P.tau_psd]
      _ = suppP P.tau_psd := by
          rw [← Matrix.mul_assoc, pinv_mul_sqrt, Matrix.mul_assoc, sqrt_mul_pinv, suppP_idem]
  rw [this]
  abel

theorem SeesawPoint.sqrt_M_sqrt (x a : Nat) (hx : x < ai) (ha : a < ao) :
    sqrtM P.tau * P.M x a * sqrtM P.tau = P.sigma x a := by
  unfold SeesawPoint.M
  have hle : (P.tau - P.sigma x a).PosSemidef := by
    rw [← P.sigma_sum x hx]
    exact psd_sumN_sub (fun a => P.sigma x a) ao (fun b hb => P.sigma_psd x b hx hb) a ha
  have hz : sqrtM P.tau * (if a = 0 then 1 - suppP P.tau_psd else 0) = 0 := by
    split
    · rw [Matrix.mul_sub, Matrix.mul_one, sqrt_mul_suppP P.tau_psd, sub_self]
    · simp only [mul_zero]
  rw [Matrix.mul_add, hz, add_zero]
  calc sqrtM P.tau * (pinvSqrt P.tau_psd * P.sigma x a * pinvSqrt P.tau_psd) * sqrtM P.tau
      = (sqrtM P.tau * pinvSqrt P.tau_psd) * P.sigma x a * (pinvSqrt P.tau_psd * sqrtM P.tau) := by
        simp only [Matrix.mul_assoc]
    _ = P.sigma x a := by
        rw [sqrt_mul_pinv P.tau_psd, pinv_mul_sqrt P.tau_psd, supp_absorb P.tau_psd (P.sigma_psd x a hx ha) hle]

/-- **the quantum strategy behind a see-saw point** (Gisin–Hughston–Jozsa–Wootters): the state is the purification
    `vec √τ` of `τ`, Alice measures `(M x a)ᵀ`, Bob measures `B y b` -/
noncomputable def SeesawPoint.toPovm (hao : 0 < ao) : PovmStrategy d d ao bo ai bi where
  E := fun x a => (P.M x a)ᵀ
  F := P.B
  psi := Matrix.vec (sqrtM P.tau)
  E_povm := fun x hx => ⟨fun a ha => (P.M_psd x a hx ha).transpose, by
    rw [← sumN_map Matrix.transpose rfl Matrix.transpose_add, P.M_sum x hx hao, Matrix.transpose_one]⟩
  F_povm := P.B_povm
  psi_norm := by
    rw [Matrix.star_vec_dotProduct_vec, (sqrtM_isHermitian P.tau).eq, sqrtM_mul_self P.tau_psd, P.tau_tr]

theorem SeesawPoint.toPovm_K (hao : 0 < ao) : (P.toPovm hao).K = P.K := by
  funext a b x y
  unfold PovmStrategy.K SeesawPoint.K
  by_cases h : a < ao ∧ b < bo ∧ x < ai ∧ y < bi
  · rw [if_pos h, if_pos h]
    obtain ⟨ha, hb, hx, hy⟩ := h
    show star (Matrix.vec (sqrtM P.tau)) ⬝ᵥ (((P.M x a)ᵀ ⊗ₖ P.B y b) *ᵥ Matrix.vec (sqrtM P.tau)) = _
    rw [Matrix.kronecker_mulVec_vec, Matrix.star_vec_dotProduct_vec, Matrix.transpose_transpose, (sqrtM_isHermitian P.tau).eq,
      ((P.B_povm y hy).1 b hb).1.eq]
    calc (sqrtM P.tau * (P.B y b * sqrtM P.tau * P.M x a)).trace
        = (P.B y b * sqrtM P.tau * P.M x a * sqrtM P.tau).trace := Matrix.trace_mul_comm _ _
      _ = (P.B y b * (sqrtM P.tau * P.M x a * sqrtM P.tau)).trace := by simp only [Matrix.mul_assoc]
      _ = (P.B y b * P.sigma x a).trace := by rw [P.sqrt_M_sqrt x a hx ha]
  · rw [if_neg h, if_neg h]

theorem SeesawPoint.exists_strategy (hao : 0 < ao) (hbo : 0 < bo) :
    ∃ (D : Nat) (S : QStrategy D ao bo ai bi), S.K = P.K := by
  obtain ⟨D, S, hS⟩ := (P.toPovm hao).exists_dilation hao hbo
  exact ⟨D, S, by rw [hS, P.toPovm_K]⟩

end Seesaw

end Toq.Npa
