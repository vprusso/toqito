import Toq.Proofs.ChannelOps
import Toq.Proofs.Digits
import Toq.Model.ChannelOpsExtra
import Toq.Spec.ChannelOpsExtra
import Mathlib.LinearAlgebra.Matrix.PosDef
/-!
# `choi_to_kraus` assembly, trace criteria, positivity of the dual (for C04 / C05)

`choi_to_kraus` (`Toq/Model/ChannelOpsExtra.lean`) takes the LAPACK factors as inputs; what it does with them is a
statement about the *kept positions* of one list (`keptIdx`): both returned lists are images of it, so from *any*
factors with `Σ_kept s_i u_i v_iᴴ = J` the returned operators satisfy `Σ_k vec(A_k) vec(B_k)ᴴ = J`
(`reproduces_of_kept`), which at tensor indices says that `J` is their Choi matrix (`reproduces_iff`).

Trace preservation and unitality rest on one fact, that the pairing `Σ_ij X[i,j] · P[i,j]` is non-degenerate
(`pairing_right_inj`, tested on matrix units): for a Choi matrix it gives `Tr_out J = 1`, and through the adjoint
identity `tr Φ(X) = ⟨1, Φ(X)⟩ = ⟨Φ*(1), X⟩` it gives `Φ*(1) = 1` for a Kraus family.  The Choi matrix of the dual is `J` conjugated,
transposed and relabelled, hence positive semidefinite exactly when `J` is.
-/
open Toq.Perms Toq.ChannelSpec

namespace Toq.ChannelOps
open Mat

section listsums
variable {α : Type} [CommSemiring α] {β : Type}

theorem sum_map_filter (l : List β) (p : β → Bool) (φ : β → α) :
    ((l.filter p).map φ).sum = (l.map (fun x => if p x then φ x else 0)).sum := by
  induction l with
  | nil => rfl
  | cons x t ih =>
    by_cases h : p x <;> simp [h, ih]

theorem sum_map_zipIdx (l : List β) (n : Nat) (ψ : β × Nat → α) (d : β) :
    ((l.zipIdx n).map ψ).sum = sumN l.length (fun i => ψ (l.getD i d, n + i)) := by
  induction l generalizing n with
  | nil => rfl
  | cons x t ih =>
    rw [List.zipIdx_cons, List.map_cons, List.sum_cons, ih (n + 1), List.length_cons, sumN_succ_front]
    simp only [List.getD_cons_zero, List.getD_cons_succ, Nat.add_zero]
    congr 1
    apply sumN_congr; intro i _
    congr 2
    omega

theorem sumN_filter_zipIdx (l : List β) (keep : β → Bool) (φ : β × Nat → α) (d : β) (d' : β × Nat) :
    sumN ((l.zipIdx).filter (fun p => keep p.1)).length
        (fun k => φ (((l.zipIdx).filter (fun p => keep p.1)).getD k d'))
      = sumN l.length (fun i => if keep (l.getD i d) then φ (l.getD i d, i) else 0) := by
  rw [sumN_getD_map, sum_map_filter, sum_map_zipIdx l 0 _ d]
  apply sumN_congr; intro i _
  simp

/-- `zip(filter(keep, l), [mk(x, i) for (x, i) in enumerate(l) if keep(x)])` pairs every kept element
    with its own image -/
theorem zip_filter_map_zipIdx {γ : Type} (l : List β) (n : Nat) (keep : β → Bool) (mk : β × Nat → γ) :
    (l.filter keep).zip (((l.zipIdx n).filter (fun p => keep p.1)).map mk)
      = ((l.zipIdx n).filter (fun p => keep p.1)).map (fun p => (p.1, mk p)) := by
  induction l generalizing n with
  | nil => simp
  | cons x t ih =>
    by_cases h : keep x <;> simp [List.zipIdx_cons, h, ih (n + 1)]

end listsums

section vecF
variable {α : Type}

theorem vecF_smul [Mul α] (s : α) (m : Mat α) (r c p : Nat) :
    (⟨r, c, (smul s m).e⟩ : Mat α).vecF p = s * (⟨r, c, m.e⟩ : Mat α).vecF p := rfl

theorem vecF_unvecF (v : Nat → α) (r c p : Nat) : (⟨r, c, (unvecF v r c).e⟩ : Mat α).vecF p = v p := by
  simp only [Mat.vecF, unvecF, Nat.mod_add_div]

end vecF

section c2k
variable {α : Type}

/-- the elements kept by the filter of `choi_to_kraus`, with their positions -/
def keptIdx (ops : RealOps α) (tol : α) (l : List α) : List (α × Nat) :=
  (l.zipIdx).filter (fun p => c2kKeep ops tol p.1)

/-- the comprehensions of `choi_to_kraus` run over `zip(values, columns)`: with as many values as columns that is
    every kept position -/
theorem keptIdx_take (ops : RealOps α) (tol : α) (l : List α) (n : Nat) (h : l.length = n) :
    ((l.zipIdx).take n).filter (fun p => c2kKeep ops tol p.1) = keptIdx ops tol l := by
  rw [List.take_of_length_le (by rw [List.length_zipIdx, h])]
  rfl

variable [CommSemiring α]

theorem c2kHerm_lists (ops : RealOps α) (tol : α) (eig : Eigh α) (do0 di0 : Nat)
    (hV : eig.evals.length = eig.V.c) :
    c2kHermLeft ops tol eig do0 di0
        = (keptIdx ops tol eig.evals).map
            (fun p => smul (ops.sqrt (ops.abs p.1)) (unvecF (eig.V.colv p.2) do0 di0)) ∧
    c2kHermRight ops tol eig.evals (c2kHermLeft ops tol eig do0 di0)
        = (keptIdx ops tol eig.evals).map
            (fun p => smul (ops.sign p.1) (smul (ops.sqrt (ops.abs p.1)) (unvecF (eig.V.colv p.2) do0 di0))) := by
  have e1 : c2kHermLeft ops tol eig do0 di0
        = (keptIdx ops tol eig.evals).map
            (fun p => smul (ops.sqrt (ops.abs p.1)) (unvecF (eig.V.colv p.2) do0 di0)) := by
    simp only [c2kHermLeft, keptIdx_take ops tol eig.evals eig.V.c hV]
  refine ⟨e1, ?_⟩
  rw [e1]
  unfold c2kHermRight keptIdx
  rw [zip_filter_map_zipIdx eig.evals 0 (c2kKeep ops tol), List.map_map]
  rfl

theorem c2kHerm_shapes (ops : RealOps α) (tol : α) (eig : Eigh α) (do0 di0 : Nat)
    (hV : eig.evals.length = eig.V.c) :
    Shaped (c2kHermLeft ops tol eig do0 di0) do0 di0 ∧
    Shaped (c2kHermRight ops tol eig.evals (c2kHermLeft ops tol eig do0 di0)) do0 di0 ∧
    (c2kHermLeft ops tol eig do0 di0).length
      = (c2kHermRight ops tol eig.evals (c2kHermLeft ops tol eig do0 di0)).length := by
  obtain ⟨eL, eR⟩ := c2kHerm_lists ops tol eig do0 di0 hV
  rw [eR, eL]
  refine ⟨shaped_map _ _ _ _ (fun _ _ => ⟨rfl, rfl⟩), shaped_map _ _ _ _ (fun _ _ => ⟨rfl, rfl⟩), ?_⟩
  simp

variable [StarRing α]

/-- `Σ_k vec(A_k) vec(B_k)ᴴ = J` for the column-major `vec` (`A_k` of shape `do0 × di0`, `B_k` of shape
    `do1 × di1`): the defining relation of a Kraus representation of the map with Choi matrix `J` -/
def Reproduces (J : Mat α) (as bs : List (Mat α)) (do0 di0 do1 di1 : Nat) : Prop :=
  ∀ p q, p < J.r → q < J.c →
    sumN as.length (fun k => (⟨do0, di0, fam as k⟩ : Mat α).vecF p
      * HasConj.conj ((⟨do1, di1, fam bs k⟩ : Mat α).vecF q)) = J.e p q

theorem reproduces_of_kept (ops : RealOps α) (tol : α) (l : List α) (J : Mat α) (mkA mkB : α × Nat → Mat α)
    (do0 di0 do1 di1 : Nat) (term : Nat → Nat → Nat → α)
    (hterm : ∀ i, i < l.length → c2kKeep ops tol (l.getD i 0) = true → ∀ p q,
      (⟨do0, di0, (mkA (l.getD i 0, i)).e⟩ : Mat α).vecF p
        * HasConj.conj ((⟨do1, di1, (mkB (l.getD i 0, i)).e⟩ : Mat α).vecF q) = term i p q)
    (hdec : ∀ p q, p < J.r → q < J.c →
      sumN l.length (fun i => if c2kKeep ops tol (l.getD i 0) then term i p q else 0) = J.e p q) :
    Reproduces J ((keptIdx ops tol l).map mkA) ((keptIdx ops tol l).map mkB) do0 di0 do1 di1 := by
  intro p q hp hq
  let φ : α × Nat → α := fun x => (⟨do0, di0, (mkA x).e⟩ : Mat α).vecF p
    * HasConj.conj ((⟨do1, di1, (mkB x).e⟩ : Mat α).vecF q)
  rw [List.length_map, ← hdec p q hp hq,
    sumN_congr _ (fun k => φ ((keptIdx ops tol l).getD k (0, 0))) _
      (fun k hk => by rw [fam_map _ _ (0, 0) k hk, fam_map _ _ (0, 0) k hk])]
  refine (sumN_filter_zipIdx l (c2kKeep ops tol) φ 0 (0, 0)).trans ?_
  apply sumN_congr; intro i hi
  by_cases hkeep : c2kKeep ops tol (l.getD i 0) = true
  · rw [if_pos hkeep, if_pos hkeep]; exact hterm i hi hkeep p q
  · rw [if_neg hkeep, if_neg hkeep]

/-- the three branches of `choi_to_kraus`: the operators made at a kept position `i` vectorise to `sa(l_i) · u_i` and `sb(l_i) · w_i` with
    `sa(l_i) · conj(sb(l_i)) = l_i`, so their product is the kept term `l_i · u_i[p] · conj(w_i[q])` of the decomposition -/
theorem reproduces_of_kept_scaled (ops : RealOps α) (tol : α) (l : List α) (J : Mat α) (mkA mkB : α × Nat → Mat α)
    (do0 di0 do1 di1 : Nat) (sa sb : α → α) (u w : Nat → Nat → α)
    (hA : ∀ x p, (⟨do0, di0, (mkA x).e⟩ : Mat α).vecF p = sa x.1 * u x.2 p)
    (hB : ∀ x q, (⟨do1, di1, (mkB x).e⟩ : Mat α).vecF q = sb x.1 * w x.2 q)
    (hab : ∀ i, i < l.length → c2kKeep ops tol (l.getD i 0) = true → sa (l.getD i 0) * star (sb (l.getD i 0)) = l.getD i 0)
    (hdec : ∀ p q, p < J.r → q < J.c →
      sumN l.length (fun i => if c2kKeep ops tol (l.getD i 0) then l.getD i 0 * u i p * star (w i q) else 0) = J.e p q) :
    Reproduces J ((keptIdx ops tol l).map mkA) ((keptIdx ops tol l).map mkB) do0 di0 do1 di1 :=
  reproduces_of_kept ops tol l J mkA mkB do0 di0 do1 di1 _ (fun i hi hkeep p q => by
    rw [hA, hB, conj_eq_star, star_mul']
    conv_rhs => rw [← hab i hi hkeep]
    ring) hdec

theorem c2kSvd_lists (ops : RealOps α) (tol : α) (svd : Svd α) (do0 di0 do1 di1 : Nat)
    (hU : svd.S.length = svd.U.c) (hV : svd.S.length = svd.Vh.r) :
    c2kSvdLeft ops tol svd do0 di0
        = (keptIdx ops tol svd.S).map (fun p => smul (ops.sqrt p.1) (unvecF (svd.U.colv p.2) do0 di0)) ∧
    c2kSvdRight ops tol svd do1 di1
        = (keptIdx ops tol svd.S).map
            (fun p => smul (ops.sqrt p.1) (unvecF (fun t => HasConj.conj (svd.Vh.rowv p.2 t)) do1 di1)) := by
  constructor
  · simp only [c2kSvdLeft, keptIdx_take ops tol svd.S svd.U.c hU]
  · simp only [c2kSvdRight, keptIdx_take ops tol svd.S svd.Vh.r hV]

theorem c2kSvd_shapes (ops : RealOps α) (tol : α) (svd : Svd α) (do0 di0 do1 di1 : Nat)
    (hU : svd.S.length = svd.U.c) (hV : svd.S.length = svd.Vh.r) :
    Shaped (c2kSvdLeft ops tol svd do0 di0) do0 di0 ∧ Shaped (c2kSvdRight ops tol svd do1 di1) do1 di1 ∧
    (c2kSvdLeft ops tol svd do0 di0).length = (c2kSvdRight ops tol svd do1 di1).length := by
  obtain ⟨eL, eR⟩ := c2kSvd_lists ops tol svd do0 di0 do1 di1 hU hV
  rw [eL, eR]
  refine ⟨shaped_map _ _ _ _ (fun _ _ => ⟨rfl, rfl⟩), shaped_map _ _ _ _ (fun _ _ => ⟨rfl, rfl⟩), ?_⟩
  simp

theorem choiToKraus_general [DecidableEq α] (ops : RealOps α) (J : Mat α) (tol atol : α) (dim : DimArg)
    (eig : Eigh α) (svd : Svd α) (d : ChanDim) (hd : channelDimChoi J.r J.c true dim = .ok d)
    (hnh : isHermitianExact J = false) :
    choiToKraus ops J tol atol dim eig svd
      = .ok (KrausArg.pairs (c2kSvdLeft ops tol svd d.out0 d.in0) (c2kSvdRight ops tol svd d.out1 d.in1)) := by
  simp only [choiToKraus, hd, hnh]
  rfl

theorem choiToKraus_hermitian [DecidableEq α] (ops : RealOps α) (J : Mat α) (tol atol : α) (dim : DimArg)
    (eig : Eigh α) (svd : Svd α) (d : ChanDim) (hd : channelDimChoi J.r J.c true dim = .ok d)
    (hh : isHermitianExact J = true) (hpsd : isPsdFrom ops true atol eig.evals = false) :
    choiToKraus ops J tol atol dim eig svd
      = .ok (KrausArg.pairs (c2kHermLeft ops tol eig d.out0 d.in0)
          (c2kHermRight ops tol eig.evals (c2kHermLeft ops tol eig d.out0 d.in0))) := by
  simp only [choiToKraus, hd, hh, hpsd]
  rfl

theorem choiToKraus_psd [DecidableEq α] (ops : RealOps α) (J : Mat α) (tol atol : α) (dim : DimArg)
    (eig : Eigh α) (svd : Svd α) (d : ChanDim) (hd : channelDimChoi J.r J.c true dim = .ok d)
    (hh : isHermitianExact J = true) (hpsd : isPsdFrom ops true atol eig.evals = true) :
    choiToKraus ops J tol atol dim eig svd = .ok (.flat (c2kHermLeft ops tol eig d.out0 d.in0)) := by
  simp only [choiToKraus, hd, hh, hpsd]
  rfl

end c2k

section roundtrip
variable {α : Type} [CommSemiring α] [StarRing α]

theorem reproduces_iff (J : Mat α) (as bs : List (Mat α)) (di0 di1 do0 do1 : Nat)
    (hJr : J.r = di0 * do0) (hJc : J.c = di1 * do1) :
    Reproduces J as bs do0 di0 do1 di1 ↔
      ∀ i a j b, i < di0 → a < do0 → j < di1 → b < do1 →
        J.e (i * do0 + a) (j * do1 + b) = applySpec as.length (fam as) (fam bs) di0 di1 (unit i j) a b := by
  unfold Reproduces
  rw [hJr, hJc, forall_lt_mul_iff₂]
  refine forall_congr' fun i => forall_congr' fun a => forall_congr' fun j => forall_congr' fun b =>
    imp_congr_right fun hi => imp_congr_right fun ha => imp_congr_right fun hj => imp_congr_right fun hb => ?_
  rw [applySpec_unit _ _ _ _ _ i j a b hi hj, eq_comm]
  simp only [Mat.vecF, Nat.mul_add_mod_of_lt ha, Nat.mul_add_div_of_lt ha, Nat.mul_add_mod_of_lt hb, Nat.mul_add_div_of_lt hb]

theorem krausToChoi_of_reproduces_split (J : Mat α) (phi : KrausArg α) (as bs : List (Mat α))
    (hsplit : phi.split = some (as, bs)) (di0 di1 do0 do1 : Nat) (hJr : J.r = di0 * do0) (hJc : J.c = di1 * do1)
    (ha : Shaped as do0 di0) (hb : Shaped bs do1 di1) (hvec : Reproduces J as bs do0 di0 do1 di1) :
    ∃ J', krausToChoi phi = some J' ∧ J'.r = J.r ∧ J'.c = J.c ∧
      ∀ p q, p < J.r → q < J.c → J'.e p q = J.e p q := by
  obtain ⟨J', hJ', hr, hc, he⟩ := krausToChoi_of_split phi as bs di0 di1 do0 do1 hsplit ha hb
  refine ⟨J', hJ', by rw [hr, hJr], by rw [hc, hJc], ?_⟩
  rw [hJr, hJc]
  exact (forall_lt_mul_iff₂ di0 do0 di1 do1).mpr fun i a j b hi ha' hj hb' =>
    (he i a j b hi ha' hj hb').trans ((reproduces_iff J as bs di0 di1 do0 do1 hJr hJc).mp hvec i a j b hi ha' hj hb').symm

end roundtrip

section tp
variable {α : Type} [CommSemiring α]

theorem idMat_comm (i j : Nat) : (idMat i j : α) = idMat j i := if_congr eq_comm rfl rfl

theorem tr_eq_sumN_mul_idMat (d : Nat) (X : Nat → Nat → α) :
    tr d X = sumN d fun i => sumN d fun j => X i j * idMat i j := by
  refine sumN_congr _ _ _ fun i hi => ?_
  simp only [idMat, mul_ite, mul_one, mul_zero]
  exact (sumN_ite_eq (X i) i d hi).symm

theorem pairing_right_inj (m n : Nat) (P Q : Nat → Nat → α) :
    (∀ X : Nat → Nat → α,
        (sumN m fun i => sumN n fun j => X i j * P i j) = sumN m fun i => sumN n fun j => X i j * Q i j)
      ↔ ∀ i j, i < m → j < n → P i j = Q i j := by
  constructor
  · intro h i j hi hj
    have := h (unit i j)
    simp only [mul_comm (unit i j _ _)] at this
    rwa [sumN_sumN_mul_unit P hi hj, sumN_sumN_mul_unit Q hi hj] at this
  · intro h X
    exact sumN_congr _ _ _ fun i hi => sumN_congr _ _ _ fun j hj => by rw [h i j hi hj]

theorem tr_applyChoiSpec (J X : Nat → Nat → α) (di dout : Nat) :
    tr dout (applyChoiSpec J di di dout dout X)
      = sumN di fun i => sumN di fun j => X i j * ptraceOut J dout i j := by
  unfold tr applyChoiSpec ptraceOut
  rw [sumN_comm]
  apply sumN_congr; intro i _
  rw [sumN_comm]
  apply sumN_congr; intro j _
  rw [← sumN_mul_left]

theorem choiSpec_tp_iff (J : Nat → Nat → α) (di dout : Nat) :
    (∀ X : Nat → Nat → α, tr dout (applyChoiSpec J di di dout dout X) = tr di X)
      ↔ ∀ i j, i < di → j < di → ptraceOut J dout i j = idMat i j := by
  refine Iff.trans (forall_congr' fun X => ?_) (pairing_right_inj di di (ptraceOut J dout) idMat)
  rw [tr_applyChoiSpec, tr_eq_sumN_mul_idMat]

theorem applyChoiSpec_id (J : Nat → Nat → α) (di dout a b : Nat) :
    applyChoiSpec J di di dout dout idMat a b = ptraceIn J di dout a b := by
  refine sumN_congr _ _ _ fun i hi => ?_
  simp only [idMat, ite_mul, one_mul, zero_mul]
  exact sumN_ite_eq _ i di hi

theorem applyChoi_identity_e (J : Mat α) (d_in d_out : Nat) (hdi : 0 < d_in)
    (hJr : J.r = d_in * d_out) (hJc : J.c = d_in * d_out) (a b : Nat) (ha : a < d_out) (hb : b < d_out) :
    (applyChoi (identity d_in) J).e a b = ptraceIn J.e d_in d_out a b :=
  (applyChoi_e (identity d_in) J d_out d_out hdi hdi hJr hJc a b ha hb).trans (applyChoiSpec_id J.e d_in d_out a b)

end tp

section tp2
variable {α : Type} [CommSemiring α] [StarRing α]

theorem star_idMat (i j : Nat) : star (idMat i j : α) = idMat i j := star_ite_one_zero _

theorem tr_eq_hsInner (d : Nat) (M : Nat → Nat → α) : tr d M = hsInner d d idMat M := by
  rw [tr_eq_sumN_mul_idMat]
  exact sumN_congr _ _ _ fun i _ => sumN_congr _ _ _ fun j _ => by rw [conj_eq_star, star_idMat, mul_comm]

theorem hsInner_left_inj (m n : Nat) (Y Y' : Nat → Nat → α) :
    (∀ X : Nat → Nat → α, hsInner m n Y X = hsInner m n Y' X) ↔ ∀ a b, a < m → b < n → Y a b = Y' a b := by
  have e : ∀ Z X : Nat → Nat → α, hsInner m n Z X = sumN m fun a => sumN n fun b => X a b * star (Z a b) := fun Z X =>
    sumN_congr _ _ _ fun a _ => sumN_congr _ _ _ fun b _ => mul_comm _ _
  simp only [e]
  refine (pairing_right_inj m n _ _).trans ?_
  exact forall_congr' fun a => forall_congr' fun b => imp_congr_right fun _ => imp_congr_right fun _ => star_inj

theorem applySpec_tp_iff_adjoint (r : Nat) (A B : Nat → Nat → Nat → α) (di dout : Nat) :
    (∀ X : Nat → Nat → α, tr dout (applySpec r A B di di X) = tr di X)
      ↔ ∀ i j, i < di → j < di → applySpec r (adj A) (adj B) dout dout idMat i j = idMat i j := by
  simp only [tr_eq_hsInner, applySpec_adjoint]
  exact hsInner_left_inj di di _ _

theorem adj_adj (A : Nat → Nat → Nat → α) : adj (adj A) = A :=
  funext fun k => funext fun a => funext fun i => star_star (A k a i)

theorem applySpec_adj_idMat (r : Nat) (A B : Nat → Nat → Nat → α) (d i j : Nat) :
    applySpec r (adj A) (adj B) d d idMat i j = star (sumBdA r A B d j i) := by
  unfold applySpec sumBdA
  rw [star_sumN]
  refine sumN_congr _ _ _ fun k _ => ?_
  rw [star_sumN]
  refine sumN_congr _ _ _ fun a ha => ?_
  simp only [adj, conj_eq_star, star_star, star_mul', idMat, mul_ite, mul_one, mul_zero, ite_mul, zero_mul]
  rw [sumN_ite_eq _ a d ha, mul_comm]

theorem applySpec_tp_iff (r : Nat) (A B : Nat → Nat → Nat → α) (di dout : Nat) :
    (∀ X : Nat → Nat → α, tr dout (applySpec r A B di di X) = tr di X)
      ↔ ∀ j i, j < di → i < di → sumBdA r A B dout j i = idMat j i := by
  rw [applySpec_tp_iff_adjoint]
  constructor
  · intro h j i hj hi
    rw [← star_star (sumBdA r A B dout j i), ← applySpec_adj_idMat, h i j hi hj, star_idMat, idMat_comm]
  · intro h i j hi hj
    rw [applySpec_adj_idMat, h j i hj hi, star_idMat, idMat_comm]

theorem sumBdA_complList (ops : List (Mat α)) (d : Nat) (hs : Shaped ops d d) (j i : Nat) :
    sumBdA d (fam (complList ops d)) (fam (complList ops d)) ops.length j i = (sumKdK ops d).e j i := by
  rw [sumKdK_e ops d hs, sumN_comm]
  refine sumN_congr _ _ _ fun row hrow => sumN_congr _ _ _ fun a _ => ?_
  rw [fam_complList ops d row a j hrow, fam_complList ops d row a i hrow]

end tp2

section stack
variable {α : Type}

theorem complStack_complStack (K : Nat → Nat → Nat → α) : complStack (complStack K) = K := rfl

end stack

section psd
variable {R : Type} [CommRing R] [StarRing R]

def swapEquiv (di dout : Nat) : Fin (dout * di) ≃ Fin (di * dout) :=
  finProdFinEquiv.symm.trans ((Equiv.prodComm _ _).trans finProdFinEquiv)

theorem toM_dual_entries (J D : Nat → Nat → R) (di dout : Nat)
    (hDe : ∀ a i b j, a < dout → i < di → b < dout → j < di →
      D (a * di + i) (b * di + j) = HasConj.conj (J (i * dout + a) (j * dout + b))) :
    toM (dout * di) (dout * di) D
      = ((toM (di * dout) (di * dout) J).conjTranspose.transpose).submatrix (swapEquiv di dout) (swapEquiv di dout) := by
  ext x y
  obtain ⟨⟨a, i⟩, rfl⟩ := finProdFinEquiv.surjective x
  obtain ⟨⟨b, j⟩, rfl⟩ := finProdFinEquiv.surjective y
  simp only [toM, swapEquiv, Matrix.submatrix_apply, Matrix.transpose_apply, Matrix.conjTranspose_apply, Equiv.trans_apply,
    Equiv.symm_apply_apply, Equiv.prodComm_apply, Prod.swap_prod_mk, finProdFinEquiv_val]
  exact hDe a i b j a.2 i.2 b.2 j.2

variable [PartialOrder R]

theorem psd_dual_entries (J D : Nat → Nat → R) (di dout : Nat)
    (hDe : ∀ a i b j, a < dout → i < di → b < dout → j < di →
      D (a * di + i) (b * di + j) = HasConj.conj (J (i * dout + a) (j * dout + b))) :
    (toM (dout * di) (dout * di) D).PosSemidef ↔ (toM (di * dout) (di * dout) J).PosSemidef := by
  rw [toM_dual_entries J D di dout hDe]
  exact (Matrix.posSemidef_submatrix_equiv (swapEquiv di dout)).trans
    (Matrix.posSemidef_transpose_iff.trans Matrix.posSemidef_conjTranspose_iff)

end psd

end Toq.ChannelOps
