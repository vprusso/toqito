import Toq.Proofs.Discrim
/-!
# Strong duality and the Holevo–Yuen–Kennedy–Lax conditions for linear optimisation over measurements

Generic setting (any finite index types): `A : κ → Matrix ι ι ℂ` Hermitian "weighted states" (`A i = p_i ρ_i` for
minimum-error discrimination, `A i = −p_i ρ_i` for state exclusion; positivity of `A i` is never used), value of a
measurement `meVal A M = Σ_i Re tr(A_i M_i)` (`Toq.Proofs.Povm`; gap identity and weak duality in `Toq.Proofs.Discrim`).

* `mePert`: for a measurement `M`, a PSD `P` with `P² = sP` (below: `P = xx†`, `s = ‖x‖²`) and a small `t ≥ 0` the operators
  `(1 − tP) M_i (1 − tP) + δ_ij t(2 − ts) P` again form a measurement (`isPOVM_mePert`), and its value is
  an explicit quadratic polynomial in `t` (`meVal_pert`);
* `me_optimal_lagrange`: at a maximiser `M` the Hermitian part `G` of `Γ = Σ_i A_i M_i` satisfies `G ⪰ A_j` for every `j`
  (otherwise the perturbation in the direction of a negative eigenvector towards outcome `j` would increase the value);
  `Re tr G = meVal A M`: strong duality with attainment on both sides (`me_strong_duality_gen`);
* `me_hykl_iff_gen` (Holevo–Yuen–Kennedy–Lax): a measurement is optimal iff `Γ` is Hermitian and `Γ ⪰ A_j` for all `j`.
-/

open Matrix
open scoped ComplexOrder MatrixOrder

namespace Toq.Discrim
open Toq.Rand

section Strong
variable {ι κ : Type*} [Fintype ι]

/-- `Re tr(A P M) = Re tr((A P M)ᴴ) = Re tr(M P A) = Re tr(A M P)` -/
theorem re_trace_mul_swap_of_isHermitian (A P M : Matrix ι ι ℂ) (hA : A.IsHermitian) (hP : P.IsHermitian) (hM : M.IsHermitian) :
    (A * P * M).trace.re = (A * M * P).trace.re := by
  rw [← Matrix.re_trace_conjTranspose, conjTranspose_mul, conjTranspose_mul, hA.eq, hP.eq, hM.eq, Matrix.trace_mul_comm M,
    Matrix.mul_assoc, Matrix.trace_mul_comm P]

theorem vecMulVec_star_mul_self (x : ι → ℂ) :
    vecMulVec x (star x) * vecMulVec x (star x) = (((star x ⬝ᵥ x).re : ℝ) : ℂ) • vecMulVec x (star x) := by
  have h := Complex.nonneg_iff.mp (dotProduct_star_self_nonneg x)
  have e : star x ⬝ᵥ x = (((star x ⬝ᵥ x).re : ℝ) : ℂ) := by
    apply Complex.ext
    · rw [Complex.ofReal_re]
    · rw [Complex.ofReal_im]; exact h.2.symm
  rw [Matrix.vecMulVec_mul_vecMulVec, Matrix.vecMulVec_smul, ← e]

variable [Fintype κ]

def meGamma (A M : κ → Matrix ι ι ℂ) : Matrix ι ι ℂ := ∑ i, A i * M i

theorem meVal_eq_trace_gamma (A M : κ → Matrix ι ι ℂ) : meVal A M = (meGamma A M).trace.re := by
  unfold meVal meGamma
  rw [Matrix.trace_sum, Complex.re_sum]

noncomputable def meLagrange (A M : κ → Matrix ι ι ℂ) : Matrix ι ι ℂ :=
  (1 / 2 : ℂ) • (meGamma A M + (meGamma A M)ᴴ)

theorem meLagrange_isHermitian (A M : κ → Matrix ι ι ℂ) : (meLagrange A M).IsHermitian := by
  unfold meLagrange Matrix.IsHermitian
  rw [conjTranspose_smul, conjTranspose_add, conjTranspose_conjTranspose, add_comm]
  simp

/-- `Re tr(Γᴴ P) = Re tr(Γ P)` for Hermitian `P`, so the Hermitian part of `Γ` pairs with `P` as `Γ` does -/
theorem meLagrange_trace_mul (A M : κ → Matrix ι ι ℂ) (P : Matrix ι ι ℂ) (hP : P.IsHermitian) :
    (meLagrange A M * P).trace.re = (meGamma A M * P).trace.re := by
  rw [meLagrange, show (1 / 2 : ℂ) = ((1 / 2 : ℝ) : ℂ) by norm_num, re_trace_smul_mul, Matrix.add_mul, Matrix.trace_add,
    Complex.add_re, Matrix.re_trace_conjTranspose_mul_herm _ _ hP]
  ring

variable [DecidableEq ι]

theorem me_pert_term (A M P : Matrix ι ι ℂ) (t : ℝ) :
    (A * ((1 - (t : ℂ) • P) * M * (1 - (t : ℂ) • P))).trace.re
      = (A * M).trace.re - t * ((A * P * M).trace.re + (A * M * P).trace.re)
        + t * t * (A * P * M * P).trace.re := by
  have e : (1 - (t : ℂ) • P) * M * (1 - (t : ℂ) • P)
      = M - (t : ℂ) • (P * M) - (t : ℂ) • (M * P) + ((t : ℂ) * (t : ℂ)) • (P * M * P) := by
    simp only [Matrix.sub_mul, Matrix.mul_sub, Matrix.one_mul, Matrix.mul_one, Matrix.smul_mul,
      Matrix.mul_smul, smul_sub, smul_smul, Matrix.mul_assoc]
    abel
  rw [e]
  simp only [Matrix.mul_add, Matrix.mul_sub, Matrix.mul_smul, Matrix.trace_add, Matrix.trace_sub,
    Matrix.trace_smul, Complex.add_re, Complex.sub_re, smul_eq_mul, Complex.re_ofReal_mul,
    ← Complex.ofReal_mul, Matrix.mul_assoc]
  ring

theorem meLagrange_trace (A M : κ → Matrix ι ι ℂ) : (meLagrange A M).trace.re = meVal A M := by
  rw [meVal_eq_trace_gamma, ← Matrix.mul_one (meLagrange A M), meLagrange_trace_mul A M 1 Matrix.isHermitian_one,
    Matrix.mul_one]

end Strong

section Pert
variable {ι κ : Type*} [Fintype ι] [DecidableEq ι] [Fintype κ] [DecidableEq κ]

def mePert (M : κ → Matrix ι ι ℂ) (P : Matrix ι ι ℂ) (s t : ℝ) (j : κ) : κ → Matrix ι ι ℂ :=
  meAbsorb (fun i => (1 - (t : ℂ) • P) * M i * (1 - (t : ℂ) • P)) (((t * (2 - t * s) : ℝ) : ℂ) • P) j

/-- conjugation by the Hermitian `1 − tP` keeps `M_i ⪰ 0`, and `(1 − tP)² + t(2 − ts) P = 1` by `P² = sP` -/
theorem isPOVM_mePert {M : κ → Matrix ι ι ℂ} (hM : IsPOVM M) {P : Matrix ι ι ℂ} (hP : P.PosSemidef) {s t : ℝ}
    (hPP : P * P = (s : ℂ) • P) (ht : 0 ≤ t * (2 - t * s)) (j : κ) : IsPOVM (mePert M P s t j) := by
  refine isPOVM_meAbsorb (fun i => ?_) (hP.smul_ofReal ht) ?_ j
  · have := (hM.1 i).mul_mul_conjTranspose_same (1 - (t : ℂ) • P)
    rwa [(Matrix.isHermitian_one.sub (hP.isHermitian.smul_ofReal t)).eq] at this
  · rw [← Finset.sum_mul, ← Finset.mul_sum, hM.2, Matrix.mul_one, Matrix.sub_mul, Matrix.mul_sub, Matrix.mul_sub,
      Matrix.one_mul, Matrix.mul_one, Matrix.one_mul, Matrix.smul_mul, Matrix.mul_smul, hPP]
    push_cast
    module

/-- the value of the perturbed measurement is a quadratic polynomial in `t`; only its linear coefficient matters below -/
theorem meVal_pert (A M : κ → Matrix ι ι ℂ) (P : Matrix ι ι ℂ) (s : ℝ) (j : κ) (hA : ∀ i, (A i).IsHermitian)
    (hM : ∀ i, (M i).IsHermitian) (hP : P.IsHermitian) : ∃ c : ℝ, ∀ t : ℝ,
    meVal A (mePert M P s t j)
      = meVal A M - t * (2 * ((meGamma A M * P).trace.re - (A j * P).trace.re) + t * c) := by
  refine ⟨s * (A j * P).trace.re - ∑ i, (A i * P * M i * P).trace.re, fun t => ?_⟩
  have hterm : ∀ i, (A i * mePert M P s t j i).trace.re
      = ((A i * M i).trace.re - 2 * t * (A i * M i * P).trace.re + t * t * (A i * P * M i * P).trace.re)
        + if i = j then t * (2 - t * s) * (A j * P).trace.re else 0 := by
    intro i
    rw [mePert, meAbsorb_trace_mul, me_pert_term, re_trace_mul_swap_of_isHermitian (A i) P (M i) (hA i) hP (hM i)]
    congr 1
    · ring
    · split
      · next h => rw [h, re_trace_mul_smul]
      · rfl
  have hG : (meGamma A M * P).trace.re = ∑ i, (A i * M i * P).trace.re := by
    unfold meGamma
    rw [Finset.sum_mul, Matrix.trace_sum, Complex.re_sum]
  unfold meVal
  simp only [hterm]
  rw [Finset.sum_add_distrib, Finset.sum_ite_eq' Finset.univ j, Finset.sum_add_distrib, Finset.sum_sub_distrib,
    ← Finset.mul_sum, ← Finset.mul_sum, hG]
  simp only [Finset.mem_univ, if_true]
  ring

theorem me_optimal_dir {A M : κ → Matrix ι ι ℂ} (hA : ∀ i, (A i).IsHermitian) (hM : IsPOVM M)
    (hopt : ∀ M', IsPOVM M' → meVal A M' ≤ meVal A M)
    (P : Matrix ι ι ℂ) (s : ℝ) (hs : 0 ≤ s) (hP : P.PosSemidef) (hPP : P * P = (s : ℂ) • P) (j : κ) :
    (A j * P).trace.re ≤ (meGamma A M * P).trace.re := by
  have hs1 : 0 < s + 1 := by linarith
  obtain ⟨c, hpert⟩ := meVal_pert A M P s j hA (fun i => (hM.1 i).isHermitian) hP.isHermitian
  have key : 0 ≤ 2 * ((meGamma A M * P).trace.re - (A j * P).trace.re) := by
    refine nonneg_of_first_order (g := fun _ => c) continuousAt_const (t0 := 1 / (s + 1)) (by positivity)
      fun t ht ht0 => ?_
    have hts : t * (s + 1) ≤ 1 := by rwa [le_div_iff₀ hs1] at ht0
    have hc : 0 ≤ t * (2 - t * s) := mul_nonneg ht.le (by linarith)
    have h1 := hopt _ (isPOVM_mePert hM hP hPP hc j)
    rw [hpert] at h1
    linarith
  linarith

theorem me_optimal_lagrange {A M : κ → Matrix ι ι ℂ} (hA : ∀ i, (A i).IsHermitian) (hM : IsPOVM M)
    (hopt : ∀ M', IsPOVM M' → meVal A M' ≤ meVal A M) (j : κ) : (meLagrange A M - A j).PosSemidef := by
  have hH : (meLagrange A M - A j).IsHermitian :=
    (meLagrange_isHermitian A M).sub (hA j)
  refine Matrix.PosSemidef.of_re_dotProduct_mulVec_nonneg hH fun x => ?_
  have hP : (vecMulVec x (star x)).PosSemidef := Matrix.posSemidef_vecMulVec_self_star x
  have hs : 0 ≤ (star x ⬝ᵥ x).re := (Complex.nonneg_iff.mp (dotProduct_star_self_nonneg x)).1
  have h1 := me_optimal_dir hA hM hopt _ _ hs hP (vecMulVec_star_mul_self x) j
  rw [← meLagrange_trace_mul A M _ hP.isHermitian] at h1
  rw [← Matrix.trace_mul_vecMulVec_star, Matrix.sub_mul, Matrix.trace_sub, Complex.sub_re]
  exact sub_nonneg.mpr h1

theorem me_strong_duality_gen [Nonempty κ] (A : κ → Matrix ι ι ℂ) (hA : ∀ i, (A i).IsHermitian) :
    ∃ (M : κ → Matrix ι ι ℂ) (Y : Matrix ι ι ℂ), IsPOVM M ∧ Y.IsHermitian ∧
      (∀ j, (Y - A j).PosSemidef) ∧ meVal A M = Y.trace.re := by
  obtain ⟨M, hM, hopt⟩ := me_max_attained A
  exact ⟨M, meLagrange A M, hM, meLagrange_isHermitian A M, me_optimal_lagrange hA hM hopt, (meLagrange_trace A M).symm⟩

theorem me_hykl_iff_gen {A M : κ → Matrix ι ι ℂ} (hA : ∀ i, (A i).IsHermitian) (hM : IsPOVM M) :
    (∀ M', IsPOVM M' → meVal A M' ≤ meVal A M)
      ↔ (meGamma A M).IsHermitian ∧ ∀ j, (meGamma A M - A j).PosSemidef := by
  constructor
  · intro hopt
    have hG := me_optimal_lagrange hA hM hopt
    have h0 := (me_zero_gap_iff hM hG).mp (meLagrange_trace A M).symm
    have hEq : meLagrange A M = meGamma A M := by
      have h1 : ∀ i, meLagrange A M * M i = A i * M i := fun i => by
        have := h0 i
        rwa [Matrix.sub_mul, sub_eq_zero] at this
      calc meLagrange A M = meLagrange A M * ∑ i, M i := by rw [hM.2, Matrix.mul_one]
        _ = ∑ i, A i * M i := by rw [Finset.mul_sum]; exact Finset.sum_congr rfl fun i _ => h1 i
    rw [← hEq]
    exact ⟨meLagrange_isHermitian A M, hG⟩
  · rintro ⟨-, hG⟩ M' hM'
    have := meVal_le_of_dual hM' hG
    rwa [← meVal_eq_trace_gamma] at this

end Pert

end Toq.Discrim
