import Toq.Model.Discrim
import Toq.Proofs.Povm
import Toq.Proofs.Cert
import Toq.Proofs.Spectral
/-!
# Minimum-error and unambiguous discrimination: duality gaps, measurements built from a remainder, the core checkers

Over arbitrary finite index types.  A measurement `M` on weighted states `A` has value `meVal A M = Σ_i Re tr(A_i M_i)`
(`Toq.Proofs.Povm`); the duality gap is a sum of traces of products of PSD matrices (`me_gap_eq`), which gives weak duality, and –
since such a sum vanishes only if every product does (`sum_psd_trace_mul_eq_zero_iff`) – complementary slackness.  The same for
the Gram-form program of unambiguous discrimination (`UaFeasible`, `UaDualFeasible`, `ua_gap_eq`).  Measurements are built by adding
a PSD remainder to one outcome (`meAbsorb`): an inconclusive outcome, or what orthogonal projectors leave of the identity.
`nonneg_of_first_order` is the first-order test through which both strong-duality proofs read optimality along a curve.
Over `Fin`: soundness of the function-indexed core checkers of `Toq.Model.Discrim`.
-/

open Matrix
open scoped ComplexOrder MatrixOrder

namespace Toq.Discrim
open EMat Toq.Rand

/-- divide by `t` and let `t → 0` -/
theorem nonneg_of_first_order {g : ℝ → ℝ} (hg : ContinuousAt g 0) {a t0 : ℝ} (ht0 : 0 < t0)
    (h : ∀ t, 0 < t → t ≤ t0 → 0 ≤ t * (a + t * g t)) : 0 ≤ a := by
  have hlim : Filter.Tendsto (fun t => a + t * g t) (nhdsWithin 0 (Set.Ioi 0)) (nhds (a + 0 * g 0)) :=
    ((continuousAt_const.add (continuousAt_id.mul hg)).tendsto).mono_left nhdsWithin_le_nhds
  rw [zero_mul, add_zero] at hlim
  refine ge_of_tendsto hlim ?_
  filter_upwards [Ioc_mem_nhdsGT ht0] with t ht
  exact nonneg_of_mul_nonneg_right (h t ht.1 ht.2) ht.1

section Generic
variable {ι κ : Type*} [Fintype ι] [Fintype κ]

variable [DecidableEq ι]

theorem me_gap_eq (A M : κ → Matrix ι ι ℂ) (Y : Matrix ι ι ℂ) (hsum : ∑ i, M i = 1) :
    Y.trace.re - meVal A M = ∑ i, ((Y - A i) * M i).trace.re := by
  have h2 : Y.trace = ∑ i, (Y * M i).trace := by
    rw [← Matrix.trace_sum, ← Matrix.mul_sum, hsum, Matrix.mul_one]
  unfold meVal
  rw [h2]
  simp only [Matrix.sub_mul, Matrix.trace_sub, Complex.sub_re, Finset.sum_sub_distrib, Complex.re_sum]

theorem meVal_le_of_dual {A M : κ → Matrix ι ι ℂ} {Y : Matrix ι ι ℂ} (hM : IsPOVM M) (hY : ∀ i, (Y - A i).PosSemidef) :
    meVal A M ≤ Y.trace.re := by
  rw [← sub_nonneg, me_gap_eq A M Y hM.2]
  exact sum_psd_trace_mul_nonneg hY hM.1

theorem me_zero_gap_iff {A M : κ → Matrix ι ι ℂ} {Y : Matrix ι ι ℂ} (hM : IsPOVM M) (hY : ∀ i, (Y - A i).PosSemidef) :
    meVal A M = Y.trace.re ↔ ∀ i, (Y - A i) * M i = 0 := by
  rw [eq_comm, ← sub_eq_zero, me_gap_eq A M Y hM.2, sum_psd_trace_mul_eq_zero_iff hY hM.1]

/-- every `ρ_i` is kept by `M_i` (`tr ρ_i (1 − M_i) = 0`), hence killed by `M_j` for `j ≠ i`, and
`ρ_i ρ_j = ρ_i M_j ρ_j = 0` (`Matrix.IsHermitian.mul_eq_zero_of_mul_eq_self`) -/
theorem me_orthogonal_of_value_one [DecidableEq κ] (ρ : κ → Matrix ι ι ℂ) (p : κ → ℝ) {M : κ → Matrix ι ι ℂ}
    (hρ : ∀ i, (ρ i).PosSemidef) (htr : ∀ i, (ρ i).trace = 1) (hp : ∀ i, 0 < p i) (hsum : ∑ i, p i = 1) (hPM : IsPOVM M)
    (hv : successProb ρ p M = 1) (i j : κ) (hij : i ≠ j) :
    ρ i * ρ j = 0 := by
  have hcpsd := hPM.one_sub_posSemidef
  obtain ⟨hM, hMsum⟩ := hPM
  have hz : ∀ i, (ρ i * (1 - M i)).trace.re = 0 := fun i => by
    -- total mass minus value, `Σ_i p_i tr(ρ_i (1 − M_i)) = 1 − 1`, is a sum of non-negative terms
    have h0 : ∑ i, p i * (ρ i * (1 - M i)).trace.re = 0 := by
      rw [successProb] at hv
      simp only [Matrix.trace_sub, Complex.sub_re, htr, Complex.one_re, mul_sub, mul_one, Finset.sum_sub_distrib, hsum, hv,
        sub_self]
    exact (mul_eq_zero.mp ((Finset.sum_eq_zero_iff_of_nonneg fun i _ =>
      mul_nonneg (hp i).le (psd_trace_mul_nonneg (hρ i) (hcpsd i))).mp h0 i (Finset.mem_univ i))).resolve_left (hp i).ne'
  have hkeep : ρ j * M j = ρ j := by
    have := (psd_trace_mul_eq_zero_iff (hρ j) (hcpsd j)).mp (hz j)
    rwa [Matrix.mul_sub, Matrix.mul_one, sub_eq_zero, eq_comm] at this
  have hoff : ρ i * M j = 0 := by
    have h1 := hz i
    rw [← hMsum, ← Finset.sum_erase_eq_sub (Finset.mem_univ i), Finset.mul_sum, Matrix.trace_sum, Complex.re_sum] at h1
    exact (psd_trace_mul_eq_zero_iff (hρ i) (hM j)).mp ((Finset.sum_eq_zero_iff_of_nonneg
      fun l _ => psd_trace_mul_nonneg (hρ i) (hM l)).mp h1 j (Finset.mem_erase.mpr ⟨hij.symm, Finset.mem_univ j⟩))
  exact (hρ j).isHermitian.mul_eq_zero_of_mul_eq_self (hM j).isHermitian hoff hkeep

theorem me_nonneg (ρ : κ → Matrix ι ι ℂ) (p : κ → ℝ) (M : κ → Matrix ι ι ℂ)
    (hρ : ∀ i, (ρ i).PosSemidef) (hp : ∀ i, 0 ≤ p i) (hM : ∀ i, (M i).PosSemidef) :
    0 ≤ successProb ρ p M :=
  Finset.sum_nonneg fun i _ => mul_nonneg (hp i) (psd_trace_mul_nonneg (hρ i) (hM i))

/-- `q` is feasible for the Gram-form program of unambiguous discrimination with Gram matrix `G` -/
def UaFeasible (G : Matrix ι ι ℂ) (q : ι → ℝ) : Prop :=
  (∀ i, 0 ≤ q i) ∧ (G - Matrix.diagonal fun i => (q i : ℂ)).PosSemidef

/-- `Z` is feasible for its dual with priors `p` -/
def UaDualFeasible (p : ι → ℝ) (Z : Matrix ι ι ℂ) : Prop := Z.PosSemidef ∧ ∀ i, p i ≤ (Z i i).re

def uaValues (G : Matrix ι ι ℂ) (p : ι → ℝ) : Set ℝ := {v | ∃ q, UaFeasible G q ∧ ∑ i, p i * q i = v}

def uaDualValues (G : Matrix ι ι ℂ) (p : ι → ℝ) : Set ℝ := {v | ∃ Z, UaDualFeasible p Z ∧ (G * Z).trace.re = v}

theorem ua_gap_eq (G Z : Matrix ι ι ℂ) (p q : ι → ℝ) :
    (G * Z).trace.re - ∑ i, p i * q i
      = ((G - Matrix.diagonal fun i => (q i : ℂ)) * Z).trace.re + ∑ i, q i * ((Z i i).re - p i) := by
  rw [Matrix.sub_mul, Matrix.trace_sub, Complex.sub_re, Matrix.re_trace_diagonal_ofReal_mul, sub_add, ← Finset.sum_sub_distrib]
  exact congrArg _ (Finset.sum_congr rfl fun i _ => by ring)

theorem ua_gap_terms_nonneg {G Z : Matrix ι ι ℂ} {p q : ι → ℝ} (hq : UaFeasible G q) (hZ : UaDualFeasible p Z) :
    0 ≤ ((G - Matrix.diagonal fun i => (q i : ℂ)) * Z).trace.re ∧ ∀ i, 0 ≤ q i * ((Z i i).re - p i) :=
  ⟨psd_trace_mul_nonneg hq.2 hZ.1, fun i => mul_nonneg (hq.1 i) (sub_nonneg.mpr (hZ.2 i))⟩

theorem unamb_weak_duality_gen {G Z : Matrix ι ι ℂ} {p q : ι → ℝ} (hq : UaFeasible G q) (hZ : UaDualFeasible p Z) :
    ∑ i, p i * q i ≤ (G * Z).trace.re := by
  rw [← sub_nonneg, ua_gap_eq]
  exact add_nonneg (ua_gap_terms_nonneg hq hZ).1 (Finset.sum_nonneg fun i _ => (ua_gap_terms_nonneg hq hZ).2 i)

theorem ua_zero_gap_iff {G Z : Matrix ι ι ℂ} {p q : ι → ℝ} (hq : UaFeasible G q) (hZ : UaDualFeasible p Z) :
    ∑ i, p i * q i = (G * Z).trace.re ↔
      (G - Matrix.diagonal fun i => (q i : ℂ)) * Z = 0 ∧ ∀ i, q i * ((Z i i).re - p i) = 0 := by
  obtain ⟨h1, h2⟩ := ua_gap_terms_nonneg hq hZ
  rw [eq_comm, ← sub_eq_zero, ua_gap_eq, add_eq_zero_iff_of_nonneg h1 (Finset.sum_nonneg fun i _ => h2 i),
    psd_trace_mul_eq_zero_iff hq.2 hZ.1, Finset.sum_eq_zero_iff_of_nonneg fun i _ => h2 i]
  simp only [Finset.mem_univ, true_imp_iff]

theorem uaValues_le_uaDualValues (G : Matrix ι ι ℂ) (p : ι → ℝ) : ∀ a ∈ uaValues G p, ∀ b ∈ uaDualValues G p, a ≤ b := by
  rintro _ ⟨q, hq, rfl⟩ _ ⟨Z, hZ, rfl⟩
  exact unamb_weak_duality_gen hq hZ

theorem ua_slack_psd (G : Matrix ι ι ℂ) (q : ι → ℝ) (hG : G.IsHermitian)
    (h : ∀ x : ι → ℂ, ∑ i, q i * Complex.normSq (x i) ≤ (star x ⬝ᵥ (G *ᵥ x)).re) :
    (G - Matrix.diagonal fun i => (q i : ℂ)).PosSemidef := by
  have hD : (Matrix.diagonal fun i => (q i : ℂ)).IsHermitian :=
    Matrix.isHermitian_diagonal_iff.mpr fun i => Complex.conj_ofReal _
  refine Matrix.PosSemidef.of_re_dotProduct_mulVec_nonneg (hG.sub hD) fun x => ?_
  rw [Matrix.sub_mulVec, dotProduct_sub, Complex.sub_re, Matrix.star_dotProduct_diagonal_ofReal_mulVec, Complex.ofReal_re]
  exact sub_nonneg.mpr (h x)

theorem ua_zero_of_kernel (G : Matrix ι ι ℂ) (q : ι → ℝ) (c : ι → ℂ) (hq : UaFeasible G q) (hc : G *ᵥ c = 0) (j : ι)
    (hj : c j ≠ 0) : q j = 0 := by
  have h := hq.2.dotProduct_mulVec_nonneg c
  rw [Matrix.sub_mulVec, hc, zero_sub, dotProduct_neg, Matrix.star_dotProduct_diagonal_ofReal_mulVec, ← Complex.ofReal_neg,
    Complex.zero_le_real, neg_nonneg] at h
  have h3 : ∀ i ∈ Finset.univ, 0 ≤ q i * Complex.normSq (c i) :=
    fun i _ => mul_nonneg (hq.1 i) (Complex.normSq_nonneg _)
  have h5 := (Finset.sum_eq_zero_iff_of_nonneg h3).mp (le_antisymm h (Finset.sum_nonneg h3)) j (Finset.mem_univ j)
  exact (mul_eq_zero.mp h5).resolve_right fun h6 => hj (Complex.normSq_eq_zero.mp h6)

end Generic

section Absorb
variable {ι κ : Type*}

/-- `R` added to outcome `j0`: `R` is the inconclusive outcome of an unambiguous measurement, or what orthogonal projectors
leave of the identity -/
def meAbsorb [DecidableEq κ] (M : κ → Matrix ι ι ℂ) (R : Matrix ι ι ℂ) (j0 : κ) : κ → Matrix ι ι ℂ :=
  fun i => M i + if i = j0 then R else 0

theorem meAbsorb_forall [DecidableEq κ] {P : Matrix ι ι ℂ → Prop} (hadd : ∀ A B, P A → P B → P (A + B))
    {M : κ → Matrix ι ι ℂ} {R : Matrix ι ι ℂ} (hM : ∀ i, P (M i)) (hR : P R) (j0 i : κ) : P (meAbsorb M R j0 i) := by
  unfold meAbsorb
  split
  · exact hadd _ _ (hM i) hR
  · rw [add_zero]; exact hM i

section
variable [Fintype κ]

theorem meAbsorb_sum [DecidableEq κ] (M : κ → Matrix ι ι ℂ) (R : Matrix ι ι ℂ) (j0 : κ) :
    ∑ i, meAbsorb M R j0 i = ∑ i, M i + R := by
  unfold meAbsorb
  rw [Finset.sum_add_distrib, Finset.sum_ite_eq' Finset.univ j0, if_pos (Finset.mem_univ j0)]

end

variable [Fintype ι]

theorem meAbsorb_mul [DecidableEq κ] {A R : Matrix ι ι ℂ} (h : A * R = 0) (M : κ → Matrix ι ι ℂ) (j0 i : κ) :
    A * meAbsorb M R j0 i = A * M i := by
  unfold meAbsorb
  split
  · rw [Matrix.mul_add, h, add_zero]
  · rw [add_zero]

theorem meAbsorb_trace_mul [DecidableEq κ] (A R : Matrix ι ι ℂ) (M : κ → Matrix ι ι ℂ) (j0 i : κ) :
    (A * meAbsorb M R j0 i).trace.re = (A * M i).trace.re + if i = j0 then (A * R).trace.re else 0 := by
  unfold meAbsorb
  split
  · rw [Matrix.mul_add, Matrix.trace_add, Complex.add_re]
  · rw [add_zero, add_zero]

variable [Fintype κ]

theorem me_mul_sum_proj [DecidableEq κ] (Pr : κ → Matrix ι ι ℂ) (hO : ∀ i j, i ≠ j → Pr i * Pr j = 0)
    (A : Matrix ι ι ℂ) (i : κ) (hA : A * Pr i = A) : A * ∑ l, Pr l = A := by
  rw [Finset.mul_sum, Finset.sum_eq_single i]
  · exact hA
  · intro j _ hj
    rw [← hA, Matrix.mul_assoc, hO i j (Ne.symm hj), Matrix.mul_zero]
  · intro h; exact absurd (Finset.mem_univ i) h

variable [DecidableEq ι]

theorem isPOVM_meAbsorb [DecidableEq κ] {M : κ → Matrix ι ι ℂ} {R : Matrix ι ι ℂ} (hM : ∀ i, (M i).PosSemidef)
    (hR : R.PosSemidef) (h : ∑ i, M i + R = 1) (j0 : κ) : IsPOVM (meAbsorb M R j0) :=
  ⟨meAbsorb_forall (P := Matrix.PosSemidef) (fun _ _ => Matrix.PosSemidef.add) hM hR j0, (meAbsorb_sum M R j0).trans h⟩

theorem successProb_le_meAbsorb [DecidableEq κ] (ρ : κ → Matrix ι ι ℂ) (p : κ → ℝ) (hρ : ∀ i, (ρ i).PosSemidef)
    (hp : ∀ i, 0 ≤ p i) (M : κ → Matrix ι ι ℂ) {R : Matrix ι ι ℂ} (hR : R.PosSemidef) (j0 : κ) :
    successProb ρ p M ≤ successProb ρ p (meAbsorb M R j0) := by
  refine Finset.sum_le_sum fun i _ => mul_le_mul_of_nonneg_left ?_ (hp i)
  rw [meAbsorb_trace_mul]
  split
  · exact le_add_of_nonneg_right (psd_trace_mul_nonneg (hρ i) hR)
  · rw [add_zero]

/-- re-labelling the inconclusive outcome `R` of an unambiguous strategy (`tr(σ_i M_i) = 0`) as the answer `j` gives
error probability at most the probability `tr((Σ_i σ_i) R)` of the inconclusive outcome -/
theorem meAbsorb_value_le [DecidableEq κ] (σ M : κ → Matrix ι ι ℂ) (R : Matrix ι ι ℂ) (j : κ) (hσ : ∀ i, (σ i).PosSemidef)
    (hR : R.PosSemidef) (hzero : ∀ i, (σ i * M i).trace.re = 0) :
    ∑ i, (σ i * meAbsorb M R j i).trace.re ≤ ((∑ i, σ i) * R).trace.re := by
  simp only [meAbsorb_trace_mul, hzero, zero_add]
  rw [Finset.sum_ite_eq' Finset.univ j, if_pos (Finset.mem_univ j), Finset.sum_mul, Matrix.trace_sum, Complex.re_sum]
  exact Finset.single_le_sum (f := fun i => (σ i * R).trace.re)
    (fun i _ => psd_trace_mul_nonneg (hσ i) hR) (Finset.mem_univ j)

/-- the inconclusive outcome as one more outcome `none` (its value: `meVal_option_elim`) -/
theorem isPOVM_option_elim {M0 : Matrix ι ι ℂ} {M : κ → Matrix ι ι ℂ} (h0 : M0.PosSemidef) (hM : ∀ i, (M i).PosSemidef)
    (h : M0 + ∑ i, M i = 1) : IsPOVM fun o : Option κ => o.elim M0 M :=
  ⟨fun o => by cases o; exacts [h0, hM _], (Fintype.sum_option _).trans h⟩

theorem me_sum_proj_compl_psd [DecidableEq κ] (Pr : κ → Matrix ι ι ℂ) (hH : ∀ i, (Pr i).IsHermitian)
    (hI : ∀ i, Pr i * Pr i = Pr i) (hO : ∀ i j, i ≠ j → Pr i * Pr j = 0) : (1 - ∑ l, Pr l).PosSemidef := by
  refine Toq.Metrics.posSemidef_one_sub_of_idem (isSelfAdjoint_sum _ fun i _ => hH i) ?_
  rw [Finset.sum_mul]
  exact Finset.sum_congr rfl fun i _ => me_mul_sum_proj Pr hO (Pr i) i (hI i)

end Absorb

variable {d k : Nat}

theorem toM_diagQ (q : Fin k → Rat) :
    (diagQ q).toM = Matrix.diagonal fun i => (((q i : Rat) : ℝ) : ℂ) := by
  ext i j
  by_cases h : i = j <;> simp [diagQ, h, QI.toC_ofRat]

theorem toM_sumMats (k : Nat) (M : Fin k → EMat d d) : (sumMats k M).toM = ∑ i, (M i).toM := by
  ext a b
  simp [sumMats, sumFin_toC, Matrix.sum_apply]

theorem Ensemble.state_mem_states (ens : Ensemble d) {i : Nat} (hi : i < ens.size) : ens.state i ∈ ens.states := by
  rw [Ensemble.state, List.getD_eq_getElem?_getD, List.getElem?_eq_getElem hi, Option.getD_some]
  exact List.getElem_mem hi

theorem me_pos_of_sum_eq_one {k : Nat} (p : Fin k → ℝ) (hsum : ∑ i, p i = 1) : 0 < k := by
  rcases Nat.eq_zero_or_pos k with rfl | h
  · rw [Finset.univ_eq_empty, Finset.sum_empty] at hsum
    exact absurd hsum zero_ne_one
  · exact h

theorem lens3Ok_iff (k a b c : Nat) : lens3Ok k a b c = true ↔ a = k ∧ b = k ∧ c = k := by
  simp [lens3Ok, and_assoc]

theorem minErrValueFn_cast (k : Nat) (ρ : Fin k → EMat d d) (p : Fin k → Rat) (M : Fin k → EMat d d) :
    ((minErrValueFn k ρ p M : Rat) : ℝ)
      = ∑ i, ((p i : Rat) : ℝ) * ((ρ i).toM * (M i).toM).trace.re := by
  unfold minErrValueFn
  rw [sumFinQ_cast]
  refine Finset.sum_congr rfl fun i _ => ?_
  rw [Rat.cast_mul, re_trace, toM_mul]

theorem povmPsdOk_sound {k : Nat} {M LM : Fin k → EMat d d} (h : povmPsdOk k M LM = true) (i : Fin k) :
    (M i).toM.PosSemidef :=
  psdCert_sound _ _ ((allFin_iff _ _).mp h i)

theorem povmSumOk_sound {k : Nat} {M : Fin k → EMat d d} (h : povmSumOk k M = true) : ∑ i, (M i).toM = 1 := by
  rw [← toM_sumMats, beq_sound _ _ h, toM_one]

theorem dualPsdOk_sound {k : Nat} {ρ : Fin k → EMat d d} {p : Fin k → Rat} {Y : EMat d d} {LY : Fin k → EMat d d}
    (h : dualPsdOk k ρ p Y LY = true) (i : Fin k) : (Y.toM - (((p i : Rat) : ℝ) : ℂ) • (ρ i).toM).PosSemidef :=
  psdCert_denote ((allFin_iff _ _).mp h i) (by rw [toM_sub, toM_smul])

theorem qNonnegOk_sound {q : Fin k → Rat} (h : qNonnegOk k q = true) (i : Fin k) : (0 : ℝ) ≤ ((q i : Rat) : ℝ) :=
  Rat.cast_nonneg.mpr (of_decide_eq_true ((allFin_iff _ _).mp h i))

theorem zDiagOk_sound {p : Fin k → Rat} {Z : EMat k k} (h : zDiagOk k p Z = true) (i : Fin k) :
    ((p i : Rat) : ℝ) ≤ (Z.toM i i).re :=
  Rat.cast_le.mpr (of_decide_eq_true ((allFin_iff _ _).mp h i))

theorem checkMinErrPrimalFn_sound (k : Nat) (ρ : Fin k → EMat d d) (p : Fin k → Rat)
    (M LM : Fin k → EMat d d) (lo : Rat) (h : checkMinErrPrimalFn k ρ p M LM = some lo) :
    IsPOVM (fun i => (M i).toM) ∧
      successProb (fun i => (ρ i).toM) (fun i => ((p i : Rat) : ℝ)) (fun i => (M i).toM) = (lo : ℝ) := by
  obtain ⟨rfl, hp, hs⟩ := guard_eq_some h
  exact ⟨⟨povmPsdOk_sound hp, povmSumOk_sound hs⟩, (minErrValueFn_cast k ρ p M).symm⟩

theorem checkMinErrDualFn_sound (k : Nat) (ρ : Fin k → EMat d d) (p : Fin k → Rat) (Y : EMat d d)
    (LY : Fin k → EMat d d) (hi : Rat) (h : checkMinErrDualFn k ρ p Y LY = some hi) :
    (∀ i, (Y.toM - (((p i : Rat) : ℝ) : ℂ) • (ρ i).toM).PosSemidef) ∧ Y.toM.trace.re = (hi : ℝ) := by
  obtain ⟨rfl, -, hY⟩ := guard_eq_some h
  exact ⟨dualPsdOk_sound hY, (re_trace Y).symm⟩

theorem unambValueFn_cast (k : Nat) (p q : Fin k → Rat) :
    ((unambValueFn k p q : Rat) : ℝ) = ∑ i, ((p i : Rat) : ℝ) * ((q i : Rat) : ℝ) := by
  unfold unambValueFn
  rw [sumFinQ_cast]
  exact Finset.sum_congr rfl fun i _ => Rat.cast_mul _ _

theorem checkUnambPrimalFn_sound (G : EMat k k) (p q : Fin k → Rat) (L : EMat k k) (lo : Rat)
    (h : checkUnambPrimalFn G p q L = some lo) :
    UaFeasible G.toM (fun i => ((q i : Rat) : ℝ)) ∧ ∑ i, ((p i : Rat) : ℝ) * ((q i : Rat) : ℝ) = (lo : ℝ) := by
  obtain ⟨rfl, hq, hG⟩ := guard_eq_some h
  exact ⟨⟨qNonnegOk_sound hq, psdCert_denote hG (by rw [toM_sub, toM_diagQ])⟩, (unambValueFn_cast k p q).symm⟩

theorem checkUnambDualFn_sound (G : EMat k k) (p : Fin k → Rat) (Z LZ : EMat k k) (hi : Rat)
    (h : checkUnambDualFn G p Z LZ = some hi) :
    UaDualFeasible (fun i => ((p i : Rat) : ℝ)) Z.toM ∧ (G.toM * Z.toM).trace.re = (hi : ℝ) := by
  obtain ⟨rfl, hZ, hp⟩ := guard_eq_some h
  exact ⟨⟨psdCert_sound _ _ hZ, zDiagOk_sound hp⟩, by rw [← toM_mul, ← re_trace]⟩

end Toq.Discrim
