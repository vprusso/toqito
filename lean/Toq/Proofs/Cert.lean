import Toq.Core.EMat
import Toq.Proofs.Psd
/-!
# Exact scalars and matrices read in `ℂ`, the PSD certificates, and how the answer of a checker is read

Three things that every file about an exact model needs:

* The reading.  `QI.toC` and `EMat.toM` read the executable Gaussian rationals and exact matrices `EMat n m` as complex numbers and as
  `Matrix (Fin n) (Fin m) ℂ`.  `toC` is injective and respects `0`, `1`, `+`, `-`, `*`, `conj` (the equations `QI.toC_*`), and `toM` commutes
  with every operation of `EMat` (`EMat.toM_*`); the executable sums `sumFin`, `sumFinQ` become `∑` under any additive map
  (`map_foldl_add_finRange`).  `QI` has no ring instance of its own (`GI` has one, in `Toq.Proofs.Scalar`, because generic theorems are
  applied to what the drivers compute in `GI`): every statement about `QI` is a statement about its complex reading.  `QI.abs1` is
  `|re| + |im|` (`QI.abs1_eq`), a rational bound of the modulus.
* The certificates.  Through the reading the two PSD certificates (`diagDominant`: Gershgorin; `psdCert`: `A - L Lᴴ` diagonally dominant) are
  sound for Mathlib's `Matrix.PosSemidef` (`Toq.Proofs.Psd`); `psdCert_denote` reads a certificate for an exact expression, and `EMat.toC_quad`,
  `EMat.toC_normSq` are the quadratic form and the squared norm of an exact column, through which a negative certificate refutes positive
  semidefiniteness (`Matrix.PosSemidef.re_quad_add_nonneg`).
* The answer of a checker (last section; about `ite` alone, no matrix in it).  A checker is `if c then some v else none`, a verdict a cascade of
  such tests: `check_eq_some`, `ite_eq_iff_of_left_ne` and its companions read an answer back into the conditions that produced it.
-/

open Matrix
open scoped ComplexOrder

/-- the complex number denoted by a Gaussian rational -/
def QI.toC (a : QI) : ℂ := ⟨(a.re : ℝ), (a.im : ℝ)⟩

namespace QI

@[simp] theorem add_re (a b : QI) : (a + b).re = a.re + b.re := rfl
@[simp] theorem add_im (a b : QI) : (a + b).im = a.im + b.im := rfl
@[simp] theorem sub_re (a b : QI) : (a - b).re = a.re - b.re := rfl
@[simp] theorem sub_im (a b : QI) : (a - b).im = a.im - b.im := rfl
@[simp] theorem neg_re (a : QI) : (-a).re = -a.re := rfl
@[simp] theorem neg_im (a : QI) : (-a).im = -a.im := rfl
@[simp] theorem mul_re (a b : QI) : (a * b).re = a.re * b.re - a.im * b.im := rfl
@[simp] theorem mul_im (a b : QI) : (a * b).im = a.re * b.im + a.im * b.re := rfl
@[simp] theorem zero_re : (0 : QI).re = 0 := rfl
@[simp] theorem zero_im : (0 : QI).im = 0 := rfl
@[simp] theorem one_re : (1 : QI).re = 1 := rfl
@[simp] theorem one_im : (1 : QI).im = 0 := rfl
@[simp] theorem conj_re (a : QI) : a.conj.re = a.re := rfl
@[simp] theorem conj_im (a : QI) : a.conj.im = -a.im := rfl
@[simp] theorem ofRat_re (q : Rat) : (ofRat q).re = q := rfl
@[simp] theorem ofRat_im (q : Rat) : (ofRat q).im = 0 := rfl
@[simp] theorem smul_re (q : Rat) (a : QI) : (smul q a).re = q * a.re := rfl
@[simp] theorem smul_im (q : Rat) (a : QI) : (smul q a).im = q * a.im := rfl

@[simp] theorem toC_re (a : QI) : a.toC.re = (a.re : ℝ) := rfl
@[simp] theorem toC_im (a : QI) : a.toC.im = (a.im : ℝ) := rfl

theorem toC_add (a b : QI) : (a + b).toC = a.toC + b.toC := by
  apply Complex.ext <;> simp
theorem toC_sub (a b : QI) : (a - b).toC = a.toC - b.toC := by
  apply Complex.ext <;> simp
theorem toC_neg (a : QI) : (-a).toC = -a.toC := by
  apply Complex.ext <;> simp
theorem toC_mul (a b : QI) : (a * b).toC = a.toC * b.toC := by
  apply Complex.ext <;> simp
@[simp] theorem toC_zero : (0 : QI).toC = 0 := by
  apply Complex.ext <;> simp
@[simp] theorem toC_one : (1 : QI).toC = 1 := by
  apply Complex.ext <;> simp
theorem toC_conj (a : QI) : a.conj.toC = (starRingEnd ℂ) a.toC := by
  apply Complex.ext <;> simp
theorem toC_smul (q : Rat) (a : QI) : (smul q a).toC = ((q : ℝ) : ℂ) * a.toC := by
  apply Complex.ext <;> simp
theorem toC_ofRat (q : Rat) : (ofRat q).toC = ((q : ℝ) : ℂ) := by
  apply Complex.ext <;> simp

theorem toC_injective : Function.Injective QI.toC := by
  intro a b h
  have h1 := congrArg Complex.re h
  have h2 := congrArg Complex.im h
  simp only [toC_re, toC_im, Rat.cast_inj] at h1 h2
  cases a; cases b; simp_all

theorem toC_eq_zero_iff (a : QI) : a.toC = 0 ↔ a = 0 :=
  toC_injective.eq_iff' toC_zero

/-- `abs1` in Mathlib's words (Core writes `|q|` as `if q < 0 then -q else q`) -/
theorem abs1_eq (a : QI) : a.abs1 = |a.re| + |a.im| := by
  have h : ∀ q : Rat, (if q < 0 then -q else q) = |q| := fun q => by
    split_ifs with hq
    exacts [(abs_of_neg hq).symm, (abs_of_nonneg (not_lt.mp hq)).symm]
  rw [abs1, h, h]

theorem cast_abs1 (a : QI) : ((a.abs1 : Rat) : ℝ) = |(a.re : ℝ)| + |(a.im : ℝ)| := by
  rw [abs1_eq, Rat.cast_add, Rat.cast_abs, Rat.cast_abs]

theorem abs1_sub_self (a : QI) : (a - a).abs1 = 0 := by
  rw [abs1_eq, sub_re, sub_im, sub_self, sub_self, abs_zero, add_zero]

/-- `|re| + |im|` bounds the modulus -/
theorem norm_toC_le_abs1 (a : QI) : ‖a.toC‖ ≤ ((a.abs1 : Rat) : ℝ) :=
  (Complex.norm_le_abs_re_add_abs_im _).trans_eq (cast_abs1 a).symm

end QI

/-- a map that respects `0` and `+` goes through the left fold of `+` over `Fin k`, the recursion of `sumFin` and `sumFinQ`
(for the sum over `List.range`, the recursion of `sumN`, it is `sumN_map` in `Toq.Proofs.SumN`) -/
theorem map_foldl_add_finRange {α β : Type*} [Add α] [Zero α] [AddCommMonoid β] (φ : α → β) (h0 : φ 0 = 0)
    (hadd : ∀ a b, φ (a + b) = φ a + φ b) (k : Nat) (f : Fin k → α) :
    φ ((List.finRange k).foldl (fun acc l => acc + f l) 0) = ∑ l, φ (f l) := by
  rw [Fin.sum_univ_def, List.sum_eq_foldl, List.foldl_map, ← h0]
  exact (List.foldl_hom φ fun a l => (hadd a (f l)).symm).symm

/-- the complex matrix denoted by an exact matrix -/
def EMat.toM {n m : Nat} (A : EMat n m) : Matrix (Fin n) (Fin m) ℂ := fun i j => (A.get i j).toC

namespace EMat
variable {n m k : Nat}

@[simp] theorem toM_apply (A : EMat n m) (i : Fin n) (j : Fin m) : A.toM i j = (A.get i j).toC := rfl

@[simp] theorem get_add (A B : EMat n m) (i j) : (A + B).get i j = A.get i j + B.get i j :=
  get_ofFn _ i j
@[simp] theorem get_sub (A B : EMat n m) (i j) : (A - B).get i j = A.get i j - B.get i j :=
  get_ofFn _ i j
@[simp] theorem get_neg (A : EMat n m) (i j) : (-A).get i j = -A.get i j :=
  get_ofFn _ i j
@[simp] theorem get_smul (q : Rat) (A : EMat n m) (i j) : (smul q A).get i j = QI.smul q (A.get i j) :=
  get_ofFn _ i j
@[simp] theorem get_mul (A : EMat n k) (B : EMat k m) (i j) :
    (A.mul B).get i j = sumFin k fun l => A.get i l * B.get l j := get_ofFn _ i j
@[simp] theorem get_ct (A : EMat n m) (i j) : A.ct.get i j = (A.get j i).conj := get_ofFn _ i j
@[simp] theorem get_transpose (A : EMat n m) (i j) : A.transpose.get i j = A.get j i := get_ofFn _ i j
@[simp] theorem get_one (i j : Fin n) : (one : EMat n n).get i j = if i = j then 1 else 0 :=
  get_ofFn _ i j
@[simp] theorem get_zero (i : Fin n) (j : Fin m) : (zero : EMat n m).get i j = 0 := get_ofFn _ i j
@[simp] theorem get_scalar (q : Rat) (i j : Fin n) :
    (scalar q : EMat n n).get i j = if i = j then QI.ofRat q else 0 := get_ofFn _ i j

theorem get_mk_ofFn (F : Fin n → Vector QI m) (i : Fin n) (j : Fin m) : (EMat.mk (Vector.ofFn F)).get i j = (F i)[j] := by
  simp only [get, Fin.getElem_fin, Vector.getElem_ofFn, Fin.eta]

theorem sumFin_toC (k : Nat) (f : Fin k → QI) : (sumFin k f).toC = ∑ l, (f l).toC :=
  map_foldl_add_finRange QI.toC QI.toC_zero QI.toC_add k f

theorem sumFinQ_cast (k : Nat) (f : Fin k → Rat) : ((sumFinQ k f : Rat) : ℝ) = ∑ l, (f l : ℝ) :=
  map_foldl_add_finRange (Rat.cast : Rat → ℝ) Rat.cast_zero Rat.cast_add k f

theorem allFin_iff (k : Nat) (p : Fin k → Bool) : allFin k p = true ↔ ∀ i, p i = true := by
  simp only [allFin, List.all_eq_true, List.mem_finRange, true_imp_iff]

theorem toM_add (A B : EMat n m) : (A + B).toM = A.toM + B.toM := by
  ext i j; simp [QI.toC_add]
theorem toM_sub (A B : EMat n m) : (A - B).toM = A.toM - B.toM := by
  ext i j; simp [QI.toC_sub]
theorem toM_neg (A : EMat n m) : (-A).toM = -A.toM := by
  ext i j; simp [QI.toC_neg]
theorem toM_smul (q : Rat) (A : EMat n m) : (smul q A).toM = ((q : ℝ) : ℂ) • A.toM := by
  ext i j; simp [QI.toC_smul]
theorem toM_mul (A : EMat n k) (B : EMat k m) : (A.mul B).toM = A.toM * B.toM := by
  ext i j; simp only [toM_apply, get_mul, sumFin_toC, QI.toC_mul, Matrix.mul_apply]
theorem toM_ct (A : EMat n m) : A.ct.toM = A.toMᴴ := by
  ext i j; simp [QI.toC_conj, Matrix.conjTranspose_apply]
theorem toM_transpose (A : EMat n m) : A.transpose.toM = A.toMᵀ := by
  ext i j; simp
theorem toM_one : (one : EMat n n).toM = 1 := by
  ext i j; by_cases h : i = j <;> simp [h, Matrix.one_apply]
theorem toM_zero : (zero : EMat n m).toM = 0 := by
  ext i j; simp
theorem toM_ofFn_diagRat (D : Fin n → Rat) :
    (EMat.ofFn fun i j : Fin n => if i = j then QI.ofRat (D i) else 0).toM = diagonal fun i => (((D i : Rat) : ℝ) : ℂ) := by
  ext i j
  by_cases hij : i = j <;> simp [hij, QI.toC_ofRat]
theorem toM_scalar (q : Rat) : (scalar q : EMat n n).toM = ((q : ℝ) : ℂ) • (1 : Matrix (Fin n) (Fin n) ℂ) := by
  ext i j; by_cases h : i = j <;> simp [h, QI.toC_ofRat]

theorem toC_trace (A : EMat n n) : (A.trace).toC = Matrix.trace A.toM :=
  sumFin_toC n _

theorem trace_eq_one_iff (ρ : EMat n n) : ρ.trace = 1 ↔ ρ.toM.trace = 1 := by
  rw [← toC_trace, ← QI.toC_one]
  exact QI.toC_injective.eq_iff.symm

theorem re_trace (A : EMat n n) : ((A.trace.re : Rat) : ℝ) = (Matrix.trace A.toM).re := by
  rw [← toC_trace]; rfl

theorem get_eq_of_toM_eq {A B : EMat n m} (h : A.toM = B.toM) (i : Fin n) (j : Fin m) : A.get i j = B.get i j :=
  QI.toC_injective (congrFun (congrFun h i) j)

/-- the exact entrywise comparison decides equality of the denoted matrices -/
theorem beq_iff (A B : EMat n m) : A.beq B = true ↔ A.toM = B.toM := by
  simp only [beq, allFin_iff, beq_iff_eq]
  exact ⟨fun h => by ext i j; simp [h i j], fun h i j => get_eq_of_toM_eq h i j⟩

theorem beq_sound (A B : EMat n m) : A.beq B = true → A.toM = B.toM :=
  (beq_iff A B).mp

/-- the exact Hermiticity test is the comparison with the conjugate transpose -/
theorem isHermitian_iff (A : EMat n n) : A.isHermitian = true ↔ A.toM.IsHermitian := by
  have e : A.isHermitian = A.beq A.ct := by simp only [isHermitian, beq, ct, get_ofFn]
  rw [e, beq_iff, toM_ct]
  exact eq_comm

theorem isHermitian_sound (A : EMat n n) : A.isHermitian = true → A.toM.IsHermitian :=
  (isHermitian_iff A).mp

/-- the complex vector denoted by an exact column -/
def colC (v : EMat n 1) : Fin n → ℂ := fun i => (v.get i 0).toC

/-- the exact `1 × 1` matrix `vᴴ A v` denotes the quadratic form -/
theorem toC_quad (A : EMat n n) (v : EMat n 1) :
    ((v.ct.mul (A.mul v)).get 0 0).toC = star v.colC ⬝ᵥ (A.toM *ᵥ v.colC) := by
  rw [← toM_apply, toM_mul, toM_mul, toM_ct, Matrix.mul_apply]
  -- entry `(0, 0)` of `vᴴ (A v)`: column `0` of `v.toM` is `v.colC`, so the sum over the middle index is the dot product written out
  rfl

/-- the exact `1 × 1` matrix `vᴴ v` denotes the squared norm -/
theorem toC_normSq (v : EMat n 1) : ((v.ct.mul v).get 0 0).toC = star v.colC ⬝ᵥ v.colC := by
  rw [← toM_apply, toM_mul, toM_ct, Matrix.mul_apply]
  rfl

theorem re_normSq_nonneg (x : EMat n 1) : (0 : ℝ) ≤ (((x.ct.mul x).get 0 0).re : Rat) := by
  have h0 := (Complex.nonneg_iff.mp (dotProduct_star_self_nonneg x.colC)).1
  rwa [← toC_normSq] at h0

theorem not_posSemidef_add_smul_one_of_quad_neg (A : EMat n n) (x : EMat n 1) (c : ℝ)
    (h : (((x.ct.mul (A.mul x)).get 0 0).re : Rat) + c * (((x.ct.mul x).get 0 0).re : Rat) < 0) :
    ¬ (A.toM + (c : ℂ) • (1 : Matrix (Fin n) (Fin n) ℂ)).PosSemidef := fun hp => by
  have h0 := hp.re_quad_add_nonneg x.colC
  rw [← toC_quad, ← toC_normSq] at h0
  exact h.not_ge h0

theorem colC_mul {d : Nat} (V : EMat d n) (c : EMat n 1) : (V.mul c).colC = V.toM *ᵥ c.colC := by
  funext a
  show ((V.mul c).toM a 0) = _
  rw [toM_mul, Matrix.mul_apply]
  -- column `0` of `c.toM` is `c.colC`: the sum is `mulVec` written out
  rfl

theorem colC_eq_zero_iff (c : EMat n 1) : c.colC = 0 ↔ ∀ i j, c.get i j = 0 := by
  constructor
  · intro h i j
    obtain rfl : j = 0 := Subsingleton.elim _ _
    exact QI.toC_injective ((congrFun h i).trans QI.toC_zero.symm)
  · intro h
    funext i
    show (c.get i 0).toC = 0
    rw [h i 0, QI.toC_zero]

end EMat

theorem diagDominant_sound {n : Nat} (R : EMat n n) : R.diagDominant = true → R.toM.PosSemidef := by
  intro h
  simp only [EMat.diagDominant, Bool.and_eq_true, EMat.allFin_iff, decide_eq_true_eq] at h
  refine Matrix.posSemidef_of_diagDominant (EMat.isHermitian_sound R h.1) fun i => ?_
  have h1 := (Rat.cast_le (K := ℝ)).mpr (h.2 i)
  rw [EMat.sumFinQ_cast, ← Finset.sum_erase_add _ _ (Finset.mem_univ i), if_pos rfl, Rat.cast_zero, add_zero] at h1
  refine (Finset.sum_le_sum fun j hj => ?_).trans h1
  rw [if_neg (Finset.ne_of_mem_erase hj)]
  exact QI.norm_toC_le_abs1 _

theorem psdCert_sound {n k : Nat} (A : EMat n n) (L : EMat n k) :
    EMat.psdCert A L = true → A.toM.PosSemidef := by
  intro h
  simp only [EMat.psdCert, Bool.and_eq_true] at h
  have h1 := diagDominant_sound _ h.2
  rw [EMat.toM_sub, EMat.toM_mul, EMat.toM_ct] at h1
  simpa using h1.add (Matrix.posSemidef_self_mul_conjTranspose L.toM)

/-- a certificate for an exact expression `A` certifies what `A` denotes -/
theorem psdCert_denote {n k : Nat} {A : EMat n n} {L : EMat n k} (h : EMat.psdCert A L = true)
    {B : Matrix (Fin n) (Fin n) ℂ} (e : A.toM = B) : B.PosSemidef :=
  e ▸ psdCert_sound A L h

/-! ## Reading the answer of a checker -/

/-- a checker `if c then some v else none` that answered `some w` verified `c` and returned `v` -/
theorem check_eq_some {α : Type*} {c : Prop} [Decidable c] {v w : α} : (if c then some v else none) = some w ↔ c ∧ v = w := by
  rw [Option.ite_none_right_eq_some, Option.some.injEq]

/-- a checker `if c₁ && c₂ then some a else none` that answered `some b` verified both tests and returned `a` -/
theorem guard_eq_some {α : Type*} {c₁ c₂ : Bool} {a b : α} (h : (if (c₁ && c₂) = true then some a else none) = some b) :
    b = a ∧ c₁ = true ∧ c₂ = true := by
  obtain ⟨hc, e⟩ := check_eq_some.mp h
  exact ⟨e.symm, Bool.and_eq_true_iff.mp hc⟩

/-- a cascade `if c then g else h` takes a value `a ≠ g` exactly when `c` fails and the rest takes it -/
theorem ite_eq_iff_of_left_ne {α : Type*} {c : Prop} [Decidable c] {g h a : α} (hg : g ≠ a) :
    (if c then g else h) = a ↔ ¬ c ∧ h = a := by
  by_cases hc : c
  · rw [if_pos hc]; exact ⟨fun h => absurd h hg, fun h => absurd hc h.1⟩
  · rw [if_neg hc]; exact ⟨fun h => ⟨hc, h⟩, fun h => h.2⟩

/-- the last test of a cascade takes a value `a ≠ h` exactly when `c` holds and the first branch takes it -/
theorem ite_eq_iff_of_right_ne {α : Type*} {c : Prop} [Decidable c] {g h a : α} (hh : h ≠ a) :
    (if c then g else h) = a ↔ c ∧ g = a := by
  by_cases hc : c
  · rw [if_pos hc]; exact ⟨fun h => ⟨hc, h⟩, fun h => h.2⟩
  · rw [if_neg hc]; exact ⟨fun h => absurd h hh, fun h => absurd h.1 hc⟩

/-- a cascade takes the value of its first branch when the test fires, or else when the rest takes it -/
theorem ite_self_eq_iff {α : Type*} {c : Prop} [Decidable c] {h a : α} :
    (if c then a else h) = a ↔ c ∨ h = a := by
  by_cases hc : c
  · rw [if_pos hc]; exact ⟨fun _ => Or.inl hc, fun _ => rfl⟩
  · rw [if_neg hc]; exact ⟨Or.inr, fun h => h.resolve_left hc⟩

/-- a cascade `if a then y else if b then n else u` whose three answers differ answers `y` exactly when the first test holds -/
theorem ite_ite_eq_fst_iff {α : Type*} {y n u : α} (hn : n ≠ y) (hu : u ≠ y) {a b : Prop} [Decidable a] [Decidable b] :
    (if a then y else if b then n else u) = y ↔ a :=
  ite_self_eq_iff.trans (or_iff_left fun h => (ite_eq_or_eq b n u).elim (fun e => hn (e.symm.trans h)) fun e => hu (e.symm.trans h))

/-- … and `n` exactly when the first test fails and the second holds -/
theorem ite_ite_eq_snd_iff {α : Type*} {y n u : α} (hy : y ≠ n) (hu : u ≠ n) {a b : Prop} [Decidable a] [Decidable b] :
    (if a then y else if b then n else u) = n ↔ ¬ a ∧ b :=
  (ite_eq_iff_of_left_ne hy).trans (and_congr_right fun _ => (ite_eq_iff_of_right_ne hu).trans (and_iff_left rfl))
