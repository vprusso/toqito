import Toq.Proofs.Cert
import Mathlib.Analysis.Complex.Norm
import Mathlib.Tactic.Linarith
/-!
# Exact rational tests that stand for comparisons between real moduli

The deciders compare rationals; what they are meant to decide compares moduli `‖z‖ = √(re² + im²)` of complex numbers.
A test `X ≤ p` between non-negative reals of which only the squares are rational is made on the squares
(`nonpos_or_mul_self_le_iff`; against `c·√m` with `m` rational: `le_mul_sqrt_iff`, which the separability cascade of C15 uses),
twice for `np.isclose` (`le_add_mul_iff_of_sq`).  `QI.closeQ` is that test as the
models of C06 and C16 both write it, with what the tolerance-level mirrors need of it (`QI.closeQ_iff`, `QI.closeQ_self`).  The
margins of the three-valued deciders are measured in `|re| + |im|`, which closeness bounds (`QI.abs1_sub_le_of_isclose`,
`QI.not_closeQ_of_lt_abs1`, `QI.not_closeQ_of_affine_margin`), against a scale that is a running maximum (the `List.le_foldl_*` lemmas).  The two readings of a
decider's cascade `if exact then yes else if beyond the margin then no else unknown` are `ite_ite_eq_fst_iff`, `ite_ite_eq_snd_iff` of `Proofs/Cert.lean`.
The file also holds one fact about real square roots with no rational test behind it: the balance `Real.le_sqrt_of_forall_balance` (C08, C13).
-/

/-- for `p ≥ 0`, `c ≤ p` can be tested on the squares -/
theorem nonpos_or_mul_self_le_iff {c p : ℝ} (hp : 0 ≤ p) :
    (c ≤ 0 ∨ c * c ≤ p * p) ↔ c ≤ p :=
  ⟨fun h => h.elim (·.trans hp) fun h => le_of_not_gt fun hlt => (mul_self_lt_mul_self hp hlt).not_ge h,
    fun h => (le_total c 0).imp_right fun hc => mul_self_le_mul_self hc h⟩

/-- a non-negative `s` against a multiple of a square root, on the squares -/
theorem le_mul_sqrt_iff {s c m : ℝ} (hs : 0 ≤ s) (hc : 0 ≤ c) (hm : 0 ≤ m) : s ≤ c * √m ↔ s ^ 2 ≤ c ^ 2 * m := by
  rw [← pow_le_pow_iff_left₀ hs (mul_nonneg hc (Real.sqrt_nonneg m)) two_ne_zero, mul_pow, Real.sq_sqrt hm]

/-- the discriminant form: `(x₁ − x₂)² ≤ 4yz` against the geometric mean -/
theorem sq_le_four_mul_iff (x1 x2 y z : ℝ) (hx : x2 ≤ x1) (hy : 0 ≤ y) (hz : 0 ≤ z) :
    (x1 - x2) ^ 2 ≤ 4 * y * z ↔ x1 - x2 ≤ 2 * √(y * z) := by
  rw [le_mul_sqrt_iff (sub_nonneg.mpr hx) zero_le_two (mul_nonneg hy hz), mul_assoc]
  norm_num

/-- `X ≤ t + r·Y` between non-negative reals whose squares `x = X²`, `y = Y²` are known, without square roots: with
    `c = x − t² − r²y` both sides say `c ≤ 2trY`, and `(2trY)² = 4t²r²y` -/
theorem le_add_mul_iff_of_sq {X Y x y t r : ℝ}
    (hX : 0 ≤ X) (hY : 0 ≤ Y) (hx : x = X * X) (hy : y = Y * Y) (ht : 0 ≤ t) (hr : 0 ≤ r) :
    (x - t * t - r * r * y ≤ 0 ∨ (x - t * t - r * r * y) * (x - t * t - r * r * y) ≤ 4 * (t * t) * (r * r) * y)
      ↔ X ≤ t + r * Y := by
  have hrY : 0 ≤ r * Y := mul_nonneg hr hY
  have hpp : 4 * (t * t) * (r * r) * y = (2 * t * (r * Y)) * (2 * t * (r * Y)) := by rw [hy]; ring
  have hsq : (t + r * Y) * (t + r * Y) = t * t + r * r * y + 2 * t * (r * Y) := by rw [hy]; ring
  rw [hpp, nonpos_or_mul_self_le_iff (mul_nonneg (mul_nonneg zero_le_two ht) hrY),
    mul_self_le_mul_self_iff hX (add_nonneg ht hrY), hsq, ← hx]
  constructor <;> intro h <;> linarith

namespace QI

/-- `|a|²`, the rational the exact tests work with -/
def nsq (a : QI) : Rat := a.re * a.re + a.im * a.im

theorem nsq_nonneg (a : QI) : 0 ≤ a.nsq := add_nonneg (mul_self_nonneg _) (mul_self_nonneg _)

theorem cast_nsq (a : QI) : ((a.nsq : Rat) : ℝ) = ‖a.toC‖ * ‖a.toC‖ := by
  rw [← sq, Complex.sq_norm, Complex.normSq_apply]
  simp [nsq]

theorem abs1_nonneg (a : QI) : 0 ≤ a.abs1 := by
  rw [abs1_eq]
  exact add_nonneg (abs_nonneg _) (abs_nonneg _)

theorem cast_abs1_le_two_norm (a : QI) : ((a.abs1 : Rat) : ℝ) ≤ 2 * ‖a.toC‖ := by
  have h1 : |(a.re : ℝ)| ≤ ‖a.toC‖ := Complex.abs_re_le_norm a.toC
  have h2 : |(a.im : ℝ)| ≤ ‖a.toC‖ := Complex.abs_im_le_norm a.toC
  rw [cast_abs1]
  linarith

/-- what closeness gives in the measure `|re| + |im|` of the margins: `|a − b|₁ ≤ 2·(atol + rtol·S)` when `|b|₁ ≤ S` -/
theorem abs1_sub_le_of_isclose {a b : QI} {rtol atol S : Rat} (hr : 0 ≤ rtol) (hb : b.abs1 ≤ S)
    (h : ‖a.toC - b.toC‖ ≤ (atol : ℝ) + (rtol : ℝ) * ‖b.toC‖) : (a - b).abs1 ≤ 2 * (atol + rtol * S) := by
  have h1 := cast_abs1_le_two_norm (a - b)
  have h2 : (rtol : ℝ) * ‖b.toC‖ ≤ rtol * S :=
    mul_le_mul_of_nonneg_left ((norm_toC_le_abs1 b).trans (Rat.cast_le.mpr hb)) (Rat.cast_nonneg.mpr hr)
  rw [toC_sub] at h1
  have : (((a - b).abs1 : Rat) : ℝ) ≤ ((2 * (atol + rtol * S) : Rat) : ℝ) := by push_cast; linarith
  exact_mod_cast this

/-- `np.isclose(a, b, rtol, atol)` for `rtol, atol ≥ 0` (`closeQ_iff`; not for negative tolerances) decided in `ℚ`.  The models' `Toq.MatrixPreds.closeQ a b rtol atol` and
    `Toq.ChannelProps.closeQ rtol atol a b` both unfold to this term (`closeQ_eq` in `Proofs/MatrixOpsTol`, `Proofs/ChannelPropsTol`). -/
def closeQ (a b : QI) (rtol atol : Rat) : Bool :=
  let c := (a - b).nsq - atol * atol - rtol * rtol * b.nsq
  decide (c ≤ 0) || decide (c * c ≤ 4 * (atol * atol) * (rtol * rtol) * b.nsq)

/-- **`closeQ` is `np.isclose`** for `rtol, atol ≥ 0`: `|a − b| ≤ atol + rtol·|b|` between the moduli of the denoted complex numbers -/
theorem closeQ_iff (a b : QI) {rtol atol : Rat} (hr : 0 ≤ rtol) (ht : 0 ≤ atol) :
    closeQ a b rtol atol = true ↔ ‖a.toC - b.toC‖ ≤ (atol : ℝ) + (rtol : ℝ) * ‖b.toC‖ := by
  rw [← le_add_mul_iff_of_sq (norm_nonneg _) (norm_nonneg _) (toC_sub a b ▸ cast_nsq (a - b)) (cast_nsq b)
    (Rat.cast_nonneg.mpr ht) (Rat.cast_nonneg.mpr hr), closeQ, Bool.or_eq_true, decide_eq_true_eq, decide_eq_true_eq]
  exact_mod_cast Iff.rfl

/-- equal numbers are close for all tolerances, of either sign (NumPy's `x == y` shortcut) -/
theorem closeQ_self (a : QI) (rtol atol : Rat) : closeQ a a rtol atol = true := by
  have h0 : (a - a).nsq = 0 := by simp [nsq]
  rw [closeQ, Bool.or_eq_true, decide_eq_true_eq, h0]
  left
  linarith [mul_self_nonneg atol, mul_nonneg (mul_self_nonneg rtol) a.nsq_nonneg]

/-- a difference beyond `2·(atol + rtol·S)` in `|re| + |im|`, where `|b|₁ ≤ S`, is outside the tolerance: what a margin of a
    three-valued decider has to exceed -/
theorem not_closeQ_of_lt_abs1 {a b : QI} {rtol atol S : Rat} (hr : 0 ≤ rtol) (ht : 0 ≤ atol) (hb : b.abs1 ≤ S)
    (h : 2 * (atol + rtol * S) < (a - b).abs1) : closeQ a b rtol atol = false :=
  Bool.eq_false_iff.mpr fun hc => h.not_ge (abs1_sub_le_of_isclose hr hb ((closeQ_iff a b hr ht).mp hc))

/-- the margins of both models are affine in the scale, `α + ρ·S`: such a margin is outside the tolerance when `2·atol < α`, `2·rtol ≤ ρ` -/
theorem not_closeQ_of_affine_margin {a b : QI} {rtol atol S α ρ : Rat} (hr : 0 ≤ rtol) (ht : 0 ≤ atol) (hb : b.abs1 ≤ S)
    (hα : 2 * atol < α) (hρ : 2 * rtol ≤ ρ) (h : α + ρ * S ≤ (a - b).abs1) : closeQ a b rtol atol = false :=
  not_closeQ_of_lt_abs1 hr ht hb (by linarith [mul_le_mul_of_nonneg_right hρ ((abs1_nonneg b).trans hb)])

end QI

/-! ## running maxima

The scale of a margin is a maximum taken by a left fold (`maxAbs1` of both models, with `maxRat a b = max a b` by `max_def_lt`).
Only that it bounds its seed and every member is used, so the fold is not identified with `List.maximum` (as `Proofs/RunMax.lean`
does for the maxima of the games, whose values matter). -/

namespace List
variable {ι κ β : Type*}

/-- a left fold whose step never decreases the accumulator ends at or above its seed -/
theorem le_foldl_of_inflationary [Preorder β] {h : β → ι → β} (hh : ∀ acc i, acc ≤ h acc i) :
    ∀ (l : List ι) (acc : β), acc ≤ l.foldl h acc
  | [], _ => le_rfl
  | x :: l, acc => (hh acc x).trans (le_foldl_of_inflationary hh l (h acc x))

/-- … and at or above every bound that the step at some member of the list reaches -/
theorem le_foldl_of_mem [Preorder β] {h : β → ι → β} (hh : ∀ acc i, acc ≤ h acc i) {b : β} {x : ι} (hb : ∀ acc, b ≤ h acc x) :
    ∀ (l : List ι) (acc : β), x ∈ l → b ≤ l.foldl h acc
  | y :: l, acc, hx => by
    rcases List.mem_cons.mp hx with rfl | hx
    · exact (hb acc).trans (le_foldl_of_inflationary hh l _)
    · exact le_foldl_of_mem hh hb l _ hx

variable [LinearOrder β]

theorem le_foldl_max (g : ι → β) (l : List ι) (acc : β) : acc ≤ l.foldl (fun a x => max a (g x)) acc :=
  le_foldl_of_inflationary (fun _ _ => le_max_left _ _) l acc

theorem le_foldl_max_of_mem (g : ι → β) {l : List ι} {x : ι} (hx : x ∈ l) (acc : β) :
    g x ≤ l.foldl (fun a x => max a (g x)) acc :=
  le_foldl_of_mem (h := fun a x => max a (g x)) (fun _ _ => le_max_left _ _) (fun _ => le_max_right _ _) l acc hx

/-- the maximum over a table, row by row -/
theorem le_foldl_foldl_max (g : ι → κ → β) (l₁ : List ι) (l₂ : List κ) (acc : β) :
    acc ≤ l₁.foldl (fun a i => l₂.foldl (fun a j => max a (g i j)) a) acc :=
  le_foldl_of_inflationary (fun a i => le_foldl_max (g i) l₂ a) l₁ acc

theorem le_foldl_foldl_max_of_mem (g : ι → κ → β) {l₁ : List ι} {l₂ : List κ} {i : ι} {j : κ} (hi : i ∈ l₁) (hj : j ∈ l₂)
    (acc : β) : g i j ≤ l₁.foldl (fun a i => l₂.foldl (fun a j => max a (g i j)) a) acc :=
  le_foldl_of_mem (fun a i => le_foldl_max (g i) l₂ a) (fun a => le_foldl_max_of_mem (g i) hj a) l₁ acc hi

/-- sorting rationals in descending order with `mergeSort` (`sorted(…, reverse=True)`, `np.sort(…)[::-1]`) returns a descending
    rearrangement of the input -/
theorem mergeSort_ge_spec (l : List Rat) :
    (l.mergeSort fun a b => decide (b ≤ a)).Perm l ∧ (l.mergeSort fun a b => decide (b ≤ a)).Pairwise (fun a b => b ≤ a) := by
  refine ⟨List.mergeSort_perm l _, ?_⟩
  have := List.pairwise_mergeSort (le := fun a b : Rat => decide (b ≤ a))
    (fun a b c hab hbc => by simp only [decide_eq_true_eq] at *; exact le_trans hbc hab)
    (fun a b => by simp only [Bool.or_eq_true, decide_eq_true_eq]; exact le_total b a) l
  simpa using this

end List

/-! ## balancing two scales: `inf_{ν > 0} (νP + Q/ν)/2 = √(PQ)`

The weights of a dual solution (C08) and of a pair of measurement operators (C13) are rescaled against each other by `ν`; the best
rescaling turns the arithmetic into the geometric mean. -/

/-- what the scale `a = (t + η) / (s + η)` achieves: `a s² + t² / a ≤ 2 s t + η (s + t)` (used with `s = √p`, `t = √q`) -/
theorem Real.scale_add_inv_scale_le {s t η : ℝ} (hs : 0 ≤ s) (ht : 0 ≤ t) (hη : 0 < η) :
    (t + η) / (s + η) * s ^ 2 + ((t + η) / (s + η))⁻¹ * t ^ 2 ≤ 2 * (s * t) + η * (s + t) := by
  have h1 : s ^ 2 / (s + η) ≤ s := by rw [div_le_iff₀ (by positivity)]; nlinarith
  have h2 : t ^ 2 / (t + η) ≤ t := by rw [div_le_iff₀ (by positivity)]; nlinarith
  calc (t + η) / (s + η) * s ^ 2 + ((t + η) / (s + η))⁻¹ * t ^ 2
      = (t + η) * (s ^ 2 / (s + η)) + (s + η) * (t ^ 2 / (t + η)) := by rw [inv_div]; ring
    _ ≤ (t + η) * s + (s + η) * t :=
        add_le_add (mul_le_mul_of_nonneg_left h1 (add_nonneg ht hη.le)) (mul_le_mul_of_nonneg_left h2 (add_nonneg hs hη.le))
    _ = 2 * (s * t) + η * (s + t) := by ring

/-- for non-negative `p`, `q`: `inf_{a > 0} (a p + q / a) / 2 = √(p q)`, with `a = (√q + η) / (√p + η)` for small `η` -/
theorem Real.exists_scale_le_sqrt_add (p q ε : ℝ) (hp : 0 ≤ p) (hq : 0 ≤ q) (hε : 0 < ε) :
    ∃ a : ℝ, 0 < a ∧ (a * p + a⁻¹ * q) / 2 ≤ Real.sqrt (p * q) + ε := by
  have hs := Real.sqrt_nonneg p
  have ht := Real.sqrt_nonneg q
  obtain ⟨η, hη, hb⟩ : ∃ η : ℝ, 0 < η ∧ η * (Real.sqrt p + Real.sqrt q) ≤ 2 * ε := by
    refine ⟨2 * ε / (Real.sqrt p + Real.sqrt q + 1), by positivity, ?_⟩
    rw [div_mul_eq_mul_div, div_le_iff₀ (by positivity)]; nlinarith
  refine ⟨(Real.sqrt q + η) / (Real.sqrt p + η), by positivity, ?_⟩
  have h := Real.scale_add_inv_scale_le hs ht hη
  rw [Real.sq_sqrt hp, Real.sq_sqrt hq] at h
  rw [Real.sqrt_mul hp]
  linarith

/-- optimising the balance: if `β ≤ (νP + Q/ν)/2` for every `ν > 0` (with `P, Q ≥ 0`) then `β ≤ √(PQ)` -/
theorem Real.le_sqrt_of_forall_balance (β P Q : ℝ) (hP : 0 ≤ P) (hQ : 0 ≤ Q)
    (h : ∀ ν : ℝ, 0 < ν → β ≤ (ν * P + ν⁻¹ * Q) / 2) : β ≤ Real.sqrt (P * Q) :=
  le_of_forall_pos_le_add fun ε hε =>
    let ⟨ν, hν, hb⟩ := Real.exists_scale_le_sqrt_add P Q ε hP hQ hε
    (h ν hν).trans hb
