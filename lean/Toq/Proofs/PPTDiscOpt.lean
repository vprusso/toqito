import Toq.Proofs.PPTDisc
/-!
# C12: the PPT optimum is attained; the unambiguous strategy

Attainment and merging are stated for an arbitrary map `T` on operators in place of the partial transpose, with only the property
of `T` each needs: continuity for attainment, additivity for merging outcomes.

* the set of measurements with `T(M_i) ⪰ 0` is a closed subset of the compact set of measurements, so the maximum of the success
  probability over it is attained (`ppt_max_attained_gen`); `pTf sys` is continuous (`continuous_pTf`);
* soundness of the model's checker for `strategy = "unambig"`, and merging the inconclusive outcome (`unamb_merge`, an instance of
  `Toq.Discrim.isPOVM_meAbsorb`, `successProb_le_meAbsorb`).
-/

open Matrix
open scoped ComplexOrder MatrixOrder Kronecker

namespace Toq.PPTDisc

section Continuity
variable {dA dB : Nat}

theorem continuous_pTBf : Continuous (pTBf : Matrix (Fin (dA * dB)) (Fin (dA * dB)) ℂ → _) := by
  refine continuous_matrix fun i j => ?_
  simp only [pTBf_apply]
  exact continuous_id.matrix_elem _ _

theorem continuous_pTf (sys : Nat) :
    Continuous (pTf sys : Matrix (Fin (dA * dB)) (Fin (dA * dB)) ℂ → _) :=
  pTf_cases (P := Continuous) sys continuous_pTBf continuous_pTBf.matrix_transpose

end Continuity

section Attain
variable {ι κ : Type*} [Fintype ι] [DecidableEq ι] [Fintype κ]
open Toq.Discrim

theorem ppt_max_attained_gen [Nonempty κ] (T : Matrix ι ι ℂ → Matrix ι ι ℂ) (hTc : Continuous T)
    (hT0 : (T 0).PosSemidef) (hT1 : (T 1).PosSemidef) (ρ : κ → Matrix ι ι ℂ) (p : κ → ℝ) :
    ∃ M : κ → Matrix ι ι ℂ, Toq.Rand.IsPOVM M ∧ (∀ i, (T (M i)).PosSemidef) ∧
      ∀ M', Toq.Rand.IsPOVM M' → (∀ i, (T (M' i)).PosSemidef) →
        Toq.Rand.successProb ρ p M' ≤ Toq.Rand.successProb ρ p M := by
  classical
  have hclosed : IsClosed {M : κ → Matrix ι ι ℂ | ∀ i, (T (M i)).PosSemidef} := by
    simp only [Set.ofPred_forall]
    exact isClosed_iInter fun i => Matrix.isClosed_setOf_posSemidef.preimage (hTc.comp (continuous_apply i))
  exact Toq.Rand.exists_isMaxOn_isPOVM hclosed
    ⟨_, Toq.Rand.isPOVM_const (Classical.arbitrary κ), meConstPovm_forall (P := fun A => (T A).PosSemidef) hT1 hT0 _⟩
    (by unfold Toq.Rand.successProb; fun_prop)

end Attain

section Unamb
open EMat Toq.Discrim
variable {dA dB : Nat}

theorem checkPPTUnambPrimalFn_sound (sys k : Nat) (ρ : Fin k → EMat (dA * dB) (dA * dB)) (p : Fin k → Rat)
    (M LM LT : Fin (k + 1) → EMat (dA * dB) (dA * dB)) (lo : Rat)
    (h : checkPPTUnambPrimalFn sys k ρ p M LM LT = some lo) :
    ((Toq.Rand.IsPOVM (fun i => (M i).toM) ∧ ∀ i, (pTf sys (M i).toM).PosSemidef) ∧
        ∀ i j : Fin k, i ≠ j → ((((p j : Rat) : ℝ) : ℂ) • (ρ j).toM * (M i.castSucc).toM).trace = 0) ∧
      ∑ i : Fin k, ((p i : Rat) : ℝ) * ((ρ i).toM * (M i.castSucc).toM).trace.re = (lo : ℝ) := by
  obtain ⟨hc, rfl⟩ := check_eq_some.mp h
  simp only [Bool.and_eq_true] at hc
  obtain ⟨⟨⟨hpsd, hsum⟩, hppt⟩, hz⟩ := hc
  refine ⟨⟨⟨⟨povmPsdOk_sound hpsd, povmSumOk_sound hsum⟩, pptPsdOk_sound hppt⟩, fun i j hij => ?_⟩,
    (minErrValueFn_cast k ρ p _).symm⟩
  simp only [unambZeroOk, allFin_iff, Bool.or_eq_true, decide_eq_true_eq] at hz
  have := congrArg QI.toC ((hz i j).resolve_left hij)
  rwa [unambOverlap, toC_trace, toM_mul, toM_smul, QI.toC_zero] at this

end Unamb

section Merge
variable {ι : Type*} [Fintype ι] [DecidableEq ι]
open Toq.Discrim

theorem unamb_merge {k : Nat} (hk : 0 < k) (T : Matrix ι ι ℂ → Matrix ι ι ℂ)
    (hTadd : ∀ A B, T (A + B) = T A + T B) (ρ : Fin k → Matrix ι ι ℂ) (p : Fin k → ℝ)
    (hρ : ∀ i, (ρ i).PosSemidef) (hp : ∀ i, 0 ≤ p i)
    {M : Fin (k + 1) → Matrix ι ι ℂ} (hM : Toq.Rand.IsPOVM M) (hTM : ∀ i, (T (M i)).PosSemidef) :
    ∃ M' : Fin k → Matrix ι ι ℂ, (Toq.Rand.IsPOVM M' ∧ ∀ i, (T (M' i)).PosSemidef) ∧
      ∑ i : Fin k, p i * (ρ i * M i.castSucc).trace.re ≤ Toq.Rand.successProb ρ p M' := by
  exact ⟨meAbsorb (fun i => M i.castSucc) (M (Fin.last k)) ⟨0, hk⟩,
    ⟨isPOVM_meAbsorb (fun i => hM.1 _) (hM.1 _) ((Fin.sum_univ_castSucc M).symm.trans hM.2) _,
      meAbsorb_forall (P := fun A => (T A).PosSemidef) (fun A B hA hB => by rw [hTadd]; exact hA.add hB) (fun i => hTM _)
        (hTM _) _⟩,
    successProb_le_meAbsorb ρ p hρ hp (fun i => M i.castSucc) (hM.1 (Fin.last k)) ⟨0, hk⟩⟩

end Merge

end Toq.PPTDisc
