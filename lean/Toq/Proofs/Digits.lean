import Toq.Proofs.SumN
import Mathlib.Algebra.BigOperators.Pi
import Mathlib.Algebra.BigOperators.Ring.Finset
/-!
# Codes and digit vectors as a bijection

`digitsEquiv d n` packs `enc_lt`, `dec_lt`, `dec_enc`, `enc_dec` into one equivalence between the numbers below `prodN d n` and the
in-range digit vectors `(k : Fin n) → Fin (d k)`; `extFin` reads such a vector as a total function.  A sum over all codes is then a sum over
all digit vectors (`sumN_prodN_eq_sum`), which is where `Finset` has the facts about sums of products (`sumN_prodFn_dec`).
The models' digit vectors are total functions `ℕ → ℕ` with a length; the dependent vectors and `digitsEquiv` appear only inside proofs, to
reach `Fintype.sum_equiv` and `Finset.prod_univ_sum`.
-/

open Finset

/-- a digit vector on `Fin n` as a total function (0 outside) -/
def extFin {n : ℕ} {d : ℕ → ℕ} (x : (k : Fin n) → Fin (d k)) : ℕ → ℕ :=
  fun k => if h : k < n then x ⟨k, h⟩ else 0

theorem extFin_apply {n : ℕ} {d : ℕ → ℕ} (x : (k : Fin n) → Fin (d k)) (k : Fin n) : extFin x k = x k :=
  dif_pos k.2

theorem extFin_lt {n : ℕ} {d : ℕ → ℕ} (x : (k : Fin n) → Fin (d k)) (k : ℕ) (hk : k < n) : extFin x k < d k :=
  (extFin_apply x ⟨k, hk⟩).trans_lt (x ⟨k, hk⟩).2

def digitsEquiv (d : ℕ → ℕ) (n : ℕ) : Fin (prodN d n) ≃ ((k : Fin n) → Fin (d k)) where
  toFun i k := ⟨dec d n i k, dec_lt d n i k k.2 (prodN_pos_of_lt d n i i.2 k k.2)⟩
  invFun x := ⟨enc d (extFin x) n, enc_lt d _ n (extFin_lt x)⟩
  left_inv i := Fin.ext <|
    (enc_congr_digits d _ (dec d n i) n fun k hk => extFin_apply _ ⟨k, hk⟩).trans (enc_dec d n i i.2)
  right_inv x := funext fun k => Fin.ext <| (dec_enc d _ n (extFin_lt x) k k.2).trans (extFin_apply x k)

variable {α : Type*}

theorem sumN_prodN_eq_sum [AddCommMonoid α] (d : ℕ → ℕ) (n : ℕ) (F : ℕ → α) :
    sumN (prodN d n) F = ∑ x : (k : Fin n) → Fin (d k), F (enc d (extFin x) n) := by
  rw [sumN_eq_sum_fin]
  exact Fintype.sum_equiv (digitsEquiv d n) _ _ fun i =>
    congrArg (fun j : Fin (prodN d n) => F j) ((digitsEquiv d n).symm_apply_apply i).symm

/-- a sum over all codes of a product over the digits is the product of the sums -/
theorem sumN_prodFn_dec [CommSemiring α] (d : ℕ → ℕ) (g : ℕ → ℕ → α) (b : ℕ) :
    sumN (prodN d b) (fun t => prodFn b (fun m => g m (dec d b t m))) = prodFn b (fun m => sumN (d m) (g m)) := by
  rw [sumN_prodN_eq_sum, prodFn_eq_prod, prod_range]
  simp only [sumN_eq_sum_fin]
  rw [prod_univ_sum]
  refine Fintype.sum_congr _ _ fun x => ?_
  rw [prodFn_eq_prod, prod_range]
  exact prod_congr rfl fun k _ => by rw [dec_enc d _ b (extFin_lt x) k k.2, extFin_apply]

/-- `sumN_prodFn_dec` over all pairs of digit vectors with constant radices `a`, `b`:
    `Σ_{X < a^r} Σ_{Y < b^r} Π_{k<r} h k (X_k) (Y_k) = Π_{k<r} Σ_{x<a} Σ_{y<b} h k x y` -/
theorem sum_prodFn_digits [CommSemiring α] (a b : ℕ) (h : ℕ → ℕ → ℕ → α) (r : ℕ) :
    sumN (a ^ r) (fun X => sumN (b ^ r) (fun Y =>
        prodFn r (fun k => h k (dec (fun _ => a) r X k) (dec (fun _ => b) r Y k))))
      = prodFn r (fun k => sumN a (fun x => sumN b (fun y => h k x y))) := by
  rw [← prodN_const a r, ← prodN_const b r, ← sumN_prodFn_dec (fun _ => a) (fun k x => sumN b (h k x)) r]
  exact sumN_congr _ _ _ fun X _ => sumN_prodFn_dec (fun _ => b) (fun k => h k (dec (fun _ => a) r X k)) r

/-! ### constant radix -/

theorem enc_lt_pow (d : ℕ) (x : ℕ → ℕ) (n : ℕ) (h : ∀ k, k < n → x k < d) : enc (fun _ => d) x n < d ^ n :=
  (enc_lt (fun _ => d) x n h).trans_eq (prodN_const d n)

theorem enc_dec_pow (d n a : ℕ) (h : a < d ^ n) : enc (fun _ => d) (dec (fun _ => d) n a) n = a :=
  enc_dec (fun _ => d) n a (h.trans_eq (prodN_const d n).symm)

/-- the digits of a code below `d ^ n` are below `d` (in particular `d` is positive) -/
theorem dec_lt_pow {d n a : ℕ} (ha : a < d ^ n) (k : ℕ) (hk : k < n) : dec (fun _ => d) n a k < d :=
  dec_lt (fun _ => d) n a k hk (prodN_pos_of_lt (fun _ => d) n a (ha.trans_eq (prodN_const d n).symm) k hk)

theorem enc_add_range_pow (d : ℕ) (x : ℕ → ℕ) (m n : ℕ) :
    enc (fun _ => d) x (m + n) = enc (fun _ => d) x m * d ^ n + enc (fun _ => d) (fun k => x (m + k)) n := by
  rw [enc_add_range, prodN_const]

/-! ### sums over `Fin (a * b)` and Mathlib's pairing

The `Fin`-indexed counterparts of `sumN_mul_range` and `sumN_comm22`, for the files that work with `finProdFinEquiv`. -/

/-- a double sum over digits is the sum over the flat index -/
theorem Fin.sum_sum_eq_sum_mul {M : Type*} [AddCommMonoid M] {a b : ℕ} (F : Fin a → Fin b → M) :
    ∑ i, ∑ j, F i j = ∑ x : Fin (a * b), F (finProdFinEquiv.symm x).1 (finProdFinEquiv.symm x).2 :=
  (Fintype.sum_prod_type' F).symm.trans (finProdFinEquiv.symm.sum_comp fun p => F p.1 p.2).symm

theorem Finset.sum_comm₄ {A B X Y M : Type*} [Fintype A] [Fintype B] [Fintype X] [Fintype Y] [AddCommMonoid M]
    (F : A → B → X → Y → M) : ∑ a, ∑ b, ∑ x, ∑ y, F a b x y = ∑ x, ∑ y, ∑ a, ∑ b, F a b x y := by
  calc ∑ a, ∑ b, ∑ x, ∑ y, F a b x y = ∑ a, ∑ x, ∑ b, ∑ y, F a b x y :=
        Finset.sum_congr rfl fun a _ => Finset.sum_comm
    _ = ∑ x, ∑ a, ∑ b, ∑ y, F a b x y := Finset.sum_comm
    _ = ∑ x, ∑ a, ∑ y, ∑ b, F a b x y :=
        Finset.sum_congr rfl fun x _ => Finset.sum_congr rfl fun a _ => Finset.sum_comm
    _ = ∑ x, ∑ y, ∑ a, ∑ b, F a b x y := Finset.sum_congr rfl fun x _ => Finset.sum_comm

namespace Toq

/-- the value of Mathlib's pairing `Fin m × Fin n ≃ Fin (m * n)`: the big-endian code -/
theorem finProdFinEquiv_val {m n : ℕ} (i : Fin m) (a : Fin n) : (finProdFinEquiv (i, a)).val = i.val * n + a.val := by
  rw [finProdFinEquiv_apply_val, Nat.add_comm, Nat.mul_comm]

end Toq
