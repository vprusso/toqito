import Toq.Model.Xor
import Toq.Proofs.Idx
import Toq.Proofs.SumN
import Toq.Proofs.RunMax
import Mathlib.Algebra.Order.BigOperators.Group.Finset
import Mathlib.Algebra.BigOperators.Field
import Mathlib.Algebra.Order.Field.Rat
import Mathlib.Algebra.Order.AbsoluteValue.Basic
import Mathlib.Tactic.Linarith
import Mathlib.Tactic.Ring
import Mathlib.Tactic.NormNum
/-!
# The exact (rational) side of C08: enumerations, the classical value, behaviours, the constructor

Arithmetic over `Rat` on the executable model `Toq.Model.Xor`, and the predicates in which `Toq.Properties.C08` speaks of it
(`IsBitStrategy`, `IsSignPair`, `bellDet`, `behWin`, `corr`, `behTotal`, `prBox`):

* `maxUpTo` as a maximum (it is `amax1` of `Toq/Proofs/RunMax.lean`, whose lemmas it inherits);
* the conversion identity `[f = a ⊕ b] = 1/2 + 1/2 (-1)^f (-1)^a (-1)^b` (`nlgPred_eq`) and what it gives for deterministic
  strategies (`detWin_eq_bias`);
* classical value, classical bias and `bellDetMax` are maxima over bit strategies / sign pairs: `amax1_dec_spec` at radix 2
  (`maxUpTo_bits_spec`, `bit_enum_spec`, `sign_enum_spec`); enumerating one player and letting the other respond optimally
  (`bestResponse_spec`, from `sumN_amax1_spec`) gives the same maximum (`xorClassicalBiasBR_eq`);
* the behaviour `prBox` wins every XOR game;
* the guards of `XORGame.__init__` (`xorInit_ok_iff`).
-/

namespace Toq.Xor

theorem sumN_two (f : Nat → Rat) : sumN 2 f = f 0 + f 1 := by simp [sumN]

theorem le_maxUpTo (f : Nat → Rat) (K i : Nat) (h : i ≤ K) : f i ≤ maxUpTo K f :=
  Toq.Games.maxUpTo_eq_amax1 f K ▸ Toq.Games.le_amax1 f K i h

theorem maxUpTo_attained (f : Nat → Rat) (K : Nat) : ∃ i, i ≤ K ∧ maxUpTo K f = f i :=
  Toq.Games.maxUpTo_eq_amax1 f K ▸ Toq.Games.amax1_attained f K

theorem maxUpTo_le (f : Nat → Rat) (K : Nat) (c : Rat) (h : ∀ i, i ≤ K → f i ≤ c) : maxUpTo K f ≤ c :=
  Toq.Games.maxUpTo_eq_amax1 f K ▸ Toq.Games.amax1_le f K c h

theorem maxUpTo_comp_mono (φ : Rat → Rat) (hφ : Monotone φ) (g : Nat → Rat) (K : Nat) :
    maxUpTo K (fun i => φ (g i)) = φ (maxUpTo K g) := by
  rw [Toq.Games.maxUpTo_eq_amax1, Toq.Games.maxUpTo_eq_amax1, Toq.Games.amax1_comp_mono φ hφ]

theorem negOnePow_zero : negOnePow 0 = 1 := by decide
theorem negOnePow_one : negOnePow 1 = -1 := by decide

theorem negOnePow_sq (k : Nat) : negOnePow k * negOnePow k = 1 := by
  unfold negOnePow; split <;> norm_num

theorem negOnePow_cases (k : Nat) : negOnePow k = 1 ∨ negOnePow k = -1 := by
  unfold negOnePow; split <;> simp

def bitOf (q : Rat) : Nat := if q = 1 then 0 else 1

theorem bitOf_lt (q : Rat) : bitOf q < 2 := by unfold bitOf; split <;> omega

theorem negOnePow_bitOf {q : Rat} (h : q = 1 ∨ q = -1) : negOnePow (bitOf q) = q := by
  rcases h with rfl | rfl
  · rfl
  · rw [bitOf, if_neg (by norm_num), negOnePow_one]

theorem nlgPred_eq (pred : Nat → Nat → Nat) (a b x y : Nat) (hf : pred x y < 2) (ha : a < 2) (hb : b < 2) :
    nlgPred pred a b x y = 1 / 2 + negOnePow (pred x y) * negOnePow a * negOnePow b / 2 := by
  have table : ∀ f, f < 2 → ∀ a, a < 2 → ∀ b, b < 2 →
      (if f = a ^^^ b then (1 : Rat) else 0) = 1 / 2 + negOnePow f * negOnePow a * negOnePow b / 2 := by decide +kernel
  exact table _ hf a ha b hb

theorem nlgPred_le_one (pred : Nat → Nat → Nat) (a b x y : Nat) : nlgPred pred a b x y ≤ 1 := by
  unfold nlgPred; split <;> norm_num

theorem detWin_congr (m n : Nat) (prob : Nat → Nat → Rat) (pred : Nat → Nat → Nat) (α α' β β' : Nat → Nat)
    (hα : ∀ x, x < m → α x = α' x) (hβ : ∀ y, y < n → β y = β' y) :
    detWin m n prob pred α β = detWin m n prob pred α' β' := by
  unfold detWin
  refine sumN_congr _ _ m fun x hx => sumN_congr _ _ n fun y hy => ?_
  rw [hα x hx, hβ y hy]

theorem signBias_congr (m n : Nat) (D : Nat → Nat → Rat) (s s' t t' : Nat → Rat)
    (hs : ∀ x, x < m → s x = s' x) (ht : ∀ y, y < n → t y = t' y) :
    signBias m n D s t = signBias m n D s' t' := by
  unfold signBias
  refine sumN_congr _ _ m fun x hx => sumN_congr _ _ n fun y hy => ?_
  rw [hs x hx, ht y hy]

theorem sumN_sumN_half_add (m n : Nat) (F P G : Nat → Nat → Rat)
    (h : ∀ x y, x < m → y < n → F x y = P x y / 2 + G x y / 2) :
    (sumN m fun x => sumN n fun y => F x y)
      = (sumN m fun x => sumN n fun y => P x y) / 2 + (sumN m fun x => sumN n fun y => G x y) / 2 := by
  rw [sumN_congr _ _ m fun x hx => sumN_congr _ _ n fun y hy => h x y hx hy]
  simp only [sumN_eq_sum, Finset.sum_add_distrib, Finset.sum_div]

theorem detWin_eq_bias (m n : Nat) (prob : Nat → Nat → Rat) (pred : Nat → Nat → Nat) (α β : Nat → Nat)
    (hf : ∀ x y, x < m → y < n → pred x y < 2) (hα : ∀ x, x < m → α x < 2) (hβ : ∀ y, y < n → β y < 2) :
    detWin m n prob pred α β
      = totalProb m n prob / 2
        + signBias m n (dMat prob pred) (fun x => negOnePow (α x)) (fun y => negOnePow (β y)) / 2 := by
  refine sumN_sumN_half_add m n _ _ _ fun x y hx hy => ?_
  rw [nlgPred_eq pred _ _ x y (hf x y hx hy) (hα x hx) (hβ y hy), dMat]
  ring

def IsBitStrategy (m n : Nat) (α β : Nat → Nat) : Prop := (∀ x, x < m → α x < 2) ∧ ∀ y, y < n → β y < 2

def IsSignPair (m n : Nat) (s t : Nat → Rat) : Prop :=
  (∀ x, x < m → s x = 1 ∨ s x = -1) ∧ ∀ y, y < n → t y = 1 ∨ t y = -1

theorem isBitStrategy_code (m n k : Nat) : IsBitStrategy m n (aliceOf m n k) (bobOf m n k) :=
  ⟨fun _ _ => dec_lt two _ _ _ (by omega) Nat.zero_lt_two, fun _ _ => dec_lt two _ _ _ (by omega) Nat.zero_lt_two⟩

theorem maxUpTo_bits_spec (N : Nat) (F : (Nat → Nat) → Rat) (hF : ∀ c c', (∀ i, i < N → c i = c' i) → F c = F c') :
    (∃ c, (∀ i, i < N → c i < 2) ∧ F c = maxUpTo (2 ^ N - 1) fun k => F (bits N k)) ∧
    ∀ c, (∀ i, i < N → c i < 2) → F c ≤ maxUpTo (2 ^ N - 1) fun k => F (bits N k) := by
  have h := Toq.Games.amax1_dec_spec two N (fun _ _ => Nat.zero_lt_two) F hF
  rwa [show prodN two N = 2 ^ N from prodN_const 2 N, ← Toq.Games.maxUpTo_eq_amax1] at h

theorem bit_enum_spec (m n : Nat) (F : (Nat → Nat) → (Nat → Nat) → Rat)
    (hF : ∀ α α' β β', (∀ x, x < m → α x = α' x) → (∀ y, y < n → β y = β' y) → F α β = F α' β') :
    (∃ α β, IsBitStrategy m n α β ∧ F α β = maxUpTo (2 ^ (m + n) - 1) fun k => F (aliceOf m n k) (bobOf m n k)) ∧
    ∀ α β, IsBitStrategy m n α β → F α β ≤ maxUpTo (2 ^ (m + n) - 1) fun k => F (aliceOf m n k) (bobOf m n k) := by
  obtain ⟨⟨c, hc, e⟩, hle⟩ := maxUpTo_bits_spec (m + n) (fun c => F c fun y => c (m + y)) fun c c' h =>
    hF _ _ _ _ (fun x hx => h x (by omega)) fun y hy => h (m + y) (by omega)
  refine ⟨⟨c, fun y => c (m + y), ⟨fun x hx => hc x (by omega), fun y hy => hc (m + y) (by omega)⟩, e⟩, fun α β h => ?_⟩
  refine (hF α _ β _ (fun x hx => (if_pos hx).symm) fun y hy => ?_).trans_le
    (hle (fun i => if i < m then α i else β (i - m)) fun i hi => ?_)
  · show β y = if m + y < m then α (m + y) else β (m + y - m)
    rw [if_neg (by omega), Nat.add_sub_cancel_left]
  · split
    · next hx => exact h.1 i hx
    · exact h.2 (i - m) (by omega)

theorem xorClassicalValue_spec (m n : Nat) (prob : Nat → Nat → Rat) (pred : Nat → Nat → Nat) :
    (∃ α β, IsBitStrategy m n α β ∧ detWin m n prob pred α β = xorClassicalValue m n prob pred) ∧
    ∀ α β, IsBitStrategy m n α β → detWin m n prob pred α β ≤ xorClassicalValue m n prob pred :=
  bit_enum_spec m n (detWin m n prob pred) (detWin_congr m n prob pred)

def signA (m n k : Nat) : Nat → Rat := fun x => negOnePow (aliceOf m n k x)
def signB (m n k : Nat) : Nat → Rat := fun y => negOnePow (bobOf m n k y)

theorem sign_enum_spec (m n : Nat) (F : (Nat → Rat) → (Nat → Rat) → Rat)
    (hF : ∀ s s' t t', (∀ x, x < m → s x = s' x) → (∀ y, y < n → t y = t' y) → F s t = F s' t') :
    (∃ s t, IsSignPair m n s t ∧ F s t = maxUpTo (2 ^ (m + n) - 1) fun k => F (signA m n k) (signB m n k)) ∧
    ∀ s t, IsSignPair m n s t → F s t ≤ maxUpTo (2 ^ (m + n) - 1) fun k => F (signA m n k) (signB m n k) := by
  obtain ⟨⟨α, β, -, e⟩, hle⟩ := bit_enum_spec m n (fun α β => F (fun x => negOnePow (α x)) fun y => negOnePow (β y))
    fun α α' β β' hα hβ => hF _ _ _ _ (fun x hx => by rw [hα x hx]) fun y hy => by rw [hβ y hy]
  exact ⟨⟨_, _, ⟨fun _ _ => negOnePow_cases _, fun _ _ => negOnePow_cases _⟩, e⟩, fun s t h =>
    (hF s _ t _ (fun x hx => (negOnePow_bitOf (h.1 x hx)).symm) fun y hy => (negOnePow_bitOf (h.2 y hy)).symm).trans_le
      (hle (fun x => bitOf (s x)) (fun y => bitOf (t y)) ⟨fun _ _ => bitOf_lt _, fun _ _ => bitOf_lt _⟩)⟩

theorem xorClassicalBias_eq (m n : Nat) (D : Nat → Nat → Rat) :
    xorClassicalBias m n D = maxUpTo (2 ^ (m + n) - 1) fun k => signBias m n D (signA m n k) (signB m n k) := rfl

/-- the deterministic value of a Bell expression with marginals -/
def bellDet (m n : Nat) (J : Nat → Nat → Rat) (a b : Nat → Rat) (s t : Nat → Rat) : Rat :=
  signBias m n J s t + (sumN m fun x => a x * s x) + (sumN n fun y => b y * t y)

theorem bellDet_congr (m n : Nat) (J : Nat → Nat → Rat) (a b : Nat → Rat) (s s' t t' : Nat → Rat)
    (hs : ∀ x, x < m → s x = s' x) (ht : ∀ y, y < n → t y = t' y) :
    bellDet m n J a b s t = bellDet m n J a b s' t' := by
  unfold bellDet
  rw [signBias_congr m n J s s' t t' hs ht,
    sumN_congr (fun x => a x * s x) (fun x => a x * s' x) m (fun x hx => by rw [hs x hx]),
    sumN_congr (fun y => b y * t y) (fun y => b y * t' y) n (fun y hy => by rw [ht y hy])]

theorem bellDetMax_eq (m n : Nat) (J : Nat → Nat → Rat) (a b : Nat → Rat) :
    bellDetMax m n J a b = maxUpTo (2 ^ (m + n) - 1) fun k => bellDet m n J a b (signA m n k) (signB m n k) := rfl

theorem bellDetMax_spec (m n : Nat) (J : Nat → Nat → Rat) (a b : Nat → Rat) :
    (∃ s t, IsSignPair m n s t ∧ bellDet m n J a b s t = bellDetMax m n J a b) ∧
    ∀ s t, IsSignPair m n s t → bellDet m n J a b s t ≤ bellDetMax m n J a b := by
  rw [bellDetMax_eq]
  exact sign_enum_spec m n (bellDet m n J a b) (bellDet_congr m n J a b)

theorem xorClassicalValue_eq_bias (m n : Nat) (prob : Nat → Nat → Rat) (pred : Nat → Nat → Nat)
    (hf : ∀ x y, x < m → y < n → pred x y < 2) :
    xorClassicalValue m n prob pred
      = totalProb m n prob / 2 + xorClassicalBias m n (dMat prob pred) / 2 := by
  have e : ∀ k, detWin m n prob pred (aliceOf m n k) (bobOf m n k)
      = totalProb m n prob / 2 + signBias m n (dMat prob pred) (signA m n k) (signB m n k) / 2 := fun k =>
    detWin_eq_bias m n prob pred _ _ hf (isBitStrategy_code m n k).1 (isBitStrategy_code m n k).2
  rw [xorClassicalBias_eq, xorClassicalValue, funext e]
  exact maxUpTo_comp_mono (fun v => totalProb m n prob / 2 + v / 2) (fun _ _ h => by dsimp only; linarith) _ _

/-! ## One-sided enumeration of the classical bias -/

theorem rabs_eq_abs (a : Rat) : rabs a = |a| := by
  unfold rabs
  split
  · next h => rw [abs_of_neg h]
  · next h => rw [abs_of_nonneg (le_of_not_gt h)]

theorem signBias_swap (m n : Nat) (D : Nat → Nat → Rat) (s t : Nat → Rat) :
    signBias m n D s t = sumN n fun y => t y * sumN m fun x => s x * D x y := by
  unfold signBias
  simp only [sumN_eq_sum]
  rw [Finset.sum_comm]
  refine Finset.sum_congr rfl fun y _ => ?_
  rw [Finset.mul_sum]
  refine Finset.sum_congr rfl fun x _ => by ring

theorem rabs_eq_amax1 (c : Rat) : rabs c = Toq.Games.amax1 1 fun b => negOnePow b * c := by
  show rabs c = Toq.Games.rmax (negOnePow 0 * c) (negOnePow 1 * c)
  rw [negOnePow_zero, negOnePow_one, one_mul, neg_one_mul, Toq.Games.rmax_eq_max, rabs_eq_abs, abs_eq_max_neg]

theorem bestResponse_spec (m n : Nat) (D : Nat → Nat → Rat) (s : Nat → Rat) :
    (∃ β : Nat → Nat, (∀ y, β y ≤ 1) ∧
      (sumN n fun y => rabs (sumN m fun x => s x * D x y)) = signBias m n D s fun y => negOnePow (β y)) ∧
    ∀ β : Nat → Nat, (∀ y, y < n → β y ≤ 1) →
      signBias m n D s (fun y => negOnePow (β y)) ≤ sumN n fun y => rabs (sumN m fun x => s x * D x y) := by
  simp only [signBias_swap, rabs_eq_amax1]
  exact Toq.Games.sumN_amax1_spec (fun b y => negOnePow b * sumN m fun x => s x * D x y) 1 n

theorem xorClassicalBiasBR_eq (m n : Nat) (D : Nat → Nat → Rat) :
    xorClassicalBiasBR m n D = xorClassicalBias m n D := by
  have bias := bit_enum_spec m n (fun α β => signBias m n D (fun x => negOnePow (α x)) fun y => negOnePow (β y))
    fun α α' β β' hα hβ => signBias_congr m n D _ _ _ _ (fun x hx => by rw [hα x hx]) fun y hy => by rw [hβ y hy]
  apply le_antisymm
  · -- every enumerated value is the bias of a pair of bit vectors
    refine maxUpTo_le _ _ _ fun k _ => ?_
    obtain ⟨β, hβ, e⟩ := (bestResponse_spec m n D fun x => negOnePow (bits m k x)).1
    exact e.trans_le (bias.2 (bits m k) β ⟨fun _ hx => dec_lt two m k _ hx Nat.zero_lt_two, fun y _ => Nat.lt_succ_of_le (hβ y)⟩)
  · -- the optimal pair is dominated by the best response to its first component, which is enumerated
    obtain ⟨α, β, hb, e⟩ := bias.1
    refine e.symm.trans_le (((bestResponse_spec m n D _).2 β fun y hy => Nat.le_of_lt_succ (hb.2 y hy)).trans ?_)
    exact (maxUpTo_bits_spec m (fun c => sumN n fun y => rabs (sumN m fun x => negOnePow (c x) * D x y)) fun c c' h =>
      sumN_congr _ _ n fun y _ => congrArg rabs (sumN_congr _ _ m fun x hx => by rw [h x hx])).2 α hb.1

theorem xorClassicalValueBR_eq (m n : Nat) (prob : Nat → Nat → Rat) (pred : Nat → Nat → Nat)
    (hf : ∀ x y, x < m → y < n → pred x y < 2) : xorClassicalValueBR m n prob pred = xorClassicalValue m n prob pred := by
  rw [xorClassicalValueBR, xorClassicalBiasBR_eq, xorClassicalValue_eq_bias m n prob pred hf]

/-! ## Behaviours: winning probability, correlators, the PR-box-like behaviour -/

/-- winning probability of a behaviour `p a b x y = p(a,b|x,y)` in the converted game -/
def behWin (m n : Nat) (prob : Nat → Nat → Rat) (pred : Nat → Nat → Nat) (p : Nat → Nat → Nat → Nat → Rat) : Rat :=
  sumN m fun x => sumN n fun y => prob x y * sumN 2 fun a => sumN 2 fun b => nlgPred pred a b x y * p a b x y

def corr (p : Nat → Nat → Nat → Nat → Rat) (x y : Nat) : Rat :=
  sumN 2 fun a => sumN 2 fun b => negOnePow a * negOnePow b * p a b x y

def behTotal (p : Nat → Nat → Nat → Nat → Rat) (x y : Nat) : Rat := sumN 2 fun a => sumN 2 fun b => p a b x y

theorem behWin_le_total (m n : Nat) (prob : Nat → Nat → Rat) (pred : Nat → Nat → Nat)
    (p : Nat → Nat → Nat → Nat → Rat) (hprob : ∀ x y, x < m → y < n → 0 ≤ prob x y)
    (hp0 : ∀ a b x y, 0 ≤ p a b x y) (hp : ∀ x y, x < m → y < n → behTotal p x y = 1) :
    behWin m n prob pred p ≤ totalProb m n prob := by
  refine sumN_le_sumN _ _ m fun x hx => sumN_le_sumN _ _ n fun y hy => ?_
  have h : (sumN 2 fun a => sumN 2 fun b => nlgPred pred a b x y * p a b x y) ≤ behTotal p x y :=
    sumN_le_sumN _ _ 2 fun a _ => sumN_le_sumN _ _ 2 fun b _ =>
      mul_le_of_le_one_left (hp0 a b x y) (nlgPred_le_one pred a b x y)
  rw [hp x y hx hy] at h
  exact mul_le_of_le_one_right (hprob x y hx hy) h

def prBox (pred : Nat → Nat → Nat) : Nat → Nat → Nat → Nat → Rat :=
  fun a b x y => if pred x y = a ^^^ b then 1 / 2 else 0

theorem prBox_nonneg (pred : Nat → Nat → Nat) (a b x y : Nat) : 0 ≤ prBox pred a b x y := by
  unfold prBox; split <;> norm_num

theorem prBox_eq (pred : Nat → Nat → Nat) (a b x y : Nat) (hf : pred x y < 2) (ha : a < 2) (hb : b < 2) :
    prBox pred a b x y = 1 / 4 + negOnePow (pred x y) * negOnePow a * negOnePow b / 4 := by
  have : prBox pred a b x y = nlgPred pred a b x y / 2 := by simp only [prBox, nlgPred, ite_div, zero_div]
  rw [this, nlgPred_eq pred a b x y hf ha hb]
  ring

theorem prBox_total (pred : Nat → Nat → Nat) (x y : Nat) (hf : pred x y < 2) : behTotal (prBox pred) x y = 1 := by
  simp only [behTotal, sumN_two, prBox_eq, hf, Nat.zero_lt_two, Nat.one_lt_two, negOnePow_zero, negOnePow_one]
  ring

theorem prBox_marginalA (pred : Nat → Nat → Nat) (a x y : Nat) (ha : a < 2) (hf : pred x y < 2) :
    (sumN 2 fun b => prBox pred a b x y) = 1 / 2 := by
  simp only [sumN_two, prBox_eq, hf, ha, Nat.zero_lt_two, Nat.one_lt_two, negOnePow_zero, negOnePow_one]
  ring

theorem prBox_marginalB (pred : Nat → Nat → Nat) (b x y : Nat) (hb : b < 2) (hf : pred x y < 2) :
    (sumN 2 fun a => prBox pred a b x y) = 1 / 2 := by
  simp only [sumN_two, prBox_eq, hf, hb, Nat.zero_lt_two, Nat.one_lt_two, negOnePow_zero, negOnePow_one]
  ring

theorem nlgPred_mul_prBox (pred : Nat → Nat → Nat) (a b x y : Nat) :
    nlgPred pred a b x y * prBox pred a b x y = prBox pred a b x y := by
  by_cases h : pred x y = a ^^^ b
  · simp only [prBox, nlgPred, if_pos h, one_mul]
  · simp only [prBox, nlgPred, if_neg h, zero_mul]

theorem prBox_wins (pred : Nat → Nat → Nat) (x y : Nat) (hf : pred x y < 2) :
    (sumN 2 fun a => sumN 2 fun b => nlgPred pred a b x y * prBox pred a b x y) = 1 := by
  simp only [nlgPred_mul_prBox]
  exact prBox_total pred x y hf

theorem behWin_prBox (m n : Nat) (prob : Nat → Nat → Rat) (pred : Nat → Nat → Nat)
    (hf : ∀ x y, x < m → y < n → pred x y < 2) : behWin m n prob pred (prBox pred) = totalProb m n prob := by
  unfold behWin totalProb
  refine sumN_congr _ _ m fun x hx => sumN_congr _ _ n fun y hy => ?_
  rw [prBox_wins pred x y (hf x y hx hy), mul_one]

section BellExt
variable (J : Nat → Nat → Rat) (a b : Nat → Rat) (t : Rat)

theorem bellExt_zero_zero : bellExt J a b t 0 0 = t := rfl
theorem bellExt_zero_succ (y : Nat) : bellExt J a b t 0 (y + 1) = b y := rfl
theorem bellExt_succ_zero (x : Nat) : bellExt J a b t (x + 1) 0 = a x := rfl
theorem bellExt_succ_succ (x y : Nat) : bellExt J a b t (x + 1) (y + 1) = J x y := rfl

end BellExt

/-- substituting `A_x = ca + da·S_x`, `B_y = cb + db·T_y` into a Bell expression gives the constant and the coefficients of
    `bellAffineC` -/
theorem bellAffineC_spec (m n : Nat) (J : Nat → Nat → Rat) (a b : Nat → Rat) (ca da cb db : Rat)
    (e : Nat → Nat → Rat) (p q : Nat → Rat) :
    (sumN m fun x => sumN n fun y => J x y * (ca * cb + ca * db * q y + da * cb * p x + da * db * e x y))
        + (sumN m fun x => a x * (ca + da * p x)) + (sumN n fun y => b y * (cb + db * q y))
      = (bellAffineC m n J a b ca da cb db).2.2.2
        + (sumN m fun x => sumN n fun y => (bellAffineC m n J a b ca da cb db).1 x y * e x y)
        + (sumN m fun x => (bellAffineC m n J a b ca da cb db).2.1 x * p x)
        + (sumN n fun y => (bellAffineC m n J a b ca da cb db).2.2.1 y * q y) := by
  simp only [bellAffineC, sumN_eq_sum]
  -- the one exchange of summations: Bob's marginal coefficient sums `J` over Alice's settings
  have hq : ∑ y ∈ Finset.range n, db * (b y + ca * ∑ x ∈ Finset.range m, J x y) * q y
      = ∑ y ∈ Finset.range n, db * b y * q y + ∑ x ∈ Finset.range m, ∑ y ∈ Finset.range n, J x y * (ca * db * q y) := by
    rw [Finset.sum_comm, ← Finset.sum_add_distrib]
    refine Finset.sum_congr rfl fun y _ => ?_
    rw [Finset.mul_sum, mul_add, add_mul, Finset.mul_sum, Finset.sum_mul]
    exact congrArg _ (Finset.sum_congr rfl fun x _ => by ring)
  rw [hq]
  -- everything else is distributivity; the summands are compared in commutative normal form
  simp only [Finset.mul_sum, mul_add, Finset.sum_add_distrib, mul_comm, mul_left_comm]
  ring

theorem powN_eq_pow (x : Rat) : ∀ r, powN x r = x ^ r
  | 0 => by simp [powN]
  | r + 1 => by rw [powN, powN_eq_pow x r, pow_succ]

/-- what `quantum_value` makes of the optimal dual value `2β`, every number of repetitions -/
theorem xorValue_two_mul (β : Rat) (r : Nat) : xorValue (2 * β) r = (1 / 2 + β / 2) ^ r := by
  rw [xorValue, powN_eq_pow]
  congr 1
  ring

theorem powN_nonneg (x : Rat) (hx : 0 ≤ x) (r : Nat) : 0 ≤ powN x r := by
  rw [powN_eq_pow]; exact pow_nonneg hx r

/-! ## `XORGame.__init__` -/

theorem floatEps_pos : 0 < floatEps := by decide +kernel

theorem xorTol_default_nonneg (q0 q1 : Nat) : 0 ≤ xorTol q0 q1 none := by
  unfold xorTol
  have h0 : (0 : Rat) ≤ (q0 : Rat) := Nat.cast_nonneg _
  have h1 : (0 : Rat) ≤ (q1 : Rat) := Nat.cast_nonneg _
  exact mul_nonneg (mul_nonneg floatEps_pos.le (mul_nonneg h0 h0)) (mul_nonneg h1 h1)

theorem negMin_le_iff (q0 q1 : Nat) (h0 : 0 < q0) (h1 : 0 < q1) (prob : Nat → Nat → Rat) (t : Rat) :
    negMin q0 q1 prob ≤ t ↔ ∀ x y, x < q0 → y < q1 → -t ≤ prob x y := by
  have spec := Toq.Games.amax1_divMod_spec q0 q1 h0 h1 fun x y => -prob x y
  rw [negMin, Toq.Games.maxUpTo_eq_amax1]
  constructor
  · intro h x y hx hy
    linarith [spec.2 x y ⟨hx, hy⟩]
  · intro h
    obtain ⟨x, y, hxy, e⟩ := spec.1
    linarith [h x y hxy.1 hxy.2]

theorem xorInit_ok_iff (q0 q1 p0 p1 : Nat) (h0 : 0 < q0) (h1 : 0 < q1) (prob : Nat → Nat → Rat) (tol : Option Rat) :
    xorInit q0 q1 p0 p1 prob tol = .ok (xorTol q0 q1 tol) ↔
      (q0 = p0 ∧ q1 = p1) ∧ (∀ x y, x < q0 → y < q1 → -(xorTol q0 q1 tol) ≤ prob x y) ∧
        |totalProb q0 q1 prob - 1| ≤ xorTol q0 q1 tol := by
  have habs : ∀ d : Rat, (if d < 0 then -d else d) = |d| := rabs_eq_abs
  -- each rejecting branch returns a constructor other than `.ok`, so `.ok` is returned iff all three guards fail
  simp only [xorInit, habs, ite_eq_iff, reduceCtorEq, and_false, false_or, gt_iff_lt, not_lt, ne_eq, not_not, Prod.mk.injEq,
    and_true, negMin_le_iff q0 q1 h0 h1]

end Toq.Xor
