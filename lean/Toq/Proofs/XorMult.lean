import Toq.Proofs.XorTsirelson
import Toq.Proofs.RatReal
/-!
# Multiplicativity of the Tsirelson optimum under tensor products (C08, repetitions)

The cost matrix of the XOR-sum of two XOR games (`π ⊗ π'`, predicate `f ⊕ f'`) is `D ⊗ D'`.

* primal: tensor products of unit vectors are unit vectors, so products of vector (= quantum) correlations are vector
  correlations and the bias is the product of the biases (`kronD_bias`, `isVectorCorr_kron`);
* dual: conjugation with a real diagonal matrix maps dual certificates to dual certificates (`tsirelsonDual_conj_psd`), so
  `(a, b)` is dual feasible for `−D` and `(λa, b/λ)` for `D`, for every `λ > 0`; `(a ⊗ a', b ⊗ b')` is dual feasible for
  `D ⊗ D'` (`tsirelsonDual_kron_psd`: a principal submatrix of `Z(a,b,D) ⊗ Z(a',b',−D')`); hence whatever is below all dual
  values is below the geometric mean `√(Σa·Σb)` (`le_sqrt_of_forall_dual`), which is multiplicative.

This is the key lemma of Cleve–Slofstra–Unger–Upadhyay (perfect parallel repetition of the bias of XOR-sums).
-/

open Matrix
open scoped ComplexOrder MatrixOrder Kronecker

namespace Toq.Xor

section Mult
variable {X Y X' Y' : Type*}

/-- entrywise tensor product of two real matrices: cost matrix of the XOR-sum of two games
    (`π ⊗ π'` with predicate `f ⊕ f'`), and correlation matrix of independent play -/
def kronD (D : X → Y → ℝ) (D' : X' → Y' → ℝ) : X × X' → Y × Y' → ℝ := fun p q => D p.1 q.1 * D' p.2 q.2

def prodSumEmb : (X × X') ⊕ (Y × Y') → (X ⊕ Y) × (X' ⊕ Y')
  | .inl p => (.inl p.1, .inl p.2)
  | .inr q => (.inr q.1, .inr q.2)

theorem tsirelsonDual_kron [DecidableEq X] [DecidableEq Y] [DecidableEq X'] [DecidableEq Y']
    (D : X → Y → ℝ) (D' : X' → Y' → ℝ) (a : X → ℝ) (b : Y → ℝ) (a' : X' → ℝ) (b' : Y' → ℝ) :
    tsirelsonDual (kronD D D') (fun p => a p.1 * a' p.2) (fun q => b q.1 * b' q.2)
      = (tsirelsonDual D a b ⊗ₖ tsirelsonDual (fun x y => -D' x y) a' b').submatrix prodSumEmb prodSumEmb := by
  ext i j
  rcases i with ⟨x, x'⟩ | ⟨y, y'⟩ <;> rcases j with ⟨x2, x2'⟩ | ⟨y2, y2'⟩
  · simp only [prodSumEmb, submatrix_apply, kroneckerMap_apply, tsirelsonDual_inl_inl, Prod.mk.injEq, ite_and, ite_mul,
      mul_ite, zero_mul, mul_zero, Complex.ofReal_mul]
    simp only [← ite_and, and_comm]
  · simp [prodSumEmb, kronD]
  · simp [prodSumEmb, kronD]
  · simp only [prodSumEmb, submatrix_apply, kroneckerMap_apply, tsirelsonDual_inr_inr, Prod.mk.injEq, ite_and, ite_mul,
      mul_ite, zero_mul, mul_zero, Complex.ofReal_mul]
    simp only [← ite_and, and_comm]

variable [Fintype X] [Fintype Y] [Fintype X'] [Fintype Y']

theorem kronD_bias (D : X → Y → ℝ) (D' : X' → Y' → ℝ) (c : X → Y → ℝ) (c' : X' → Y' → ℝ) :
    ∑ p, ∑ q, kronD D D' p q * kronD c c' p q = (∑ x, ∑ y, D x y * c x y) * ∑ x, ∑ y, D' x y * c' x y := by
  simp only [kronD, Fintype.sum_prod_type]
  rw [Finset.sum_mul_sum]
  refine Finset.sum_congr rfl fun x _ => Finset.sum_congr rfl fun x' _ => ?_
  rw [Finset.sum_mul_sum]
  refine Finset.sum_congr rfl fun y _ => Finset.sum_congr rfl fun y' _ => ?_
  ring

theorem sum_sq_tensor {Z Z' κ κ' : Type*} [Fintype κ] [Fintype κ'] (w : Z → κ → ℝ) (w' : Z' → κ' → ℝ)
    (hw : ∀ z, ∑ k, w z k ^ 2 = 1) (hw' : ∀ z, ∑ k, w' z k ^ 2 = 1) (p : Z × Z') :
    ∑ k : κ × κ', (w p.1 k.1 * w' p.2 k.2) ^ 2 = 1 := by
  simp only [Fintype.sum_prod_type, mul_pow]
  rw [← Finset.sum_mul_sum, hw, hw', mul_one]

theorem isVectorCorr_kron {c : X → Y → ℝ} {c' : X' → Y' → ℝ} (h : IsVectorCorr c) (h' : IsVectorCorr c') :
    IsVectorCorr (kronD c c') := by
  classical
  obtain ⟨n, u, v, hu, hv, hc⟩ := (isVectorCorr_iff_vectors c).mp h
  obtain ⟨n', u', v', hu', hv', hc'⟩ := (isVectorCorr_iff_vectors c').mp h'
  have e : (fun (p : X × X') (q : Y × Y') => ∑ k : Fin n × Fin n', u p.1 k.1 * u' p.2 k.2 * (v q.1 k.1 * v' q.2 k.2))
      = kronD c c' := by
    funext p q
    rw [kronD, ← hc, ← hc', Finset.sum_mul_sum, Fintype.sum_prod_type]
    exact Finset.sum_congr rfl fun k _ => Finset.sum_congr rfl fun k' _ => by ring
  exact e ▸ isVectorCorr_of_vectors _ _ (sum_sq_tensor u u' hu hu') (sum_sq_tensor v v' hv hv')

variable [DecidableEq X] [DecidableEq Y]

theorem tsirelsonDual_conj_diagonal (D : X → Y → ℝ) (a : X → ℝ) (b : Y → ℝ) (p : X → ℝ) (q : Y → ℝ) :
    tsirelsonDual (fun x y => p x * D x y * q y) (fun x => p x ^ 2 * a x) (fun y => q y ^ 2 * b y)
      = diagonal (fun i => ((Sum.elim p q i : ℝ) : ℂ)) * tsirelsonDual D a b
        * (diagonal fun i => ((Sum.elim p q i : ℝ) : ℂ))ᴴ := by
  ext i j
  rw [diagonal_conjTranspose, mul_diagonal, diagonal_mul, Pi.star_apply, Complex.star_def, Complex.conj_ofReal]
  rcases i with x | y <;> rcases j with x' | y'
  · by_cases h : x = x'
    · subst h
      simp only [tsirelsonDual_inl_inl, if_true, Sum.elim_inl]
      push_cast
      ring
    · simp only [tsirelsonDual_inl_inl, if_neg h, mul_zero, zero_mul]
  · simp only [tsirelsonDual_inl_inr, Sum.elim_inl, Sum.elim_inr]
    push_cast
    ring
  · simp only [tsirelsonDual_inr_inl, Sum.elim_inl, Sum.elim_inr]
    push_cast
    ring
  · by_cases h : y = y'
    · subst h
      simp only [tsirelsonDual_inr_inr, if_true, Sum.elim_inr]
      push_cast
      ring
    · simp only [tsirelsonDual_inr_inr, if_neg h, mul_zero, zero_mul]

theorem tsirelsonDual_conj_psd {D : X → Y → ℝ} {a : X → ℝ} {b : Y → ℝ} (h : (tsirelsonDual D a b).PosSemidef)
    (p : X → ℝ) (q : Y → ℝ) :
    (tsirelsonDual (fun x y => p x * D x y * q y) (fun x => p x ^ 2 * a x) (fun y => q y ^ 2 * b y)).PosSemidef := by
  rw [tsirelsonDual_conj_diagonal]
  exact h.mul_mul_conjTranspose_same _

theorem tsirelsonDual_neg_psd {D : X → Y → ℝ} {a : X → ℝ} {b : Y → ℝ} (h : (tsirelsonDual D a b).PosSemidef) :
    (tsirelsonDual (fun x y => -D x y) a b).PosSemidef := by
  simpa using tsirelsonDual_conj_psd h (fun _ => 1) (fun _ => -1)

theorem tsirelsonDual_rebalance {D : X → Y → ℝ} {a : X → ℝ} {b : Y → ℝ} (h : (tsirelsonDual D a b).PosSemidef)
    (lam : ℝ) (hl : 0 < lam) : (tsirelsonDual D (fun x => lam * a x) (fun y => lam⁻¹ * b y)).PosSemidef := by
  have hs : Real.sqrt lam ≠ 0 := (Real.sqrt_pos.mpr hl).ne'
  have := tsirelsonDual_conj_psd h (fun _ => Real.sqrt lam) (fun _ => (Real.sqrt lam)⁻¹)
  simpa only [mul_inv_cancel_right₀ hs, mul_comm (Real.sqrt lam) (D _ _), inv_pow, Real.sq_sqrt hl.le] using this

variable [DecidableEq X'] [DecidableEq Y']

theorem tsirelsonDual_kron_psd {D : X → Y → ℝ} {D' : X' → Y' → ℝ} {a : X → ℝ} {b : Y → ℝ} {a' : X' → ℝ} {b' : Y' → ℝ}
    (h : (tsirelsonDual D a b).PosSemidef) (h' : (tsirelsonDual D' a' b').PosSemidef) :
    (tsirelsonDual (kronD D D') (fun p => a p.1 * a' p.2) (fun q => b q.1 * b' q.2)).PosSemidef := by
  rw [tsirelsonDual_kron]
  exact (h.kronecker (tsirelsonDual_neg_psd h')).submatrix _

end Mult

theorem sqrt_mul_le_half_add (P Q : ℝ) (hP : 0 ≤ P) (hQ : 0 ≤ Q) : Real.sqrt (P * Q) ≤ (P + Q) / 2 := by
  have := two_mul_le_add_of_sq_le_mul hP hQ (Real.sq_sqrt (mul_nonneg hP hQ)).le
  linarith

section Geo
variable {X Y : Type*} [Fintype X] [Fintype Y] [DecidableEq X] [DecidableEq Y]

theorem le_sqrt_of_forall_dual {D : X → Y → ℝ} {β : ℝ}
    (h : ∀ a b, (tsirelsonDual D a b).PosSemidef → β ≤ (∑ x, a x + ∑ y, b y) / 2)
    {a : X → ℝ} {b : Y → ℝ} (hZ : (tsirelsonDual D a b).PosSemidef) : β ≤ Real.sqrt ((∑ x, a x) * ∑ y, b y) := by
  refine Real.le_sqrt_of_forall_balance _ _ _ (tsirelsonDual_sum_nonneg hZ).1 (tsirelsonDual_sum_nonneg hZ).2 fun ν hν => ?_
  rw [Finset.mul_sum, Finset.mul_sum]
  exact h _ _ (tsirelsonDual_rebalance hZ ν hν)

theorem IsVectorCorr.le_geo {c : X → Y → ℝ} (h : IsVectorCorr c) {D : X → Y → ℝ} {a : X → ℝ} {b : Y → ℝ}
    (hZ : (tsirelsonDual D a b).PosSemidef) : ∑ x, ∑ y, D x y * c x y ≤ Real.sqrt ((∑ x, a x) * ∑ y, b y) :=
  le_sqrt_of_forall_dual (fun _ _ hZ' => h.le_dual hZ') hZ

theorem sqrt_dual_le {D : X → Y → ℝ} {a : X → ℝ} {b : Y → ℝ} (hZ : (tsirelsonDual D a b).PosSemidef) :
    Real.sqrt ((∑ x, a x) * ∑ y, b y) ≤ (∑ x, a x + ∑ y, b y) / 2 :=
  sqrt_mul_le_half_add _ _ (tsirelsonDual_sum_nonneg hZ).1 (tsirelsonDual_sum_nonneg hZ).2

variable {X' Y' : Type*} [Fintype X'] [Fintype Y'] [DecidableEq X'] [DecidableEq Y']

/-- the geometric mean of the product certificate factorises, and each factor is at most the dual value (the two-factor case of
    `fourier_term_le`) -/
theorem IsVectorCorr.le_dual_kron {c : X × X' → Y × Y' → ℝ} (h : IsVectorCorr c) {D : X → Y → ℝ} {D' : X' → Y' → ℝ}
    {a : X → ℝ} {b : Y → ℝ} {a' : X' → ℝ} {b' : Y' → ℝ} (hZ : (tsirelsonDual D a b).PosSemidef)
    (hZ' : (tsirelsonDual D' a' b').PosSemidef) :
    ∑ p, ∑ q, kronD D D' p q * c p q ≤ ((∑ x, a x + ∑ y, b y) / 2) * ((∑ x, a' x + ∑ y, b' y) / 2) := by
  have h := h.le_geo (tsirelsonDual_kron_psd hZ hZ')
  have e1 : ∑ p : X × X', a p.1 * a' p.2 = (∑ x, a x) * ∑ x, a' x := by
    rw [Fintype.sum_prod_type, Finset.sum_mul_sum]
  have e2 : ∑ q : Y × Y', b q.1 * b' q.2 = (∑ y, b y) * ∑ y, b' y := by
    rw [Fintype.sum_prod_type, Finset.sum_mul_sum]
  rw [e1, e2, mul_mul_mul_comm, Real.sqrt_mul (mul_nonneg (tsirelsonDual_sum_nonneg hZ).1 (tsirelsonDual_sum_nonneg hZ).2)] at h
  exact h.trans (mul_le_mul (sqrt_dual_le hZ) (sqrt_dual_le hZ') (Real.sqrt_nonneg _)
    ((Real.sqrt_nonneg _).trans (sqrt_dual_le hZ)))

end Geo

end Toq.Xor
