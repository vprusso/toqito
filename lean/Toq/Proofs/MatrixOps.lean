import Toq.Model.MatrixOps
import Toq.Model.MatrixPreds
import Toq.Spec.MatrixOps
import Toq.Proofs.Idx
import Toq.Proofs.Cert
import Toq.Proofs.Rank
import Toq.Proofs.SumN
import Toq.Proofs.RatReal
import Mathlib.LinearAlgebra.Matrix.ToLin
import Mathlib.LinearAlgebra.Matrix.Rank
import Mathlib.Algebra.BigOperators.Group.Finset.Basic
import Mathlib.Algebra.BigOperators.Group.Finset.Sigma
import Mathlib.Algebra.BigOperators.Ring.Finset
import Mathlib.Algebra.Ring.Defs
import Mathlib.Algebra.Star.Basic
import Mathlib.Algebra.Star.BigOperators
import Mathlib.Tactic.Ring
import Mathlib.Tactic.Linarith
import Mathlib.LinearAlgebra.Matrix.Hermitian
import Mathlib.LinearAlgebra.Matrix.PosDef
import Mathlib.Algebra.Order.Field.Rat
/-!
# The basic layer under C16

In `Toq.MatrixOps`: entry formulas for the mirror models of `Toq/Model/MatrixOps.lean` (`vec`, `kron`, `mul`, `gram`, `commSystem`, …),
so that proofs need not unfold them; the bridge from the exact rank routine on `QMat` to Mathlib's `Matrix.rank`, with `combinations`
as the enumeration of sorted index lists.  In `Toq.MatrixPreds`: how the three-valued deciders of `Toq/Model/MatrixPreds.lean` are read
(the `Verdict` combinators, the squareness and reality guards, the equation decider `eqV`, `SqEq` for the predicates that are one
guarded equation, and the readings `…V_yes_iff` built from them); soundness of the certificate checkers `psdCertLDL`, `npsdCert`
(`rankCert`, `linIndepCert`, `linDepCert`: `Properties/C16.lean`); and what the operations on `Mat QI` denote as complex matrices (`fnToM`).
-/

namespace Toq.MatrixOps

theorem vec_f (A : Mat α) (k j : Nat) : (vec A).f k j = A.f (k % A.r) (k / A.r % A.c) := by
  simp [vec, Mat.toND, ND.vecF, unflatF, shape2, prodN]

theorem vec_f_of_lt (A : Mat α) {k : Nat} (hk : k < A.r * A.c) (j : Nat) : (vec A).f k j = A.f (k % A.r) (k / A.r) := by
  rw [vec_f, Nat.mod_eq_of_lt (Nat.div_lt_of_lt_mul hk)]

theorem unvecShape_f (v : Nat → α) (r c i j : Nat) : (unvecShape v r c).f i j = v (i + j * r) := by
  simp [unvecShape, ND.ofFlatF, flatF, shape2, prodN]

theorem unvec_default_sq (v : Nat → α) (n : Nat) :
    unvec v (n * n) none = some (unvecShape v n n) := by
  simp [unvec, unvecDefault]

theorem kron_f [Mul α] (A B : Mat α) (i j : Nat) :
    (kron A B).f i j = A.f (i / B.r) (j / B.c) * B.f (i % B.r) (j % B.c) := rfl

theorem kron_block [Mul α] (A B : Mat α) (i1 i2 j1 j2 : Nat) (hi : i2 < B.r) (hj : j2 < B.c) :
    (kron A B).f (i1 * B.r + i2) (j1 * B.c + j2) = A.f i1 j1 * B.f i2 j2 := by
  obtain ⟨hi1, hi2⟩ := Nat.mul_add_divMod_of_lt (q := i1) hi
  obtain ⟨hj1, hj2⟩ := Nat.mul_add_divMod_of_lt (q := j1) hj
  rw [kron_f, hi1, hi2, hj1, hj2]

theorem kron_assoc [Semigroup α] (A B C : Mat α) : kron (kron A B) C = kron A (kron B C) := by
  unfold kron
  simp only [Mat.mk.injEq]
  refine ⟨Nat.mul_assoc _ _ _, Nat.mul_assoc _ _ _, ?_⟩
  funext i j
  -- the digits of `i` in the mixed base `(B.r, C.r)`, read from either side
  rw [Nat.mul_comm B.r, Nat.mul_comm B.c, Nat.mod_mul_right_div_self, Nat.mod_mul_right_div_self, Nat.mod_mul_right_mod,
    Nat.mod_mul_right_mod, Nat.div_div_eq_div_mul, Nat.div_div_eq_div_mul, mul_assoc]

instance [Semigroup α] : Std.Associative (kron (α := α)) := ⟨kron_assoc⟩

theorem kronPow_succ [Mul α] (A : Mat α) (a : Nat) (ha : 1 ≤ a) :
    kronPow A (a + 1) = kron (kronPow A a) A := by
  obtain ⟨a', rfl⟩ : ∃ a', a = a' + 1 := ⟨a - 1, by omega⟩
  rfl

theorem kronFold_replicate [Mul α] (A : Mat α) : ∀ (k m : Nat), 1 ≤ m →
    kronFold (kronPow A m) (List.replicate k A) = kronPow A (m + k)
  | 0, _, _ => rfl
  | k + 1, m, hm => by
    rw [kronFold, List.replicate_succ, List.foldl_cons, ← kronPow_succ A m hm, ← kronFold,
      kronFold_replicate A k (m + 1) (by omega), Nat.add_right_comm, Nat.add_assoc]

/-- the list form of `tensor` on a non-empty list is the left fold (lengths 1, 2 and `≥ 3` are separate branches of the code) -/
theorem tensorList_cons [Mul α] (a : Mat α) : ∀ l : List (Mat α), tensorList (a :: l) = .mat (kronFold a l)
  | [] => rfl
  | [_] => rfl
  | _ :: _ :: _ => rfl

theorem kronPow_add [Semigroup α] (A : Mat α) (a : Nat) (ha : 1 ≤ a) :
    ∀ b, 1 ≤ b → kronPow A (a + b) = kron (kronPow A a) (kronPow A b) := by
  intro b hb
  induction b with
  | zero => omega
  | succ b ih =>
    rcases Nat.eq_zero_or_pos b with h0 | hpos
    · subst h0
      exact kronPow_succ A a ha
    · rw [← Nat.add_assoc, kronPow_succ A (a + b) (by omega), ih hpos, kron_assoc,
        ← kronPow_succ A b hpos]

theorem fastExp_eq_kronPow [Semigroup α] (A : Mat α) : ∀ q, 1 ≤ q → fastExp A q = kronPow A q := by
  intro q
  induction q using Nat.strong_induction_on with
  | _ q ih =>
    intro hq
    rw [fastExp]
    split
    · have : q = 1 := by omega
      subst this; rfl
    · rename_i hgt
      have hhalf : q >>> 1 = q / 2 := by rw [Nat.shiftRight_eq_div_pow]
      have h1 : 1 ≤ q / 2 := by omega
      have hlt : q / 2 < q := by omega
      simp only []
      rw [hhalf, ih (q / 2) hlt h1, ← kronPow_add A (q / 2) h1 (q / 2) h1, Nat.and_one_is_mod]
      split
      · rename_i hodd
        have : q = 1 + (q / 2 + q / 2) := by omega
        conv_rhs => rw [this]
        rw [kronPow_add A 1 (le_refl 1) (q / 2 + q / 2) (by omega)]
        rfl
      · rename_i heven
        have : q = q / 2 + q / 2 := by omega
        conv_rhs => rw [this]

theorem mul_f [AddCommMonoid α] [Mul α] (A B : Mat α) (i j : Nat) :
    (mul A B).f i j = ∑ k ∈ Finset.range A.c, A.f i k * B.f k j := by
  show sumN A.c (fun k => A.f i k * B.f k j) = _
  rw [sumN_eq_sum]

theorem eye_f [Zero α] [One α] (n i j : Nat) : (eye n : Mat α).f i j = if i = j then 1 else 0 := rfl

/-- the Kronecker-delta collapse behind `(A ⊗ 1 − 1 ⊗ Aᵀ) vec X = vec (A X − X A)`, for any finite index set -/
theorem sum_sum_commutator_delta {ι β : Type} [DecidableEq ι] [CommRing β] (s : Finset ι) (a x : ι → ι → β) {i j : ι}
    (hi : i ∈ s) (hj : j ∈ s) :
    ∑ b ∈ s, ∑ c ∈ s, (a i b * (if j = c then 1 else 0) - (if i = b then 1 else 0) * a c j) * x b c
      = ∑ k ∈ s, a i k * x k j - ∑ k ∈ s, x i k * a k j := by
  simp only [sub_mul, Finset.sum_sub_distrib]
  congr 1
  · refine Finset.sum_congr rfl fun b _ => ?_
    simp only [mul_ite, mul_one, mul_zero, ite_mul, zero_mul, Finset.sum_ite_eq, hj, if_true]
  · rw [Finset.sum_comm]
    refine Finset.sum_congr rfl fun c _ => ?_
    simp only [ite_mul, one_mul, zero_mul, Finset.sum_ite_eq, hi, if_true]
    exact mul_comm _ _

theorem commSystem_f [Mul α] [Sub α] [Zero α] [One α] (n : Nat) (A : Mat α) (hr : A.r = n) (hc : A.c = n) (r c : Nat) :
    (commSystem n A).f r c
      = A.f (r / n) (c / n) * (if r % n = c % n then 1 else 0) - (if r / n = c / n then 1 else 0) * A.f (c % n) (r % n) := by
  show (kron A (eye n)).f r c - (kron (eye n) (transpose A)).f r c = _
  rw [kron_f, kron_f, eye_f, eye_f]
  show A.f (r / n) (c / n) * _ - (if r / A.c = c / A.r then 1 else 0) * A.f (c % A.r) (r % A.c) = _
  rw [hr, hc]
  rfl

/-- in proofs, the conjugation of the models is `star` -/
scoped instance starHasConj {α : Type} [Star α] : HasConj α := ⟨star⟩

theorem conj_eq_star {α : Type} [Star α] (x : α) : HasConj.conj x = star x := rfl

theorem gram_f [CommSemiring α] [StarRing α] (d n : Nat) (vs : Nat → Nat → α) (i j : Nat) :
    (gram d n vs).f i j = ∑ k ∈ Finset.range d, star (vs i k) * vs j k := by
  unfold gram
  rw [mul_f]
  rfl

theorem outerConj_f [Mul α] [Star α] (n : Nat) (v : Nat → α) (i j : Nat) :
    (outerConj n v).f i j = v i * star (v j) := rfl

theorem prefixSum_succ (l : List Rat) (k : Nat) : prefixSum l (k + 1) = prefixSum l k + l.getD k 0 := rfl

theorem prefixSum_cons (x : Rat) (l : List Rat) : ∀ k, prefixSum (x :: l) (k + 1) = x + prefixSum l k
  | 0 => by simp [prefixSum, sumN]
  | k + 1 => by
    rw [prefixSum_succ, prefixSum_cons x l k, prefixSum_succ]
    simp only [List.getD_cons_succ]
    ring

theorem majLoop_iff : ∀ (a b : List Rat) (ca cb : Rat), a.length = b.length →
    (majLoop a b ca cb = true ↔ ∀ k, k < a.length → cb + prefixSum b (k + 1) ≤ ca + prefixSum a (k + 1))
  | [], b, ca, cb, _ => by simp [majLoop]
  | x :: as, [], ca, cb, h => by simp at h
  | x :: as, y :: bs, ca, cb, h => by
    have hl : as.length = bs.length := by simpa using h
    -- the test at `k = 0`, then the loop on the tails with the running sums advanced
    have step : majLoop (x :: as) (y :: bs) ca cb = true ↔ cb + y ≤ ca + x ∧ majLoop as bs (ca + x) (cb + y) = true := by
      rw [majLoop]
      split <;> simp [*, not_le.mpr, not_lt.mp]
    rw [step, majLoop_iff as bs (ca + x) (cb + y) hl, List.length_cons, Nat.forall_lt_succ_left]
    refine and_congr ?_ (forall₂_congr fun k _ => ?_)
    · rw [prefixSum_cons, prefixSum_cons]; simp [prefixSum, sumN]
    · rw [prefixSum_cons, prefixSum_cons, add_assoc, add_assoc]

theorem sortDesc_length (l : List Rat) : (sortDesc l).length = l.length := by
  unfold sortDesc; exact List.length_mergeSort l

theorem padTo_length (n : Nat) (l : List Rat) (h : l.length ≤ n) : (padTo n l).length = n := by
  simp [padTo]; omega

theorem majorizesTol_iff (a b : List Rat) (tol : Rat) :
    majorizesTol a b tol = true ↔ ∀ k, k < max a.length b.length →
      tol + prefixSum (padTo (max a.length b.length) (sortDesc b)) (k + 1)
        ≤ prefixSum (padTo (max a.length b.length) (sortDesc a)) (k + 1) := by
  unfold majorizesTol
  simp only [sortDesc_length]
  have ha : (padTo (max a.length b.length) (sortDesc a)).length = max a.length b.length :=
    padTo_length _ _ (by rw [sortDesc_length]; exact le_max_left _ _)
  have hb : (padTo (max a.length b.length) (sortDesc b)).length = max a.length b.length :=
    padTo_length _ _ (by rw [sortDesc_length]; exact le_max_right _ _)
  rw [majLoop_iff _ _ 0 tol (by rw [ha, hb]), ha]
  simp only [zero_add]

/-- permutation matrix with a one at `(i, σ i)` (the harness generator `perm_matrix`) -/
def permMat [Zero α] [One α] (n : Nat) (σ : Nat → Nat) : Mat α := ⟨n, n, fun i j => if σ i = j then 1 else 0⟩

open Matrix

def qmatToM (r c : Nat) (M : QMat) : Matrix (Fin r) (Fin c) ℂ := fun i j => (M.get i.val j.val).toC

theorem qmatToM_eq_fnToM (r c : Nat) (M : QMat) : qmatToM r c M = Toq.Rank.fnToM r c M.get := rfl

theorem rank_eq_rank (rows cols : Nat) (M : QMat) : rank rows cols M = (qmatToM rows cols M).rank :=
  Toq.Rank.rankFn_eq_rank rows cols M.get

theorem selectCols_get (M : QMat) (cols : List Nat) (i t : Nat) (ht : t < cols.length) :
    (selectCols M cols).get i t = M.get i cols[t] := by
  unfold selectCols QMat.get
  by_cases hi : i < M.size
  · simp [hi, ht]
  · have hd : (default : Array QI) = #[] := rfl
    simp [hi, hd]

def colFamily (m : Nat) (M : QMat) (cols : List Nat) : Fin cols.length → Fin m → ℂ :=
  fun t i => (M.get i.val cols[t.val]).toC

theorem rank_selectCols_lt_iff (m : Nat) (M : QMat) (cols : List Nat) :
    rank m cols.length (selectCols M cols) < cols.length ↔ ¬ LinearIndependent ℂ (colFamily m M cols) := by
  rw [rank_eq_rank]
  have hle : (qmatToM m cols.length (selectCols M cols)).rank ≤ cols.length := Matrix.rank_le_width _
  have hcol : (qmatToM m cols.length (selectCols M cols)).col = colFamily m M cols := by
    funext t i
    simp [qmatToM, colFamily, Matrix.col, selectCols_get]
  rw [← hcol, Matrix.linearIndependent_col_iff_rank]
  omega

theorem mem_go_iff_of_done (n lo k fuel : Nat) (c : List Nat) (h : k = 0 ∨ n ≤ lo) :
    c ∈ combinations.go n lo k fuel ↔ c.length = k ∧ c.Pairwise (· < ·) ∧ ∀ x ∈ c, lo ≤ x ∧ x < n := by
  by_cases hk : k = 0
  · subst hk
    have : combinations.go n lo 0 fuel = [[]] := by cases fuel <;> simp [combinations.go]
    rw [this, List.mem_singleton]
    exact ⟨by rintro rfl; simp, fun h => List.length_eq_zero_iff.mp h.1⟩
  · have hlo : n ≤ lo := h.resolve_left hk
    have : combinations.go n lo k fuel = [] := by cases fuel <;> simp [combinations.go, hk, hlo]
    rw [this]
    simp only [List.not_mem_nil, false_iff]
    rintro ⟨hl, _, hx⟩
    cases c with
    | nil => exact hk hl.symm
    | cons x t => have := hx x List.mem_cons_self; omega

theorem sortedAbove_step {n lo k : Nat} (hk : k ≠ 0) (hlo : lo < n) (c : List Nat) :
    (c.length = k ∧ c.Pairwise (· < ·) ∧ ∀ x ∈ c, lo ≤ x ∧ x < n) ↔
      (∃ t, (t.length = k - 1 ∧ t.Pairwise (· < ·) ∧ ∀ x ∈ t, lo + 1 ≤ x ∧ x < n) ∧ lo :: t = c) ∨
      (c.length = k ∧ c.Pairwise (· < ·) ∧ ∀ x ∈ c, lo + 1 ≤ x ∧ x < n) := by
  have mono : ∀ {l : List Nat}, (∀ y ∈ l, lo + 1 ≤ y ∧ y < n) → ∀ y ∈ l, lo ≤ y ∧ y < n :=
    fun h y hy => ⟨(Nat.le_succ lo).trans (h y hy).1, (h y hy).2⟩
  constructor
  · rintro ⟨h1, h2, h3⟩
    cases c with
    | nil => exact absurd h1.symm hk
    | cons x t =>
      have hx := h3 x List.mem_cons_self
      have htail : ∀ y ∈ t, x + 1 ≤ y ∧ y < n :=
        fun y hy => ⟨(List.pairwise_cons.mp h2).1 y hy, (h3 y (List.mem_cons_of_mem _ hy)).2⟩
      by_cases hxl : x = lo
      · subst hxl
        exact Or.inl ⟨t, ⟨by simp at h1; omega, (List.pairwise_cons.mp h2).2, htail⟩, rfl⟩
      · refine Or.inr ⟨h1, h2, List.forall_mem_cons.mpr ⟨⟨by omega, hx.2⟩, fun y hy => ?_⟩⟩
        have := htail y hy
        exact ⟨by omega, this.2⟩
  · rintro (⟨t, ⟨h1, h2, h3⟩, rfl⟩ | ⟨h1, h2, h3⟩)
    · exact ⟨by simp [h1]; omega, List.pairwise_cons.mpr ⟨fun a ha => (h3 a ha).1, h2⟩,
        List.forall_mem_cons.mpr ⟨⟨le_refl lo, hlo⟩, mono h3⟩⟩
    · exact ⟨h1, h2, mono h3⟩

theorem mem_go_iff (n : Nat) : ∀ (fuel lo k : Nat) (c : List Nat), n - lo ≤ fuel →
    (c ∈ combinations.go n lo k fuel ↔ c.length = k ∧ c.Pairwise (· < ·) ∧ ∀ x ∈ c, lo ≤ x ∧ x < n) := by
  intro fuel
  induction fuel with
  | zero => intro lo k c hf; exact mem_go_iff_of_done n lo k 0 c (Or.inr (by omega))
  | succ fuel ih =>
    intro lo k c hf
    by_cases hdone : k = 0 ∨ n ≤ lo
    · exact mem_go_iff_of_done n lo k _ c hdone
    have hk : k ≠ 0 := fun h => hdone (Or.inl h)
    have hlo : ¬ lo ≥ n := fun h => hdone (Or.inr h)
    rw [combinations.go, if_neg hk, if_neg hlo, List.mem_append, List.mem_map, sortedAbove_step hk (not_le.mp hlo),
      ← ih (lo + 1) k c (by omega)]
    simp only [ih (lo + 1) (k - 1) _ (by omega)]

def IsIndexList (n k : Nat) (l : List Nat) : Prop := l.length = k ∧ l.Pairwise (· < ·) ∧ ∀ x ∈ l, x < n

theorem mem_combinations_iff (n k : Nat) (c : List Nat) : c ∈ combinations n k ↔ IsIndexList n k c := by
  unfold IsIndexList
  cases k with
  | zero =>
    simp only [combinations, List.mem_singleton]
    exact ⟨by rintro rfl; simp, fun h => List.length_eq_zero_iff.mp h.1⟩
  | succ k =>
    show c ∈ combinations.go n 0 (k + 1) n ↔ _
    rw [mem_go_iff n n 0 (k + 1) c (by omega)]
    simp

/-- the scheme of the enumerators `assignments` and `productSeqs` -/
theorem mem_consEnum_iff (n : Nat) (L : Nat → List (List Nat)) (h0 : L 0 = [[]])
    (hs : ∀ k l, l ∈ L (k + 1) ↔ ∃ x, x < n ∧ ∃ t ∈ L k, l = x :: t) :
    ∀ (k : Nat) (l : List Nat), l ∈ L k ↔ l.length = k ∧ ∀ x ∈ l, x < n
  | 0, l => by
    rw [h0, List.mem_singleton]
    exact ⟨fun h => by simp [h], fun h => List.length_eq_zero_iff.mp h.1⟩
  | k + 1, l => by
    rw [hs]
    constructor
    · rintro ⟨x, hx, t, ht, rfl⟩
      obtain ⟨h1, h2⟩ := (mem_consEnum_iff n L h0 hs k t).mp ht
      exact ⟨by rw [List.length_cons, h1], List.forall_mem_cons.mpr ⟨hx, h2⟩⟩
    · rintro ⟨h1, h2⟩
      cases l with
      | nil => simp at h1
      | cons x t =>
        exact ⟨x, h2 x List.mem_cons_self, t, (mem_consEnum_iff n L h0 hs k t).mpr
          ⟨by simpa using h1, fun y hy => h2 y (List.mem_cons_of_mem _ hy)⟩, rfl⟩

theorem qmatToM_mulVec_eq_zero_iff {r c : Nat} (M : QMat) (h : M.size = r) (x : Fin c → ℂ) :
    qmatToM r c M *ᵥ x = 0 ↔ ∀ row ∈ M, ∑ t : Fin c, (row[t.val]!).toC * x t = 0 := by
  subst h
  have row : ∀ k (hk : k < M.size), (qmatToM M.size c M *ᵥ x) ⟨k, hk⟩ = ∑ t : Fin c, (M[k][t.val]!).toC * x t := fun k hk => by
    simp only [Matrix.mulVec, dotProduct, qmatToM, QMat.get, getElem!_pos M k hk]
  simp only [funext_iff, Fin.forall_iff, row, Pi.zero_apply, Array.forall_mem_iff_forall_getElem]

/-- `combinations n k` are the subsets `spark` runs through -/
def DependentCols (m n : Nat) (M : QMat) (k : Nat) : Prop :=
  ∃ cols ∈ combinations n k, ¬ LinearIndependent ℂ (colFamily m M cols)

theorem any_rank_test_iff (m n : Nat) (M : QMat) (k : Nat) :
    (combinations n k).any (fun cols => rank m k (selectCols M cols) < k) = true ↔ DependentCols m n M k := by
  rw [List.any_eq_true]
  refine exists_congr fun cols => and_congr_right fun hc => ?_
  obtain rfl : cols.length = k := ((mem_combinations_iff n k cols).mp hc).1
  rw [decide_eq_true_eq, rank_selectCols_lt_iff]

theorem zeroCol_iff (m n : Nat) (M : QMat) :
    anyBelow n (fun j => allBelow m (fun i => M.get i j == 0)) = true ↔ ∃ j, j < n ∧ ∀ i, i < m → M.get i j = 0 := by
  simp only [anyBelow_iff, allBelow_iff, beq_iff_eq]

theorem commutantDim_eq (dim : Nat) (gens : List (Mat QI)) :
    commutantDim dim gens
      = Module.finrank ℂ (LinearMap.ker (qmatToM (gens.length * dim * dim) (dim * dim) (commStack dim gens)).mulVecLin) := by
  unfold commutantDim
  rw [rank_eq_rank, Matrix.finrank_ker_eq]

end Toq.MatrixOps

namespace Toq.MatrixPreds
open Toq.MatrixOps

/-- the three-way answer of the deciders (exact test `a`, margin test `b`): the cascade lemmas of `Proofs/Cert` at this `Verdict` -/
theorem Verdict.chain_yes_iff (a b : Prop) [Decidable a] [Decidable b] :
    (if a then Verdict.yes else if b then .no else .unknown) = .yes ↔ a :=
  ite_ite_eq_fst_iff (by decide) (by decide)

theorem Verdict.chain_no_iff (a b : Prop) [Decidable a] [Decidable b] :
    (if a then Verdict.yes else if b then .no else .unknown) = .no ↔ ¬a ∧ b :=
  ite_ite_eq_snd_iff (by decide) (by decide)

theorem Verdict.and_yes_iff (a b : Verdict) : a.and b = .yes ↔ a = .yes ∧ b = .yes := by
  cases a <;> cases b <;> simp [Verdict.and]

theorem Verdict.and_no_iff (a b : Verdict) : a.and b = .no ↔ a = .no ∨ b = .no := by
  cases a <;> cases b <;> simp [Verdict.and]

theorem Verdict.foldl_and_yes : ∀ (l : List Verdict) (acc : Verdict),
    l.foldl Verdict.and acc = .yes ↔ acc = .yes ∧ ∀ v ∈ l, v = .yes
  | [], acc => by simp
  | x :: l, acc => by
    rw [List.foldl_cons, Verdict.foldl_and_yes l (acc.and x), Verdict.and_yes_iff]
    simp only [List.mem_cons, forall_eq_or_imp, and_assoc]

theorem Verdict.foldl_and_no : ∀ (l : List Verdict) (acc : Verdict),
    l.foldl Verdict.and acc = .no ↔ acc = .no ∨ ∃ v ∈ l, v = .no
  | [], acc => by simp
  | x :: l, acc => by
    rw [List.foldl_cons, Verdict.foldl_and_no l (acc.and x), Verdict.and_no_iff]
    simp only [List.mem_cons, exists_eq_or_imp, or_assoc]

theorem Verdict.all_yes_iff (l : List Verdict) : Verdict.all l = .yes ↔ ∀ v ∈ l, v = .yes := by
  unfold Verdict.all
  rw [Verdict.foldl_and_yes]
  simp

theorem Verdict.all_no_iff (l : List Verdict) : Verdict.all l = .no ↔ ∃ v ∈ l, v = .no := by
  unfold Verdict.all
  rw [Verdict.foldl_and_no]
  simp

theorem Verdict.all_map_yes_iff {β : Type} (f : β → Verdict) (l : List β) :
    Verdict.all (l.map f) = .yes ↔ ∀ x ∈ l, f x = .yes := by
  rw [Verdict.all_yes_iff, List.forall_mem_map]

theorem Verdict.all_map_no_iff {β : Type} (f : β → Verdict) (l : List β) :
    Verdict.all (l.map f) = .no ↔ ∃ x ∈ l, f x = .no := by
  rw [Verdict.all_no_iff]
  simp only [List.mem_map, exists_exists_and_eq_and]

theorem Verdict.not_yes_iff (v : Verdict) : v.not = .yes ↔ v = .no := by cases v <;> simp [Verdict.not]
theorem Verdict.not_no_iff (v : Verdict) : v.not = .no ↔ v = .yes := by cases v <;> simp [Verdict.not]

theorem Verdict.ofBool_yes_iff (b : Bool) : Verdict.ofBool b = .yes ↔ b = true := by
  cases b <;> simp [Verdict.ofBool]

theorem Verdict.ofBool_no_iff (b : Bool) : Verdict.ofBool b = .no ↔ b = false := by
  cases b <;> simp [Verdict.ofBool]

theorem Verdict.ite_yes_iff (c : Prop) [Decidable c] (v : Verdict) :
    (if c then v else Verdict.yes) = .yes ↔ (c → v = .yes) := by
  by_cases hc : c
  · rw [if_pos hc, imp_iff_right hc]
  · rw [if_neg hc]
    exact ⟨fun _ h => absurd h hc, fun _ => rfl⟩

theorem isSquare_iff (A : Mat QI) : isSquare A = true ↔ A.r = A.c := by simp [isSquare]

/-- a Boolean test whose failure answers `no` at once (`if not test(mat): return False`) -/
theorem Verdict.guard_yes_iff (g : Bool) (v : Verdict) : (if !g then Verdict.no else v) = .yes ↔ g = true ∧ v = .yes := by
  cases g <;> simp

theorem Verdict.guard_no_iff (g : Bool) (v : Verdict) : (if !g then Verdict.no else v) = .no ↔ g = false ∨ v = .no := by
  cases g <;> simp

theorem squareGuard_yes_iff (A : Mat QI) (v : Verdict) :
    (if !isSquare A then Verdict.no else v) = .yes ↔ A.r = A.c ∧ v = .yes :=
  (Verdict.guard_yes_iff _ v).trans (and_congr_left' (isSquare_iff A))

theorem squareGuard_no_iff (A : Mat QI) (v : Verdict) :
    (if !isSquare A then Verdict.no else v) = .no ↔ A.r ≠ A.c ∨ v = .no :=
  (Verdict.guard_no_iff _ v).trans (or_congr_left ((Bool.not_eq_true _).symm.to_iff.trans (isSquare_iff A).not))

theorem realGuard_yes_iff (A : Mat QI) (b : Bool) :
    (if !isRealMat A then Verdict.unknown else .ofBool b) = .yes ↔ isRealMat A = true ∧ b = true := by
  cases isRealMat A <;> cases b <;> simp [Verdict.ofBool]

theorem ofMat_get (A : Mat QI) (i j : Nat) (hi : i < A.r) (hj : j < A.c) : (QMat.ofMat A).get i j = A.f i j := by
  unfold QMat.ofMat QMat.get
  simp [hi, hj]

theorem force_f (A : Mat QI) (i j : Nat) (hi : i < A.r) (hj : j < A.c) : (force A).f i j = A.f i j :=
  ofMat_get A i j hi hj

theorem force_r (A : Mat QI) : (force A).r = A.r := rfl
theorem force_c (A : Mat QI) : (force A).c = A.c := rfl

theorem eqExact_iff (L R : Mat QI) : eqExact L R = true ↔ ∀ i j, i < L.r → j < L.c → L.f i j = R.f i j := by
  unfold eqExact
  simp only [allBelow_allBelow_iff, beq_iff_eq]

theorem forall_force_iff (L R : Mat QI) (hr : R.r = L.r) (hc : R.c = L.c) (P : QI → QI → Prop) :
    (∀ i j, i < (force L).r → j < (force L).c → P ((force L).f i j) ((force R).f i j)) ↔
      ∀ i j, i < L.r → j < L.c → P (L.f i j) (R.f i j) := by
  simp only [force_r, force_c]
  exact forall₄_congr fun i j hi hj => by rw [force_f L i j hi hj, force_f R i j (hr ▸ hi) (hc ▸ hj)]

theorem eqExact_force (L R : Mat QI) (hr : R.r = L.r) (hc : R.c = L.c) :
    eqExact (force L) (force R) = true ↔ ∀ i j, i < L.r → j < L.c → L.f i j = R.f i j :=
  (eqExact_iff _ _).trans (forall_force_iff L R hr hc (· = ·))

theorem eqV_yes_iff (L R : Mat QI) (m : Rat) (hr : R.r = L.r) (hc : R.c = L.c) :
    eqV L R m = .yes ↔ ∀ i j, i < L.r → j < L.c → L.f i j = R.f i j :=
  (Verdict.chain_yes_iff _ _).trans (eqExact_force L R hr hc)

/-- An equation-type predicate on `A` is `if not is_square(mat): return False; return np.allclose(L, R)`: three-valued
    `if !isSquare A then .no else eqV L R m`, at tolerance level `if !isSquare A then false else allcloseF L R rtol atol`.  What both
    need of the two sides is that they have one shape once `A` is square; the reading of the verdict (`SqEq.yes_iff`) and its agreement
    with the mirror (`SqEq.forces`) follow from that alone. -/
structure SqEq (A L R : Mat QI) : Prop where
  r_eq : A.r = A.c → R.r = L.r
  c_eq : A.r = A.c → R.c = L.c

theorem SqEq.yes_iff {A L R : Mat QI} (h : SqEq A L R) (m : Rat) :
    (if !isSquare A then Verdict.no else eqV L R m) = .yes ↔ A.r = A.c ∧ ∀ i j, i < L.r → j < L.c → L.f i j = R.f i j :=
  (squareGuard_yes_iff A _).trans (and_congr_right fun hsq => eqV_yes_iff L R m (h.r_eq hsq) (h.c_eq hsq))

theorem SqEq.hermitian (A : Mat QI) : SqEq A A (ctranspose A) := ⟨(·.symm), id⟩
theorem SqEq.symmetric (A : Mat QI) : SqEq A A (transpose A) := ⟨(·.symm), id⟩
theorem SqEq.identity (A : Mat QI) : SqEq A A (eye A.r) := ⟨fun _ => rfl, id⟩
theorem SqEq.idempotent (A : Mat QI) : SqEq A A (mul A A) := ⟨fun _ => rfl, fun _ => rfl⟩
theorem SqEq.projection (A : Mat QI) : SqEq A (mul A A) A := ⟨fun _ => rfl, fun _ => rfl⟩
theorem SqEq.normal (A : Mat QI) : SqEq A (mul A (ctranspose A)) (mul (ctranspose A) A) := ⟨(·.symm), (·.symm)⟩
/-- row `i + 1` against row `i` rolled by one, for all rows but the last -/
theorem SqEq.circulant (A : Mat QI) :
    SqEq A ⟨A.r - 1, A.r, fun i j => A.f (i + 1) j⟩ ⟨A.r - 1, A.r, fun i j => A.f i ((j + A.r - 1) % A.r)⟩ :=
  ⟨fun _ => rfl, fun _ => rfl⟩

theorem eqV_no_ne (L R : Mat QI) (m : Rat) (hr : R.r = L.r) (hc : R.c = L.c) (h : eqV L R m = .no) :
    ∃ i j, i < L.r ∧ j < L.c ∧ L.f i j ≠ R.f i j := by
  by_contra hcon
  push Not at hcon
  rw [(eqV_yes_iff L R m hr hc).mpr hcon] at h
  cases h

theorem maxRat_eq_max (a b : Rat) : maxRat a b = max a b := (max_def_lt a b).symm

theorem abs1_le_maxAbs1 (A : Mat QI) (i j : Nat) (hi : i < A.r) (hj : j < A.c) : (A.f i j).abs1 ≤ maxAbs1 A := by
  simp only [maxAbs1, maxRat_eq_max]
  exact List.le_foldl_foldl_max_of_mem (fun i j => (A.f i j).abs1) (List.mem_range.mpr hi) (List.mem_range.mpr hj) 0

theorem maxAbs1_nonneg (A : Mat QI) : 0 ≤ maxAbs1 A := by
  simp only [maxAbs1, maxRat_eq_max]
  exact List.le_foldl_foldl_max _ _ _ 0

theorem margin_pos {m : Rat} (hm : 0 < m) (A : Mat QI) : 0 < m * (1 + maxAbs1 A) :=
  mul_pos hm (add_pos_of_pos_of_nonneg one_pos (maxAbs1_nonneg A))

theorem eqV_no_iff (L R : Mat QI) (m : Rat) :
    eqV L R m = .no ↔ eqExact (force L) (force R) = false ∧ farApart (force L) (force R) m = true :=
  (Verdict.chain_no_iff _ _).trans (by rw [Bool.not_eq_true])

theorem farApart_iff (L R : Mat QI) (m : Rat) :
    farApart L R m = true ↔
      ∃ i j, i < L.r ∧ j < L.c ∧ m * (1 + maxRat (maxAbs1 L) (maxAbs1 R)) ≤ (L.f i j - R.f i j).abs1 := by
  unfold farApart
  simp only [anyBelow_iff, decide_eq_true_eq]
  exact ⟨fun ⟨i, hi, j, hj, h⟩ => ⟨i, j, hi, hj, h⟩, fun ⟨i, j, hi, hj, h⟩ => ⟨i, hi, j, hj, h⟩⟩

theorem eqV_no_far (L R : Mat QI) (m : Rat) (hr : R.r = L.r) (hc : R.c = L.c) (h : eqV L R m = .no) :
    ∃ S : Rat, (∀ i j, i < L.r → j < L.c → (L.f i j).abs1 ≤ S ∧ (R.f i j).abs1 ≤ S) ∧
      ∃ i j, i < L.r ∧ j < L.c ∧ m * (1 + S) ≤ (L.f i j - R.f i j).abs1 := by
  obtain ⟨i, j, hi', hj', hij⟩ := (farApart_iff _ _ m).mp ((eqV_no_iff L R m).mp h).2
  rw [force_r] at hi'
  rw [force_c] at hj'
  rw [force_f L i j hi' hj', force_f R i j (hr ▸ hi') (hc ▸ hj')] at hij
  rw [maxRat_eq_max] at hij
  refine ⟨max (maxAbs1 (force L)) (maxAbs1 (force R)), fun i j hi hj => ⟨?_, ?_⟩, i, j, hi', hj', hij⟩
  -- (`i < L.r` is not handed over as `i < (force L).r`: that unification is slow)
  · exact (congrArg QI.abs1 (force_f L i j hi hj)).symm.trans_le
      ((abs1_le_maxAbs1 (force L) i j (by rwa [force_r]) (by rwa [force_c])).trans (le_max_left _ _))
  · exact (congrArg QI.abs1 (force_f R i j (hr ▸ hi) (hc ▸ hj))).symm.trans_le
      ((abs1_le_maxAbs1 (force R) i j (by rwa [force_r, hr]) (by rwa [force_c, hc])).trans (le_max_right _ _))

theorem hermitianV_yes_iff (A : Mat QI) (m : Rat) :
    hermitianV A m = .yes ↔ A.r = A.c ∧ ∀ i j, i < A.r → j < A.c → A.f i j = (A.f j i).conj :=
  (SqEq.hermitian A).yes_iff m

/-- `is_anti_hermitian` asks `is_hermitian(1j * mat)`: `i·a = conj(i·b)` says `a = −conj(b)` -/
theorem I_mul_eq_conj_I_mul_iff (a b : QI) : (⟨0, 1⟩ : QI) * a = ((⟨0, 1⟩ : QI) * b).conj ↔ a = -(b.conj) := by
  have ext : ∀ x y : QI, x = y ↔ x.re = y.re ∧ x.im = y.im := fun ⟨_, _⟩ ⟨_, _⟩ => by rw [QI.mk.injEq]
  -- real parts: `−a.im = −b.im`; imaginary parts: `a.re = −b.re`
  simp only [ext, QI.mul_re, QI.mul_im, QI.conj_re, QI.conj_im, QI.neg_re, QI.neg_im, zero_mul, one_mul, zero_sub, zero_add,
    neg_neg, neg_inj]
  exact and_comm

theorem isRealMat_iff (A : Mat QI) : isRealMat A = true ↔ ∀ i j, i < A.r → j < A.c → (A.f i j).im = 0 := by
  unfold isRealMat
  simp only [allBelow_allBelow_iff, beq_iff_eq]

/-- the entrywise order tests: `unknown` on a non-real entry, else the real parts are tested one by one (`np.all(mat >= 0)`, `np.all(mat > 0)`) -/
theorem realGuard_entrywise_yes_iff (A : Mat QI) (P : Rat → Prop) [DecidablePred P] :
    (if !isRealMat A then Verdict.unknown
      else .ofBool (allBelow A.r fun i => allBelow A.c fun j => decide (P (A.f i j).re))) = .yes ↔
      ∀ i j, i < A.r → j < A.c → (A.f i j).im = 0 ∧ P (A.f i j).re := by
  rw [realGuard_yes_iff, isRealMat_iff, allBelow_allBelow_iff]
  simp only [decide_eq_true_eq, ← forall_and]

theorem eqV_scalar_yes_iff (x : QI) (m : Rat) : eqV ⟨1, 1, fun _ _ => x⟩ (eye 1) m = .yes ↔ x = 1 :=
  (eqV_yes_iff ⟨1, 1, fun _ _ => x⟩ (eye 1) m rfl rfl).trans
    ⟨fun h => h 0 0 Nat.one_pos Nat.one_pos, fun h i j hi hj => by
      obtain rfl : i = 0 := Nat.lt_one_iff.mp hi
      obtain rfl : j = 0 := Nat.lt_one_iff.mp hj
      exact h⟩

theorem mutuallyOrthogonalV_of_two_le (d n : Nat) (vs : Nat → Nat → QI) (m : Rat) (hn : 2 ≤ n) :
    mutuallyOrthogonalV d n vs m = .ok (eqV (gramOffDiag d n vs) (zeroMat n n) m) := by
  unfold mutuallyOrthogonalV
  rw [if_neg (by omega)]

theorem orthonormalV_of_two_le (d n : Nat) (vs : Nat → Nat → QI) (m : Rat) (hn : 2 ≤ n) :
    orthonormalV d n vs m = .ok ((eqV (gramOffDiag d n vs) (zeroMat n n) m).and
      (eqV (mul ⟨n, d, fun k a => vs k a⟩ (ctranspose ⟨n, d, fun k a => vs k a⟩)) (eye n) m)) := by
  unfold orthonormalV
  rw [mutuallyOrthogonalV_of_two_le d n vs m hn]
  rfl

theorem mutuallyOrthogonalV_error_iff (d n : Nat) (vs : Nat → Nat → QI) (m : Rat) :
    (∃ e, mutuallyOrthogonalV d n vs m = .error e) ↔ n ≤ 1 := by
  unfold mutuallyOrthogonalV
  by_cases h : n ≤ 1 <;> simp [h]

theorem densityV_yes_iff (A : Mat QI) (m : Rat) :
    densityV A m = .yes ↔ A.r = A.c ∧ psdV A m = .yes ∧ traceQ A = 1 := by
  unfold densityV
  rw [squareGuard_yes_iff, Verdict.and_yes_iff, eqV_scalar_yes_iff]

theorem ensembleV_yes_iff (ρs : List (Mat QI)) (m : Rat) :
    ensembleV ρs m = .yes ↔ (∀ ρ ∈ ρs, psdV ρ m = .yes) ∧ ρs.foldl (fun acc ρ => acc + traceQ ρ) 0 = 1 := by
  unfold ensembleV
  rw [Verdict.and_yes_iff, Verdict.all_map_yes_iff, eqV_scalar_yes_iff]

theorem pureV_yes_iff (ρ : Mat QI) (m : Rat) :
    pureV ρ m = .yes ↔ densityV ρ m = .yes ∧ (traceQ (mul (force ρ) (force ρ))).re = 1 := by
  unfold pureV
  -- `unknown` unless `is_density` passed, then the cascade on `p = tr ρ²`
  rw [ite_eq_iff_of_left_ne (by decide), bne_iff_ne, not_not, Verdict.chain_yes_iff]

theorem pureV_no_iff (ρ : Mat QI) (m : Rat) (hm : 0 < m) :
    pureV ρ m = .no ↔ densityV ρ m = .yes ∧ (traceQ (mul (force ρ) (force ρ))).re ≤ 1 - 2 * m := by
  unfold pureV
  rw [ite_eq_iff_of_left_ne (by decide), bne_iff_ne, not_not, Verdict.chain_no_iff]
  -- `p ≤ 1 − 2m < 1` excludes `p = 1`
  exact and_congr_right fun _ => and_iff_right_of_imp fun h1 h2 => by rw [h2] at h1; linarith

theorem ratV_yes_iff (x t m : Rat) : ratV x t m = .yes ↔ x = t := Verdict.chain_yes_iff _ _

theorem forall_mem_ite_nil {β : Type} (c : Prop) [Decidable c] (l : List β) (p : β → Prop) :
    (∀ x ∈ (if c then l else []), p x) ↔ (c → ∀ x ∈ l, p x) := by
  by_cases h : c
  · rw [if_pos h, imp_iff_right h]
  · rw [if_neg h]
    exact ⟨fun _ hc => absurd hc h, fun _ x hx => absurd hx List.not_mem_nil⟩

/-- the comprehension of `mubV` inside the blocks, over any table `ov` of overlaps -/
theorem mubWithin_yes_iff (nb d : Nat) (ov : Nat → Nat → Rat) (m : Rat) :
    Verdict.all ((List.range nb).flatMap fun i => (List.range d).flatMap fun k => (List.range d).map fun l =>
        ratV (ov (i * d + k) (i * d + l)) (if k = l then 1 else 0) m) = .yes ↔
      ∀ i k l, i < nb → k < d → l < d → ov (i * d + k) (i * d + l) = if k = l then 1 else 0 := by
  simp only [Verdict.all_yes_iff, List.forall_mem_flatMap, List.forall_mem_map, List.mem_range, ratV_yes_iff]
  exact ⟨fun h i k l hi hk hl => h i hi k hk l hl, fun h i hi k hk l hl => h i k l hi hk hl⟩

/-- … and across the blocks -/
theorem mubCross_yes_iff (nb d : Nat) (ov : Nat → Nat → Rat) (t m : Rat) :
    Verdict.all ((List.range nb).flatMap fun i => (List.range nb).flatMap fun j =>
        if i < j then (List.range d).flatMap fun k => (List.range d).map fun l => ratV (ov (i * d + k) (j * d + l)) t m
        else []) = .yes ↔
      ∀ i j k l, i < nb → j < nb → i < j → k < d → l < d → ov (i * d + k) (j * d + l) = t := by
  simp only [Verdict.all_yes_iff, List.forall_mem_flatMap, forall_mem_ite_nil, List.forall_mem_map, List.mem_range, ratV_yes_iff]
  exact ⟨fun h i j k l hi hj hij hk hl => h i hi j hj hij k hk l hl, fun h i hi j hj hij k hk l hl => h i j k l hi hj hij hk hl⟩

section Certificates
open Matrix
open scoped ComplexOrder MatrixOrder

theorem toM_diagE {n : Nat} (D : Fin n → Rat) :
    (diagE D).toM = Matrix.diagonal (fun i => (((D i : Rat) : ℝ) : ℂ)) :=
  EMat.toM_ofFn_diagRat D

theorem psdCertLDL_sound {n : Nat} (A L : EMat n n) (D : Fin n → Rat) :
    psdCertLDL A L D = true → A.toM.PosSemidef := by
  intro h
  simp only [psdCertLDL, Bool.and_eq_true, EMat.allFin_iff, decide_eq_true_eq] at h
  obtain ⟨hD, hA⟩ := h
  have hE := EMat.beq_sound _ _ hA
  rw [EMat.toM_mul, EMat.toM_mul, EMat.toM_ct, toM_diagE] at hE
  rw [hE, ← Matrix.mul_assoc]
  apply Matrix.PosSemidef.mul_mul_conjTranspose_same
  apply Matrix.PosSemidef.diagonal
  intro i
  show (0 : ℂ) ≤ (((D i : Rat) : ℝ) : ℂ)
  exact_mod_cast hD i

theorem npsdCert_sound {n : Nat} (A : EMat n n) (x : EMat n 1) (μ : Rat) :
    npsdCert A x μ = true → ¬ (A.toM + (((μ : Rat) : ℝ) : ℂ) • (1 : Matrix (Fin n) (Fin n) ℂ)).PosSemidef := by
  intro h
  simp only [npsdCert, decide_eq_true_eq] at h
  -- the checker forms `A + μ·1` exactly and tests its unshifted form at `x`
  have := EMat.not_posSemidef_add_smul_one_of_quad_neg (A + EMat.scalar μ) x 0 (by rw [zero_mul, add_zero]; exact_mod_cast h)
  rwa [EMat.toM_add, EMat.toM_scalar, Complex.ofReal_zero, zero_smul, add_zero] at this

theorem beq_zero_iff {n m : Nat} (c : EMat n m) : c.beq EMat.zero = true ↔ ∀ i j, c.get i j = 0 := by
  simp only [EMat.beq, EMat.allFin_iff, beq_iff_eq, EMat.zero, EMat.get_ofFn]

end Certificates

/-! ## What the `Mat QI` operations denote

`fnToM r c A.f` is the complex matrix an exact matrix `A` of shape `r × c` denotes.  Products, adjoints and the identity go over to
Mathlib's by the lemmas of `Proofs/FnMat.lean` at the entry functions, storing (`force`) changes no entry inside the shape; Hermiticity
and the verdicts of the equation decider `eqV` are read on the denoted matrices. -/

open Toq.MatrixOps Toq.Rank Matrix

theorem fnToM_mul (n k p : Nat) (A B : Mat QI) (hk : A.c = k) :
    fnToM n p (mul A B).f = fnToM n k A.f * fnToM k p B.f := by
  subst hk
  exact fnToM_sumN_mul n A.c p A.f B.f

theorem fnToM_ctranspose (n p : Nat) (A : Mat QI) : fnToM n p (ctranspose A).f = (fnToM p n A.f)ᴴ :=
  fnToM_conj n p A.f

theorem fnToM_eye (n : Nat) : fnToM n n (eye n : Mat QI).f = 1 :=
  fnToM_ite n

theorem fnToM_force_of_le (A : Mat QI) {n p : Nat} (hn : n ≤ A.r) (hp : p ≤ A.c) :
    fnToM n p (force A).f = fnToM n p A.f :=
  (fnToM_eq_iff n p _ _).mpr fun i j hi hj => force_f A i j (hi.trans_le hn) (hj.trans_le hp)

theorem fnToM_force (A : Mat QI) : fnToM A.r A.c (force A).f = fnToM A.r A.c A.f := fnToM_force_of_le A le_rfl le_rfl

theorem hermitianV_yes_iff_isHermitian (A : Mat QI) (m : Rat) :
    hermitianV A m = .yes ↔ A.c = A.r ∧ (fnToM A.r A.r A.f).IsHermitian := by
  rw [hermitianV_yes_iff, fnToM_isHermitian_iff]
  exact ⟨fun ⟨h, hA⟩ => ⟨h.symm, fun i j hi hj => hA i j hi (h ▸ hj)⟩,
    fun ⟨h, hA⟩ => ⟨h.symm, fun i j hi hj => hA i j hi (h ▸ hj)⟩⟩

theorem eqV_yes_iff_fnToM {n p : Nat} (L R : Mat QI) (m : Rat) (hLr : L.r = n) (hLc : L.c = p) (hRr : R.r = n) (hRc : R.c = p) :
    eqV L R m = .yes ↔ fnToM n p L.f = fnToM n p R.f := by
  subst hLr hLc
  exact (eqV_yes_iff L R m hRr hRc).trans (fnToM_eq_iff _ _ _ _).symm

/-- `|re| + |im|` of a complex number (the entrywise size used by the margins) -/
noncomputable def abs1C (z : ℂ) : ℝ := |z.re| + |z.im|

theorem abs1C_toC (a : QI) : abs1C a.toC = ((a.abs1 : Rat) : ℝ) := (QI.cast_abs1 a).symm

theorem eqV_no_far_fnToM {n p : Nat} (L R : Mat QI) (m : Rat) (hLr : L.r = n) (hLc : L.c = p) (hRr : R.r = n) (hRc : R.c = p)
    (hno : eqV L R m = .no) :
    ∃ S : ℚ, (∀ (i : Fin n) (j : Fin p), abs1C (fnToM n p L.f i j) ≤ (S : ℝ) ∧ abs1C (fnToM n p R.f i j) ≤ (S : ℝ)) ∧
      ∃ (i : Fin n) (j : Fin p), ((m * (1 + S) : ℚ) : ℝ) ≤ abs1C ((fnToM n p L.f - fnToM n p R.f) i j) := by
  subst hLr hLc
  obtain ⟨S, hb, i, j, hi, hj, hfar⟩ := eqV_no_far L R m hRr hRc hno
  refine ⟨S, fun i j => ?_, ⟨i, hi⟩, ⟨j, hj⟩, ?_⟩
  · have hbij := hb i.val j.val i.isLt j.isLt
    simp only [fnToM, abs1C_toC]
    exact ⟨by exact_mod_cast hbij.1, by exact_mod_cast hbij.2⟩
  · simp only [Matrix.sub_apply, fnToM, ← QI.toC_sub, abs1C_toC]
    exact_mod_cast hfar

end Toq.MatrixPreds
