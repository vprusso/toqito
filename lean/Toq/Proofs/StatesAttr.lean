import Lean.Meta.Tactic.Simp.RegisterCommand
/-- The index tests and trivial arithmetic needed to evaluate a matrix given as a table in numeral indices
    (`horodecki`, `gisin`): with `quadForm`, `trace`, `sumN` and the table unfolded, `simp only [.., table_eval,
    table_eval_proc]` leaves a polynomial identity in the entries. -/
register_simp_attr table_eval
