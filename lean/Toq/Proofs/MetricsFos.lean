import Toq.Proofs.MetricsLaws
import Toq.Proofs.PPTDiscHier
/-!
# The semidefinite program of `fidelity_of_separability` (state version) at every extension level

`fidelity_of_separability(ρ, [dA, dB], k)` hands picos the program

    maximise   ½ tr(X + Xᴴ)  =  Re tr X
    over       X  complex `dA dB × dA dB`,   σ  Hermitian on `A ⊗ B^{⊗k}`
    subject to [[ρ, X], [Xᴴ, tr_{B₂…B_k} σ]] ⪰ 0,   σ ⪰ 0,   tr σ = 1,
               (1_A ⊗ Π_sym) σ (1_A ⊗ Π_sym) = σ            (`Π_sym = symmetric_projection(dB, k)`),
               T_{B₁…B_j}(σ) ⪰ 0   for  j = 1, …, k − 1     (`for i in range(1, k)`: the transposed systems are `[1, …, i]`)

and returns the SQUARE of the optimal value.  An operator on `A ⊗ B^{⊗L}` is a matrix indexed by `HIdx m d L = m × (Fin L → Fin d)`
(C12's index set: `m` indexes `A`, the digit vector lists the copies of `B` in tensor order); the level is `k = ℓ + 1`.

For every level, every index type `m` of `A` and every `dB = d`: the value of a density operator lies in `[0, 1]`; `1` is attained exactly when `ρ`
itself has an extension satisfying the constraints, in particular by a pure product state; a feasible point of level `k + 1` restricts to one of level `k`.
-/

open Matrix Equiv
open scoped ComplexOrder MatrixOrder Kronecker

set_option linter.unusedSectionVars false

namespace Toq.Metrics
open Toq.PPTDisc

section Fos
variable {m : Type*} [Fintype m] [DecidableEq m] {d : ℕ}

/-- the marginal on `A ⊗ B₁` (`picos.partial_trace(σ, [2, …, k], dims)`) -/
def marg1 (ℓ : ℕ) (σ : Matrix (HIdx m d (ℓ + 1)) (HIdx m d (ℓ + 1)) ℂ) : Matrix (m × Fin d) (m × Fin d) ℂ :=
  toMN (margTo1 ℓ σ)

theorem trace_marg1 (ℓ : ℕ) (σ : Matrix (HIdx m d (ℓ + 1)) (HIdx m d (ℓ + 1)) ℂ) : (marg1 ℓ σ).trace = σ.trace := by
  unfold marg1; rw [trace_toMN, trace_margTo1]

theorem marg1_posSemidef (ℓ : ℕ) {σ : Matrix (HIdx m d (ℓ + 1)) (HIdx m d (ℓ + 1)) ℂ} (h : σ.PosSemidef) :
    (marg1 ℓ σ).PosSemidef := toMN_posSemidef.mpr (margTo1_posSemidef ℓ h)

theorem marg1_succ (ℓ : ℕ) (σ : Matrix (HIdx m d (ℓ + 2)) (HIdx m d (ℓ + 2)) ℂ) :
    marg1 (ℓ + 1) σ = marg1 ℓ (margLast σ) := rfl

/-- partial transpose on the copies `t` of `B` with `S t` (`picos.partial_transpose(σ, sys, dims)` with `sys = {t + 1 : S t}`) -/
def pTYs {L : ℕ} (S : Fin L → Prop) [DecidablePred S] (X : Matrix (HIdx m d L) (HIdx m d L) ℂ) :
    Matrix (HIdx m d L) (HIdx m d L) ℂ :=
  fun i j => X (i.1, fun t => if S t then j.2 t else i.2 t) (j.1, fun t => if S t then i.2 t else j.2 t)

theorem pTYs_eq {L : ℕ} (S : Fin L → Prop) [DecidablePred S] (X : Matrix (HIdx m d L) (HIdx m d L) ℂ) : pTYs S X = pTS S X := rfl

/-- `(X, σ)` is a feasible point of the program `fidelity_of_separability(ρ, [|m|, d], k = ℓ + 1)` builds -/
structure FosFeasible (ℓ : ℕ) (ρ X : Matrix (m × Fin d) (m × Fin d) ℂ)
    (σ : Matrix (HIdx m d (ℓ + 1)) (HIdx m d (ℓ + 1)) ℂ) : Prop where
  /-- `[[ρ, X], [Xᴴ, tr_{B₂…B_k} σ]] ⪰ 0` -/
  block : FidFeasible ρ (marg1 ℓ σ) X
  psd : σ.PosSemidef
  trace_one : σ.trace = 1
  sym : ((1 : Matrix m m ℂ) ⊗ₖ symPC d (ℓ + 1)) * σ * ((1 : Matrix m m ℂ) ⊗ₖ symPC d (ℓ + 1)) = σ
  ppt : ∀ j : ℕ, 1 ≤ j → j ≤ ℓ → (pTYs (fun t : Fin (ℓ + 1) => (t : ℕ) < j) σ).PosSemidef

/-- the transposed sets of the program at level `ℓ + 1`: the prefixes `{t < j}`, `1 ≤ j ≤ ℓ` -/
abbrev fosSets (ℓ : ℕ) (j : {j : ℕ // 1 ≤ j ∧ j ≤ ℓ}) (t : Fin (ℓ + 1)) : Prop := (t : ℕ) < j

/-- weak duality of the fidelity program with the dual point `Y = Z = 1`; only the block constraint and `tr σ = 1` are used -/
theorem FosFeasible.objective_le_one {ℓ : ℕ} {ρ X : Matrix (m × Fin d) (m × Fin d) ℂ}
    {σ : Matrix (HIdx m d (ℓ + 1)) (HIdx m d (ℓ + 1)) ℂ} (h : FosFeasible ℓ ρ X σ) (tρ : ρ.trace = 1) :
    X.trace.re ≤ 1 :=
  h.block.re_trace_le_one tρ (by rw [trace_marg1, h.trace_one])

theorem fosFeasible_of_extension {ℓ : ℕ} {ρ : Matrix (m × Fin d) (m × Fin d) ℂ}
    {σ : Matrix (HIdx m d (ℓ + 1)) (HIdx m d (ℓ + 1)) ℂ} (h : IsSymPPT (fosSets ℓ) σ) (hm : marg1 ℓ σ = ρ) (tρ : ρ.trace = 1) :
    FosFeasible ℓ ρ ρ σ := by
  have hρ : ρ.PosSemidef := hm ▸ marg1_posSemidef ℓ h.psd
  refine ⟨?_, h.psd, ?_, h.sym, fun j h1 hj => h.ppt ⟨j, h1, hj⟩⟩
  · rw [hm]; exact fidFeasible_self hρ
  · rw [← trace_marg1, hm, tρ]

/-- objective `1` forces fidelity `1` between `ρ` and the marginal of `σ`, hence equality (`fidV_eq_one_iff`); conversely `X = ρ` does it -/
theorem fos_attains_one_iff {ℓ : ℕ} {ρ : Matrix (m × Fin d) (m × Fin d) ℂ} (hρ : ρ.PosSemidef) (tρ : ρ.trace = 1) :
    (∃ X σ, FosFeasible ℓ ρ X σ ∧ X.trace.re = 1) ↔
      ∃ σ : Matrix (HIdx m d (ℓ + 1)) (HIdx m d (ℓ + 1)) ℂ, σ.PosSemidef ∧ marg1 ℓ σ = ρ ∧
        ((1 : Matrix m m ℂ) ⊗ₖ symPC d (ℓ + 1)) * σ * ((1 : Matrix m m ℂ) ⊗ₖ symPC d (ℓ + 1)) = σ ∧
        ∀ j : ℕ, 1 ≤ j → j ≤ ℓ → (pTYs (fun t : Fin (ℓ + 1) => (t : ℕ) < j) σ).PosSemidef := by
  constructor
  · rintro ⟨X, σ, h, hX⟩
    refine ⟨σ, h.psd, ?_, h.sym, h.ppt⟩
    have hσ1 := marg1_posSemidef ℓ h.psd
    have tσ1 : (marg1 ℓ σ).trace = 1 := by rw [trace_marg1, h.trace_one]
    have h1 : (1 : ℝ) ≤ fidV ρ (marg1 ℓ σ) := hX ▸ le_fidV h.block
    exact ((fidV_eq_one_iff hρ hσ1 tρ tσ1).mp (le_antisymm (fidV_le_one hρ hσ1 tρ tσ1) h1)).symm
  · rintro ⟨σ, hσ, hm, hs, hp⟩
    exact ⟨ρ, σ, fosFeasible_of_extension ⟨hσ, hs, fun j => hp j j.2.1 j.2.2⟩ hm tρ, by rw [tρ]; rfl⟩

theorem FosFeasible.pred {ℓ : ℕ} {ρ X : Matrix (m × Fin d) (m × Fin d) ℂ}
    {σ : Matrix (HIdx m d (ℓ + 2)) (HIdx m d (ℓ + 2)) ℂ} (h : FosFeasible (ℓ + 1) ρ X σ) :
    FosFeasible ℓ ρ X (margLast σ) := by
  have hσ : IsSymPPT (fosSets (ℓ + 1)) σ := ⟨h.psd, h.sym, fun j => h.ppt j j.2.1 j.2.2⟩
  have h' := hσ.margLast (S := fosSets ℓ) (fun j => ⟨j.1, j.2.1, j.2.2.trans ℓ.le_succ⟩) fun _ _ => Iff.rfl
  exact ⟨h.block, h'.psd, (trace_ptrLast σ).trans h.trace_one, h'.sym, fun j h1 hj => h'.ppt ⟨j, h1, hj⟩⟩

/-- the product point: `σ = a aᴴ ⊗ (b bᴴ)^{⊗(ℓ+1)}` -/
def fosProdSigma (ℓ : ℕ) (a : m → ℂ) (b : Fin d → ℂ) : Matrix (HIdx m d (ℓ + 1)) (HIdx m d (ℓ + 1)) ℂ :=
  prodExt (vecMulVec a (star a)) (fun _ : Fin (ℓ + 1) => b)

def fosProdRho (a : m → ℂ) (b : Fin d → ℂ) : Matrix (m × Fin d) (m × Fin d) ℂ :=
  vecMulVec a (star a) ⊗ₖ vecMulVec b (star b)

theorem fosProdRho_eq_vecMulVec (a : m → ℂ) (b : Fin d → ℂ) :
    fosProdRho a b = vecMulVec (fun i : m × Fin d => a i.1 * b i.2) (star fun i : m × Fin d => a i.1 * b i.2) :=
  (vecMulVec_mul_star_mul a a b b).symm

theorem fosProdRho_posSemidef (a : m → ℂ) (b : Fin d → ℂ) : (fosProdRho a b).PosSemidef :=
  (Matrix.posSemidef_vecMulVec_self_star a).kronecker (Matrix.posSemidef_vecMulVec_self_star b)

theorem fosProdRho_trace (a : m → ℂ) (b : Fin d → ℂ) (ha : a ⬝ᵥ star a = 1) (hb : b ⬝ᵥ star b = 1) :
    (fosProdRho a b).trace = 1 := by
  unfold fosProdRho
  rw [Matrix.trace_kronecker, Matrix.trace_vecMulVec, Matrix.trace_vecMulVec, ha, hb, one_mul]

theorem marg1_fosProdSigma (ℓ : ℕ) (a : m → ℂ) (b : Fin d → ℂ) (hb : b ⬝ᵥ star b = 1) :
    marg1 ℓ (fosProdSigma ℓ a b) = fosProdRho a b := by
  unfold marg1 fosProdSigma
  rw [toMN_margTo1_prodExt, hb, one_pow, one_smul]
  rfl

theorem fosFeasible_product (ℓ : ℕ) (a : m → ℂ) (b : Fin d → ℂ) (ha : a ⬝ᵥ star a = 1) (hb : b ⬝ᵥ star b = 1) :
    FosFeasible ℓ (fosProdRho a b) (fosProdRho a b) (fosProdSigma ℓ a b) :=
  fosFeasible_of_extension (isSymPPT_prodExt _ (Matrix.posSemidef_vecMulVec_self_star a) b) (marg1_fosProdSigma ℓ a b hb)
    (fosProdRho_trace a b ha hb)

def fosSet (ℓ : ℕ) (ρ : Matrix (m × Fin d) (m × Fin d) ℂ) : Set ℝ :=
  {x | ∃ X σ, FosFeasible ℓ ρ X σ ∧ X.trace.re = x}

/-- the optimal value of the program (`solution.value`); the function returns its square -/
noncomputable def fosV (ℓ : ℕ) (ρ : Matrix (m × Fin d) (m × Fin d) ℂ) : ℝ := sSup (fosSet ℓ ρ)

theorem fosSet_bddAbove (ℓ : ℕ) {ρ : Matrix (m × Fin d) (m × Fin d) ℂ} (tρ : ρ.trace = 1) : BddAbove (fosSet ℓ ρ) :=
  ⟨1, by rintro x ⟨X, σ, h, rfl⟩; exact h.objective_le_one tρ⟩

theorem fos_isGreatest_product (ℓ : ℕ) (a : m → ℂ) (b : Fin d → ℂ) (ha : a ⬝ᵥ star a = 1) (hb : b ⬝ᵥ star b = 1) :
    IsGreatest (fosSet ℓ (fosProdRho a b)) 1 := by
  have t := fosProdRho_trace a b ha hb
  refine ⟨⟨_, _, fosFeasible_product ℓ a b ha hb, by rw [t]; rfl⟩, ?_⟩
  rintro x ⟨X, σ, h, rfl⟩
  exact h.objective_le_one t

theorem fosV_product (ℓ : ℕ) (a : m → ℂ) (b : Fin d → ℂ) (ha : a ⬝ᵥ star a = 1) (hb : b ⬝ᵥ star b = 1) :
    fosV ℓ (fosProdRho a b) = 1 :=
  (fos_isGreatest_product ℓ a b ha hb).csSup_eq

theorem fosV_succ_le (ℓ : ℕ) {ρ : Matrix (m × Fin d) (m × Fin d) ℂ} (tρ : ρ.trace = 1)
    (hne : (fosSet (ℓ + 1) ρ).Nonempty) : fosV (ℓ + 1) ρ ≤ fosV ℓ ρ := by
  refine csSup_le hne ?_
  rintro x ⟨X, σ, h, rfl⟩
  exact le_csSup (fosSet_bddAbove ℓ tρ) ⟨X, margLast σ, h.pred, rfl⟩

theorem fosFeasible_zero (ℓ : ℕ) {ρ : Matrix (m × Fin d) (m × Fin d) ℂ} (hρ : ρ.PosSemidef) (a : m → ℂ) (b : Fin d → ℂ)
    (ha : a ⬝ᵥ star a = 1) (hb : b ⬝ᵥ star b = 1) : FosFeasible ℓ ρ 0 (fosProdSigma ℓ a b) := by
  have h := fosFeasible_product ℓ a b ha hb
  refine ⟨?_, h.psd, h.trace_one, h.sym, h.ppt⟩
  rw [marg1_fosProdSigma ℓ a b hb]
  exact fidFeasible_zero hρ (fosProdRho_posSemidef a b)

theorem fosV_mem_Icc (ℓ : ℕ) [Nonempty m] (hd : 0 < d) {ρ : Matrix (m × Fin d) (m × Fin d) ℂ} (hρ : ρ.PosSemidef)
    (tρ : ρ.trace = 1) : fosV ℓ ρ ∈ Set.Icc 0 1 := by
  obtain ⟨a0⟩ := ‹Nonempty m›
  have h0 : (0 : ℝ) ∈ fosSet ℓ ρ :=
    ⟨0, _, fosFeasible_zero ℓ hρ (Pi.single a0 1) (Pi.single (⟨0, hd⟩ : Fin d) 1) (by simp) (by simp), by simp⟩
  refine ⟨le_csSup (fosSet_bddAbove ℓ tρ) h0, csSup_le ⟨0, h0⟩ ?_⟩
  rintro x ⟨X, σ, h, rfl⟩
  exact h.objective_le_one tρ

end Fos
end Toq.Metrics
