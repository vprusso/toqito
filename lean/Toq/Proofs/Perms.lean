import Toq.Model.Perms
import Toq.Proofs.PermN
import Mathlib.Algebra.Ring.Defs
/-!
# Index algebra of the `permute_systems` mirror model (C01)

Permutations of `0..n-1` themselves are in `Toq.Proofs.PermN`.

The model reads its input at `specIndex n p d j` (`permuteVec_false_eq`, `permuteVec_true_eq`: F-order with the positions reversed is
the big-endian code, so every `rev` cancels).  Three equations say what `specIndex` does (`dec_specIndex`, `specIndex_enc`,
`specIndex_invPerm`); composition, the two-sided inverse and the permutation-matrix facts all follow from them.
`vecF_transpose_flatF` serves the other NumPy reshapes (partial trace and transpose). -/

namespace Toq.Perms
open Toq.C01

theorem swapPerm_spec (s1 s2 : Nat) :
    swapPerm s1 s2 s1 = s2 ∧ swapPerm s1 s2 s2 = s1 ∧ ∀ k, k ≠ s1 → k ≠ s2 → swapPerm s1 s2 k = k := by
  unfold swapPerm
  refine ⟨by simp, ?_, fun k h1 h2 => by simp [h1, h2]⟩
  by_cases h : s2 = s1
  · simp [h]
  · simp [h]

theorem swapPerm_swapPerm (s1 s2 k : Nat) : swapPerm s1 s2 (swapPerm s1 s2 k) = k := by
  obtain ⟨e1, e2, e3⟩ := swapPerm_spec s1 s2
  by_cases h1 : k = s1
  · rw [h1, e1, e2]
  · by_cases h2 : k = s2
    · rw [h2, e2, e1]
    · rw [e3 k h1 h2, e3 k h1 h2]

theorem swapPerm_isPermN (n s1 s2 : Nat) (h1 : s1 < n) (h2 : s2 < n) : IsPermN n (swapPerm s1 s2) := by
  constructor
  · intro k hk; unfold swapPerm; split
    · exact h2
    · split
      · exact h1
      · exact hk
  · intro a b _ _ hab
    rw [← swapPerm_swapPerm s1 s2 a, hab, swapPerm_swapPerm]

section inv
variable (n : Nat) (p : Nat → Nat)

/-- `num_sys - perm[::-1]` is `perm` conjugated by the reversal of positions -/
theorem axes0_eq_rev (k : Nat) : axes0 n p k = rev n (p (rev n k)) := rfl

variable (hp : IsPermN n p)
include hp

theorem invPerm_axes0_rev (k : Nat) (hk : k < n) :
    invPerm n (axes0 n p) (rev n k) = rev n (invPerm n p k) := by
  have hq := hp.invPerm_lt hk
  apply invPerm_eq_of
  · intro a b ha hb hab
    have h1 := hp.lt (rev n a) (rev_lt n a ha)
    have h2 := hp.lt (rev n b) (rev_lt n b hb)
    have h3 : p (rev n a) = p (rev n b) := by
      rw [← rev_rev n _ h1, ← rev_rev n _ h2]; exact congrArg (rev n) hab
    rw [← rev_rev n a ha, hp.inj _ _ (rev_lt n a ha) (rev_lt n b hb) h3, rev_rev n b hb]
  · exact rev_lt n _ hq
  · rw [axes0_eq_rev, rev_rev n _ hq, hp.perm_invPerm hk]

theorem invPerm_axes0 (m : Nat) (hm : m < n) :
    invPerm n (axes0 n p) m = axes0 n (invPerm n p) m := by
  have h := invPerm_axes0_rev n p hp (rev n m) (rev_lt n m hm)
  rw [rev_rev n m hm] at h
  rw [h]; rfl

end inv

/-- `reshape(order="F")`, `np.transpose` and the F-order flattening, unfolded -/
theorem _root_.ND.vecF_transpose_ofFlatF {α : Type} (v : Nat → α) (n : Nat) (s ax : Nat → Nat) (j : Nat) :
    ((ND.ofFlatF v n s).transpose ax).vecF j
      = v (flatF s (fun m => unflatF (fun k => s (ax k)) j (invPerm n ax m)) n) := rfl

/-- the three NumPy steps (F-reshape to reversed dims, transpose by `ax`, F-flatten) with
    `ax = n-1-p[::-1]` read position `specIndex n p dims j`: reversing the positions turns F-order into the
    big-endian code (`flatF_eq_enc_rev`, `unflatF_eq_dec_rev`), and `ax`, its inverse and the shape are
    `p`, `p⁻¹` and `dims` conjugated by the reversal, so every `rev` cancels -/
theorem vecF_transpose_eq_specIndex {α : Type} (v : Nat → α) (n : Nat) (ax p dims : Nat → Nat)
    (hp : IsPermN n p)
    (hax : ∀ k, k < n → ax k = axes0 n p k) (j : Nat) :
    ((ND.ofFlatF v n (fun k => dims (rev n k))).transpose ax).vecF j = v (specIndex n p dims j) := by
  rw [ND.vecF_transpose_ofFlatF, flatF_eq_enc_rev]
  refine congrArg v (enc_congr _ _ _ _ n (fun k hk => congrArg dims (rev_rev n k hk)) fun k hk => ?_)
  show unflatF (fun k => dims (rev n (ax k))) j (invPerm n ax (rev n k))
    = dec (fun m => dims (p m)) n j (invPerm n p k)
  have hq := hp.invPerm_lt hk
  rw [invPerm_congr n ax (axes0 n p) _ hax, invPerm_axes0_rev n p hp k hk,
    unflatF_eq_dec_rev n _ j _ (rev_lt n _ hq), rev_rev n _ hq]
  refine dec_congr _ _ n _ _ fun m hm => ?_
  show dims (rev n (ax (rev n m))) = dims (p m)
  rw [hax _ (rev_lt n m hm), axes0_eq_rev, rev_rev n m hm, rev_rev n _ (hp.lt m hm)]

theorem vecF_transpose_flatF {α : Type} (v : Nat → α) (n : Nat) (s ax x : Nat → Nat)
    (hp : IsPermN n ax)
    (hx : ∀ k, k < n → x k < s (ax k)) :
    ((ND.ofFlatF v n s).transpose ax).vecF (flatF (fun k => s (ax k)) x n)
      = v (flatF s (fun m => x (invPerm n ax m)) n) :=
  (ND.vecF_transpose_ofFlatF v n s ax _).trans <| congrArg v <| flatF_congr _ _ _ n fun m hm =>
    unflatF_flatF _ x n hx _ (hp.invPerm_lt hm)

theorem permuteVec_false_eq {α : Type} (v : Nat → α) (n : Nat) (p dims : Nat → Nat)
    (hp : IsPermN n p) (j : Nat) :
    permuteVec v n p dims false j = v (specIndex n p dims j) := by
  unfold permuteVec axes
  exact vecF_transpose_eq_specIndex v n _ p dims hp (fun _ _ => by simp) j

theorem permuteVec_true_eq {α : Type} (v : Nat → α) (n : Nat) (p dims : Nat → Nat)
    (hp : IsPermN n p) (j : Nat) :
    permuteVec v n p dims true j = v (specIndex n (invPerm n p) dims j) := by
  unfold permuteVec axes
  exact vecF_transpose_eq_specIndex v n _ (invPerm n p) dims (invPerm_isPermN n p hp)
    (fun k hk => by simp only [if_true]; exact invPerm_axes0 n p hp k hk) j

theorem permuteVec_eq_permIndex {α : Type} (v : Nat → α) (n : Nat) (p d : Nat → Nat) (inv : Bool)
    (j : Nat) : permuteVec v n p d inv j = v (permIndex n p d inv j) := rfl

theorem permuteMat_eq_permIndex {α : Type} (X : Nat → Nat → α) (n : Nat) (p rd cd : Nat → Nat) (rowOnly inv : Bool) (i j : Nat) :
    permuteMat X n p rd cd rowOnly inv i j = X (permIndex n p rd inv i) (if rowOnly then j else permIndex n p cd inv j) := rfl

theorem permIndex_false_eq (n : Nat) (p d : Nat → Nat) (hp : IsPermN n p) (j : Nat) :
    permIndex n p d false j = specIndex n p d j :=
  permuteVec_false_eq _ n p d hp j

theorem permIndex_true_eq (n : Nat) (p d : Nat → Nat) (hp : IsPermN n p) (j : Nat) :
    permIndex n p d true j = specIndex n (invPerm n p) d j :=
  permuteVec_true_eq _ n p d hp j

theorem permOp_apply {α : Type} [Zero α] [One α] (n : Nat) (p d : Nat → Nat) (inv : Bool) (i k : Nat) :
    permOp (α := α) n p d inv i k = if permIndex n p d inv i = k then 1 else 0 := by
  unfold permOp permuteMat; simp only [if_true]

theorem permuteMat_permuteMat {α : Type} (X : Nat → Nat → α) (n : Nat) (p q rd cd rd' cd' : Nat → Nat)
    (rowOnly inv inv' : Bool) (i j : Nat) :
    permuteMat (permuteMat X n p rd cd rowOnly inv) n q rd' cd' rowOnly inv' i j
      = X (permIndex n p rd inv (permIndex n q rd' inv' i))
          (if rowOnly then j else permIndex n p cd inv (permIndex n q cd' inv' j)) := by
  cases rowOnly <;> rfl

theorem permuteMat_permuteMat_cancel {α : Type} (X : Nat → Nat → α) (n : Nat) (p q rd cd rd' cd' : Nat → Nat)
    (rowOnly inv inv' : Bool) (i j : Nat) (hi : permIndex n p rd inv (permIndex n q rd' inv' i) = i)
    (hj : rowOnly = false → permIndex n p cd inv (permIndex n q cd' inv' j) = j) :
    permuteMat (permuteMat X n p rd cd rowOnly inv) n q rd' cd' rowOnly inv' i j = X i j := by
  rw [permuteMat_permuteMat, hi]
  cases rowOnly
  · rw [if_neg Bool.false_ne_true, hj rfl]
  · rfl

theorem specIndex_congr (n : Nat) (p p' d d' : Nat → Nat) (hlt : ∀ k, k < n → p k < n)
    (hp : ∀ k, k < n → p k = p' k) (hd : ∀ k, k < n → d k = d' k) (j : Nat) :
    specIndex n p d j = specIndex n p' d' j := by
  unfold specIndex
  apply enc_congr _ _ _ _ _ hd
  intro k _
  rw [invPerm_congr n p p' k hp]
  apply dec_congr
  intro m hm
  show d (p m) = d' (p' m)
  rw [← hp m hm]; exact hd _ (hlt m hm)

theorem specIndex_id (n : Nat) (d : Nat → Nat) (j : Nat) (hj : j < prodN d n) :
    specIndex n (fun m => m) d j = j := by
  unfold specIndex
  rw [enc_congr_digits d _ (dec d n j) n fun k hk => by rw [invPerm_id n k hk]]
  exact enc_dec d n j hj

section spec
variable (n : Nat) (p d : Nat → Nat) (hp : IsPermN n p)
include hp

theorem specIndex_enc (y : Nat → Nat) (hy : ∀ k, k < n → y k < d (p k)) :
    specIndex n p d (enc (fun m => d (p m)) y n) = enc d (fun k => y (invPerm n p k)) n :=
  enc_congr_digits d _ _ n
    fun k hk => dec_enc (fun m => d (p m)) y n hy _ (hp.invPerm_lt hk)

theorem specIndex_enc_comp (x : Nat → Nat) (hx : ∀ k, k < n → x k < d k) :
    specIndex n p d (enc (fun m => d (p m)) (fun m => x (p m)) n) = enc d x n := by
  rw [specIndex_enc n p d hp _ (fun k hk => hx _ (hp.lt k hk))]
  exact enc_congr_digits d _ x n fun k hk => congrArg x (hp.perm_invPerm hk)

theorem specIndex_invPerm (i : Nat) :
    specIndex n (invPerm n p) (fun m => d (p m)) i
      = enc (fun m => d (p m)) (fun m => dec d n i (p m)) n := by
  refine enc_congr_digits _ _ _ n fun k hk => ?_
  rw [invPerm_invPerm n p hp k hk]
  exact dec_congr _ _ _ _ _ (fun m hm => congrArg d (hp.perm_invPerm hm))

variable (hd : ∀ k, k < n → 0 < d k)
include hd

theorem specIndex_digit_lt (j k : Nat) (hk : k < n) :
    dec (fun m => d (p m)) n j (invPerm n p k) < d k := by
  have hpq := hp.perm_invPerm hk
  have := dec_lt (fun m => d (p m)) n j (invPerm n p k) (hp.invPerm_lt hk)
    (by simp only [hpq]; exact hd k hk)
  simpa only [hpq] using this

theorem specIndex_lt (j : Nat) : specIndex n p d j < prodN d n :=
  enc_lt d _ n (specIndex_digit_lt n p d hp hd j)

theorem dec_specIndex (j k : Nat) (hk : k < n) :
    dec d n (specIndex n p d j) k = dec (fun m => d (p m)) n j (invPerm n p k) :=
  dec_enc d _ n (specIndex_digit_lt n p d hp hd j) k hk

theorem dec_specIndex_perm (j k : Nat) (hk : k < n) :
    dec d n (specIndex n p d j) (p k) = dec (fun m => d (p m)) n j k := by
  rw [dec_specIndex n p d hp hd j (p k) (hp.lt k hk), hp.invPerm_perm hk]

end spec

theorem permIndex_enc (n : Nat) (perm dims y : Nat → Nat) (hp : IsPermN n perm) (hy : ∀ k, k < n → y k < dims (perm k)) :
    permIndex n perm dims false (enc (fun m => dims (perm m)) y n) = enc dims (fun k => y (invPerm n perm k)) n := by
  rw [permIndex_false_eq n perm dims hp]
  exact specIndex_enc n perm dims hp y hy

/-- `swap(v, [2, 3], dims)` on four subsystems: the two middle digits change places -/
theorem permuteVec_swap_mid_four {α : Type} (v : Nat → α) (dims : Nat → Nat) (x0 x1 x2 x3 : Nat)
    (h0 : x0 < dims 0) (h1 : x1 < dims 1) (h2 : x2 < dims 2) (h3 : x3 < dims 3) :
    permuteVec v 4 (swapPerm 1 2) dims false (((x0 * dims 2 + x2) * dims 1 + x1) * dims 3 + x3)
      = v (((x0 * dims 1 + x1) * dims 2 + x2) * dims 3 + x3) := by
  have hp := swapPerm_isPermN 4 1 2 (by decide) (by decide)
  have h := specIndex_enc 4 (swapPerm 1 2) dims hp (fnOfList [x0, x2, x1, x3])
    (forall_lt_four h0 h2 h1 h3)
  rw [enc_four, enc_four] at h
  rw [permuteVec_false_eq v 4 _ dims hp]
  -- the digits `[x0, x2, x1, x3]`, the radices `dims ∘ swap` and `swap⁻¹ = swap` at the positions `0..3` are read off by evaluation
  exact congrArg v h

/-- `swap(·, [2, 3], dims)` of a vector that is read by the two halves of its index (a flattened matrix, a Kronecker product of two
    vectors) -/
theorem permuteVec_swap_mid_four_halves {α : Type} (F : Nat → Nat → α) (dims : Nat → Nat) (x0 x1 x2 x3 : Nat)
    (h0 : x0 < dims 0) (h1 : x1 < dims 1) (h2 : x2 < dims 2) (h3 : x3 < dims 3) :
    permuteVec (fun j => F (j / (dims 2 * dims 3)) (j % (dims 2 * dims 3))) 4 (swapPerm 1 2) dims false
        (((x0 * dims 2 + x2) * dims 1 + x1) * dims 3 + x3)
      = F (x0 * dims 1 + x1) (x2 * dims 3 + x3) := by
  have hR : ((x0 * dims 1 + x1) * dims 2 + x2) * dims 3 + x3 = (x0 * dims 1 + x1) * (dims 2 * dims 3) + (x2 * dims 3 + x3) := by
    rw [Nat.add_mul, Nat.mul_assoc, Nat.add_assoc]
  rw [permuteVec_swap_mid_four _ dims x0 x1 x2 x3 h0 h1 h2 h3, hR, Nat.mul_add_div_of_lt (Nat.mul_add_lt_mul h2 h3),
    Nat.mul_add_mod_of_lt (Nat.mul_add_lt_mul h2 h3)]

theorem prodFn_dec_specIndex {α : Type} [CommMonoid α] (n : Nat) (p rd cd : Nat → Nat)
    (hp : IsPermN n p)
    (hr : ∀ k, k < n → 0 < rd k) (hc : ∀ k, k < n → 0 < cd k) (F : Nat → Nat → Nat → α) (i j : Nat) :
    prodFn n (fun k => F k (dec rd n (specIndex n p rd i) k) (dec cd n (specIndex n p cd j) k))
      = prodFn n (fun k => F (p k) (dec (fun m => rd (p m)) n i k) (dec (fun m => cd (p m)) n j k)) := by
  rw [← hp.prodFn_comp (fun k => F k (dec rd n (specIndex n p rd i) k) (dec cd n (specIndex n p cd j) k))]
  exact prodFn_congr _ _ n (fun k hk => by
    rw [dec_specIndex_perm n p rd hp hr i k hk, dec_specIndex_perm n p cd hp hc j k hk])

theorem permuteMat_false_eq {α : Type} (X : Nat → Nat → α) (n : Nat) (p rd cd : Nat → Nat)
    (hp : IsPermN n p) (rowOnly : Bool)
    (i j : Nat) :
    permuteMat X n p rd cd rowOnly false i j
      = X (specIndex n p rd i) (if rowOnly then j else specIndex n p cd j) := by
  unfold permuteMat
  rw [permIndex_false_eq n p rd hp, permIndex_false_eq n p cd hp]

theorem permuteMat_inv_eq {α : Type} (Z : Nat → Nat → α) (n : Nat) (p d e : Nat → Nat)
    (hp : IsPermN n p) (i j : Nat) :
    permuteMat Z n p (fun k => d (p k)) (fun k => e (p k)) false true i j
      = Z (enc (fun k => d (p k)) (fun k => dec d n i (p k)) n)
          (enc (fun k => e (p k)) (fun k => dec e n j (p k)) n) := by
  unfold permuteMat
  rw [permIndex_true_eq n p _ hp, permIndex_true_eq n p _ hp,
    specIndex_invPerm n p d hp, specIndex_invPerm n p e hp]
  rfl

section comp
variable (n : Nat) (p q : Nat → Nat) (hp : IsPermN n p) (hq : IsPermN n q)
include hp hq

theorem specIndex_comp (d : Nat → Nat) (hd : ∀ k, k < n → 0 < d k) (j : Nat) :
    specIndex n p d (specIndex n q (fun m => d (p m)) j) = specIndex n (fun m => p (q m)) d j := by
  refine enc_congr_digits d _ _ n fun k hk => ?_
  show dec (fun m => d (p m)) n (specIndex n q (fun m => d (p m)) j) (invPerm n p k)
    = dec (fun m => d (p (q m))) n j (invPerm n (fun m => p (q m)) k)
  rw [dec_specIndex n q (fun m => d (p m)) hq (fun k hk => hd _ (hp.lt k hk)) j _
      (hp.invPerm_lt hk),
    invPerm_comp n p q hp hq k hk]

theorem permIndex_comp (d : Nat → Nat) (hd : ∀ k, k < n → 0 < d k) (m : Nat) :
    permIndex n p d false (permIndex n q (fun k => d (p k)) false m)
      = permIndex n (fun i => p (q i)) d false m := by
  rw [permIndex_false_eq n p d hp, permIndex_false_eq n q _ hq,
    permIndex_false_eq n _ d (comp_isPermN n p q hp hq),
    specIndex_comp n p q hp hq d hd m]

end comp

section bij
variable (n : Nat) (p d : Nat → Nat) (hp : IsPermN n p) (hd : ∀ k, k < n → 0 < d k)
include hp hd

theorem specIndex_right_inv (j : Nat) (hj : j < prodN d n) :
    specIndex n p d (specIndex n (invPerm n p) (fun m => d (p m)) j) = j := by
  rw [specIndex_invPerm n p d hp,
    specIndex_enc_comp n p d hp _ (fun k hk => dec_lt d n j k hk (hd k hk))]
  exact enc_dec d n j hj

theorem specIndex_left_inv (j : Nat) (hj : j < prodN d n) :
    specIndex n (invPerm n p) (fun m => d (p m)) (specIndex n p d j) = j := by
  rw [specIndex_invPerm n p d hp,
    enc_congr_digits _ _ (dec (fun m => d (p m)) n j) n (dec_specIndex_perm n p d hp hd j)]
  exact enc_dec _ n j (by rw [hp.prodN_comp d]; exact hj)

theorem specIndex_isPermN : IsPermN (prodN d n) (specIndex n p d) :=
  .of_leftInverse (fun j _ => specIndex_lt n p d hp hd j) (specIndex_left_inv n p d hp hd)

omit hd in
theorem permIndex_inv_undoes (m : Nat) (hm : m < prodN d n) :
    permIndex n p d false (permIndex n p (fun k => d (p k)) true m) = m := by
  rw [permIndex_false_eq n p d hp, permIndex_true_eq n p _ hp,
    specIndex_right_inv n p d hp (prodN_pos_of_lt d n m hm) m hm]

end bij

/-! ### The laws of the index map

`permuteVec v … j = v (permIndex … j)` and `permuteMat_eq_permIndex` hold by `rfl`, so a law of `permIndex` is the law of the vector branch after `congrArg v` and
the law of the matrix branch at the row and at the column index. -/

section laws
variable (n : Nat) (p d : Nat → Nat)

theorem permIndex_inv_eq_forward (hp : IsPermN n p) (m : Nat) :
    permIndex n p d true m = permIndex n (invPerm n p) d false m :=
  (permIndex_true_eq n p d hp m).trans (permIndex_false_eq n _ d (invPerm_isPermN n p hp) m).symm

theorem permIndex_congr_perm (p' : Nat → Nat) (hp : IsPermN n p') (h : ∀ k, k < n → p k = p' k) (inv : Bool) (m : Nat) :
    permIndex n p d inv m = permIndex n p' d inv m := by
  have hq : IsPermN n p := hp.congr h
  cases inv
  · rw [permIndex_false_eq n p d hq, permIndex_false_eq n p' d hp, specIndex_congr n p p' d d hq.lt h (fun _ _ => rfl)]
  · rw [permIndex_true_eq n p d hq, permIndex_true_eq n p' d hp,
      specIndex_congr n (invPerm n p) (invPerm n p') d d (fun _ => hq.invPerm_lt)
        (fun k _ => invPerm_congr n p p' k h) (fun _ _ => rfl)]

theorem permIndex_id (m : Nat) (hm : m < prodN d n) : permIndex n (fun k => k) d false m = m :=
  (permIndex_false_eq n _ d (IsPermN.id n) m).trans (specIndex_id n d m hm)

/-- `permIndex_inv_undoes` for `p⁻¹`, whose inverse agrees with `p` below `n` -/
theorem permIndex_undoes_inv (hp : IsPermN n p) (m : Nat) (hm : m < prodN d n) :
    permIndex n p d true (permIndex n p (fun k => d (invPerm n p k)) false m) = m := by
  have hq := invPerm_isPermN n p hp
  rw [permIndex_inv_eq_forward n p d hp,
    ← permIndex_congr_perm n (invPerm n (invPerm n p)) _ p hp (invPerm_invPerm n p hp) false m,
    ← permIndex_inv_eq_forward n (invPerm n p) _ hq]
  exact permIndex_inv_undoes n _ d hq m hm

end laws

theorem sumN_specIndex {α : Type} [AddCommMonoid α] (n : Nat) (p dims : Nat → Nat)
    (hp : IsPermN n p) (hd : ∀ k, k < n → 0 < dims k) (f : Nat → α) :
    sumN (prodN dims n) (fun u => f (specIndex n p dims u)) = sumN (prodN dims n) f :=
  (specIndex_isPermN n p dims hp hd).sumN_comp f

/-- swapping two subsystems sends `i = a * d0 + b` (digits with respect to `[d1, d0]`) to `b * d1 + a`; there is
    no range hypothesis on `i`, hence the `%` on the leading digit -/
theorem specIndex_swap2 (d0 d1 i : Nat) :
    specIndex 2 (swapPerm 0 1) (fnOfList [d0, d1]) i = (i % d0) * d1 + (i / d0) % d1 := by
  have h0 : invPerm 2 (swapPerm 0 1) 0 = 1 := rfl
  have h1 : invPerm 2 (swapPerm 0 1) 1 = 0 := rfl
  rw [specIndex, enc_two, h0, h1]
  -- digits `1` and `0` of `i` with respect to the radices `[d0, d1] ∘ swap = [d1, d0]`
  rfl

section
variable (n : Nat) (p d : Nat → Nat) (inv : Bool) (hp : IsPermN n p) (hd : ∀ k, k < n → 0 < d k)
include hp hd

theorem permIndex_lt (j : Nat) : permIndex n p d inv j < prodN d n := by
  cases inv
  · rw [permIndex_false_eq n p d hp]; exact specIndex_lt n p d hp hd j
  · rw [permIndex_true_eq n p d hp]; exact specIndex_lt n _ d (invPerm_isPermN n p hp) hd j

theorem permIndex_isPermN : IsPermN (prodN d n) (permIndex n p d inv) := by
  cases inv
  · rw [funext (permIndex_false_eq n p d hp)]; exact specIndex_isPermN n p d hp hd
  · rw [funext (permIndex_true_eq n p d hp)]; exact specIndex_isPermN n _ d (invPerm_isPermN n p hp) hd

theorem permOp_mulVec {α : Type} [NonAssocSemiring α] (f : Nat → α) (i : Nat) :
    sumN (prodN d n) (fun k => permOp (α := α) n p d inv i k * f k) = f (permIndex n p d inv i) := by
  simp only [permOp_apply]
  exact sumN_ite_mul f _ _ (permIndex_lt n p d inv hp hd i)

theorem permOp_apply_col {α : Type} [Zero α] [One α] (i k : Nat) (hi : i < prodN d n) (hk : k < prodN d n) :
    permOp (α := α) n p d inv i k = if i = invPerm (prodN d n) (permIndex n p d inv) k then 1 else 0 :=
  (permOp_apply n p d inv i k).trans
    (if_congr (perm_eq_iff_eq_invPerm _ _ (permIndex_isPermN n p d inv hp hd) hi hk) rfl rfl)

end

end Toq.Perms
