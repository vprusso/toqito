import Toq.Proofs.MetricsClassical
import Toq.Proofs.RatReal
/-!
# Fuchs–van de Graaf inequalities for the variational quantities of C13

* `IsPVM`, `fidDualFeasible_pvm`, `fidV_le_pvm`: the value of Watrous' fidelity program is at most the classical fidelity of the
  outcome distributions `p_k = tr(P_k ρ)`, `q_k = tr(P_k σ)` of any projective measurement (the dual points `Y = Σ a_k P_k`,
  `Z = Σ a_k⁻¹ P_k` with `a_k → √(q_k/p_k)` come within any `ε` of it).
* `fvdg_upper`: `T² + F² ≤ 1` (measuring in the eigenbasis of `ρ − σ`, given by `isPVM_basis`, keeps `T` and can only increase `F`; then
  the classical inequality).
* `powers_stormer`, `fvdg_lower`: `tr(A − B)² ≤ ‖A² − B²‖₁`, and `1 − F ≤ T` from it with `A = √ρ`, `B = √σ` and the feasible point `X = √ρ √σ`.
-/

open Matrix
open scoped ComplexOrder MatrixOrder

namespace Toq.Metrics
section PVM
variable {ι κ : Type*} [Fintype ι] [DecidableEq ι] [Fintype κ] [DecidableEq κ]

structure IsPVM (P : κ → Matrix ι ι ℂ) : Prop where
  herm : ∀ k, (P k).IsHermitian
  orth : ∀ k l, P k * P l = if k = l then P k else 0
  sum_one : ∑ k, P k = 1

theorem IsPVM.posSemidef {P : κ → Matrix ι ι ℂ} (h : IsPVM P) (k : κ) : (P k).PosSemidef :=
  posSemidef_of_isHermitian_idem (h.herm k) (by rw [h.orth, if_pos rfl])

theorem pvm_comb_mul {P : κ → Matrix ι ι ℂ} (h : IsPVM P) (a b : κ → ℂ) :
    (∑ k, a k • P k) * (∑ l, b l • P l) = ∑ k, (a k * b k) • P k := by
  rw [Finset.sum_mul]
  refine Finset.sum_congr rfl fun k _ => ?_
  rw [Finset.mul_sum]
  simp only [Matrix.smul_mul, Matrix.mul_smul, h.orth, smul_ite, smul_zero, Finset.sum_ite_eq,
    Finset.mem_univ, if_true, smul_smul, mul_comm (b k) (a k)]

theorem pvm_comb_conjTranspose {P : κ → Matrix ι ι ℂ} (h : IsPVM P) (a : κ → ℝ) :
    (∑ k, ((a k : ℝ) : ℂ) • P k)ᴴ = ∑ k, ((a k : ℝ) : ℂ) • P k := by
  rw [Matrix.conjTranspose_sum]
  refine Finset.sum_congr rfl fun k _ => ?_
  rw [Matrix.conjTranspose_smul, (h.herm k).eq, Complex.star_def, Complex.conj_ofReal]

theorem fidDualFeasible_pvm {P : κ → Matrix ι ι ℂ} (h : IsPVM P) (a : κ → ℝ) (ha : ∀ k, 0 < a k) :
    FidDualFeasible (∑ k, ((a k : ℝ) : ℂ) • P k) (∑ k, (((a k)⁻¹ : ℝ) : ℂ) • P k) := by
  refine fidDualFeasible_of_mul_eq_one
    (Matrix.posSemidef_sum _ fun k _ => (h.posSemidef k).smul (Complex.zero_le_real.mpr (ha k).le))
    (pvm_comb_conjTranspose h _) ?_
  rw [pvm_comb_mul h]
  simp only [← Complex.ofReal_mul, mul_inv_cancel₀ (ha _).ne', Complex.ofReal_one, one_smul, h.sum_one]

omit [DecidableEq ι] [DecidableEq κ] in
theorem dualVal_pvm (P : κ → Matrix ι ι ℂ) (ρ σ : Matrix ι ι ℂ) (a : κ → ℝ) :
    dualVal ρ σ (∑ k, ((a k : ℝ) : ℂ) • P k) (∑ k, (((a k)⁻¹ : ℝ) : ℂ) • P k)
      = ∑ k, (a k * (P k * ρ).trace.re + (a k)⁻¹ * (P k * σ).trace.re) / 2 := by
  unfold dualVal
  simp only [Finset.sum_mul, Matrix.smul_mul, Matrix.trace_sum, Matrix.trace_smul, smul_eq_mul,
    Complex.re_sum, Complex.re_ofReal_mul]
  rw [← Finset.sum_add_distrib, Finset.sum_div]

theorem fidV_le_pvm {ρ σ : Matrix ι ι ℂ} (hρ : ρ.PosSemidef) (hσ : σ.PosSemidef) {P : κ → Matrix ι ι ℂ}
    (h : IsPVM P) :
    fidV ρ σ ≤ cFid (fun k => (P k * ρ).trace.re) (fun k => (P k * σ).trace.re) := by
  refine le_of_forall_pos_le_add fun ε hε => ?_
  set N : ℝ := (Fintype.card κ : ℝ) + 1 with hN
  have hNpos : 0 < N := by positivity
  have hp : ∀ k, 0 ≤ (P k * ρ).trace.re := fun k => psd_trace_mul_nonneg (h.posSemidef k) hρ
  have hq : ∀ k, 0 ≤ (P k * σ).trace.re := fun k => psd_trace_mul_nonneg (h.posSemidef k) hσ
  choose a ha using fun k => Real.exists_scale_le_sqrt_add _ _ (ε / N) (hp k) (hq k) (by positivity)
  have h1 := fidV_le_dualVal hρ hσ (fidDualFeasible_pvm h a fun k => (ha k).1)
  rw [dualVal_pvm] at h1
  refine h1.trans ?_
  calc ∑ k, (a k * (P k * ρ).trace.re + (a k)⁻¹ * (P k * σ).trace.re) / 2
      ≤ ∑ k, (Real.sqrt ((P k * ρ).trace.re * (P k * σ).trace.re) + ε / N) :=
        Finset.sum_le_sum fun k _ => (ha k).2
    _ = cFid (fun k => (P k * ρ).trace.re) (fun k => (P k * σ).trace.re) + Fintype.card κ * (ε / N) := by
        rw [Finset.sum_add_distrib, Finset.sum_const, Finset.card_univ, nsmul_eq_mul]; rfl
    _ ≤ _ := by
        have : (Fintype.card κ : ℝ) * (ε / N) ≤ ε := by
          rw [mul_div_assoc', div_le_iff₀ hNpos, hN]; nlinarith
        linarith

theorem IsPVM.sum_re_trace_mul {P : κ → Matrix ι ι ℂ} (h : IsPVM P) (τ : Matrix ι ι ℂ) :
    ∑ k, (P k * τ).trace.re = τ.trace.re := by
  rw [← Complex.re_sum, ← Matrix.trace_sum, ← Finset.sum_mul, h.sum_one, Matrix.one_mul]

end PVM

section FvdG
variable {ι : Type*} [Fintype ι] [DecidableEq ι]

theorem isPVM_basis {U : Matrix ι ι ℂ} (hU : Uᴴ * U = 1) :
    IsPVM (fun i => conjDiag U (ind i)) where
  herm i := conjDiag_isHermitian U _
  orth i j := by
    rw [conjDiag_ind_mul_conjDiag hU, ind_apply]
    split_ifs
    · rw [Complex.ofReal_one, one_smul]
    · rw [Complex.ofReal_zero, zero_smul]
  sum_one := by
    rw [conjDiag_sum, ← conjDiag_one hU]
    congr 1; funext i; simpa using sum_mul_ind (fun _ => 1) i

theorem fvdg_upper {ρ σ : Matrix ι ι ℂ} (hρ : ρ.PosSemidef) (hσ : σ.PosSemidef) (tρ : ρ.trace = 1)
    (tσ : σ.trace = 1) : (traceNormV (ρ - σ) / 2) ^ 2 + fidV ρ σ ^ 2 ≤ 1 := by
  obtain ⟨U, lam, hU, hDe⟩ := exists_conjDiag_fun (hρ.isHermitian.sub hσ.isHermitian)
  have hpvm := isPVM_basis hU
  set p : ι → ℝ := fun i => (conjDiag U (ind i) * ρ).trace.re with hp
  set q : ι → ℝ := fun i => (conjDiag U (ind i) * σ).trace.re with hq
  have pp : IsProb p := ⟨fun i => psd_trace_mul_nonneg (hpvm.posSemidef i) hρ, by rw [hpvm.sum_re_trace_mul, tρ]; rfl⟩
  have pq : IsProb q := ⟨fun i => psd_trace_mul_nonneg (hpvm.posSemidef i) hσ, by rw [hpvm.sum_re_trace_mul, tσ]; rfl⟩
  have hdiff : ∀ i, p i - q i = lam i := fun i => by
    rw [hp, hq, ← Complex.sub_re, ← Matrix.trace_sub, ← Matrix.mul_sub, hDe, trace_ind_mul_conjDiag hU]
  have hT : traceNormV (ρ - σ) / 2 = cTD p q := by
    rw [hDe, traceNormV_conjDiag hU, cTD]
    simp only [hdiff]
  have hF : fidV ρ σ ≤ cFid p q := fidV_le_pvm hρ hσ hpvm
  have := cTD_sq_add_cFid_sq_le_one pp pq
  rw [hT]
  nlinarith [fidV_nonneg hρ hσ]

/-- Powers–Størmer.  With `D = A − B` and `W = sgn D`:
`tr(W (A² − B²)) = tr(|D| A) + tr(|D| B) ≥ tr(D A) − tr(D B) = tr(D²)`, since `|D| ∓ D ⪰ 0`. -/
theorem powers_stormer {A B : Matrix ι ι ℂ} (hA : A.PosSemidef) (hB : B.PosSemidef) :
    ((A - B) * (A - B)).trace.re ≤ traceNormV (A * A - B * B) := by
  obtain ⟨U, lam, hU, hDe⟩ := exists_conjDiag_fun (hA.isHermitian.sub hB.isHermitian)
  have hAA : (A * A - B * B).IsHermitian := by
    have h1 := Matrix.isHermitian_conjTranspose_mul_self A
    have h2 := Matrix.isHermitian_conjTranspose_mul_self B
    rw [hA.isHermitian.eq] at h1; rw [hB.isHermitian.eq] at h2
    exact h1.sub h2
  have hW : IsContraction (conjDiag U fun i => (SignType.sign (lam i) : ℝ)) := conjDiag_contraction hU fun i => sign_bounds _
  refine le_trans ?_ (le_traceNormV hAA hW)
  have hWD : conjDiag U (fun i => (SignType.sign (lam i) : ℝ)) * (A - B) = conjDiag U fun i => |lam i| := by
    rw [hDe, conjDiag_mul hU]; exact conjDiag_congr U fun i => sign_mul_self _
  have hDW : (A - B) * conjDiag U (fun i => (SignType.sign (lam i) : ℝ)) = conjDiag U fun i => |lam i| := by
    rw [← hWD, hDe, conjDiag_mul_comm hU]
  have e0 : A * A - B * B = (A - B) * A + B * (A - B) := by
    rw [Matrix.sub_mul, Matrix.mul_sub]; abel
  have e1 : (conjDiag U (fun i => (SignType.sign (lam i) : ℝ)) * (A * A - B * B)).trace
      = (conjDiag U (fun i => |lam i|) * A).trace + (conjDiag U (fun i => |lam i|) * B).trace := by
    rw [e0, Matrix.mul_add, Matrix.trace_add, ← Matrix.mul_assoc, hWD, ← Matrix.mul_assoc,
      Matrix.trace_mul_comm _ (A - B), ← Matrix.mul_assoc, hDW]
  have hm : (conjDiag U (fun i => |lam i|) - (A - B)).PosSemidef := by
    rw [hDe, conjDiag_sub]; exact conjDiag_posSemidef U fun i => sub_nonneg.mpr (le_abs_self _)
  have hp : (conjDiag U (fun i => |lam i|) + (A - B)).PosSemidef := by
    rw [hDe, conjDiag_add]; exact conjDiag_posSemidef U fun i => by linarith [neg_abs_le (lam i)]
  have n1 := psd_trace_mul_nonneg hm hA
  have n2 := psd_trace_mul_nonneg hp hB
  rw [Matrix.sub_mul, Matrix.trace_sub, Complex.sub_re] at n1
  rw [Matrix.add_mul, Matrix.trace_add, Complex.add_re] at n2
  rw [e1, Matrix.mul_sub (A - B) A B, Matrix.trace_sub, Complex.sub_re, Complex.add_re]
  linarith

theorem fvdg_lower {ρ σ : Matrix ι ι ℂ} (hρ : ρ.PosSemidef) (hσ : σ.PosSemidef) (tρ : ρ.trace = 1)
    (tσ : σ.trace = 1) : 1 - fidV ρ σ ≤ traceNormV (ρ - σ) / 2 := by
  have eA := sqrtM_mul_self hρ
  have eB := sqrtM_mul_self hσ
  have hps := powers_stormer (sqrtM_posSemidef ρ) (sqrtM_posSemidef σ)
  have hF := le_fidV (fidFeasible_sqrtM_mul_sqrtM hρ hσ)
  have e : ((sqrtM ρ - sqrtM σ) * (sqrtM ρ - sqrtM σ)).trace.re = 2 - 2 * (sqrtM ρ * sqrtM σ).trace.re := by
    rw [Matrix.sub_mul, Matrix.mul_sub, Matrix.mul_sub, eA, eB]
    simp only [Matrix.trace_sub, Complex.sub_re, Matrix.trace_mul_comm (sqrtM σ) (sqrtM ρ), tρ, tσ, Complex.one_re]
    ring
  rw [eA, eB] at hps
  linarith

end FvdG
end Toq.Metrics
