import Toq.Model.ChanMetrics
import Toq.Proofs.Metrics
import Toq.Proofs.Bipartite
import Mathlib.LinearAlgebra.Matrix.Kronecker
import Mathlib.Data.Matrix.Block
import Mathlib.Data.Matrix.ColumnRowPartitioned
/-!
# C20 (channel distance measures): the two semidefinite programs over arbitrary finite index types, and the bridge from exact matrices

Choi matrices live on `ι × κ` (`ι` indexes the input space `X`, `κ` the output space `Y`).  `ptr2` is `Tr_Y`, the partial trace
`Matrix.ptrR` of `Proofs/Bipartite.lean` (`ptr2_eq`); it is the adjoint of `ρ ↦ ρ ⊗ 1` for the trace pairing
(`Matrix.trace_kronecker_one_mul`), and a density operator pairs with `T ⪯ c·1` to at most `c` (`re_trace_density_mul_le`): these two
facts and the non-negative pairing of a positive primal block with a positive dual block
(`Matrix.PosSemidef.re_trace_fromBlocks_mul_nonneg` of `Proofs/Psd.lean`, which also carries the fidelity program of C13) are weak
duality of Watrous' program for the completely bounded trace norm and of the Katariya–Wilde program for the channel fidelity
(`C20.cb_weak_duality`, `C20.cf_weak_duality`).

The second half denotes the executable matrices of `Toq/Model/ChanMetrics.lean` (`EMat (dX*dY) (dX*dY)`, index `x·dY + y`, and
`2n × 2n` blocks) as `Matrix (Fin dX × Fin dY) …` (`toP`) and `Matrix.fromBlocks` (`toM_blk`), and reads an accepted
certificate of each of the four checkers as a feasible point with the returned value (`checkCbPrimal_core`, `checkCbDual_core`,
`checkCfPrimal_core`, `checkCfDual_core`).
-/

open Matrix Kronecker
open scoped ComplexOrder MatrixOrder

namespace Toq.ChanMetrics

section Generic
variable {ι κ : Type*} [Fintype ι] [DecidableEq ι] [Fintype κ] [DecidableEq κ]

/-- partial trace over the second tensor factor: `(Tr_Y A)_{ab} = Σ_y A_{(a,y),(b,y)}` -/
def ptr2 (A : Matrix (ι × κ) (ι × κ) ℂ) : Matrix ι ι ℂ := fun a b => ∑ y, A (a, y) (b, y)

-- `C20.cb_cp_eq_max_eigenvalue` applies this lemma inside its statement, with the four instance arguments of the section
set_option linter.unusedSectionVars false in
theorem ptr2_posSemidef {A : Matrix (ι × κ) (ι × κ) ℂ} (hA : A.PosSemidef) : (ptr2 A).PosSemidef := hA.ptrR

end Generic

section
variable {ι κ : Type*} [Fintype κ]

@[simp] theorem ptr2_apply (A : Matrix (ι × κ) (ι × κ) ℂ) (a b : ι) : ptr2 A a b = ∑ y, A (a, y) (b, y) := rfl

theorem ptr2_eq (A : Matrix (ι × κ) (ι × κ) ℂ) : ptr2 A = ptrR A := rfl

theorem ptr2_add (A B : Matrix (ι × κ) (ι × κ) ℂ) : ptr2 (A + B) = ptr2 A + ptr2 B := ptrR_add A B

theorem ptr2_conjTranspose (A : Matrix (ι × κ) (ι × κ) ℂ) : ptr2 Aᴴ = (ptr2 A)ᴴ := ptrR_conjTranspose A

theorem trace_ptr2 [Fintype ι] (A : Matrix (ι × κ) (ι × κ) ℂ) : (ptr2 A).trace = A.trace := trace_ptrR A

end

end Toq.ChanMetrics

/-! ## The two programs

The vocabulary of Watrous' program for the completely bounded trace norm and of the Katariya–Wilde program for the channel fidelity, in
the namespace of the property file `Properties/C20.lean`, whose statements are written in it. -/

namespace Toq.C20
open Toq.ChanMetrics

section Programs
variable {X Y : Type*} [Fintype X] [DecidableEq X] [Fintype Y] [DecidableEq Y]

/-- operators on `X ⊗ Y` (Choi matrices of maps `L(X) → L(Y)`) -/
abbrev Choi (X Y : Type*) := Matrix (X × Y) (X × Y) ℂ

def IsDensity (ρ : Matrix X X ℂ) : Prop := ρ.PosSemidef ∧ ρ.trace = 1

/-- `(ρ0, ρ1, Z)` is feasible for the primal cb-norm program -/
def CbPrimalFeasible (ρ0 ρ1 : Matrix X X ℂ) (Z : Choi X Y) : Prop :=
  IsDensity ρ0 ∧ IsDensity ρ1 ∧
    (fromBlocks (ρ0 ⊗ₖ (1 : Matrix Y Y ℂ)) Z Zᴴ (ρ1 ⊗ₖ (1 : Matrix Y Y ℂ))).PosSemidef

/-- primal objective `Re tr(Jᴴ Z) = ½⟨J, Z⟩ + ½⟨Z, J⟩` -/
def cbObj (J Z : Choi X Y) : ℝ := (Jᴴ * Z).trace.re

/-- `(Y0, Y1, c0, c1)` is feasible for the dual cb-norm program of `J` (with `c_i` bounding `‖Tr_Y Y_i‖_∞`) -/
def CbDualFeasible (J Y0 Y1 : Choi X Y) (c0 c1 : ℝ) : Prop :=
  (fromBlocks Y0 (-J) (-Jᴴ) Y1).PosSemidef ∧
    ((c0 : ℂ) • (1 : Matrix X X ℂ) - ptr2 Y0).PosSemidef ∧ ((c1 : ℂ) • (1 : Matrix X X ℂ) - ptr2 Y1).PosSemidef

def cbValues (J : Choi X Y) : Set ℝ := {v | ∃ ρ0 ρ1 Z, CbPrimalFeasible ρ0 ρ1 Z ∧ cbObj J Z = v}

/-- the completely bounded trace norm (diamond norm) of the map with Choi matrix `J`: the primal optimum -/
noncomputable def cbNorm (J : Choi X Y) : ℝ := sSup (cbValues J)

/-- `(λ, Q)` is feasible for the primal channel-fidelity program -/
def CfPrimalFeasible (J1 J2 : Choi X Y) (lam : ℝ) (Q : Choi X Y) : Prop :=
  0 ≤ lam ∧ (fromBlocks J1 Qᴴ Q J2).PosSemidef ∧
    ((((1 / 2 : ℝ)) : ℂ) • (ptr2 Q + (ptr2 Q)ᴴ) - (lam : ℂ) • (1 : Matrix X X ℂ)).PosSemidef

/-- `(ρ, W0, W1)` is feasible for the dual channel-fidelity program -/
def CfDualFeasible (ρ : Matrix X X ℂ) (W0 W1 : Choi X Y) : Prop :=
  IsDensity ρ ∧
    (fromBlocks W0 (-(ρ ⊗ₖ (1 : Matrix Y Y ℂ))) (-(ρ ⊗ₖ (1 : Matrix Y Y ℂ))) W1).PosSemidef

/-- dual objective `½ Re(tr(J1 W0) + tr(J2 W1))` -/
noncomputable def cfDualObj (J1 J2 W0 W1 : Choi X Y) : ℝ := ((J1 * W0).trace.re + (J2 * W1).trace.re) / 2

def cfValues (J1 J2 : Choi X Y) : Set ℝ := {lam | ∃ Q, CfPrimalFeasible J1 J2 lam Q}

/-- the (root) channel fidelity: the primal optimum -/
noncomputable def chanFid (J1 J2 : Choi X Y) : ℝ := sSup (cfValues J1 J2)

end Programs

end Toq.C20

namespace Toq.ChanMetrics

section
variable {ι κ : Type*} [Fintype ι] [DecidableEq ι] [Fintype κ] [DecidableEq κ]

theorem ptr2_le_trace {A : Matrix (ι × κ) (ι × κ) ℂ} (hA : A.PosSemidef) :
    (((A.trace.re : ℝ) : ℂ) • (1 : Matrix ι ι ℂ) - ptr2 A).PosSemidef := by
  have h := Toq.Metrics.trace_smul_one_sub_posSemidef (ptr2_posSemidef hA)
  rwa [trace_ptr2] at h

omit [DecidableEq ι] [DecidableEq κ] in
theorem cbObj_of_isHermitian {J : Matrix (ι × κ) (ι × κ) ℂ} (hJ : J.IsHermitian) (Z : Matrix (ι × κ) (ι × κ) ℂ) :
    C20.cbObj J Z = (Z * J).trace.re := by
  rw [C20.cbObj, hJ.eq, Matrix.trace_mul_comm]

end

section Scalars
variable {n : Type*}

theorem exists_phase (c : ℂ) : ∃ u : ℂ, u * star u = 1 ∧ c = (‖c‖ : ℂ) * u := by
  obtain ⟨u, hu, h⟩ := Complex.exists_norm_mul_eq_self c
  refine ⟨u, ?_, by rw [mul_comm, h]⟩
  rw [Complex.star_def, Complex.mul_conj, Complex.normSq_eq_norm_sq, hu, one_pow, Complex.ofReal_one]

theorem isHermitian_hermPart_sub_smul_one [DecidableEq n] (T : Matrix n n ℂ) (c : ℝ) :
    (((1 / 2 : ℝ) : ℂ) • (T + Tᴴ) - (c : ℂ) • (1 : Matrix n n ℂ)).IsHermitian := by
  refine Matrix.IsHermitian.sub ?_ ?_
  · rw [Matrix.IsHermitian, Matrix.conjTranspose_smul, Complex.star_def, Complex.conj_ofReal, Matrix.conjTranspose_add,
      Matrix.conjTranspose_conjTranspose, add_comm]
  · rw [Matrix.IsHermitian, Matrix.conjTranspose_smul, Complex.star_def, Complex.conj_ofReal, Matrix.conjTranspose_one]

variable [Fintype n]

theorem re_trace_mul_hermPart {ρ : Matrix n n ℂ} (hρ : ρ.IsHermitian) (A : Matrix n n ℂ) :
    (ρ * (((1 / 2 : ℝ) : ℂ) • (A + Aᴴ))).trace.re = (ρ * A).trace.re := by
  rw [re_trace_mul_smul, Matrix.mul_add, Matrix.trace_add,
    Complex.add_re, Matrix.trace_mul_comm ρ Aᴴ, re_trace_conjTranspose_mul_herm _ _ hρ, Matrix.trace_mul_comm A]
  ring

theorem inv_card_nonneg : (0 : ℂ) ≤ (((Fintype.card n : ℝ)⁻¹ : ℝ) : ℂ) :=
  Complex.zero_le_real.mpr (inv_nonneg.mpr (Nat.cast_nonneg _))

theorem nonempty_of_trace_eq_one {ρ : Matrix n n ℂ} (h : ρ.trace = 1) : Nonempty n := by
  by_contra hn
  rw [not_nonempty_iff] at hn
  rw [Matrix.trace, Finset.univ_eq_empty, Finset.sum_empty] at h
  exact zero_ne_one h

variable [DecidableEq n]

theorem re_trace_density_mul_smul_one {ρ : Matrix n n ℂ} (hρ : C20.IsDensity ρ) (c : ℝ) :
    (ρ * ((c : ℂ) • (1 : Matrix n n ℂ))).trace.re = c := by
  rw [re_trace_mul_smul, Matrix.mul_one, hρ.2, Complex.one_re, mul_one]

theorem re_trace_density_mul_le {ρ T : Matrix n n ℂ} {c : ℝ} (hρ : C20.IsDensity ρ)
    (h : ((c : ℂ) • (1 : Matrix n n ℂ) - T).PosSemidef) : (ρ * T).trace.re ≤ c := by
  have := re_trace_mul_le_of_sub_psd h hρ.1
  rwa [Matrix.trace_mul_comm T, Matrix.trace_mul_comm _ ρ, re_trace_density_mul_smul_one hρ] at this

theorem le_re_trace_density_mul {ρ T : Matrix n n ℂ} {c : ℝ} (hρ : C20.IsDensity ρ)
    (h : (T - (c : ℂ) • (1 : Matrix n n ℂ)).PosSemidef) : c ≤ (ρ * T).trace.re := by
  have := re_trace_mul_le_of_sub_psd h hρ.1
  rwa [Matrix.trace_mul_comm T, Matrix.trace_mul_comm _ ρ, re_trace_density_mul_smul_one hρ] at this

theorem re_trace_hermPart_sub_smul_one (T : Matrix n n ℂ) (c : ℝ) :
    ((((1 / 2 : ℝ) : ℂ) • (T + Tᴴ) - (c : ℂ) • (1 : Matrix n n ℂ)).trace).re = T.trace.re - c * Fintype.card n := by
  rw [Matrix.trace_sub, Complex.sub_re, Matrix.re_trace_smul, Matrix.re_trace_smul, Matrix.trace_add, Matrix.trace_one,
    Complex.add_re, re_trace_conjTranspose, Complex.natCast_re]
  ring

theorem maxMixed_density [Nonempty n] : C20.IsDensity ((((Fintype.card n : ℝ)⁻¹ : ℝ) : ℂ) • (1 : Matrix n n ℂ)) := by
  refine ⟨Matrix.PosSemidef.one.smul inv_card_nonneg, ?_⟩
  rw [Matrix.trace_smul, Matrix.trace_one, smul_eq_mul]
  push_cast
  exact inv_mul_cancel₀ (Nat.cast_ne_zero.mpr Fintype.card_ne_zero)

theorem density_conj {A ρ : Matrix n n ℂ} (hA : Aᴴ * A = 1) (hρ : C20.IsDensity ρ) : C20.IsDensity (A * ρ * Aᴴ) :=
  ⟨hρ.1.mul_mul_conjTranspose_same A, by rw [Matrix.trace_conj_eq hA, hρ.2]⟩

end Scalars

section Bridge
open EMat
variable {dX dY n : Nat}

/-- denotation of an exact matrix on `X ⊗ Y` (row/column index `x·dY + y`) as a matrix indexed by pairs `(x, y)` -/
def toP (A : EMat (dX * dY) (dX * dY)) : Matrix (Fin dX × Fin dY) (Fin dX × Fin dY) ℂ :=
  A.toM.submatrix finProdFinEquiv finProdFinEquiv

@[simp] theorem toP_apply (A : EMat (dX * dY) (dX * dY)) (p q : Fin dX × Fin dY) :
    toP A p q = (A.get (finProdFinEquiv p) (finProdFinEquiv q)).toC := rfl

theorem pairIdx_eq (a : Fin dX) (y : Fin dY) : pairIdx a y = finProdFinEquiv (a, y) := by
  apply Fin.ext
  simp only [pairIdx, finProdFinEquiv, Equiv.coe_fn_mk]
  rw [Nat.add_comm, Nat.mul_comm]

theorem fstIdx_finProd (a : Fin dX) (y : Fin dY) : fstIdx (finProdFinEquiv (a, y)) = a :=
  congrArg Prod.fst (finProdFinEquiv.symm_apply_apply (a, y))

theorem sndIdx_finProd (a : Fin dX) (y : Fin dY) : sndIdx (finProdFinEquiv (a, y)) = y :=
  congrArg Prod.snd (finProdFinEquiv.symm_apply_apply (a, y))

theorem toP_add (A B : EMat (dX * dY) (dX * dY)) : toP (A + B) = toP A + toP B := by
  ext p q; simp [QI.toC_add]
theorem toP_sub (A B : EMat (dX * dY) (dX * dY)) : toP (A - B) = toP A - toP B := by
  ext p q; simp [QI.toC_sub]
theorem toP_neg (A : EMat (dX * dY) (dX * dY)) : toP (-A) = -toP A := by
  ext p q; simp [QI.toC_neg]
theorem toP_ct (A : EMat (dX * dY) (dX * dY)) : toP A.ct = (toP A)ᴴ := by
  simp [toP, toM_ct, Matrix.conjTranspose_submatrix]
theorem toP_mul (A B : EMat (dX * dY) (dX * dY)) : toP (A.mul B) = toP A * toP B := by
  simp [toP, toM_mul, Matrix.submatrix_mul_equiv]

theorem trace_toP (A : EMat (dX * dY) (dX * dY)) : (toP A).trace = A.toM.trace := trace_submatrix_equiv _ _

theorem toP_kronI (ρ : EMat dX dX) : toP (kronI dY ρ) = ρ.toM ⊗ₖ (1 : Matrix (Fin dY) (Fin dY) ℂ) := by
  ext ⟨a, y⟩ ⟨b, z⟩
  simp only [toP_apply, kronI, get_ofFn, fstIdx_finProd, sndIdx_finProd, Matrix.kroneckerMap_apply, Matrix.one_apply,
    toM_apply]
  by_cases h : y = z <;> simp [h]

theorem toM_ptrY (A : EMat (dX * dY) (dX * dY)) : (ptrY dX dY A).toM = ptr2 (toP A) := by
  ext a b
  simp [ptrY, sumFin_toC, pairIdx_eq]

theorem toM_hermPart (A : EMat n n) : (hermPart A).toM = (((1 / 2 : ℝ)) : ℂ) • (A.toM + A.toMᴴ) := by
  rw [hermPart, toM_smul, toM_add, toM_ct]
  norm_num

theorem traceIsOne_sound (ρ : EMat n n) (h : traceIsOne ρ = true) : ρ.toM.trace = 1 :=
  (trace_eq_one_iff ρ).mp (by rwa [traceIsOne, beq_iff_eq] at h)

theorem densityOk_sound (ρ L : EMat n n) (h : densityOk ρ L = true) : C20.IsDensity ρ.toM := by
  rw [densityOk, Bool.and_eq_true] at h
  exact ⟨psdCert_sound _ _ h.1, traceIsOne_sound _ h.2⟩

theorem blk_eq (A B C D : EMat n n) : blk A B C D = Toq.Metrics.block A B C D := rfl

theorem toM_blk (A B C D : EMat n n) :
    (blk A B C D).toM.submatrix finSumFinEquiv finSumFinEquiv = fromBlocks A.toM B.toM C.toM D.toM :=
  Toq.Metrics.toM_block A B C D

theorem psdCert_blk_sound (A B C D : EMat (dX * dY) (dX * dY)) {k : Nat} (L : EMat (dX * dY + dX * dY) k)
    (h : psdCert (blk A B C D) L = true) : (fromBlocks (toP A) (toP B) (toP C) (toP D)).PosSemidef := by
  have h := (Toq.Metrics.posSemidef_of_block (psdCert_sound _ L h)).submatrix
    (Sum.map (finProdFinEquiv (m := dX) (n := dY)) finProdFinEquiv)
  rwa [Matrix.fromBlocks_submatrix_sumMap] at h

theorem cbValue_cast (J X : EMat (dX * dY) (dX * dY)) :
    ((cbValue J X : Rat) : ℝ) = C20.cbObj (toP J) (toP X) := by
  rw [C20.cbObj, cbValue, re_trace, ← toP_ct, ← toP_mul, trace_toP]

theorem cfDualValue_eq (J1 J2 W0 W1 : EMat n n) : cfDualValue J1 J2 W0 W1 = Toq.Metrics.dualValue W0 W1 J1 J2 := rfl

theorem cfDualValue_cast (J1 J2 W0 W1 : EMat (dX * dY) (dX * dY)) :
    ((cfDualValue J1 J2 W0 W1 : Rat) : ℝ) = C20.cfDualObj (toP J1) (toP J2) (toP W0) (toP W1) := by
  rw [C20.cfDualObj, cfDualValue_eq, Toq.Metrics.dualValue_cast, Toq.Metrics.dualVal, ← toM_mul, ← toM_mul, ← trace_toP, ← trace_toP,
    toP_mul, toP_mul]

theorem normBoundOk_sound (Y : EMat (dX * dY) (dX * dY)) (c : Rat) (L : EMat dX dX) (h : normBoundOk dX dY Y c L = true) :
    ((((c : Rat) : ℝ) : ℂ) • (1 : Matrix (Fin dX) (Fin dX) ℂ) - ptr2 (toP Y)).PosSemidef := by
  have := psdCert_sound _ _ h
  rwa [toM_sub, toM_scalar, toM_ptrY] at this

theorem cfLoewnerOk_sound (Q : EMat (dX * dY) (dX * dY)) (lam : Rat) (L : EMat dX dX) (h : cfLoewnerOk dX dY Q lam L = true) :
    (((1 / 2 : ℝ) : ℂ) • (ptr2 (toP Q) + (ptr2 (toP Q))ᴴ) - (((lam : Rat) : ℝ) : ℂ) • (1 : Matrix (Fin dX) (Fin dX) ℂ)).PosSemidef := by
  have := psdCert_sound _ _ h
  rwa [toM_sub, toM_hermPart, toM_scalar, toM_ptrY] at this

theorem checkCbPrimal_core (J : EMat (dX * dY) (dX * dY)) (ρ0 ρ1 : EMat dX dX) (Z : EMat (dX * dY) (dX * dY))
    (Lb : EMat (dX * dY + dX * dY) (dX * dY + dX * dY)) (L0 L1 : EMat dX dX) (lo : Rat)
    (h : checkCbPrimal dX dY J ρ0 ρ1 Z Lb L0 L1 = some lo) :
    C20.CbPrimalFeasible ρ0.toM ρ1.toM (toP Z) ∧ C20.cbObj (toP J) (toP Z) = (lo : ℝ) := by
  obtain ⟨hc, hlo⟩ := check_eq_some.mp h
  simp only [Bool.and_eq_true] at hc
  obtain ⟨⟨h0, h1⟩, hb⟩ := hc
  have hB := psdCert_blk_sound _ _ _ _ _ hb
  rw [toP_kronI, toP_kronI, toP_ct] at hB
  exact ⟨⟨densityOk_sound _ _ h0, densityOk_sound _ _ h1, hB⟩, by rw [← cbValue_cast, hlo]⟩

theorem checkCbDual_core (J Y0 Y1 : EMat (dX * dY) (dX * dY)) (c0 c1 : Rat)
    (Lb : EMat (dX * dY + dX * dY) (dX * dY + dX * dY)) (L0 L1 : EMat dX dX) (hi : Rat)
    (h : checkCbDual dX dY J Y0 Y1 c0 c1 Lb L0 L1 = some hi) :
    C20.CbDualFeasible (toP J) (toP Y0) (toP Y1) ((c0 : Rat) : ℝ) ((c1 : Rat) : ℝ) ∧
      ((hi : Rat) : ℝ) = (((c0 : Rat) : ℝ) + ((c1 : Rat) : ℝ)) / 2 := by
  obtain ⟨hc, hhi⟩ := check_eq_some.mp h
  simp only [Bool.and_eq_true] at hc
  obtain ⟨⟨hb, h0⟩, h1⟩ := hc
  have hB := psdCert_blk_sound _ _ _ _ _ hb
  rw [toP_neg, toP_neg, toP_ct] at hB
  refine ⟨⟨hB, normBoundOk_sound _ _ _ h0, normBoundOk_sound _ _ _ h1⟩, ?_⟩
  rw [← hhi]
  push_cast
  ring

theorem checkCfPrimal_core (J1 J2 Q : EMat (dX * dY) (dX * dY)) (lam : Rat)
    (Lb : EMat (dX * dY + dX * dY) (dX * dY + dX * dY)) (Lc : EMat dX dX) (lo : Rat)
    (h : checkCfPrimal dX dY J1 J2 Q lam Lb Lc = some lo) :
    lo = lam ∧ C20.CfPrimalFeasible (toP J1) (toP J2) ((lam : Rat) : ℝ) (toP Q) := by
  obtain ⟨hc, hlo⟩ := check_eq_some.mp h
  simp only [Bool.and_eq_true, decide_eq_true_eq] at hc
  obtain ⟨⟨h0, hb⟩, hl⟩ := hc
  have hB := psdCert_blk_sound _ _ _ _ _ hb
  rw [toP_ct] at hB
  exact ⟨hlo.symm, Rat.cast_nonneg.mpr h0, hB, cfLoewnerOk_sound _ _ _ hl⟩

theorem checkCfDual_core (J1 J2 : EMat (dX * dY) (dX * dY)) (ρ : EMat dX dX) (W0 W1 : EMat (dX * dY) (dX * dY))
    (Lρ : EMat dX dX) (Lb : EMat (dX * dY + dX * dY) (dX * dY + dX * dY)) (hi : Rat)
    (h : checkCfDual dX dY J1 J2 ρ W0 W1 Lρ Lb = some hi) :
    C20.CfDualFeasible ρ.toM (toP W0) (toP W1) ∧
      ((hi : Rat) : ℝ) = C20.cfDualObj (toP J1) (toP J2) (toP W0) (toP W1) := by
  obtain ⟨hc, hhi⟩ := check_eq_some.mp h
  simp only [Bool.and_eq_true] at hc
  obtain ⟨hd, hb⟩ := hc
  have hB := psdCert_blk_sound _ _ _ _ _ hb
  rw [toP_neg, toP_kronI] at hB
  exact ⟨⟨densityOk_sound _ _ hd, hB⟩, by rw [← cfDualValue_cast, hhi]⟩

end Bridge

end Toq.ChanMetrics
