import Toq.Model.Games
import Toq.Spec.Games
import Toq.Proofs.Idx
import Toq.Proofs.SumN
import Toq.Proofs.Digits
import Toq.Proofs.RunMax
import Mathlib.Algebra.Order.BigOperators.Group.Finset
import Mathlib.Algebra.BigOperators.Fin
import Mathlib.Algebra.Notation.Lemmas
/-!
# `NonlocalGame.classical_value`, the odometer and `np.kron` powers (model: `Toq/Model/Games.lean`), C07

Everything is reduced to the big-endian code `enc` / `dec` of digit vectors: the loop counter of `classical_value` is the code of the
enumerated player's answer function (the other player best-responds: `sumN_amax1_spec`), the brute force runs over pairs of codes
(`amax1_divMod_spec`), `update_odometer` adds one to the code, and `np.kron` of product-form tensors is product-form on
concatenated digit vectors. -/

namespace Toq.Games
open Spec

/-- extension of an answer function on `Fin n` to a digit vector -/
def ext {n b : Nat} (g : Fin n → Fin b) : Nat → Nat := fun y => if h : y < n then (g ⟨y, h⟩).1 else 0

theorem ext_eq_extFin {n b : Nat} (g : Fin n → Fin b) : ext g = extFin (d := fun _ => b) g := rfl

theorem ext_lt {n b : Nat} (g : Fin n → Fin b) (k : Nat) (hk : k < n) : ext g k < b :=
  extFin_lt (d := fun _ => b) g k hk

theorem ext_val {n b : Nat} (g : Fin n → Fin b) (y : Fin n) : ext g y.1 = (g y).1 :=
  extFin_apply (d := fun _ => b) g y

/-- the counters below `b ^ n` and the answer functions `process_iteration` decodes from them (`digitsEquiv` at constant radix) -/
def strategyEquiv (b n : Nat) : Fin (b ^ n) ≃ (Fin n → Fin b) :=
  (finCongr (prodN_const b n).symm).trans (digitsEquiv (fun _ => b) n)

theorem enc_ext_lt {n b : Nat} (g : Fin n → Fin b) : enc (fun _ => b) (ext g) n < b ^ n :=
  ((strategyEquiv b n).symm g).2

theorem dec_enc_ext {n b : Nat} (g : Fin n → Fin b) (y : Fin n) :
    dec (fun _ => b) n (enc (fun _ => b) (ext g) n) y = (g y).1 :=
  congrArg (fun s : Fin n → Fin b => (s y).1) ((strategyEquiv b n).apply_symm_apply g)

theorem detValueN_eq (ao bo ai bi : Nat) (prob : Prob) (pred : Pred) (F G : Nat → Nat)
    (f : Fin ai → Fin ao) (g : Fin bi → Fin bo) (hF : ∀ x : Fin ai, F x = (f x).1)
    (hG : ∀ y : Fin bi, G y = (g y).1) :
    detValueN ai bi prob pred F G = detValue ao bo ai bi prob pred f g := by
  unfold detValueN detValue
  simp only [sumN_eq_sum_fin, hF, hG]

/-- `process_iteration` at counter `i`: Bob answers by the digits of `i`, Alice best-responds question by question
    (`sumN_amax1_spec`). -/
theorem processIteration_spec (ao bo ai bi : Nat) (prob : Prob) (pred : Pred) (hao : 0 < ao) (hbo : 0 < bo) :
    (∀ i, ∃ (f : Fin ai → Fin ao) (g : Fin bi → Fin bo),
      processIteration i bo bi (transpose0213 (scaleCopy prob pred)) ao ai = detValue ao bo ai bi prob pred f g) ∧
    ∀ (f : Fin ai → Fin ao) (g : Fin bi → Fin bo), detValue ao bo ai bi prob pred f g
      ≤ processIteration (enc (fun _ => bo) (ext g) bi) bo bi (transpose0213 (scaleCopy prob pred)) ao ai := by
  have spec := fun i => sumN_amax1_spec
    (fun a x => sumN bi fun y => transpose0213 (scaleCopy prob pred) a x (dec (fun _ => bo) bi i y) y) (ao - 1) ai
  -- by unfolding, the sum of maxima in `spec i` is `processIteration i …` and the sum along `f` is `detValueN … f (dec … i)`
  -- (`transpose0213 (scaleCopy prob pred) a x b y` is `prob x y * pred a b x y`)
  refine ⟨fun i => ?_, fun f g => ?_⟩
  · obtain ⟨⟨f, hf, e⟩, -⟩ := spec i
    exact ⟨fun x => ⟨f x, by have := hf x; omega⟩, fun y => ⟨dec (fun _ => bo) bi i y, dec_lt _ bi i y y.2 hbo⟩,
      e.trans (detValueN_eq ao bo ai bi prob pred _ _ _ _ (fun _ => rfl) fun _ => rfl)⟩
  · exact (detValueN_eq ao bo ai bi prob pred (ext f) _ f g (ext_val f) (dec_enc_ext g)).symm.trans_le
      ((spec _).2 (ext f) fun x hx => Nat.le_sub_one_of_lt (ext_lt f x hx))

theorem classicalValueGen_of_not_lt {ao bo ai bi : Nat} (fixed : Bool) (prob : Prob) (pred : Pred)
    (h : ¬ ao ^ ai < bo ^ bi) :
    classicalValueGen fixed ao bo ai bi prob pred
      = maxIter (if fixed = true then bo ^ bi else ao ^ bi) (fun i =>
          processIteration i bo bi (transpose0213 (scaleCopy prob pred)) ao ai) := by
  unfold classicalValueGen
  simp only [h, decide_false, if_false, Bool.false_eq_true]

/-- with fewer strategies for Alice the roles are swapped: the code runs on the transposed game, Alice's strategies are
    enumerated and Bob best-responds -/
theorem classicalValueGen_swap {ao bo ai bi : Nat} (fixed : Bool) (prob : Prob) (pred : Pred) (h : ao ^ ai < bo ^ bi) :
    classicalValueGen fixed ao bo ai bi prob pred
      = classicalValueGen fixed bo ao bi ai (fun y x => prob x y) (fun b a y x => pred a b x y) := by
  rw [classicalValueGen_of_not_lt fixed _ _ (Nat.lt_asymm h)]
  unfold classicalValueGen
  simp only [h, decide_true, if_true]
  rfl

theorem enumComplete_swap {ao bo ai bi : Nat} (h : ao ^ ai < bo ^ bi) :
    EnumComplete ao bo ai bi ↔ EnumComplete bo ao bi ai := by
  unfold EnumComplete
  rw [if_pos h, if_neg (Nat.lt_asymm h)]

theorem detValue_swap (ao bo ai bi : Nat) (prob : Prob) (pred : Pred) (f : Fin ai → Fin ao) (g : Fin bi → Fin bo) :
    detValue bo ao bi ai (fun y x => prob x y) (fun b a y x => pred a b x y) g f = detValue ao bo ai bi prob pred f g :=
  Finset.sum_comm

theorem classicalValueGen_spec_of_not_lt (fixed : Bool) (ao bo ai bi : Nat) (prob : Prob) (pred : Pred)
    (hao : 0 < ao) (hbo : 0 < bo) (hsw : ¬ ao ^ ai < bo ^ bi) :
    ∃ v, classicalValueGen fixed ao bo ai bi prob pred = some v ∧
      (∃ f g, detValue ao bo ai bi prob pred f g = v) ∧
      (fixed = true ∨ EnumComplete ao bo ai bi → ∀ f g, detValue ao bo ai bi prob pred f g ≤ v) := by
  rw [classicalValueGen_of_not_lt fixed prob pred hsw]
  obtain ⟨v, hv, ⟨i, -, hvi⟩, hle⟩ :=
    maxIter_spec (fun i => processIteration i bo bi (transpose0213 (scaleCopy prob pred)) ao ai)
      (if fixed = true then bo ^ bi else ao ^ bi) (ite_pos (Nat.pow_pos hbo) (Nat.pow_pos hao))
  obtain ⟨hatt, hdom⟩ := processIteration_spec ao bo ai bi prob pred hao hbo
  obtain ⟨f, g, hfg⟩ := hatt i
  -- the counter that encodes `g` is below the iteration count, and its iteration dominates every pair `(f, g)`
  refine ⟨v, hv, ⟨f, g, (hvi.trans hfg).symm⟩, fun hc f g => (hdom f g).trans (hle _ ((enc_ext_lt g).trans_le ?_))⟩
  split
  · exact le_refl _
  · exact (if_neg hsw).mp (hc.resolve_left ‹_›)

theorem classicalValueGen_spec (fixed : Bool) (ao bo ai bi : Nat) (prob : Prob) (pred : Pred)
    (hao : 0 < ao) (hbo : 0 < bo) :
    ∃ v, classicalValueGen fixed ao bo ai bi prob pred = some v ∧
      (∃ f g, detValue ao bo ai bi prob pred f g = v) ∧
      (fixed = true ∨ EnumComplete ao bo ai bi → ∀ f g, detValue ao bo ai bi prob pred f g ≤ v) := by
  by_cases hsw : ao ^ ai < bo ^ bi
  · rw [classicalValueGen_swap fixed prob pred hsw]
    obtain ⟨v, hv, ⟨g, f, hfg⟩, hle⟩ := classicalValueGen_spec_of_not_lt fixed bo ao bi ai (fun y x => prob x y)
      (fun b a y x => pred a b x y) hbo hao (Nat.lt_asymm hsw)
    exact ⟨v, hv, ⟨f, g, (detValue_swap ..).symm.trans hfg⟩, fun hc f g =>
      (detValue_swap ..).symm.trans_le (hle (hc.imp_right (enumComplete_swap hsw).1) g f)⟩
  · exact classicalValueGen_spec_of_not_lt fixed ao bo ai bi prob pred hao hbo hsw

theorem isMaxDet_iff (ao bo ai bi : Nat) [NeZero ao] [NeZero bo] (prob : Prob) (pred : Pred) (v : ℚ) :
    IsMaxDet ao bo ai bi prob pred v ↔ v = maxDetValue ao bo ai bi prob pred := by
  have hle : ∀ f g, detValue ao bo ai bi prob pred f g ≤ maxDetValue ao bo ai bi prob pred := fun f g =>
    Finset.le_sup' (fun fg : (Fin ai → Fin ao) × (Fin bi → Fin bo) => detValue ao bo ai bi prob pred fg.1 fg.2)
      (Finset.mem_univ (f, g))
  constructor
  · rintro ⟨⟨f, g, rfl⟩, h⟩
    exact le_antisymm (hle f g) (Finset.sup'_le _ _ fun fg _ => h fg.1 fg.2)
  · rintro rfl
    obtain ⟨fg, -, h⟩ := Finset.exists_mem_eq_sup' Finset.univ_nonempty
      (fun fg : (Fin ai → Fin ao) × (Fin bi → Fin bo) => detValue ao bo ai bi prob pred fg.1 fg.2)
    exact ⟨⟨fg.1, fg.2, h.symm⟩, hle⟩

theorem isMaxDet_eq (ao bo ai bi : Nat) [NeZero ao] [NeZero bo] (prob : Prob) (pred : Pred) (v : ℚ)
    (h : IsMaxDet ao bo ai bi prob pred v) : v = maxDetValue ao bo ai bi prob pred :=
  (isMaxDet_iff ao bo ai bi prob pred v).1 h

theorem maxDetValue_isMaxDet (ao bo ai bi : Nat) [NeZero ao] [NeZero bo] (prob : Prob) (pred : Pred) :
    IsMaxDet ao bo ai bi prob pred (maxDetValue ao bo ai bi prob pred) :=
  (isMaxDet_iff ao bo ai bi prob pred _).2 rfl

theorem eq_some_maxDetValue {ao bo ai bi : Nat} [NeZero ao] [NeZero bo] {prob : Prob} {pred : Pred} {X : Option ℚ}
    (h : ∃ v, X = some v ∧ IsMaxDet ao bo ai bi prob pred v) : X = some (maxDetValue ao bo ai bi prob pred) := by
  obtain ⟨v, hv, hmax⟩ := h
  rw [hv, isMaxDet_eq ao bo ai bi prob pred v hmax]

theorem classicalValueGen_isMaxDet (fixed : Bool) (ao bo ai bi : Nat) (prob : Prob) (pred : Pred)
    (hao : 0 < ao) (hbo : 0 < bo) (hc : fixed = true ∨ EnumComplete ao bo ai bi) :
    ∃ v, classicalValueGen fixed ao bo ai bi prob pred = some v ∧ IsMaxDet ao bo ai bi prob pred v := by
  obtain ⟨v, hv, hatt, hle⟩ := classicalValueGen_spec fixed ao bo ai bi prob pred hao hbo
  exact ⟨v, hv, hatt, hle hc⟩

theorem detValueN_ext (ao bo ai bi : Nat) (prob : Prob) (pred : Pred) (f : Fin ai → Fin ao) (g : Fin bi → Fin bo) :
    detValueN ai bi prob pred (ext f) (ext g) = detValue ao bo ai bi prob pred f g :=
  detValueN_eq ao bo ai bi prob pred _ _ f g (ext_val f) (ext_val g)

theorem maxDetBrute_isMaxDet (ao bo ai bi : Nat) (prob : Prob) (pred : Pred) (hao : 0 < ao) (hbo : 0 < bo) :
    ∃ v, maxDetBrute ao bo ai bi prob pred = some v ∧ IsMaxDet ao bo ai bi prob pred v := by
  obtain ⟨⟨i, j, -, e⟩, hle⟩ := amax1_divMod_spec (ao ^ ai) (bo ^ bi) (Nat.pow_pos hao) (Nat.pow_pos hbo) fun i j =>
    detValueN ai bi prob pred (dec (fun _ => ao) ai i) (dec (fun _ => bo) bi j)
  refine ⟨_, maxIter_of_pos _ (Nat.mul_pos (Nat.pow_pos hao) (Nat.pow_pos hbo)), ⟨fun x => ⟨_, dec_lt _ ai i x x.2 hao⟩,
    fun y => ⟨_, dec_lt _ bi j y y.2 hbo⟩, (detValueN_eq ao bo ai bi prob pred _ _ _ _ (fun _ => rfl) fun _ => rfl).symm.trans e⟩,
    fun f g => ?_⟩
  exact (detValueN_eq ao bo ai bi prob pred _ _ f g (dec_enc_ext f) (dec_enc_ext g)).symm.trans_le
    (hle _ _ ⟨enc_ext_lt f, enc_ext_lt g⟩)

/-- the specification sums over `Fin`, the models and the product lemmas over `sumN` -/
theorem isDistribution_iff_sumN (ai bi : Nat) (prob : Prob) :
    IsDistribution ai bi prob ↔
      (∀ x y, x < ai → y < bi → 0 ≤ prob x y) ∧ sumN ai (fun x => sumN bi (fun y => prob x y)) = 1 := by
  simp only [sumN_eq_sum_fin]
  exact ⟨fun h => ⟨h.nonneg, h.sum_one⟩, fun h => ⟨h.1, h.2⟩⟩

theorem detValue_le_one (ao bo ai bi : Nat) (prob : Prob) (pred : Pred)
    (hp : IsDistribution ai bi prob) (hv : PredIn01 ao bo ai bi pred)
    (f : Fin ai → Fin ao) (g : Fin bi → Fin bo) : detValue ao bo ai bi prob pred f g ≤ 1 := by
  unfold detValue
  rw [← hp.sum_one]
  apply Finset.sum_le_sum; intro x _
  apply Finset.sum_le_sum; intro y _
  have h := (hv (f x) (g y) x y (f x).2 (g y).2 x.2 y.2).2
  have h0 := hp.nonneg x y x.2 y.2
  calc prob x y * pred (f x) (g y) x y ≤ prob x y * 1 := mul_le_mul_of_nonneg_left h h0
    _ = prob x y := mul_one _

theorem detValue_nonneg (ao bo ai bi : Nat) (prob : Prob) (pred : Pred)
    (hp : IsDistribution ai bi prob) (hv : PredIn01 ao bo ai bi pred)
    (f : Fin ai → Fin ao) (g : Fin bi → Fin bo) : 0 ≤ detValue ao bo ai bi prob pred f g := by
  unfold detValue
  apply Finset.sum_nonneg; intro x _
  apply Finset.sum_nonneg; intro y _
  exact mul_nonneg (hp.nonneg x y x.2 y.2) (hv (f x) (g y) x y (f x).2 (g y).2 x.2 y.2).1

theorem setAt_same (v : Nat → Nat) (k a : Nat) : setAt v k a k = a := by simp [setAt]

theorem setAt_ne (v : Nat → Nat) (k a m : Nat) (h : m ≠ k) : setAt v k a m = v m := by simp [setAt, h]

theorem enc_setAt_ge (d v : Nat → Nat) (k a n : Nat) (h : n ≤ k) : enc d (setAt v k a) n = enc d v n :=
  enc_congr_digits _ _ _ n fun m hm => setAt_ne v k a m (by omega)

theorem enc_setAt_last (d v : Nat → Nat) (m a : Nat) : enc d (setAt v m a) (m + 1) = enc d v m * d m + a := by
  rw [enc_succ, setAt_same, enc_setAt_ge _ _ _ _ _ (le_refl _)]

theorem odoLoop_of_lt (d : Nat → Nat) (j : Nat) (v : Nat → Nat) (h : v j < d j) : odoLoop d (j + 1) v = v := by
  rw [odoLoop, if_neg (Nat.not_le.mpr h)]

theorem odoLoop_one_of_ge (d v : Nat → Nat) (h : d 0 ≤ v 0) : odoLoop d 1 v = setAt v 0 0 := by
  rw [odoLoop, if_pos h]
  rfl

theorem odoLoop_succ_of_ge (d : Nat → Nat) (j : Nat) (v : Nat → Nat) (h : d (j + 1) ≤ v (j + 1)) :
    odoLoop d (j + 2) v = odoLoop d (j + 1) (setAt (setAt v (j + 1) 0) j (v j + 1)) := by
  rw [odoLoop, if_pos h]
  simp only [Nat.add_sub_cancel, setAt_ne v (j + 1) 0 j (Nat.ne_of_lt (Nat.lt_succ_self j))]
  rfl

theorem odoLoop_ge (d : Nat → Nat) : ∀ (j : Nat) (v : Nat → Nat) (k : Nat), j ≤ k → odoLoop d j v k = v k
  | 0, _, _, _ => rfl
  | 1, v, k, h => by
    rcases Nat.lt_or_ge (v 0) (d 0) with hc | hc
    · rw [odoLoop_of_lt d 0 v hc]
    · rw [odoLoop_one_of_ge d v hc, setAt_ne _ _ _ _ (by omega)]
  | j + 2, v, k, h => by
    rcases Nat.lt_or_ge (v (j + 1)) (d (j + 1)) with hc | hc
    · rw [odoLoop_of_lt d (j + 1) v hc]
    · rw [odoLoop_succ_of_ge d j v hc, odoLoop_ge d (j + 1) _ k (by omega), setAt_ne _ _ _ _ (by omega),
        setAt_ne _ _ _ _ (by omega)]

/-- Invariant of the carry loop at position `j`: the digits before `j` are in range and digit `j` is at most its limit
    (one pending overflow). -/
theorem odoLoop_spec (d : Nat → Nat) : ∀ j, (∀ k, k < j + 1 → 0 < d k) → ∀ v : Nat → Nat,
    (∀ k, k < j → v k < d k) → v j ≤ d j →
    (∀ k, k < j + 1 → odoLoop d (j + 1) v k < d k) ∧
    enc d (odoLoop d (j + 1) v) (j + 1) = enc d v (j + 1) % prodN d (j + 1) := by
  have nocarry : ∀ j (v : Nat → Nat), (∀ k, k < j → v k < d k) → v j < d j →
      (∀ k, k < j + 1 → odoLoop d (j + 1) v k < d k) ∧
      enc d (odoLoop d (j + 1) v) (j + 1) = enc d v (j + 1) % prodN d (j + 1) := by
    intro j v hlt h
    rw [odoLoop_of_lt d j v h]
    have hall : ∀ k, k < j + 1 → v k < d k := fun k hk => by
      rcases Nat.lt_or_ge k j with h1 | h1
      · exact hlt k h1
      · rwa [Nat.le_antisymm (Nat.le_of_lt_succ hk) h1]
    exact ⟨hall, (Nat.mod_eq_of_lt (enc_lt d v (j + 1) hall)).symm⟩
  -- a digit equal to its limit `b` contributes one unit to the digits in front: `q * b + b = (q + 1) * b` under the `mod`
  have carry : ∀ j (v : Nat → Nat), v j = d j →
      enc d v (j + 1) % prodN d (j + 1) = (enc d v j + 1) % prodN d j * d j := by
    intro j v h
    rw [enc_succ, prodN_succ, h, ← Nat.add_one_mul, Nat.mul_mod_mul_right]
  intro j
  induction j with
  | zero =>
    intro hd v hlt hle
    rcases Nat.lt_or_ge (v 0) (d 0) with h | h
    · exact nocarry 0 v hlt h
    · rw [odoLoop_one_of_ge d v h]
      refine ⟨fun k hk => by rw [Nat.lt_one_iff.mp hk, setAt_same]; exact hd 0 Nat.one_pos, ?_⟩
      rw [carry 0 v (Nat.le_antisymm hle h), enc_setAt_last, show prodN d 0 = 1 from rfl, Nat.mod_one]
      rfl
  | succ j ih =>
    intro hd v hlt hle
    rcases Nat.lt_or_ge (v (j + 1)) (d (j + 1)) with h | h
    · exact nocarry (j + 1) v hlt h
    · rw [odoLoop_succ_of_ge d j v h]
      obtain ⟨h1, h2⟩ := ih (fun k hk => hd k (Nat.lt_succ_of_lt hk)) (setAt (setAt v (j + 1) 0) j (v j + 1))
        (fun k hk => by
          rw [setAt_ne _ _ _ _ (Nat.ne_of_lt hk), setAt_ne _ _ _ _ (Nat.ne_of_lt (Nat.lt_succ_of_lt hk))]
          exact hlt k (Nat.lt_succ_of_lt hk))
        (by rw [setAt_same]; exact hlt j (Nat.lt_succ_self j))
      have hlast : odoLoop d (j + 1) (setAt (setAt v (j + 1) 0) j (v j + 1)) (j + 1) = 0 := by
        rw [odoLoop_ge d (j + 1) _ (j + 1) (le_refl _), setAt_ne _ _ _ _ (Nat.succ_ne_self j), setAt_same]
      refine ⟨fun k hk => ?_, ?_⟩
      · rcases Nat.lt_or_ge k (j + 1) with hk' | hk'
        · exact h1 k hk'
        · rw [Nat.le_antisymm (Nat.le_of_lt_succ hk) hk', hlast]; exact hd _ (Nat.lt_succ_self _)
      · have e2 : enc d (setAt (setAt v (j + 1) 0) j (v j + 1)) (j + 1) = enc d v (j + 1) + 1 := by
          rw [enc_setAt_last, enc_setAt_ge _ _ _ _ _ (Nat.le_succ j)]
          rfl
        rw [enc_succ, hlast, h2, e2, carry (j + 1) v (Nat.le_antisymm hle h), Nat.add_zero]

theorem updateOdometer_spec (d : Nat → Nat) (n : Nat) (hd : ∀ k, k < n → 0 < d k) (hn : 0 < n) (v : Nat → Nat)
    (hv : ∀ k, k < n → v k < d k) :
    (∀ k, k < n → updateOdometer n v d k < d k) ∧
    enc d (updateOdometer n v d) n = (enc d v n + 1) % prodN d n := by
  obtain ⟨m, rfl⟩ := Nat.exists_eq_add_one_of_ne_zero hn.ne'
  have hu : updateOdometer (m + 1) v d = odoLoop d (m + 1) (setAt v m (v m + 1)) := if_pos (Nat.succ_pos m)
  obtain ⟨h1, h2⟩ := odoLoop_spec d m hd (setAt v m (v m + 1))
    (fun k hk => by rw [setAt_ne _ _ _ _ (Nat.ne_of_lt hk)]; exact hv k (Nat.lt_succ_of_lt hk))
    (by rw [setAt_same]; exact hv m (Nat.lt_succ_self m))
  rw [hu, h2, enc_setAt_last]
  exact ⟨h1, rfl⟩

theorem iterOdo_zero (n : Nat) (d : Nat → Nat) (k : Nat) : iterOdo n d 0 k = 0 := by
  simp only [iterOdo, iterOdoL, fnOfList]
  by_cases hk : k < n
  · simp [List.getD, hk]
  · simp [List.getD, hk]

theorem iterOdo_succ (n : Nat) (d : Nat → Nat) (i k : Nat) (hk : k < n) :
    iterOdo n d (i + 1) k = updateOdometer n (iterOdo n d i) d k :=
  fnOfList_listOfFn n _ k hk

theorem iterOdo_spec (d : Nat → Nat) (n : Nat) (hd : ∀ k, k < n → 0 < d k) (hn : 0 < n) : ∀ i,
    (∀ k, k < n → iterOdo n d i k < d k) ∧ enc d (iterOdo n d i) n = i % prodN d n
  | 0 => by
    refine ⟨fun k hk => by rw [iterOdo_zero]; exact hd k hk, ?_⟩
    rw [enc_congr_digits d _ (fun _ => 0) n (fun k _ => iterOdo_zero n d k), enc_zero, Nat.zero_mod]
  | i + 1 => by
    obtain ⟨h1, h2⟩ := iterOdo_spec d n hd hn i
    obtain ⟨h3, h4⟩ := updateOdometer_spec d n hd hn (iterOdo n d i) h1
    have hf : ∀ k, k < n → iterOdo n d (i + 1) k = updateOdometer n (iterOdo n d i) d k :=
      fun k hk => iterOdo_succ n d i k hk
    refine ⟨fun k hk => by rw [hf k hk]; exact h3 k hk, ?_⟩
    rw [enc_congr_digits d _ _ n hf, h4, h2, Nat.mod_add_mod]

theorem iterOdo_eq_dec (d : Nat → Nat) (n : Nat) (hd : ∀ k, k < n → 0 < d k) (i k : Nat) (hk : k < n) :
    iterOdo n d i k = dec d n (i % prodN d n) k := by
  obtain ⟨h1, h2⟩ := iterOdo_spec d n hd (Nat.zero_lt_of_lt hk) i
  rw [← h2, dec_enc d _ n h1 k hk]

theorem kron_apply (r c : Nat) (A B : Nat → Nat → ℚ) (i j : Nat) :
    kron r c A B i j = A (i / r) (j / c) * B (i % r) (j % c) := rfl

/-- `T` has product form on `q`-digit codes (row radix `r`, column radix `c`): at the codes of digit vectors `x`, `y` its entry
    is the product over the rounds `k < q` of the factors `M k (x k) (y k)` -/
def IsProdForm (r c q : Nat) (M : Nat → Nat → Nat → ℚ) (T : Nat → Nat → ℚ) : Prop :=
  ∀ x y : Nat → Nat, (∀ k, k < q → x k < r) → (∀ k, k < q → y k < c) →
    T (enc (fun _ => r) x q) (enc (fun _ => c) y q) = prodFn q (fun k => M k (x k) (y k))

theorem isProdForm_one (r c : Nat) (M : Nat → Nat → Nat → ℚ) : IsProdForm r c 1 M (M 0) := by
  intro x y _ _
  simp [enc, prodFn]

theorem IsProdForm.kron {r c m n : Nat} {M : Nat → Nat → Nat → ℚ} {T1 T2 : Nat → Nat → ℚ}
    (h1 : IsProdForm r c m M T1) (h2 : IsProdForm r c n (fun k => M (m + k)) T2) :
    IsProdForm r c (m + n) M (kron (r ^ n) (c ^ n) T1 T2) := by
  intro x y hx hy
  rw [kron_apply, enc_add_range_pow r x m n, enc_add_range_pow c y m n]
  obtain ⟨e1, e2⟩ := Nat.mul_add_divMod_of_lt (q := enc (fun _ => r) x m)
    (enc_lt_pow r (fun k => x (m + k)) n (fun k hk => hx _ (Nat.add_lt_add_left hk m)))
  obtain ⟨e3, e4⟩ := Nat.mul_add_divMod_of_lt (q := enc (fun _ => c) y m)
    (enc_lt_pow c (fun k => y (m + k)) n (fun k hk => hy _ (Nat.add_lt_add_left hk m)))
  rw [e1, e2, e3, e4, h1 x y (fun k hk => hx k (Nat.lt_add_right n hk)) (fun k hk => hy k (Nat.lt_add_right n hk)),
    h2 _ _ (fun k hk => hx _ (Nat.add_lt_add_left hk m)) (fun k hk => hy _ (Nat.add_lt_add_left hk m)),
    prodFn_add_range _ m n]

theorem IsProdForm.total {r c q : Nat} {M : Nat → Nat → Nat → ℚ} {T : Nat → Nat → ℚ} (h : IsProdForm r c q M T)
    {i j : Nat} (hi : i < r ^ q) (hj : j < c ^ q) :
    T i j = prodFn q (fun k => M k (dec (fun _ => r) q i k) (dec (fun _ => c) q j k)) := by
  have := h _ _ (dec_lt_pow hi) (dec_lt_pow hj)
  rwa [enc_dec_pow r q i hi, enc_dec_pow c q j hj] at this

theorem kronChain_isProdForm (r c : Nat) (M : Nat → Nat → Nat → ℚ) : ∀ m, IsProdForm r c (m + 1) M (kronChain r c M m)
  | 0 => isProdForm_one r c M
  | m + 1 => by
    have h := (kronChain_isProdForm r c M m).kron (n := 1) (isProdForm_one r c fun k => M (m + 1 + k))
    rwa [Nat.pow_one, Nat.pow_one] at h

theorem fastExp_isProdForm (r c : Nat) (M : Nat → Nat → ℚ) : ∀ q, 0 < q → IsProdForm r c q (fun _ => M) (fastExp r c M q) := by
  intro q
  induction q using Nat.strong_induction_on with
  | _ q ih =>
    intro hq
    rw [fastExp]
    by_cases h1 : q ≤ 1
    · obtain rfl : q = 1 := Nat.le_antisymm h1 hq
      exact isProdForm_one r c fun _ => M
    · rw [dif_neg h1]
      have hh := ih (q / 2) (by omega) (by omega)
      have h2 := hh.kron (M := fun _ => M) hh
      rcases Nat.mod_two_eq_zero_or_one q with h | h
      · rw [if_neg (by omega)]
        rwa [show q / 2 + q / 2 = q by omega] at h2
      · have h3 := (isProdForm_one r c fun _ => M).kron (M := fun _ => M) h2
        rw [if_pos h, Nat.two_mul]
        rwa [show 1 + (q / 2 + q / 2) = q by omega] at h3

theorem bit_enc (n : Nat) (s : Nat → Nat) (hs : ∀ k, k < n → s k < 2) (k : Nat) (hk : k < n) :
    bit n (enc (fun _ => 2) s n) k = s k :=
  dec_enc (fun _ => 2) s n hs k hk

theorem bcsPred_enc (n : Nat) (c : Nat → Nat → Int) (s : Nat → Nat) (hs : ∀ k, k < n → s k < 2)
    (b x y : Nat) (hy : y < n) :
    bcsPred n c (enc (fun _ => 2) s n) b x y
      = if b = s y ∧ c x (enc (fun _ => 2) s n) = 1 then 1 else 0 := by
  unfold bcsPred
  have e1 : enc (fun _ => 2) (fun k => bit n (enc (fun _ => 2) s n) k) n = enc (fun _ => 2) s n :=
    enc_congr_digits _ _ _ n (bit_enc n s hs)
  simp only [e1, bit_enc n s hs y hy]

theorem runWith_fst_of_pure (st : Game → Op → Game × Option Rat) (hpure : ∀ g op, (st g op).1 = g) (g : Game) :
    ∀ ops, (runWith st g ops).1 = g
  | [] => rfl
  | op :: rest => by
    show (runWith st (st g op).1 rest).1 = g
    rw [hpure, runWith_fst_of_pure st hpure g rest]

end Toq.Games
