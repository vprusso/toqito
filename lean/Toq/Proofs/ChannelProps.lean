import Toq.Model.ChannelProps
import Toq.Spec.ChannelProps
import Toq.Proofs.Cert
import Toq.Proofs.Spectral
import Toq.Proofs.ChannelOps
import Toq.Proofs.Rank
import Toq.Proofs.RatReal
import Toq.Proofs.Digits
import Toq.Proofs.PiKron
import Toq.Proofs.Bipartite
import Mathlib.LinearAlgebra.Matrix.Rank
import Mathlib.Analysis.Matrix.Order
import Mathlib.Analysis.Convex.Extreme
import Mathlib.Analysis.InnerProductSpace.Positive
import Mathlib.Analysis.Real.Sqrt
import Mathlib.Data.Complex.BigOperators
import Mathlib.Tactic.Ring
import Mathlib.Tactic.FinCases
import Mathlib.Tactic.LinearCombination
/-!
# Channel predicates and built-in channels (C06); the exact deciders `eqV`, `psdV` also guard the cascade of C20

The model computes with exact data indexed by natural numbers, the specification with complex matrices over `Fin`.  The bridges:

| exact / `Nat`-indexed object | read as | by |
|---|---|---|
| `EMat n m` | `Matrix (Fin n) (Fin m) ℂ` | `EMat.toM` (`Proofs/Cert`) |
| Choi matrix `EMat (di·dO) (di·dO)` | `TMat di dO` over `Fin di × Fin dO`, pair `(i, a)` ↦ row `i·dO + a` | `toChoi` |
| `f : Nat → Nat → ℂ` at flat indices `i·dO + a` | `TMat di dO` | `toT` |
| `f : Nat → Nat → ℂ` | `Matrix (Fin d) (Fin d) ℂ` | `toSq` (`= Toq.ChannelOps.toM d d`; lists of such on a qubit: `fam2`) |
| operator `Nat → Nat → QI` (lists of such: `opFam` of `Proofs/ChannelPropsExtremal`) | `Matrix (Fin n) (Fin m) ℂ` | `Toq.Rank.fnToM` (`Proofs/FnMat`) |
| operator `Mat QI` of the driver | `Matrix (Fin dO) (Fin di) ℂ` | `matC` (`= fnToM` of the entry function) |
| rows `QM` handed to the rank routine | `Matrix (Fin r) (Fin c) ℂ` | `qmToM` (`= fnToM` of the entry function) |

Choi matrix calculus: `choi` is a linear equivalence with inverse `ofChoi` (`choiEquiv`), and each predicate of the specification is
characterised once, on `ofChoi J` (`isTP_ofChoi_iff`, `isUnital_ofChoi_iff`, `isHP_ofChoi_iff`, Choi's theorem `isCP_ofChoi_iff`).
Then: meaning of the exact deciders and verdicts; the closed-form Choi matrices, all of
the shape `diag D + c·ψψᴴ` (`dpsi`), on which `ofChoi` is computed once; qubit Kraus lists through a calculus of literal `2 × 2`
matrices; Pauli strings as `piKron` of their factors (`Proofs/PiKron`, digits of `Proofs/Digits`); the ties of the driver's model
functions, the exact rank, the guards.
-/

namespace Toq.ChanPropProofs

section Characterisations
open Toq.ChanPropSpec Matrix
open scoped ComplexOrder MatrixOrder
variable {di dO r n : Nat}

/-- Mathlib's extreme points of a set in a complex vector space, in the two-point form the specification writes out
    (`IsExtremeChannel`, `IsChoiExtreme`) -/
theorem mem_extremePoints_iff_proper_comb {E : Type*} [AddCommGroup E] [Module ℂ E] (S : Set E) (x : E) :
    x ∈ S.extremePoints ℝ ↔ x ∈ S ∧ ∀ (y z : E) (t : ℝ), y ∈ S → z ∈ S → 0 < t → t < 1 →
      x = (t : ℂ) • y + ((1 - t : ℝ) : ℂ) • z → y = x ∧ z = x := by
  have key : ∀ (a : ℝ) (v : E), a • v = (a : ℂ) • v := fun a v => (Complex.coe_smul a v).symm
  rw [mem_extremePoints]
  refine and_congr_right fun _ => ⟨fun h y z t hy hz ht0 ht1 hc => ?_, fun h y hy z hz hseg => ?_⟩
  · refine h y hy z hz ⟨t, 1 - t, ht0, by linarith, by ring, ?_⟩
    rw [hc, key, key]
  · obtain ⟨a, b, ha, hb, hab, hx⟩ := hseg
    have hb' : b = 1 - a := by linarith
    refine h y z a hy hz ha (by linarith) ?_
    rw [← hx, hb', key, key]

theorem choi_apply (Φ : LMap di dO) (i j : Fin di) (a b : Fin dO) :
    choi Φ (i, a) (j, b) = Φ (Matrix.single i j 1) a b := rfl

theorem kvec_apply (K : Matrix (Fin dO) (Fin di) ℂ) (i : Fin di) (a : Fin dO) : kvec K (i, a) = K a i := rfl

def unvec (v : Fin di × Fin dO → ℂ) : Matrix (Fin dO) (Fin di) ℂ := Matrix.of fun a i => v (i, a)

theorem unvec_apply (v : Fin di × Fin dO → ℂ) (a : Fin dO) (i : Fin di) : unvec v a i = v (i, a) := rfl

theorem kvec_unvec (v : Fin di × Fin dO → ℂ) : kvec (unvec v) = v := rfl

theorem unvec_kvec (K : Matrix (Fin dO) (Fin di) ℂ) : unvec (kvec K) = K := rfl

theorem kvec_injective : Function.Injective (kvec : Matrix (Fin dO) (Fin di) ℂ → Fin di × Fin dO → ℂ) :=
  Function.LeftInverse.injective unvec_kvec

theorem kvec_dotProduct_star_self (U : Matrix (Fin dO) (Fin di) ℂ) : kvec U ⬝ᵥ star (kvec U) = Matrix.trace (Uᴴ * U) := by
  simp only [dotProduct, kvec, Pi.star_apply, Matrix.trace, Matrix.diag_apply, Matrix.mul_apply, Matrix.conjTranspose_apply,
    Fintype.sum_prod_type]
  exact Finset.sum_congr rfl fun i _ => Finset.sum_congr rfl fun a _ => mul_comm _ _

theorem map_eq_sum_single (Φ : LMap di dO) (X : Matrix (Fin di) (Fin di) ℂ) :
    Φ X = ∑ i, ∑ j, X i j • Φ (Matrix.single i j 1) := by
  conv_lhs => rw [Matrix.matrix_eq_sum_single X]
  rw [map_sum]
  refine Finset.sum_congr rfl fun i _ => ?_
  rw [map_sum]
  refine Finset.sum_congr rfl fun j _ => ?_
  rw [← map_smul, Matrix.smul_single, smul_eq_mul, mul_one]

theorem ofChoi_apply' {di dO : Nat} (J : TMat di dO) (X : Matrix (Fin di) (Fin di) ℂ) (a b : Fin dO) :
    ofChoi J X a b = ∑ i, ∑ j, X i j * J (i, a) (j, b) := rfl

def choiEquiv : LMap di dO ≃ₗ[ℂ] TMat di dO where
  toFun := choi
  map_add' _ _ := rfl
  map_smul' _ _ := rfl
  invFun := ofChoi
  left_inv Φ := LinearMap.ext fun X => Matrix.ext fun a b => by
    rw [ofChoi_apply', map_eq_sum_single Φ X]
    simp only [Matrix.sum_apply, Matrix.smul_apply, smul_eq_mul, choi_apply]
  right_inv J := by
    ext ⟨i, a⟩ ⟨j, b⟩
    rw [choi_apply, ofChoi_apply']
    -- `E_ij` picks the summand `(i, j)`
    simp only [Matrix.single_apply, ite_and, ite_mul, one_mul, zero_mul, Finset.sum_ite_irrel, Finset.sum_const_zero,
      Finset.sum_ite_eq, Finset.mem_univ, if_true]

theorem ofChoi_choi (Φ : LMap di dO) : ofChoi (choi Φ) = Φ := choiEquiv.symm_apply_apply Φ

theorem choi_ofChoi (J : TMat di dO) : choi (ofChoi J) = J := choiEquiv.apply_symm_apply J

theorem choi_injective {Φ Ψ : LMap di dO} (h : choi Φ = choi Ψ) : Φ = Ψ := choiEquiv.injective h

theorem ofChoi_add (J J' : TMat di dO) : ofChoi (J + J') = ofChoi J + ofChoi J' := choiEquiv.symm.map_add J J'

theorem ofChoi_smul (c : ℂ) (J : TMat di dO) : ofChoi (c • J) = c • ofChoi J := choiEquiv.symm.map_smul c J

theorem map_apply_eq_sum_choi (Φ : LMap di dO) (X : Matrix (Fin di) (Fin di) ℂ) (a b : Fin dO) :
    Φ X a b = ∑ i, ∑ j, X i j * choi Φ (i, a) (j, b) := by
  rw [← ofChoi_apply', ofChoi_choi]

theorem ptraceOut_eq_ptrR (J : TMat di dO) : ptraceOut J = Matrix.ptrR J := rfl

theorem trace_ofChoi (J : TMat di dO) (X : Matrix (Fin di) (Fin di) ℂ) :
    Matrix.trace (ofChoi J X) = Matrix.trace (X * (ptraceOut J)ᵀ) := by
  simp only [Matrix.trace, Matrix.diag_apply, ofChoi_apply', Matrix.mul_apply, Matrix.transpose_apply, ptraceOut, Finset.mul_sum]
  rw [Finset.sum_comm]
  exact Finset.sum_congr rfl fun i _ => Finset.sum_comm

theorem isTP_ofChoi_iff (J : TMat di dO) : IsTP (ofChoi J) ↔ ptraceOut J = 1 := by
  rw [← Matrix.transpose_eq_one, Matrix.ext_iff_trace_mul_left]
  exact forall_congr' fun X => by rw [trace_ofChoi, Matrix.mul_one]

theorem ofChoi_one (J : TMat di dO) : ofChoi J 1 = ptraceIn J := by
  ext a b
  simp only [ofChoi_apply', Matrix.one_apply, ite_mul, one_mul, zero_mul, Finset.sum_ite_eq, Finset.mem_univ, if_true, ptraceIn]

theorem isUnital_ofChoi_iff (J : TMat di dO) : IsUnital (ofChoi J) ↔ ptraceIn J = 1 := by
  rw [IsUnital, ofChoi_one]

theorem isHP_ofChoi_iff (J : TMat di dO) : IsHP (ofChoi J) ↔ J.IsHermitian := by
  constructor
  · intro h
    rw [← choi_ofChoi J]
    ext ⟨i, a⟩ ⟨j, b⟩
    rw [Matrix.conjTranspose_apply, choi_apply, choi_apply, ← Matrix.conjTranspose_apply, ← h, Matrix.conjTranspose_single,
      star_one]
  · intro h X
    ext a b
    rw [ofChoi_apply', Matrix.conjTranspose_apply, ofChoi_apply', star_sum, Finset.sum_comm]
    refine Finset.sum_congr rfl fun i _ => ?_
    rw [star_sum]
    refine Finset.sum_congr rfl fun j _ => ?_
    rw [star_mul', Matrix.conjTranspose_apply, h.apply]

theorem quadForm_map_vecMulVec (Φ : LMap di dO) (x : Fin di → ℂ) (y : Fin dO → ℂ) :
    star y ⬝ᵥ (Φ (Matrix.vecMulVec x (star x)) *ᵥ y)
      = star (fun p : Fin di × Fin dO => star (x p.1) * y p.2) ⬝ᵥ
          (choi Φ *ᵥ fun p : Fin di × Fin dO => star (x p.1) * y p.2) := by
  simp only [dotProduct, Matrix.mulVec, map_apply_eq_sum_choi, Matrix.vecMulVec_apply, Pi.star_apply,
    Fintype.sum_prod_type, Finset.mul_sum, Finset.sum_mul, star_mul', star_star]
  -- both sides are the same fourfold sum, over `a, b, i, j` and over `i, a, j, b`
  calc ∑ a, ∑ b, ∑ i, ∑ j, _ = ∑ a, ∑ i, ∑ b, ∑ j, _ := Finset.sum_congr rfl fun a _ => Finset.sum_comm
    _ = ∑ i, ∑ a, ∑ b, ∑ j, _ := Finset.sum_comm
    _ = ∑ i, ∑ a, ∑ j, ∑ b, _ := Finset.sum_congr rfl fun i _ => Finset.sum_congr rfl fun a _ => Finset.sum_comm
    _ = _ := Finset.sum_congr rfl fun i _ => Finset.sum_congr rfl fun a _ =>
      Finset.sum_congr rfl fun j _ => Finset.sum_congr rfl fun b _ => by ring

theorem pairMap_apply (A B : Fin r → Matrix (Fin dO) (Fin di) ℂ) (X : Matrix (Fin di) (Fin di) ℂ) :
    pairMap A B X = ∑ k, A k * X * (B k)ᴴ := rfl

theorem krausMap_apply (K : Fin r → Matrix (Fin dO) (Fin di) ℂ) (X : Matrix (Fin di) (Fin di) ℂ) :
    krausMap K X = ∑ k, K k * X * (K k)ᴴ := pairMap_apply K K X

theorem mul_single_mul_apply (A B : Matrix (Fin dO) (Fin di) ℂ) (i j : Fin di) (a b : Fin dO) :
    (A * Matrix.single i j (1 : ℂ) * Bᴴ) a b = A a i * star (B b j) := by
  rw [Matrix.mul_apply, Finset.sum_eq_single j]
  · rw [Matrix.mul_single_apply_same, mul_one, Matrix.conjTranspose_apply]
  · intro j' _ h
    rw [Matrix.mul_single_apply_of_ne (hbj := h), zero_mul]
  · exact fun h => absurd (Finset.mem_univ j) h

theorem choi_pairMap_apply (A B : Fin r → Matrix (Fin dO) (Fin di) ℂ) (i j : Fin di) (a b : Fin dO) :
    choi (pairMap A B) (i, a) (j, b) = ∑ k, A k a i * star (B k b j) := by
  rw [choi_apply, pairMap_apply, Matrix.sum_apply]
  exact Finset.sum_congr rfl fun k _ => mul_single_mul_apply _ _ _ _ _ _

theorem choi_krausMap_apply (K : Fin r → Matrix (Fin dO) (Fin di) ℂ) (i j : Fin di) (a b : Fin dO) :
    choi (krausMap K) (i, a) (j, b) = ∑ k, K k a i * star (K k b j) :=
  choi_pairMap_apply K K i j a b

/-- the matrix whose columns are the column-stacking vectors `vec(W_k)` -/
def vecMat (W : Fin r → Matrix (Fin dO) (Fin di) ℂ) : Matrix (Fin di × Fin dO) (Fin r) ℂ := fun p k => W k p.2 p.1

theorem vecMat_apply (W : Fin r → Matrix (Fin dO) (Fin di) ℂ) (i : Fin di) (a : Fin dO) (k : Fin r) :
    vecMat W (i, a) k = W k a i := rfl

theorem choi_krausMap_eq (K : Fin r → Matrix (Fin dO) (Fin di) ℂ) :
    choi (krausMap K) = vecMat K * (vecMat K)ᴴ := by
  ext ⟨i, a⟩ ⟨j, b⟩
  rw [choi_krausMap_apply, Matrix.mul_apply]
  simp only [Matrix.conjTranspose_apply, vecMat_apply]

/-- a positive semidefinite `J = Σ_k v_k v_kᴴ` is the Choi matrix of the Kraus map of the operators with `vec(K_k) = v_k` -/
theorem hasKraus_ofChoi {J : TMat di dO} (hJ : J.PosSemidef) : HasKraus (ofChoi J) := by
  obtain ⟨m, v, hv⟩ := Matrix.posSemidef_iff_eq_sum_vecMulVec.mp hJ
  refine ⟨m, fun k => unvec (v k), choi_injective ?_⟩
  ext ⟨i, a⟩ ⟨j, b⟩
  rw [choi_ofChoi, hv, choi_krausMap_apply, Matrix.sum_apply]
  simp only [Matrix.vecMulVec_apply, Pi.star_apply, unvec_apply]

/-- `1_n ⊗ K` in the pair indexing -/
def liftK (n : Nat) (K : Matrix (Fin dO) (Fin di) ℂ) : Matrix (Fin n × Fin dO) (Fin n × Fin di) ℂ :=
  fun p q => if p.1 = q.1 then K p.2 q.2 else 0

theorem liftK_mul_apply (K : Matrix (Fin dO) (Fin di) ℂ) (X : TMat n di) (p : Fin n × Fin dO)
    (q : Fin n × Fin di) : (liftK n K * X) p q = ∑ i, K p.2 i * X (p.1, i) q := by
  rw [Matrix.mul_apply, Fintype.sum_prod_type, Finset.sum_eq_single p.1]
  · exact Finset.sum_congr rfl fun i _ => congrArg (· * X (p.1, i) q) (if_pos rfl)
  · exact fun l _ hl => Finset.sum_eq_zero fun i _ => by
      rw [show liftK n K p (l, i) = 0 from if_neg (Ne.symm hl), zero_mul]
  · exact fun h => absurd (Finset.mem_univ _) h

theorem mul_liftK_conjTranspose_apply (K : Matrix (Fin dO) (Fin di) ℂ) (Y : Matrix (Fin n × Fin dO) (Fin n × Fin di) ℂ)
    (p q : Fin n × Fin dO) : (Y * (liftK n K)ᴴ) p q = ∑ j, Y p (q.1, j) * star (K q.2 j) := by
  rw [Matrix.mul_apply, Fintype.sum_prod_type, Finset.sum_eq_single q.1]
  · exact Finset.sum_congr rfl fun j _ => congrArg (fun z => Y p (q.1, j) * star z) (if_pos rfl)
  · exact fun l _ hl => Finset.sum_eq_zero fun j _ => by
      rw [Matrix.conjTranspose_apply, show liftK n K q (l, j) = 0 from if_neg (Ne.symm hl), star_zero, mul_zero]
  · exact fun h => absurd (Finset.mem_univ _) h

theorem ampl_apply (Φ : LMap di dO) (X : TMat n di) (p q : Fin n × Fin dO) :
    ampl n Φ X p q = Φ (block X p.1 q.1) p.2 q.2 := rfl

theorem ampl_krausMap (K : Fin r → Matrix (Fin dO) (Fin di) ℂ) (X : TMat n di) :
    ampl n (krausMap K) X = ∑ k, liftK n (K k) * X * (liftK n (K k))ᴴ := by
  ext p q
  rw [Matrix.sum_apply, ampl_apply, krausMap_apply, Matrix.sum_apply]
  refine Finset.sum_congr rfl fun k _ => ?_
  rw [mul_liftK_conjTranspose_apply, Matrix.mul_apply]
  refine Finset.sum_congr rfl fun j _ => ?_
  rw [liftK_mul_apply, Matrix.mul_apply, Matrix.conjTranspose_apply]
  rfl

theorem block_maxEnt (k l : Fin di) :
    block (Matrix.vecMulVec (maxEntVec di) (star (maxEntVec di))) k l = Matrix.single k l 1 := by
  ext i j
  simp only [block, Matrix.vecMulVec_apply, maxEntVec, Pi.star_apply, Matrix.single, Matrix.of_apply]
  by_cases h1 : k = i <;> by_cases h2 : l = j <;> simp [h1, h2]

theorem choi_eq_ampl (Φ : LMap di dO) :
    choi Φ = ampl di Φ (Matrix.vecMulVec (maxEntVec di) (star (maxEntVec di))) := by
  ext p q
  rw [ampl_apply, block_maxEnt]
  rfl

/-- **Choi's theorem** on the map with Choi matrix `J`: every amplification is positive iff `J ⪰ 0`.  (⇒) `J` is the
    amplification applied to `ψψᴴ`; (⇐) a Kraus map amplifies to a sum of `(1 ⊗ K) X (1 ⊗ K)ᴴ`. -/
theorem isCP_ofChoi_iff (J : TMat di dO) : IsCP (ofChoi J) ↔ J.PosSemidef := by
  constructor
  · intro h
    rw [← choi_ofChoi J, choi_eq_ampl]
    exact h di _ (Matrix.posSemidef_vecMulVec_self_star _)
  · intro h n X hX
    obtain ⟨r, K, hK⟩ := hasKraus_ofChoi h
    rw [hK, ampl_krausMap]
    exact Matrix.posSemidef_sum _ fun k _ => hX.mul_mul_conjTranspose_same _

theorem trace_pairMap (A B : Fin r → Matrix (Fin dO) (Fin di) ℂ) (X : Matrix (Fin di) (Fin di) ℂ) :
    Matrix.trace (pairMap A B X) = Matrix.trace ((∑ k, (B k)ᴴ * A k) * X) := by
  rw [pairMap_apply, Matrix.trace_sum, Matrix.sum_mul, Matrix.trace_sum]
  refine Finset.sum_congr rfl fun k _ => ?_
  rw [Matrix.trace_mul_comm, ← Matrix.mul_assoc]

theorem krausMap_single (U : Matrix (Fin dO) (Fin di) ℂ) (X : Matrix (Fin di) (Fin di) ℂ) :
    krausMap (fun _ : Fin 1 => U) X = U * X * Uᴴ := by
  rw [krausMap_apply, Fin.sum_univ_one]

/-- `[√p_k · U_k]` is the Kraus list that `pauli_channel(…, return_kraus_ops=True)` returns -/
theorem krausMap_sqrt_smul (p : Fin r → ℝ) (hp : ∀ k, 0 ≤ p k) (U : Fin r → Matrix (Fin dO) (Fin di) ℂ) :
    krausMap (fun k => ((Real.sqrt (p k) : ℝ) : ℂ) • U k) = ∑ k, (p k : ℂ) • krausMap (fun _ : Fin 1 => U k) := by
  refine LinearMap.ext fun X => ?_
  rw [krausMap_apply, LinearMap.sum_apply]
  refine Finset.sum_congr rfl fun k _ => ?_
  rw [LinearMap.smul_apply, krausMap_single, Matrix.conjTranspose_smul, Matrix.smul_mul, Matrix.smul_mul, Matrix.mul_smul, smul_smul,
    Complex.star_def, Complex.conj_ofReal, ← Complex.ofReal_mul, Real.mul_self_sqrt (hp k)]

theorem eq_krausMap_single {Φ : LMap di di} {U : Matrix (Fin di) (Fin di) ℂ} (hΦ : ∀ X, Φ X = U * X * Uᴴ) :
    Φ = krausMap (fun _ : Fin 1 => U) :=
  LinearMap.ext fun X => by rw [hΦ, krausMap_single]

end Characterisations

section Deciders
open Matrix
open scoped ComplexOrder

def toChoi {di dO : Nat} (J : EMat (di * dO) (di * dO)) : Toq.ChanPropSpec.TMat di dO :=
  fun p q => (J.get (Toq.ChannelProps.pairIdx p.1 p.2) (Toq.ChannelProps.pairIdx q.1 q.2)).toC

section Pair
variable {di dO : Nat}

theorem pairIdx_val (i : Fin di) (a : Fin dO) : (Toq.ChannelProps.pairIdx i a).val = i.val * dO + a.val := rfl

theorem pairIdx_eq (i : Fin di) (a : Fin dO) :
    Toq.ChannelProps.pairIdx i a = finProdFinEquiv (i, a) :=
  Fin.ext (Toq.finProdFinEquiv_val i a).symm

theorem toChoi_eq_submatrix (J : EMat (di * dO) (di * dO)) :
    toChoi J = J.toM.submatrix finProdFinEquiv finProdFinEquiv := by
  ext p q
  simp [toChoi, pairIdx_eq]

theorem toChoi_posSemidef_iff (J : EMat (di * dO) (di * dO)) :
    (toChoi J).PosSemidef ↔ J.toM.PosSemidef := by
  rw [toChoi_eq_submatrix]
  exact Matrix.posSemidef_submatrix_equiv finProdFinEquiv

theorem toChoi_isHermitian_iff (J : EMat (di * dO) (di * dO)) :
    (toChoi J).IsHermitian ↔ J.toM.IsHermitian := by
  rw [toChoi_eq_submatrix]
  exact Matrix.isHermitian_submatrix_equiv finProdFinEquiv

end Pair

section Exact
variable {n m : Nat}

theorem maxRat_eq_max (a b : Rat) : Toq.ChannelProps.maxRat a b = max a b := (max_def_lt a b).symm

theorem maxAbs1_nonneg (A : EMat n m) : 0 ≤ Toq.ChannelProps.maxAbs1 A := by
  simp only [Toq.ChannelProps.maxAbs1, maxRat_eq_max]
  exact List.le_foldl_foldl_max _ _ _ 0

theorem abs1_le_maxAbs1 (A : EMat n m) (i : Fin n) (j : Fin m) : (A.get i j).abs1 ≤ Toq.ChannelProps.maxAbs1 A := by
  simp only [Toq.ChannelProps.maxAbs1, maxRat_eq_max]
  exact List.le_foldl_foldl_max_of_mem (fun i j => (A.get i j).abs1) (List.mem_finRange i) (List.mem_finRange j) 0

theorem tolOf_eq (s : Rat) : Toq.ChannelProps.tolOf s = 1 / 1000000 + 1 / 1000 * s := by
  unfold Toq.ChannelProps.tolOf
  ring

theorem tolOf_pos {s : Rat} (h : 0 ≤ s) : 0 < Toq.ChannelProps.tolOf s :=
  mul_pos (by norm_num) (add_pos_of_pos_of_nonneg (by norm_num) (div_nonneg h (by norm_num)))

theorem farApart_ne (A B : EMat n m) (h : Toq.ChannelProps.farApart A B = true) : A.toM ≠ B.toM := by
  intro heq
  simp only [Toq.ChannelProps.farApart, List.any_eq_true, decide_eq_true_eq] at h
  obtain ⟨i, -, j, -, hij⟩ := h
  rw [EMat.get_eq_of_toM_eq heq i j, QI.abs1_sub_self] at hij
  exact absurd hij (not_le.mpr (tolOf_pos ((maxAbs1_nonneg A).trans (maxRat_eq_max _ _ ▸ le_max_left _ _))))

theorem eqV_yes (A B : EMat n m) : Toq.ChannelProps.eqV A B = .yes ↔ A.beq B = true :=
  ite_ite_eq_fst_iff (by decide) (by decide)

theorem eqV_no (A B : EMat n m) :
    Toq.ChannelProps.eqV A B = .no ↔ ¬ A.beq B = true ∧ Toq.ChannelProps.farApart A B = true :=
  ite_ite_eq_snd_iff (by decide) (by decide)

end Exact

section PT
variable {di dO : Nat}

theorem toM_ptraceOut (J : EMat (di * dO) (di * dO)) :
    (Toq.ChannelProps.ptraceOut J).toM = Toq.ChanPropSpec.ptraceOut (toChoi J) := by
  ext i j
  simp only [Toq.ChannelProps.ptraceOut, Toq.ChanPropSpec.ptraceOut, toChoi, EMat.toM_apply, EMat.get_ofFn, EMat.sumFin_toC]

theorem toM_ptraceIn (J : EMat (di * dO) (di * dO)) :
    (Toq.ChannelProps.ptraceIn J).toM = Toq.ChanPropSpec.ptraceIn (toChoi J) := by
  ext a b
  simp only [Toq.ChannelProps.ptraceIn, Toq.ChanPropSpec.ptraceIn, toChoi, EMat.toM_apply, EMat.get_ofFn, EMat.sumFin_toC]

theorem ptraceOut_toM_eq_one_iff (J : EMat (di * dO) (di * dO)) :
    (Toq.ChannelProps.ptraceOut J).toM = (EMat.one : EMat di di).toM ↔ Toq.ChanPropSpec.ptraceOut (toChoi J) = 1 := by
  rw [toM_ptraceOut, EMat.toM_one]

theorem ptraceIn_toM_eq_one_iff (J : EMat (di * dO) (di * dO)) :
    (Toq.ChannelProps.ptraceIn J).toM = (EMat.one : EMat dO dO).toM ↔ Toq.ChanPropSpec.ptraceIn (toChoi J) = 1 := by
  rw [toM_ptraceIn, EMat.toM_one]

end PT

section Quad
variable {n : Nat}

/-- `quadForm`, `normSq` are traces of `1 × 1` matrices: the entries `vᴴAv`, `vᴴv` that `Proofs/Cert` reasons about -/
theorem trace_one_one (M : EMat 1 1) : M.trace = M.get 0 0 :=
  QI.toC_injective (by rw [EMat.toC_trace, Matrix.trace_fin_one, EMat.toM_apply])

theorem quadForm_eq (A : EMat n n) (v : EMat n 1) : Toq.ChannelProps.quadForm A v = (v.ct.mul (A.mul v)).get 0 0 := trace_one_one _

theorem normSq_eq (v : EMat n 1) : Toq.ChannelProps.normSq v = (v.ct.mul v).get 0 0 := trace_one_one _

end Quad

section Verdicts
open Toq.ChannelProps

theorem _root_.Toq.ChannelProps.Verdict.and_yes_iff (a b : Verdict) : a.and b = .yes ↔ a = .yes ∧ b = .yes := by
  cases a <;> cases b <;> simp [Verdict.and]

theorem _root_.Toq.ChannelProps.Verdict.and_no_iff (a b : Verdict) : a.and b = .no ↔ a = .no ∨ b = .no := by
  cases a <;> cases b <;> simp [Verdict.and]

theorem psdV_yes_iff {n k : Nat} {A : EMat n n} {L : Option (EMat n k)} {v : Option (EMat n 1)} :
    psdV A L v = .yes ↔ eqV A A.ct = .yes ∧ ∃ L', L = some L' ∧ psdYes A L' = true := by
  unfold psdV
  generalize eqV A A.ct = e
  cases e
  · exact (ite_ite_eq_fst_iff (by decide) (by decide)).trans (by cases L <;> simp)
  · simp
  · simp

theorem psdV_no {n k : Nat} {A : EMat n n} {L : Option (EMat n k)} {v : Option (EMat n 1)} (h : psdV A L v = .no) :
    eqV A A.ct = .no ∨ ∃ v', v = some v' ∧ negWitness A v' (tolOf (maxAbs1 A)) = true := by
  unfold psdV at h
  generalize eqV A A.ct = e at h ⊢
  cases e
  · obtain ⟨-, h⟩ := (ite_ite_eq_snd_iff (by decide) (by decide)).mp h
    cases v with
    | none => exact absurd h Bool.false_ne_true
    | some v' => exact .inr ⟨v', rfl, h⟩
  · exact .inl rfl
  · exact nomatch h

theorem negWitness_not_posSemidef {n : Nat} (A : EMat n n) (v : EMat n 1) (μ : Rat) (h : negWitness A v μ = true) :
    ¬ A.toM.PosSemidef ∧ ∀ c : ℝ, c < (μ : ℝ) → ¬ (A.toM + (c : ℂ) • (1 : Matrix (Fin n) (Fin n) ℂ)).PosSemidef := by
  simp only [negWitness, Bool.and_eq_true, decide_eq_true_eq, quadForm_eq, normSq_eq] at h
  obtain ⟨⟨h1, h2⟩, -⟩ := h
  -- with `q = Re vᴴAv < 0`, `N = vᴴv ≥ 0` and `q + μN ≤ 0` the shifted form `q + cN` at `v` is negative for `c = 0` and for
  -- `c < μ` (for `N = 0` by `q < 0`, else by `cN < μN`)
  have h1' : (((v.ct.mul (A.mul v)).get 0 0).re : ℝ) < 0 := by exact_mod_cast h1
  have h2' : (((v.ct.mul (A.mul v)).get 0 0).re : ℝ) + (μ : ℝ) * (((v.ct.mul v).get 0 0).re : Rat) ≤ 0 := by exact_mod_cast h2
  refine ⟨fun hp => EMat.not_posSemidef_add_smul_one_of_quad_neg A v 0 (by rwa [zero_mul, add_zero]) (by simpa using hp),
    fun c hc => EMat.not_posSemidef_add_smul_one_of_quad_neg A v c ?_⟩
  rcases eq_or_lt_of_le (EMat.re_normSq_nonneg v) with h0 | hpos
  · rwa [← h0, mul_zero, add_zero]
  · linarith [mul_lt_mul_of_pos_right hc hpos]

theorem psdV_yes_posSemidef {n k : Nat} {A : EMat n n} {L : Option (EMat n k)} {v : Option (EMat n 1)}
    (h : psdV A L v = .yes) : A.toM.PosSemidef :=
  let ⟨_, L', _, hL⟩ := psdV_yes_iff.mp h
  psdCert_sound A L' hL

theorem psdV_no_not_posSemidef {n k : Nat} {A : EMat n n} {L : Option (EMat n k)} {v : Option (EMat n 1)}
    (h : psdV A L v = .no) : ¬ A.toM.PosSemidef := fun hP =>
  (psdV_no h).elim (fun hE => farApart_ne A A.ct ((eqV_no _ _).mp hE).2 (by rw [EMat.toM_ct]; exact hP.isHermitian.eq.symm))
    fun ⟨v', _, hv⟩ => (negWitness_not_posSemidef A v' _ hv).1 hP

theorem unitaryV_yes {c : ChoiForm} {rk : Nat} (h : unitaryV c rk = .yes) :
    c.di = c.dO ∧ rk = 1 ∧ hpV c.J = .yes ∧ 0 < (c.J.trace).re ∧ tpV c.J = .yes := by
  unfold unitaryV at h
  rw [ite_eq_iff_of_left_ne (by decide), ite_eq_iff_of_left_ne (by decide)] at h
  obtain ⟨h1, h2, h⟩ := h
  split at h
  · exact nomatch h
  · exact nomatch h
  · next hH =>
    rw [ite_eq_iff_of_left_ne (by decide)] at h
    exact ⟨by simpa using h1, by simpa using h2, hH, not_le.mp h.1, h.2⟩

theorem unitaryV_no {c : ChoiForm} {rk : Nat} (h : unitaryV c rk = .no) :
    c.di ≠ c.dO ∨ rk ≠ 1 ∨ hpV c.J = .no ∨ (c.J.trace).re ≤ 0 ∨ tpV c.J = .no := by
  unfold unitaryV at h
  rw [ite_self_eq_iff, ite_self_eq_iff] at h
  refine h.imp (by simpa using ·) (Or.imp (by simpa using ·) fun h => ?_)
  split at h
  · next hH => exact Or.inl hH
  · exact nomatch h
  · exact Or.inr (ite_self_eq_iff.mp h)

end Verdicts

end Deciders

section Spectral
open Matrix
open scoped ComplexOrder

variable {n : Type*} [Fintype n] [DecidableEq n]

theorem trace_smul_one_sub_posSemidef {X : Matrix n n ℂ} (hX : X.PosSemidef) :
    (X.trace • (1 : Matrix n n ℂ) - X).PosSemidef := by
  rw [trace_eq_re_of_psd hX]
  exact Toq.Metrics.trace_smul_one_sub_posSemidef hX

end Spectral

section ChoiConstructors
open Toq.ChannelProps Toq.ChanPropSpec Matrix
open scoped ComplexOrder

def toT {di dO : Nat} (f : Nat → Nat → ℂ) : Toq.ChanPropSpec.TMat di dO :=
  fun p q => f (p.1.val * dO + p.2.val) (q.1.val * dO + q.2.val)

theorem toT_apply {di dO : Nat} (f : Nat → Nat → ℂ) (i j : Fin di) (a b : Fin dO) :
    (toT f : TMat di dO) (i, a) (j, b) = f (i.val * dO + a.val) (j.val * dO + b.val) := rfl

theorem idx_inj {d : Nat} (p q : Fin d × Fin d) : p.1.val * d + p.2.val = q.1.val * d + q.2.val ↔ p = q := by
  rw [← Toq.finProdFinEquiv_val, ← Toq.finProdFinEquiv_val, Fin.val_inj]
  exact finProdFinEquiv.apply_eq_iff_eq

theorem psi_eq_maxEntVec {d : Nat} (p : Fin d × Fin d) :
    (psi d (p.1.val * d + p.2.val) : ℂ) = maxEntVec d p := by
  unfold psi maxEntVec
  rw [Nat.mul_add_div_of_lt p.2.isLt, Nat.mul_add_mod_of_lt p.2.isLt]
  simp only [Fin.ext_iff]

theorem star_maxEntVec (d : Nat) : star (maxEntVec d) = maxEntVec d := by
  funext p
  simp only [Pi.star_apply, maxEntVec]
  split_ifs <;> simp

theorem star_choiDiag (a b c : ℝ) (P : Nat) : star (choiDiag (a : ℂ) b c P) = choiDiag (a : ℂ) b c P := by
  unfold choiDiag; split <;> simp

theorem psi_mul_self (d P : Nat) : (psi d P : ℂ) * psi d P = psi d P := by
  unfold psi; split_ifs <;> simp

/-- entry-level Choi matrices of the shape `diag(D) + c·ψψᴴ`: `depolarizing` (`D = (1-p)/d`, `c = p`), `dephasing`
    (`D = (1-p)·ψ`, `c = p`), `reduction` (`D = k`, `c = -1`), `choi` (`D = choiDiag`, `c = -1`) -/
def genChoi (d : Nat) (D : Nat → ℂ) (c : ℂ) : Nat → Nat → ℂ := fun P Q =>
  (if P = Q then D P else 0) + c * (psi d P * psi d Q)

def dpsi (d : Nat) (D : Fin d × Fin d → ℂ) (c : ℂ) : TMat d d :=
  diagonal D + c • vecMulVec (maxEntVec d) (star (maxEntVec d))

theorem dpsi_smul (d : Nat) (α : ℂ) (P : Fin d × Fin d → ℂ) (c : ℂ) :
    dpsi d (fun q => α * P q) c = α • diagonal P + c • vecMulVec (maxEntVec d) (star (maxEntVec d)) := by
  rw [dpsi, ← diagonal_smul]
  rfl

theorem dpsi_const (d : Nat) (α c : ℂ) :
    dpsi d (fun _ => α) c = α • (1 : TMat d d) + c • vecMulVec (maxEntVec d) (star (maxEntVec d)) := by
  rw [dpsi, smul_one_eq_diagonal]

theorem toT_gen (d : Nat) (D : Nat → ℂ) (c : ℂ) :
    (toT (genChoi d D c) : TMat d d) = dpsi d (fun p => D (p.1.val * d + p.2.val)) c := by
  ext p q
  simp only [toT, genChoi, dpsi, psi_eq_maxEntVec, idx_inj, Matrix.add_apply, Matrix.smul_apply, smul_eq_mul,
    Matrix.diagonal_apply, vecMulVec_apply, star_maxEntVec]

theorem toT_depol (d : Nat) (p : ℂ) : (toT (depolChoi d p) : TMat d d) = dpsi d (fun _ => (1 - p) / (d : ℂ)) p := by
  have e : depolChoi d p = genChoi d (fun _ => (1 - p) / (d : ℂ)) p := by
    funext P Q
    simp only [depolChoi, genChoi, delta, mul_ite, mul_one, mul_zero, ite_div, zero_div]
  rw [e, toT_gen]

theorem toT_deph (d : Nat) (p : ℂ) : (toT (dephChoi d p) : TMat d d) = dpsi d (fun q => (1 - p) * maxEntVec d q) p := by
  have e : dephChoi d p = genChoi d (fun P => (1 - p) * psi d P) p := by
    funext P Q
    simp only [dephChoi, genChoi, psi_mul_self, mul_ite, mul_zero]
  rw [e, toT_gen]
  simp only [psi_eq_maxEntVec]

/-- the two closed forms at a real parameter, with real coefficients as the positivity statements want them -/
theorem toT_depol_real (d : Nat) (p : ℝ) :
    (toT (depolChoi d (p : ℂ)) : TMat d d)
      = (((1 - p) / d : ℝ) : ℂ) • (1 : TMat d d) + (p : ℂ) • vecMulVec (maxEntVec d) (star (maxEntVec d)) := by
  rw [toT_depol, dpsi_const]
  push_cast
  rfl

theorem toT_deph_real (d : Nat) (p : ℝ) :
    (toT (dephChoi d (p : ℂ)) : TMat d d)
      = ((1 - p : ℝ) : ℂ) • diagonal (maxEntVec d) + (p : ℂ) • vecMulVec (maxEntVec d) (star (maxEntVec d)) := by
  rw [toT_deph, dpsi_smul]
  push_cast
  rfl

theorem toT_reduction (d : Nat) (k : ℂ) : (toT (reductionChoi d k) : TMat d d) = dpsi d (fun _ => k) (-1) := by
  have e : reductionChoi d k = genChoi d (fun _ => k) (-1) := by
    funext P Q
    simp only [reductionChoi, genChoi, delta, mul_ite, mul_one, mul_zero, neg_one_mul, sub_eq_add_neg]
  rw [e, toT_gen]

theorem toT_choiMap (a b c : ℂ) :
    (toT (choiMapChoi a b c) : TMat 3 3) = dpsi 3 (fun p => choiDiag a b c (p.1.val * 3 + p.2.val)) (-1) := by
  have e : choiMapChoi a b c = genChoi 3 (choiDiag a b c) (-1) := by
    funext P Q
    simp only [choiMapChoi, genChoi, neg_one_mul, sub_eq_add_neg]
  rw [e, toT_gen]

theorem dpsi_posSemidef (d : Nat) (D : Fin d × Fin d → ℂ) (c : ℂ) (hD : ∀ p, 0 ≤ D p) (hc : 0 ≤ c) :
    (dpsi d D c).PosSemidef :=
  (PosSemidef.diagonal hD).add ((posSemidef_vecMulVec_self_star _).smul hc)

theorem dpsi_isHermitian (d : Nat) (D : Fin d × Fin d → ℂ) (c : ℂ) (hD : ∀ p, star (D p) = D p) (hc : star c = c) :
    (dpsi d D c).IsHermitian := by
  refine IsHermitian.add (isHermitian_diagonal_iff.mpr fun p => hD p) ?_
  rw [IsHermitian, conjTranspose_smul, conjTranspose_vecMulVec, star_star, hc]

theorem ofChoi_diagonal {di dO : Nat} (D : Fin di × Fin dO → ℂ) (X : Matrix (Fin di) (Fin di) ℂ) :
    ofChoi (diagonal D) X = diagonal fun a => ∑ i, X i i * D (i, a) := by
  ext a b
  rw [ofChoi_apply', diagonal_apply]
  split_ifs with h
  · subst h
    refine Finset.sum_congr rfl fun i _ => ?_
    rw [Finset.sum_eq_single i (fun j _ hj => by rw [diagonal_apply_ne _ (fun e => hj (Prod.ext_iff.mp e).1.symm), mul_zero])
      (fun hi => absurd (Finset.mem_univ i) hi), diagonal_apply_eq]
  · exact Finset.sum_eq_zero fun i _ => Finset.sum_eq_zero fun j _ => by
      rw [diagonal_apply_ne _ (fun e => h (Prod.ext_iff.mp e).2), mul_zero]

theorem ofChoi_maxEnt {d : Nat} (X : Matrix (Fin d) (Fin d) ℂ) :
    ofChoi (vecMulVec (maxEntVec d) (star (maxEntVec d))) X = X := by
  ext a b
  simp only [ofChoi_apply', vecMulVec_apply, star_maxEntVec, maxEntVec, mul_ite, mul_one, mul_zero,
    Finset.sum_ite_eq', Finset.mem_univ, if_true]

theorem ofChoi_dpsi (d : Nat) (D : Fin d × Fin d → ℂ) (c : ℂ) (X : Matrix (Fin d) (Fin d) ℂ) :
    ofChoi (dpsi d D c) X = diagonal (fun a => ∑ i, X i i * D (i, a)) + c • X := by
  rw [dpsi, ofChoi_add, ofChoi_smul, LinearMap.add_apply, LinearMap.smul_apply, ofChoi_diagonal, ofChoi_maxEnt]

theorem sum_choiDiag (a b c : ℂ) (x : Fin 3 → ℂ) (s : Fin 3) :
    ∑ i : Fin 3, x i * choiDiag a b c (i.val * 3 + s.val) = (a + 1) * x s + b * x (s + 1) + c * x (s + 2) := by
  rw [Fin.sum_univ_three]
  fin_cases s
  · show x 0 * (a + 1) + x 1 * b + x 2 * c = (a + 1) * x 0 + b * x 1 + c * x 2
    ring
  · show x 0 * c + x 1 * (a + 1) + x 2 * b = (a + 1) * x 1 + b * x 2 + c * x 0
    ring
  · show x 0 * b + x 1 * c + x 2 * (a + 1) = (a + 1) * x 2 + b * x 0 + c * x 1
    ring

theorem sum_maxEnt {d : Nat} (f : Fin d × Fin d → ℂ) :
    ∑ p, maxEntVec d p * f p = ∑ i, f (i, i) := by
  rw [Fintype.sum_prod_type]
  simp only [maxEntVec, ite_mul, one_mul, zero_mul, Finset.sum_ite_eq, Finset.mem_univ, if_true]

theorem maxEnt_dot_self (d : Nat) : maxEntVec d ⬝ᵥ maxEntVec d = (d : ℂ) := by
  unfold dotProduct
  rw [sum_maxEnt]
  simp only [maxEntVec, if_true, Finset.sum_const, Finset.card_univ, Fintype.card_fin, nsmul_eq_mul, mul_one]

theorem quad_vecMulVec {N : Type*} [Fintype N] (v x : N → ℂ) :
    star x ⬝ᵥ (vecMulVec v (star v) *ᵥ x) = (star x ⬝ᵥ v) * (star v ⬝ᵥ x) := by
  rw [vecMulVec_mulVec, op_smul_eq_smul, dotProduct_smul, smul_eq_mul, mul_comm]

/-- `diag(D) + c·ψψᴴ` is not positive semidefinite when the quadratic form at `ψ`, `Σ_i D(i,i) + c·d²`, is negative -/
theorem dpsi_not_psd (d : Nat) (D : Fin d × Fin d → ℂ) (c : ℂ) (s : ℝ) (hs : ∑ i, D (i, i) + c * (d * d) = (s : ℂ))
    (h : s < 0) : ¬ (dpsi d D c).PosSemidef := by
  intro hp
  have h2 := hp.dotProduct_mulVec_nonneg (maxEntVec d)
  rw [dpsi, add_mulVec, smul_mulVec, dotProduct_add, dotProduct_smul, quad_vecMulVec, star_maxEntVec, maxEnt_dot_self,
    smul_eq_mul] at h2
  have e : maxEntVec d ⬝ᵥ (diagonal D *ᵥ maxEntVec d) = ∑ i, D (i, i) := by
    simp only [dotProduct, mulVec_diagonal]
    rw [sum_maxEnt]
    simp only [maxEntVec, if_true, mul_one]
  rw [e, hs, Complex.zero_le_real] at h2
  exact absurd h2 (not_le.mpr h)

end ChoiConstructors

section KrausConstructors
open Toq.ChannelProps Toq.ChanPropSpec Matrix

def toSq (d : Nat) (f : Nat → Nat → ℂ) : Matrix (Fin d) (Fin d) ℂ := fun i j => f i.val j.val

theorem toSq_eq_toM (d : Nat) (f : Nat → Nat → ℂ) : toSq d f = Toq.ChannelOps.toM d d f := rfl

def fam2 (l : List (Nat → Nat → ℂ)) : Fin l.length → Matrix (Fin 2) (Fin 2) ℂ := fun k => toSq 2 (l.get k)

theorem toSq_apply (d : Nat) (f : Nat → Nat → ℂ) (i j : Fin d) : toSq d f i j = f i.val j.val := rfl

-- a `2 × 2` matrix is the literal of its four entries (`eta_fin_two`), and here each entry reduces to the one claimed
theorem toSq_m22 (a b c d : ℂ) : toSq 2 (m22 a b c d) = !![a, b; c, d] :=
  (eta_fin_two _).trans rfl

/-- the two amplitudes `√x`, `√(1-x)` of a qubit constructor with parameter `0 ≤ x ≤ 1` -/
theorem sq_sqrt_add_sq_sqrt_one_sub {x : ℝ} (h0 : 0 ≤ x) (h1 : x ≤ 1) : Real.sqrt x ^ 2 + Real.sqrt (1 - x) ^ 2 = 1 := by
  rw [Real.sq_sqrt h0, Real.sq_sqrt (sub_nonneg.mpr h1), add_sub_cancel]

theorem ofReal_sq_add_sq {s c : ℝ} (h : s ^ 2 + c ^ 2 = 1) : (s : ℂ) ^ 2 + (c : ℂ) ^ 2 = 1 := by
  rw [← Complex.ofReal_pow, ← Complex.ofReal_pow, ← Complex.ofReal_add, h, Complex.ofReal_one]

theorem sum_fam2 {M : Type*} [AddCommMonoid M] (l : List (Nat → Nat → ℂ)) (F : Matrix (Fin 2) (Fin 2) ℂ → M) :
    ∑ k, F (fam2 l k) = (l.map fun K => F (toSq 2 K)).sum :=
  Fin.sum_univ_fun_getElem l fun K => F (toSq 2 K)

theorem krausMap_fam2 (l : List (Nat → Nat → ℂ)) (X : Matrix (Fin 2) (Fin 2) ℂ) :
    krausMap (fam2 l) X = (l.map fun K => toSq 2 K * X * (toSq 2 K)ᴴ).sum :=
  sum_fam2 l fun K => K * X * Kᴴ

theorem conjTranspose_fin_two_of (a b c d : ℂ) : (!![a, b; c, d])ᴴ = !![star a, star c; star b, star d] :=
  (eta_fin_two _).trans rfl

theorem add_fin_two_of (a b c d a' b' c' d' : ℂ) :
    !![a, b; c, d] + !![a', b'; c', d'] = !![a + a', b + b'; c + c', d + d'] :=
  (eta_fin_two _).trans rfl

theorem smul_fin_two_of (r a b c d : ℂ) : r • !![a, b; c, d] = !![r * a, r * b; r * c, r * d] :=
  (eta_fin_two _).trans rfl

theorem fin_two_of_congr {a b c d a' b' c' d' : ℂ} (h₁ : a = a') (h₂ : b = b') (h₃ : c = c') (h₄ : d = d') :
    !![a, b; c, d] = !![a', b'; c', d'] := by
  rw [h₁, h₂, h₃, h₄]

theorem fin_two_of_eq_zero {a b c d : ℂ} (h : !![a, b; c, d] = 0) : a = 0 ∧ b = 0 ∧ c = 0 ∧ d = 0 :=
  ⟨congrFun (congrFun h 0) 0, congrFun (congrFun h 0) 1, congrFun (congrFun h 1) 0, congrFun (congrFun h 1) 1⟩

theorem sandwich_fin_two (a b c d : ℂ) (X : Matrix (Fin 2) (Fin 2) ℂ) :
    !![a, b; c, d] * X * (!![a, b; c, d])ᴴ
      = !![(a * X 0 0 + b * X 1 0) * star a + (a * X 0 1 + b * X 1 1) * star b,
           (a * X 0 0 + b * X 1 0) * star c + (a * X 0 1 + b * X 1 1) * star d;
           (c * X 0 0 + d * X 1 0) * star a + (c * X 0 1 + d * X 1 1) * star b,
           (c * X 0 0 + d * X 1 0) * star c + (c * X 0 1 + d * X 1 1) * star d] := by
  rw [conjTranspose_fin_two_of]
  nth_rewrite 1 [eta_fin_two X]
  rw [mul_fin_two, mul_fin_two]

theorem gram_fin_two (a b c d : ℂ) :
    (!![a, b; c, d])ᴴ * !![a, b; c, d]
      = !![star a * a + star c * c, star a * b + star c * d; star b * a + star d * c, star b * b + star d * d] := by
  rw [conjTranspose_fin_two_of, mul_fin_two]

theorem star_m22 (a b c d : ℂ) (i j : Nat) :
    star (m22 a b c d i j) = m22 (star a) (star b) (star c) (star d) i j := by
  unfold m22
  split <;> first | rfl | exact star_zero _

/-- **The driver's direct application formula `Σ_K K X Kᵀ` is the Kraus map** on every list of operators with real entries. -/
theorem applyReal2_eq_krausMap (l : List (Nat → Nat → ℂ)) (hreal : ∀ K ∈ l, ∀ i j, star (K i j) = K i j)
    (X : Nat → Nat → ℂ) (a b : Fin 2) :
    applyReal2 l X a b = krausMap (fam2 l) (toSq 2 X) a b := by
  rw [krausMap_apply, Matrix.sum_apply, sum_fam2 l fun K => (K * toSq 2 X * Kᴴ) a b]
  unfold applyReal2
  rw [← List.sum_eq_foldl]
  refine congrArg List.sum (List.map_congr_left fun K hK => ?_)
  simp only [sumN_eq_sum_fin, Matrix.mul_apply, Matrix.conjTranspose_apply, toSq_apply, hreal K hK,
    Finset.sum_mul]
  exact Finset.sum_comm

theorem dec_const_eq_div_mod (d : Nat) : ∀ (q a t : Nat), t < q → dec (fun _ => d) q a t = a / d ^ (q - 1 - t) % d
  | q + 1, a, t, ht => by
    rw [dec]
    split_ifs with h
    · rw [h, Nat.add_sub_cancel, Nat.sub_self, pow_zero, Nat.div_one]
    · have hq : t < q := Nat.lt_of_le_of_ne (Nat.le_of_lt_succ ht) h
      rw [dec_const_eq_div_mod d q (a / d) t hq, Nat.div_div_eq_div_mul, ← pow_succ',
        show q + 1 - 1 - t = q - 1 - t + 1 by omega]

/-- a row index of a `q`-qubit operator and its binary digits, most significant first -/
def bitsEquiv (q : Nat) : Fin (2 ^ q) ≃ (Fin q → Fin 2) :=
  (finCongr (prodN_const 2 q).symm).trans (digitsEquiv (fun _ => 2) q)

theorem bitsEquiv_apply (q : Nat) (a : Fin (2 ^ q)) (t : Fin q) : (bitsEquiv q a t : Nat) = a / 2 ^ (q - 1 - t) % 2 :=
  dec_const_eq_div_mod 2 q a t t.2

/-- a Pauli string is the tensor product `piKron` of its factors in these digits; unitarity and Hermiticity are then those of the
    four single-qubit matrices (`piKron_mul`, `piKron_conjTranspose`, `piKron_one`) -/
theorem toSq_pauliString (q j : Nat) :
    toSq (2 ^ q) (pauliString Complex.I q j)
      = (Toq.ExtGames.piKron fun t : Fin q => toSq 2 (pauli1 Complex.I (pauliDigit q j t))).submatrix (bitsEquiv q)
          (bitsEquiv q) := by
  ext a b
  rw [submatrix_apply, Toq.ExtGames.piKron_apply, toSq_apply, pauliString, prodFn_eq_prod, ← Fin.prod_univ_eq_prod_range]
  exact Finset.prod_congr rfl fun t _ => by rw [toSq_apply, bitsEquiv_apply, bitsEquiv_apply]

end KrausConstructors

section Ties
open Toq.ChannelProps Toq.ChanPropSpec Matrix

def matC (di dO : Nat) (M : Toq.ChannelOps.Mat QI) : Matrix (Fin dO) (Fin di) ℂ :=
  fun a i => (M.e a.val i.val).toC

theorem matC_eq_fnToM (di dO : Nat) (M : Toq.ChannelOps.Mat QI) : matC di dO M = Toq.Rank.fnToM dO di M.e := rfl

theorem matC_apply (di dO : Nat) (M : Toq.ChannelOps.Mat QI) (a : Fin dO) (i : Fin di) : matC di dO M a i = (M.e a.val i.val).toC := rfl

theorem foldl_add_toC (l : List QI) : ∀ acc : QI,
    (l.foldl (· + ·) acc).toC = acc.toC + (l.map QI.toC).sum := by
  induction l with
  | nil => intro acc; simp
  | cons x xs ih =>
    intro acc
    rw [List.foldl_cons, ih, QI.toC_add, List.map_cons, List.sum_cons, add_assoc]

theorem sum_zip_eq_sum_fin {α : Type} (g : α → α → ℂ) : ∀ (as bs : List α) (hl : as.length = bs.length),
    ((as.zip bs).map fun ab => g ab.1 ab.2).sum
      = ∑ k : Fin as.length, g as[k] (bs[k.val]'(hl ▸ k.isLt)) := by
  intro as
  induction as with
  | nil => intro bs hl; simp
  | cons x xs ih =>
    intro bs hl
    cases bs with
    | nil => simp at hl
    | cons y ys =>
      have hl' : xs.length = ys.length := by simpa using hl
      rw [List.zip_cons_cons, List.map_cons, List.sum_cons, ih ys hl']
      simp only [List.length_cons]
      rw [Fin.sum_univ_succ]
      rfl

theorem toC_foldl_zip {α : Type} (f : α × α → QI) (g : α → α → ℂ) (as bs : List α) (hl : as.length = bs.length)
    (hfg : ∀ ab ∈ as.zip bs, (f ab).toC = g ab.1 ab.2) :
    (((as.zip bs).map f).foldl (· + ·) 0).toC = ∑ k : Fin as.length, g as[k] (bs[k.val]'(hl ▸ k.isLt)) := by
  rw [foldl_add_toC, QI.toC_zero, zero_add, List.map_map, ← sum_zip_eq_sum_fin g as bs hl]
  exact congrArg List.sum (List.map_congr_left hfg)
end Ties

section ExactRank
open Toq.ChannelProps Matrix

def qmToM (r c : Nat) (M : QM) : Matrix (Fin r) (Fin c) ℂ := fun i j => (M.get i.val j.val).toC

theorem _root_.Toq.ChannelProps.QM.get_ofFn (r c : Nat) (f : Nat → Nat → QI) (i j : Nat) (hi : i < r) (hj : j < c) :
    (QM.ofFn r c f).get i j = f i j := by
  unfold QM.ofFn QM.get
  simp [hi, hj]

theorem toQM_get (c : ChoiForm) (p q : Nat) (hp : p < c.di * c.dO) (hq : q < c.di * c.dO) :
    c.toQM.get p q = c.J.get ⟨p, hp⟩ ⟨q, hq⟩ := by
  unfold ChoiForm.toQM
  rw [QM.get_ofFn _ _ _ _ _ hp hq, dif_pos ⟨hp, hq⟩]

theorem qmToM_toQM (c : ChoiForm) : qmToM (c.di * c.dO) (c.di * c.dO) c.toQM = c.J.toM :=
  Matrix.ext fun p q => congrArg QI.toC (toQM_get c p.val q.val p.isLt q.isLt)

theorem qmToM_eq_fnToM (r c : Nat) (M : QM) : qmToM r c M = Toq.Rank.fnToM r c M.get := rfl

theorem rank_toChoi {di dO : Nat} (J : EMat (di * dO) (di * dO)) : (toChoi J).rank = J.toM.rank := by
  rw [toChoi_eq_submatrix, Matrix.rank_submatrix]

theorem trace_toChoi {di dO : Nat} (J : EMat (di * dO) (di * dO)) : (toChoi J).trace = J.toM.trace := by
  rw [toChoi_eq_submatrix]
  exact Matrix.trace_submatrix_equiv finProdFinEquiv J.toM

theorem rankQ_toQM (c : ChoiForm) : rankQ (c.di * c.dO) (c.di * c.dO) c.toQM = (toChoi c.J).rank := by
  rw [rank_toChoi, ← qmToM_toQM, qmToM_eq_fnToM]
  exact Toq.Rank.rankFn_eq_rank _ _ _

end ExactRank

section Guards
open Toq.ChannelProps

theorem inUnit_iff (x : Rat) : inUnit x = true ↔ 0 ≤ x ∧ x ≤ 1 := by
  simp only [inUnit, Bool.and_eq_true, decide_eq_true_eq]

/-- a range guard `if !inUnit x then <error> else …` is passed exactly on the unit interval -/
theorem not_inUnit_iff (x : Rat) : ¬ (!inUnit x) = true ↔ 0 ≤ x ∧ x ≤ 1 := by
  rw [Bool.not_eq_true', Bool.not_eq_false, inUnit_iff]

/-- the shape test of the three qubit constructors: no input, or a `2 × 2` input -/
theorem shapeGuard_ok_iff (shape : Option (Nat × Nat)) :
    (match shape with
      | some s => if s != (2, 2) then Guard.inputShape else Guard.ok
      | none => Guard.ok) = Guard.ok ↔ shape = none ∨ shape = some (2, 2) := by
  cases shape with
  | none => simp only [true_or]
  | some s => simp only [ite_eq_iff_of_left_ne (show Guard.inputShape ≠ Guard.ok by decide), bne_iff_ne, ne_eq, not_not, and_true,
      reduceCtorEq, false_or, Option.some.injEq]

end Guards

end Toq.ChanPropProofs
