import Toq.Proofs.MatrixOps
import Toq.Proofs.MatrixOpsSpectral
/-!
# The definiteness deciders are sound for all sizes

`psdV`, `pdV` (hence `densityV`, `ensembleV`, `pureV`, `mixedV`) answer `yes` / `no` only after a proved
certificate checker has accepted a certificate that the model computes itself (`isPSDCertified`: `A = L·diag(D)·Lᴴ`, `D ≥ 0`;
`notPSDShift`: a direction `x` with `xᴴ(A + μI)x < 0`).  So their verdicts mean what they say about the complex matrix the exact
input denotes, with Mathlib's `Matrix.PosSemidef` / `Matrix.PosDef` and eigenvalues.
-/

namespace Toq.MatrixPreds
open Toq.MatrixOps Toq.Rank Matrix
open scoped ComplexOrder MatrixOrder

theorem toEMat_toM (A : Mat QI) (n m : Nat) : (toEMat A n m).toM = fnToM n m A.f := toM_ofFn_val n m A.f

theorem fnToM_addScalarDiag (n : Nat) (A : Mat QI) (t : Rat) :
    fnToM n n (addScalarDiag A t).f = fnToM n n A.f + (((t : Rat) : ℝ) : ℂ) • (1 : Matrix (Fin n) (Fin n) ℂ) := by
  ext i j
  simp only [fnToM, addScalarDiag, Matrix.add_apply, Matrix.smul_apply, Matrix.one_apply, Fin.ext_iff]
  by_cases h : i.val = j.val
  · simp only [h, ↓reduceIte, QI.toC_add, smul_eq_mul, mul_one]
    congr 1
    apply Complex.ext <;> simp
  · simp [h]

theorem fnToM_force_sq (A : Mat QI) (h : A.r = A.c) : fnToM A.r A.r (force A).f = fnToM A.r A.r A.f :=
  fnToM_force_of_le A le_rfl h.le

theorem isPSDCertified_sound (A : Mat QI) (h : isPSDCertified A = true) : (fnToM A.r A.r A.f).PosSemidef := by
  unfold isPSDCertified at h
  simp only [Bool.and_eq_true] at h
  have := psdCertLDL_sound _ _ _ h.2
  rwa [toEMat_toM] at this

theorem notPSDShift_sound (A : Mat QI) (μ : Rat) (h : notPSDShift A μ = true) :
    ¬ (fnToM A.r A.r A.f + (((μ : Rat) : ℝ) : ℂ) • (1 : Matrix (Fin A.r) (Fin A.r) ℂ)).PosSemidef := by
  unfold notPSDShift at h
  simp only [] at h
  split at h
  · cases h
  · have := npsdCert_sound _ _ _ h
    rwa [toEMat_toM] at this

/-! The deciders run the certificate checkers on the stored matrix `force A`, which denotes the same complex matrix. -/

theorem isPSDCertified_force_sound (A : Mat QI) (hsq : A.r = A.c) (h : isPSDCertified (force A) = true) :
    (fnToM A.r A.r A.f).PosSemidef := by
  have := isPSDCertified_sound (force A) h
  rwa [force_r A, fnToM_force_sq A hsq] at this

/-- the `no` branch of both `psdV` and `pdV`: an eigenvalue below `-μ` for `μ = margin·(1 + scale) > 0` -/
theorem notPSDShift_force_eigenvalue (A : Mat QI) (hsq : A.r = A.c) (hA : (fnToM A.r A.r A.f).IsHermitian) (m : Rat)
    (hm : 0 < m) (h : notPSDShift (force A) (m * (1 + maxAbs1 (force A))) = true) :
    ∃ μ : Rat, 0 < μ ∧ ∃ i, hA.eigenvalues i < -((μ : Rat) : ℝ) := by
  have := notPSDShift_sound (force A) _ h
  rw [force_r A, fnToM_force_sq A hsq] at this
  exact ⟨_, margin_pos hm (force A),
    (Toq.MatrixSpectral.not_posSemidef_shift_iff _ hA _).mp this⟩

theorem psdV_yes_iff (A : Mat QI) (m : Rat) :
    psdV A m = .yes ↔ hermitianV A m = .yes ∧ isPSDCertified (force A) = true := by
  unfold psdV
  cases hermitianV A m <;> simp only [reduceCtorEq, false_and, true_and]
  exact Verdict.chain_yes_iff _ _

theorem psdV_no_iff (A : Mat QI) (m : Rat) :
    psdV A m = .no ↔ hermitianV A m = .no ∨ (hermitianV A m = .yes ∧ isPSDCertified (force A) = false ∧
      notPSDShift (force A) (m * (1 + maxAbs1 (force A))) = true) := by
  unfold psdV
  cases hermitianV A m <;> simp only [reduceCtorEq, false_and, true_and, or_false, false_or]
  exact (Verdict.chain_no_iff _ _).trans (by rw [Bool.not_eq_true])

/-- the exact Hermiticity test of `is_positive_definite` (`np.array_equal(mat, mat.conj().T)`, made on the stored matrix) -/
theorem eqExact_force_ctranspose_iff (A : Mat QI) (hsq : A.r = A.c) :
    eqExact (force A) (ctranspose (force A)) = true ↔ ∀ i j, i < A.r → j < A.c → A.f i j = (A.f j i).conj := by
  rw [eqExact_iff, force_r, force_c]
  refine forall₄_congr fun i j hi hj => ?_
  show (force A).f i j = ((force A).f j i).conj ↔ _
  rw [force_f A i j hi hj, force_f A j i (hsq ▸ hj) (hsq ▸ hi)]

theorem pdV_yes_iff (A : Mat QI) (m : Rat) :
    pdV A m = .yes ↔ A.r = A.c ∧ (∀ i j, i < A.r → j < A.c → A.f i j = (A.f j i).conj) ∧
      isPSDCertified (force (addScalarDiag (force A) (-(m * (1 + maxAbs1 (force A)))))) = true := by
  unfold pdV
  -- the squareness guard, the exact Hermiticity guard, then the cascade on the two certificates
  rw [squareGuard_yes_iff, Verdict.guard_yes_iff, Verdict.chain_yes_iff]
  exact and_congr_right fun hsq => and_congr_left' (eqExact_force_ctranspose_iff A hsq)

theorem pdV_no_iff (A : Mat QI) (m : Rat) :
    pdV A m = .no ↔ A.r ≠ A.c ∨ (∃ i j, i < A.r ∧ j < A.c ∧ A.f i j ≠ (A.f j i).conj) ∨
      (isPSDCertified (force (addScalarDiag (force A) (-(m * (1 + maxAbs1 (force A)))))) = false ∧
        notPSDShift (force A) (m * (1 + maxAbs1 (force A))) = true) := by
  unfold pdV
  rw [squareGuard_no_iff, Verdict.guard_no_iff, Verdict.chain_no_iff]
  refine or_congr_right' fun hsq => or_congr ?_ (and_congr_left' (Bool.not_eq_true _).to_iff)
  rw [← Bool.not_eq_true, eqExact_force_ctranspose_iff A (not_not.mp hsq)]
  push Not
  rfl

theorem psdV_yes_sound (A : Mat QI) (m : Rat) (h : psdV A m = .yes) :
    A.r = A.c ∧ (fnToM A.r A.r A.f).PosSemidef := by
  obtain ⟨hh, hc⟩ := (psdV_yes_iff A m).mp h
  have hsq : A.r = A.c := ((hermitianV_yes_iff A m).mp hh).1
  exact ⟨hsq, isPSDCertified_force_sound A hsq hc⟩

theorem addScalarDiag_r (A : Mat QI) (t : Rat) : (addScalarDiag A t).r = A.r := rfl
theorem addScalarDiag_c (A : Mat QI) (t : Rat) : (addScalarDiag A t).c = A.c := rfl

/-- the shift is `t = −margin·(1 + scale) < 0`; the certificate is checked on the stored shifted matrix -/
theorem pdV_yes_sound (A : Mat QI) (m : Rat) (hm : 0 < m) (h : pdV A m = .yes) :
    A.r = A.c ∧ ∃ t : Rat, t < 0 ∧
      (fnToM A.r A.r A.f + (((t : Rat) : ℝ) : ℂ) • (1 : Matrix (Fin A.r) (Fin A.r) ℂ)).PosSemidef := by
  obtain ⟨hsq, -, hc⟩ := (pdV_yes_iff A m).mp h
  refine ⟨hsq, _, neg_neg_of_pos (margin_pos hm (force A)), ?_⟩
  have h1 := isPSDCertified_force_sound (addScalarDiag (force A) _)
    (by rw [addScalarDiag_r, addScalarDiag_c, force_r, force_c]; exact hsq) hc
  rwa [addScalarDiag_r, force_r, fnToM_addScalarDiag, fnToM_force_sq A hsq] at h1

theorem traceQ_toC (A : Mat QI) : (traceQ A).toC = (fnToM A.r A.r A.f).trace :=
  (fnToM_trace A.r A.f).symm

theorem traceQ_mul_toC (A : Mat QI) (hsq : A.r = A.c) :
    (traceQ (mul (force A) (force A))).toC = (fnToM A.r A.r A.f * fnToM A.r A.r A.f).trace := by
  have hr : (mul (force A) (force A)).r = A.r := by rw [mul, force_r]
  rw [traceQ_toC, hr, fnToM_mul A.r A.r A.r (force A) (force A) (by rw [force_c, hsq]), fnToM_force_sq A hsq]

/-- the rational `p = Re tr ρ²` that `pureV` compares with `1` and `1 − 2m` -/
theorem re_traceQ_mul (A : Mat QI) (hsq : A.r = A.c) :
    (((traceQ (mul (force A) (force A))).re : Rat) : ℝ) = (fnToM A.r A.r A.f * fnToM A.r A.r A.f).trace.re :=
  congrArg Complex.re (traceQ_mul_toC A hsq)

end Toq.MatrixPreds
