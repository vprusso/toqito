import Toq.Model.PartialOpsArgs
import Toq.Proofs.PartialTrace
import Toq.Proofs.PartialTranspose
/-!
# Argument decoding and the cvxpy branch (`Toq/Model/PartialOpsArgs.lean`)

A front end is a `do` block in `Except`: it returns `r` iff each step returns and the last returns `r`
(`Except.bind_eq_ok`), which gives the accepted-iff lemmas `…Args_eq_ok_iff`; the steps are characterised
separately (`roundSqrt_unique`, `checkSys_ok_iff`, `expandDim_*`, `ptDecodeDim_*`), and for list arguments the two are put
together (`partialTraceArgs_list_eq_ok_iff`, `partialTransposeArgs_two_eq_ok_iff`).  The cvxpy `Variable`
branch agrees with the numeric one because the front ends commute with entrywise (additive) maps
(`partialTraceArgs_map`, `partialTransposeArgs_map`).
-/
open Toq.Perms Toq.PTrace Toq.C01 Toq.Spec
namespace Toq.PartialOps

theorem roundSqrt_least (N : Nat) :
    N ≤ roundSqrt N * roundSqrt N + roundSqrt N ∧ ∀ j, j < roundSqrt N → ¬ N ≤ j * j + j := by
  unfold roundSqrt
  cases h : (List.range (N + 1)).find? (fun r => decide (N ≤ r * r + r)) with
  | none =>
    exfalso
    rw [List.find?_eq_none] at h
    have := h N (List.mem_range.mpr (by omega))
    simp only [decide_eq_true_eq] at this
    exact this (Nat.le_add_left N (N * N))
  | some r =>
    rw [List.find?_range_eq_some] at h
    simp only [decide_eq_true_eq, List.mem_range] at h
    simp only [Option.getD_some]
    exact ⟨h.1, fun j hj => by have := h.2.2 j hj; simpa using this⟩

/-- the intervals `(r² - r, r² + r]` are increasing in `r` -/
theorem sq_add_le_sq_sub {q r : Nat} (h : q < r) : q * q + q ≤ r * r - r := by
  have : (q + 1) * q ≤ r * (r - 1) := Nat.mul_le_mul h (Nat.le_sub_one_of_lt h)
  rwa [Nat.succ_mul, Nat.mul_sub_one] at this

theorem roundSqrt_bounds (N : Nat) (hN : 0 < N) :
    roundSqrt N * roundSqrt N - roundSqrt N < N ∧ N ≤ roundSqrt N * roundSqrt N + roundSqrt N := by
  obtain ⟨h1, h2⟩ := roundSqrt_least N
  refine ⟨?_, h1⟩
  generalize roundSqrt N = r at h2
  rcases r with _ | q
  · exact hN
  · -- `(q + 1)² - (q + 1) = q² + q`: the lower bound for `q + 1` is the upper bound for `q`
    rw [← Nat.mul_sub_one, Nat.add_sub_cancel, Nat.succ_mul]
    exact Nat.lt_of_not_le (h2 q (Nat.lt_succ_self q))

/-- the intervals are disjoint, so the one containing `N` determines `roundSqrt N` -/
theorem roundSqrt_unique (N r : Nat) (h1 : r * r - r < N) (h2 : N ≤ r * r + r) : roundSqrt N = r := by
  obtain ⟨b, least⟩ := roundSqrt_least N
  rcases Nat.lt_trichotomy (roundSqrt N) r with h | h | h
  · exact absurd (Nat.lt_of_le_of_lt (b.trans (sq_add_le_sq_sub h)) h1) (Nat.lt_irrefl N)
  · exact h
  · exact absurd h2 (least r h)

theorem roundSqrt_mul_self (r : Nat) : roundSqrt (r * r) = r := by
  rcases Nat.eq_zero_or_pos r with rfl | hr
  · rfl
  · apply roundSqrt_unique
    · have : 0 < r * r := Nat.mul_pos hr hr
      omega
    · omega

theorem map_toNat_ofNat (S : List Nat) : (S.map Int.ofNat).map Int.toNat = S := by
  induction S with
  | nil => rfl
  | cons a t ih => simp [ih]

/-- the `IndexError` and negative-index guards both pass exactly when every index is in `0..n-1` -/
theorem checkSys_guards (n : Nat) (sys : List Int) :
    (¬ sys.any (fun s => decide ((n : Int) ≤ s) || decide (s < -(n : Int))) = true ∧
      ¬ sys.any (fun s => decide (s < 0)) = true) ↔ ∀ x ∈ sys, 0 ≤ x ∧ x < n := by
  simp only [Bool.not_eq_true, List.any_eq_false, Bool.or_eq_true, decide_eq_true_eq, not_or, not_le, not_lt]
  exact ⟨fun h x hx => ⟨h.2 x hx, (h.1 x hx).1⟩,
    fun h => ⟨fun x hx => ⟨(h x hx).2, by have := (h x hx).1; omega⟩, fun x hx => (h x hx).1⟩⟩

theorem checkSys_ok (n : Nat) (S : List Nat) (front : Bool) (hnd : S.Nodup) (hlt : ∀ s ∈ S, s < n) :
    checkSys n (S.map Int.ofNat) front = .ok S := by
  obtain ⟨h1, h2⟩ := (checkSys_guards n (S.map Int.ofNat)).mpr (fun x hx => by
    obtain ⟨a, ha, rfl⟩ := List.mem_map.mp hx
    have := hlt a ha
    constructor <;> (simp only [Int.ofNat_eq_natCast]; omega))
  unfold checkSys
  rw [if_neg h1, if_neg h2, map_toNat_ofNat]
  dsimp only
  -- the list tested, with `sys` in front or at the end, lists every subsystem once
  have hp : (if front then S ++ setDiff n S else setDiff n S ++ S).Perm (List.range n) := by
    rw [setDiff_eq_others]
    cases front
    · exact others_append_perm n S hnd hlt
    · exact append_others_perm n S hnd hlt
  have hlen : (if front then S ++ setDiff n S else setDiff n S ++ S).length = n := by
    rw [hp.length_eq, List.length_range]
  rw [hlen, (isPerm_eq_true_iff n _).mpr (isPermN_of_perm n _ hp)]
  rfl

theorem checkSys_ok_iff (n : Nat) (sys : List Int) (front : Bool) (S : List Nat) :
    checkSys n sys front = .ok S ↔ sys = S.map Int.ofNat ∧ S.Nodup ∧ ∀ s ∈ S, s < n := by
  refine ⟨fun h => ?_, fun ⟨hS, hnd, hlt⟩ => hS ▸ checkSys_ok n S front hnd hlt⟩
  unfold checkSys at h
  -- `h1`, `h2`: the `IndexError` and the negative-index guard did not fire; `h3`: the permutation test passed
  split at h
  · cases h
  next h1 =>
    split at h
    · cases h
    next h2 =>
      have hneg := (checkSys_guards n sys).mp ⟨h1, h2⟩
      dsimp only at h
      generalize hP : (if front = true then sys.map Int.toNat ++ setDiff n (sys.map Int.toNat)
        else setDiff n (sys.map Int.toNat) ++ sys.map Int.toNat) = P at h
      split at h
      next h3 =>
        injection h with h
        subst h
        refine ⟨?_, ?_, ?_⟩
        · rw [List.map_map]
          conv_lhs => rw [← List.map_id sys]
          exact List.map_congr_left (fun x hx => by
            simp only [Function.comp, Int.ofNat_eq_natCast, id]
            have := (hneg x hx).1
            omega)
        · -- `S` is a block of the list that passed `sorted(perm) == list(range(len(perm)))`
          have hp := nodup_of_isPermN P ((isPerm_eq_true_iff _ _).mp h3)
          subst hP
          cases front
          · exact (List.nodup_append.mp hp).2.1
          · exact (List.nodup_append.mp hp).1
        · intro s hs
          obtain ⟨x, hx, rfl⟩ := List.mem_map.mp hs
          have := hneg x hx
          omega
      · cases h

theorem expandDim_of_length (N : Nat) (l : List Nat) (h : l.length ≠ 1) : expandDim N l = .ok l := by
  unfold expandDim
  split
  · simp at h
  · rfl

/-- the guard `d ≠ 0 ∧ N % d = 0` of the scalar `dim` forms (`expandDim`, `ptScalar`) -/
theorem scalarGuard_iff {N d : Nat} : (d ≠ 0 ∧ N % d = 0) ↔ (0 < d ∧ d ∣ N) :=
  and_congr Nat.pos_iff_ne_zero.symm (Nat.dvd_iff_mod_eq_zero ..).symm

theorem not_scalarGuard {N d : Nat} (h : d = 0 ∨ ¬ d ∣ N) : ¬ (d ≠ 0 ∧ N % d = 0) :=
  fun g => h.elim g.1 (fun h => h (scalarGuard_iff.mp g).2)

theorem expandDim_scalar (N d : Nat) (hd : 0 < d) (hdiv : d ∣ N) : expandDim N [d] = .ok [d, N / d] :=
  if_pos (scalarGuard_iff.mpr ⟨hd, hdiv⟩)

theorem expandDim_scalar_reject (N d : Nat) (h : d = 0 ∨ ¬ d ∣ N) : expandDim N [d] = .error .InvalidDim :=
  if_neg (not_scalarGuard h)

theorem decodeDim_list (N : Nat) (l : List Nat) : decodeDim N (.list l) = expandDim N l := rfl
theorem decodeDim_scalar (N d : Nat) : decodeDim N (.scalar d) = expandDim N [d] := rfl

theorem decodeDim_omitted_eq (N : Nat) :
    decodeDim N .omitted
      = (if roundSqrt N * roundSqrt N = N then Except.ok [roundSqrt N] else Except.error Rej.InvalidDim) >>= expandDim N := rfl

theorem decodeDim_omitted (N : Nat) (h : roundSqrt N * roundSqrt N = N) :
    decodeDim N .omitted = expandDim N [roundSqrt N] := by
  rw [decodeDim_omitted_eq, if_pos h]
  rfl

theorem decodeDim_omitted_reject (N : Nat) (h : roundSqrt N * roundSqrt N ≠ N) :
    decodeDim N .omitted = .error .InvalidDim := by
  rw [decodeDim_omitted_eq, if_neg h]
  rfl

theorem _root_.Except.bind_eq_ok {ε α β : Type} (x : Except ε α) (f : α → Except ε β) (r : β) :
    (x >>= f) = .ok r ↔ ∃ a, x = .ok a ∧ f a = .ok r := by
  cases x with
  | error e => exact ⟨nofun, fun ⟨_, h, _⟩ => nomatch h⟩
  | ok a => exact ⟨fun h => ⟨a, rfl, h⟩, fun ⟨_, h, h'⟩ => by cases h; exact h'⟩

/-- a guard `if c then throw e` before the final `return v` -/
theorem _root_.Except.ite_error_eq_ok {ε β : Type} (c : Prop) [Decidable c] (e : ε) (v r : β) :
    (if c then Except.error e else Except.ok v) = Except.ok r ↔ ¬ c ∧ r = v := by
  by_cases h : c
  · rw [if_pos h]; exact ⟨nofun, fun h' => absurd h h'.1⟩
  · rw [if_neg h]; exact ⟨fun h' => ⟨h, (Except.ok.inj h').symm⟩, fun h' => h'.2 ▸ rfl⟩

/-! The three front ends look at `dim` only through its decoder: two `dim` forms that decode alike give the same call, and a `dim` the
decoder rejects is rejected with the decoder's error. -/

theorem partialTraceArgs_congr_dim {α : Type} [Add α] [Zero α] (X : Nat → Nat → α) (N : Nat) (sys : SysArg) {dim dim' : DimArg}
    (h : decodeDim N dim = decodeDim N dim') : partialTraceArgs X N sys dim = partialTraceArgs X N sys dim' := by
  unfold partialTraceArgs
  rw [h]

theorem partialTraceArgs_of_decodeDim_error {α : Type} [Add α] [Zero α] (X : Nat → Nat → α) (N : Nat) (sys : SysArg) {dim : DimArg}
    {e : Rej} (h : decodeDim N dim = .error e) : partialTraceArgs X N sys dim = .error e := by
  unfold partialTraceArgs
  rw [h]
  rfl

theorem partialTransposeArgs_congr_dim {α : Type} (X : Nat → Nat → α) (R C : Nat) (sys : SysArg) {dim dim' : PTDimArg}
    (h : ptDecodeDim R C dim = ptDecodeDim R C dim') : partialTransposeArgs X R C sys dim = partialTransposeArgs X R C sys dim' := by
  unfold partialTransposeArgs
  rw [h]

theorem partialTransposeArgs_of_ptDecodeDim_error {α : Type} (X : Nat → Nat → α) (R C : Nat) (sys : SysArg) {dim : PTDimArg}
    {e : Rej} (h : ptDecodeDim R C dim = .error e) : partialTransposeArgs X R C sys dim = .error e := by
  unfold partialTransposeArgs
  rw [h]
  rfl

theorem realignmentArgs_congr_dim {α : Type} (X : Nat → Nat → α) (R C : Nat) {dim dim' : RDimArg}
    (h : realignDecodeDim R C dim = realignDecodeDim R C dim') : realignmentArgs X R C dim = realignmentArgs X R C dim' := by
  unfold realignmentArgs
  rw [h]

theorem partialTraceArgs_eq_ok_iff {α : Type} [Add α] [Zero α] (X : Nat → Nat → α) (N : Nat) (sys : SysArg)
    (dim : DimArg) (r : Nat × (Nat → Nat → α)) :
    partialTraceArgs X N sys dim = .ok r ↔
      ∃ dl S, decodeDim N dim = .ok dl ∧ checkSys dl.length sys.toList false = .ok S ∧
        prodN (fnOfList dl) dl.length = N ∧
        r = (N / prodList (fnOfList dl) S, partialTrace X dl.length (fnOfList dl) S) := by
  unfold partialTraceArgs
  simp only [Except.bind_eq_ok]
  refine exists_congr fun dl => ?_
  rw [← exists_and_left]
  refine exists_congr fun S => and_congr_right fun _ => and_congr_right fun _ => ?_
  exact (Except.ite_error_eq_ok _ Rej.InvalidDim _ r).trans (and_congr_left' not_not)

theorem partialTraceArgs_list_eq_ok_iff {α : Type} [Add α] [Zero α] (X : Nat → Nat → α) (N : Nat) (hN : 0 < N) (dl : List Nat)
    (hlen : dl.length ≠ 1) (sys : List Int) (r : Nat × (Nat → Nat → α)) :
    partialTraceArgs X N (.list sys) (.list dl) = .ok r ↔
      ∃ S : List Nat, (sys = S.map Int.ofNat ∧ S.Nodup ∧ ∀ s ∈ S, s < dl.length) ∧
        prodN (fnOfList dl) dl.length = N ∧
        r = (subDim (fnOfList dl) (others dl.length S), partialTrace X dl.length (fnOfList dl) S) := by
  have he : decodeDim N (.list dl) = .ok dl := expandDim_of_length N dl hlen
  -- the shape the model reports, once the checks have passed
  have shape : ∀ S : List Nat, (sys = S.map Int.ofNat ∧ S.Nodup ∧ ∀ s ∈ S, s < dl.length) → prodN (fnOfList dl) dl.length = N →
      N / prodList (fnOfList dl) S = subDim (fnOfList dl) (others dl.length S) := fun S hS hprod => by
    have hd := prodN_pos_of_lt (fnOfList dl) dl.length 0 (hprod ▸ hN)
    rw [← hprod]
    exact prodN_div_prodList dl.length (fnOfList dl) S hd hS.2.1 hS.2.2
  rw [partialTraceArgs_eq_ok_iff, he]
  constructor
  · rintro ⟨dl', S, h, hs, hprod, hr⟩
    cases h
    have hS := (checkSys_ok_iff _ _ _ _).mp hs
    exact ⟨S, hS, hprod, by rw [hr, shape S hS hprod]⟩
  · rintro ⟨S, hS, hprod, hr⟩
    exact ⟨dl, S, rfl, (checkSys_ok_iff _ _ _ _).mpr hS, hprod, by rw [hr, shape S hS hprod]⟩

theorem partialTrace_map {α β : Type} [Add α] [Zero α] [Add β] [Zero β] (φ : α → β) (h0 : φ 0 = 0)
    (hadd : ∀ a b, φ (a + b) = φ a + φ b) (X : Nat → Nat → α) (n : Nat) (dims : Nat → Nat)
    (S : List Nat) (i j : Nat) :
    partialTrace (fun r c => φ (X r c)) n dims S i j = φ (partialTrace X n dims S i j) := by
  obtain ⟨T, f, g, h⟩ := partialTrace_gather n dims S i j
  rw [h, h, sumN_map φ h0 hadd]

/-- the three checks do not look at the entries -/
theorem partialTraceArgs_map {α β : Type} [Add α] [Zero α] [Add β] [Zero β] (φ : α → β) (h0 : φ 0 = 0)
    (hadd : ∀ a b, φ (a + b) = φ a + φ b) (X : Nat → Nat → α) (N : Nat) (sys : SysArg) (dim : DimArg) :
    partialTraceArgs (fun r c => φ (X r c)) N sys dim
      = (partialTraceArgs X N sys dim).map (fun r => (r.1, fun i j => φ (r.2 i j))) := by
  unfold partialTraceArgs
  cases decodeDim N dim with
  | error e => rfl
  | ok dl =>
    cases hS : checkSys dl.length sys.toList false with
    | error e => simp only [bind, Except.bind, Except.map, hS]
    | ok S =>
      simp only [bind, Except.bind, Except.map, hS]
      -- the size check
      split
      · rfl
      · simp only [pure, Except.pure]
        congr 2
        funext i j
        exact partialTrace_map φ h0 hadd X _ _ _ i j

/-- `partial_transpose` only moves entries, so its front end commutes with every entrywise map -/
theorem partialTransposeArgs_map {α β : Type} (f : α → β) (X : Nat → Nat → α) (R C : Nat) (sys : SysArg)
    (dim : PTDimArg) :
    partialTransposeArgs (fun r c => f (X r c)) R C sys dim
      = (partialTransposeArgs X R C sys dim).map (fun r => (r.1, r.2.1, fun i j => f (r.2.2 i j))) := by
  unfold partialTransposeArgs
  cases ptDecodeDim R C dim with
  | error e => rfl
  | ok p =>
    cases hS : checkSys p.1.length sys.toList true with
    | error e => simp only [bind, Except.bind, Except.map, hS]
    | ok S =>
      simp only [bind, Except.bind, Except.map, hS]
      -- the size check
      split
      · rfl
      · rfl

theorem leaves_sumN (f : Nat → CvxExpr) : ∀ T,
    (sumN T f).leaves = (List.range T).flatMap (fun t => (f t).leaves)
  | 0 => rfl
  | T + 1 => by
    show (sumN T f).leaves ++ (f T).leaves = _
    rw [leaves_sumN f T, List.range_succ, List.flatMap_append]; simp

theorem partialTransposeArgs_eq_ok_iff {α : Type} (X : Nat → Nat → α) (R C : Nat) (sys : SysArg)
    (dim : PTDimArg) (r : Nat × Nat × (Nat → Nat → α)) :
    partialTransposeArgs X R C sys dim = .ok r ↔
      ∃ rl cl S, ptDecodeDim R C dim = .ok (rl, cl) ∧ checkSys rl.length sys.toList true = .ok S ∧
        prodN (fnOfList rl) rl.length = R ∧ prodN (fnOfList cl) rl.length = C ∧
        r = (R / prodList (fnOfList rl) S * prodList (fnOfList cl) S,
             C / prodList (fnOfList cl) S * prodList (fnOfList rl) S,
             partialTranspose X rl.length (fnOfList rl) (fnOfList cl) S) := by
  unfold partialTransposeArgs
  simp only [Except.bind_eq_ok, Prod.exists]
  refine exists_congr fun rl => exists_congr fun cl => ?_
  rw [← exists_and_left]
  refine exists_congr fun S => and_congr_right fun _ => and_congr_right fun _ => ?_
  exact (Except.ite_error_eq_ok _ Rej.InvalidDim _ r).trans
    ((and_congr_left' (not_or.trans (and_congr not_not not_not))).trans and_assoc)

theorem realignmentArgs_eq_ok_iff {α : Type} (X : Nat → Nat → α) (R C : Nat) (dim : RDimArg)
    (r : Nat × Nat × (Nat → Nat → α)) :
    realignmentArgs X R C dim = .ok r ↔
      ∃ r0 r1 c0 c1, realignDecodeDim R C dim = .ok ((r0, r1), (c0, c1)) ∧ r0 * r1 = R ∧ c0 * c1 = C ∧
        r = (r0 * c0, r1 * c1, realignment X r0 r1 c0 c1) := by
  unfold realignmentArgs
  simp only [Except.bind_eq_ok, Prod.exists]
  refine exists_congr fun r0 => exists_congr fun r1 => exists_congr fun c0 => exists_congr fun c1 =>
    and_congr_right fun _ => ?_
  exact (Except.ite_error_eq_ok _ Rej.InvalidDim _ r).trans
    ((and_congr_left' (not_or.trans (and_congr not_not not_not))).trans and_assoc)

theorem realignmentArgs_two_eq_ok_iff {α : Type} (X : Nat → Nat → α) (R C r0 r1 c0 c1 : Nat) (r : Nat × Nat × (Nat → Nat → α)) :
    realignmentArgs X R C (.two r0 r1 c0 c1) = .ok r ↔
      r0 * r1 = R ∧ c0 * c1 = C ∧ r = (r0 * c0, r1 * c1, realignment X r0 r1 c0 c1) := by
  rw [realignmentArgs_eq_ok_iff]
  constructor
  · rintro ⟨a0, a1, b0, b1, hd, h⟩
    cases hd
    exact h
  · exact fun h => ⟨r0, r1, c0, c1, rfl, h⟩

/-- only a one-element first row is read differently (`.two [r] [c]`); any other first row goes to the equal-length test -/
theorem ptDecodeDim_two (R C : Nat) (rl cl : List Nat) (hlen : rl.length = cl.length)
    (hn : rl.length ≠ 1) : ptDecodeDim R C (.two rl cl) = .ok (rl, cl) := by
  match rl, hlen, hn with
  | [], hlen, _ => exact if_pos hlen
  | [_], _, hn => exact absurd rfl hn
  | _ :: _ :: _, hlen, _ => exact if_pos hlen

theorem ptDecodeDim_list (R C : Nat) (l : List Nat) (hn : l.length ≠ 1) :
    ptDecodeDim R C (.list l) = .ok (l, l) := by
  match l, hn with
  | [], _ => rfl
  | [_], hn => exact absurd rfl hn
  | _ :: _ :: _, _ => rfl

theorem ptDecodeDim_omitted (R C : Nat) :
    ptDecodeDim R C .omitted = .ok ([roundSqrt R, roundSqrt R], [roundSqrt C, roundSqrt C]) := rfl

theorem ptDecodeDim_scalar (R C d : Nat) (hd : 0 < d) (hdiv : d ∣ R) :
    ptDecodeDim R C (.scalar d) = .ok ([d, R / d], [d, R / d]) :=
  if_pos (scalarGuard_iff.mpr ⟨hd, hdiv⟩)

theorem ptDecodeDim_scalar_reject (R C d : Nat) (h : d = 0 ∨ ¬ d ∣ R) :
    ptDecodeDim R C (.scalar d) = .error .InvalidDim :=
  if_neg (not_scalarGuard h)

theorem partialTransposeArgs_two_eq_ok_iff {α : Type} (X : Nat → Nat → α) (R C : Nat) (hR : 0 < R) (hC : 0 < C) (rl cl : List Nat)
    (hlen : rl.length = cl.length) (hn : rl.length ≠ 1) (sys : List Int) (r : Nat × Nat × (Nat → Nat → α)) :
    partialTransposeArgs X R C (.list sys) (.two rl cl) = .ok r ↔
      ∃ S : List Nat, (sys = S.map Int.ofNat ∧ S.Nodup ∧ ∀ s ∈ S, s < rl.length) ∧
        prodN (fnOfList rl) rl.length = R ∧ prodN (fnOfList cl) rl.length = C ∧
        r = (prodN (pTRowDims (fnOfList rl) (fnOfList cl) S) rl.length, prodN (pTColDims (fnOfList rl) (fnOfList cl) S) rl.length,
             partialTranspose X rl.length (fnOfList rl) (fnOfList cl) S) := by
  have shape : ∀ S : List Nat, (sys = S.map Int.ofNat ∧ S.Nodup ∧ ∀ s ∈ S, s < rl.length) →
      prodN (fnOfList rl) rl.length = R → prodN (fnOfList cl) rl.length = C →
      R / prodList (fnOfList rl) S * prodList (fnOfList cl) S = prodN (pTRowDims (fnOfList rl) (fnOfList cl) S) rl.length ∧
      C / prodList (fnOfList cl) S * prodList (fnOfList rl) S = prodN (pTColDims (fnOfList rl) (fnOfList cl) S) rl.length :=
    fun S hS hpR hpC => by
      have h := pT_shape rl.length (fnOfList rl) (fnOfList cl) S (prodN_pos_of_lt _ _ 0 (hpR ▸ hR))
        (prodN_pos_of_lt _ _ 0 (hpC ▸ hC)) hS.2.1 hS.2.2
      rwa [hpR, hpC] at h
  rw [partialTransposeArgs_eq_ok_iff, ptDecodeDim_two R C rl cl hlen hn]
  constructor
  · rintro ⟨rl', cl', S, h, hs, hpR, hpC, hr⟩
    cases h
    have hS := (checkSys_ok_iff _ _ _ _).mp hs
    exact ⟨S, hS, hpR, hpC, by rw [hr, (shape S hS hpR hpC).1, (shape S hS hpR hpC).2]⟩
  · rintro ⟨S, hS, hpR, hpC, hr⟩
    exact ⟨rl, cl, S, rfl, (checkSys_ok_iff _ _ _ _).mpr hS, hpR, hpC, by rw [hr, (shape S hS hpR hpC).1, (shape S hS hpR hpC).2]⟩

theorem partialTransposeArgs_list {α : Type} (X : Nat → Nat → α) (R C : Nat) (sys : SysArg) (l : List Nat)
    (hn : l.length ≠ 1) :
    partialTransposeArgs X R C sys (.list l) = partialTransposeArgs X R C sys (.two l l) :=
  partialTransposeArgs_congr_dim X R C sys ((ptDecodeDim_list R C l hn).trans (ptDecodeDim_two R C l l rfl hn).symm)

theorem partialTransposeArgs_scalar {α : Type} (X : Nat → Nat → α) (R C d : Nat) (sys : SysArg) (hd : 0 < d)
    (hdiv : d ∣ R) :
    partialTransposeArgs X R C sys (.scalar d) = partialTransposeArgs X R C sys (.list [d, R / d]) :=
  partialTransposeArgs_congr_dim X R C sys (ptDecodeDim_scalar R C d hd hdiv)

end Toq.PartialOps
