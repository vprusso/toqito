import Toq.Model.MatrixPredsDet
import Toq.Proofs.MatrixOps
import Mathlib.LinearAlgebra.Matrix.Determinant.Basic
import Mathlib.LinearAlgebra.Matrix.Adjugate
import Mathlib.LinearAlgebra.Matrix.NonsingularInverse
import Mathlib.Data.List.GetD
/-!
# Correctness of the Laplace determinant, the cofactor inverse and the deciders built on them
(`Toq/Model/MatrixPredsDet.lean`)

`detL` expands along the first row, which is Mathlib's `Matrix.det_succ_row_zero` once deleting a row and a column is read as
`submatrix succAbove`; `adjL` is `Matrix.adjugate_fin_succ_eq_det_submatrix` entry by entry, and `invL = det⁻¹ • adj` is Mathlib's
nonsingular inverse.  On this rest the readings of `is_totally_positive` (`forall_minorsL_iff`: the minors computed, selected by
sorted index lists, are the minors of the denoted matrix at all order embeddings) and of `is_pseudo_hermitian`
(`pseudoHermitianVL_eq`: the branches; then `η H η⁻¹ = Hᴴ` with Mathlib's inverse, the two `ValueError`s, and what a `no` says).
What `mul`, `ctranspose`, `force` and the equation decider `eqV` denote is taken from the end of `Toq/Proofs/MatrixOps.lean`.
-/

namespace Toq.MatrixPreds
open Toq.MatrixOps Toq.Rank Matrix

theorem val_succAbove {n : Nat} (p : Fin (n + 1)) (a : Fin n) :
    (p.succAbove a).val = if a.val < p.val then a.val else a.val + 1 := by
  unfold Fin.succAbove
  by_cases h : a.val < p.val
  · rw [if_pos (by simpa [Fin.lt_def] using h), if_pos h]; rfl
  · rw [if_neg (by simpa [Fin.lt_def] using h), if_neg h]; rfl

theorem fnToM_delFn (n : Nat) (f : Nat → Nat → QI) (i j : Fin (n + 1)) :
    fnToM n n (delFn f i.val j.val) = (fnToM (n + 1) (n + 1) f).submatrix i.succAbove j.succAbove := by
  ext a b
  simp only [fnToM, delFn, submatrix_apply, val_succAbove]

theorem signed_toC (j : Nat) (x : QI) : (if j % 2 = 0 then x else -x).toC = (-1 : ℂ) ^ j * x.toC := by
  by_cases h : j % 2 = 0
  · rw [if_pos h, (Nat.even_iff.mpr h).neg_one_pow, one_mul]
  · rw [if_neg h, QI.toC_neg, (Nat.odd_iff.mpr (by omega)).neg_one_pow, neg_one_mul]

theorem detL_eq_det : ∀ (n : Nat) (f : Nat → Nat → QI), (detL n f).toC = (fnToM n n f).det
  | 0, f => by simp [detL]
  | n + 1, f => by
    rw [detL, QI.toC_sumN, sumN_eq_sum_fin, Matrix.det_succ_row_zero]
    apply Finset.sum_congr rfl
    intro j _
    -- `minorFn f j` is `delFn f 0 j` by unfolding, and `Fin.succ` is `Fin.succAbove 0`
    rw [QI.toC_mul, signed_toC, detL_eq_det n, ← Fin.succAbove_zero, ← fnToM_delFn]
    rfl

theorem fnToM_adjL : ∀ (n : Nat) (f : Nat → Nat → QI), fnToM n n (adjL n f) = (fnToM n n f).adjugate
  | 0, f => by ext i; exact i.elim0
  | n + 1, f => by
    ext i j
    rw [Matrix.adjugate_fin_succ_eq_det_submatrix, ← fnToM_delFn, ← detL_eq_det, ← signed_toC]
    rfl

/-- for a singular block both sides are the zero matrix -/
theorem fnToM_invL (n : Nat) (f : Nat → Nat → QI) : fnToM n n (invL n f) = (fnToM n n f)⁻¹ := by
  rw [Matrix.inv_def, ← fnToM_adjL, Ring.inverse_eq_inv', ← detL_eq_det, ← Toq.Rank.toC_qinv]
  ext i j
  simp only [fnToM, invL, QI.toC_mul, Matrix.smul_apply, smul_eq_mul]
  rfl

theorem idxList_getD_lt {n k : Nat} {l : List Nat} (h : IsIndexList n k l) (a : Nat) (ha : a < k) : l.getD a 0 < n := by
  obtain ⟨h1, _, h3⟩ := h
  have hl : a < l.length := by omega
  rw [List.getD_eq_getElem l 0 hl]
  exact h3 _ (List.getElem_mem hl)

theorem minorVerdict_yes_iff (m : Rat) (d : QI) :
    minorVerdict m d = .yes ↔ d.toC.im = 0 ∧ ((m : ℚ) : ℝ) ≤ d.toC.re := by
  simp only [QI.toC_im, QI.toC_re, Rat.cast_eq_zero, Rat.cast_le]
  exact Verdict.chain_yes_iff _ _

theorem minorVerdict_no_iff (m : Rat) (hm : 0 < m) (d : QI) :
    minorVerdict m d = .no ↔ d.toC.re ≤ -((m : ℚ) : ℝ) ∨ ((m : ℚ) : ℝ) ≤ |d.toC.im| := by
  have e1 : d.toC.re ≤ -((m : ℚ) : ℝ) ↔ d.re ≤ -m := by
    rw [QI.toC_re, ← Rat.cast_neg, Rat.cast_le]
  have e2 : ((m : ℚ) : ℝ) ≤ |d.toC.im| ↔ (m ≤ d.im ∨ d.im ≤ -m) := by
    rw [QI.toC_im, le_abs', ← Rat.cast_neg, Rat.cast_le, Rat.cast_le]
    exact or_comm
  rw [e1, e2]
  refine (Verdict.chain_no_iff _ _).trans (and_iff_right_of_imp ?_)
  -- for a positive margin the `no` condition excludes the `yes` condition
  rintro (h1 | h1 | h1) ⟨h2, h3⟩ <;> linarith

theorem tpSizes_force (A : Mat QI) (ss : Option (List Nat)) : tpSizes (force A) ss = tpSizes A ss := by
  cases ss <;> simp only [tpSizes, force_r, force_c]

def embOfList {n k : Nat} (l : List Nat) (h : IsIndexList n k l) : Fin k ↪o Fin n :=
  OrderEmbedding.ofStrictMono (fun a => ⟨l.getD a.val 0, idxList_getD_lt h a.val a.isLt⟩) (by
    intro a b hab
    show l.getD a.val 0 < l.getD b.val 0
    have ha : a.val < l.length := by have := h.1; omega
    have hb : b.val < l.length := by have := h.1; omega
    rw [List.getD_eq_getElem l 0 ha, List.getD_eq_getElem l 0 hb]
    exact List.pairwise_iff_getElem.mp h.2.1 _ _ ha hb hab)

def listOfEmb {n k : Nat} (e : Fin k ↪o Fin n) : List Nat := List.ofFn (fun a => (e a).val)

theorem listOfEmb_isIndexList {n k : Nat} (e : Fin k ↪o Fin n) : IsIndexList n k (listOfEmb e) := by
  refine ⟨by simp [listOfEmb], ?_, ?_⟩
  · unfold listOfEmb
    rw [List.pairwise_ofFn]
    intro a b hab
    exact e.strictMono hab
  · intro x hx
    unfold listOfEmb at hx
    rw [List.mem_ofFn] at hx
    obtain ⟨a, rfl⟩ := hx
    exact (e a).isLt

theorem listOfEmb_getD {n k : Nat} (e : Fin k ↪o Fin n) (a : Fin k) : (listOfEmb e).getD a.val 0 = (e a).val := by
  rw [List.getD_eq_getElem _ 0 (by simp [listOfEmb])]
  simp [listOfEmb]

/-- `Q` sees a selection (an index list, an order embedding) as a function of the position -/
theorem forall_indexList_iff_orderEmb (n k : Nat) (Q : (Fin k → Nat) → Prop) :
    (∀ l, IsIndexList n k l → Q fun a => l.getD a.val 0) ↔ ∀ e : Fin k ↪o Fin n, Q fun a => (e a).val :=
  ⟨fun h e => by
      have := h _ (listOfEmb_isIndexList e)
      simpa only [listOfEmb_getD] using this,
    fun h l hl => h (embOfList l hl)⟩

theorem forall_minorsL_iff (A : Mat QI) (ss : Option (List Nat)) (P : ℂ → Prop) :
    (∀ d ∈ minorsL (force A) ss, P d.toC) ↔
      ∀ j ∈ tpSizes A ss, ∀ (r : Fin j ↪o Fin A.r) (c : Fin j ↪o Fin A.c), P ((fnToM A.r A.c A.f).submatrix r c).det := by
  -- the selected sub-matrix as a function of the two selections
  let S (j : Nat) (ρ γ : Fin j → Nat) : Matrix (Fin j) (Fin j) ℂ := Matrix.of fun a b => ((force A).f (ρ a) (γ b)).toC
  -- the minors are listed size by size, row selection by row selection, column selection by column selection
  have key : (∀ d ∈ minorsL (force A) ss, P d.toC) ↔ ∀ j ∈ tpSizes A ss, ∀ kr, IsIndexList A.r j kr → ∀ kc, IsIndexList A.c j kc →
      P (S j (fun a => kr.getD a.val 0) (fun b => kc.getD b.val 0)).det := by
    simp only [minorsL, List.forall_mem_flatMap, List.forall_mem_map, mem_combinations_iff, tpSizes_force, force_r, force_c,
      detL_eq_det]
    rfl
  rw [key]
  refine forall₂_congr fun j _ => ?_
  rw [forall_indexList_iff_orderEmb A.r j fun ρ => ∀ kc, IsIndexList A.c j kc → P (S j ρ fun b => kc.getD b.val 0).det]
  refine forall_congr' fun r => ?_
  rw [forall_indexList_iff_orderEmb A.c j fun γ => P (S j (fun a => (r a).val) γ).det]
  refine forall_congr' fun c => ?_
  have e : S j (fun a => (r a).val) (fun b => (c b).val) = (fnToM A.r A.c A.f).submatrix r c := by
    ext a b
    exact congrArg QI.toC (force_f A _ _ (r a).isLt (c b).isLt)
  rw [e]

theorem tpSizes_some (A : Mat QI) (l : List Nat) : tpSizes A (some l) = l := rfl

theorem rank_eq_iff_isUnit_det {n : Nat} (M : Matrix (Fin n) (Fin n) ℂ) : M.rank = n ↔ IsUnit M.det := by
  rw [← Matrix.linearIndependent_col_iff_rank, Matrix.linearIndependent_cols_iff_isUnit,
    Matrix.isUnit_iff_isUnit_det]

theorem rank_eq_iff_isUnit_det_of_sq (η : Mat QI) (hc : η.c = η.r) :
    (fnToM η.r η.c η.f).rank = η.r ↔ IsUnit (fnToM η.r η.r η.f).det := by
  rw [hc]
  exact rank_eq_iff_isUnit_det _

/-- the two guards of `is_pseudo_hermitian` on the signature -/
theorem pseudoSignature_ok_iff (η : Mat QI) (m : Rat) :
    hermitianV η m = .yes ∧ (fnToM η.r η.c η.f).rank = η.r ↔
      η.c = η.r ∧ (fnToM η.r η.r η.f).IsHermitian ∧ IsUnit (fnToM η.r η.r η.f).det := by
  rw [hermitianV_yes_iff_isHermitian, and_assoc]
  exact and_congr_right fun hc => and_congr_right fun _ => rank_eq_iff_isUnit_det_of_sq η hc

theorem rank_ofMat (η : Mat QI) : rank η.r η.c (QMat.ofMat η) = (fnToM η.r η.c η.f).rank :=
  (Toq.Rank.rankFn_eq_rank _ _ _).trans (congrArg Matrix.rank (fnToM_force η))

theorem square_same_size_iff (a b n : Nat) : (a = b ∧ a * b = n * n) ↔ (a = n ∧ b = n) := by
  constructor
  · rintro ⟨rfl, h⟩
    have := Nat.mul_self_inj.mp h
    exact ⟨this, this⟩
  · rintro ⟨rfl, rfl⟩
    exact ⟨rfl, rfl⟩

/-- `signature @ mat @ inv(signature)` as `pseudoHermitianVL` forms it -/
def pseudoLhs (H η : Mat QI) : Mat QI := mul (mul η H) (force ⟨η.r, η.c, invL η.r (force η).f⟩)

/-! The shape of `pseudoLhs` is taken from these two lemmas and never by `rfl` against `η.r`: that unification first tries
`pseudoLhs H η =?= η` and unfolds both matrices entry by entry before it gives up. -/
theorem pseudoLhs_r (H η : Mat QI) : (pseudoLhs H η).r = η.r := by simp only [pseudoLhs, mul]

theorem pseudoLhs_c (H η : Mat QI) : (pseudoLhs H η).c = η.c := by simp only [pseudoLhs, mul, force]

open Classical in
/-- the four branches of `pseudoHermitianVL`, the guards read on the denoted matrices.  The two `ValueError`s differ in their
    message only. -/
theorem pseudoHermitianVL_eq (H η : Mat QI) (m : Rat) :
    pseudoHermitianVL H η m =
      if hermitianV η m = .yes then
        if (fnToM η.r η.c η.f).rank = η.r then
          if H.r = η.r ∧ H.c = η.r then .ok (eqV (pseudoLhs H η) (ctranspose H) m) else .ok .no
        else .error "SignatureNotInvertible"
      else .error "SignatureNotHermitian" := by
  unfold pseudoHermitianVL isSquare
  simp only [bne_iff_ne, ne_eq, rank_ofMat, Bool.or_eq_true, Bool.not_eq_true', beq_eq_false_iff_ne, ← not_and_or, ite_not]
  refine if_ctx_congr Iff.rfl (fun h => if_congr Iff.rfl (if_congr ?_ rfl rfl) rfl) fun _ => rfl
  -- a signature that passes `is_hermitian` is square
  rw [((hermitianV_yes_iff_isHermitian η m).mp h).1]
  exact square_same_size_iff _ _ _

/-- the `ValueError` "Signature not hermitian matrix" is raised exactly when `is_hermitian(signature)` is not `yes`
    (also when the verdict is `unknown`) -/
theorem pseudoHermitianVL_error_notHermitian_iff (H η : Mat QI) (m : Rat) :
    pseudoHermitianVL H η m = .error "SignatureNotHermitian" ↔ hermitianV η m ≠ .yes := by
  rw [pseudoHermitianVL_eq]
  split_ifs <;> simp [*]

theorem pseudoHermitianVL_error_notInvertible_iff_det (H η : Mat QI) (m : Rat) :
    pseudoHermitianVL H η m = .error "SignatureNotInvertible" ↔
      η.c = η.r ∧ (fnToM η.r η.r η.f).IsHermitian ∧ (fnToM η.r η.r η.f).det = 0 := by
  have key : hermitianV η m = .yes ∧ (fnToM η.r η.c η.f).rank ≠ η.r ↔
      η.c = η.r ∧ (fnToM η.r η.r η.f).IsHermitian ∧ (fnToM η.r η.r η.f).det = 0 := by
    rw [hermitianV_yes_iff_isHermitian, and_assoc]
    exact and_congr_right fun hc => and_congr_right fun _ => by
      rw [Ne, rank_eq_iff_isUnit_det_of_sq η hc, isUnit_iff_ne_zero, not_not]
  rw [← key, pseudoHermitianVL_eq]
  split_ifs <;> simp [*]

theorem pseudoHermitianVL_ok_iff (H η : Mat QI) (m : Rat) :
    (∃ v, pseudoHermitianVL H η m = .ok v) ↔
      η.c = η.r ∧ (fnToM η.r η.r η.f).IsHermitian ∧ IsUnit (fnToM η.r η.r η.f).det := by
  rw [← pseudoSignature_ok_iff η m, pseudoHermitianVL_eq]
  split_ifs <;> simp [*]

theorem fnToM_pseudoLhs (H η : Mat QI) (hc : η.c = η.r) (hH : H.c = η.r) :
    fnToM η.r η.r (pseudoLhs H η).f = fnToM η.r η.r η.f * fnToM η.r η.r H.f * (fnToM η.r η.r η.f)⁻¹ := by
  rw [pseudoLhs, fnToM_mul η.r η.r η.r (mul η H) _ hH, fnToM_mul η.r η.r η.r η H hc,
    fnToM_force_of_le ⟨η.r, η.c, invL η.r (force η).f⟩ (n := η.r) (p := η.r) le_rfl hc.ge, fnToM_invL,
    fnToM_force_of_le η le_rfl hc.ge]

theorem pseudo_eqV_yes_iff (H η : Mat QI) (m : Rat) (hc : η.c = η.r) (hH : H.r = η.r ∧ H.c = η.r) :
    eqV (pseudoLhs H η) (ctranspose H) m = .yes ↔
      fnToM η.r η.r η.f * fnToM η.r η.r H.f * (fnToM η.r η.r η.f)⁻¹ = (fnToM η.r η.r H.f)ᴴ := by
  rw [eqV_yes_iff_fnToM (pseudoLhs H η) (ctranspose H) m (pseudoLhs_r H η) ((pseudoLhs_c H η).trans hc) hH.2 hH.1,
    fnToM_pseudoLhs H η hc hH.2, fnToM_ctranspose]

theorem pseudoHermitianVL_yes_iff (H η : Mat QI) (m : Rat) :
    pseudoHermitianVL H η m = .ok .yes ↔
      η.c = η.r ∧ H.r = η.r ∧ H.c = η.r ∧ (fnToM η.r η.r η.f).IsHermitian ∧ IsUnit (fnToM η.r η.r η.f).det ∧
        fnToM η.r η.r η.f * fnToM η.r η.r H.f * (fnToM η.r η.r η.f)⁻¹ = (fnToM η.r η.r H.f)ᴴ := by
  constructor
  · intro hy
    obtain ⟨hc, hh, hu⟩ := (pseudoHermitianVL_ok_iff H η m).mp ⟨_, hy⟩
    rw [pseudoHermitianVL_eq] at hy
    split_ifs at hy with _ _ hH
    · exact ⟨hc, hH.1, hH.2, hh, hu, (pseudo_eqV_yes_iff H η m hc hH).mp (Except.ok.inj hy)⟩
    · cases hy
  · rintro ⟨hc, h1, h2, hh, hu, hx⟩
    obtain ⟨hv, hrk⟩ := (pseudoSignature_ok_iff η m).mpr ⟨hc, hh, hu⟩
    rw [pseudoHermitianVL_eq, if_pos hv, if_pos hrk, if_pos ⟨h1, h2⟩,
      (pseudo_eqV_yes_iff H η m hc ⟨h1, h2⟩).mpr hx]

theorem pseudo_eqV_no_far (H η : Mat QI) (m : Rat) (hc : η.c = η.r) (hH : H.r = η.r ∧ H.c = η.r)
    (hno : eqV (pseudoLhs H η) (ctranspose H) m = .no) :
    ∃ S : ℚ, (∀ i j : Fin η.r, abs1C ((fnToM η.r η.r η.f * fnToM η.r η.r H.f * (fnToM η.r η.r η.f)⁻¹) i j) ≤ (S : ℝ) ∧
        abs1C ((fnToM η.r η.r H.f)ᴴ i j) ≤ (S : ℝ)) ∧
      ∃ i j : Fin η.r, ((m * (1 + S) : ℚ) : ℝ) ≤
        abs1C ((fnToM η.r η.r η.f * fnToM η.r η.r H.f * (fnToM η.r η.r η.f)⁻¹ - (fnToM η.r η.r H.f)ᴴ) i j) := by
  have h := eqV_no_far_fnToM (pseudoLhs H η) (ctranspose H) m (pseudoLhs_r H η) ((pseudoLhs_c H η).trans hc) hH.2 hH.1 hno
  rwa [fnToM_pseudoLhs H η hc hH.2, fnToM_ctranspose] at h

theorem pseudoHermitianVL_no_imp (H η : Mat QI) (m : Rat) (hno : pseudoHermitianVL H η m = .ok .no) :
    η.c = η.r ∧ (fnToM η.r η.r η.f).IsHermitian ∧ IsUnit (fnToM η.r η.r η.f).det ∧
      (¬(H.r = η.r ∧ H.c = η.r) ∨
        ∃ S : ℚ, (∀ i j : Fin η.r,
            abs1C ((fnToM η.r η.r η.f * fnToM η.r η.r H.f * (fnToM η.r η.r η.f)⁻¹) i j) ≤ (S : ℝ) ∧
            abs1C ((fnToM η.r η.r H.f)ᴴ i j) ≤ (S : ℝ)) ∧
          ∃ i j : Fin η.r, ((m * (1 + S) : ℚ) : ℝ) ≤
            abs1C ((fnToM η.r η.r η.f * fnToM η.r η.r H.f * (fnToM η.r η.r η.f)⁻¹ - (fnToM η.r η.r H.f)ᴴ) i j)) := by
  obtain ⟨hc, hh, hu⟩ := (pseudoHermitianVL_ok_iff H η m).mp ⟨_, hno⟩
  refine ⟨hc, hh, hu, ?_⟩
  rw [pseudoHermitianVL_eq] at hno
  split_ifs at hno with _ _ hH
  · exact Or.inr (pseudo_eqV_no_far H η m hc hH (Except.ok.inj hno))
  · exact Or.inl hH

/-- inputs for the examples below: a matrix from its list of rows -/
def rowsFn (rows : List (List QI)) : Nat → Nat → QI := fun i j => (rows.getD i []).getD j 0

def rowsMat (r c : Nat) (rows : List (List QI)) : Mat QI := ⟨r, c, rowsFn rows⟩

/-- `det [[1, i, 2], [0, 1+i, 1], [-i, 3, 1]] = -3 + 3i` -/
example : detL 3 (rowsFn [[⟨1, 0⟩, ⟨0, 1⟩, ⟨2, 0⟩], [⟨0, 0⟩, ⟨1, 1⟩, ⟨1, 0⟩], [⟨0, -1⟩, ⟨3, 0⟩, ⟨1, 0⟩]]) = ⟨-3, 3⟩ := by
  decide +kernel

/-- the Vandermonde matrix `[[1,1,1],[1,2,4],[1,3,9]]` is totally positive (all 19 minors are `≥ 1`) -/
example : totallyPositiveVL (rowsMat 3 3 [[⟨1, 0⟩, ⟨1, 0⟩, ⟨1, 0⟩], [⟨1, 0⟩, ⟨2, 0⟩, ⟨4, 0⟩], [⟨1, 0⟩, ⟨3, 0⟩, ⟨9, 0⟩]])
    none (1 / 1000) = .yes := by
  decide +kernel

/-- `[[1,2],[3,4]]` has determinant `-2`: not totally positive; restricted to `sub_sizes = [1]` it passes -/
example : totallyPositiveVL (rowsMat 2 2 [[⟨1, 0⟩, ⟨2, 0⟩], [⟨3, 0⟩, ⟨4, 0⟩]]) none (1 / 1000) = .no ∧
    totallyPositiveVL (rowsMat 2 2 [[⟨1, 0⟩, ⟨2, 0⟩], [⟨3, 0⟩, ⟨4, 0⟩]]) (some [1]) (1 / 1000) = .yes := by
  decide +kernel

/-- a complex minor: `[[1, i], [1, 1]]` has the non-real determinant `1 - i` -/
example : totallyPositiveVL (rowsMat 2 2 [[⟨1, 0⟩, ⟨0, 1⟩], [⟨1, 0⟩, ⟨1, 0⟩]]) (some [2]) (1 / 1000) = .no := by
  decide +kernel

/-- the docstring example of `is_pseudo_hermitian`: `A = [[1, 1+i], [-1+i, -1]]`, `η = diag(1, -1)` -/
example : pseudoHermitianVL (rowsMat 2 2 [[⟨1, 0⟩, ⟨1, 1⟩], [⟨-1, 1⟩, ⟨-1, 0⟩]])
    (rowsMat 2 2 [[⟨1, 0⟩, ⟨0, 0⟩], [⟨0, 0⟩, ⟨-1, 0⟩]]) (1 / 1000) = .ok .yes := by
  decide +kernel

/-- the second docstring example: `A = [[1, i], [-i, 1]]` is not pseudo-Hermitian for `η = diag(1, -1)` -/
example : pseudoHermitianVL (rowsMat 2 2 [[⟨1, 0⟩, ⟨0, 1⟩], [⟨0, -1⟩, ⟨1, 0⟩]])
    (rowsMat 2 2 [[⟨1, 0⟩, ⟨0, 0⟩], [⟨0, 0⟩, ⟨-1, 0⟩]]) (1 / 1000) = .ok .no := by
  decide +kernel

/-- a non-diagonal complex signature `η = [[0, -i], [i, 0]]` (`σ_y`): `η [[a, b], [c, d]] η⁻¹ = [[d, -c], [-b, a]]`, so
    `H = [[1+i, 2], [3, -1+i]]` is far from pseudo-Hermitian and `H = [[1+i, 2i], [3i, 1-i]]` is pseudo-Hermitian -/
example : pseudoHermitianVL (rowsMat 2 2 [[⟨1, 1⟩, ⟨2, 0⟩], [⟨3, 0⟩, ⟨-1, 1⟩]])
      (rowsMat 2 2 [[⟨0, 0⟩, ⟨0, -1⟩], [⟨0, 1⟩, ⟨0, 0⟩]]) (1 / 1000) = .ok .no ∧
    pseudoHermitianVL (rowsMat 2 2 [[⟨1, 1⟩, ⟨0, 2⟩], [⟨0, 3⟩, ⟨1, -1⟩]])
      (rowsMat 2 2 [[⟨0, 0⟩, ⟨0, -1⟩], [⟨0, 1⟩, ⟨0, 0⟩]]) (1 / 1000) = .ok .yes := by
  decide +kernel

/-- the two `ValueError`s and the shape guard -/
example : pseudoHermitianVL (rowsMat 2 2 [[⟨1, 0⟩, ⟨0, 0⟩], [⟨0, 0⟩, ⟨1, 0⟩]])
      (rowsMat 2 2 [[⟨0, 0⟩, ⟨1, 0⟩], [⟨0, 0⟩, ⟨0, 0⟩]]) (1 / 1000) = .error "SignatureNotHermitian" ∧
    pseudoHermitianVL (rowsMat 2 2 [[⟨1, 0⟩, ⟨0, 0⟩], [⟨0, 0⟩, ⟨1, 0⟩]])
      (rowsMat 2 2 [[⟨1, 0⟩, ⟨1, 0⟩], [⟨1, 0⟩, ⟨1, 0⟩]]) (1 / 1000) = .error "SignatureNotInvertible" ∧
    pseudoHermitianVL (rowsMat 1 1 [[⟨1, 0⟩]])
      (rowsMat 2 2 [[⟨1, 0⟩, ⟨0, 0⟩], [⟨0, 0⟩, ⟨-1, 0⟩]]) (1 / 1000) = .ok .no := by
  decide +kernel

end Toq.MatrixPreds
