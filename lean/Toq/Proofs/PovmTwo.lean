import Toq.Proofs.Povm
import Toq.Proofs.TraceNorm
/-!
# Two-outcome measurements are contractions

A two-outcome measurement is `((1+W)/2, (1−W)/2)` for a contraction `W` (`−1 ⪯ W ⪯ 1`) and conversely, and its value on two
weighted states is `½(p₀ tr ρ₀ + p₁ tr ρ₁) + ½ Re tr(W (p₀ρ₀ − p₁ρ₁))`.  So the set of attained values is the image of
`Toq.Metrics.tnSet (p₀ρ₀ − p₁ρ₁)` under `x ↦ ½T + ½x` (`successValues_two`).  That set is symmetric and its supremum is the trace
norm: the least upper bound of the values is Helstrom's formula (`isLUB_successValues_two`, C10), the greatest lower bound the two-state
exclusion value (`isGLB_successValues_two`, C11).
-/

open Matrix
open scoped ComplexOrder

namespace Toq.Discrim
open Toq.Rand Toq.Metrics

section Generic
variable {ι : Type*} [Fintype ι]

theorem re_trace_mul_half_smul (A B : Matrix ι ι ℂ) :
    (A * ((1 / 2 : ℂ) • B)).trace.re = (A * B).trace.re / 2 := by
  rw [show (1 / 2 : ℂ) = ((1 / 2 : ℝ) : ℂ) by norm_num, re_trace_mul_smul, one_div, inv_mul_eq_div]

variable [DecidableEq ι]

theorem isPOVM_two_of_isContraction {W : Matrix ι ι ℂ} (hW : IsContraction W) :
    IsPOVM ![(1 / 2 : ℂ) • (1 + W), (1 / 2 : ℂ) • (1 - W)] := by
  refine ⟨Fin.forall_fin_two.mpr ⟨hW.2.smul (by positivity), hW.1.smul (by positivity)⟩, (Fin.sum_univ_two _).trans ?_⟩
  show (1 / 2 : ℂ) • (1 + W) + (1 / 2 : ℂ) • (1 - W) = 1
  rw [← smul_add, add_add_sub_cancel, ← two_smul ℂ (1 : Matrix ι ι ℂ), smul_smul]
  norm_num

/-- every two-outcome measurement is of this form: `1 ± (M₀ − M₁) = 2 M₀, 2 M₁` -/
theorem _root_.Toq.Rand.IsPOVM.two_eq {M : Fin 2 → Matrix ι ι ℂ} (hM : IsPOVM M) :
    IsContraction (M 0 - M 1) ∧ M = ![(1 / 2 : ℂ) • (1 + (M 0 - M 1)), (1 / 2 : ℂ) • (1 - (M 0 - M 1))] := by
  have h : M 0 + M 1 = 1 := by rw [← hM.2, Fin.sum_univ_two]
  have e1 : 1 + (M 0 - M 1) = (2 : ℂ) • M 0 := by rw [← h, two_smul]; abel
  have e2 : 1 - (M 0 - M 1) = (2 : ℂ) • M 1 := by rw [← h, two_smul]; abel
  have h2 : (0 : ℂ) ≤ 2 := by norm_num
  refine ⟨?_, ?_⟩
  · unfold IsContraction
    rw [e1, e2]
    exact ⟨(hM.1 1).smul h2, (hM.1 0).smul h2⟩
  · rw [e1, e2, smul_smul, smul_smul, show (1 / 2 * 2 : ℂ) = 1 by norm_num, one_smul, one_smul]
    exact funext (Fin.forall_fin_two.mpr ⟨rfl, rfl⟩)

/-- value of the measurement `((1+W)/2, (1−W)/2)` -/
theorem successProb_two_contraction (ρ : Fin 2 → Matrix ι ι ℂ) (p : Fin 2 → ℝ) (W : Matrix ι ι ℂ) :
    successProb ρ p ![(1 / 2 : ℂ) • (1 + W), (1 / 2 : ℂ) • (1 - W)]
      = (p 0 * (ρ 0).trace.re + p 1 * (ρ 1).trace.re) / 2
        + (W * ((p 0 : ℂ) • ρ 0 - (p 1 : ℂ) • ρ 1)).trace.re / 2 := by
  have hW : (W * ((p 0 : ℂ) • ρ 0 - (p 1 : ℂ) • ρ 1)).trace.re
      = p 0 * (ρ 0 * W).trace.re - p 1 * (ρ 1 * W).trace.re := by
    rw [Matrix.trace_mul_comm, Matrix.sub_mul, Matrix.trace_sub, Complex.sub_re, re_trace_smul_mul,
      re_trace_smul_mul]
  rw [successProb, Fin.sum_univ_two]
  show p 0 * (ρ 0 * ((1 / 2 : ℂ) • (1 + W))).trace.re + p 1 * (ρ 1 * ((1 / 2 : ℂ) • (1 - W))).trace.re = _
  rw [re_trace_mul_half_smul, re_trace_mul_half_smul, hW, Matrix.mul_add, Matrix.mul_sub, Matrix.mul_one,
    Matrix.mul_one, Matrix.trace_add, Matrix.trace_sub, Complex.add_re, Complex.sub_re]
  ring

/-- the values of two-outcome measurements -/
theorem successValues_two (ρ : Fin 2 → Matrix ι ι ℂ) (p : Fin 2 → ℝ) :
    successValues ρ p = (fun x => (p 0 * (ρ 0).trace.re + p 1 * (ρ 1).trace.re) / 2 + x / 2) ''
      tnSet ((p 0 : ℂ) • ρ 0 - (p 1 : ℂ) • ρ 1) := by
  ext v
  constructor
  · rintro ⟨M, hM, rfl⟩
    obtain ⟨hW, e⟩ := IsPOVM.two_eq hM
    exact ⟨_, ⟨M 0 - M 1, hW, rfl⟩, ((congrArg (successProb ρ p) e).trans (successProb_two_contraction ρ p _)).symm⟩
  · rintro ⟨_, ⟨W, hW, rfl⟩, rfl⟩
    exact ⟨_, isPOVM_two_of_isContraction hW, successProb_two_contraction ρ p W⟩

end Generic

/-- least upper bounds pass through the increasing bijection `x ↦ a + x / 2` -/
theorem isLUB_image_add_half {S : Set ℝ} {s : ℝ} (h : IsLUB S s) (a : ℝ) :
    IsLUB ((fun x => a + x / 2) '' S) (a + s / 2) := by
  have := (OrderIso.addLeft a).isLUB_image'.mpr ((OrderIso.mulRight₀ (2⁻¹ : ℝ) (by norm_num)).isLUB_image'.mpr h)
  rwa [Set.image_image] at this

theorem isGLB_image_add_half {S : Set ℝ} {s : ℝ} (h : IsGLB S s) (a : ℝ) :
    IsGLB ((fun x => a + x / 2) '' S) (a + s / 2) := by
  have := (OrderIso.addLeft a).isGLB_image'.mpr ((OrderIso.mulRight₀ (2⁻¹ : ℝ) (by norm_num)).isGLB_image'.mpr h)
  rwa [Set.image_image] at this

section
variable {ι : Type*} [Fintype ι] [DecidableEq ι]

/-- Helstrom's formula -/
theorem isLUB_successValues_two (ρ : Fin 2 → Matrix ι ι ℂ) (p : Fin 2 → ℝ) (hρ : ∀ i, (ρ i).IsHermitian) :
    IsLUB (successValues ρ p)
      ((p 0 * (ρ 0).trace.re + p 1 * (ρ 1).trace.re) / 2 + traceNormV ((p 0 : ℂ) • ρ 0 - (p 1 : ℂ) • ρ 1) / 2) := by
  have h := isLUB_image_add_half (isLUB_tnSet (((hρ 0).smul_ofReal (p 0)).sub ((hρ 1).smul_ofReal (p 1))))
    ((p 0 * (ρ 0).trace.re + p 1 * (ρ 1).trace.re) / 2)
  rwa [← successValues_two] at h

/-- the exclusion value of two states: `tnSet` is symmetric -/
theorem isGLB_successValues_two (ρ : Fin 2 → Matrix ι ι ℂ) (p : Fin 2 → ℝ) (hρ : ∀ i, (ρ i).IsHermitian) :
    IsGLB (successValues ρ p)
      ((p 0 * (ρ 0).trace.re + p 1 * (ρ 1).trace.re) / 2 - traceNormV ((p 0 : ℂ) • ρ 0 - (p 1 : ℂ) • ρ 1) / 2) := by
  have h := isGLB_image_add_half (isGLB_tnSet (((hρ 0).smul_ofReal (p 0)).sub ((hρ 1).smul_ofReal (p 1))))
    ((p 0 * (ρ 0).trace.re + p 1 * (ρ 1).trace.re) / 2)
  rwa [neg_div, ← sub_eq_add_neg, ← successValues_two] at h

end

end Toq.Discrim
