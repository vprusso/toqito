import Toq.Proofs.Bipartite
import Toq.Proofs.Psd
/-!
# Norms of complex vectors and matrices for the separability criteria

`nsq x = Σ |x_i|²` and `frobSq X = Σ |x_ij|²` with the Cauchy–Schwarz inequality; rectangular contractions (`IsContr W`: `1 − WᴴW ⪰ 0`)
and the trace (nuclear) norm in its dual form `‖M‖₁ = sup { Re tr(Wᴴ M) : IsContr W }` (`nucNorm`), shown equal to the sum of the
singular values of any singular value decomposition; every statement `‖M‖₁ ≤ c` is stated as `∀ W, IsContr W → Re tr(Wᴴ M) ≤ c`
(no attainment needed).  The covariance identities behind the Zhang–Zhang–Zhang–Guo bound are here as well.
-/

open Matrix
open scoped ComplexOrder MatrixOrder Kronecker

namespace Toq.Sep

section Nsq
variable {ι κ : Type*} [Fintype ι] [Fintype κ]

noncomputable def nsq (x : ι → ℂ) : ℝ := ∑ i, Complex.normSq (x i)

theorem nsq_nonneg (x : ι → ℂ) : 0 ≤ nsq x :=
  Finset.sum_nonneg fun _ _ => Complex.normSq_nonneg _

theorem star_dotProduct_self (x : ι → ℂ) : star x ⬝ᵥ x = ((nsq x : ℝ) : ℂ) :=
  (dotProduct_comm _ _).trans (dotProduct_self_star_eq_sum_normSq x)

theorem nsq_eq_re (x : ι → ℂ) : nsq x = (star x ⬝ᵥ x).re := by
  rw [star_dotProduct_self, Complex.ofReal_re]

theorem nsq_zero : nsq (0 : ι → ℂ) = 0 := Finset.sum_eq_zero fun _ _ => map_zero _

theorem eq_zero_of_nsq_eq_zero {x : ι → ℂ} (h : nsq x = 0) : x = 0 :=
  funext fun i => Complex.normSq_eq_zero.mp <|
    (Finset.sum_eq_zero_iff_of_nonneg fun i _ => Complex.normSq_nonneg (x i)).mp h i (Finset.mem_univ i)

theorem nsq_star (x : ι → ℂ) : nsq (star x) = nsq x := by
  unfold nsq
  refine Finset.sum_congr rfl fun i _ => ?_
  simp [Complex.normSq_conj]

theorem nsq_smul (c : ℂ) (x : ι → ℂ) : nsq (c • x) = Complex.normSq c * nsq x := by
  unfold nsq
  rw [Finset.mul_sum]
  refine Finset.sum_congr rfl fun i _ => ?_
  simp [Complex.normSq_mul]

theorem nsq_add (u v : ι → ℂ) : nsq (u + v) = nsq u + nsq v + 2 * (star u ⬝ᵥ v).re := by
  unfold nsq dotProduct
  rw [Complex.re_sum, Finset.mul_sum, ← Finset.sum_add_distrib, ← Finset.sum_add_distrib]
  refine Finset.sum_congr rfl fun i _ => ?_
  simp [Complex.normSq_apply]
  ring

theorem nsq_eq_norm_sq (x : ι → ℂ) : nsq x = ‖(WithLp.toLp 2 x : EuclideanSpace ℂ ι)‖ ^ 2 := by
  rw [EuclideanSpace.norm_eq, Real.sq_sqrt (Finset.sum_nonneg fun _ _ => sq_nonneg _)]
  exact Finset.sum_congr rfl fun i _ => Complex.normSq_eq_norm_sq _

theorem normSq_dot_le (u y : ι → ℂ) : Complex.normSq (star u ⬝ᵥ y) ≤ nsq u * nsq y := by
  have h := norm_inner_le_norm (𝕜 := ℂ) (WithLp.toLp 2 u : EuclideanSpace ℂ ι) (WithLp.toLp 2 y)
  rw [EuclideanSpace.inner_eq_star_dotProduct, dotProduct_comm] at h
  rw [Complex.normSq_eq_norm_sq, nsq_eq_norm_sq, nsq_eq_norm_sq, ← mul_pow]
  exact pow_le_pow_left₀ (norm_nonneg _) h 2

theorem re_dot_sq_le (u y : ι → ℂ) : ((star u ⬝ᵥ y).re) ^ 2 ≤ nsq u * nsq y := by
  rw [sq]
  exact (Complex.re_sq_le_normSq _).trans (normSq_dot_le u y)

end Nsq

section Frob
variable {ι κ : Type*} [Fintype ι] [Fintype κ]

noncomputable def frobSq {ι κ : Type*} [Fintype ι] [Fintype κ] (X : Matrix ι κ ℂ) : ℝ :=
  ∑ i, ∑ j, Complex.normSq (X i j)

def vecr (X : Matrix ι κ ℂ) : ι × κ → ℂ := fun p => X p.1 p.2

theorem nsq_vecr (X : Matrix ι κ ℂ) : nsq (vecr X) = frobSq X :=
  Fintype.sum_prod_type _

theorem frobSq_nonneg (X : Matrix ι κ ℂ) : 0 ≤ frobSq X := nsq_vecr X ▸ nsq_nonneg _

theorem frobSq_smul (q : ℝ) (X : Matrix ι κ ℂ) : frobSq ((q : ℂ) • X) = q ^ 2 * frobSq X := by
  rw [← nsq_vecr, ← nsq_vecr, sq, ← Complex.normSq_ofReal, ← nsq_smul]; rfl

theorem eq_zero_of_frobSq_eq_zero {X : Matrix ι κ ℂ} (h : frobSq X = 0) : X = 0 := by
  ext i j
  exact congrFun (eq_zero_of_nsq_eq_zero ((nsq_vecr X).trans h)) (i, j)

theorem frobSq_diagonal {ι : Type*} [Fintype ι] [DecidableEq ι] (d : ι → ℂ) : frobSq (diagonal d) = nsq d :=
  Finset.sum_congr rfl fun i _ => by
    rw [Finset.sum_eq_single i (fun j _ hj => by rw [diagonal_apply_ne _ hj.symm, map_zero]) (by simp),
      diagonal_apply_eq]

end Frob

theorem trace_ct_mul_vecMulVec {ι κ : Type*} [Fintype ι] [Fintype κ] (W : Matrix ι κ ℂ) (u : ι → ℂ) (v : κ → ℂ) :
    (Wᴴ * vecMulVec u v).trace = star (W *ᵥ star v) ⬝ᵥ u := by
  simp only [Matrix.trace, Matrix.diag_apply, Matrix.mul_apply, vecMulVec_apply, dotProduct,
    Matrix.mulVec, Pi.star_apply, conjTranspose_apply, star_sum, star_mul', star_star]
  rw [Finset.sum_comm]
  refine Finset.sum_congr rfl fun i _ => ?_
  rw [Finset.sum_mul]
  refine Finset.sum_congr rfl fun j _ => ?_
  ring

section Contr
variable {ι κ : Type*} [Fintype ι] [Fintype κ] [DecidableEq κ]

/-- `W` (rectangular) has operator norm at most one: `1 − WᴴW ⪰ 0` -/
def IsContr (W : Matrix ι κ ℂ) : Prop := (1 - Wᴴ * W).PosSemidef

theorem IsContr.nsq_mulVec_le {W : Matrix ι κ ℂ} (h : IsContr W) (x : κ → ℂ) :
    nsq (W *ᵥ x) ≤ nsq x := by
  have h1 := h.dotProduct_mulVec_nonneg x
  rw [Matrix.sub_mulVec, dotProduct_sub, Matrix.one_mulVec, ← Matrix.mulVec_mulVec,
    dotProduct_mulVec, ← star_mulVec, star_dotProduct_self, star_dotProduct_self] at h1
  have h2 := (Complex.nonneg_iff.mp h1).1
  simp only [Complex.sub_re, Complex.ofReal_re] at h2
  linarith

theorem IsContr.re_trace_vecMulVec_sq_le {W : Matrix ι κ ℂ} (h : IsContr W) (u : ι → ℂ) (v : κ → ℂ) :
    ((Wᴴ * vecMulVec u v).trace.re) ^ 2 ≤ nsq u * nsq v := by
  rw [trace_ct_mul_vecMulVec]
  refine (re_dot_sq_le _ _).trans ?_
  have := h.nsq_mulVec_le (star v)
  rw [nsq_star] at this
  rw [mul_comm]
  exact mul_le_mul_of_nonneg_left this (nsq_nonneg _)

theorem IsContr.re_trace_vecMulVec_le {W : Matrix ι κ ℂ} (h : IsContr W) {u : ι → ℂ} {v : κ → ℂ} {c : ℝ}
    (hc : 0 ≤ c) (huv : nsq u * nsq v ≤ c ^ 2) : (Wᴴ * vecMulVec u v).trace.re ≤ c :=
  (le_abs_self _).trans (abs_le_of_sq_le_sq ((h.re_trace_vecMulVec_sq_le u v).trans huv) hc)

end Contr

theorem IsContr.zero {ι κ : Type*} [Fintype ι] [DecidableEq κ] : IsContr (0 : Matrix ι κ ℂ) := by
  unfold IsContr; simpa using PosSemidef.one

theorem isContr_of_isometry {ι κ : Type*} [Fintype ι] [DecidableEq κ] {U : Matrix ι κ ℂ} (hU : Uᴴ * U = 1) : IsContr U := by
  unfold IsContr; rw [hU, sub_self]; exact .zero

section Cov
theorem cov_identity {F K : Type*} [CommRing F] (s : Finset K) (p x y : K → F) (hp : ∑ k ∈ s, p k = 1) :
    ∑ k ∈ s, p k * ((x k - ∑ l ∈ s, p l * x l) * (y k - ∑ l ∈ s, p l * y l))
      = ∑ k ∈ s, p k * (x k * y k) - (∑ l ∈ s, p l * x l) * (∑ l ∈ s, p l * y l) := by
  set X := ∑ l ∈ s, p l * x l with hX
  set Y := ∑ l ∈ s, p l * y l with hY
  have e : ∀ k, p k * ((x k - X) * (y k - Y))
      = p k * (x k * y k) - (p k * x k) * Y - X * (p k * y k) + p k * (X * Y) := by
    intro k; ring
  simp_rw [e]
  rw [Finset.sum_add_distrib, Finset.sum_sub_distrib, Finset.sum_sub_distrib, ← Finset.sum_mul,
    ← Finset.mul_sum, ← Finset.sum_mul, hp, ← hX, ← hY]
  ring

theorem var_identity {K : Type*} (s : Finset K) (p : K → ℝ) (x : K → ℂ) (hp : ∑ k ∈ s, p k = 1) :
    ∑ k ∈ s, p k * Complex.normSq (x k - ∑ l ∈ s, (p l : ℂ) * x l)
      = ∑ k ∈ s, p k * Complex.normSq (x k) - Complex.normSq (∑ l ∈ s, (p l : ℂ) * x l) := by
  have hre : (∑ l ∈ s, (p l : ℂ) * x l).re = ∑ l ∈ s, p l * (x l).re := by
    rw [Complex.re_sum]; simp
  have him : (∑ l ∈ s, (p l : ℂ) * x l).im = ∑ l ∈ s, p l * (x l).im := by
    rw [Complex.im_sum]; simp
  have h1 := cov_identity s p (fun k => (x k).re) (fun k => (x k).re) hp
  have h2 := cov_identity s p (fun k => (x k).im) (fun k => (x k).im) hp
  simp only [Complex.normSq_apply, Complex.sub_re, Complex.sub_im, hre, him, mul_add,
    Finset.sum_add_distrib]
  linarith

end Cov

theorem frobSq_var {ι K : Type*} [Fintype ι] (s : Finset K) (p : K → ℝ) (α : K → Matrix ι ι ℂ)
    (hp : ∑ k ∈ s, p k = 1) :
    ∑ k ∈ s, p k * frobSq (α k - ∑ l ∈ s, (p l : ℂ) • α l)
      = ∑ k ∈ s, p k * frobSq (α k) - frobSq (∑ l ∈ s, (p l : ℂ) • α l) := by
  unfold frobSq
  simp_rw [Finset.mul_sum]
  rw [Finset.sum_comm, Finset.sum_comm (s := s) (t := Finset.univ), ← Finset.sum_sub_distrib]
  refine Finset.sum_congr rfl fun i _ => ?_
  rw [Finset.sum_comm, Finset.sum_comm (s := s) (t := Finset.univ), ← Finset.sum_sub_distrib]
  refine Finset.sum_congr rfl fun j _ => ?_
  simp only [Matrix.sub_apply, Matrix.sum_apply, Matrix.smul_apply, smul_eq_mul]
  exact var_identity s p (fun k => α k i j) hp

theorem frobSq_var_le {ι K : Type*} [Fintype ι] (s : Finset K) (p : K → ℝ) (α : K → Matrix ι ι ℂ)
    (hp : ∀ k ∈ s, 0 ≤ p k) (hsum : ∑ k ∈ s, p k = 1) (hf : ∀ k ∈ s, frobSq (α k) ≤ 1) :
    ∑ k ∈ s, p k * frobSq (α k - ∑ l ∈ s, (p l : ℂ) • α l) ≤ 1 - frobSq (∑ l ∈ s, (p l : ℂ) • α l) := by
  rw [frobSq_var s p α hsum, sub_le_sub_iff_right, ← hsum]
  exact Finset.sum_le_sum fun k hk => mul_le_of_le_one_right (hp k hk) (hf k hk)

theorem frobSq_mean_le_one {ι K : Type*} [Fintype ι] (s : Finset K) (p : K → ℝ) (α : K → Matrix ι ι ℂ)
    (hp : ∀ k ∈ s, 0 ≤ p k) (hsum : ∑ k ∈ s, p k = 1) (hf : ∀ k ∈ s, frobSq (α k) ≤ 1) :
    0 ≤ 1 - frobSq (∑ l ∈ s, (p l : ℂ) • α l) :=
  (Finset.sum_nonneg fun k hk => mul_nonneg (hp k hk) (frobSq_nonneg _)).trans (frobSq_var_le s p α hp hsum hf)

/-- `Re tr(A A)` is the form in which `is_separable` computes the purity `tr A²` -/
theorem re_trace_mul_self_of_isHermitian {ι : Type*} [Fintype ι] {A : Matrix ι ι ℂ} (h : A.IsHermitian) :
    (A * A).trace.re = frobSq A := by
  unfold frobSq
  simp only [Matrix.trace, Matrix.diag_apply, Matrix.mul_apply, Complex.re_sum]
  refine Finset.sum_congr rfl fun i _ => Finset.sum_congr rfl fun j _ => ?_
  have : A j i = star (A i j) := by rw [← h.apply j i]
  rw [this, Complex.star_def, Complex.mul_conj]
  simp

section SVD
variable {ι κ r : Type*} [Fintype ι] [Fintype r] [DecidableEq r]

theorem isContr_mul_conjTranspose [Fintype κ] [DecidableEq κ] (U : Matrix ι r ℂ) (V : Matrix κ r ℂ) (hU : Uᴴ * U = 1)
    (hV : Vᴴ * V = 1) : IsContr (U * Vᴴ) := by
  unfold IsContr
  -- `(U Vᴴ)ᴴ (U Vᴴ) = V Vᴴ`, a Hermitian idempotent
  rw [conjTranspose_mul, conjTranspose_conjTranspose, Matrix.mul_conjTranspose_mul_cancel hU]
  exact Toq.Metrics.posSemidef_one_sub_of_idem (isHermitian_mul_conjTranspose_self V) (Matrix.mul_conjTranspose_mul_cancel hV V Vᴴ)

theorem trace_polar_mul_svd [Fintype κ] (U : Matrix ι r ℂ) (V : Matrix κ r ℂ) (σ : r → ℝ) (hU : Uᴴ * U = 1)
    (hV : Vᴴ * V = 1) :
    ((U * Vᴴ)ᴴ * (U * diagonal (fun i => (σ i : ℂ)) * Vᴴ)).trace = ((∑ i, σ i : ℝ) : ℂ) := by
  rw [Matrix.mul_assoc U, conjTranspose_mul, conjTranspose_conjTranspose, Matrix.mul_conjTranspose_mul_cancel hU,
    Matrix.trace_mul_comm, Matrix.mul_assoc, hV, Matrix.mul_one, Matrix.trace_diagonal, Complex.ofReal_sum]

/-- a bound on `Re tr(Wᴴ M)` over all contractions bounds the sum of the singular values of any singular value
decomposition of `M`: test it on the polar factor `W = U Vᴴ` -/
theorem sum_singular_le_of_contr_bound [Fintype κ] [DecidableEq κ] {M : Matrix ι κ ℂ} {c : ℝ}
    (h : ∀ W : Matrix ι κ ℂ, IsContr W → (Wᴴ * M).trace.re ≤ c) (U : Matrix ι r ℂ) (V : Matrix κ r ℂ)
    (σ : r → ℝ) (hU : Uᴴ * U = 1) (hV : Vᴴ * V = 1) (hsvd : M = U * diagonal (fun i => (σ i : ℂ)) * Vᴴ) :
    ∑ i, σ i ≤ c := by
  have h1 := h _ (isContr_mul_conjTranspose U V hU hV)
  rwa [hsvd, trace_polar_mul_svd U V σ hU hV, Complex.ofReal_re] at h1

end SVD

theorem nsq_col_of_orthonormal {ι r : Type*} [Fintype ι] [DecidableEq r] (U : Matrix ι r ℂ) (hU : Uᴴ * U = 1)
    (i : r) : nsq (fun a => U a i) = 1 := by
  rw [nsq_eq_re, show star (fun a => U a i) ⬝ᵥ (fun a => U a i) = (Uᴴ * U) i i from rfl, hU, Matrix.one_apply_eq, Complex.one_re]

theorem svd_as_sum {ι κ r : Type*} [Fintype r] [DecidableEq r] (U : Matrix ι r ℂ) (V : Matrix κ r ℂ)
    (σ : r → ℝ) :
    U * diagonal (fun i => (σ i : ℂ)) * Vᴴ
      = ∑ i, (σ i : ℂ) • vecMulVec (fun a => U a i) (fun b => star (V b i)) := by
  ext a b
  simp only [Matrix.mul_apply, Matrix.diagonal_apply, Matrix.sum_apply, Matrix.smul_apply, vecMulVec_apply,
    conjTranspose_apply, smul_eq_mul, mul_ite, mul_zero, Finset.sum_ite_eq', Finset.mem_univ, if_true]
  refine Finset.sum_congr rfl fun i _ => ?_
  ring

section Nuc
variable {ι κ r : Type*} [Fintype ι] [Fintype κ] [DecidableEq κ]

def nucSet (M : Matrix ι κ ℂ) : Set ℝ := {x | ∃ W : Matrix ι κ ℂ, IsContr W ∧ (Wᴴ * M).trace.re = x}

/-- trace (nuclear) norm in dual form: `‖M‖₁ = sup { Re tr(Wᴴ M) : 1 − WᴴW ⪰ 0 }` -/
noncomputable def nucNorm (M : Matrix ι κ ℂ) : ℝ := sSup (nucSet M)

theorem nucSet_nonempty (M : Matrix ι κ ℂ) : (nucSet M).Nonempty :=
  ⟨0, 0, IsContr.zero, by simp⟩

theorem nucNorm_le {M : Matrix ι κ ℂ} {c : ℝ} (h : ∀ W : Matrix ι κ ℂ, IsContr W → (Wᴴ * M).trace.re ≤ c) :
    nucNorm M ≤ c :=
  csSup_le (nucSet_nonempty M) fun _ ⟨W, hW, hx⟩ => hx ▸ h W hW

theorem nucSet_bddAbove {M : Matrix ι κ ℂ} {c : ℝ} (h : ∀ W : Matrix ι κ ℂ, IsContr W → (Wᴴ * M).trace.re ≤ c) :
    BddAbove (nucSet M) :=
  ⟨c, fun _ ⟨W, hW, hx⟩ => hx ▸ h W hW⟩

theorem le_nucNorm {M : Matrix ι κ ℂ} (h : BddAbove (nucSet M)) {W : Matrix ι κ ℂ} (hW : IsContr W) :
    (Wᴴ * M).trace.re ≤ nucNorm M :=
  le_csSup h ⟨W, hW, rfl⟩

variable [Fintype r] [DecidableEq r]

theorem re_trace_svd_le (U : Matrix ι r ℂ) (V : Matrix κ r ℂ) (σ : r → ℝ) (hU : Uᴴ * U = 1)
    (hV : Vᴴ * V = 1) (hσ : ∀ i, 0 ≤ σ i) {W : Matrix ι κ ℂ} (hW : IsContr W) :
    (Wᴴ * (U * diagonal (fun i => (σ i : ℂ)) * Vᴴ)).trace.re ≤ ∑ i, σ i := by
  rw [svd_as_sum, Matrix.mul_sum, Matrix.trace_sum, Complex.re_sum]
  refine Finset.sum_le_sum fun i _ => ?_
  rw [Matrix.mul_smul, Matrix.re_trace_smul]
  have h2 : (Wᴴ * vecMulVec (fun a => U a i) fun b => star (V b i)).trace.re ≤ 1 := by
    refine hW.re_trace_vecMulVec_le zero_le_one (le_of_eq ?_)
    rw [show nsq (fun b => star (V b i)) = nsq fun b => V b i from nsq_star _, nsq_col_of_orthonormal U hU,
      nsq_col_of_orthonormal V hV, mul_one, one_pow]
  exact mul_le_of_le_one_right (hσ i) h2

theorem nucNorm_eq_sum_of_svd (U : Matrix ι r ℂ) (V : Matrix κ r ℂ) (σ : r → ℝ) (hU : Uᴴ * U = 1)
    (hV : Vᴴ * V = 1) (hσ : ∀ i, 0 ≤ σ i) :
    nucNorm (U * diagonal (fun i => (σ i : ℂ)) * Vᴴ) = ∑ i, σ i := by
  have h := fun W hW => re_trace_svd_le U V σ hU hV hσ (W := W) hW
  exact le_antisymm (nucNorm_le h) (sum_singular_le_of_contr_bound (fun _ => le_nucNorm (nucSet_bddAbove h)) U V σ hU hV rfl)

end Nuc

end Toq.Sep
