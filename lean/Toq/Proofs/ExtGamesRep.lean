import Toq.Proofs.ExtGames
import Toq.Proofs.PiKron
import Mathlib.Algebra.BigOperators.Ring.Finset
import Mathlib.Algebra.BigOperators.Fin
/-!
# Parallel repetition of the hedging / cloning programs: product certificates (C09)

The programs of `QuantumHedging` / `optimal_clone` for `n` repetitions act on `n` copies of `ℂ^α ⊗ ℂ^β`
(`α`: the systems that are traced out, `β`: the inputs).  toqito orders the tensor factors
`Y₁ X₁ Y₂ X₂ …` (hedging) resp. `Y₁Z₁X₁ Y₂Z₂X₂ …` (cloning, `α = Y ⊗ Z`): an index is a digit sequence
`k ↦ (i k, j k)`, i.e. an element of `Fin n → α × β`; `Q^{⊗n}` is `piKron`.  The constraint
`Tr_{outputs} X = 1` and the dual operator `π (1 ⊗ Y) πᴴ` read the index through the regrouping
`splitIdx : (Fin n → α × β) ≃ (Fin n → α) × (Fin n → β)` — the subsystem permutation `_pperm` / `pperm` of the code.

In that reading tensor products of primal-feasible points are primal feasible with the product of the values, and for
`Q_k ⪰ 0` tensor products of dual-feasible points are dual feasible (tensor products are monotone on the positive cone), so a
certified bracket of the optimum (`HedgeCert`) is multiplicative (`HedgeCert.pi`, `HedgeCert.pow`).  The same for two factors of
unequal dimensions on `Prod` indices (`HedgeCert.kron`), carried to the flat indices of `np.kron` by a relabelling
(`HedgeCert.submatrix_prodMap`, `HedgeCert.kronFlat`, `rep2_bracket_of_certs`); then product games, the index lists the code builds,
and the `Z ↔ X` symmetry of the counterfeiting operator for real ensembles.
-/

open Matrix Kronecker
open scoped ComplexOrder MatrixOrder

namespace Toq.ExtGames

section PiHedge
variable {α β : Type*}

/-- regrouping of the tensor factors `(Y₁X₁)(Y₂X₂)… ↦ (Y₁Y₂…)(X₁X₂…)` -/
def splitIdx (n : ℕ) : (Fin n → α × β) ≃ (Fin n → α) × (Fin n → β) where
  toFun p := (fun k => (p k).1, fun k => (p k).2)
  invFun ij := fun k => (ij.1 k, ij.2 k)
  left_inv _ := rfl
  right_inv _ := rfl

/-- an operator given in toqito's order of the tensor factors, read in the order (all outputs, all inputs) -/
def regroup {n : ℕ} (M : Matrix (Fin n → α × β) (Fin n → α × β) ℂ) :
    Matrix ((Fin n → α) × (Fin n → β)) ((Fin n → α) × (Fin n → β)) ℂ :=
  M.submatrix (splitIdx n).symm (splitIdx n).symm

theorem regroup_piKron_one_kron [DecidableEq α] {n : ℕ} (Y : Fin n → Matrix β β ℂ) :
    regroup (piKron fun k => (1 : Matrix α α ℂ) ⊗ₖ Y k) = (1 : Matrix (Fin n → α) (Fin n → α) ℂ) ⊗ₖ piKron Y := by
  ext ⟨i, j⟩ ⟨i', j'⟩
  simp only [regroup, Matrix.submatrix_apply, piKron, splitIdx, Equiv.coe_fn_symm_mk, Matrix.kroneckerMap_apply]
  rw [Finset.prod_mul_distrib]
  congr 1
  exact congrFun (congrFun (piKron_one (ι := α) (n := n)) i) i'

variable [Fintype α]

theorem ptrace1_regroup_piKron {n : ℕ} (X : Fin n → Matrix (α × β) (α × β) ℂ) :
    ptrace1 (regroup (piKron X)) = piKron fun k => ptrace1 (X k) := by
  ext j j'
  simp only [ptrace1, regroup, Matrix.submatrix_apply, piKron, splitIdx, Equiv.coe_fn_symm_mk]
  rw [Finset.prod_univ_sum, Fintype.piFinset_univ]

variable [Fintype β] [DecidableEq α] [DecidableEq β]

theorem hedge_primal_piKron {n : ℕ} (X : Fin n → Matrix (α × β) (α × β) ℂ) (h : ∀ k, HedgeFeasible (X k)) :
    HedgeFeasible (regroup (piKron X)) := by
  refine ⟨(piKron_psd X fun k => (h k).1).submatrix _, ?_⟩
  rw [ptrace1_regroup_piKron]
  have : (fun k => ptrace1 (X k)) = fun _ : Fin n => (1 : Matrix β β ℂ) := funext fun k => (h k).2
  rw [this, piKron_one]

theorem hedge_maxdual_piKron {n : ℕ} (Q : Fin n → Matrix (α × β) (α × β) ℂ) (Y : Fin n → Matrix β β ℂ)
    (hQ : ∀ k, (Q k).PosSemidef) (hY : ∀ k, (((1 : Matrix α α ℂ) ⊗ₖ Y k) - Q k).PosSemidef) :
    (((1 : Matrix (Fin n → α) (Fin n → α) ℂ) ⊗ₖ piKron Y) - regroup (piKron Q)).PosSemidef := by
  rw [← regroup_piKron_one_kron]
  exact (piKron_sub_psd _ _ hQ hY).submatrix _

end PiHedge

section Two
variable {α₁ β₁ α₂ β₂ : Type*}

/-- `(Y₁X₁)(Y₂X₂) ↦ (Y₁Y₂)(X₁X₂)` -/
def regroup2 (M : Matrix ((α₁ × β₁) × (α₂ × β₂)) ((α₁ × β₁) × (α₂ × β₂)) ℂ) :
    Matrix ((α₁ × α₂) × (β₁ × β₂)) ((α₁ × α₂) × (β₁ × β₂)) ℂ :=
  M.submatrix (Equiv.prodProdProdComm α₁ α₂ β₁ β₂) (Equiv.prodProdProdComm α₁ α₂ β₁ β₂)

theorem regroup2_one_kron [DecidableEq α₁] [DecidableEq α₂] (Y₁ : Matrix β₁ β₁ ℂ) (Y₂ : Matrix β₂ β₂ ℂ) :
    regroup2 (((1 : Matrix α₁ α₁ ℂ) ⊗ₖ Y₁) ⊗ₖ ((1 : Matrix α₂ α₂ ℂ) ⊗ₖ Y₂))
      = (1 : Matrix (α₁ × α₂) (α₁ × α₂) ℂ) ⊗ₖ (Y₁ ⊗ₖ Y₂) := by
  ext ⟨⟨i₁, i₂⟩, ⟨j₁, j₂⟩⟩ ⟨⟨i₁', i₂'⟩, ⟨j₁', j₂'⟩⟩
  simp only [regroup2, Matrix.submatrix_apply, Equiv.prodProdProdComm_apply, Matrix.kroneckerMap_apply,
    Matrix.one_apply, Prod.mk.injEq, ite_and, ite_mul, one_mul, zero_mul, mul_ite, mul_zero]
  split_ifs <;> rfl

variable [Fintype α₁] [Fintype β₁] [Fintype α₂] [Fintype β₂]

theorem trace_kron_mul_kron (Q₁ X₁ : Matrix (α₁ × β₁) (α₁ × β₁) ℂ) (Q₂ X₂ : Matrix (α₂ × β₂) (α₂ × β₂) ℂ) :
    ((Q₁ ⊗ₖ Q₂) * (X₁ ⊗ₖ X₂)).trace = (Q₁ * X₁).trace * (Q₂ * X₂).trace := by
  rw [← Matrix.mul_kronecker_mul, Matrix.trace_kronecker]

theorem trace_regroup2_mul (M N : Matrix ((α₁ × β₁) × (α₂ × β₂)) ((α₁ × β₁) × (α₂ × β₂)) ℂ) :
    (regroup2 M * regroup2 N).trace = (M * N).trace :=
  trace_mul_submatrix_equiv (Equiv.prodProdProdComm α₁ α₂ β₁ β₂) M N

end Two

section Relabel
variable {α β α' β' : Type*}

theorem hedgeFeasible_submatrix_prodCongr [Fintype α] [Fintype α'] [DecidableEq β] [DecidableEq β'] (e₁ : α' ≃ α)
    (e₂ : β' ≃ β) (M : Matrix (α × β) (α × β) ℂ) :
    HedgeFeasible (M.submatrix (e₁.prodCongr e₂) (e₁.prodCongr e₂)) ↔ HedgeFeasible M := by
  have h : ptrace1 (M.submatrix (e₁.prodCongr e₂) (e₁.prodCongr e₂)) = (ptrace1 M).submatrix e₂ e₂ :=
    ptrL_submatrix_prodMap e₁ e₂ M
  rw [HedgeFeasible, HedgeFeasible, Matrix.posSemidef_submatrix_equiv, h, ← Matrix.submatrix_one_equiv e₂]
  -- `A.submatrix e₂ e₂` is `Matrix.reindex e₂.symm e₂.symm A`, and `reindex` is an equivalence
  exact and_congr_right' ((Matrix.reindex e₂.symm e₂.symm).apply_eq_iff_eq (x := ptrace1 M) (y := 1))

end Relabel

section Cert
variable {α β : Type*} [Fintype α] [Fintype β] [DecidableEq α] [DecidableEq β]

/-- A certified bracket `[v, w]` of the maximisation program for `Q ⪰ 0`: a primal-feasible `X` of value `tr(Q X) = v` and a
dual-feasible `Y` (`1 ⊗ Y ⪰ Q`) of value `tr Y = w`; a certified optimum if `v = w`.  The values are complex equations (real-valued traces), so
that they multiply under tensor products as they stand. -/
structure HedgeCert (Q X : Matrix (α × β) (α × β) ℂ) (Y : Matrix β β ℂ) (v w : ℝ) : Prop where
  psd : Q.PosSemidef
  feas : HedgeFeasible X
  dual : (((1 : Matrix α α ℂ) ⊗ₖ Y) - Q).PosSemidef
  primal_val : (Q * X).trace = v
  dual_val : Y.trace = w

namespace HedgeCert
variable {Q X : Matrix (α × β) (α × β) ℂ} {Y : Matrix β β ℂ} {v w : ℝ}

/-- from the real parts of the values: the traces of `Q X` (both Hermitian) and of a Hermitian `Y` are real -/
theorem of_re (hQ : Q.PosSemidef) (hX : HedgeFeasible X) (hYh : Y.IsHermitian)
    (hY : (((1 : Matrix α α ℂ) ⊗ₖ Y) - Q).PosSemidef) (hv : (Q * X).trace.re = v) (hw : Y.trace.re = w) :
    HedgeCert Q X Y v w where
  psd := hQ
  feas := hX
  dual := hY
  primal_val := Complex.ext (hv.trans (Complex.ofReal_re v).symm)
    ((hQ.isHermitian.trace_mul_im_eq_zero hX.1.isHermitian).trans (Complex.ofReal_im v).symm)
  dual_val := Complex.ext (hw.trans (Complex.ofReal_re w).symm)
    ((Matrix.mul_one Y ▸ hYh.trace_mul_im_eq_zero Matrix.isHermitian_one).trans (Complex.ofReal_im w).symm)

theorem bracket {ι : Type*} [Fintype ι] (e : α × β ≃ ι) {Q X : Matrix ι ι ℂ}
    (h : HedgeCert (Q.submatrix e e) (X.submatrix e e) Y v w) :
    HedgeFeasible (X.submatrix e e) ∧ (Q * X).trace.re = v ∧
      ∀ X' : Matrix ι ι ℂ, HedgeFeasible (X'.submatrix e e) → (Q * X').trace.re ≤ w :=
  ⟨h.feas, by rw [← trace_mul_submatrix_equiv e, h.primal_val, Complex.ofReal_re],
    fun X' hX' => (hedge_max_weak_duality e Q X' Y hX' h.dual).trans_eq (by rw [h.dual_val, Complex.ofReal_re])⟩

theorem isMax_submatrix {ι : Type*} [Fintype ι] (e : α × β ≃ ι) {Q X : Matrix ι ι ℂ}
    (h : HedgeCert (Q.submatrix e e) (X.submatrix e e) Y v v) :
    (∃ X' : Matrix ι ι ℂ, HedgeFeasible (X'.submatrix e e) ∧ (Q * X').trace.re = v) ∧
      ∀ X' : Matrix ι ι ℂ, HedgeFeasible (X'.submatrix e e) → (Q * X').trace.re ≤ v :=
  let ⟨hf, hv, hb⟩ := h.bracket e
  ⟨⟨X, hf, hv⟩, hb⟩

theorem isMax (h : HedgeCert Q X Y v v) :
    (∃ X' : Matrix (α × β) (α × β) ℂ, HedgeFeasible X' ∧ (Q * X').trace.re = v) ∧
      ∀ X' : Matrix (α × β) (α × β) ℂ, HedgeFeasible X' → (Q * X').trace.re ≤ v :=
  isMax_submatrix (Equiv.refl _) (Q := Q) (X := X) h

theorem submatrix_prodMap {α' β' : Type*} [Fintype α'] [Fintype β'] [DecidableEq α'] [DecidableEq β'] (e₁ : α' ≃ α)
    (e₂ : β' ≃ β) (h : HedgeCert Q X Y v w) :
    HedgeCert (Q.submatrix (Prod.map e₁ e₂) (Prod.map e₁ e₂)) (X.submatrix (Prod.map e₁ e₂) (Prod.map e₁ e₂))
      (Y.submatrix e₂ e₂) v w where
  psd := h.psd.submatrix _
  feas := (hedgeFeasible_submatrix_prodCongr e₁ e₂ X).mpr h.feas
  dual := by
    rw [← one_kronecker_submatrix_prodMap e₁ e₂]
    exact h.dual.submatrix _
  primal_val := (trace_mul_submatrix_equiv (e₁.prodCongr e₂) Q X).trans h.primal_val
  dual_val := (trace_submatrix_equiv e₂ Y).trans h.dual_val

theorem pi {n : ℕ} {Q X : Fin n → Matrix (α × β) (α × β) ℂ} {Y : Fin n → Matrix β β ℂ} {v w : Fin n → ℝ}
    (h : ∀ k, HedgeCert (Q k) (X k) (Y k) (v k) (w k)) :
    HedgeCert (regroup (piKron Q)) (regroup (piKron X)) (piKron Y) (∏ k, v k) (∏ k, w k) where
  psd := (piKron_psd Q fun k => (h k).psd).submatrix _
  feas := hedge_primal_piKron X fun k => (h k).feas
  dual := hedge_maxdual_piKron Q Y (fun k => (h k).psd) fun k => (h k).dual
  primal_val := by
    rw [regroup, regroup, trace_mul_submatrix_equiv, piKron_mul, piKron_trace, Complex.ofReal_prod]
    exact Finset.prod_congr rfl fun k _ => (h k).primal_val
  dual_val := by
    rw [piKron_trace, Complex.ofReal_prod]
    exact Finset.prod_congr rfl fun k _ => (h k).dual_val

theorem pow (h : HedgeCert Q X Y v w) (n : ℕ) :
    HedgeCert (regroup (piKron fun _ : Fin n => Q)) (regroup (piKron fun _ : Fin n => X)) (piKron fun _ : Fin n => Y)
      (v ^ n) (w ^ n) := by
  simpa only [Finset.prod_const, Finset.card_univ, Fintype.card_fin] using pi fun _ : Fin n => h

end HedgeCert

theorem HedgeCert.kron {α₁ β₁ α₂ β₂ : Type*} [Fintype α₁] [Fintype β₁] [Fintype α₂] [Fintype β₂] [DecidableEq α₁] [DecidableEq β₁]
    [DecidableEq α₂] [DecidableEq β₂] {Q₁ X₁ : Matrix (α₁ × β₁) (α₁ × β₁) ℂ} {Q₂ X₂ : Matrix (α₂ × β₂) (α₂ × β₂) ℂ}
    {Y₁ : Matrix β₁ β₁ ℂ} {Y₂ : Matrix β₂ β₂ ℂ} {v₁ w₁ v₂ w₂ : ℝ} (h₁ : HedgeCert Q₁ X₁ Y₁ v₁ w₁)
    (h₂ : HedgeCert Q₂ X₂ Y₂ v₂ w₂) :
    HedgeCert (regroup2 (Q₁ ⊗ₖ Q₂)) (regroup2 (X₁ ⊗ₖ X₂)) (Y₁ ⊗ₖ Y₂) (v₁ * v₂) (w₁ * w₂) where
  psd := (h₁.psd.kronecker h₂.psd).submatrix _
  feas := ⟨(h₁.feas.1.kronecker h₂.feas.1).submatrix _, (ptrL_kronecker_submatrix_prodProdProdComm X₁ X₂).trans
    (by rw [h₁.feas.ptrL_eq, h₂.feas.ptrL_eq, Matrix.one_kronecker_one])⟩
  dual := by
    rw [← regroup2_one_kron]
    exact (kronecker_sub_kronecker_posSemidef h₁.psd h₁.dual h₂.psd h₂.dual).submatrix _
  primal_val := by rw [trace_regroup2_mul, trace_kron_mul_kron, h₁.primal_val, h₂.primal_val, Complex.ofReal_mul]
  dual_val := by rw [Matrix.trace_kronecker, h₁.dual_val, h₂.dual_val, Complex.ofReal_mul]

theorem HedgeCert.of_checks {a b k k' : ℕ} {Q X : EMat (a * b) (a * b)} {Y : EMat b b} {L : EMat (a * b) k}
    {L' : EMat (a * b) k'} {v w : Rat} (hQ : Q.toM.PosSemidef) (hp : checkHedgePrimal a b Q X L = some v)
    (hd : checkHedgeMaxDual a b Q Y L' = some w) : HedgeCert (unflat Q.toM) (unflat X.toM) Y.toM (v : ℝ) (w : ℝ) := by
  obtain ⟨-, hf, hv⟩ := checkHedgePrimal_sound Q X L v hp
  obtain ⟨hYh, hY, hw⟩ := checkHedgeMaxDual_spec Q Y L' w hd
  exact .of_re (hQ.submatrix _) hf hYh hY hv hw

end Cert

section FlatRep
variable {a₁ b₁ a₂ b₂ : ℕ}

/-- `np.kron(A, B)` on flat indices: `(A ⊗ B)[p, q] = A[p / N₂, q / N₂] · B[p % N₂, q % N₂]` -/
def flatKron {N₁ N₂ : ℕ} (A : Matrix (Fin N₁) (Fin N₁) ℂ) (B : Matrix (Fin N₂) (Fin N₂) ℂ) :
    Matrix (Fin (N₁ * N₂)) (Fin (N₁ * N₂)) ℂ :=
  (A ⊗ₖ B).submatrix finProdFinEquiv.symm finProdFinEquiv.symm

/-- an arrangement `e` of the flat index of `np.kron(Q₁, Q₂)` realises the order (outputs `Y₁Y₂`, inputs `X₁X₂`):
    position `(y, x)` ↦ flat index of `(y₁ x₁)(y₂ x₂)` -/
def IsRepArrangement (e : Fin (a₁ * a₂) × Fin (b₁ * b₂) ≃ Fin ((a₁ * b₁) * (a₂ * b₂))) : Prop :=
  ∀ y x, e (y, x) = pair (pair (fstIdx y) (fstIdx x)) (pair (sndIdx y) (sndIdx x))

/-- the arrangement itself: flat position `(y, x)` ↦ digits `((y₁, y₂), (x₁, x₂))` ↦ `((y₁, x₁), (y₂, x₂))` ↦ flat index -/
def repArrangement : Fin (a₁ * a₂) × Fin (b₁ * b₂) ≃ Fin ((a₁ * b₁) * (a₂ * b₂)) :=
  ((finProdFinEquiv.symm.prodCongr finProdFinEquiv.symm).trans (Equiv.prodProdProdComm _ _ _ _)).trans
    ((finProdFinEquiv.prodCongr finProdFinEquiv).trans finProdFinEquiv)

theorem isRepArrangement_iff (e : Fin (a₁ * a₂) × Fin (b₁ * b₂) ≃ Fin ((a₁ * b₁) * (a₂ * b₂))) :
    IsRepArrangement e ↔ ∀ y x, e (y, x) = repArrangement (y, x) :=
  Iff.rfl

theorem submatrix_flatKron (e : Fin (a₁ * a₂) × Fin (b₁ * b₂) ≃ Fin ((a₁ * b₁) * (a₂ * b₂)))
    (He : IsRepArrangement e) (A : Matrix (Fin (a₁ * b₁)) (Fin (a₁ * b₁)) ℂ)
    (B : Matrix (Fin (a₂ * b₂)) (Fin (a₂ * b₂)) ℂ) :
    (flatKron A B).submatrix e e = (regroup2 (unflat A ⊗ₖ unflat B)).submatrix
      (Prod.map finProdFinEquiv.symm finProdFinEquiv.symm) (Prod.map finProdFinEquiv.symm finProdFinEquiv.symm) := by
  ext ⟨y, x⟩ ⟨y', x'⟩
  simp only [Matrix.submatrix_apply, flatKron, He y x, He y' x', pair_eq, Equiv.symm_apply_apply,
    Matrix.kroneckerMap_apply, regroup2, unflat, Prod.map_apply, Equiv.prodProdProdComm_apply,
    fstIdx_eq, sndIdx_eq]

theorem trace_flatKron {N₁ N₂ : ℕ} (A : Matrix (Fin N₁) (Fin N₁) ℂ) (B : Matrix (Fin N₂) (Fin N₂) ℂ) :
    (flatKron A B).trace = A.trace * B.trace := by
  unfold flatKron
  rw [trace_submatrix_equiv, Matrix.trace_kronecker]

theorem trace_flatKron_mul {N₁ N₂ : ℕ} (Q₁ X₁ : Matrix (Fin N₁) (Fin N₁) ℂ) (Q₂ X₂ : Matrix (Fin N₂) (Fin N₂) ℂ) :
    (flatKron Q₁ Q₂ * flatKron X₁ X₂).trace = (Q₁ * X₁).trace * (Q₂ * X₂).trace := by
  unfold flatKron
  rw [trace_mul_submatrix_equiv, ← Matrix.mul_kronecker_mul, Matrix.trace_kronecker]

theorem HedgeCert.kronFlat {e : Fin (a₁ * a₂) × Fin (b₁ * b₂) ≃ Fin ((a₁ * b₁) * (a₂ * b₂))} (He : IsRepArrangement e)
    {Q₁ X₁ : Matrix (Fin (a₁ * b₁)) (Fin (a₁ * b₁)) ℂ} {Q₂ X₂ : Matrix (Fin (a₂ * b₂)) (Fin (a₂ * b₂)) ℂ}
    {Y₁ : Matrix (Fin b₁) (Fin b₁) ℂ} {Y₂ : Matrix (Fin b₂) (Fin b₂) ℂ} {v₁ w₁ v₂ w₂ : ℝ}
    (h₁ : HedgeCert (unflat Q₁) (unflat X₁) Y₁ v₁ w₁) (h₂ : HedgeCert (unflat Q₂) (unflat X₂) Y₂ v₂ w₂) :
    HedgeCert ((flatKron Q₁ Q₂).submatrix e e) ((flatKron X₁ X₂).submatrix e e) (flatKron Y₁ Y₂) (v₁ * v₂) (w₁ * w₂) := by
  rw [submatrix_flatKron e He, submatrix_flatKron e He]
  exact (h₁.kron h₂).submatrix_prodMap finProdFinEquiv.symm finProdFinEquiv.symm

end FlatRep

section KronE
open EMat

theorem toM_kronE {N₁ N₂ : ℕ} (A : EMat N₁ N₁) (B : EMat N₂ N₂) : (kronE A B).toM = flatKron A.toM B.toM := by
  ext p q
  simp only [kronE, flatKron, toM_apply, get_ofFn, QI.toC_mul, Matrix.submatrix_apply, Matrix.kroneckerMap_apply,
    fstIdx_eq, sndIdx_eq]

/-- the operator of the counterfeiting attack, `Σ_k p_k |ψ_kψ_kψ̄_k⟩⟨ψ_kψ_kψ̄_k|` -/
theorem toM_cloneQ {m : ℕ} (states : List (EMat m 1)) (probs : List Rat) :
    (cloneQ states probs).toM = ∑ k : Fin states.length, ((((probs.getD k.val 0 : Rat) : ℝ) : ℂ)) •
      Matrix.vecMulVec (fun p => (cloneVec (states.getD k.val zero) p).toC)
        (star fun p => (cloneVec (states.getD k.val zero) p).toC) := by
  ext p q
  simp only [cloneQ, toM_apply, get_ofFn, sumFin_toC, QI.toC_smul, QI.toC_mul, QI.toC_conj, Matrix.sum_apply,
    Matrix.smul_apply, Matrix.vecMulVec_apply, Pi.star_apply, smul_eq_mul]
  rfl

theorem cloneQ_psd {m : ℕ} (states : List (EMat m 1)) (probs : List Rat) (hp : ∀ q ∈ probs, 0 ≤ q) :
    (cloneQ states probs).toM.PosSemidef := by
  rw [toM_cloneQ]
  refine Matrix.posSemidef_sum _ fun k _ => ?_
  refine (Matrix.posSemidef_vecMulVec_self_star _).smul ?_
  have h0 : (0 : Rat) ≤ probs.getD k.val 0 := by
    rw [List.getD_eq_getElem?_getD]
    cases h : probs[k.val]? with
    | none => simp
    | some q => simpa using hp q (List.mem_of_getElem? h)
  exact Complex.zero_le_real.mpr (by exact_mod_cast h0)

end KronE

section Rep2Cert
open EMat
variable {a₁ b₁ a₂ b₂ kp kd : ℕ}

/-- `arr` realises the order (outputs, inputs) of `np.kron(Q₁, Q₂)` up to a permutation `τ` of the output systems, which the
constraints do not see (`hedgeFeasible_submatrix_prodCongr`) -/
theorem rep2_bracket_of_certs (arr : Fin (a₁ * a₂) × Fin (b₁ * b₂) ≃ Fin ((a₁ * b₁) * (a₂ * b₂)))
    (τ : Fin (a₁ * a₂) ≃ Fin (a₁ * a₂))
    (He : IsRepArrangement ((τ.prodCongr (Equiv.refl (Fin (b₁ * b₂)))).trans arr))
    {Q₁ X₁ : EMat (a₁ * b₁) (a₁ * b₁)} {Q₂ X₂ : EMat (a₂ * b₂) (a₂ * b₂)} {Y₁ : EMat b₁ b₁} {Y₂ : EMat b₂ b₂}
    {L₁ : EMat (a₁ * b₁) kp} {L₂ : EMat (a₂ * b₂) kp} {L₁' : EMat (a₁ * b₁) kd} {L₂' : EMat (a₂ * b₂) kd} {v₁ w₁ v₂ w₂ : Rat}
    (hQ₁ : Q₁.toM.PosSemidef) (hQ₂ : Q₂.toM.PosSemidef)
    (hp₁ : checkHedgePrimal a₁ b₁ Q₁ X₁ L₁ = some v₁) (hd₁ : checkHedgeMaxDual a₁ b₁ Q₁ Y₁ L₁' = some w₁)
    (hp₂ : checkHedgePrimal a₂ b₂ Q₂ X₂ L₂ = some v₂) (hd₂ : checkHedgeMaxDual a₂ b₂ Q₂ Y₂ L₂' = some w₂) :
    HedgeFeasible ((kronE X₁ X₂).toM.submatrix arr arr) ∧
      ((kronE Q₁ Q₂).toM * (kronE X₁ X₂).toM).trace.re = (v₁ : ℝ) * (v₂ : ℝ) ∧
      ∀ X : Matrix (Fin ((a₁ * b₁) * (a₂ * b₂))) (Fin ((a₁ * b₁) * (a₂ * b₂))) ℂ,
        HedgeFeasible (X.submatrix arr arr) → ((kronE Q₁ Q₂).toM * X).trace.re ≤ (w₁ : ℝ) * (w₂ : ℝ) := by
  obtain ⟨hf, hv, hb⟩ := ((HedgeCert.of_checks hQ₁ hp₁ hd₁).kronFlat He (HedgeCert.of_checks hQ₂ hp₂ hd₂)).bracket _
  rw [toM_kronE, toM_kronE]
  exact ⟨(hedgeFeasible_submatrix_prodCongr τ (Equiv.refl _) _).mp hf, hv,
    fun X hX => hb X ((hedgeFeasible_submatrix_prodCongr τ (Equiv.refl _) (X.submatrix arr arr)).mpr hX)⟩

end Rep2Cert

section TensorGame
open EMat

theorem prodFn_divMod {n o : ℕ} (f₁ f₂ : ℕ → ℕ) (x : ℕ) (hf : f₂ (x % n) < o) :
    prodFn n o f₁ f₂ x / o = f₁ (x / n) ∧ prodFn n o f₁ f₂ x % o = f₂ (x % n) :=
  Nat.mul_add_divMod_of_lt hf

variable {d d' : ℕ}

theorem toM_avgOperator_tensorGame (G : Game d) (H : Game d') (f₁ g₁ f₂ g₂ : ℕ → ℕ)
    (hf₂ : ∀ x, x < H.nX → f₂ x < H.nA) (hg₂ : ∀ y, y < H.nY → g₂ y < H.nB) :
    (avgOperator (tensorGame G H) (prodFn H.nX H.nA f₁ f₂) (prodFn H.nY H.nB g₁ g₂)).toM
      = flatKron (avgOperator G f₁ g₁).toM (avgOperator H f₂ g₂).toM := by
  rw [toM_avgOperator (tensorGame G H), toM_avgOperator G, toM_avgOperator H]
  ext p q
  simp only [flatKron, Matrix.submatrix_apply, Matrix.kroneckerMap_apply, Matrix.sum_apply, Matrix.smul_apply, smul_eq_mul,
    Finset.sum_mul_sum]
  -- on the right a sum over the digits `x₁, x₂` and `y₁, y₂` of the labels `x`, `y` of the product game
  refine (Fintype.sum_congr _ _ fun x : Fin (G.nX * H.nX) => ?_).trans (Fin.sum_sum_eq_sum_mul _).symm
  refine (Fintype.sum_congr _ _ fun y : Fin (G.nY * H.nY) => ?_).trans (Fin.sum_sum_eq_sum_mul _).symm
  obtain ⟨ha1, ha2⟩ := prodFn_divMod f₁ f₂ x.val (hf₂ _ (Nat.mod_lt _ (snd_pos x)))
  obtain ⟨hb1, hb2⟩ := prodFn_divMod g₁ g₂ y.val (hg₂ _ (Nat.mod_lt _ (snd_pos y)))
  simp only [tensorGame, ha1, ha2, hb1, hb2, toM_kronE, flatKron, Matrix.submatrix_apply, Matrix.kroneckerMap_apply,
    finProdFinEquiv_symm_apply, Fin.coe_divNat, Fin.coe_modNat]
  push_cast
  ring

end TensorGame

section IndexLists

example : hedgePerm 2 = [0, 2, 1, 3] ∧ hedgePerm 3 = [0, 3, 1, 4, 2, 5] ∧ hedgePerm 1 = [] := by decide
example : clonePerm 2 = [0, 3, 1, 4, 2, 5] ∧ cloneSys 2 = [0, 1, 3, 4] ∧ cloneSys 3 = [0, 1, 3, 4, 6, 7] := by decide

theorem hedgePerm_eq (n : ℕ) (hn : 2 ≤ n) : hedgePerm n = (List.range n).flatMap fun k => [k, n + k] := by
  unfold hedgePerm
  have : min n (n * n - n) = n := by
    apply Nat.min_eq_left
    have : n * 2 ≤ n * n := Nat.mul_le_mul_left n hn
    omega
  rw [this]

theorem getElem?_flatMap_blocks {α β : Type*} (f : α → List β) (n : ℕ) (hf : ∀ x, (f x).length = n) {j : ℕ}
    (hj : j < n) : ∀ (l : List α) (i : ℕ), (l.flatMap f)[i * n + j]? = l[i]?.bind fun x => (f x)[j]?
  | [], _ => rfl
  | x :: l, 0 => by
    rw [List.flatMap_cons, Nat.zero_mul, Nat.zero_add, List.getElem?_append_left (by rw [hf]; exact hj)]
    rfl
  | x :: l, i + 1 => by
    rw [List.flatMap_cons, List.getElem?_append_right (by rw [hf, Nat.succ_mul]; omega), hf,
      show (i + 1) * n + j - n = i * n + j by rw [Nat.succ_mul]; omega]
    exact getElem?_flatMap_blocks f n hf hj l i

theorem hedgePerm_getElem (n : ℕ) (hn : 2 ≤ n) (k : ℕ) (hk : k < n) :
    (hedgePerm n)[2 * k]? = some k ∧ (hedgePerm n)[2 * k + 1]? = some (n + k) := by
  have h := fun {j} (hj : j < 2) => getElem?_flatMap_blocks (fun k => [k, n + k]) 2 (fun _ => rfl) hj (List.range n) k
  rw [List.getElem?_range hk] at h
  rw [hedgePerm_eq n hn, Nat.mul_comm]
  exact ⟨h Nat.zero_lt_two, h Nat.one_lt_two⟩

theorem clonePerm_getElem (n i j : ℕ) (hi : i < 3) (hj : j < n) : (clonePerm n)[i * n + j]? = some (i + 3 * j) := by
  have h := getElem?_flatMap_blocks (fun i => (List.range n).map fun j => i + 3 * j) n (fun _ => by simp) hj
    (List.range 3) i
  rwa [List.getElem?_range hi, Option.bind_some, List.getElem?_map, List.getElem?_range hj] at h

theorem mem_cloneSys (n e : ℕ) : e ∈ cloneSys n ↔ e + 1 < 3 * n ∧ e % 3 ≠ 2 := by
  simp only [cloneSys, List.mem_map, List.mem_filter, List.mem_range, Bool.and_eq_true, decide_eq_true_eq]
  constructor
  · rintro ⟨a, ⟨h1, h2, h3⟩, rfl⟩
    constructor <;> omega
  · rintro ⟨h1, h2⟩
    exact ⟨e + 1, ⟨h1, by omega, by omega⟩, by omega⟩

theorem mem_hedgeSys (n e : ℕ) : e ∈ hedgeSys n ↔ e < 2 * n ∧ e % 2 = 0 := by
  simp only [hedgeSys, List.mem_map, List.mem_range]
  constructor
  · rintro ⟨a, h1, rfl⟩
    constructor <;> omega
  · rintro ⟨h1, h2⟩
    exact ⟨e / 2, by omega, by omega⟩

end IndexLists

/-- the model's bit permutation for two repetitions of cloning is the arrangement, up to the exchange `hedgeSigma2` of the two middle
    output systems (`(y₁ z₁ y₂ z₂) ↔ (y₁ y₂ z₁ z₂)`) -/
theorem cloneSigma2_apply : ∀ (y : Fin (4 * 4)) (x : Fin (2 * 2)),
    cloneSigma2 (finProdFinEquiv (hedgeSigma2 y, x)) = repArrangement (a₁ := 4) (b₁ := 2) (a₂ := 4) (b₂ := 2) (y, x) := by
  decide

section CloneSymm
open EMat
variable {m : ℕ}

/-- exchange of the second and third tensor factor of `(ℂ^m)^{⊗3}`: `(i₁ i₂ i₃) ↦ (i₁ i₃ i₂)` -/
def swap23 (p : Fin (m * m * m)) : Fin (m * m * m) := pair (pair (fstIdx (fstIdx p)) (sndIdx p)) (sndIdx (fstIdx p))

theorem cloneVec_swap23_real (ψ : EMat m 1) (hψ : ∀ i, (ψ.get i ⟨0, Nat.one_pos⟩).im = 0) (p : Fin (m * m * m)) :
    (cloneVec ψ (swap23 p)).toC = (cloneVec ψ p).toC := by
  have hconj : ∀ i, ((ψ.get i ⟨0, Nat.one_pos⟩).conj).toC = (ψ.get i ⟨0, Nat.one_pos⟩).toC := by
    intro i
    have h := hψ i
    apply Complex.ext
    · simp
    · simp only [QI.toC_im, QI.conj_im, h]; simp
  simp only [cloneVec, swap23, QI.toC_mul, hconj, fstIdx_eq, sndIdx_eq, pair_eq, Equiv.symm_apply_apply]
  ring

end CloneSymm

end Toq.ExtGames
