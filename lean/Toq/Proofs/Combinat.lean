import Toq.Model.Combinat
import Toq.Proofs.Perms
import Toq.Proofs.Digits
import Toq.Spec.Combinat
import Mathlib.Algebra.BigOperators.Fin
import Mathlib.Algebra.BigOperators.Group.Finset.Basic
import Mathlib.Algebra.BigOperators.Ring.Finset
import Mathlib.Data.Matrix.Basic
import Mathlib.Data.Fintype.Perm
import Mathlib.Data.Fintype.Pi
import Mathlib.Data.Fintype.BigOperators
import Mathlib.Data.List.Perm.Basic
import Mathlib.Data.List.Nodup
import Mathlib.Data.List.Lattice
import Mathlib.Data.List.FinRange
import Mathlib.Data.List.GetD
import Mathlib.LinearAlgebra.Matrix.Determinant.Basic
import Mathlib.LinearAlgebra.Matrix.Permutation
import Mathlib.GroupTheory.Perm.Fin
import Mathlib.Order.Interval.Finset.Fin
import Mathlib.LinearAlgebra.Trace
import Mathlib.Data.List.Count
import Mathlib.Data.Nat.Factorial.Basic
import Mathlib.Data.Nat.Factorial.DoubleFactorial
import Mathlib.Algebra.BigOperators.Group.List.Basic
import Mathlib.Algebra.BigOperators.Ring.List
import Mathlib.Data.Finset.Image
import Mathlib.Data.Sym.Sym2
import Mathlib.Logic.Equiv.Basic
import Mathlib.Tactic.Ring
import Mathlib.Data.Nat.Choose.Basic
import Mathlib.LinearAlgebra.Matrix.Rank
import Mathlib.LinearAlgebra.Matrix.ToLin
/-!
# C18: the projectors of the specification, the models against them, and the enumerators

* For all `d`, `p`: `charProj χ = (1/p!) Σ_σ χ(σ) W_σ` for a character `χ` of the symmetric group (group averaging in
  `Matrix (Fin p → Fin d) _ ℚ`), where `W_σ` is the permutation matrix of `y ↦ y ∘ σ⁻¹`.  Its laws are proved once; `symSpec` is the case
  `χ = 1`, `antiSpec` the case `χ = sign`.
* Bridges from the executable models (functions on `ℕ`, lists) to Mathlib (`Equiv.Perm (Fin n)`, `Matrix.det`, `Finset` sums): `perm_sign`
  is a sign, a sum over `permsList p` is a sum over `Perm (Fin p)`, flat indices are digit vectors.  They end in: the integer models of the two
  projector functions are `p!` times the specification (`sum_coef_permOp`, `modelMat_*`), so that the laws hold of the models too; and the
  rows the driver evaluates are the rows of the models.
* The enumerators `unique_perms` and `perfect_matchings` yield exactly what they should, each once.
-/
open Equiv Matrix

namespace Toq.Combinat
open Toq.Combinat.Spec

section projectors
variable {d p : ℕ}

/-- the permutation `y ↦ y ∘ σ⁻¹` of the digit vectors, as a homomorphism in `σ` -/
def digitPerm (d : ℕ) : Perm (Fin p) →* Perm (Fin p → Fin d) where
  toFun σ := σ.arrowCongr (Equiv.refl (Fin d))
  map_one' := Equiv.arrowCongr_refl
  map_mul' σ τ := Equiv.arrowCongr_trans τ (Equiv.refl _) σ (Equiv.refl _)

theorem permMat_eq_permMatrix (σ : Perm (Fin p)) : permMat d p σ = (digitPerm d σ).permMatrix ℚ := by
  ext y x
  simp only [permMat, PEquiv.toMatrix_apply, toPEquiv_apply, Option.mem_def, Option.some.injEq]
  exact if_congr (Equiv.comp_symm_eq σ x y).symm rfl rfl

theorem permMat_one : permMat d p 1 = 1 := by
  rw [permMat_eq_permMatrix, map_one, Matrix.permMatrix_one]

theorem permMat_mul (σ τ : Perm (Fin p)) : permMat d p σ * permMat d p τ = permMat d p (τ * σ) := by
  simp only [permMat_eq_permMatrix, map_mul, Matrix.permMatrix_mul]

theorem permMat_transpose (σ : Perm (Fin p)) : (permMat d p σ)ᵀ = permMat d p σ⁻¹ := by
  simp only [permMat_eq_permMatrix, map_inv, Matrix.transpose_permMatrix]

theorem mul_permMat_apply (A : Matrix (Fin p → Fin d) (Fin p → Fin d) ℚ) (τ : Perm (Fin p)) (y x : Fin p → Fin d) :
    (A * permMat d p τ) y x = A y (x ∘ τ) := by
  rw [permMat_eq_permMatrix, PEquiv.mul_toMatrix_toPEquiv]
  rfl

section character
variable {G : Type} [Group G] (χ : G →* ℤˣ)

theorem chi_mul_self (σ : G) : ((χ σ : ℤ) : ℚ) * ((χ σ : ℤ) : ℚ) = 1 := by
  rw [← Int.cast_mul, ← Units.val_mul, Int.units_mul_self, Units.val_one, Int.cast_one]

theorem chi_inv (σ : G) : ((χ σ⁻¹ : ℤ) : ℚ) = ((χ σ : ℤ) : ℚ) := by
  rw [MonoidHom.map_inv, Int.units_inv_eq_self]

theorem one_chi (σ : G) : (((1 : G →* ℤˣ) σ : ℤ) : ℚ) = 1 := by
  rw [MonoidHom.one_apply, Units.val_one, Int.cast_one]

end character

section charProj
variable (χ : Perm (Fin p) →* ℤˣ)

theorem cast_factorial_ne_zero : (p.factorial : ℚ) ≠ 0 := Nat.cast_ne_zero.mpr (Nat.factorial_ne_zero p)

theorem avg_const {M : Type} [AddCommGroup M] [Module ℚ M] (X : M) :
    ((p.factorial : ℚ)⁻¹) • ∑ _σ : Perm (Fin p), X = X := by
  rw [Finset.sum_const, Finset.card_univ, Fintype.card_perm, Fintype.card_fin, ← Nat.cast_smul_eq_nsmul ℚ, smul_smul,
    inv_mul_cancel₀ cast_factorial_ne_zero, one_smul]

noncomputable def charProj (d p : ℕ) (χ : Perm (Fin p) →* ℤˣ) : Matrix (Fin p → Fin d) (Fin p → Fin d) ℚ :=
  ((p.factorial : ℚ)⁻¹) • ∑ σ : Perm (Fin p), ((χ σ : ℤ) : ℚ) • permMat d p σ

theorem symSpec_eq_charProj : symSpec d p = charProj d p 1 := by
  simp only [symSpec, charProj, one_chi, one_smul]

theorem antiSpec_eq_charProj : antiSpec d p = charProj d p Perm.sign := rfl

theorem charProj_apply (y x : Fin p → Fin d) :
    charProj d p χ y x = (p.factorial : ℚ)⁻¹ * ∑ σ : Perm (Fin p), ((χ σ : ℤ) : ℚ) * (if y = x ∘ σ then 1 else 0) := by
  simp only [charProj, Matrix.smul_apply, Matrix.sum_apply, smul_eq_mul]
  rfl

theorem charProj_transpose : (charProj d p χ)ᵀ = charProj d p χ := by
  unfold charProj
  rw [Matrix.transpose_smul, Matrix.transpose_sum]
  refine congrArg (((p.factorial : ℚ)⁻¹) • ·) (Fintype.sum_equiv (Equiv.inv (Perm (Fin p))) _ _ fun σ => ?_)
  rw [Matrix.transpose_smul, permMat_transpose, Equiv.inv_apply, chi_inv]

theorem permMat_mul_charProj (τ : Perm (Fin p)) :
    permMat d p τ * charProj d p χ = ((χ τ : ℤ) : ℚ) • charProj d p χ := by
  unfold charProj
  rw [Matrix.mul_smul, smul_comm ((χ τ : ℤ) : ℚ)]
  refine congrArg (fun M : Matrix (Fin p → Fin d) (Fin p → Fin d) ℚ => ((p.factorial : ℚ)⁻¹) • M) ?_
  rw [Finset.mul_sum, Finset.smul_sum]
  refine Fintype.sum_equiv (Equiv.mulRight τ) _ _ fun σ => ?_
  rw [Matrix.mul_smul, permMat_mul, Equiv.coe_mulRight, smul_smul, MonoidHom.map_mul, Units.val_mul, Int.cast_mul, mul_left_comm,
    chi_mul_self, mul_one]

theorem charProj_mul_permMat (τ : Perm (Fin p)) :
    charProj d p χ * permMat d p τ = ((χ τ : ℤ) : ℚ) • charProj d p χ := by
  have h := congrArg Matrix.transpose (permMat_mul_charProj (d := d) χ τ⁻¹)
  rwa [Matrix.transpose_mul, Matrix.transpose_smul, charProj_transpose, permMat_transpose, inv_inv, chi_inv] at h

theorem charProj_mul_of_covariant (Q : Matrix (Fin p → Fin d) (Fin p → Fin d) ℚ)
    (h : ∀ τ : Perm (Fin p), permMat d p τ * Q = ((χ τ : ℤ) : ℚ) • Q) : charProj d p χ * Q = Q := by
  simp only [charProj, Matrix.smul_mul, Finset.sum_mul, h, smul_smul, chi_mul_self, one_smul]
  exact avg_const Q

theorem charProj_mul_self : charProj d p χ * charProj d p χ = charProj d p χ :=
  charProj_mul_of_covariant χ _ (permMat_mul_charProj χ)

theorem charProj_mulVec_eq_iff (v : (Fin p → Fin d) → ℚ) :
    (charProj d p χ).mulVec v = v ↔ ∀ τ : Perm (Fin p), (permMat d p τ).mulVec v = ((χ τ : ℤ) : ℚ) • v := by
  constructor
  · intro h τ
    rw [← h, Matrix.mulVec_mulVec, permMat_mul_charProj, Matrix.smul_mulVec]
  · intro h
    simp only [charProj, Matrix.smul_mulVec, Matrix.sum_mulVec, h, smul_smul, chi_mul_self, one_smul]
    exact avg_const v

theorem charProj_mul_charProj_of_ne {χ ψ : Perm (Fin p) →* ℤˣ} (τ : Perm (Fin p)) (h : χ τ ≠ ψ τ) :
    charProj d p χ * charProj d p ψ = 0 := by
  have h1 : ((χ τ : ℤ) : ℚ) • (charProj d p χ * charProj d p ψ) = ((ψ τ : ℤ) : ℚ) • (charProj d p χ * charProj d p ψ) := by
    rw [← Matrix.smul_mul, ← charProj_mul_permMat, Matrix.mul_assoc, permMat_mul_charProj, Matrix.mul_smul]
  rw [← sub_eq_zero, ← sub_smul] at h1
  exact (smul_eq_zero.mp h1).resolve_left (sub_ne_zero.mpr fun e => h (Units.ext (Int.cast_injective e)))

theorem exists_one_ne_sign (hp : 2 ≤ p) : ∃ τ : Perm (Fin p), (1 : Perm (Fin p) →* ℤˣ) τ ≠ Perm.sign τ := by
  refine ⟨Equiv.swap ⟨0, by omega⟩ ⟨1, by omega⟩, ?_⟩
  rw [Perm.sign_swap (by simp [Fin.ext_iff]), MonoidHom.one_apply]
  decide

theorem charProj_p_one (χ : Perm (Fin 1) →* ℤˣ) : charProj d 1 χ = 1 := by
  rw [charProj, Fintype.sum_unique, Perm.default_eq, map_one, Units.val_one, Int.cast_one, one_smul, permMat_one,
    Nat.factorial_one, Nat.cast_one, inv_one, one_smul]

end charProj

/-- exchanging the two positions of a repeated digit fixes the column and changes the sign -/
theorem antiSpec_apply_of_not_injective (y x : Fin p → Fin d) (hx : ¬ Function.Injective x) :
    antiSpec d p y x = 0 := by
  rw [antiSpec_eq_charProj]
  obtain ⟨a, b, hab, hne⟩ := Function.not_injective_iff.mp hx
  have hfix : x ∘ Equiv.swap a b = x := by
    rw [Equiv.comp_swap_eq_update, hab, Function.update_eq_self, ← hab, Function.update_eq_self]
  have h := congrFun₂ (charProj_mul_permMat (d := d) Perm.sign (Equiv.swap a b)) y x
  rw [mul_permMat_apply, hfix, Perm.sign_swap hne] at h
  exact self_eq_neg.mp (by simpa using h)

theorem antiSpec_eq_zero_of_lt (h : d < p) : antiSpec d p = 0 := by
  ext y x
  refine antiSpec_apply_of_not_injective y x fun hinj => ?_
  have := Fintype.card_le_of_injective x hinj
  rw [Fintype.card_fin, Fintype.card_fin] at this
  omega

end projectors

open Toq.Perms Toq.C01

/-! ### `perm_sign`

`perm_sign` is the determinant of a column-selected identity matrix.  When the selected columns are those of a permutation `σ` it is the sign of
`σ` (`permSign_of_cols`); which `σ` that is depends on the index convention of the argument (`permSign_of_isPerm1`, `wrapIdx_pred`). -/

theorem detLaplace_eq_det : ∀ (n : ℕ) (M : ℕ → ℕ → ℤ),
    detLaplace n M = Matrix.det (Matrix.of fun (i j : Fin n) => M i j)
  | 0, M => by simp [detLaplace]
  | n + 1, M => by
    rw [Matrix.det_succ_row_zero]
    unfold detLaplace
    rw [sumN_eq_sum_fin]
    apply Finset.sum_congr rfl
    intro j _
    rw [detLaplace_eq_det n]
    congr 2
    ext i k
    simp only [Matrix.of_apply, Matrix.submatrix_apply, Fin.val_succ]
    congr 1
    by_cases h : (k : ℕ) < j
    · rw [if_pos h, Fin.succAbove_of_castSucc_lt _ _ (by simpa [Fin.lt_def] using h)]; rfl
    · rw [if_neg h, Fin.succAbove_of_le_castSucc _ _ (by simpa [Fin.le_def] using Nat.le_of_not_lt h)]; rfl

/-- a permutation of `0..n-1` given as a function on `ℕ`, as an element of `Perm (Fin n)` -/
def permOfFn (n : ℕ) (f : ℕ → ℕ) (h : IsPermN n f) : Perm (Fin n) where
  toFun i := ⟨f i, h.lt i i.2⟩
  invFun i := ⟨invPerm n f i, invPerm_lt n f h.lt h.inj i i.2⟩
  left_inv i := Fin.ext (invPerm_perm n f h.inj i i.2)
  right_inv i := Fin.ext (perm_invPerm n f h.lt h.inj i i.2)

@[simp] theorem permOfFn_apply (n : ℕ) (f : ℕ → ℕ) (h : IsPermN n f) (i : Fin n) :
    ((permOfFn n f h i : Fin n) : ℕ) = f i := rfl

@[simp] theorem permOfFn_symm_apply (n : ℕ) (f : ℕ → ℕ) (h : IsPermN n f) (i : Fin n) :
    (((permOfFn n f h).symm i : Fin n) : ℕ) = invPerm n f i := rfl

theorem permOfFn_comp {n : ℕ} {f g : ℕ → ℕ} (hf : IsPermN n f) (hg : IsPermN n g) :
    permOfFn n (fun k => f (g k)) (comp_isPermN n f g hf hg) = permOfFn n f hf * permOfFn n g hg := by
  ext i; rfl

theorem prod_Iio_fin {M : Type} [CommMonoid M] {n : ℕ} (j : Fin n) (g : ℕ → M) :
    ∏ i ∈ Finset.Iio j, g (i : ℕ) = ∏ i ∈ Finset.range j, g i := by
  rw [← Nat.Iio_eq_range, ← Fin.map_valEmbedding_Iio, Finset.prod_map]
  rfl

/-- Mathlib's `sign_eq_prod_prod_Iio` writes the sign as a product over the pairs `i < j` of `±1`, `signInv` is `-1` to the number of
    inversions, a sum over the same pairs: the factors agree pair by pair -/
theorem sign_permOfFn (n : ℕ) (f : ℕ → ℕ) (h : IsPermN n f) :
    ((Perm.sign (permOfFn n f h) : ℤˣ) : ℤ) = signInv n (fun k => (f k : ℤ)) := by
  rw [Equiv.Perm.sign_eq_prod_prod_Iio]
  unfold signInv inversions
  rw [sumN_eq_sum, ← Finset.prod_pow_eq_pow_sum]
  simp only [Units.coe_prod]
  rw [← Fin.prod_univ_eq_prod_range (fun j => (-1 : ℤ) ^ sumN j (fun i => if (f j : ℤ) < (f i : ℤ) then 1 else 0)) n]
  apply Finset.prod_congr rfl
  intro j _
  rw [sumN_eq_sum, ← Finset.prod_pow_eq_pow_sum, ← prod_Iio_fin j]
  apply Finset.prod_congr rfl
  intro i hi
  have hij : (i : ℕ) < j := Fin.lt_def.mp (Finset.mem_Iio.mp hi)
  have hne : f i ≠ f j := fun e => by
    have := h.inj i j i.2 j.2 e
    omega
  have hlt : permOfFn n f h i < permOfFn n f h j ↔ ¬ (f j : ℤ) < (f i : ℤ) := by
    rw [Fin.lt_def, permOfFn_apply, permOfFn_apply]
    omega
  rw [if_congr hlt rfl rfl]
  split_ifs <;> rfl

theorem permSign_of_cols (n : ℕ) (perm : ℕ → ℤ) (σ : Perm (Fin n))
    (hc : ∀ j : Fin n, wrapIdx n (perm j - 1) = some (σ j : ℕ)) :
    permSign n perm = ((Perm.sign σ : ℤˣ) : ℤ) := by
  have hdet := Matrix.det_permutation (R := ℤ) σ
  rw [Int.cast_id] at hdet
  rw [permSign, detLaplace_eq_det, ← hdet, ← Matrix.det_transpose]
  congr 1
  ext i j
  simp only [Matrix.of_apply, Matrix.transpose_apply, selMatrix, hc i, PEquiv.toMatrix_apply,
    Equiv.toPEquiv_apply, Option.mem_def, Option.some.injEq, Fin.ext_iff]

theorem wrapIdx_of_nonneg {n : ℕ} {k : ℤ} (h0 : 0 ≤ k) (hn : k < n) : wrapIdx n k = some k.toNat := if_pos ⟨h0, hn⟩

theorem wrapIdx_nat (n m : ℕ) (h : m < n) : wrapIdx n (m : ℤ) = some m :=
  wrapIdx_of_nonneg (Int.natCast_nonneg m) (Int.ofNat_lt.mpr h)

theorem wrapIdx_neg_one (n : ℕ) (h : 0 < n) : wrapIdx n (-1) = some (n - 1) := by
  rw [wrapIdx, if_neg (by omega), if_pos ⟨by omega, by omega⟩]
  congr 1
  omega

theorem wrapIdx_pred {m : ℕ} (i : Fin (m + 1)) :
    wrapIdx (m + 1) ((i : ℤ) - 1) = some (((finRotate (m + 1))⁻¹ i : Fin (m + 1)) : ℕ) := by
  obtain ⟨j, rfl⟩ := (finRotate (m + 1)).surjective i
  rw [Perm.inv_def, Equiv.symm_apply_apply, coe_finRotate]
  split_ifs with h
  · rw [h, Nat.cast_zero, zero_sub, Fin.val_last]
    exact wrapIdx_neg_one (m + 1) m.succ_pos
  · rw [Nat.cast_succ, add_sub_cancel_right]
    exact wrapIdx_nat _ _ j.2

/-- `perm_sign` on a permutation of `1..n` (the documented convention) is the sign -/
theorem permSign_one_indexed (n : ℕ) (f : ℕ → ℕ) (hf : IsPermN n f) :
    permSign n (fun j => (f j : ℤ) + 1) = ((Perm.sign (permOfFn n f hf) : ℤˣ) : ℤ) := by
  refine permSign_of_cols n _ (permOfFn n f hf) fun j => ?_
  rw [add_sub_cancel_right]
  exact wrapIdx_nat n (f j) (hf.lt j j.2)

theorem isPermN_of_isPerm1 {n : ℕ} {perm : ℕ → ℤ} (h : IsPerm1 n perm) :
    IsPermN n (fun j => (perm j - 1).toNat) := by
  constructor
  · intro k hk
    have := h.range k hk
    show (perm k - 1).toNat < n
    omega
  · intro a b ha hb hab
    have h1 := h.range a ha
    have h2 := h.range b hb
    apply h.inj a b ha hb
    have hab' : (perm a - 1).toNat = (perm b - 1).toNat := hab
    omega

theorem wrapIdx_of_isPerm1 {n : ℕ} {perm : ℕ → ℤ} (h : IsPerm1 n perm) (k : ℕ) (hk : k < n) :
    wrapIdx n (perm k - 1) = some (perm k - 1).toNat := by
  have := h.range k hk
  exact wrapIdx_of_nonneg (by omega) (by omega)

theorem permSign_of_isPerm1 {n : ℕ} {perm : ℕ → ℤ} (h : IsPerm1 n perm) :
    permSign n perm = ((Perm.sign (permOfFn n (fun j => (perm j - 1).toNat) (isPermN_of_isPerm1 h)) : ℤˣ) : ℤ) :=
  permSign_of_cols n perm _ fun j => wrapIdx_of_isPerm1 h j j.2

theorem inversions_congr (n : ℕ) (a b : ℕ → ℤ)
    (h : ∀ i j, i < n → j < n → (a j < a i ↔ b j < b i)) : inversions n a = inversions n b := by
  unfold inversions
  apply sumN_congr
  intro j hj
  apply sumN_congr
  intro i hi
  by_cases hlt : a j < a i
  · rw [if_pos hlt, if_pos ((h i j (by omega) hj).mp hlt)]
  · rw [if_neg hlt, if_neg (fun e => hlt ((h i j (by omega) hj).mpr e))]

/-- blocks whose members carry different keys are disjoint -/
theorem nodup_flatMap_of_key {β γ κ : Type*} {l : List β} {f : β → List γ} (key : γ → κ) (k : β → κ)
    (hk : ∀ b ∈ l, ∀ c ∈ f b, key c = k b) (hl : (l.map k).Nodup) (hf : ∀ b ∈ l, (f b).Nodup) : (l.flatMap f).Nodup := by
  rw [List.nodup_flatMap]
  refine ⟨hf, ?_⟩
  rw [List.Nodup, List.pairwise_map] at hl
  refine (List.Pairwise.and_mem.mp hl).imp ?_
  rintro b1 b2 ⟨h1, h2, hne⟩
  rw [Function.onFun, List.disjoint_left]
  intro c hc1 hc2
  exact hne ((hk b1 h1 c hc1).symm.trans (hk b2 h2 c hc2))

theorem length_of_perm_cons {α : Type*} {l r : List α} {a : α} {k : ℕ} (h : l.Perm (a :: r)) (hl : l.length = k + 1) :
    r.length = k := by
  rw [h.length_eq, List.length_cons] at hl
  exact Nat.succ.inj hl

/-! ### `itertools.permutations(range(p))`

`permsList p` lists every rearrangement of `0..p-1` once, so a sum over it is a sum over `Perm (Fin p)`. -/

theorem picks_map_fst {α : Type} : ∀ l : List α, (picks l).map Prod.fst = l
  | [] => rfl
  | a :: t => by
    simp only [picks, List.map_cons, List.map_map]
    congr 1
    have : (Prod.fst ∘ fun (x : α × List α) => (x.1, a :: x.2)) = Prod.fst := by funext x; rfl
    rw [this]; exact picks_map_fst t

theorem picks_perm {α : Type} : ∀ (l : List α) (a : α) (r : List α), (a, r) ∈ picks l → l.Perm (a :: r)
  | [], _, _, h => by simp [picks] at h
  | b :: t, a, r, h => by
    simp only [picks, List.mem_cons, List.mem_map, Prod.mk.injEq] at h
    rcases h with ⟨rfl, rfl⟩ | ⟨⟨c, s⟩, hm, rfl, rfl⟩
    · exact List.Perm.refl _
    · exact ((picks_perm t c s hm).cons b).trans (List.Perm.swap c b s)

theorem picks_exists {α : Type} (l : List α) (a : α) (h : a ∈ l) : ∃ r, (a, r) ∈ picks l := by
  rw [← picks_map_fst l] at h
  obtain ⟨⟨b, r⟩, hm, rfl⟩ := List.mem_map.mp h
  exact ⟨r, hm⟩

theorem mem_permsAux {α : Type} : ∀ (k : ℕ) (l t : List α), l.length = k → (t ∈ permsAux k l ↔ t.Perm l)
  | 0, l, t, hl => by
    rw [List.length_eq_zero_iff.mp hl, permsAux, List.mem_singleton, List.perm_nil]
  | k + 1, l, t, hl => by
    simp only [permsAux, List.mem_flatMap, List.mem_map]
    constructor
    · rintro ⟨⟨a, r⟩, hp, t', ht', rfl⟩
      have hp := picks_perm l a r hp
      exact (((mem_permsAux k r t' (length_of_perm_cons hp hl)).mp ht').cons a).trans hp.symm
    · intro ht
      cases t with
      | nil => rw [← ht.length_eq] at hl; exact absurd hl (Nat.succ_ne_zero k).symm
      | cons a t' =>
        obtain ⟨r, hm⟩ := picks_exists l a (ht.subset List.mem_cons_self)
        have hp := picks_perm l a r hm
        exact ⟨(a, r), hm, t', (mem_permsAux k r t' (length_of_perm_cons hp hl)).mpr (ht.trans hp).cons_inv, rfl⟩

/-- tuples that start with different picks differ in their first entry -/
theorem nodup_permsAux {α : Type} : ∀ (k : ℕ) (l : List α), l.length = k → l.Nodup → (permsAux k l).Nodup
  | 0, l, _, _ => List.nodup_singleton []
  | k + 1, l, hl, hn => by
    refine nodup_flatMap_of_key List.head? (some ∘ Prod.fst) ?_ ?_ ?_
    · rintro ⟨a, r⟩ _ t ht
      obtain ⟨t', _, rfl⟩ := List.mem_map.mp ht
      rfl
    · rw [← List.map_map, picks_map_fst]
      exact hn.map (Option.some_injective α)
    · rintro ⟨a, r⟩ hm
      have hp := picks_perm l a r hm
      exact (nodup_permsAux k r (length_of_perm_cons hp hl) (hp.nodup_iff.mp hn).of_cons).map (List.cons_injective (a := a))

theorem mem_permsList (p : ℕ) (t : List ℕ) : t ∈ permsList p ↔ t.Perm (List.range p) :=
  mem_permsAux p (List.range p) t (List.length_range)

theorem nodup_permsList (p : ℕ) : (permsList p).Nodup :=
  nodup_permsAux p (List.range p) (List.length_range) (List.nodup_range)

def listOfPerm {p : ℕ} (σ : Perm (Fin p)) : List ℕ := List.ofFn (fun k => ((σ k : Fin p) : ℕ))

theorem listOfPerm_perm {p : ℕ} (σ : Perm (Fin p)) : (listOfPerm σ).Perm (List.range p) := by
  have h : List.ofFn (fun k : Fin p => (k : ℕ)) = List.range p := by
    rw [List.ofFn_eq_map]; exact List.map_coe_finRange_eq_range
  exact h ▸ Equiv.Perm.ofFn_comp_perm σ (fun k : Fin p => (k : ℕ))

theorem isPermN_of_mem_permsList {p : ℕ} {s : List ℕ} (hs : s ∈ permsList p) : IsPermN p (fnOfList s) :=
  isPermN_of_perm p s ((mem_permsList p s).mp hs)

theorem listOfPerm_permOfFn {p : ℕ} {s : List ℕ} (hs : IsPermN p (fnOfList s)) (hlen : s.length = p) :
    listOfPerm (permOfFn p (fnOfList s) hs) = s := by
  apply List.ext_getElem
  · rw [listOfPerm.eq_1, List.length_ofFn, hlen]
  · intro k h1 h2
    simp only [listOfPerm, List.getElem_ofFn]
    exact List.getD_eq_getElem s 0 h2

theorem isPermN_listOfPerm {p : ℕ} (σ : Perm (Fin p)) : IsPermN p (fnOfList (listOfPerm σ)) :=
  isPermN_of_perm p _ (listOfPerm_perm σ)

theorem permOfFn_listOfPerm {p : ℕ} (σ : Perm (Fin p)) :
    permOfFn p (fnOfList (listOfPerm σ)) (isPermN_listOfPerm σ) = σ := by
  ext k
  rw [permOfFn_apply]
  refine (List.getD_eq_getElem _ 0 (by rw [listOfPerm.eq_1, List.length_ofFn]; exact k.2)).trans ?_
  simp only [listOfPerm, List.getElem_ofFn]

theorem sum_permsList {A : Type} [AddCommMonoid A] (p : ℕ) (G : List ℕ → A) :
    ((permsList p).map G).sum = ∑ σ : Perm (Fin p), G (listOfPerm σ) := by
  rw [← List.sum_toFinset _ (nodup_permsList p)]
  refine (Finset.sum_bij' (fun σ _ => listOfPerm σ)
    (fun s hs => permOfFn p (fnOfList s) (isPermN_of_mem_permsList (List.mem_toFinset.mp hs)))
    (fun σ _ => List.mem_toFinset.mpr ((mem_permsList p _).mpr (listOfPerm_perm σ))) (fun _ _ => Finset.mem_univ _)
    (fun σ _ => permOfFn_listOfPerm σ) ?_ (fun _ _ => rfl)).symm
  intro s hs
  have := (mem_permsList p s).mp (List.mem_toFinset.mp hs)
  exact listOfPerm_permOfFn _ (by rw [this.length_eq, List.length_range])

/-! ### Digit vectors and flat indices

Digit vectors `Fin p → Fin d` index the matrices of the specification, flat indices below `d^p` those of the models; `encD` translates. -/

/-- digit vector `Fin p → Fin d` as a total function on `ℕ`: `extFin` at the constant radix `d` -/
def extD {d p : ℕ} (y : Fin p → Fin d) : ℕ → ℕ := fun k => if h : k < p then (y ⟨k, h⟩ : ℕ) else 0

/-- the flat index (toqito's tensor index) of a digit vector: the inverse direction of `digitsEquiv` at constant radices
    (`digitsEquiv_symm_encD`) -/
def encD {d p : ℕ} (y : Fin p → Fin d) : ℕ := enc (constDims d) (extD y) p

theorem extD_lt {d p : ℕ} (y : Fin p → Fin d) (k : ℕ) (hk : k < p) : extD y k < constDims d k :=
  extFin_lt (d := constDims d) y k hk

theorem extD_apply {d p : ℕ} (y : Fin p → Fin d) (k : Fin p) : extD y k = y k :=
  extFin_apply (d := constDims d) y k

theorem encD_lt {d p : ℕ} (y : Fin p → Fin d) : encD y < prodN (constDims d) p :=
  enc_lt _ _ p (extD_lt y)

theorem digitsEquiv_symm_encD {d p : ℕ} (y : Fin p → Fin d) : ((digitsEquiv (constDims d) p).symm y : ℕ) = encD y := rfl

theorem encD_eq_iff {d p : ℕ} {y x : Fin p → Fin d} : encD y = encD x ↔ y = x :=
  ⟨fun h => (digitsEquiv (constDims d) p).symm.injective (Fin.ext h), congrArg encD⟩

theorem prodN_constDims (d p : ℕ) : prodN (constDims d) p = d ^ p := prodN_const d p

theorem exists_encD_eq {d p : ℕ} {i : ℕ} (hi : i < d ^ p) : ∃ y : Fin p → Fin d, encD y = i :=
  ⟨digitsEquiv (constDims d) p ⟨i, (prodN_constDims d p).symm ▸ hi⟩,
    congrArg Fin.val ((digitsEquiv (constDims d) p).symm_apply_apply _)⟩

theorem permIndex_encD {d p : ℕ} (f : ℕ → ℕ) (hf : IsPermN p f) (y : Fin p → Fin d) :
    permIndex p f (constDims d) false (encD y) = encD (y ∘ (permOfFn p f hf).symm) :=
  (permIndex_enc p f _ (extD y) hf fun k hk => extD_lt y k hk).trans (enc_congr_digits _ _ _ _ fun k hk =>
    (extD_apply y ((permOfFn p f hf).symm ⟨k, hk⟩)).trans (extD_apply (y ∘ (permOfFn p f hf).symm) ⟨k, hk⟩).symm)

theorem permOp_encD {d p : ℕ} (f : ℕ → ℕ) (hf : IsPermN p f) (y x : Fin p → Fin d) :
    permOp (α := ℤ) p f (constDims d) false (encD y) (encD x)
      = if y = x ∘ (permOfFn p f hf) then 1 else 0 := by
  show (if permIndex p f (constDims d) false (encD y) = encD x then (1 : ℤ) else 0) = _
  simp only [permIndex_encD f hf, encD_eq_iff, Equiv.comp_symm_eq]

theorem sumN_eq_sum_encD {A : Type} [AddCommMonoid A] {d p : ℕ} (F : ℕ → A) :
    sumN (prodN (constDims d) p) F = ∑ y : Fin p → Fin d, F (encD y) :=
  sumN_prodN_eq_sum (constDims d) p F

/-- **The loop of the two projector functions.**  `Σ_s c_s · W_s` over `itertools.permutations(range(p))`, with coefficients `c_s = χ(s)` for a
    character `χ`, is entrywise `p!` times `charProj χ`. -/
theorem sum_coef_permOp {d p : ℕ} (χ : Perm (Fin p) →* ℤˣ) (coef : List ℕ → ℤ)
    (hc : ∀ σ : Perm (Fin p), coef (listOfPerm σ) = χ σ) (y x : Fin p → Fin d) :
    ((((permsList p).map fun s => coef s * permOp (α := ℤ) p (fnOfList s) (constDims d) false (encD y) (encD x)).sum : ℤ) : ℚ)
      = (p.factorial : ℚ) * charProj d p χ y x := by
  rw [sum_permsList, charProj_apply, ← mul_assoc, mul_inv_cancel₀ cast_factorial_ne_zero, one_mul, Int.cast_sum]
  refine Finset.sum_congr rfl fun σ _ => ?_
  rw [hc, permOp_encD _ (isPermN_listOfPerm σ), permOfFn_listOfPerm, Int.cast_mul, Int.cast_ite, Int.cast_one, Int.cast_zero]

theorem symRefN_eq {d p : ℕ} (y x : Fin p → Fin d) :
    ((symRefN d p (encD y) (encD x) : ℤ) : ℚ) = (p.factorial : ℚ) * symSpec d p y x := by
  rw [symSpec_eq_charProj, ← sum_coef_permOp 1 (fun _ => 1) (fun _ => rfl)]
  simp only [one_mul]
  rfl

theorem antisymRefN_eq {d p : ℕ} (y x : Fin p → Fin d) :
    ((antisymRefN d p (encD y) (encD x) : ℤ) : ℚ) = (p.factorial : ℚ) * antiSpec d p y x :=
  sum_coef_permOp Perm.sign _ (fun σ => by rw [← sign_permOfFn _ _ (isPermN_listOfPerm σ), permOfFn_listOfPerm]) y x

theorem symProjN_eq {d p : ℕ} (y x : Fin p → Fin d) :
    ((symProjN d p (encD y) (encD x) : ℤ) : ℚ) = (p.factorial : ℚ) * symSpec d p y x := by
  by_cases hp : p = 1
  · subst hp
    simp [symProjN, symSpec_eq_charProj, charProj_p_one, Matrix.one_apply, encD_eq_iff]
  · rw [← symRefN_eq]
    simp only [symProjN, if_neg hp]
    rfl

theorem antisymProjN_eq {d p : ℕ} (y x : Fin p → Fin d) :
    ((antisymProjN d p (encD y) (encD x) : ℤ) : ℚ) = (p.factorial : ℚ) * antiSpec d p y x := by
  by_cases hp : p = 1
  · subst hp
    simp [antisymProjN, antiSpec_eq_charProj, charProj_p_one, Matrix.one_apply, encD_eq_iff]
  by_cases hd : d < p
  · simp [antisymProjN, hp, hd, antiSpec_eq_zero_of_lt hd]
  · simp only [antisymProjN, if_neg hp, if_neg hd]
    exact sum_coef_permOp Perm.sign _
      (fun σ => by rw [permSign_one_indexed p _ (isPermN_listOfPerm σ), permOfFn_listOfPerm]) y x

/-! ### The models as matrices

The models of the two projector functions are `p!` times the specification; the model's `sumN` product and `traceN` are the matrix product and the
trace, and every entry below `d^p` is an entry of `modelMat`, so a law of `charProj` holds of the integer models. -/

/-- the model's integer matrix, read as a rational matrix on digit vectors -/
def modelMat {d p : ℕ} (M : ℕ → ℕ → ℤ) : Matrix (Fin p → Fin d) (Fin p → Fin d) ℚ :=
  fun y x => ((M (encD y) (encD x) : ℤ) : ℚ)

section modelMat
variable {d p : ℕ}

theorem modelMat_symRefN : modelMat (symRefN d p) = (p.factorial : ℚ) • symSpec d p := Matrix.ext symRefN_eq

theorem modelMat_antisymRefN : modelMat (antisymRefN d p) = (p.factorial : ℚ) • antiSpec d p := Matrix.ext antisymRefN_eq

theorem modelMat_symProjN : modelMat (symProjN d p) = (p.factorial : ℚ) • symSpec d p := Matrix.ext symProjN_eq

theorem modelMat_antisymProjN : modelMat (antisymProjN d p) = (p.factorial : ℚ) • antiSpec d p :=
  Matrix.ext antisymProjN_eq

/-- the C01 model of `permutation_operator(d·ones(p), σ)` is `W_σ` -/
theorem modelMat_permOp (f : ℕ → ℕ) (hf : IsPermN p f) :
    modelMat (permOp (α := ℤ) p f (constDims d) false) = permMat d p (permOfFn p f hf) := by
  ext y x
  rw [modelMat, permOp_encD f hf, permMat, Int.cast_ite, Int.cast_one, Int.cast_zero]

theorem modelMat_smul (c : ℤ) (M : ℕ → ℕ → ℤ) :
    modelMat (d := d) (p := p) (fun i j => c * M i j) = (c : ℚ) • modelMat M :=
  Matrix.ext fun _ _ => Int.cast_mul _ _

theorem modelMat_symProjN_charProj : modelMat (symProjN d p) = (p.factorial : ℚ) • charProj d p 1 :=
  symSpec_eq_charProj ▸ modelMat_symProjN

theorem modelMat_add (A B : ℕ → ℕ → ℤ) :
    modelMat (d := d) (p := p) (fun i j => A i j + B i j) = modelMat A + modelMat B :=
  Matrix.ext fun _ _ => Int.cast_add _ _

theorem modelMat_scalar (c : ℤ) : modelMat (d := d) (p := p) (fun i j => if i = j then c else 0) = (c : ℚ) • 1 := by
  ext y x
  rw [modelMat, Matrix.smul_apply, Matrix.one_apply, smul_eq_mul, mul_ite, mul_one, mul_zero, Int.cast_ite, Int.cast_zero]
  exact if_congr encD_eq_iff rfl rfl

theorem modelMat_zero : modelMat (d := d) (p := p) (fun _ _ => 0) = 0 := Matrix.ext fun _ _ => Int.cast_zero

theorem modelMat_mul (A B : ℕ → ℕ → ℤ) :
    modelMat (d := d) (p := p) (fun i j => sumN (d ^ p) fun k => A i k * B k j) = modelMat A * modelMat B := by
  ext y x
  rw [modelMat, ← prodN_constDims d p, sumN_eq_sum_encD, Matrix.mul_apply, Int.cast_sum]
  exact Finset.sum_congr rfl fun z _ => Int.cast_mul _ _

theorem trace_modelMat (M : ℕ → ℕ → ℤ) :
    (modelMat (d := d) (p := p) M).trace = traceN (d ^ p) M := by
  rw [traceN, ← prodN_constDims d p, sumN_eq_sum_encD, Int.cast_sum]
  rfl

theorem eq_of_modelMat_eq {A C : ℕ → ℕ → ℤ} (h : modelMat (d := d) (p := p) A = modelMat C)
    (i j : ℕ) (hi : i < d ^ p) (hj : j < d ^ p) : A i j = C i j := by
  obtain ⟨y, rfl⟩ := exists_encD_eq hi
  obtain ⟨x, rfl⟩ := exists_encD_eq hj
  exact Int.cast_injective (congrFun₂ h y x)

theorem matmul_model {A B C : ℕ → ℕ → ℤ} (i j : ℕ) (hi : i < d ^ p) (hj : j < d ^ p)
    (h : modelMat (d := d) (p := p) A * modelMat B = modelMat C) :
    sumN (d ^ p) (fun k => A i k * B k j) = C i j :=
  eq_of_modelMat_eq ((modelMat_mul A B).trans h) i j hi hj

theorem charModel_mul_self (χ : Perm (Fin p) →* ℤˣ) {M : ℕ → ℕ → ℤ}
    (h : modelMat (d := d) (p := p) M = (p.factorial : ℚ) • charProj d p χ) (i j : ℕ) (hi : i < d ^ p) (hj : j < d ^ p) :
    sumN (d ^ p) (fun k => M i k * M k j) = (p.factorial : ℤ) * M i j :=
  matmul_model (C := fun i j => (p.factorial : ℤ) * M i j) i j hi hj (by
    rw [modelMat_smul, h, Matrix.smul_mul, Matrix.mul_smul, charProj_mul_self, Int.cast_natCast])

theorem charModel_mul_of_ne {χ ψ : Perm (Fin p) →* ℤˣ} (τ : Perm (Fin p)) (hne : χ τ ≠ ψ τ) {M N : ℕ → ℕ → ℤ}
    (hM : modelMat (d := d) (p := p) M = (p.factorial : ℚ) • charProj d p χ)
    (hN : modelMat (d := d) (p := p) N = (p.factorial : ℚ) • charProj d p ψ) (i j : ℕ) (hi : i < d ^ p) (hj : j < d ^ p) :
    sumN (d ^ p) (fun k => M i k * N k j) = 0 :=
  matmul_model (C := fun _ _ => 0) i j hi hj (by
    rw [modelMat_zero, hM, hN, Matrix.smul_mul, Matrix.mul_smul, charProj_mul_charProj_of_ne τ hne, smul_zero, smul_zero])

theorem permOp_mul_charModel (χ : Perm (Fin p) →* ℤˣ) {M : ℕ → ℕ → ℤ}
    (h : modelMat (d := d) (p := p) M = (p.factorial : ℚ) • charProj d p χ) (f : ℕ → ℕ) (hf : IsPermN p f)
    (i j : ℕ) (hi : i < d ^ p) (hj : j < d ^ p) :
    sumN (d ^ p) (fun k => permOp (α := ℤ) p f (constDims d) false i k * M k j) = (χ (permOfFn p f hf) : ℤ) * M i j :=
  matmul_model (C := fun i j => (χ (permOfFn p f hf) : ℤ) * M i j) i j hi hj (by
    rw [modelMat_smul, modelMat_permOp f hf, h, Matrix.mul_smul, permMat_mul_charProj, smul_comm])

theorem cast_traceN_of_modelMat {M : ℕ → ℕ → ℤ} {c : ℚ} {S : Matrix (Fin p → Fin d) (Fin p → Fin d) ℚ}
    (h : modelMat M = c • S) : ((traceN (d ^ p) M : ℤ) : ℚ) = c * S.trace := by
  rw [← trace_modelMat, h, Matrix.trace_smul, smul_eq_mul]

theorem traceN_model {M : ℕ → ℕ → ℤ} {S : Matrix (Fin p → Fin d) (Fin p → Fin d) ℚ}
    (h : modelMat M = (p.factorial : ℚ) • S) {t : ℕ} (ht : S.trace = t) :
    traceN (d ^ p) M = (p.factorial : ℤ) * (t : ℤ) := by
  have := cast_traceN_of_modelMat h
  rw [ht] at this
  exact_mod_cast this

theorem traceN_symRefN {d p : ℕ} (hd : 0 < d) :
    ((traceN (d ^ p) (symRefN d p) : ℤ) : ℚ) = (p.factorial : ℚ) * Matrix.trace (symSpec d p) :=
  cast_traceN_of_modelMat modelMat_symRefN

theorem traceN_antisymRefN {d p : ℕ} (hd : 0 < d) :
    ((traceN (d ^ p) (antisymRefN d p) : ℤ) : ℚ) = (p.factorial : ℚ) * Matrix.trace (antiSpec d p) :=
  cast_traceN_of_modelMat modelMat_antisymRefN

end modelMat

/-! ### The rows the driver evaluates

The driver evaluates the projector models row by row (`projRow`); these are the rows of the models. -/

theorem projRow_get (coef : List ℕ → ℤ) (d p N i j : ℕ) (hj : j < N) :
    (projRow coef d p N i)[j]? = some (((permsList p).map (fun s =>
      coef s * permOp (α := ℤ) p (fnOfList s) (constDims d) false i j)).sum) := by
  unfold projRow coefRow
  simp only [List.getElem?_map, List.getElem?_range hj, Option.map_some, List.map_map]
  congr 2
  apply List.map_congr_left
  intro s _
  show (if permIndex p (fnOfList s) (constDims d) false i = j then coef s else 0)
    = coef s * (if permIndex p (fnOfList s) (constDims d) false i = j then 1 else 0)
  split_ifs <;> simp

theorem eyeRow_get (N i j : ℕ) (hj : j < N) : (eyeRow N i)[j]? = some (if i = j then 1 else 0) := by
  unfold eyeRow
  simp [List.getElem?_range hj]

theorem symRefRow_get (d p N i j : ℕ) (hj : j < N) : (symRefRow d p N i)[j]? = some (symRefN d p i j) := by
  unfold symRefRow symRefN
  rw [projRow_get _ d p N i j hj]
  simp

theorem antisymRefRow_get (d p N i j : ℕ) (hj : j < N) :
    (antisymRefRow d p N i)[j]? = some (antisymRefN d p i j) := by
  unfold antisymRefRow antisymRefN
  rw [projRow_get _ d p N i j hj]

theorem symProjRow_get (d p N i j : ℕ) (hj : j < N) : (symProjRow d p N i)[j]? = some (symProjN d p i j) := by
  unfold symProjRow symProjN
  by_cases hp : p = 1
  · simp only [if_pos hp]; exact eyeRow_get N i j hj
  · simp only [if_neg hp]
    rw [projRow_get _ d p N i j hj]
    simp

theorem antisymProjRow_get (d p N i j : ℕ) (hj : j < N) :
    (antisymProjRow d p N i)[j]? = some (antisymProjN d p i j) := by
  unfold antisymProjRow antisymProjN
  by_cases hp : p = 1
  · simp only [if_pos hp]; exact eyeRow_get N i j hj
  · simp only [if_neg hp]
    by_cases hd : d < p
    · simp [if_pos hd, hj]
    · simp only [if_neg hd]
      rw [projRow_get _ d p N i j hj]

/-! ### `unique_perms`

`uniqueHelper d cs acc` yields, each once, the rearrangements of the multiset `expandCounts cs` written in front of `acc`; their number times
`∏ c!` is `d!`. -/

def expandCounts {α : Type} (cs : List (α × ℕ)) : List α := cs.flatMap (fun vc => List.replicate vc.2 vc.1)

def factProd {α : Type} (cs : List (α × ℕ)) : ℕ := (cs.map (fun vc => vc.2.factorial)).prod

theorem expandCounts_cons {α : Type} (v : α) (c : ℕ) (t : List (α × ℕ)) :
    expandCounts ((v, c) :: t) = List.replicate c v ++ expandCounts t := rfl

theorem length_expandCounts {α : Type} : ∀ (cs : List (α × ℕ)), (expandCounts cs).length = (cs.map (fun vc => vc.2)).sum
  | [] => rfl
  | (v, c) :: t => by
    rw [expandCounts_cons, List.length_append, List.length_replicate, length_expandCounts t]; rfl

theorem mem_choices_cons {α : Type} {w v : α} {c : ℕ} {t cs' : List (α × ℕ)} :
    (v, cs') ∈ choices ((w, c) :: t) ↔
      (0 < c ∧ v = w ∧ cs' = (w, c - 1) :: t) ∨ ∃ t', (v, t') ∈ choices t ∧ cs' = (w, c) :: t' := by
  rw [choices, List.mem_append, List.mem_map]
  refine or_congr ?_ ⟨?_, ?_⟩
  · split_ifs with hc
    · rw [List.mem_singleton, Prod.mk.injEq]; exact (and_iff_right hc).symm
    · exact ⟨fun h => absurd h List.not_mem_nil, fun h => absurd h.1 hc⟩
  · rintro ⟨⟨u, t'⟩, hm, he⟩
    obtain ⟨rfl, rfl⟩ := Prod.mk.inj he
    exact ⟨t', hm, rfl⟩
  · rintro ⟨t', hm, rfl⟩
    exact ⟨(v, t'), hm, rfl⟩

theorem choices_perm {α : Type} : ∀ {cs : List (α × ℕ)} {v : α} {cs' : List (α × ℕ)},
    (v, cs') ∈ choices cs → (expandCounts cs).Perm (v :: expandCounts cs')
  | [], _, _, h => absurd h List.not_mem_nil
  | (w, c) :: t, v, cs', h => by
    rcases mem_choices_cons.mp h with ⟨hc, rfl, rfl⟩ | ⟨t', hm, rfl⟩
    · rw [expandCounts_cons, expandCounts_cons, ← List.cons_append, ← List.replicate_succ, Nat.sub_add_cancel hc]
    · rw [expandCounts_cons, expandCounts_cons]
      exact ((choices_perm hm).append_left _).trans List.perm_middle

theorem choices_map_fst {α : Type} : ∀ {cs : List (α × ℕ)} {v : α} {cs' : List (α × ℕ)},
    (v, cs') ∈ choices cs → cs'.map Prod.fst = cs.map Prod.fst
  | [], _, _, h => absurd h List.not_mem_nil
  | (w, c) :: t, v, cs', h => by
    rcases mem_choices_cons.mp h with ⟨_, rfl, rfl⟩ | ⟨t', hm, rfl⟩
    · rfl
    · rw [List.map_cons, List.map_cons, choices_map_fst hm]

theorem choices_exists {α : Type} : ∀ (cs : List (α × ℕ)) (v : α), v ∈ expandCounts cs → ∃ cs', (v, cs') ∈ choices cs
  | [], _, h => absurd h List.not_mem_nil
  | (w, c) :: t, v, h => by
    rw [expandCounts_cons, List.mem_append, List.mem_replicate] at h
    rcases h with ⟨hc, rfl⟩ | h
    · exact ⟨_, mem_choices_cons.mpr (Or.inl ⟨Nat.pos_of_ne_zero hc, rfl, rfl⟩)⟩
    · obtain ⟨t', ht'⟩ := choices_exists t v h
      exact ⟨_, mem_choices_cons.mpr (Or.inr ⟨t', ht', rfl⟩)⟩

theorem choices_fst_sublist {α : Type} : ∀ (cs : List (α × ℕ)),
    ((choices cs).map Prod.fst).Sublist (cs.map Prod.fst)
  | [] => List.Sublist.slnil
  | (w, c) :: t => by
    have ih : (List.map (Prod.fst ∘ fun (x : α × List (α × ℕ)) => (x.1, (w, c) :: x.2)) (choices t)).Sublist
        (t.map Prod.fst) := choices_fst_sublist t
    rw [choices, List.map_append, List.map_map, List.map_cons]
    split_ifs
    · exact ih.cons_cons w
    · exact ih.cons w

theorem mem_uniqueHelper {α : Type} : ∀ (d : ℕ) (cs : List (α × ℕ)) (acc r : List α),
    (expandCounts cs).length = d → (r ∈ uniqueHelper d cs acc ↔ ∃ l, l.Perm (expandCounts cs) ∧ r = l ++ acc)
  | 0, cs, acc, r, hl => by
    rw [uniqueHelper, List.mem_singleton, List.length_eq_zero_iff.mp hl]
    constructor
    · rintro rfl; exact ⟨[], List.Perm.refl _, rfl⟩
    · rintro ⟨l, hp, rfl⟩
      rw [List.perm_nil.mp hp]; rfl
  | d + 1, cs, acc, r, hl => by
    rw [uniqueHelper, List.mem_flatMap]
    constructor
    · rintro ⟨⟨v, cs'⟩, hch, hr⟩
      have hc := choices_perm hch
      obtain ⟨l', hp', rfl⟩ := (mem_uniqueHelper d cs' (v :: acc) r (length_of_perm_cons hc hl)).mp hr
      exact ⟨l' ++ [v], (List.perm_append_singleton v l').trans ((hp'.cons v).trans hc.symm), List.append_cons l' v acc⟩
    · rintro ⟨l, hp, rfl⟩
      rcases List.eq_nil_or_concat l with rfl | ⟨l', v, rfl⟩
      · rw [← hp.length_eq] at hl; exact absurd hl (Nat.succ_ne_zero d).symm
      · rw [List.concat_eq_append] at hp ⊢
        obtain ⟨cs', hch⟩ := choices_exists cs v (hp.subset (List.mem_append_right _ (List.mem_singleton_self v)))
        have hc := choices_perm hch
        exact ⟨(v, cs'), hch, (mem_uniqueHelper d cs' (v :: acc) _ (length_of_perm_cons hc hl)).mpr
          ⟨l', (((List.perm_append_singleton v l').symm.trans hp).trans hc).cons_inv, (List.append_cons l' v acc).symm⟩⟩

/-- tuples that come from different choices differ at the position being filled -/
theorem nodup_uniqueHelper {α : Type} : ∀ (d : ℕ) (cs : List (α × ℕ)) (acc : List α),
    (expandCounts cs).length = d → (cs.map Prod.fst).Nodup → (uniqueHelper d cs acc).Nodup
  | 0, cs, acc, _, _ => List.nodup_singleton acc
  | d + 1, cs, acc, hl, hn => by
    have hlen : ∀ vc ∈ choices cs, (expandCounts vc.2).length = d := fun vc h => length_of_perm_cons (choices_perm h) hl
    refine nodup_flatMap_of_key (fun r => r[d]?) (some ∘ Prod.fst) ?_ ?_ ?_
    · rintro ⟨v, cs'⟩ hch r hr
      obtain ⟨l, hq, rfl⟩ := (mem_uniqueHelper d cs' (v :: acc) r (hlen _ hch)).mp hr
      rw [← hlen _ hch, ← hq.length_eq, List.getElem?_append_right (le_refl _), Nat.sub_self]
      rfl
    · rw [← List.map_map]
      exact (hn.sublist (choices_fst_sublist cs)).map (Option.some_injective α)
    · rintro ⟨v, cs'⟩ hch
      exact nodup_uniqueHelper d cs' (v :: acc) (hlen _ hch) (choices_map_fst hch ▸ hn)

/-- the counter list built by `unique_perms` -/
def counters {α : Type} [DecidableEq α] (uniq elements : List α) : List (α × ℕ) :=
  uniq.map (fun v => (v, elements.count v))

theorem uniquePerms_eq {α : Type} [DecidableEq α] (uniq elements : List α) :
    uniquePerms uniq elements = uniqueHelper elements.length (counters uniq elements) [] := rfl

theorem count_expandCounts_map {α : Type} [DecidableEq α] (f : α → ℕ) (a : α) : ∀ (uniq : List α), uniq.Nodup →
    (expandCounts (uniq.map (fun v => (v, f v)))).count a = if a ∈ uniq then f a else 0
  | [], _ => rfl
  | u :: t, hn => by
    rw [List.map_cons, expandCounts_cons, List.count_append, count_expandCounts_map f a t hn.of_cons, List.count_replicate]
    have hu : u ∉ t := (List.nodup_cons.mp hn).1
    by_cases h : u = a
    · subst h; simp [hu]
    · have h' : ¬ a = u := fun e => h e.symm
      simp [h, h']

theorem expandCounts_counters_perm {α : Type} [DecidableEq α] (uniq elements : List α) (hn : uniq.Nodup)
    (hm : ∀ v, v ∈ uniq ↔ v ∈ elements) : (expandCounts (counters uniq elements)).Perm elements := by
  rw [List.perm_iff_count]
  intro a
  rw [counters, count_expandCounts_map (fun v => elements.count v) a uniq hn]
  split_ifs with h
  · rfl
  · exact (List.count_eq_zero_of_not_mem fun e => h ((hm a).mpr e)).symm

theorem counters_fst {α : Type} [DecidableEq α] (uniq elements : List α) :
    (counters uniq elements).map Prod.fst = uniq := by
  rw [counters, List.map_map]
  exact List.map_id _

/-- the counting step: if every choice `vc` leads to `W vc` tuples with `W vc · ∏ c'! = D`, all choices together lead to
    `D · Σ c / ∏ c!` tuples (choosing `v` lowers `c_v!` by the factor `c_v`) -/
theorem sum_choices {α : Type} : ∀ (cs : List (α × ℕ)) (W : α × List (α × ℕ) → ℕ) (D : ℕ),
    (∀ vc ∈ choices cs, W vc * factProd vc.2 = D) →
    ((choices cs).map W).sum * factProd cs = D * (expandCounts cs).length
  | [], W, D, _ => (Nat.zero_mul _).trans (Nat.mul_zero D).symm
  | (v, c) :: t, W, D, h => by
    have ih := sum_choices t (fun ut => W (ut.1, (v, c) :: ut.2) * c.factorial) D fun ut hut => by
      rw [mul_assoc]
      exact h (ut.1, (v, c) :: ut.2) (mem_choices_cons.mpr (Or.inr ⟨ut.2, hut, rfl⟩))
    have hhead : ((if c > 0 then [(v, (v, c - 1) :: t)] else []).map W).sum * (c.factorial * factProd t) = D * c := by
      cases c with
      | zero => rw [if_neg (Nat.lt_irrefl 0), List.map_nil, List.sum_nil, Nat.zero_mul, Nat.mul_zero]
      | succ k =>
        rw [if_pos k.succ_pos, List.map_singleton, List.sum_singleton,
          ← h _ (mem_choices_cons.mpr (Or.inl ⟨k.succ_pos, rfl, rfl⟩)), Nat.factorial_succ]
        show _ = W _ * (k.factorial * factProd t) * (k + 1)
        ring
    rw [List.sum_map_mul_right] at ih
    rw [choices, List.map_append, List.sum_append, List.map_map, add_mul, expandCounts_cons, List.length_append,
      List.length_replicate]
    show _ * (c.factorial * factProd t) + _ * (c.factorial * factProd t) = D * (c + (expandCounts t).length)
    rw [hhead, ← mul_assoc, mul_add]
    exact congrArg _ ih

theorem length_uniqueHelper {α : Type} : ∀ (d : ℕ) (cs : List (α × ℕ)) (acc : List α),
    (expandCounts cs).length = d → (uniqueHelper d cs acc).length * factProd cs = d.factorial
  | 0, cs, acc, h => by
    rw [uniqueHelper, List.length_singleton, one_mul, Nat.factorial_zero]
    rw [length_expandCounts] at h
    refine List.prod_eq_one fun x hx => ?_
    obtain ⟨vc, hvc, rfl⟩ := List.mem_map.mp hx
    rw [List.sum_eq_zero_iff_forall_eq_nat.mp h _ (List.mem_map.mpr ⟨vc, hvc, rfl⟩)]
    rfl
  | d + 1, cs, acc, h => by
    rw [uniqueHelper, List.length_flatMap, Nat.factorial_succ, mul_comm (d + 1), ← h]
    refine sum_choices cs (fun vc => (uniqueHelper d vc.2 (vc.1 :: acc)).length) d.factorial ?_
    rintro ⟨v, cs'⟩ hch
    exact length_uniqueHelper d cs' (v :: acc) (length_of_perm_cons (choices_perm hch) h)

/-! ### `perfect_matchings`

`pmSpec` is its recursion with the natural base case.  The rows of `pmSpec S` are, each once, the perfect matchings of `S` (`pmGood`), by
induction along the recursion step: pair the head `a` with some `x`, and rename `b ↔ x` in a matching of the rest. -/

section matchings
variable {α : Type} [DecidableEq α]

omit [DecidableEq α] in
theorem pairsOf_map (f : α → α) : ∀ l : List α, pairsOf (l.map f) = (pairsOf l).map (Sym2.map f)
  | [] => rfl
  | [_] => rfl
  | a :: b :: t => by
    simp only [List.map_cons, pairsOf, Sym2.map_mk]
    rw [pairsOf_map f t]

theorem matchingOf_cons_cons (a x : α) (t : List α) :
    matchingOf (a :: x :: t) = insert s(a, x) (matchingOf t) := by
  rw [matchingOf, pairsOf, List.toFinset_cons]
  rfl

theorem matchingOf_map (f : α → α) (l : List α) :
    matchingOf (l.map f) = (matchingOf l).image (Sym2.map f) := by
  unfold matchingOf
  rw [pairsOf_map]
  ext e
  simp only [List.mem_toFinset, List.mem_map, Finset.mem_image]

theorem isPM_congr {S T : List α} {M : Finset (Sym2 α)} (h : ∀ v, v ∈ S ↔ v ∈ T)
    (hM : IsPerfectMatching S M) : IsPerfectMatching T M :=
  ⟨hM.not_diag, fun v => (h v).symm.trans (hM.cover v), hM.disjoint⟩

theorem isPM_nil (M : Finset (Sym2 α)) : IsPerfectMatching ([] : List α) M ↔ M = ∅ := by
  constructor
  · intro h
    apply Finset.eq_empty_of_forall_notMem
    intro e he
    induction e using Sym2.ind with
    | _ a b =>
      exact absurd ((h.cover a).mpr ⟨s(a, b), he, Sym2.mem_mk_left a b⟩) List.not_mem_nil
  · rintro rfl
    exact ⟨fun e he => absurd he (Finset.notMem_empty e),
      fun v => ⟨fun h => absurd h List.not_mem_nil, fun ⟨e, he, _⟩ => absurd he (Finset.notMem_empty e)⟩,
      fun e he => absurd he (Finset.notMem_empty e)⟩

theorem isPM_map (e : α ≃ α) {S : List α} {M : Finset (Sym2 α)} (h : IsPerfectMatching S M) :
    IsPerfectMatching (S.map e) (M.image (Sym2.map e)) := by
  refine ⟨?_, fun v => ?_, ?_⟩
  · simp only [Finset.forall_mem_image, Sym2.isDiag_map e.injective]
    exact h.not_diag
  · simp only [List.mem_map, Finset.exists_mem_image, Sym2.mem_map, h.cover]
    exact ⟨fun ⟨u, ⟨e0, h0, hu⟩, he⟩ => ⟨e0, h0, u, hu, he⟩, fun ⟨e0, h0, u, hu, he⟩ => ⟨u, ⟨e0, h0, hu⟩, he⟩⟩
  · simp only [Finset.forall_mem_image, Sym2.mem_map]
    rintro e1 h1 e2 h2 _ ⟨u1, hu1, rfl⟩ ⟨u2, hu2, hu⟩
    rw [h.disjoint e1 h1 e2 h2 u1 hu1 (e.injective hu ▸ hu2)]

theorem isPM_insert {S S' : List α} {M' : Finset (Sym2 α)} {a x : α} (hax : a ≠ x) (ha : a ∉ S') (hx : x ∉ S')
    (h : IsPerfectMatching S' M') (hS : ∀ v, v ∈ S ↔ v = a ∨ v = x ∨ v ∈ S') :
    IsPerfectMatching S (insert s(a, x) M') := by
  refine ⟨?_, fun v => ?_, ?_⟩
  · simp only [Finset.forall_mem_insert, Sym2.mk_isDiag_iff]
    exact ⟨hax, h.not_diag⟩
  · rw [hS v, h.cover v, Finset.exists_mem_insert, Sym2.mem_iff, or_assoc]
  · -- the new pair meets none of the old ones, which lie inside `S'`
    have hnew : ∀ e ∈ M', ∀ v ∈ s(a, x), v ∉ e := fun e he v hv hve => by
      have hvS : v ∈ S' := (h.cover v).mpr ⟨e, he, hve⟩
      rcases Sym2.mem_iff.mp hv with rfl | rfl
      · exact ha hvS
      · exact hx hvS
    intro e1 h1 e2 h2 v hv1 hv2
    rcases Finset.mem_insert.mp h1 with rfl | h1 <;> rcases Finset.mem_insert.mp h2 with rfl | h2
    · rfl
    · exact absurd hv2 (hnew e2 h2 v hv1)
    · exact absurd hv1 (hnew e1 h1 v hv2)
    · exact h.disjoint e1 h1 e2 h2 v hv1 hv2

theorem isPM_erase {S S' : List α} {M : Finset (Sym2 α)} {a x : α}
    (h : IsPerfectMatching S M) (hm : s(a, x) ∈ M) (hS : ∀ v, v ∈ S' ↔ v ∈ S ∧ v ≠ a ∧ v ≠ x) :
    IsPerfectMatching S' (M.erase s(a, x)) := by
  -- a pair of `M` that contains `v` is the pair `s(a, x)` iff `v` is `a` or `x`
  have key : ∀ e ∈ M, ∀ v ∈ e, e = s(a, x) ↔ v = a ∨ v = x := fun e he v hv =>
    ⟨fun h' => Sym2.mem_iff.mp (h' ▸ hv), fun h' => h.disjoint e he _ hm v hv (Sym2.mem_iff.mpr h')⟩
  refine ⟨fun e he => h.not_diag e (Finset.mem_of_mem_erase he), fun v => ?_,
    fun e1 h1 e2 h2 => h.disjoint e1 (Finset.mem_of_mem_erase h1) e2 (Finset.mem_of_mem_erase h2)⟩
  rw [hS v, h.cover v]
  constructor
  · rintro ⟨⟨e, he, hve⟩, hva, hvx⟩
    exact ⟨e, Finset.mem_erase.mpr ⟨fun h' => ((key e he v hve).mp h').elim hva hvx, he⟩, hve⟩
  · rintro ⟨e, he, hve⟩
    obtain ⟨hne, he⟩ := Finset.mem_erase.mp he
    exact ⟨⟨e, he, hve⟩, fun h' => hne ((key e he v hve).mpr (Or.inl h')), fun h' => hne ((key e he v hve).mpr (Or.inr h'))⟩

theorem isPM_partner {S : List α} {M : Finset (Sym2 α)} {a : α} (h : IsPerfectMatching S M) (ha : a ∈ S) :
    ∃ x, s(a, x) ∈ M ∧ x ≠ a ∧ x ∈ S := by
  obtain ⟨e, he, hae⟩ := (h.cover a).mp ha
  refine ⟨Sym2.Mem.other hae, ?_, ?_, ?_⟩
  · rw [Sym2.other_spec hae]; exact he
  · intro hx
    have hd := h.not_diag e he
    rw [← Sym2.other_spec hae, Sym2.mk_isDiag_iff] at hd
    exact hd hx.symm
  · apply (h.cover _).mpr ⟨e, he, ?_⟩
    exact Sym2.other_mem hae

theorem isPM_partner_unique {S : List α} {M : Finset (Sym2 α)} {a x1 x2 : α} (h : IsPerfectMatching S M)
    (h1 : s(a, x1) ∈ M) (h2 : s(a, x2) ∈ M) : x1 = x2 :=
  Sym2.congr_right.mp (h.disjoint _ h1 _ h2 a (Sym2.mem_mk_left _ _) (Sym2.mem_mk_left _ _))

/-- `tlower_fac[tlower_fac == x] = b` on one entry -/
def relabel {α : Type} [DecidableEq α] (x b : α) (y : α) : α := if y = x then b else y

/-- the recursion of `perfect_matchings` with the natural base case (`[] ↦ [[]]`) -/
def pmSpec {α : Type} [DecidableEq α] : List α → List (List α)
  | [] => [[]]
  | [_] => []
  | a :: b :: rest =>
    (b :: rest).flatMap (fun x => (pmSpec rest).map (fun row => a :: x :: row.map (relabel x b)))

theorem length_cons_cons_mod_two {α : Type} (a b : α) (l : List α) : (a :: b :: l).length % 2 = l.length % 2 := by
  rw [List.length_cons, List.length_cons, Nat.add_assoc, Nat.add_mod_right]

theorem pmSpec_odd {α : Type} [DecidableEq α] : ∀ (S : List α), S.length % 2 = 1 → pmSpec S = []
  | [], h => by simp at h
  | [_], _ => rfl
  | a :: b :: rest, h => by
    have hr : rest.length % 2 = 1 := (length_cons_cons_mod_two a b rest).symm.trans h
    rw [pmSpec, pmSpec_odd rest hr]
    exact List.flatMap_eq_nil_iff.mpr fun _ _ => rfl

theorem perfectMatchings_eq_pmSpec {α : Type} [DecidableEq α] : ∀ (S : List α), S ≠ [] →
    perfectMatchings S = pmSpec S
  | [], h => absurd rfl h
  | [_], _ => rfl
  | [a, b], _ => by simp [perfectMatchings, pmSpec]
  | a :: b :: c :: rest, _ => by
    rw [perfectMatchings, pmSpec, perfectMatchings_eq_pmSpec (c :: rest) (List.cons_ne_nil _ _)]
    split_ifs with hodd
    · -- the early return for an odd number of objects: the recursion has no rows to extend
      rw [pmSpec_odd (c :: rest) (beq_iff_eq.mp hodd)]
      exact (List.flatMap_eq_nil_iff.mpr fun _ _ => rfl).symm
    · simp only [beq_iff_eq]
      rfl

theorem length_pmSpec {α : Type} [DecidableEq α] : ∀ (S : List α), S.length % 2 = 0 →
    (pmSpec S).length = Nat.doubleFactorial (S.length - 1)
  | [], _ => rfl
  | [_], h => by simp at h
  | a :: b :: rest, h => by
    have hr : rest.length % 2 = 0 := (length_cons_cons_mod_two a b rest).symm.trans h
    rw [pmSpec, List.length_flatMap]
    simp only [List.length_map, List.map_const', List.sum_replicate, List.length_cons, smul_eq_mul]
    rw [length_pmSpec rest hr]
    rcases Nat.eq_zero_or_pos rest.length with h0 | h0
    · rw [h0]; rfl
    · obtain ⟨m, hm⟩ : ∃ m, rest.length = m + 1 := ⟨rest.length - 1, by omega⟩
      rw [hm]
      show (m + 1 + 1) * Nat.doubleFactorial m = Nat.doubleFactorial (m + 2)
      rw [Nat.doubleFactorial_add_two]

theorem mem_pmSpec_cons (a b : α) (rest row : List α) :
    row ∈ pmSpec (a :: b :: rest) ↔
      ∃ x ∈ b :: rest, ∃ r ∈ pmSpec rest, row = a :: x :: r.map (relabel x b) := by
  simp only [pmSpec, List.mem_flatMap, List.mem_map, eq_comm]

theorem pmSpec_subset : ∀ (S row : List α), row ∈ pmSpec S → ∀ y ∈ row, y ∈ S
  | [], row, h, y, hy => by
    simp only [pmSpec, List.mem_singleton] at h
    subst h; simp at hy
  | [_], row, h, _, _ => by simp [pmSpec] at h
  | a :: b :: rest, row, h, y, hy => by
    obtain ⟨x, hx, r, hr, rfl⟩ := (mem_pmSpec_cons a b rest row).mp h
    simp only [List.mem_cons, List.mem_map] at hy
    rcases hy with rfl | rfl | ⟨u, hu, rfl⟩
    · simp
    · exact List.mem_cons_of_mem _ hx
    · have := pmSpec_subset rest r hr u hu
      unfold relabel
      split_ifs
      · simp
      · simp [this]

theorem map_relabel_eq_swap (x b : α) (r : List α) (hb : b ∉ r) :
    r.map (relabel x b) = r.map (Equiv.swap x b) := by
  apply List.map_congr_left
  intro u hu
  unfold relabel
  by_cases h : u = x
  · rw [if_pos h, h, Equiv.swap_apply_left]
  · rw [if_neg h, Equiv.swap_apply_of_ne_of_ne h (fun e => hb (by rw [← e]; exact hu))]

theorem mem_map_swap {a b x : α} {rest : List α} (hn : (a :: b :: rest).Nodup) (hx : x ∈ b :: rest) (v : α) :
    v ∈ rest.map (Equiv.swap x b) ↔ v ∈ a :: b :: rest ∧ v ≠ a ∧ v ≠ x := by
  have ha : a ∉ b :: rest := (List.nodup_cons.mp hn).1
  have hb : b ∉ rest := (List.nodup_cons.mp (List.nodup_cons.mp hn).2).1
  have hmem : v ∈ rest.map (Equiv.swap x b) ↔ Equiv.swap x b v ∈ rest := by
    conv_lhs => rw [← Equiv.swap_apply_self x b v]
    exact List.mem_map_of_injective (Equiv.swap x b).injective
  rw [hmem, Equiv.swap_apply_def]
  split_ifs with h1 h2
  · -- `v = x` goes to `b`, which is not in `rest`
    exact ⟨fun h => absurd h hb, fun h => absurd h1 h.2.2⟩
  · -- `v = b ≠ x` goes to `x`, which then lies in `rest`
    subst h2
    exact ⟨fun _ => ⟨List.mem_cons_of_mem _ List.mem_cons_self, fun e => ha (e ▸ List.mem_cons_self), h1⟩,
      fun _ => (List.mem_cons.mp hx).resolve_left fun e => h1 e.symm⟩
  · -- every other `v` stays
    exact ⟨fun h => ⟨List.mem_cons_of_mem _ (List.mem_cons_of_mem _ h), fun e => ha (e ▸ List.mem_cons_of_mem _ h), h1⟩,
      fun h => (List.mem_cons.mp ((List.mem_cons.mp h.1).resolve_left h.2.1)).resolve_left h2⟩

/-- what the induction proves about the list `pmSpec S` -/
structure PMGood (S : List α) : Prop where
  valid : ∀ row ∈ pmSpec S, IsPerfectMatching S (matchingOf row)
  inj : ∀ r1 ∈ pmSpec S, ∀ r2 ∈ pmSpec S, matchingOf r1 = matchingOf r2 → r1 = r2
  nodup : (pmSpec S).Nodup
  complete : ∀ M, IsPerfectMatching S M → ∃ row ∈ pmSpec S, matchingOf row = M

theorem matchingOf_row {a b x : α} {r : List α} (hb : b ∉ r) :
    matchingOf (a :: x :: r.map (relabel x b))
      = insert s(a, x) ((matchingOf r).image (Sym2.map (Equiv.swap x b))) := by
  rw [map_relabel_eq_swap x b r hb, matchingOf_cons_cons, matchingOf_map]

theorem swap_comp_self (x b : α) : (Equiv.swap x b : α → α) ∘ (Equiv.swap x b : α → α) = id :=
  funext (Equiv.swap_apply_self x b)

theorem image_swap_image_swap (x b : α) (M : Finset (Sym2 α)) :
    (M.image (Sym2.map (Equiv.swap x b))).image (Sym2.map (Equiv.swap x b)) = M := by
  rw [Finset.image_image, ← Sym2.map_comp, swap_comp_self, Sym2.map_id, Finset.image_id]

section step
variable {a b x : α} {rest : List α} {M' : Finset (Sym2 α)}

theorem step_valid (hn : (a :: b :: rest).Nodup) (hx : x ∈ b :: rest) (hv : IsPerfectMatching rest M') :
    IsPerfectMatching (a :: b :: rest) (insert s(a, x) (M'.image (Sym2.map (Equiv.swap x b)))) := by
  have ha : a ∉ b :: rest := (List.nodup_cons.mp hn).1
  refine isPM_insert (fun e => ha (e ▸ hx)) ?_ ?_ (isPM_map (Equiv.swap x b) hv) fun v => ?_
  · exact fun h => ((mem_map_swap hn hx a).mp h).2.1 rfl
  · exact fun h => ((mem_map_swap hn hx x).mp h).2.2 rfl
  · rw [mem_map_swap hn hx v]
    refine ⟨fun h => or_iff_not_imp_left.mpr fun h1 => or_iff_not_imp_left.mpr fun h2 => ⟨h, h1, h2⟩, ?_⟩
    rintro (rfl | rfl | h)
    exacts [List.mem_cons_self, List.mem_cons_of_mem _ hx, h.1]

/-- the renamed pairs avoid `a` -/
theorem not_mem_step (hn : (a :: b :: rest).Nodup) (hx : x ∈ b :: rest) (hv : IsPerfectMatching rest M') :
    s(a, x) ∉ M'.image (Sym2.map (Equiv.swap x b)) := fun hmem =>
  ((mem_map_swap hn hx a).mp (((isPM_map (Equiv.swap x b) hv).cover a).mpr ⟨_, hmem, Sym2.mem_mk_left _ _⟩)).2.1 rfl

end step

theorem pmGood : ∀ (S : List α), S.Nodup → S.length % 2 = 0 → PMGood S
  | [], _, _ => by
    refine ⟨?_, ?_, List.nodup_singleton [], ?_⟩
    · intro row h
      rw [List.mem_singleton.mp h]
      exact (isPM_nil _).mpr rfl
    · intro r1 h1 r2 h2 _
      rw [List.mem_singleton.mp h1, List.mem_singleton.mp h2]
    · intro M hM
      exact ⟨[], List.mem_singleton_self [], ((isPM_nil M).mp hM).symm⟩
  | [_], _, h => by simp at h
  | a :: b :: rest, hn, hlen => by
    have hrn : rest.Nodup := (List.nodup_cons.mp (List.nodup_cons.mp hn).2).2
    have ih := pmGood rest hrn ((length_cons_cons_mod_two a b rest).symm.trans hlen)
    have hb : b ∉ rest := (List.nodup_cons.mp (List.nodup_cons.mp hn).2).1
    have hbr : ∀ r ∈ pmSpec rest, b ∉ r := fun r hr h => hb (pmSpec_subset rest r hr b h)
    refine ⟨?_, ?_, ?_, ?_⟩
    · intro row hrow
      obtain ⟨x, hx, r, hr, rfl⟩ := (mem_pmSpec_cons a b rest row).mp hrow
      rw [matchingOf_row (hbr r hr)]
      exact step_valid hn hx (ih.valid r hr)
    · -- equal matchings give `a` the same partner; remove that pair and undo the renaming
      intro r1' h1 r2' h2 heq
      obtain ⟨x1, hx1, r1, hr1, rfl⟩ := (mem_pmSpec_cons a b rest r1').mp h1
      obtain ⟨x2, hx2, r2, hr2, rfl⟩ := (mem_pmSpec_cons a b rest r2').mp h2
      rw [matchingOf_row (hbr r1 hr1), matchingOf_row (hbr r2 hr2)] at heq
      obtain rfl : x1 = x2 := isPM_partner_unique (step_valid hn hx1 (ih.valid r1 hr1)) (Finset.mem_insert_self _ _)
        (heq ▸ Finset.mem_insert_self _ _)
      have h3 := congrArg (fun s => s.erase s(a, x1)) heq
      simp only [Finset.erase_insert (not_mem_step hn hx1 (ih.valid r1 hr1)),
        Finset.erase_insert (not_mem_step hn hx1 (ih.valid r2 hr2))] at h3
      rw [ih.inj r1 hr1 r2 hr2 (Finset.image_injective (Sym2.map.injective (Equiv.swap x1 b).injective) h3)]
    · -- rows with different partners of `a` differ in their second entry
      rw [pmSpec]
      refine nodup_flatMap_of_key (fun row => row[1]?) some ?_ ((List.nodup_cons.mp hn).2.map (Option.some_injective α)) ?_
      · intro x _ row hrow
        obtain ⟨r, _, rfl⟩ := List.mem_map.mp hrow
        rfl
      · intro x hx
        refine ih.nodup.map_on fun r1 hr1 r2 hr2 he => ?_
        rw [List.cons.injEq, List.cons.injEq, map_relabel_eq_swap x b r1 (hbr r1 hr1),
          map_relabel_eq_swap x b r2 (hbr r2 hr2)] at he
        exact List.map_injective_iff.mpr (Equiv.swap x b).injective he.2.2
    · -- remove the pair of `a`, undo the renaming, and use completeness for `rest`
      intro M hM
      obtain ⟨x, hm, hxa, hxS⟩ := isPM_partner hM (List.mem_cons_self (a := a))
      have hx : x ∈ b :: rest := (List.mem_cons.mp hxS).resolve_left hxa
      have hM' := isPM_map (Equiv.swap x b) (isPM_erase (S' := rest.map (Equiv.swap x b)) hM hm (mem_map_swap hn hx))
      rw [List.map_map, swap_comp_self, List.map_id] at hM'
      obtain ⟨r, hr, hrM⟩ := ih.complete _ hM'
      refine ⟨_, (mem_pmSpec_cons a b rest _).mpr ⟨x, hx, r, hr, rfl⟩, ?_⟩
      rw [matchingOf_row (hbr r hr), hrM, image_swap_image_swap, Finset.insert_erase hm]

end matchings

end Toq.Combinat
