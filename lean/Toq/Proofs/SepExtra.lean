import Toq.Proofs.Sep
import Mathlib.Algebra.BigOperators.Fin
import Mathlib.Algebra.BigOperators.Pi
import Mathlib.Analysis.InnerProductSpace.Positive
/-!
# Every mixture of product states has a symmetric extension of every order (C15, `has_symmetric_extension`)

For `ρ = Σ_i w_i (a_i a_iᴴ) ⊗ (b_i b_iᴴ)` and `k ≥ 0` the operator
`σ = Σ_i w_i' (a_i a_iᴴ) ⊗ (b_i b_iᴴ)^{⊗(k+1)}` on `m × (Fin (k+1) → n)` (copies of the second party indexed by
`Fin (k+1)`, a basis vector of the copies is a function `Fin (k+1) → n`)
* reduces to `ρ` when the copies `1 … k` are traced out (`reduce1`),
* is supported on the symmetric subspace of the copies (`IsBoseSym`: permuting the copies on either side does nothing),
* stays a mixture of product states across the cut `A | copies` after the partial transpose of ANY subset `S` of the
  copies (`ptCopies S`), hence is positive semidefinite and has a positive semidefinite partial transpose with respect
  to every subset of `{A, copy 0, …, copy k}`.
These are exactly the constraints that a symmetric-extension search imposes (PSD, partial trace equal to `ρ`,
`(1 ⊗ P_sym) σ (1 ⊗ P_sym) = σ`, PPT across the cuts), so a correct `has_symmetric_extension` accepts every
separable state at every level, with or without the PPT option.  (`Proofs/PPTDiscHier` proves the same for the constraint set of C12,
spelt as toqito's program spells it; both rest on `prodOp` of `Proofs/Bipartite`.)

The second part: `A ⊗ B` with `A, B ⪰ 0` is a mixture of products of pure states, hence so is every positive semidefinite operator when one
party has dimension one.
-/

open Matrix
open scoped ComplexOrder MatrixOrder Kronecker

namespace Toq.Sep

section SymExt
variable {m n : Type*}

def ptCopies {k : Nat} (S : Finset (Fin k)) (σ : Matrix (m × (Fin k → n)) (m × (Fin k → n)) ℂ) :
    Matrix (m × (Fin k → n)) (m × (Fin k → n)) ℂ :=
  fun i j => σ (i.1, fun l => if l ∈ S then j.2 l else i.2 l) (j.1, fun l => if l ∈ S then i.2 l else j.2 l)

def reduce1 [Fintype n] {k : Nat} (σ : Matrix (m × (Fin (k + 1) → n)) (m × (Fin (k + 1) → n)) ℂ) :
    Matrix (m × n) (m × n) ℂ :=
  fun i j => ∑ t : Fin k → n, σ (i.1, (Fin.cons i.2 t : Fin (k + 1) → n)) (j.1, (Fin.cons j.2 t : Fin (k + 1) → n))

/-- supported on the symmetric subspace of the copies: `(1 ⊗ P_π) σ = σ = σ (1 ⊗ P_π)` for every permutation `π` -/
def IsBoseSym {k : Nat} (σ : Matrix (m × (Fin k → n)) (m × (Fin k → n)) ℂ) : Prop :=
  ∀ (π : Equiv.Perm (Fin k)) (i j : m × (Fin k → n)),
    σ (i.1, i.2 ∘ π) j = σ i j ∧ σ i (j.1, j.2 ∘ π) = σ i j

theorem ptCopies_eq {k : Nat} (S : Finset (Fin k)) (σ : Matrix (m × (Fin k → n)) (m × (Fin k → n)) ℂ) :
    ptCopies S σ = pTS (· ∈ S) σ := rfl

theorem ptCopies_empty {k : Nat} (σ : Matrix (m × (Fin k → n)) (m × (Fin k → n)) ℂ) : ptCopies ∅ σ = σ := by
  ext i j; simp [ptCopies]

theorem IsBoseSym.zero {k : Nat} : IsBoseSym (0 : Matrix (m × (Fin k → n)) (m × (Fin k → n)) ℂ) :=
  fun _ _ _ => ⟨rfl, rfl⟩

theorem IsBoseSym.add {k : Nat} {σ τ : Matrix (m × (Fin k → n)) (m × (Fin k → n)) ℂ} (hσ : IsBoseSym σ) (hτ : IsBoseSym τ) :
    IsBoseSym (σ + τ) :=
  fun π i j => ⟨congrArg₂ (· + ·) (hσ π i j).1 (hτ π i j).1, congrArg₂ (· + ·) (hσ π i j).2 (hτ π i j).2⟩

theorem IsBoseSym.smul {k : Nat} {σ : Matrix (m × (Fin k → n)) (m × (Fin k → n)) ℂ} (hσ : IsBoseSym σ) (c : ℂ) :
    IsBoseSym (c • σ) :=
  fun π i j => ⟨congrArg (c • ·) (hσ π i j).1, congrArg (c • ·) (hσ π i j).2⟩

theorem prodOp_const_isBoseSym (k : Nat) (A : Matrix m m ℂ) (b : n → ℂ) : IsBoseSym (prodOp A fun _ : Fin k => b) :=
  fun π i j => ⟨(prodOp_const_comp_perm A b π i.1 i.2 j).1, (prodOp_const_comp_perm A b π j.1 j.2 i).2⟩

variable [Fintype n]

theorem reduce1_eq {k : Nat} (σ : Matrix (m × (Fin (k + 1) → n)) (m × (Fin (k + 1) → n)) ℂ) :
    reduce1 σ = ptrR (σ.submatrix (fun p : (m × n) × (Fin k → n) => (p.1.1, (Fin.cons p.1.2 p.2 : Fin (k + 1) → n)))
      fun p : (m × n) × (Fin k → n) => (p.1.1, (Fin.cons p.1.2 p.2 : Fin (k + 1) → n))) := rfl

theorem reduce1_zero {k : Nat} : reduce1 (0 : Matrix (m × (Fin (k + 1) → n)) (m × (Fin (k + 1) → n)) ℂ) = 0 := by
  ext i j; simp only [reduce1, Matrix.zero_apply, Finset.sum_const_zero]

theorem reduce1_add {k : Nat} (σ τ : Matrix (m × (Fin (k + 1) → n)) (m × (Fin (k + 1) → n)) ℂ) :
    reduce1 (σ + τ) = reduce1 σ + reduce1 τ := by
  ext i j; simp only [reduce1, Matrix.add_apply, Finset.sum_add_distrib]

theorem reduce1_smul {k : Nat} (c : ℂ) (σ : Matrix (m × (Fin (k + 1) → n)) (m × (Fin (k + 1) → n)) ℂ) :
    reduce1 (c • σ) = c • reduce1 σ := by
  ext i j; simp only [reduce1, Matrix.smul_apply, smul_eq_mul, Finset.mul_sum]

theorem reduce1_prodOp (k : Nat) (A : Matrix m m ℂ) (b : n → ℂ) :
    reduce1 (prodOp A fun _ : Fin (k + 1) => b) = ((nsq b ^ k : ℝ) : ℂ) • (A ⊗ₖ proj b) := by
  rw [reduce1_eq, prodOp_submatrix_cons, ptrR_prodOp, Finset.prod_const, Finset.card_univ, Fintype.card_fin, dotProduct_comm,
    star_dotProduct_self, Complex.ofReal_pow]
  rfl

/-- Extensions add up; the product term `(a aᴴ) ⊗ (b bᴴ)` has the extension `‖b‖^{-2k} (a aᴴ) ⊗ (b bᴴ)^{⊗(k+1)}`, whose partial
transposes are product terms again (`pTS_prodOp`). -/
theorem IsSepMix.exists_symmetric_extension (k : Nat) {ρ : Matrix (m × n) (m × n) ℂ} (h : IsSepMix ρ) :
    ∃ σ : Matrix (m × (Fin (k + 1) → n)) (m × (Fin (k + 1) → n)) ℂ,
      reduce1 σ = ρ ∧ IsBoseSym σ ∧ ∀ S : Finset (Fin (k + 1)), IsSepMix (ptCopies S σ) := by
  let P (ρ : Matrix (m × n) (m × n) ℂ) : Prop := ∃ σ : Matrix (m × (Fin (k + 1) → n)) (m × (Fin (k + 1) → n)) ℂ,
    reduce1 σ = ρ ∧ IsBoseSym σ ∧ ∀ S : Finset (Fin (k + 1)), IsSepMix (ptCopies S σ)
  have h0 : P 0 := ⟨0, reduce1_zero, .zero, fun _ => isSepMix_zero⟩
  refine h.induction (P := P) h0 ?_ fun a b => ?_
  · rintro _ _ ⟨σ, rfl, hσ, hσS⟩ ⟨τ, rfl, hτ, hτS⟩
    exact ⟨σ + τ, reduce1_add σ τ, hσ.add hτ, fun S => (hσS S).add (hτS S)⟩
  · by_cases hb : nsq b = 0
    · rwa [eq_zero_of_nsq_eq_zero hb, proj_zero, kronecker_zero]
    · have hw : 0 ≤ 1 / nsq b ^ k := one_div_nonneg.mpr (pow_nonneg (nsq_nonneg b) k)
      refine ⟨((1 / nsq b ^ k : ℝ) : ℂ) • prodOp (proj a) fun _ => b, ?_, (prodOp_const_isBoseSym _ _ b).smul _, fun S => ?_⟩
      · rw [reduce1_smul, reduce1_prodOp, smul_smul, ← Complex.ofReal_mul, one_div_mul_cancel (pow_ne_zero k hb),
          Complex.ofReal_one, one_smul]
      · rw [ptCopies_eq, pTS_smul, pTS_prodOp]
        exact isSepMix_smul_kron_proj hw a _

end SymExt

/-! ## A party of dimension one: every positive semidefinite operator is a mixture of product states
(the statement `if min_dim == 1: return True` of `is_separable`) -/

section Dim1
variable {m n : Type*}

theorem isSepMix_kron_of_posSemidef [Finite m] [Finite n] {A : Matrix m m ℂ} {B : Matrix n n ℂ} (hA : A.PosSemidef) (hB : B.PosSemidef) :
    IsSepMix (A ⊗ₖ B) := by
  obtain ⟨K, u, rfl⟩ := posSemidef_iff_eq_sum_vecMulVec.mp hA
  obtain ⟨K', v, rfl⟩ := posSemidef_iff_eq_sum_vecMulVec.mp hB
  have e : (∑ i, proj (u i)) ⊗ₖ (∑ j, proj (v j)) = ∑ i, ∑ j, proj (u i) ⊗ₖ proj (v j) := by
    ext i j
    simp only [kroneckerMap_apply, Matrix.sum_apply, Finset.sum_mul_sum]
  exact e ▸ .sum _ _ fun i _ => .sum _ _ fun j _ => isSepMix_kron_proj _ _

theorem isSepMix_of_unique_left [Unique m] [Finite n] (ρ : Matrix (m × n) (m × n) ℂ) (h : ρ.PosSemidef) : IsSepMix ρ := by
  have e : ρ = (1 : Matrix m m ℂ) ⊗ₖ blockB ρ default default := by
    ext ⟨a, b⟩ ⟨a', b'⟩
    rw [Subsingleton.elim a default, Subsingleton.elim a' default, kroneckerMap_apply, Matrix.one_apply_eq, one_mul]
    rfl
  rw [e]
  exact isSepMix_kron_of_posSemidef .one (h.submatrix fun b => (default, b))

end Dim1

end Toq.Sep
