import Toq.Proofs.PPTDiscHier
import Toq.Proofs.Cert
import Toq.Proofs.ChannelProps
import Toq.Proofs.ChanMetrics
import Toq.Model.ChanMetricsFos
import Mathlib.Analysis.Matrix.Order
import Mathlib.Analysis.Matrix.PosDef
/-!
# The program of the channel `fidelity_of_separability` (C20) at EVERY level `k` and all local dimensions

`toqito/channel_metrics/fidelity_of_separability.py` permutes the input `psi_{BAR}` to `psi_{RAB}`, declares one Hermitian
variable `choi` on `R ⊗ A'^{⊗k}` (`choi_dims = [dR, dA, …, dA]`) and hands picos the program

```
maximise  Re tr( Π_sym(dA, 2) · Tr_{R,B}[ (T_R(psi) ⊗ 1_{A'}) · P(Tr_{A'_2…A'_k} choi ⊗ 1_{B A}) ] )      systems (R, A, B, A')
s.t.      Tr_{A'_1…A'_k} choi = 1_R,    choi ⪰ 0,    (1_R ⊗ Π_sym(dA, k)) choi (1_R ⊗ Π_sym(dA, k)) = choi,
          T_{A'_1 … A'_j}(choi) ⪰ 0   for j = 1 … k
```

and returns `2 · optimum − 1`.  An operator on `R ⊗ A'^{⊗L}` is a matrix indexed by `HIdx m d L = m × (Fin L → Fin d)` (C12's
index type: `m` the index set of `R`, the digit vector lists the copies of `A'` in toqito's order), so C12's lemmas about the
support condition (`sym_iff_isBoseSym`), the marginals (`margTo1`) and product extensions (`prodExt`) are reused.

The operations the program is written with are those of `Proofs/Bipartite.lean` on these index types: `margAll = Matrix.ptrR`,
`pTYs = Matrix.pTS`, `pTR = Matrix.pTL` (it transposes the factor `R`, which stands first), `sym2 = Matrix.symmProj`, `permBAR` a
`submatrix` of the reordering `barEquiv` (`margAll_eq`, `pTYs_eq`, `pTR_eq`, `sym2_eq`, `permBAR_eq`), and `replChoi` is `prodExt 1 …` by definition.

The operator `Tr_{R,B}[…]` inside the objective is the output of the channel with Choi operator `Γ₁ = Tr_{A'_2…} choi` applied to the `R`
part of `ψ` (`omega_apply`); it is a density operator on `A ⊗ A'` whenever `ψ` is one and `choi` satisfies the first two constraints
(`omega_posSemidef`, `trace_omega`), and `Π_sym(dA, 2)` is an orthogonal projector, so every feasible value lies in `[0, 1]`.  For a pure
product state `(b ⊗ a ⊗ r)(b ⊗ a ⊗ r)ᴴ` and the replacement channel `X ↦ tr(X) (a aᴴ)^{⊗k}` the operator is the pure state
`(a ⊗ a)(a ⊗ a)ᴴ` (`omega_product`), which `Π_sym` fixes.  `Π_sym(dA, 2)` is C12's projector at two copies (`sym2_eq_symPC`).  The
theorems about the program itself are `C20.fos_*`.  In front of the program stand the guards: the exact verdicts of the mirrored
`is_density` / `is_pure` (`densityV`, `pureV`) are sound (with `pure_of_density_idem`: a Hermitian idempotent of trace 1 is `v vᴴ`),
and exact pure states pass them (`accepts_pure`).
-/

open Matrix Equiv
open scoped ComplexOrder MatrixOrder Kronecker

namespace Toq.ChanMetrics.Fos
open Toq.PPTDisc

section Program
variable {m : Type*} [Fintype m] [DecidableEq m] {β : Type*} [Fintype β] [DecidableEq β] {d : ℕ}

/-- `partial_trace(choi, [1, …, k], choi_dims)`: trace out every copy of `A'` -/
def margAll {L : ℕ} (X : Matrix (HIdx m d L) (HIdx m d L) ℂ) : Matrix m m ℂ :=
  fun r s => ∑ f : Fin L → Fin d, X (r, f) (s, f)

/-- `partial_transpose(choi, sys, choi_dims)` for a set `S` of copies of `A'` (the code uses `sys = [1, …, j]`, i.e. the
copies `0 … j − 1`) -/
def pTYs {L : ℕ} (S : Fin L → Prop) [DecidablePred S] (X : Matrix (HIdx m d L) (HIdx m d L) ℂ) :
    Matrix (HIdx m d L) (HIdx m d L) ℂ :=
  fun i j => X (i.1, fun t => if S t then j.2 t else i.2 t) (j.1, fun t => if S t then i.2 t else j.2 t)

/-- the constraints of the program at level `k = ℓ + 1`, in the order the code adds them -/
def Feasible (ℓ : ℕ) (Γ : Matrix (HIdx m d (ℓ + 1)) (HIdx m d (ℓ + 1)) ℂ) : Prop :=
  margAll Γ = 1 ∧ Γ.PosSemidef ∧
  ((1 : Matrix m m ℂ) ⊗ₖ symPC d (ℓ + 1)) * Γ * ((1 : Matrix m m ℂ) ⊗ₖ symPC d (ℓ + 1)) = Γ ∧
  ∀ j : Fin (ℓ + 1), (pTYs (fun t => t ≤ j) Γ).PosSemidef

/-- the reordering `(r, a, b) ↦ (b, a, r)` -/
def barEquiv (m : Type*) (d : ℕ) (β : Type*) : m × Fin d × β ≃ β × Fin d × m where
  toFun i := (i.2.2, i.2.1, i.1)
  invFun j := (j.2.2, j.2.1, j.1)
  left_inv _ := rfl
  right_inv _ := rfl

/-- `permute_systems(psi, [2, 1, 0], [dB, dA, dR])`: `psi_{BAR} ↦ psi_{RAB}` -/
def permBAR (ψ : Matrix (β × Fin d × m) (β × Fin d × m) ℂ) : Matrix (m × Fin d × β) (m × Fin d × β) ℂ :=
  fun i j => ψ (i.2.2, i.2.1, i.1) (j.2.2, j.2.1, j.1)

/-- `partial_transpose(psi, [0], [dR, dA, dB])` -/
def pTR (ψ : Matrix (m × Fin d × β) (m × Fin d × β) ℂ) : Matrix (m × Fin d × β) (m × Fin d × β) ℂ :=
  fun i j => ψ (j.1, i.2) (i.1, j.2)

/-- index set of `R ⊗ A ⊗ B ⊗ A'` (`dim_list = [dR, dA, dB, dA]`) -/
abbrev QIdx (m : Type*) (d : ℕ) (β : Type*) := m × Fin d × β × Fin d

/-- `partial_transpose(psi, [0], psi_dims) ⊗ I(dA)` -/
def psiExt (ψ : Matrix (m × Fin d × β) (m × Fin d × β) ℂ) : Matrix (QIdx m d β) (QIdx m d β) ℂ :=
  fun i j => pTR ψ (i.1, i.2.1, i.2.2.1) (j.1, j.2.1, j.2.2.1) * (if i.2.2.2 = j.2.2.2 then 1 else 0)

/-- `permute_systems(choi_partial ⊗ I(dB·dA), [0, 3, 2, 1], dim_list)`: `choi_partial` acts on the systems `R` and `A'`
(positions 0 and 3), the identity on `A` and `B` -/
def choiExt (G : Matrix (m × Fin d) (m × Fin d) ℂ) : Matrix (QIdx m d β) (QIdx m d β) ℂ :=
  fun i j => G (i.1, i.2.2.2) (j.1, j.2.2.2) * (if i.2.1 = j.2.1 then 1 else 0) * (if i.2.2.1 = j.2.2.1 then 1 else 0)

/-- `partial_trace(·, [0, 2], dim_list)`: trace out `R` and `B`, leaving `A ⊗ A'` -/
def ptrRB (M : Matrix (QIdx m d β) (QIdx m d β) ℂ) : Matrix (Fin d × Fin d) (Fin d × Fin d) ℂ :=
  fun x y => ∑ r, ∑ b, M (r, x.1, b, x.2) (r, y.1, b, y.2)

/-- `symmetric_projection(dA, 2)` on `A ⊗ A'`: `(1 + SWAP)/2` -/
noncomputable def sym2 (d : ℕ) : Matrix (Fin d × Fin d) (Fin d × Fin d) ℂ :=
  fun x y => (1 / 2 : ℂ) * ((if x = y then 1 else 0) + (if x = y.swap then 1 else 0))

/-- `choi_partial = partial_trace(choi, [2, …, k], choi_dims)` read as an operator on `R ⊗ A'` -/
def choi1 (ℓ : ℕ) (Γ : Matrix (HIdx m d (ℓ + 1)) (HIdx m d (ℓ + 1)) ℂ) : Matrix (m × Fin d) (m × Fin d) ℂ :=
  toMN (margTo1 ℓ Γ)

/-- the operator on `A ⊗ A'` inside the objective -/
def omega (ψ : Matrix (m × Fin d × β) (m × Fin d × β) ℂ) (G : Matrix (m × Fin d) (m × Fin d) ℂ) :
    Matrix (Fin d × Fin d) (Fin d × Fin d) ℂ :=
  ptrRB (psiExt ψ * choiExt G)

/-- the objective function: `Re tr(pi_sym · partial_trace(…))` for the permuted state `ψ = psi_{RAB}` -/
noncomputable def obj (ℓ : ℕ) (ψ : Matrix (m × Fin d × β) (m × Fin d × β) ℂ)
    (Γ : Matrix (HIdx m d (ℓ + 1)) (HIdx m d (ℓ + 1)) ℂ) : ℝ :=
  (sym2 d * omega ψ (choi1 ℓ Γ)).trace.re

end Program

section
variable {m : Type*} {β : Type*} {d : ℕ}

theorem feasible_iff [Fintype m] [DecidableEq m] {ℓ : ℕ} {Γ : Matrix (HIdx m d (ℓ + 1)) (HIdx m d (ℓ + 1)) ℂ} :
    Feasible ℓ Γ ↔ margAll Γ = 1 ∧ IsSymPPT (fun (j t : Fin (ℓ + 1)) => t ≤ j) Γ :=
  ⟨fun ⟨h1, h2, h3, h4⟩ => ⟨h1, h2, h3, h4⟩, fun ⟨h1, h2, h3, h4⟩ => ⟨h1, h2, h3, h4⟩⟩

theorem margAll_eq {L : ℕ} (X : Matrix (HIdx m d L) (HIdx m d L) ℂ) : margAll X = ptrR X := rfl

theorem pTYs_eq {L : ℕ} (S : Fin L → Prop) [DecidablePred S] (X : Matrix (HIdx m d L) (HIdx m d L) ℂ) :
    pTYs S X = pTS S X := rfl

theorem permBAR_eq (ψ : Matrix (β × Fin d × m) (β × Fin d × m) ℂ) :
    permBAR ψ = ψ.submatrix (barEquiv m d β) (barEquiv m d β) := rfl

theorem pTR_eq (ψ : Matrix (m × Fin d × β) (m × Fin d × β) ℂ) : pTR ψ = pTL ψ := rfl

theorem permBAR_posSemidef {ψ : Matrix (β × Fin d × m) (β × Fin d × m) ℂ} (h : ψ.PosSemidef) :
    (permBAR ψ).PosSemidef := h.submatrix _

theorem margAll_margLast {L : ℕ} (X : Matrix (HIdx m d (L + 1)) (HIdx m d (L + 1)) ℂ) :
    margAll (margLast X) = margAll X := ptrR_ptrLast X

theorem sym2_eq (d : ℕ) : sym2 d = symmProj (Fin d) := by
  ext x y
  simp only [sym2, symmProj, swapMatrix, Matrix.smul_apply, Matrix.add_apply, Matrix.submatrix_apply, Matrix.one_apply,
    Equiv.prodComm_apply, Equiv.refl_apply, smul_eq_mul, Prod.swap_eq_iff_eq_swap]

theorem sym2_isStarProjection (d : ℕ) : IsStarProjection (sym2 d) := sym2_eq d ▸ symmProj_isStarProjection

theorem sym2_posSemidef (d : ℕ) : (sym2 d).PosSemidef :=
  Matrix.nonneg_iff_posSemidef.mp (sym2_isStarProjection d).nonneg

theorem one_sub_sym2_posSemidef (d : ℕ) : (1 - sym2 d).PosSemidef :=
  Matrix.nonneg_iff_posSemidef.mp (sym2_isStarProjection d).one_sub.nonneg

theorem sym2_mulVec_of_symm {w : Fin d × Fin d → ℂ} (hw : ∀ x, w x.swap = w x) : sym2 d *ᵥ w = w := by
  have h : swapMatrix (Fin d) * Matrix.replicateCol Unit w = Matrix.replicateCol Unit w :=
    (swapMatrix_mul _).trans (Matrix.ext fun x _ => hw x)
  rw [sym2_eq]
  exact Matrix.replicateCol_injective (ι := Unit) ((Matrix.replicateCol_mulVec _ w).trans (symmProj_mul_of_swapMatrix_mul h))

/-- the pair `(a, a')` as a digit vector of two copies -/
def pairFn (x : Fin d × Fin d) : Fin 2 → Fin d := ![x.1, x.2]

theorem pairFn_eq_iff (x : Fin d × Fin d) (g : Fin 2 → Fin d) : pairFn x = g ↔ x = (g 0, g 1) := by
  constructor
  · rintro rfl; rfl
  · rintro rfl; funext t; fin_cases t <;> rfl

theorem sym2_eq_symPC (d : ℕ) : sym2 d = (symPC d 2).submatrix pairFn pairFn := by
  ext x y
  have hu : (Finset.univ : Finset (Perm (Fin 2))) = {1, Equiv.swap 0 1} := by decide
  have e1 : (pairFn x = pairFn y ∘ ⇑(1 : Perm (Fin 2))) ↔ x = y := pairFn_eq_iff x _
  have e2 : (pairFn x = pairFn y ∘ ⇑(Equiv.swap (0 : Fin 2) 1)) ↔ x = y.swap := pairFn_eq_iff x _
  simp only [sym2, symPC, Matrix.submatrix_apply, Matrix.smul_apply, Matrix.sum_apply, permC, hu, smul_eq_mul]
  rw [Finset.sum_pair (by decide)]
  simp only [e1, e2]
  norm_num [Nat.factorial]

/-- the Choi operator `1_R ⊗ (a aᴴ)^{⊗L}` of the replacement channel `X ↦ tr(X) (a aᴴ)^{⊗L}` -/
def replChoi (m : Type*) [DecidableEq m] {d : ℕ} (L : ℕ) (a : Fin d → ℂ) : Matrix (HIdx m d L) (HIdx m d L) ℂ :=
  prodExt (1 : Matrix m m ℂ) (fun _ : Fin L => a)

/-- the pure product state `(b ⊗ a ⊗ r)(b ⊗ a ⊗ r)ᴴ` on `B ⊗ A ⊗ R` (the order in which the function takes it) -/
def prodState (vb : β → ℂ) (va : Fin d → ℂ) (vr : m → ℂ) : Matrix (β × Fin d × m) (β × Fin d × m) ℂ :=
  vecMulVec (fun i => vb i.1 * va i.2.1 * vr i.2.2) (star fun i => vb i.1 * va i.2.1 * vr i.2.2)

theorem choi1_marg : ∀ (ℓ : ℕ) (Γ : Matrix (HIdx m d (ℓ + 1)) (HIdx m d (ℓ + 1)) ℂ) (r r' : m),
    ∑ c, choi1 ℓ Γ (r, c) (r', c) = margAll Γ r r'
  | 0, Γ, r, r' => by
    simp only [choi1, margTo1, toMN, Matrix.submatrix_apply, oneCopy, margAll]
    exact Fintype.sum_equiv (Equiv.funUnique (Fin 1) (Fin d)).symm _ _ fun c => rfl
  | ℓ + 1, Γ, r, r' => by
    have := choi1_marg ℓ (margLast Γ) r r'
    rw [margAll_margLast] at this
    exact this

theorem margAll_prodExt {L : ℕ} (A : Matrix m m ℂ) (a : Fin d → ℂ) (ha : a ⬝ᵥ star a = 1) :
    margAll (prodExt A (fun _ : Fin L => a)) = A := by
  rw [margAll_eq, prodExt_eq, ptrR_prodOp, ha, Finset.prod_const_one, one_smul]

theorem choi1_replChoi [DecidableEq m] (ℓ : ℕ) (a : Fin d → ℂ) (ha : a ⬝ᵥ star a = 1) (p q : m × Fin d) :
    choi1 ℓ (replChoi m (ℓ + 1) a) p q = (if p.1 = q.1 then 1 else 0) * (a p.2 * star (a q.2)) := by
  unfold choi1 replChoi
  rw [toMN_margTo1_prodExt, ha, one_pow, one_smul]
  simp only [Matrix.kroneckerMap_apply, Matrix.one_apply, Matrix.vecMulVec_apply, Pi.star_apply]

variable [Fintype m] [Fintype β]

/-- the column of identity blocks `𝟙 ⊗ 1`; `(blockE)ᴴ N blockE` is the sum of all blocks of `N` -/
def blockE (m : Type*) (n : Type*) [DecidableEq n] : Matrix (m × n) n ℂ := fun p y => if p.2 = y then 1 else 0

theorem blockSum_posSemidef {n : Type*} [Fintype n] [DecidableEq n] {N : Matrix (m × n) (m × n) ℂ}
    (hN : N.PosSemidef) : (Matrix.of fun x y => ∑ r', ∑ r, N (r', x) (r, y)).PosSemidef := by
  have e : (Matrix.of fun x y => ∑ r', ∑ r, N (r', x) (r, y)) = (blockE m n)ᴴ * N * blockE m n := by
    ext x y
    simp only [Matrix.of_apply, Matrix.mul_apply, Matrix.conjTranspose_apply, blockE, Fintype.sum_prod_type,
      apply_ite star, star_one, star_zero, ite_mul, one_mul, zero_mul, mul_ite, mul_one, mul_zero,
      Finset.sum_ite_eq', Finset.mem_univ, if_true]
    exact Finset.sum_comm
  rw [e]; exact hN.conjTranspose_mul_mul_same _

theorem choi1_posSemidef (ℓ : ℕ) {Γ : Matrix (HIdx m d (ℓ + 1)) (HIdx m d (ℓ + 1)) ℂ} (h : Γ.PosSemidef) :
    (choi1 ℓ Γ).PosSemidef := toMN_posSemidef.mpr (margTo1_posSemidef ℓ h)

theorem prodState_posSemidef (vb : β → ℂ) (va : Fin d → ℂ) (vr : m → ℂ) : (prodState vb va vr).PosSemidef :=
  Matrix.posSemidef_vecMulVec_self_star _

theorem trace_permBAR (ψ : Matrix (β × Fin d × m) (β × Fin d × m) ℂ) : (permBAR ψ).trace = ψ.trace :=
  trace_submatrix_equiv (barEquiv m d β) ψ

theorem trace_prodState (vb : β → ℂ) (va : Fin d → ℂ) (vr : m → ℂ) (hb : vb ⬝ᵥ star vb = 1)
    (ha : va ⬝ᵥ star va = 1) (hr : vr ⬝ᵥ star vr = 1) : (prodState vb va vr).trace = 1 := by
  have e : (fun i : β × Fin d × m => vb i.1 * va i.2.1 * vr i.2.2)
      = fun i => vb i.1 * (fun j : Fin d × m => va j.1 * vr j.2) i.2 := funext fun i => mul_assoc _ _ _
  rw [prodState, Matrix.trace_vecMulVec, e, dotProduct_star_prod vb fun j : Fin d × m => va j.1 * vr j.2,
    dotProduct_star_prod va vr, hb, ha, hr, mul_one, mul_one]

theorem margA_prodState (vb : β → ℂ) (va : Fin d → ℂ) (vr : m → ℂ) (hb : vb ⬝ᵥ star vb = 1)
    (hr : vr ⬝ᵥ star vr = 1) (a c : Fin d) :
    ∑ r, ∑ b, permBAR (prodState vb va vr) (r, a, b) (r, c, b) = va a * star (va c) := by
  have hb' : ∑ b, vb b * star (vb b) = 1 := hb
  have hr' : ∑ r, vr r * star (vr r) = 1 := hr
  have e : ∀ (r : m) (b : β), permBAR (prodState vb va vr) (r, a, b) (r, c, b)
      = (vr r * star (vr r)) * ((vb b * star (vb b)) * (va a * star (va c))) := fun r b => by
    simp only [permBAR, prodState, Matrix.vecMulVec_apply, Pi.star_apply, star_mul']
    ring
  simp only [e, ← Finset.mul_sum, ← Finset.sum_mul, hb', hr', one_mul]

variable [DecidableEq β]

theorem omega_apply (ψ : Matrix (m × Fin d × β) (m × Fin d × β) ℂ) (G : Matrix (m × Fin d) (m × Fin d) ℂ)
    (x y : Fin d × Fin d) :
    omega ψ G x y = ∑ r, ∑ b, ∑ r', ψ (r', x.1, b) (r, y.1, b) * G (r', x.2) (r, y.2) := by
  unfold omega ptrRB
  refine Finset.sum_congr rfl fun r _ => Finset.sum_congr rfl fun b _ => ?_
  simp only [Matrix.mul_apply, psiExt, choiExt, pTR, Fintype.sum_prod_type]
  refine Finset.sum_congr rfl fun r' _ => ?_
  -- the three Kronecker deltas leave the summand at `(y.1, b, x.2)`
  rw [Fintype.sum_eq_single y.1, Fintype.sum_eq_single b, Fintype.sum_eq_single x.2]
  · simp only [if_true, mul_one]
  · intro c hc
    simp only [if_neg (Ne.symm hc), mul_zero, zero_mul]
  · intro b' hb
    simp only [if_neg hb, mul_zero, Finset.sum_const_zero]
  · intro a ha
    simp only [if_neg ha, mul_zero, zero_mul, Finset.sum_const_zero]

theorem omega_posSemidef {ψ : Matrix (m × Fin d × β) (m × Fin d × β) ℂ} {G : Matrix (m × Fin d) (m × Fin d) ℂ}
    (hψ : ψ.PosSemidef) (hG : G.PosSemidef) : (omega ψ G).PosSemidef := by
  -- `ω` is the sum of all blocks `(r', r)` of `Tr_B ψ ⊗ G` read on `R ⊗ (A ⊗ A')`
  let P : Matrix (m × Fin d) (m × Fin d) ℂ := ptrR (ψ.submatrix (Equiv.prodAssoc m (Fin d) β) (Equiv.prodAssoc m (Fin d) β))
  let f : m × (Fin d × Fin d) → (m × Fin d) × (m × Fin d) := fun p => ((p.1, p.2.1), (p.1, p.2.2))
  have hN : ((P ⊗ₖ G).submatrix f f).PosSemidef := ((hψ.submatrix _).ptrR.kronecker hG).submatrix f
  have e : omega ψ G = Matrix.of fun x y => ∑ r', ∑ r, (P ⊗ₖ G).submatrix f f (r', x) (r, y) := by
    ext x y
    rw [omega_apply]
    simp only [Matrix.of_apply, Matrix.submatrix_apply, Matrix.kroneckerMap_apply, P, ptrR, Equiv.prodAssoc_apply,
      Finset.sum_mul, f]
    refine (Finset.sum_congr rfl fun r _ => Finset.sum_comm).trans ?_
    exact Finset.sum_comm
  rw [e]; exact blockSum_posSemidef hN

variable [DecidableEq m]

/-- `hG`: `G` is the Choi operator `1_R ⊗ N` of a channel that ignores its input -/
theorem omega_kron_one (ψ : Matrix (m × Fin d × β) (m × Fin d × β) ℂ) {G : Matrix (m × Fin d) (m × Fin d) ℂ}
    {N : Matrix (Fin d) (Fin d) ℂ} (hG : ∀ p q, G p q = (if p.1 = q.1 then 1 else 0) * N p.2 q.2)
    (x y : Fin d × Fin d) :
    omega ψ G x y = (∑ r, ∑ b, ψ (r, x.1, b) (r, y.1, b)) * N x.2 y.2 := by
  rw [omega_apply]
  simp only [hG, ite_mul, one_mul, zero_mul, mul_ite, mul_zero, Finset.sum_ite_eq', Finset.mem_univ, if_true,
    Finset.sum_mul]

/-- `hG`: the reduced Choi operator is trace preserving -/
theorem trace_omega (ψ : Matrix (m × Fin d × β) (m × Fin d × β) ℂ) (G : Matrix (m × Fin d) (m × Fin d) ℂ)
    (hG : ∀ r r', ∑ c, G (r, c) (r', c) = if r = r' then 1 else 0) : (omega ψ G).trace = ψ.trace := by
  have h1 : ∀ a : Fin d, ∑ a1 : Fin d, omega ψ G (a, a1) (a, a1) = ∑ r, ∑ b, ψ (r, a, b) (r, a, b) := by
    intro a
    simp only [omega_apply]
    -- the sum over `a'` goes innermost, where `hG` turns it into `δ_{r' r}`
    rw [Finset.sum_comm]
    refine Finset.sum_congr rfl fun r _ => ?_
    rw [Finset.sum_comm]
    refine Finset.sum_congr rfl fun b _ => ?_
    rw [Finset.sum_comm]
    simp only [← Finset.mul_sum, hG, mul_ite, mul_one, mul_zero, Finset.sum_ite_eq', Finset.mem_univ, if_true]
  simp only [Matrix.trace, Matrix.diag_apply, Fintype.sum_prod_type, h1]
  exact Finset.sum_comm

theorem omega_product (ℓ : ℕ) (vb : β → ℂ) (va : Fin d → ℂ) (vr : m → ℂ) (hb : vb ⬝ᵥ star vb = 1)
    (ha : va ⬝ᵥ star va = 1) (hr : vr ⬝ᵥ star vr = 1) :
    omega (permBAR (prodState vb va vr)) (choi1 ℓ (replChoi m (ℓ + 1) va))
      = vecMulVec (fun x : Fin d × Fin d => va x.1 * va x.2) (star fun x : Fin d × Fin d => va x.1 * va x.2) := by
  ext x y
  rw [omega_kron_one _ (N := vecMulVec va (star va)) (choi1_replChoi ℓ va ha), margA_prodState vb va vr hb hr]
  simp only [Matrix.vecMulVec_apply, Pi.star_apply, star_mul']
  ring

end

section Guards
open Toq.ChannelProps Toq.ChanPropProofs EMat
variable {n k : ℕ}

theorem fosPath_yes_of_length_ne {dims : List ℕ} (h : dims.length ≠ 3) (pure : Verdict) :
    fosPath .yes dims pure = .notTripartite := by
  match dims, h with
  | [], _ | [_], _ | [_, _], _ | _ :: _ :: _ :: _ :: _, _ => rfl
  | [_, _, _], h => exact absurd rfl h

theorem traceV_yes_of {ρ : EMat n n} (h : ρ.trace = 1) : traceV ρ = .yes := by
  unfold traceV; simp [h]

theorem traceV_yes_sound (ρ : EMat n n) (h : traceV ρ = .yes) : ρ.toM.trace = 1 :=
  traceIsOne_sound ρ ((ite_ite_eq_fst_iff (by decide) (by decide)).mp h)

theorem traceV_no_sound (ρ : EMat n n) (h : traceV ρ = .no) : ρ.toM.trace ≠ 1 := by
  obtain ⟨-, h2⟩ := (ite_ite_eq_snd_iff (by decide) (by decide)).mp h
  intro ht
  rw [(trace_eq_one_iff ρ).mpr ht, QI.abs1_sub_self, decide_eq_true_eq] at h2
  exact absurd h2 (not_le.mpr (tolOf_pos (s := 1) (by norm_num)))

theorem densityV_yes_sound (ρ : EMat n n) (L : Option (EMat n k)) (v : Option (EMat n 1))
    (h : densityV ρ L v = .yes) : ρ.toM.PosSemidef ∧ ρ.toM.trace = 1 := by
  obtain ⟨h1, h2⟩ := (Verdict.and_yes_iff _ _).mp h
  exact ⟨psdV_yes_posSemidef h1, traceV_yes_sound ρ h2⟩

theorem densityV_no_sound (ρ : EMat n n) (L : Option (EMat n k)) (v : Option (EMat n 1))
    (h : densityV ρ L v = .no) : ¬ (ρ.toM.PosSemidef ∧ ρ.toM.trace = 1) := by
  rintro ⟨hP, hT⟩
  rcases (Verdict.and_no_iff _ _).mp h with h1 | h2
  · exact psdV_no_not_posSemidef h1 hP
  · exact traceV_no_sound ρ h2 hT

theorem pureV_yes_sound (ρ : EMat n n) (h : pureV ρ = .yes) : ρ.toM * ρ.toM = ρ.toM := by
  have := (beq_iff _ _).mp ((ite_ite_eq_fst_iff (by decide) (by decide)).mp h)
  rwa [EMat.toM_mul] at this

theorem pureV_yes_of {ρ : EMat n n} (h : (ρ.mul ρ).beq ρ = true) : pureV ρ = .yes := by
  unfold pureV; simp [h]

theorem pureV_no_sound (ρ : EMat n n) (h : pureV ρ = .no) :
    ¬ ∃ v : Fin n → ℂ, v ⬝ᵥ star v = 1 ∧ ρ.toM = vecMulVec v (star v) := by
  obtain ⟨h1, -⟩ := (ite_ite_eq_snd_iff (by decide) (by decide)).mp h
  rintro ⟨v, hv, hρ⟩
  apply h1
  rw [beq_iff, EMat.toM_mul, hρ, Matrix.vecMulVec_mul_vecMulVec, dotProduct_comm, hv, one_smul]

theorem diagDominant_of_toM_zero (R : EMat n n) (h : R.toM = 0) : R.diagDominant = true := by
  have h0 : ∀ i j, R.get i j = 0 := fun i j => QI.toC_injective (by simpa using congrFun (congrFun h i) j)
  simp only [EMat.diagDominant, Bool.and_eq_true, EMat.allFin_iff, decide_eq_true_eq]
  refine ⟨(isHermitian_iff R).mpr (h ▸ Matrix.isHermitian_zero), fun i => ?_⟩
  -- every entry is 0, so every row sum and every diagonal entry is 0
  have hs : ∀ l, ((if l = i then 0 else (R.get i l).abs1 : ℚ) : ℝ) = 0 := fun l => by
    rw [h0 i l, show QI.abs1 0 = 0 by simp [QI.abs1], ite_self, Rat.cast_zero]
  rw [← Rat.cast_le (K := ℝ), EMat.sumFinQ_cast, Finset.sum_eq_zero fun l _ => hs l, h0 i i]
  exact le_of_eq Rat.cast_zero.symm

theorem accepts_pure (w : EMat n 1) (hw : (w.ct.mul w).trace = 1) :
    densityV (w.mul w.ct) (some w) none = .yes ∧ pureV (w.mul w.ct) = .yes := by
  have hρ : (w.mul w.ct).toM = w.toM * w.toMᴴ := by rw [EMat.toM_mul, EMat.toM_ct]
  -- `wᴴ w` is the `1 × 1` matrix with entry `tr(wᴴ w) = 1`
  have hone : w.toMᴴ * w.toM = 1 := by
    have ht := (trace_eq_one_iff _).mp hw
    rw [EMat.toM_mul, EMat.toM_ct, Matrix.trace_fin_one] at ht
    ext i j
    rw [Subsingleton.elim i 0, Subsingleton.elim j 0, ht, Matrix.one_apply_eq]
  have hherm : (w.mul w.ct).toM.IsHermitian := hρ ▸ Matrix.isHermitian_mul_conjTranspose_self _
  have hidem : (w.mul w.ct).toM * (w.mul w.ct).toM = (w.mul w.ct).toM := by
    rw [hρ, Matrix.mul_assoc, ← Matrix.mul_assoc w.toMᴴ, hone, Matrix.one_mul]
  have hpsd : psdV (w.mul w.ct) (some w) (none : Option (EMat n 1)) = .yes := by
    refine psdV_yes_iff.mpr ⟨(eqV_yes _ _).mpr ((beq_iff _ _).mpr (by rw [EMat.toM_ct]; exact hherm.eq.symm)), w, rfl, ?_⟩
    -- the certificate `L = w` leaves the residue `w wᴴ − w wᴴ = 0`
    unfold psdYes EMat.psdCert
    rw [Bool.and_eq_true]
    exact ⟨(isHermitian_iff _).mpr hherm, diagDominant_of_toM_zero _ (by rw [EMat.toM_sub, sub_self])⟩
  have htr : traceV (w.mul w.ct) = .yes := traceV_yes_of ((trace_eq_one_iff _).mpr (by
    rw [hρ, Matrix.trace_mul_comm, hone, Matrix.trace_one, Fintype.card_fin, Nat.cast_one]))
  exact ⟨(Verdict.and_yes_iff _ _).mpr ⟨hpsd, htr⟩, pureV_yes_of ((beq_iff _ _).mpr (by rw [EMat.toM_mul]; exact hidem))⟩

/-- a non-zero column of `ρ` is fixed by `ρ`; with `v` its unit multiple, `ρ − v vᴴ` is a Hermitian idempotent of trace 0, hence 0 -/
theorem pure_of_density_idem {ι : Type*} [Fintype ι] [DecidableEq ι] {ρ : Matrix ι ι ℂ} (hh : ρ.IsHermitian)
    (hi : ρ * ρ = ρ) (ht : ρ.trace = 1) : ∃ v : ι → ℂ, v ⬝ᵥ star v = 1 ∧ ρ = vecMulVec v (star v) := by
  obtain ⟨j, hj⟩ : ∃ j, (fun i => ρ i j) ≠ 0 := by
    by_contra hall
    simp only [not_exists, not_not] at hall
    have : ρ = 0 := by ext i j; exact congrFun (hall j) i
    rw [this, Matrix.trace_zero] at ht
    exact zero_ne_one ht
  have hρu : ρ *ᵥ (fun i => ρ i j) = fun i => ρ i j := funext fun i => congrFun (congrFun hi i) j
  obtain ⟨c, hvv⟩ := exists_unit_smul hj
  set v : ι → ℂ := c • fun i => ρ i j with hv
  have hρv : ρ *ᵥ v = v := by rw [hv, Matrix.mulVec_smul, hρu]
  refine ⟨v, hvv, ?_⟩
  set P : Matrix ι ι ℂ := vecMulVec v (star v) with hP
  have hPh : Pᴴ = P := by rw [hP, Matrix.conjTranspose_vecMulVec, star_star]
  have hρP : ρ * P = P := by rw [hP, Matrix.mul_vecMulVec, hρv]
  have hPρ : P * ρ = P := by
    have := congrArg Matrix.conjTranspose hρP
    rwa [Matrix.conjTranspose_mul, hPh, hh.eq] at this
  have hPP : P * P = P := by rw [hP, Matrix.vecMulVec_mul_vecMulVec, dotProduct_comm, hvv, one_smul]
  have hQ : IsStarProjection (ρ - P) := by
    refine ⟨?_, by rw [IsSelfAdjoint, Matrix.star_eq_conjTranspose, Matrix.conjTranspose_sub, hh.eq, hPh]⟩
    rw [IsIdempotentElem, Matrix.sub_mul, Matrix.mul_sub, Matrix.mul_sub, hi, hρP, hPρ, hPP]
    abel
  have htr : (ρ - P).trace = 0 := by rw [Matrix.trace_sub, ht, hP, Matrix.trace_vecMulVec, hvv, sub_self]
  exact sub_eq_zero.mp ((Matrix.nonneg_iff_posSemidef.mp hQ.nonneg).trace_eq_zero_iff.mp htr)

end Guards

end Toq.ChanMetrics.Fos
