import Toq.Model.States
import Toq.Spec.States
import Toq.Proofs.Digits
import Toq.Proofs.Perms
import Toq.Proofs.StatesAttr
import Toq.Proofs.Scalar
import Mathlib.Algebra.BigOperators.Group.Finset.Basic
import Mathlib.Algebra.BigOperators.Ring.Finset
import Mathlib.Algebra.Ring.GeomSum
import Mathlib.RingTheory.RootsOfUnity.PrimitiveRoots
import Mathlib.Tactic.Ring
import Mathlib.Tactic.Linarith
import Mathlib.Algebra.Order.Field.Basic
import Mathlib.Tactic.FieldSimp
import Mathlib.Algebra.Field.Basic
import Mathlib.Algebra.BigOperators.Field
import Mathlib.Tactic.LinearCombination
/-!
# General lemmas behind C17 (closed-form models of `toqito.states` / `toqito.matrices`)

Matrices are functions `Nat → Nat → α` with an explicit size, sums are `sumN`.  Roots of unity are carried as a pair `(ω, ωc)` with
`ω * ωc = 1` in a commutative ring (`char_orth`, `pow_sub_mod`; over ℂ, `ωc` is the conjugate); `matMul` and `trace` are linear in the
shapes `A - a·B`, `A / t` in which the models write their matrices.
A matrix with one non-zero entry per row (clock, shift, generalised Pauli, SWAP, a permutation operator) is handled through
the index map it encodes (`unshift`, `swapIdx`: `Prod.swap` on the two digits of a flat index), so a product with it is a
`sumN_eq_single`.  `werner`, `isotropic` and their partial transposes are members of the two families `x·I + y·SWAP` and
`x·I + y·|Ω⟩⟨Ω|` (`isotropic_eq`, `pT2_werner_eq`, `pT2_isotropic_eq`), for which matrix-vector products, quadratic forms and positive
semidefiniteness are computed once (`matvec_swap`, `matvec_rank_one`, `psd_swap_iff`, `psd_omega_iff`).  `PSD` is `Spec17.PSD`,
non-negativity of the real quadratic form over an ordered field (the driver runs ℚ): Mathlib's `PosSemidef` wants a star-ordered ring,
so its calculus (`psd_add`, `psd_smul`, `psd_outer`, `psd_diag`, `psd_div_iff`, `sumN_cauchy`) is proved here on `quadForm`.  The fill
loops of `ghz` / `w_state` are `pickG` ("last write wins"), whose value, support and norm are determined when the positions are
distinct.  The diagonal Gell-Mann matrices are the vectors `dvec k`, pairwise orthogonal (`sumN_dvec_mul`).  Sums over the Gaussian
integers use the ring structure of `Toq/Proofs/Scalar.lean`, opened where needed.
-/

namespace Toq.States
open Toq.Matrices Toq.Spec17

theorem sumN_intCast {α : Type} [Ring α] (f : Nat → Int) (n : Nat) :
    ((sumN n f : Int) : α) = sumN n (fun i => ((f i : Int) : α)) :=
  map_sumN (Int.castRingHom α) f n

theorem sumN_ite_eq' {α : Type} [AddCommMonoid α] (n c : Nat) (hc : c < n) (g : Nat → α) :
    sumN n (fun k => if c = k then g k else 0) = g c :=
  sumN_ite_eq g c n hc

theorem add_mod_inj (d a i j : Nat) (hi : i < d) (hj : j < d) (h : (i + a) % d = (j + a) % d) : i = j := by
  have h1 : Nat.ModEq d i j := Nat.ModEq.add_right_cancel' a h
  exact Nat.ModEq.eq_of_lt_of_lt h1 hi hj

theorem shift_mod_inj (d a b i : Nat) (ha : a < d) (hb : b < d) (h : (i + a) % d = (i + b) % d) : a = b := by
  rw [Nat.add_comm i a, Nat.add_comm i b] at h
  exact add_mod_inj d i a b ha hb h

/-- the preimage of `i` under `j ↦ (j + a) % d` -/
def unshift (d a i : Nat) : Nat := (i + (d - a % d)) % d

theorem unshift_lt (d a i : Nat) (hd : 0 < d) : unshift d a i < d := Nat.mod_lt _ hd

theorem shift_unshift (d a i : Nat) (hi : i < d) : (unshift d a i + a) % d = i := by
  unfold unshift
  have ha : a % d < d := Nat.mod_lt _ (by omega)
  rw [Nat.add_mod, Nat.mod_mod, ← Nat.add_mod, Nat.add_assoc]
  have : d - a % d + a = d * (a / d + 1) := by
    have := Nat.div_add_mod a d
    rw [Nat.mul_add, Nat.mul_one]; omega
  rw [this, Nat.add_mul_mod_self_left, Nat.mod_eq_of_lt hi]

theorem shift_eq_iff (d a i j : Nat) (hi : i < d) (hj : j < d) : i = (j + a) % d ↔ j = unshift d a i := by
  constructor
  · intro h
    apply add_mod_inj d a j (unshift d a i) hj (unshift_lt d a i (by omega))
    rw [shift_unshift d a i hi, h]
  · intro h; rw [h, shift_unshift d a i hi]

theorem sumN_ite_shift {α : Type} [AddCommMonoid α] (d i j : Nat) (hd : 0 < d) (hi : i < d) (v : α) :
    sumN d (fun a => if i = (j + a) % d then v else 0) = v := by
  rw [sumN_eq_single _ (unshift d j i) d (unshift_lt d j i hd) fun a ha hne =>
      if_neg fun h => hne ((shift_eq_iff d j i a hi ha).mp (by rw [Nat.add_comm]; exact h)),
    if_pos (by rw [Nat.add_comm]; exact (shift_unshift d j i hi).symm)]

section roots
variable {α : Type} [CommRing α]

theorem _root_.Toq.Matrices.RU.eval_ite (ω : α) (d : Nat) (h : ω ^ d = 1) (p : Prop) [Decidable p] (k : Nat) :
    RU.eval ω (if p then some (k % d) else none) = if p then ω ^ k else 0 := by
  split
  · exact (pow_eq_pow_mod k h).symm
  · rfl

theorem pow_mul_inv_pow (ω ωc : α) (h : ω * ωc = 1) (m : Nat) : ω ^ m * ωc ^ m = 1 := by
  rw [← mul_pow, h, one_pow]

theorem pow_eq_one_of_mul_eq_one (ω ωc : α) (h : ω * ωc = 1) (d : Nat) (hω : ω ^ d = 1) : ωc ^ d = 1 := by
  rw [← pow_mul_inv_pow ω ωc h d, hω, one_mul]

/-- the subtraction of the exponent model: `ω ^ ((x − y) mod d) = ω ^ x · ω̄ ^ y` -/
theorem pow_sub_mod (ω ωc : α) (d : Nat) (hd : 0 < d) (hω : ω ^ d = 1) (hc : ω * ωc = 1) (x y : Nat) :
    ω ^ ((x % d + d - y % d) % d) = ω ^ x * ωc ^ y := by
  have hy : y % d < d := Nat.mod_lt _ hd
  have e1 : ω ^ (x % d + d - y % d) * ω ^ (y % d) = ω ^ x := by
    rw [← pow_add, Nat.sub_add_cancel (by omega), pow_add, hω, mul_one, ← pow_eq_pow_mod _ hω]
  have e2 : ω ^ (y % d) * ωc ^ y = 1 := by
    rw [← pow_eq_pow_mod _ hω]
    exact pow_mul_inv_pow ω ωc hc _
  rw [← pow_eq_pow_mod _ hω, ← e1, mul_assoc, e2, mul_one]

theorem char_orth [IsDomain α] (ω ωc : α) (d : Nat) (hω : IsPrimitiveRoot ω d) (hc : ω * ωc = 1)
    (i j : Nat) (hi : i < d) (hj : j < d) :
    sumN d (fun k => ω ^ (i * k) * ωc ^ (j * k)) = if i = j then (d : α) else 0 := by
  by_cases hij : i = j
  · subst hij
    rw [if_pos rfl, sumN_congr _ (fun _ => (1 : α)) d (fun k _ => pow_mul_inv_pow ω ωc hc (i * k)), sumN_const, mul_one]
  · rw [if_neg hij]
    have hd : ω ^ d = 1 := hω.pow_eq_one
    have hcd := pow_eq_one_of_mul_eq_one ω ωc hc d hd
    set ζ : α := ω ^ i * ωc ^ j with hζ
    have hterm : ∀ k, ω ^ (i * k) * ωc ^ (j * k) = ζ ^ k := by
      intro k; rw [hζ, mul_pow, ← pow_mul, ← pow_mul]
    have hζd : ζ ^ d = 1 := by
      rw [hζ, mul_pow, ← pow_mul, ← pow_mul, Nat.mul_comm i d, Nat.mul_comm j d, pow_mul, pow_mul, hd, hcd, one_pow,
        one_pow, one_mul]
    have hζ1 : ζ ≠ 1 := by
      intro h1
      apply hij
      apply hω.pow_inj hi hj
      have h2 : ω ^ i * ωc ^ j * ω ^ j = ω ^ j := by rw [← hζ, h1, one_mul]
      have h3 : ω ^ i * ωc ^ j * ω ^ j = ω ^ i := by
        rw [mul_assoc, mul_comm (ωc ^ j), pow_mul_inv_pow ω ωc hc j, mul_one]
      rw [← h3, h2]
    rw [sumN_congr _ (fun k => ζ ^ k) d (fun k _ => hterm k), sumN_eq_sum]
    have hg := mul_geom_sum ζ d
    rw [hζd, sub_self] at hg
    rcases mul_eq_zero.mp hg with h0 | h0
    · exact absurd (sub_eq_zero.mp h0) hζ1
    · exact h0

end roots

section weyl
variable {α : Type} [CommRing α]

theorem clock_mul (ω : α) (d : Nat) (B : Nat → Nat → α) (i j : Nat) (hi : i < d) :
    matMul d (clockZ ω) B i j = ω ^ i * B i j := by
  unfold matMul clockZ
  rw [sumN_eq_single _ i d hi]
  · simp
  · intro k _ hne; simp [Ne.symm hne]

theorem mul_clock (ω : α) (d : Nat) (A : Nat → Nat → α) (i j : Nat) (hj : j < d) :
    matMul d A (clockZ ω) i j = A i j * ω ^ j := by
  unfold matMul clockZ
  rw [sumN_eq_single _ j d hj]
  · simp
  · intro k _ hne; simp [hne]

theorem mul_shift (d : Nat) (hd : 0 < d) (A : Nat → Nat → α) (i j : Nat) :
    matMul d A (shiftX d) i j = A i ((j + 1) % d) := by
  unfold matMul shiftX
  rw [sumN_eq_single _ ((j + 1) % d) d (Nat.mod_lt _ hd)]
  · simp
  · intro k _ hne; simp [hne]

theorem matPow_shift (d : Nat) (hd : 0 < d) : ∀ (a i j : Nat), j < d →
    matPow d (shiftX (α := α) d) a i j = if i = (j + a) % d then 1 else 0
  | 0, i, j, hj => by
    show matId i j = _
    unfold matId
    rw [Nat.add_zero, Nat.mod_eq_of_lt hj]
  | a + 1, i, j, hj => by
    show matMul d (matPow d (shiftX d) a) (shiftX d) i j = _
    rw [mul_shift d hd, matPow_shift d hd a i _ (Nat.mod_lt _ hd)]
    have : ((j + 1) % d + a) % d = (j + (a + 1)) % d := by
      rw [Nat.mod_add_mod]; congr 1; omega
    rw [this]

theorem matPow_clock (ω : α) (d : Nat) : ∀ (b i j : Nat), j < d →
    matPow d (clockZ ω) b i j = if i = j then ω ^ (b * j) else 0
  | 0, i, j, _ => by
    show matId i j = _
    unfold matId
    simp
  | b + 1, i, j, hj => by
    show matMul d (matPow d (clockZ ω) b) (clockZ ω) i j = _
    rw [mul_clock ω d _ i j hj, matPow_clock ω d b i j hj]
    by_cases h : i = j
    · rw [if_pos h, if_pos h, ← pow_add]; congr 1; ring
    · rw [if_neg h, if_neg h, zero_mul]

theorem genPauli_row (ω : α) (d a b : Nat) (hd : 0 < d) (u : Nat → α) (i : Nat) (hi : i < d) :
    sumN d (fun k => genPauli ω d a b i k * u k) = ω ^ (b * unshift d a i) * u (unshift d a i) := by
  rw [sumN_eq_single _ (unshift d a i) d (unshift_lt d a i hd) fun k hk hne => by
    unfold genPauli; rw [if_neg fun h => hne ((shift_eq_iff d a i k hi hk).mp h), zero_mul]]
  unfold genPauli
  rw [if_pos (shift_unshift d a i hi).symm]

theorem genPauli_col (ω : α) (d a b : Nat) (hd : 0 < d) (u : Nat → α) (j : Nat) :
    sumN d (fun i => u i * genPauli ω d a b i j) = u ((j + a) % d) * ω ^ (b * j) := by
  unfold genPauli
  rw [sumN_congr _ (fun i => if i = (j + a) % d then u i * ω ^ (b * j) else 0) d fun i _ => mul_ite_zero ..,
    sumN_ite_eq_swap (fun i => u i * ω ^ (b * j)) _ d (Nat.mod_lt _ hd)]

/-- two columns of generalised Pauli operators meet iff their ones stand in the same row -/
theorem genPauli_col_gram (ω ωc : α) (d a b a' b' : Nat) (hd : 0 < d) (j j' : Nat) :
    sumN d (fun k => genPauli ωc d a b k j * genPauli ω d a' b' k j')
      = if (j' + a') % d = (j + a) % d then ωc ^ (b * j) * ω ^ (b' * j') else 0 := by
  rw [genPauli_col ω d a' b' hd _ j']
  unfold genPauli
  exact ite_zero_mul ..

end weyl

theorem inner_kronV {α : Type} [CommSemiring α] (m n : Nat) (u u' v v' : Nat → α) :
    inner (m * n) (kronV n u v) (kronV n u' v') = inner m u u' * inner n v v' :=
  sumN_kron' m n _ _ _ fun _ => mul_mul_mul_comm _ _ _ _

theorem vecF_flat {α : Type} (d : Nat) (W : Nat → Nat → α) (i j : Nat) (hi : i < d) : vecF d W (j * d + i) = W i j := by
  unfold vecF
  rw [Nat.mul_add_div_of_lt hi, Nat.mul_add_mod_of_lt hi]

theorem inner_vecF {α : Type} [Semiring α] (d : Nat) (A B : Nat → Nat → α) :
    inner (d * d) (vecF d A) (vecF d B) = hsInner d A B := by
  unfold inner hsInner
  rw [sumN_mul_range _ d d]
  exact sumN_congr _ _ d fun j _ => sumN_congr _ _ d fun i hi => by rw [vecF_flat d _ i j hi, vecF_flat d _ i j hi]

theorem marginalA_vecF {α : Type} [Semiring α] (d : Nat) (A B : Nat → Nat → α) (i j : Nat) :
    marginalA d (vecF d A) (vecF d B) i j = sumN d fun k => A k i * B k j :=
  sumN_congr _ _ d fun k hk => by rw [vecF_flat d _ k i hk, vecF_flat d _ k j hk]

theorem marginalB_vecF {α : Type} [Semiring α] (d : Nat) (A B : Nat → Nat → α) (i j : Nat) (hi : i < d) (hj : j < d) :
    marginalB d (vecF d A) (vecF d B) i j = sumN d fun k => A i k * B j k :=
  sumN_congr _ _ d fun k _ => by rw [vecF_flat d _ i k hi, vecF_flat d _ j k hj]

theorem omegaVec_flat {α : Type} [Zero α] [One α] (d i j : Nat) (hj : j < d) :
    omegaVec (α := α) d (i * d + j) = if i = j then 1 else 0 := by
  unfold omegaVec
  rw [Nat.mul_add_div_of_lt hj, Nat.mul_add_mod_of_lt hj]

theorem omegaProj_eq_outer {α : Type} [MulZeroOneClass α] (d r c : Nat) :
    omegaProj (α := α) d r c = omegaVec d r * omegaVec d c := by
  unfold omegaProj omegaVec
  rw [ite_and, ite_mul, one_mul, zero_mul]

theorem maxEntS_eq_omegaVec (d k : Nat) (hk : k < d * d) : maxEntS d k = omegaVec d k := by
  unfold maxEntS omegaVec
  simp only [hk, and_true]

theorem maxEntS_flat (d i j : Nat) (hi : i < d) (hj : j < d) :
    maxEntS d (i * d + j) = if i = j then 1 else 0 :=
  (maxEntS_eq_omegaVec d _ (Nat.mul_add_lt_mul hi hj)).trans (omegaVec_flat d i j hj)

/-- the loop `state[idx(i)] = c[i]` for `i` in `range(m)` (later writes win): the value at position `j` after the loop -/
def pick (m : Nat) (idx : Nat → Nat) (c : Nat → Int) (j : Nat) : Int :=
  (List.range m).foldl (fun acc i => if idx i = j then c i else acc) 0

/-- "last write wins" loop `state[idx(i)] = c[i]`, `i` in `range(m)`, over any scalar type -/
def pickG {α : Type} [Zero α] (m : Nat) (idx : Nat → Nat) (c : Nat → α) (j : Nat) : α :=
  (List.range m).foldl (fun acc i => if idx i = j then c i else acc) 0

theorem pickG_succ {α : Type} [Zero α] (m : Nat) (idx : Nat → Nat) (c : Nat → α) (j : Nat) :
    pickG (m + 1) idx c j = if idx m = j then c m else pickG m idx c j := by
  unfold pickG
  rw [List.range_succ, List.foldl_append]
  rfl

theorem pickG_none {α : Type} [Zero α] (idx : Nat → Nat) (c : Nat → α) (j : Nat) :
    ∀ m, (∀ i, i < m → idx i ≠ j) → pickG m idx c j = 0
  | 0, _ => rfl
  | m + 1, h => by
    rw [pickG_succ, if_neg (h m (by omega))]
    exact pickG_none idx c j m (fun i hi => h i (by omega))

theorem pickG_unique {α : Type} [Zero α] (idx : Nat → Nat) (c : Nat → α) (j i₀ : Nat) (h0 : idx i₀ = j) :
    ∀ m, i₀ < m → (∀ i, i < m → idx i = j → i = i₀) → pickG m idx c j = c i₀
  | 0, h, _ => by omega
  | m + 1, hlt, hu => by
    rw [pickG_succ]
    by_cases hm : idx m = j
    · rw [if_pos hm, hu m (by omega) hm]
    · rw [if_neg hm]
      have : i₀ ≠ m := fun e => hm (e ▸ h0)
      exact pickG_unique idx c j i₀ h0 m (by omega) (fun i hi => hu i (by omega))

theorem pickG_sq_sum {α : Type} [CommSemiring α] (N : Nat) (idx : Nat → Nat) (c : Nat → α) :
    ∀ m, (∀ i, i < m → idx i < N) → (∀ i j, i < m → j < m → idx i = idx j → i = j) →
      inner N (pickG m idx c) (pickG m idx c) = sumN m (fun i => c i * c i)
  | 0, _, _ => sumN_eq_zero _ N fun _ _ => mul_zero _
  | m + 1, hlt, hinj => by
    have ih := pickG_sq_sum N idx c m (fun i hi => hlt i (by omega)) (fun i j hi hj => hinj i j (by omega) (by omega))
    have h0 : pickG m idx c (idx m) = 0 :=
      pickG_none idx c (idx m) m (fun i hi h => by have := hinj i m (by omega) (by omega) h; omega)
    show _ = sumN m (fun i => c i * c i) + c m * c m
    rw [← ih, ← sumN_ite_eq_swap (fun _ => c m * c m) (idx m) N (hlt m (by omega))]
    unfold inner
    rw [← sumN_add_distrib]
    apply sumN_congr; intro j _
    rw [pickG_succ]
    by_cases h : idx m = j
    · rw [if_pos h, if_pos h.symm, ← h, h0, mul_zero, zero_add]
    · rw [if_neg h, if_neg (Ne.symm h), add_zero]

theorem ghzGen_eq_pickG (d n : Nat) (c : Nat → Int) : ghzGen d n c = pickG d (ghzIdx d n) c := rfl

theorem wGen_eq_pickG (n : Nat) (c : Nat → Int) : wGen n c = pickG n (fun i => 2 ^ i) (fun i => c (n - i - 1)) := rfl

theorem ghzIdx_step (d i : Nat) : ∀ n, ghzIdx d n i * d + i = ghzIdx d n i + i * d ^ n
  | 0 => by simp [ghzIdx, sumN]
  | n + 1 => by
    have ih := ghzIdx_step d i n
    show (ghzIdx d n i + i * d ^ n) * d + i = (ghzIdx d n i + i * d ^ n) + i * d ^ (n + 1)
    rw [Nat.add_mul, Nat.pow_succ, ← Nat.mul_assoc]
    omega

theorem ghzIdx_eq_enc (d i : Nat) : ∀ n, ghzIdx d n i = enc (fun _ => d) (fun _ => i) n
  | 0 => rfl
  | n + 1 => by
    show ghzIdx d n i + i * d ^ n = enc (fun _ => d) (fun _ => i) n * d + i
    rw [← ghzIdx_eq_enc d i n, ghzIdx_step]

theorem ghzIdx_lt (d n i : Nat) (hi : i < d) : ghzIdx d n i < d ^ n := by
  rw [ghzIdx_eq_enc]
  exact enc_lt_pow d (fun _ => i) n fun _ _ => hi

theorem ghzIdx_inj (d n : Nat) (hn : 0 < n) (i j : Nat) (hi : i < d) (hj : j < d)
    (h : ghzIdx d n i = ghzIdx d n j) : i = j := by
  rw [ghzIdx_eq_enc, ghzIdx_eq_enc] at h
  exact enc_injective (fun _ => d) (fun _ => i) (fun _ => j) n (fun _ _ => hi) (fun _ _ => hj) h 0 hn

/-- the basis vector `|0…010…0⟩` with the `1` at party `p` -/
def unit (p : Nat) : Nat → Nat := fun k => if k = p then 1 else 0

theorem enc_unit (p : Nat) : ∀ n, p < n → enc (fun _ => 2) (unit p) n = 2 ^ (n - 1 - p)
  | 0, h => by omega
  | n + 1, h => by
    show enc (fun _ => 2) (unit p) n * 2 + unit p n = _
    by_cases hp : p = n
    · subst hp
      rw [enc_eq_zero _ _ p (fun k hk => by unfold unit; rw [if_neg (by omega)])]
      simp [unit]
    · rw [enc_unit p n (by omega)]
      have : unit p n = 0 := by unfold unit; rw [if_neg (Ne.symm hp)]
      rw [this, Nat.add_zero, ← Nat.pow_succ]
      congr 1; omega

theorem weight_unit (p : Nat) : ∀ n, p < n → sumN n (unit p) = 1
  | 0, h => by omega
  | n + 1, h => by
    show sumN n (unit p) + unit p n = 1
    by_cases hp : p = n
    · subst hp
      rw [sumN_eq_zero _ p (fun k hk => by unfold unit; rw [if_neg (by omega)])]
      simp [unit]
    · rw [weight_unit p n (by omega)]
      unfold unit; rw [if_neg (Ne.symm hp)]

theorem weight_one_unit (x : Nat → Nat) : ∀ n, (∀ k, k < n → x k < 2) → sumN n x = 1 →
    ∃ p, p < n ∧ ∀ k, k < n → x k = unit p k
  | 0, _, h => by simp [sumN] at h
  | n + 1, hx, h => by
    have hs : sumN n x + x n = 1 := h
    have hn := hx n (by omega)
    by_cases h1 : x n = 1
    · have h0 : sumN n x = 0 := by omega
      have hz : ∀ k, k < n → x k = 0 := by
        rw [sumN_eq_sum] at h0
        intro k hk
        exact (Finset.sum_eq_zero_iff.mp h0) k (Finset.mem_range.mpr hk)
      refine ⟨n, by omega, fun k hk => ?_⟩
      unfold unit
      by_cases hkn : k = n
      · rw [if_pos hkn, hkn, h1]
      · rw [if_neg hkn, hz k (by omega)]
    · have h0 : x n = 0 := by omega
      obtain ⟨p, hp, hpk⟩ := weight_one_unit x n (fun k hk => hx k (by omega)) (by omega)
      refine ⟨p, by omega, fun k hk => ?_⟩
      by_cases hkn : k = n
      · rw [hkn, h0]; unfold unit; rw [if_neg (by omega)]
      · exact hpk k (by omega)

theorem popcount_succ_low (n j : Nat) : popcount (n + 1) j = j % 2 + popcount n (j / 2) := by
  unfold popcount
  rw [sumN_succ_front]
  congr 1
  · rw [Nat.testBit_zero]
    rcases Nat.mod_two_eq_zero_or_one j with h | h <;> simp [h]
  · apply sumN_congr
    intro b _
    rw [Nat.testBit_succ]

theorem popcount_enc (x : Nat → Nat) : ∀ n, (∀ k, k < n → x k < 2) →
    popcount n (enc (fun _ => 2) x n) = sumN n x
  | 0, _ => rfl
  | n + 1, hx => by
    have hn := hx n (by omega)
    show popcount (n + 1) (enc (fun _ => 2) x n * 2 + x n) = sumN n x + x n
    rw [popcount_succ_low, Nat.mul_add_mod_of_lt hn, Nat.mul_add_div_of_lt hn,
      popcount_enc x n (fun k hk => hx k (by omega)), Nat.add_comm]

theorem popcount_succ_high (n j : Nat) : popcount (n + 1) j = popcount n j + (if j.testBit n then 1 else 0) := rfl

theorem popcount_low (n j : Nat) (hj : j < 2 ^ n) : popcount (n + 1) j = popcount n j := by
  rw [popcount_succ_high, Nat.testBit_lt_two_pow hj]; rfl

theorem popcount_high (n j : Nat) (hj : j < 2 ^ n) : popcount (n + 1) (2 ^ n + j) = popcount n j + 1 := by
  rw [popcount_succ_high, Nat.testBit_two_pow_add_eq, Nat.testBit_lt_two_pow hj]
  show popcount n (2 ^ n + j) + 1 = popcount n j + 1
  congr 1
  unfold popcount
  apply sumN_congr; intro b hb
  rw [Nat.testBit_two_pow_add_gt hb]

theorem dickeS_low (n k j : Nat) (hj : j < 2 ^ n) : dickeS (n + 1) k j = dickeS n k j := by
  unfold dickeS
  rw [popcount_low n j hj]
  exact if_congr (and_congr_left' ⟨fun _ => hj, fun h => by rw [Nat.pow_succ]; omega⟩) rfl rfl

theorem dickeS_high (n k j : Nat) (hj : j < 2 ^ n) : dickeS (n + 1) (k + 1) (2 ^ n + j) = dickeS n k j := by
  unfold dickeS
  rw [popcount_high n j hj]
  exact if_congr ⟨fun h => ⟨hj, by omega⟩, fun h => ⟨by rw [Nat.pow_succ]; omega, by omega⟩⟩ rfl rfl

theorem dickeS_high_zero (n j : Nat) (hj : j < 2 ^ n) : dickeS (n + 1) 0 (2 ^ n + j) = 0 := by
  unfold dickeS
  rw [popcount_high n j hj, if_neg fun h => by omega]

theorem pos_of_lt_sq (d r : Nat) (hr : r < d * d) : 0 < d :=
  Nat.pos_of_ne_zero (by rintro rfl; simp at hr)

theorem sumN_eq_add {α : Type*} [AddCommMonoid α] (f : ℕ → α) (p q n : ℕ) (hp : p < n) (hq : q < n) (hpq : p ≠ q)
    (h0 : ∀ k, k < n → k ≠ p → k ≠ q → f k = 0) : sumN n f = f p + f q := by
  rw [sumN_eq_sum]
  exact Finset.sum_eq_add p q hpq (fun k hk h => h0 k (Finset.mem_range.mp hk) h.1 h.2)
    (fun h => absurd (Finset.mem_range.mpr hp) h) (fun h => absurd (Finset.mem_range.mpr hq) h)

section ring
variable {α : Type} [CommRing α]

theorem matMul_sub_smul_left (n : Nat) (A B K : Nat → Nat → α) (a : α) (r c : Nat) :
    matMul n (fun r' m => A r' m - a * B r' m) K r c = matMul n A K r c - a * matMul n B K r c := by
  unfold matMul
  rw [← sumN_mul_left, ← sumN_sub]
  apply sumN_congr; intro k _; ring

theorem matMul_sub_smul_right (n : Nat) (A B K : Nat → Nat → α) (a : α) (r c : Nat) :
    matMul n K (fun m c' => A m c' - a * B m c') r c = matMul n K A r c - a * matMul n K B r c := by
  unfold matMul
  rw [← sumN_mul_left, ← sumN_sub]
  apply sumN_congr; intro k _; ring

end ring

section field
variable {α : Type} [Field α]

theorem sumN_div (n : Nat) (f : Nat → α) (c : α) : sumN n (fun k => f k / c) = sumN n f / c := by
  simp only [sumN_eq_sum]; exact (Finset.sum_div _ _ _).symm

theorem matMul_div_left (n : Nat) (A K : Nat → Nat → α) (t : α) (r c : Nat) :
    matMul n (fun r' m => A r' m / t) K r c = matMul n A K r c / t := by
  unfold matMul
  rw [← sumN_div]
  apply sumN_congr; intro k _; ring

theorem matMul_div_right (n : Nat) (A K : Nat → Nat → α) (t : α) (r c : Nat) :
    matMul n K (fun m c' => A m c' / t) r c = matMul n K A r c / t := by
  unfold matMul
  rw [← sumN_div]
  apply sumN_congr; intro k _; ring

end field

/-- `|ij⟩ ↦ |ji⟩` on flat indices -/
def swapIdx (d r : Nat) : Nat := (r % d) * d + r / d

theorem swapIdx_lt (d r : Nat) (hr : r < d * d) : swapIdx d r < d * d :=
  Nat.mul_add_lt_mul (Nat.mod_lt _ (pos_of_lt_sq d r hr)) (Nat.div_lt_of_lt_mul hr)

theorem swapIdx_flat (d i j : Nat) (hj : j < d) : swapIdx d (i * d + j) = j * d + i := by
  unfold swapIdx
  rw [Nat.mul_add_div_of_lt hj, Nat.mul_add_mod_of_lt hj]

theorem swapIdx_div (d r : Nat) (hr : r < d * d) : swapIdx d r / d = r % d := Nat.mul_add_div_of_lt (Nat.div_lt_of_lt_mul hr)

theorem swapIdx_mod (d r : Nat) (hr : r < d * d) : swapIdx d r % d = r / d := Nat.mul_add_mod_of_lt (Nat.div_lt_of_lt_mul hr)

theorem swapIdx_invol (d r : Nat) (hr : r < d * d) : swapIdx d (swapIdx d r) = r := by
  rw [show swapIdx d r = r % d * d + r / d from rfl, swapIdx_flat d _ _ (Nat.div_lt_of_lt_mul hr)]
  exact Nat.div_add_mod' r d

theorem pT2_digits {α : Type} (d : Nat) (hd : 0 < d) (F : Nat → Nat → Nat → Nat → α) (r c : Nat) :
    pT2 d (fun r c => F (r / d) (r % d) (c / d) (c % d)) r c = F (r / d) (c % d) (c / d) (r % d) := by
  show F ((r / d * d + c % d) / d) ((r / d * d + c % d) % d) ((c / d * d + r % d) / d) ((c / d * d + r % d) % d) = _
  rw [Nat.mul_add_div_of_lt (Nat.mod_lt c hd), Nat.mul_add_mod_of_lt (Nat.mod_lt c hd), Nat.mul_add_div_of_lt (Nat.mod_lt r hd),
    Nat.mul_add_mod_of_lt (Nat.mod_lt r hd)]

theorem pT2_swapOp {α : Type} [Zero α] [One α] (d r c : Nat) (hd : 0 < d) :
    pT2 d (swapOp (α := α) d) r c = omegaProj d r c :=
  (pT2_digits d hd (fun i j k l => if i = l ∧ j = k then (1 : α) else 0) r c).trans
    (if_congr (and_congr_right' eq_comm) rfl rfl)

theorem pT2_omegaProj {α : Type} [Zero α] [One α] (d r c : Nat) (hd : 0 < d) :
    pT2 d (omegaProj (α := α) d) r c = swapOp d r c :=
  (pT2_digits d hd (fun i j k l => if i = j ∧ k = l then (1 : α) else 0) r c).trans
    (if_congr (and_congr_right' eq_comm) rfl rfl)

theorem pT2_delta {α : Type} [Zero α] [One α] (d r c : Nat) (hd : 0 < d) :
    pT2 d (delta (α := α)) r c = delta r c := by
  unfold pT2 delta
  refine if_congr ⟨fun h => ?_, fun h => by rw [h]⟩ rfl rfl
  have h1 := congrArg (· / d) h
  have h2 := congrArg (· % d) h
  simp only [Nat.mul_add_div_of_lt (Nat.mod_lt c hd), Nat.mul_add_div_of_lt (Nat.mod_lt r hd),
    Nat.mul_add_mod_of_lt (Nat.mod_lt c hd), Nat.mul_add_mod_of_lt (Nat.mod_lt r hd)] at h1 h2
  exact Nat.ext_div_mod h1 h2.symm

theorem one_lt_mul_self {d : Nat} (hd : 2 ≤ d) : 1 < d * d := Nat.lt_of_lt_of_le hd (Nat.le_mul_self d)

theorem swapOp_eq {α : Type} [Zero α] [One α] (d r c : Nat) (hr : r < d * d) :
    swapOp (α := α) d r c = if c = swapIdx d r then 1 else 0 := by
  unfold swapOp swapIdx
  have key : (r / d = c % d ∧ r % d = c / d) ↔ c = r % d * d + r / d := by
    rw [← div_mod_unique d c (r % d) (r / d) (Nat.div_lt_of_lt_mul hr)]
    constructor
    · rintro ⟨a, b⟩; exact ⟨b.symm, a.symm⟩
    · rintro ⟨a, b⟩; exact ⟨b.symm, a.symm⟩
  by_cases h : c = r % d * d + r / d
  · rw [if_pos (key.mpr h), if_pos h]
  · rw [if_neg (fun hh => h (key.mp hh)), if_neg h]

section semiring
variable {α : Type} [CommSemiring α]

/-- `Spec17.δ`, `Matrices.matId` and `States.delta` are one function; the lemmas are stated for `delta` -/
theorem δ_eq_delta {β : Type} [Zero β] [One β] : (δ : Nat → Nat → β) = delta := rfl

theorem matId_eq_delta {β : Type} [Zero β] [One β] : (matId : Nat → Nat → β) = delta := rfl

theorem delta_comm {β : Type} [Zero β] [One β] (i j : Nat) : delta (α := β) i j = delta j i :=
  if_congr eq_comm rfl rfl

theorem sumN_delta_mul (n r : Nat) (hr : r < n) (v : Nat → α) : sumN n (fun c => delta r c * v c) = v r :=
  sumN_ite_mul v r n hr

theorem matMul_delta_left (n : Nat) (K : Nat → Nat → α) (r c : Nat) (hr : r < n) :
    matMul n (fun r' m => delta r' m) K r c = K r c :=
  sumN_delta_mul n r hr fun m => K m c

theorem matMul_delta_right (n : Nat) (K : Nat → Nat → α) (r c : Nat) (hc : c < n) :
    matMul n K (fun m c' => delta m c') r c = K r c := by
  rw [← sumN_delta_mul n c hc fun k => K r k]
  exact sumN_congr _ _ n fun k _ => by rw [delta_comm c k, mul_comm]

theorem kron2_eq_kron {β : Type} [Mul β] (d : Nat) : kron2 (α := β) d = kron d d := rfl

theorem swapOp_symm (d r c : Nat) : swapOp (α := α) d r c = swapOp d c r := by
  unfold swapOp
  by_cases h : r / d = c % d ∧ r % d = c / d
  · rw [if_pos h, if_pos ⟨h.2.symm, h.1.symm⟩]
  · rw [if_neg h, if_neg fun hh => h ⟨hh.2.symm, hh.1.symm⟩]

theorem swap_row_mul (d r : Nat) (hr : r < d * d) (g : Nat → α) :
    sumN (d * d) (fun m => swapOp d r m * g m) = g (swapIdx d r) := by
  rw [sumN_eq_single _ (swapIdx d r) (d * d) (swapIdx_lt d r hr) fun k _ hne => by
    rw [swapOp_eq d r k hr, if_neg hne, zero_mul], swapOp_eq d r _ hr, if_pos rfl, one_mul]

theorem kron_mul_swap (d : Nat) (A B : Nat → Nat → α) (r c : Nat) (hc : c < d * d) :
    matMul (d * d) (kron2 d A B) (swapOp d) r c = A (r / d) (c % d) * B (r % d) (c / d) := by
  unfold matMul
  rw [sumN_congr _ (fun m => swapOp d c m * kron2 d A B r m) _ fun m _ => by
    rw [swapOp_symm d m c, mul_comm], swap_row_mul d c hc]
  unfold kron2
  rw [swapIdx_div d c hc, swapIdx_mod d c hc]

theorem swap_mul_kron (d : Nat) (A B : Nat → Nat → α) (r c : Nat) (hr : r < d * d) :
    matMul (d * d) (swapOp d) (kron2 d A B) r c = A (r % d) (c / d) * B (r / d) (c % d) := by
  unfold matMul
  rw [swap_row_mul d r hr (fun m => kron2 d A B m c)]
  unfold kron2
  rw [swapIdx_div d r hr, swapIdx_mod d r hr]

end semiring

/-- the vocabulary's `IsPermN` is the `IsPermN` of the permutation lemmas (`Toq/Proofs/PermN.lean`) -/
theorem isPermN_iff (n : Nat) (σ : Nat → Nat) : Spec17.IsPermN n σ ↔ Toq.C01.IsPermN n σ :=
  ⟨fun h => ⟨h.lt, h.inj⟩, fun h => ⟨h.lt, h.inj⟩⟩

theorem permOp_swap {α : Type} [Zero α] [One α] (d r c : Nat) (hr : r < d * d) :
    Toq.Perms.permOp (α := α) 2 (fnOfList [1, 0]) (fun _ => d) false r c = swapOp d r c := by
  have hp : Toq.C01.IsPermN 2 (fnOfList [1, 0]) := (Toq.Perms.isPerm_eq_true_iff 2 _).mp (by decide)
  rw [Toq.Perms.permOp_apply, Toq.Perms.permIndex_false_eq 2 _ _ hp,
    Toq.Perms.specIndex_congr 2 _ (Toq.Perms.swapPerm 0 1) _ (fnOfList [d, d]) hp.lt (by decide)
      (fun k hk => by rcases (by omega : k = 0 ∨ k = 1) with rfl | rfl <;> rfl),
    Toq.Perms.specIndex_swap2, Nat.mod_eq_of_lt (Nat.div_lt_of_lt_mul hr), swapOp_eq d r c hr]
  exact if_congr eq_comm rfl rfl

theorem trace_swap {α : Type} [Semiring α] (d : Nat) : trace (d * d) (swapOp (α := α) d) = (d : α) :=
  sumN_flat_diag d _ fun i j _ hj => by
    unfold swapOp
    rw [Nat.mul_add_div_of_lt hj, Nat.mul_add_mod_of_lt hj]
    exact if_congr ⟨fun h => h.1, fun h => ⟨h, h.symm⟩⟩ rfl rfl

theorem trace_delta {α : Type} [Semiring α] (n : Nat) : trace n (delta (α := α)) = (n : α) := by
  unfold trace delta
  rw [sumN_congr _ (fun _ => (1 : α)) n (fun i _ => by rw [if_pos rfl]), sumN_const, mul_one]

theorem trace_congr {α : Type} [Add α] [Zero α] (n : Nat) (A B : Nat → Nat → α)
    (h : ∀ i, i < n → ∀ j, j < n → A i j = B i j) : trace n A = trace n B :=
  sumN_congr _ _ n fun i hi => h i hi i hi

theorem trace_add {α : Type} [AddCommMonoid α] (n : Nat) (A B : Nat → Nat → α) :
    trace n (fun i j => A i j + B i j) = trace n A + trace n B :=
  sumN_add_distrib _ _ n

theorem trace_sub {α : Type} [AddCommGroup α] (n : Nat) (A B : Nat → Nat → α) :
    trace n (fun i j => A i j - B i j) = trace n A - trace n B :=
  sumN_sub n _ _

theorem trace_smul {α : Type} [Semiring α] (n : Nat) (t : α) (A : Nat → Nat → α) :
    trace n (fun i j => t * A i j) = t * trace n A :=
  sumN_mul_left t _ n

theorem trace_div {α : Type} [Field α] (n : Nat) (A : Nat → Nat → α) (t : α) :
    trace n (fun i j => A i j / t) = trace n A / t :=
  sumN_div n _ t

theorem trace_omegaProj {α : Type} [Semiring α] (d : Nat) : trace (d * d) (omegaProj (α := α) d) = (d : α) :=
  sumN_flat_diag d _ fun i j _ hj => by
    unfold omegaProj
    simp only [Nat.mul_add_div_of_lt hj, Nat.mul_add_mod_of_lt hj, and_self]

section normalform
variable {α : Type} [Field α]

/-! `isotropic` and the partial transposes of `werner`, `isotropic` as members of the families `x·I + y·SWAP`, `x·I + y·|Ω⟩⟨Ω|`, in the
    shape `matvec_swap`, `matvec_rank_one`, `bilin_rank_one` take (`werner` is of this shape up to the division by `d(d−α)`). -/

theorem isotropic_eq (d : Nat) (a : α) (r c : Nat) :
    isotropic d a r c = (1 - a) / ((d : α) * (d : α)) * delta r c + a / (d : α) * (omegaVec d r * omegaVec d c) := by
  unfold isotropic
  rw [omegaProj_eq_outer]
  ring

/-- the partial transposes in the shape in which the models write the states: `(I − a·|Ω⟩⟨Ω|)/(d(d−a))` and
    `(1−a)·I/d² + a·SWAP/d` -/
theorem pT2_werner_closed (d : Nat) (hd : 0 < d) (a : α) (r c : Nat) :
    pT2 d (werner d a) r c = (delta r c - a * omegaProj d r c) / ((d : α) * ((d : α) - a)) := by
  show (pT2 d delta r c - a * pT2 d (swapOp d) r c) / _ = _
  rw [pT2_swapOp d r c hd, pT2_delta d r c hd]

theorem pT2_isotropic_closed (d : Nat) (hd : 0 < d) (a : α) (r c : Nat) :
    pT2 d (isotropic d a) r c = (1 - a) * delta r c / ((d : α) * (d : α)) + a * swapOp d r c / (d : α) := by
  show (1 - a) * pT2 d delta r c / _ + a * pT2 d (omegaProj d) r c / _ = _
  rw [pT2_omegaProj d r c hd, pT2_delta d r c hd]

theorem pT2_werner_eq (d : Nat) (hd : 0 < d) (a : α) (r c : Nat) :
    pT2 d (werner d a) r c
      = 1 / ((d : α) * ((d : α) - a)) * delta r c + -a / ((d : α) * ((d : α) - a)) * (omegaVec d r * omegaVec d c) := by
  rw [pT2_werner_closed d hd, omegaProj_eq_outer]
  ring

theorem pT2_isotropic_eq (d : Nat) (hd : 0 < d) (a : α) (r c : Nat) :
    pT2 d (isotropic d a) r c = (1 - a) / ((d : α) * (d : α)) * delta r c + a / (d : α) * swapOp d r c := by
  rw [pT2_isotropic_closed d hd]
  ring

end normalform

/-- the sign contributed by bit `b` -/
def hsign (i k b : Nat) : Int := if i.testBit b && k.testBit b then -1 else 1

theorem hadamardS_eq (n i k : Nat) : hadamardS n i k = prodFn n (hsign i k) := rfl

theorem hadamardS_succ (n i j : Nat) :
    hadamardS (n + 1) i j = hadamardS 1 (i / 2 ^ n) (j / 2 ^ n) * hadamardS n (i % 2 ^ n) (j % 2 ^ n) := by
  have h1 : hadamardS 1 (i / 2 ^ n) (j / 2 ^ n) = hsign i j n := by
    show (1 : Int) * (if (i / 2 ^ n).testBit 0 && (j / 2 ^ n).testBit 0 then -1 else 1) = _
    rw [Nat.testBit_div_two_pow, Nat.testBit_div_two_pow, Nat.zero_add, one_mul]
    rfl
  have h2 : hadamardS n (i % 2 ^ n) (j % 2 ^ n) = hadamardS n i j :=
    prodFn_congr _ _ n fun b hb => by
      rw [Nat.testBit_mod_two_pow, Nat.testBit_mod_two_pow, decide_eq_true hb, Bool.true_and, Bool.true_and]
  rw [h1, h2, mul_comm]
  rfl

namespace GIring

/-! Components of the executable operations: the lemmas `Toq.ChannelOps.GI.add_re …` of `Toq/Proofs/Scalar.lean` (the `simp` set), under this namespace. -/

theorem add_re (a b : GI) : (a + b).re = a.re + b.re := Toq.ChannelOps.GI.add_re a b
theorem add_im (a b : GI) : (a + b).im = a.im + b.im := Toq.ChannelOps.GI.add_im a b
theorem mul_re (a b : GI) : (a * b).re = a.re * b.re - a.im * b.im := Toq.ChannelOps.GI.mul_re a b
theorem mul_im (a b : GI) : (a * b).im = a.re * b.im + a.im * b.re := Toq.ChannelOps.GI.mul_im a b
theorem neg_re (a : GI) : (-a).re = -a.re := Toq.ChannelOps.GI.neg_re a
theorem neg_im (a : GI) : (-a).im = -a.im := Toq.ChannelOps.GI.neg_im a
theorem zero_re : (0 : GI).re = 0 := Toq.ChannelOps.GI.zero_re
theorem zero_im : (0 : GI).im = 0 := Toq.ChannelOps.GI.zero_im
theorem one_re : (1 : GI).re = 1 := Toq.ChannelOps.GI.one_re
theorem one_im : (1 : GI).im = 0 := Toq.ChannelOps.GI.one_im

end GIring

section gellmann
open scoped Toq.ChannelOps

theorem sumN_ofInt (f : Nat → Int) : ∀ n, sumN n (fun i => GI.ofInt (f i)) = GI.ofInt (sumN n f) :=
  fun n => (sumN_map GI.ofInt rfl (fun _ _ => rfl) f n).symm

theorem ofInt_mul (x y : Int) : GI.ofInt x * GI.ofInt y = GI.ofInt (x * y) := (Int.cast_mul x y).symm

/-- diagonal of the numerator of `gen_gell_mann(k, k, d)` -/
def dvec (k i : Nat) : Int := if k = 0 then 1 else if i < k then 1 else if i = k then -(k : Int) else 0

theorem genGellMann_diag (k i j : Nat) :
    genGellMann k k i j = if i = j then GI.ofInt (dvec k i) else 0 := by
  unfold genGellMann dvec
  rw [if_pos rfl]
  simp only [apply_ite GI.ofInt]
  rfl

/-- entry `(a, b)` of the off-diagonal matrix `G_{ab}` (`1` above, `i` below the diagonal); entry `(b, a)` is its conjugate -/
def gmUnit (a b : Nat) : GI := if a < b then 1 else ⟨0, 1⟩

theorem gmUnit_of_lt {a b : Nat} (h : a < b) : gmUnit a b = 1 := if_pos h

theorem gmUnit_of_gt {a b : Nat} (h : b < a) : gmUnit a b = ⟨0, 1⟩ := if_neg (Nat.lt_asymm h)

theorem gmUnit_norm (a b : Nat) : gmUnit a b * (gmUnit a b).conj + (gmUnit a b).conj * gmUnit a b = ⟨2, 0⟩ := by
  unfold gmUnit; split <;> decide

theorem gmUnit_swap (a b : Nat) (hab : a ≠ b) :
    gmUnit a b * gmUnit b a + (gmUnit a b).conj * (gmUnit b a).conj = 0 := by
  rcases Nat.lt_or_gt_of_ne hab with h | h
  · rw [gmUnit_of_lt h, gmUnit_of_gt h]; decide
  · rw [gmUnit_of_gt h, gmUnit_of_lt h]; decide

theorem genGellMann_off (a b i j : Nat) (hab : a ≠ b) :
    genGellMann a b i j
      = if i = a ∧ j = b then gmUnit a b else if i = b ∧ j = a then (gmUnit a b).conj else 0 := by
  unfold genGellMann gmUnit
  rw [if_neg hab]
  by_cases hlt : a < b
  · simp only [if_pos hlt]
    by_cases h1 : i = a ∧ j = b
    · rw [if_pos (Or.inl h1), if_pos h1]
    · by_cases h2 : i = b ∧ j = a
      · rw [if_pos (Or.inr h2), if_neg h1, if_pos h2]; rfl
      · rw [if_neg (not_or.mpr ⟨h1, h2⟩), if_neg h1, if_neg h2]
  · simp only [if_neg hlt]; rfl

theorem dvec_zero (i : Nat) : dvec 0 i = 1 := if_pos rfl

theorem dvec_lt (k i : Nat) (hk : 0 < k) (hi : i < k) : dvec k i = 1 := by
  unfold dvec
  rw [if_neg (by omega), if_pos hi]

theorem dvec_self (k : Nat) (hk : 0 < k) : dvec k k = -(k : Int) := by
  unfold dvec
  rw [if_neg (by omega), if_neg (by omega), if_pos rfl]

theorem dvec_gt (k i : Nat) (hk : 0 < k) (hi : k < i) : dvec k i = 0 := by
  unfold dvec
  rw [if_neg (by omega), if_neg (by omega), if_neg (by omega)]

theorem sumN_dvec_mul_fn (k : Nat) (hk : 0 < k) (f : Nat → Int) : ∀ d, k < d →
    sumN d (fun i => dvec k i * f i) = sumN k f - (k : Int) * f k
  | 0, h => by omega
  | d + 1, h => by
    show sumN d (fun i => dvec k i * f i) + dvec k d * f d = _
    by_cases hkd : k < d
    · rw [sumN_dvec_mul_fn k hk f d hkd, dvec_gt k d hk hkd, zero_mul, add_zero]
    · obtain rfl : k = d := by omega
      rw [sumN_congr _ f k fun i hi => by rw [dvec_lt k i hk hi, one_mul], dvec_self k hk, neg_mul, sub_eq_add_neg]

theorem sumN_dvec (k d : Nat) (hk : 0 < k) (hkd : k < d) : sumN d (dvec k) = 0 := by
  rw [sumN_congr _ (fun i => dvec k i * 1) d fun i _ => (mul_one _).symm, sumN_dvec_mul_fn k hk _ d hkd, sumN_const, mul_one,
    sub_self]

/-- `dvec 0` is constant and the others sum to zero; for `0 < k < l` the support of `dvec k` lies where `dvec l = 1` -/
theorem sumN_dvec_mul_lt (k l d : Nat) (hkl : k < l) (hld : l < d) :
    sumN d (fun i => dvec k i * dvec l i) = 0 := by
  have hl : 0 < l := Nat.zero_lt_of_lt hkl
  rcases Nat.eq_zero_or_pos k with rfl | hk
  · rw [sumN_congr _ (dvec l) d fun i _ => by rw [dvec_zero, one_mul]]
    exact sumN_dvec l d hl hld
  · rw [sumN_dvec_mul_fn k hk _ d (Nat.lt_trans hkl hld),
      sumN_congr _ (fun _ => (1 : Int)) k fun i hi => dvec_lt l i hl (Nat.lt_trans hi hkl), sumN_const, dvec_lt l k hl hkl, sub_self]

theorem sumN_dvec_sq (k d : Nat) (hk : 0 < k) (hkd : k < d) :
    sumN d (fun i => dvec k i * dvec k i) = (k : Int) * (k + 1) := by
  rw [sumN_dvec_mul_fn k hk _ d hkd, sumN_congr _ (fun _ => (1 : Int)) k fun i hi => dvec_lt k i hk hi, sumN_const, dvec_self k hk]
  ring

/-- squared norm of the diagonal `dvec l` in dimension `d` -/
def dnorm (d l : Nat) : Int := if l = 0 then (d : Int) else (l : Int) * (l + 1)

theorem dnorm_eq_two_mul_den2 (d l : Nat) (hl : 0 < l) : dnorm d l = 2 * (genGellMannDen2 l l : Int) := by
  unfold dnorm genGellMannDen2
  rw [if_neg (by omega), if_pos ⟨rfl, by omega⟩]
  exact_mod_cast (Nat.mul_div_cancel' (Nat.even_mul_succ_self l).two_dvd).symm

theorem sumN_dvec_mul (k l d : Nat) (hk : k < d) (hl : l < d) :
    sumN d (fun i => dvec k i * dvec l i) = if k = l then dnorm d k else 0 := by
  rcases Nat.lt_trichotomy k l with h | rfl | h
  · rw [if_neg h.ne]
    exact sumN_dvec_mul_lt k l d h hl
  · rw [if_pos rfl]
    unfold dnorm
    rcases Nat.eq_zero_or_pos k with rfl | hk0
    · rw [if_pos rfl, sumN_congr _ (fun _ => (1 : Int)) d (fun i _ => by rw [dvec_zero, mul_one]), sumN_const, mul_one]
    · rw [if_neg hk0.ne']
      exact sumN_dvec_sq k d hk0 hk
  · rw [if_neg h.ne', sumN_congr _ (fun i => dvec l i * dvec k i) d fun i _ => mul_comm _ _]
    exact sumN_dvec_mul_lt l k d h hk

theorem trMul_off (d a b : Nat) (ha : a < d) (hb : b < d) (hab : a ≠ b) (B : Nat → Nat → GI) :
    trMul d (genGellMann a b) B = gmUnit a b * B b a + (gmUnit a b).conj * B a b := by
  have hG := fun i k => genGellMann_off a b i k hab
  unfold trMul
  rw [sumN_eq_add _ a b d ha hb hab fun c _ hca hcb =>
    sumN_eq_zero _ d fun k _ => by rw [hG, if_neg (fun h => hca h.1), if_neg (fun h => hcb h.1), zero_mul]]
  congr 1
  · rw [sumN_eq_single _ b d hb fun k _ hne => by
      rw [hG, if_neg (fun h => hne h.2), if_neg (fun h => hab h.1), zero_mul], hG, if_pos ⟨rfl, rfl⟩]
  · rw [sumN_eq_single _ a d ha fun k _ hne => by
      rw [hG, if_neg (fun h => hab h.1.symm), if_neg (fun h => hne h.2), zero_mul],
      hG, if_neg (fun h => hab h.1.symm), if_pos ⟨rfl, rfl⟩]

theorem trMul_comm (d : Nat) (A B : Nat → Nat → GI) :
    trMul d A B = trMul d B A := by
  unfold trMul
  rw [sumN_comm]
  apply sumN_congr; intro i _
  apply sumN_congr; intro k _
  exact mul_comm _ _

theorem trMul_diag_diag (d k l : Nat) (hk : k < d) (hl : l < d) :
    trMul d (genGellMann k k) (genGellMann l l)
      = GI.ofInt (if k = l then dnorm d k else 0) := by
  unfold trMul
  rw [← sumN_dvec_mul k l d hk hl, ← sumN_ofInt]
  apply sumN_congr; intro i hi
  rw [sumN_eq_single _ i d hi]
  · rw [genGellMann_diag, genGellMann_diag, if_pos rfl, if_pos rfl, ofInt_mul]
  · intro m _ hne
    rw [genGellMann_diag k i m, if_neg (Ne.symm hne), zero_mul]

/-- `tr(G_{pq} G_{p'q'})` for an off-diagonal `G_{pq}`: the second factor contributes its entries `(q, p)` and `(p, q)`, which
    vanish unless `{p', q'} = {p, q}`; `G_{pq}` and `G_{qp}` (`u = 1` and `u = i`) are orthogonal -/
theorem trMul_off_genGellMann (d p q p' q' : Nat) (hp : p < d) (hq : q < d) (hpq : p ≠ q) :
    trMul d (genGellMann p q) (genGellMann p' q') = if p = p' ∧ q = q' then (⟨2, 0⟩ : GI) else 0 := by
  rw [trMul_off d p q hp hq hpq]
  by_cases hd' : p' = q'
  · rw [hd', genGellMann_diag, genGellMann_diag, if_neg (Ne.symm hpq), if_neg hpq, if_neg (by omega), mul_zero, mul_zero,
      add_zero]
  · rw [genGellMann_off p' q' q p hd', genGellMann_off p' q' p q hd']
    by_cases hA : p = p' ∧ q = q'
    · obtain ⟨rfl, rfl⟩ := hA
      rw [if_neg (fun h => hpq h.1.symm), if_pos ⟨rfl, rfl⟩, if_pos ⟨rfl, rfl⟩, if_pos ⟨rfl, rfl⟩, gmUnit_norm]
    · by_cases hB : p = q' ∧ q = p'
      · obtain ⟨rfl, rfl⟩ := hB
        rw [if_pos ⟨rfl, rfl⟩, if_neg (fun h => hpq h.1), if_pos ⟨rfl, rfl⟩, if_neg hA, gmUnit_swap p q hpq]
      · rw [if_neg (by omega), if_neg (by omega), if_neg hA, if_neg hB, mul_zero, mul_zero, add_zero, if_neg hA]

end gellmann

section conjugation
variable {α : Type} [CommRing α]

theorem bilin_rank_one (N : Nat) (k k' v : Nat → α) (x y : α) :
    sumN N (fun m => sumN N (fun m' => k m * (x * delta m m' + y * (v m * v m')) * k' m'))
      = x * sumN N (fun m => k m * k' m) + y * (sumN N (fun m => k m * v m) * sumN N (fun m' => k' m' * v m')) := by
  have h1 : ∀ m, m < N → sumN N (fun m' => k m * (x * delta m m' + y * (v m * v m')) * k' m')
      = x * (k m * k' m) + y * ((k m * v m) * sumN N (fun m' => k' m' * v m')) := by
    intro m hm
    rw [← sumN_mul_left (k m * v m) _ N, ← sumN_mul_left y _ N, ← sumN_delta_mul N m hm fun m' => x * (k m * k' m'),
      ← sumN_add_distrib]
    apply sumN_congr; intro m' _
    ring
  rw [sumN_congr _ _ N h1, sumN_add_distrib, sumN_mul_left, sumN_mul_left, sumN_mul_right]

theorem kron2_rowOrthonormal (d : Nat) (U Uc : Nat → Nat → α) (hU : RowOrthonormal d U Uc) :
    RowOrthonormal (d * d) (kron2 d U Uc) (kron2 d Uc U) := by
  intro r c hr hc
  have hd := pos_of_lt_sq d r hr
  rw [sumN_kron' d d _ (fun i => U (r / d) i * Uc (c / d) i) (fun j => U (c % d) j * Uc (r % d) j) fun k => by
      unfold kron2
      ring,
    hU (r / d) (c / d) (Nat.div_lt_of_lt_mul hr) (Nat.div_lt_of_lt_mul hc),
    hU (c % d) (r % d) (Nat.mod_lt _ hd) (Nat.mod_lt _ hd)]
  rw [δ_eq_delta, delta_comm (c % d)]
  exact (ite_div_mul_ite_mod d r c 1 1).trans (by rw [mul_one]; rfl)

end conjugation

section quad
variable {α : Type} [CommRing α]

theorem quadForm_congr (N : Nat) (A B : Nat → Nat → α) (v : Nat → α)
    (h : ∀ r, r < N → ∀ c, c < N → A r c = B r c) : quadForm N A v = quadForm N B v :=
  sumN_congr _ _ N fun r hr => sumN_congr _ _ N fun c hc => by rw [h r hr c hc]

theorem psd_congr [LE α] (N : Nat) (A B : Nat → Nat → α) (h : ∀ r, r < N → ∀ c, c < N → A r c = B r c) :
    PSD N A ↔ PSD N B :=
  forall_congr' fun v => by rw [quadForm_congr N A B v h]

theorem quadForm_add (N : Nat) (A B : Nat → Nat → α) (v : Nat → α) :
    quadForm N (fun r c => A r c + B r c) v = quadForm N A v + quadForm N B v := by
  unfold quadForm
  rw [← sumN_add_distrib]
  apply sumN_congr; intro r _
  rw [← sumN_add_distrib]
  apply sumN_congr; intro c _
  ring

theorem quadForm_smul (N : Nat) (t : α) (M : Nat → Nat → α) (v : Nat → α) :
    quadForm N (fun r c => t * M r c) v = t * quadForm N M v := by
  unfold quadForm
  rw [← sumN_mul_left]
  apply sumN_congr; intro r _
  rw [← sumN_mul_left]
  apply sumN_congr; intro c _
  ring

theorem quadForm_rank_one (N : Nat) (w v : Nat → α) (x y : α) :
    quadForm N (fun r c => x * delta r c + y * (w r * w c)) v
      = x * sumN N (fun m => v m * v m) + y * (sumN N (fun m => v m * w m) * sumN N (fun m => v m * w m)) :=
  bilin_rank_one N v v w x y

theorem matvec_rank_one (N : Nat) (w v : Nat → α) (x y : α) (r : Nat) (hr : r < N) :
    sumN N (fun c => (x * delta r c + y * (w r * w c)) * v c)
      = x * v r + y * w r * sumN N (fun c => w c * v c) := by
  rw [sumN_congr _ (fun c => x * (delta r c * v c) + y * w r * (w c * v c)) _ fun c _ => by ring, sumN_add_distrib,
    sumN_mul_left, sumN_mul_left]
  rw [sumN_delta_mul N r hr]

theorem quadForm_outer (N : Nat) (w v : Nat → α) :
    quadForm N (fun r c => w r * w c) v = sumN N (fun m => v m * w m) * sumN N (fun m => v m * w m) :=
  (quadForm_congr N _ _ v fun r _ c _ => by rw [zero_mul, zero_add, one_mul]).trans
    ((quadForm_rank_one N w v 0 1).trans (by rw [zero_mul, zero_add, one_mul]))

theorem sumN_pair (N p q : Nat) (hp : p < N) (hq : q < N) (hpq : p ≠ q) (s t : α) (g : Nat → α) :
    sumN N (fun m => (if m = p then s else if m = q then t else 0) * g m) = s * g p + t * g q :=
  (sumN_eq_add _ p q N hp hq hpq fun k _ h1 h2 => by rw [if_neg h1, if_neg h2, zero_mul]).trans
    (by rw [if_pos rfl, if_neg hpq.symm, if_pos rfl])

theorem quadForm_single (N p : Nat) (hp : p < N) (M : Nat → Nat → α) (s : α) :
    quadForm N M (fun m => if m = p then s else 0) = s * M p p * s := by
  unfold quadForm
  rw [sumN_eq_single _ p N hp fun r _ hr => sumN_eq_zero _ N fun c _ => by simp only [if_neg hr, zero_mul],
    sumN_eq_single _ p N hp fun c _ hc => by simp only [if_neg hc, mul_zero]]
  show (if p = p then s else 0) * M p p * (if p = p then s else 0) = _
  rw [if_pos rfl]

theorem quadForm_pair (N p q : Nat) (hp : p < N) (hq : q < N) (hpq : p ≠ q) (M : Nat → Nat → α) (s t : α) :
    quadForm N M (fun m => if m = p then s else if m = q then t else 0)
      = s * (s * M p p + t * M p q) + t * (s * M q p + t * M q q) := by
  unfold quadForm
  rw [← sumN_pair N p q hp hq hpq s t (fun r => s * M r p + t * M r q)]
  apply sumN_congr; intro r _
  rw [← sumN_pair N p q hp hq hpq s t (fun c => M r c), ← sumN_mul_left]
  apply sumN_congr; intro c _
  ring

/-- the quadratic form of a sparse matrix as a sum over the flat positions `m = i·N + j` of its support `p`; for a table in
    numerals the list `L` is found by evaluation -/
theorem quadForm_eq_list_sum (N : Nat) (M : Nat → Nat → α) (v : Nat → α) (p : Nat → Nat → Bool) (L : List Nat)
    (hL : (List.range (N * N)).filter (fun m => p (m / N) (m % N)) = L) (h0 : ∀ i j, p i j = false → M i j = 0) :
    quadForm N M v = (L.map fun m => v (m / N) * M (m / N) (m % N) * v (m % N)).sum := by
  rw [← sumN_eq_list_sum (N * N) _ _ L hL fun m h => by rw [h0 _ _ h, mul_zero, zero_mul], sumN_mul_range]
  exact sumN_congr _ _ N fun i _ => sumN_congr _ _ N fun j hj => by rw [Nat.mul_add_div_of_lt hj, Nat.mul_add_mod_of_lt hj]

theorem omegaVec_sq_sum (d : Nat) : sumN (d * d) (fun m => omegaVec (α := α) d m * omegaVec d m) = (d : α) :=
  sumN_flat_diag d _ fun i j _ hj => by
    rw [omegaVec_flat d i j hj]
    split
    · exact mul_one 1
    · exact mul_zero 0

end quad

section ordered
variable {α : Type} [Field α] [LinearOrder α] [IsStrictOrderedRing α]

theorem psd_smul_iff (N : Nat) (t : α) (ht : 0 < t) (M : Nat → Nat → α) :
    PSD N (fun r c => t * M r c) ↔ PSD N M :=
  forall_congr' fun v => by rw [quadForm_smul, mul_nonneg_iff_of_pos_left ht]

/-- `L / t`, `t > 0`, is the shape in which the models normalise -/
theorem psd_div_iff (N : Nat) (t : α) (ht : 0 < t) (M L : Nat → Nat → α)
    (h : ∀ r, r < N → ∀ c, c < N → M r c = L r c / t) : PSD N M ↔ PSD N L := by
  rw [psd_congr N M (fun r c => t⁻¹ * L r c) fun r hr c hc => by rw [h r hr c hc, div_eq_inv_mul],
    psd_smul_iff N _ (inv_pos.mpr ht)]

theorem psd_add {N : Nat} {A B : Nat → Nat → α} (hA : PSD N A) (hB : PSD N B) : PSD N (fun r c => A r c + B r c) :=
  fun v => by rw [quadForm_add]; exact add_nonneg (hA v) (hB v)

theorem psd_smul {N : Nat} {t : α} {M : Nat → Nat → α} (ht : 0 ≤ t) (hM : PSD N M) : PSD N (fun r c => t * M r c) :=
  fun v => by rw [quadForm_smul]; exact mul_nonneg ht (hM v)

theorem psd_outer (N : Nat) (w : Nat → α) : PSD N (fun r c => w r * w c) :=
  fun v => by rw [quadForm_outer]; exact mul_self_nonneg _

theorem psd_diag (N : Nat) (m : Nat → α) (hm : ∀ i, 0 ≤ m i) : PSD N (fun i j => if i = j then m i else 0) := fun v => by
  refine sumN_nonneg _ N fun r hr => ?_
  rw [sumN_eq_single _ r N hr fun k _ hne => by
    show v r * (if r = k then m r else 0) * v k = 0
    rw [if_neg (Ne.symm hne), mul_zero, zero_mul]]
  show 0 ≤ v r * (if r = r then m r else 0) * v r
  rw [if_pos rfl, mul_right_comm]
  exact mul_nonneg (mul_self_nonneg _) (hm r)

theorem sumN_sq_nonneg (N : Nat) (v : Nat → α) : 0 ≤ sumN N (fun m => v m * v m) :=
  sumN_nonneg _ N fun m _ => mul_self_nonneg (v m)

theorem sumN_cauchy (N : Nat) (v w : Nat → α) :
    sumN N (fun m => v m * w m) * sumN N (fun m => v m * w m)
      ≤ sumN N (fun m => v m * v m) * sumN N (fun m => w m * w m) := by
  simp only [sumN_eq_sum, ← pow_two]
  exact Finset.sum_mul_sq_le_sq_mul_sq (Finset.range N) v w

end ordered

section swapfield
variable {α : Type} [Field α]

theorem matvec_swap (d : Nat) (v : Nat → α) (x y : α) (r : Nat) (hr : r < d * d) :
    sumN (d * d) (fun c => (x * delta r c + y * swapOp d r c) * v c) = x * v r + y * v (swapIdx d r) := by
  rw [sumN_congr _ (fun c => x * (delta r c * v c) + y * (swapOp d r c * v c)) _ fun c _ => by ring, sumN_add_distrib,
    sumN_mul_left, sumN_mul_left, swap_row_mul d r hr]
  rw [sumN_delta_mul (d * d) r hr]

theorem quadForm_swap (d : Nat) (v : Nat → α) (x y : α) :
    quadForm (d * d) (fun r c => x * delta r c + y * swapOp d r c) v
      = x * sumN (d * d) (fun m => v m * v m) + y * sumN (d * d) (fun m => v m * v (swapIdx d m)) := by
  unfold quadForm
  rw [← sumN_mul_left, ← sumN_mul_left, ← sumN_add_distrib]
  apply sumN_congr; intro r hr
  rw [sumN_congr _ (fun c => v r * ((x * delta r c + y * swapOp d r c) * v c)) _ fun c _ => mul_assoc _ _ _,
    sumN_mul_left, matvec_swap d v x y r hr]
  ring

theorem sumN_swap_sq (d : Nat) (v : Nat → α) :
    sumN (d * d) (fun m => v (swapIdx d m) * v (swapIdx d m)) = sumN (d * d) (fun m => v m * v m) :=
  sumN_reindex_of_leftInverse (fun m => v m * v m) (swapIdx d) (swapIdx d) (d * d) (swapIdx_lt d) (swapIdx_invol d)

end swapfield

section swapform
variable {α : Type} [Field α] [LinearOrder α] [IsStrictOrderedRing α]

/-- `|Σ v_m v_{σ m}| ≤ Σ v_m²` (Cauchy–Schwarz for `v` and `v ∘ σ`) -/
theorem swap_form_bounds (d : Nat) (v : Nat → α) :
    0 ≤ sumN (d * d) (fun m => v m * v m) + sumN (d * d) (fun m => v m * v (swapIdx d m)) ∧
    0 ≤ sumN (d * d) (fun m => v m * v m) - sumN (d * d) (fun m => v m * v (swapIdx d m)) := by
  have hC := sumN_cauchy (d * d) v (fun m => v (swapIdx d m))
  rw [sumN_swap_sq] at hC
  -- `T·T ≤ S·S` and `S ≥ 0` give `|T| ≤ S`
  obtain ⟨h1, h2⟩ := abs_le.mp ((abs_le_iff_mul_self_le.mpr hC).trans_eq (abs_of_nonneg (sumN_sq_nonneg (d * d) v)))
  exact ⟨by linarith, by linarith⟩

theorem form_nonneg_of_abs_le (x y S T : α) (hm : 0 ≤ x - y) (hp : 0 ≤ x + y) (b1 : 0 ≤ S + T) (b2 : 0 ≤ S - T) :
    0 ≤ x * S + y * T := by
  have e : x * S + y * T = ((x + y) * (S + T) + (x - y) * (S - T)) / 2 := by ring
  rw [e]
  exact div_nonneg (add_nonneg (mul_nonneg hp b1) (mul_nonneg hm b2)) zero_le_two

theorem form_nonneg_of_le_mul (x y n S T : α) (hx : 0 ≤ x) (hxy : 0 ≤ x + y * n) (hS : 0 ≤ S) (hT : 0 ≤ T)
    (hC : T ≤ S * n) : 0 ≤ x * S + y * T := by
  rcases le_total 0 y with hy | hy
  · exact add_nonneg (mul_nonneg hx hS) (mul_nonneg hy hT)
  · calc 0 ≤ (x + y * n) * S := mul_nonneg hxy hS
      _ = x * S + y * (S * n) := by ring
      _ ≤ x * S + y * T := add_le_add_right (mul_le_mul_of_nonpos_left hC hy) _

/-- `x·I + y·S ⪰ 0` when both eigenvalues `x ± y` are non-negative (symmetric and antisymmetric part of `v`) -/
theorem psd_swap_of_nonneg (d : Nat) (x y : α) (hm : 0 ≤ x - y) (hp : 0 ≤ x + y) :
    PSD (d * d) (fun r c => x * delta r c + y * swapOp d r c) := fun v => by
  rw [quadForm_swap]
  exact form_nonneg_of_abs_le x y _ _ hm hp (swap_form_bounds d v).1 (swap_form_bounds d v).2

/-- `x·I + y·S ⪰ 0` iff both eigenvalues `x ± y` are non-negative (`d ≥ 2`): test vectors `|01⟩ − |10⟩` and `|00⟩` -/
theorem psd_swap_iff (d : Nat) (hd : 2 ≤ d) (x y : α) :
    PSD (d * d) (fun r c => x * delta r c + y * swapOp d r c) ↔ (0 ≤ x - y ∧ 0 ≤ x + y) := by
  have h1d := one_lt_mul_self hd
  have h0d := Nat.lt_trans Nat.zero_lt_one h1d
  have hdd : d < d * d := (Nat.lt_mul_iff_one_lt_left (by omega)).mpr (by omega)
  have hs1 : swapIdx d 1 = d := by simpa using swapIdx_flat d 0 1 (by omega)
  have hsd : swapIdx d d = 1 := by simpa using swapIdx_flat d 1 0 (by omega)
  have hs0 : swapIdx d 0 = 0 := by simpa using swapIdx_flat d 0 0 (by omega)
  refine ⟨fun h => ⟨?_, ?_⟩, fun h => psd_swap_of_nonneg d x y h.1 h.2⟩
  · have h1 := h (fun m => if m = 1 then 1 else if m = d then -1 else 0)
    rw [quadForm_pair (d * d) 1 d h1d hdd (by omega)] at h1
    simp only [delta, swapOp_eq d 1 _ h1d, swapOp_eq d d _ hdd, hs1, hsd, if_true,
      if_neg (show (1 : Nat) ≠ d by omega), if_neg (show d ≠ 1 by omega)] at h1
    linear_combination (1 / 2) * h1
  · have h1 := h (fun m => if m = 0 then 1 else 0)
    rw [quadForm_single (d * d) 0 h0d] at h1
    simp only [delta, swapOp_eq d 0 _ h0d, hs0, if_true] at h1
    linear_combination h1

/-- for `x ≥ 0`, `x·I + y·|Ω⟩⟨Ω| ⪰ 0` iff the eigenvalue `x + y d` on `Ω` is non-negative; on `Ω^⊥` use Cauchy–Schwarz -/
theorem psd_omega_iff_of_nonneg (d : Nat) (hd : 0 < d) (x y : α) (hx : 0 ≤ x) :
    PSD (d * d) (fun r c => x * delta r c + y * (omegaVec d r * omegaVec d c)) ↔ 0 ≤ x + y * (d : α) := by
  have hdpos : (0 : α) < (d : α) := Nat.cast_pos.mpr hd
  constructor
  · intro h
    have h1 := h (omegaVec d)
    rw [quadForm_rank_one, omegaVec_sq_sum, ← mul_assoc, ← add_mul] at h1
    exact nonneg_of_mul_nonneg_left h1 hdpos
  · intro hxy v
    rw [quadForm_rank_one]
    have hC := sumN_cauchy (d * d) v (omegaVec (α := α) d)
    rw [omegaVec_sq_sum] at hC
    exact form_nonneg_of_le_mul x y d _ _ hx hxy (sumN_sq_nonneg (d * d) v) (mul_self_nonneg _) hC

/-- `x·I + y·|Ω⟩⟨Ω| ⪰ 0` iff both eigenvalues `x`, `x + y d` are non-negative (`d ≥ 2`; `|01⟩ ⊥ Ω` tests `x`) -/
theorem psd_omega_iff (d : Nat) (hd : 2 ≤ d) (x y : α) :
    PSD (d * d) (fun r c => x * delta r c + y * (omegaVec d r * omegaVec d c))
      ↔ (0 ≤ x ∧ 0 ≤ x + y * (d : α)) := by
  have h1d := one_lt_mul_self hd
  have h0d := Nat.lt_trans Nat.zero_lt_one h1d
  have hΩ1 : omegaVec (α := α) d 1 = 0 := by
    unfold omegaVec
    rw [Nat.div_eq_of_lt (by omega), Nat.mod_eq_of_lt (by omega), if_neg (by omega)]
  have hx : PSD (d * d) (fun r c => x * delta r c + y * (omegaVec d r * omegaVec d c)) → 0 ≤ x := by
    intro h
    have h1 := h (fun m => if m = 1 then 1 else 0)
    rw [quadForm_single (d * d) 1 h1d] at h1
    simp only [delta, hΩ1, if_true] at h1
    linear_combination h1
  constructor
  · intro h
    exact ⟨hx h, (psd_omega_iff_of_nonneg d (by omega) x y (hx h)).mp h⟩
  · rintro ⟨h1, h2⟩
    exact (psd_omega_iff_of_nonneg d (by omega) x y h1).mpr h2

end swapform

section paulistrings
open scoped Toq.ChannelOps

theorem pauliList_cons (a : Nat) (rest : List Nat) :
    pauliList (a :: rest) = kron (2 ^ rest.length) (2 ^ rest.length) (pauli a) (pauliList rest) := by
  cases rest with
  | nil =>
    funext i j
    show pauli a i j = pauli a (i / 1) (j / 1) * 1
    rw [Nat.div_one, Nat.div_one]
    exact (mul_one _).symm
  | cons b r => rfl

theorem conjM_kron (rb cb : Nat) (A B : Nat → Nat → GI) : conjM (kron rb cb A B) = kron rb cb (conjM A) (conjM B) :=
  funext fun _ => funext fun _ => star_mul' _ _

theorem hsInner_kron (m n : Nat) (Ac A' Bc B' : Nat → Nat → GI) :
    hsInner (m * n) (kron n n Ac Bc) (kron n n A' B') = hsInner m Ac A' * hsInner n Bc B' := by
  unfold hsInner
  rw [← sumN_kron]
  refine sumN_congr _ _ _ fun i _ => ?_
  exact sumN_kron' m n _ _ _ fun _ => mul_mul_mul_comm _ _ _ _

end paulistrings

/-! The simp set `table_eval` (declared in `Toq/Proofs/StatesAttr.lean`): connectives, `if`s and arithmetic on numerals, for tables
    indexed by numerals (`horodecki`, `gisin`). -/
attribute [table_eval] false_or or_false false_and and_false true_and and_true or_true true_or or_self and_self
  if_true if_false Nat.cast_ofNat mul_zero zero_mul add_zero zero_add List.map_cons List.map_nil List.sum_cons List.sum_nil
attribute [table_eval_proc] Nat.reduceEqDiff Nat.reduceDiv Nat.reduceMod Nat.reduceMul Nat.reduceAdd Nat.reduceLT

end Toq.States
