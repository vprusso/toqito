import Toq.Proofs.MatrixOps
/-!
# Index arithmetic for the code branches of C16, Part 9

The flat positions read by the reshape trick of `is_diagonal` are exactly the off-diagonal ones (`offDiag_of_flat`,
`flat_of_offDiag`).
-/

namespace Toq.MatrixPreds
open Toq.MatrixOps

theorem offDiag_of_flat (n a b' : Nat) (ha : a < n - 1) (hb : b' < n) :
    (a * (n + 1) + (b' + 1)) / n < n ∧ (a * (n + 1) + (b' + 1)) % n < n ∧
      (a * (n + 1) + (b' + 1)) / n ≠ (a * (n + 1) + (b' + 1)) % n := by
  have hn : 0 < n := by omega
  -- the position is below `n²`; a diagonal position `q·n + q` is a multiple of `n + 1`, this one is not (`0 < b' + 1 < n + 1`)
  have hk : a * (n + 1) + (b' + 1) < n * n := by
    have h2 : (a + 2) * n ≤ n * n := Nat.mul_le_mul_right n (by omega)
    rw [Nat.add_mul] at h2
    rw [Nat.mul_succ]
    omega
  refine ⟨Nat.div_lt_of_lt_mul hk, Nat.mod_lt _ hn, fun heq => ?_⟩
  have hdm := Nat.div_add_mod (a * (n + 1) + (b' + 1)) n
  rw [← heq] at hdm
  have hdvd : (n + 1) ∣ a * (n + 1) + (b' + 1) := ⟨(a * (n + 1) + (b' + 1)) / n, by rw [Nat.succ_mul]; exact hdm.symm⟩
  have hb1 : (n + 1) ∣ (b' + 1) := (Nat.dvd_add_right (Nat.dvd_mul_left (n + 1) a)).mp hdvd
  exact absurd (Nat.le_of_dvd (Nat.succ_pos b') hb1) (by omega)

theorem flat_of_offDiag (n i j : Nat) (hi : i < n) (hj : j < n) (hij : i ≠ j) :
    ∃ a b', a < n - 1 ∧ b' < n ∧ (a * (n + 1) + (b' + 1)) / n = i ∧ (a * (n + 1) + (b' + 1)) % n = j := by
  obtain ⟨a, b', ha, hb, hk⟩ : ∃ a b', a < n - 1 ∧ b' < n ∧ a * (n + 1) + (b' + 1) = i * n + j := by
    rcases Nat.lt_or_gt_of_ne hij with h | h
    · exact ⟨i, j - i - 1, by omega, by omega, by rw [Nat.mul_succ]; omega⟩
    · obtain ⟨i', rfl⟩ : ∃ i', i = i' + 1 := ⟨i - 1, by omega⟩
      exact ⟨i', j + n - (i' + 1), by omega, by omega, by rw [Nat.mul_succ, Nat.succ_mul]; omega⟩
  refine ⟨a, b', ha, hb, ?_⟩
  rw [hk]
  exact Nat.mul_add_divMod_of_lt (q := i) hj

end Toq.MatrixPreds
