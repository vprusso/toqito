import Toq.Model.XorPath
import Toq.Proofs.XorExact
import Toq.Proofs.Games
/-!
# `XORGame.classical_value` through the converted game (C08, on top of the C07 model of `NonlocalGame`)

`XORGame.classical_value` is literally `self.to_nonlocal_game().classical_value()`: the predicate tensor
`nlgPred pred` (2 answers per player) is handed to `NonlocalGame(prob_mat, nlg_pred_mat, reps)`, whose
`classical_value` is mirrored line by line by `Toq.Games.classicalValueFixed` (scaled copy, role swap, transposes,
`process_iteration`, running maximum).  The composition of the two mirrors (`Toq.Model.XorPath`) returns the specification
`xorClassicalValue` (maximum of the winning probability over all pairs of bit-valued answer functions) for all sizes, and with
`reps` the classical value of the product game.
-/

namespace Toq.Xor
open Toq.Games Toq.Games.Spec

theorem detWin_eq_detValueN (m n : Nat) (prob : Nat → Nat → Rat) (pred : Nat → Nat → Nat) (α β : Nat → Nat) :
    detWin m n prob pred α β = detValueN m n prob (nlgPred pred) α β := rfl

theorem xorClassicalValue_isMaxDet (m n : Nat) (prob : Nat → Nat → Rat) (pred : Nat → Nat → Nat) :
    IsMaxDet 2 2 m n prob (nlgPred pred) (xorClassicalValue m n prob pred) := by
  obtain ⟨⟨α, β, hb, e⟩, hle⟩ := xorClassicalValue_spec m n prob pred
  exact ⟨⟨fun x => ⟨α x, hb.1 x x.2⟩, fun y => ⟨β y, hb.2 y y.2⟩,
      (detValueN_eq 2 2 m n prob (nlgPred pred) α β _ _ (fun _ => rfl) fun _ => rfl).symm.trans e⟩,
    fun f g => (detValueN_ext 2 2 m n prob (nlgPred pred) f g).symm.trans_le (hle (ext f) (ext g) ⟨ext_lt f, ext_lt g⟩)⟩

theorem xorClassicalPath_eq (m n : Nat) (prob : Nat → Nat → Rat) (pred : Nat → Nat → Nat) :
    xorClassicalPath m n prob pred = some (xorClassicalValue m n prob pred) := by
  rw [isMaxDet_eq 2 2 m n prob (nlgPred pred) _ (xorClassicalValue_isMaxDet m n prob pred)]
  exact eq_some_maxDetValue (classicalValueGen_isMaxDet true 2 2 m n prob (nlgPred pred) (by omega) (by omega) (Or.inl rfl))

instance (r : Nat) : NeZero (2 ^ r) := ⟨Nat.pos_iff_ne_zero.mp (Nat.pow_pos (by omega))⟩

theorem xorClassicalPathReps_eq (m n reps : Nat) (prob : Nat → Nat → Rat) (pred : Nat → Nat → Nat) :
    xorClassicalPathReps m n reps prob pred
      = some (maxDetValue (2 ^ reps) (2 ^ reps) (m ^ reps) (n ^ reps) (productProb m n reps prob)
          (productPred 2 2 m n reps (nlgPred pred))) :=
  eq_some_maxDetValue (classicalValueGen_isMaxDet true (2 ^ reps) (2 ^ reps) (m ^ reps) (n ^ reps)
    (productProb m n reps prob) (productPred 2 2 m n reps (nlgPred pred)) (Nat.pow_pos (by omega))
    (Nat.pow_pos (by omega)) (Or.inl rfl))

theorem xorClassicalCall_one (m n : Nat) (prob : Nat → Nat → Rat) (pred : Nat → Nat → Nat) :
    xorClassicalCall m n 1 prob pred = some (xorClassicalValue m n prob pred) := by
  unfold xorClassicalCall
  rw [if_pos rfl, xorClassicalPath_eq]

end Toq.Xor
