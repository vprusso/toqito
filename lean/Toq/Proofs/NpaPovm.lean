import Toq.Proofs.Npa
import Toq.Proofs.Cert
import Mathlib.Data.Matrix.Block
import Mathlib.Data.Matrix.ColumnRowPartitioned
import Mathlib.LinearAlgebra.Matrix.Kronecker
import Mathlib.LinearAlgebra.Matrix.NonsingularInverse
/-!
# Naimark dilation: general (POVM) quantum strategies are inside every NPA level (C07)

`Toq/Proofs/Npa.lean` proves that every strategy with commuting **projective** measurements (`QStrategy`) gives a
feasible point of the mirror of `npa_constraints`, at every level.  The see-saw heuristic
`quantum_value_lower_bound` optimises over POVMs, which need not be projective:

* `dilP` and its lemmas (`C07.naimark_dilation`) — for every POVM `E_0 … E_{k-1}` on `ℂ^ι` there are orthogonal projectors `P_0 … P_{k-1}` on
  `ℂ^ι ⊕ (ℂ^k ⊗ ℂ^ι)` summing to the identity whose compression to the first summand is the POVM:
  `Jᴴ P_a J = E_a` for the isometry `J = (1, 0)`.  With `E_a = C_aᴴ C_a`, `V = Σ_a |a⟩ ⊗ C_a` is an isometry and
  `U = [[0, −Vᴴ], [V, 1 − V Vᴴ]]` is an **explicit** unitary (Halmos) with `U J = (0, V)`; `P_a = Uᴴ Π_a U` for the
  block-diagonal projectors `Π_a = [a = 0]·1 ⊕ (|a⟩⟨a| ⊗ 1)`.  The `Π_a` are the diagonal 0/1 projectors of a labelling of the
  coordinates (`labP`); the laws of orthogonal Hermitian projectors (`IsProjFam`) pass from them to the `P_a` by `IsProjFam.conj`.
* `PovmStrategy` — a tensor-product strategy: POVMs `E x a` on `ℂ^dA`, `F y b` on `ℂ^dB`, a unit vector in
  `ℂ^dA ⊗ ℂ^dB`; behaviour `K(a,b|x,y) = ⟨ψ| E x a ⊗ F y b |ψ⟩`.
* `isHermCommMeas_kron`, `QStrategy.ofCommMeas` — projective measurements on two tensor factors commute as `P ⊗ 1`, `1 ⊗ Q`; commuting
  Hermitian projective measurements on any finite index type, with a unit vector, are a `QStrategy` after re-indexing to `Fin D`.
* `PovmStrategy.dilate`, `PovmStrategy.exists_dilation` — the dilated projectors with the state `(J_A ⊗ J_B) ψ`: a `QStrategy` with
  **the same behaviour**.
-/

namespace Toq.Npa
open Matrix
open scoped ComplexOrder Kronecker

section Naimark
variable {ι : Type} [Fintype ι] {k : Nat}

/-- `V = Σ_a |a⟩ ⊗ C_a : ℂ^ι → ℂ^k ⊗ ℂ^ι` -/
def nkV (C : Fin k → Matrix ι ι ℂ) : Matrix (Fin k × ι) ι ℂ := Matrix.of fun p j => C p.1 p.2 j

theorem nkV_isometry (C : Fin k → Matrix ι ι ℂ) : (nkV C)ᴴ * nkV C = ∑ a, (C a)ᴴ * C a := by
  ext i j
  simp only [nkV, Matrix.mul_apply, Matrix.conjTranspose_apply, Matrix.of_apply, Fintype.sum_prod_type,
    Matrix.sum_apply]

variable [DecidableEq ι]

/-- the dilation space `ℂ^ι ⊕ (ℂ^k ⊗ ℂ^ι)` (`nk…`: the pieces of the Naimark construction for `k` outcomes) -/
abbrev NkIdx (ι : Type) (k : Nat) := ι ⊕ (Fin k × ι)

/-- the 0/1 diagonal projector onto the coordinates with label `a` -/
def labP {α : Type} [DecidableEq α] (lab : α → Nat) (a : Nat) : Matrix α α ℂ :=
  Matrix.diagonal fun i => if lab i = a then 1 else 0

/-- `|a⟩⟨a| ⊗ 1` on `ℂ^k ⊗ ℂ^ι` -/
def nkD (a : Nat) : Matrix (Fin k × ι) (Fin k × ι) ℂ := labP (fun p => p.1.1) a

/-- the Halmos unitary `[[0, −Vᴴ], [V, 1 − V Vᴴ]]` of the isometry `V` -/
def nkU (V : Matrix (Fin k × ι) ι ℂ) : Matrix (NkIdx ι k) (NkIdx ι k) ℂ :=
  Matrix.fromBlocks 0 (-Vᴴ) V (1 - V * Vᴴ)

/-- the block-diagonal projector `[a = 0]·1 ⊕ (|a⟩⟨a| ⊗ 1)` -/
def nkPi (a : Nat) : Matrix (NkIdx ι k) (NkIdx ι k) ℂ :=
  Matrix.fromBlocks (labP (fun _ => 0) a) 0 0 (nkD a)

/-- the inclusion `J : ℂ^ι → ℂ^ι ⊕ (ℂ^k ⊗ ℂ^ι)` -/
def nkJ (ι : Type) [Fintype ι] [DecidableEq ι] (k : Nat) : Matrix (NkIdx ι k) ι ℂ :=
  Matrix.fromRows 1 0

/-- the dilated projector `P_a = Uᴴ Π_a U` -/
def nkP (V : Matrix (Fin k × ι) ι ℂ) (a : Nat) : Matrix (NkIdx ι k) (NkIdx ι k) ℂ :=
  (nkU V)ᴴ * nkPi a * nkU V

theorem nkV_compress (C : Fin k → Matrix ι ι ℂ) (a : Fin k) : (nkV C)ᴴ * nkD a.1 * nkV C = (C a)ᴴ * C a := by
  have h : nkD a.1 * nkV C = Matrix.of fun p j => if p.1.1 = a.1 then C p.1 p.2 j else 0 := by
    ext p j
    simp only [nkD, labP, nkV, Matrix.diagonal_mul, Matrix.of_apply, ite_mul, one_mul, zero_mul]
  rw [Matrix.mul_assoc, h]
  ext i j
  simp only [nkV, Matrix.mul_apply, Matrix.conjTranspose_apply, Matrix.of_apply, Fintype.sum_prod_type]
  rw [Fintype.sum_eq_single a]
  · simp only [if_true]
  · intro b hb
    simp only [if_neg (fun h => hb (Fin.ext h)), mul_zero, Finset.sum_const_zero]

variable {V : Matrix (Fin k × ι) ι ℂ}

theorem nkU_conjTranspose (V : Matrix (Fin k × ι) ι ℂ) :
    (nkU V)ᴴ = Matrix.fromBlocks 0 Vᴴ (-V) (1 - V * Vᴴ) := by
  unfold nkU
  rw [Matrix.fromBlocks_conjTranspose]
  simp [Matrix.conjTranspose_sub, Matrix.conjTranspose_mul]

/-- `U` is unitary because `Q = 1 − V Vᴴ` is the projector onto the complement of the range of `V`:
    `Vᴴ Q = 0`, `Q V = 0`, `Q Q = Q` -/
theorem nkU_unitary (hV : Vᴴ * V = 1) : (nkU V)ᴴ * nkU V = 1 := by
  have h1 : Vᴴ * (1 - V * Vᴴ) = 0 := by
    rw [Matrix.mul_sub, Matrix.mul_one, ← Matrix.mul_assoc, hV, Matrix.one_mul, sub_self]
  have h2 : (1 - V * Vᴴ) * V = 0 := by
    rw [Matrix.sub_mul, Matrix.one_mul, Matrix.mul_assoc, hV, Matrix.mul_one, sub_self]
  have h3 : (1 - V * Vᴴ) * (1 - V * Vᴴ) = 1 - V * Vᴴ := by
    rw [Matrix.mul_sub, Matrix.mul_one, ← Matrix.mul_assoc, h2, Matrix.zero_mul, sub_zero]
  rw [nkU_conjTranspose]
  unfold nkU
  rw [Matrix.fromBlocks_multiply, ← Matrix.fromBlocks_one]
  simp only [Matrix.zero_mul, Matrix.mul_zero, zero_add, add_zero, Matrix.neg_mul, Matrix.mul_neg, neg_neg, neg_zero,
    hV, h1, h2, h3, add_sub_cancel]

theorem nkU_mul_conjTranspose (hV : Vᴴ * V = 1) : nkU V * (nkU V)ᴴ = 1 :=
  mul_eq_one_comm.mp (nkU_unitary hV)

section LabP
variable {α : Type} [DecidableEq α] (lab : α → Nat)

theorem labP_proj [Fintype α] : IsProjFam (labP lab) where
  herm := fun a => by
    unfold labP
    rw [Matrix.diagonal_conjTranspose]
    congr 1
    funext i
    simp only [Pi.star_apply]
    split <;> simp
  mul := fun a b => by
    unfold labP
    rw [Matrix.diagonal_mul_diagonal]
    split
    · rename_i h
      subst h
      congr 1; funext i; split <;> simp
    · rename_i h
      rw [← Matrix.diagonal_zero]
      congr 1; funext i
      exact ite_mul_ite_of_ne h 1 1

theorem labP_sum (k : Nat) (h : ∀ i, lab i < k) : sumN k (labP lab) = 1 := by
  ext i j
  rw [sumN_eq_sum_fin, Matrix.sum_apply]
  simp only [labP, Matrix.diagonal_apply, Matrix.one_apply]
  by_cases hij : i = j
  · simp only [if_pos hij]
    rw [Fintype.sum_eq_single (⟨lab i, h i⟩ : Fin k) (fun b hb => if_neg (fun e => hb (Fin.ext e.symm)))]
    exact if_pos rfl
  · simp only [if_neg hij, Finset.sum_const_zero]

theorem labP_of_forall_ne (a : Nat) (h : ∀ i, lab i ≠ a) : labP lab a = 0 := by
  unfold labP
  rw [← Matrix.diagonal_zero]
  congr 1
  funext i
  exact if_neg (h i)

end LabP

omit [Fintype ι] in
theorem nkPi_eq_labP : nkPi (ι := ι) (k := k) = labP (Sum.elim (fun _ => 0) (fun p : Fin k × ι => p.1.1)) := by
  funext a
  unfold nkPi nkD labP
  rw [Matrix.fromBlocks_diagonal]
  congr 1
  funext i
  cases i <;> rfl

theorem IsProjFam.conj {κ : Type} [Fintype κ] [DecidableEq κ] {P : Nat → Matrix κ κ ℂ} (hP : IsProjFam P) {U : Matrix κ κ ℂ}
    (hU : U * Uᴴ = 1) : IsProjFam (fun a => Uᴴ * P a * U) where
  herm := fun a => by
    rw [Matrix.conjTranspose_mul, Matrix.conjTranspose_mul, Matrix.conjTranspose_conjTranspose, hP.herm, Matrix.mul_assoc]
  mul := fun a b => by
    rw [Matrix.conj_mul_conj_eq hU, hP.mul]
    split
    · rfl
    · rw [Matrix.mul_zero, Matrix.zero_mul]

theorem nkP_proj (hV : Vᴴ * V = 1) : IsProjFam (nkP V) := by
  unfold nkP
  rw [nkPi_eq_labP]
  exact (labP_proj _).conj (nkU_mul_conjTranspose hV)

theorem nkP_sum (hV : Vᴴ * V = 1) (hk : 0 < k) : sumN k (nkP V) = 1 := by
  unfold nkP
  rw [sumN_mul_right, sumN_mul_left, nkPi_eq_labP, labP_sum _ k (fun i => by cases i <;> simp [hk]), Matrix.mul_one,
    nkU_unitary hV]

theorem nkJ_isometry : (nkJ ι k)ᴴ * nkJ ι k = 1 := by
  unfold nkJ
  rw [Matrix.conjTranspose_fromRows_eq_fromCols_conjTranspose, Matrix.fromCols_mul_fromRows]
  simp

theorem nkU_mul_J (V : Matrix (Fin k × ι) ι ℂ) : nkU V * nkJ ι k = Matrix.fromRows 0 V := by
  unfold nkU nkJ
  rw [Matrix.fromBlocks_mul_fromRows]
  simp only [mul_one, Matrix.mul_zero, add_zero, Matrix.mul_one]

theorem nkP_compress (V : Matrix (Fin k × ι) ι ℂ) (a : Nat) :
    (nkJ ι k)ᴴ * nkP V a * nkJ ι k = Vᴴ * nkD a * V := by
  unfold nkP
  have : (nkJ ι k)ᴴ * ((nkU V)ᴴ * nkPi a * nkU V) * nkJ ι k
      = (nkU V * nkJ ι k)ᴴ * (nkPi a * (nkU V * nkJ ι k)) := by
    rw [Matrix.conjTranspose_mul]
    simp only [Matrix.mul_assoc]
  rw [this, nkU_mul_J]
  unfold nkPi
  rw [Matrix.fromBlocks_mul_fromRows, Matrix.conjTranspose_fromRows_eq_fromCols_conjTranspose,
    Matrix.fromCols_mul_fromRows]
  simp only [Matrix.mul_zero, Matrix.zero_mul, add_zero, zero_add, Matrix.mul_assoc]

end Naimark

section Dil
open scoped MatrixOrder
variable {ι : Type} [Fintype ι] [DecidableEq ι]

/-- `E 0, …, E (k-1)` is a POVM: positive semidefinite, summing to the identity -/
def IsPovmN (k : Nat) (E : Nat → Matrix ι ι ℂ) : Prop := (∀ a, a < k → (E a).PosSemidef) ∧ sumN k E = 1

omit [Fintype ι] in
theorem constMeas_povm (c k : Nat) (hc : c < k) : IsPovmN k (constMeas (n := ι) c) :=
  ⟨fun a _ => by
    unfold constMeas
    split
    · exact Matrix.PosSemidef.one
    · exact Matrix.PosSemidef.zero, constMeas_sum c k hc⟩

/-- a factor `C_a` with `E_a = C_aᴴ C_a` (e.g. the square root) -/
noncomputable def povmC (k : Nat) (E : Nat → Matrix ι ι ℂ) (h : IsPovmN k E) : Fin k → Matrix ι ι ℂ :=
  fun a => Classical.choose (Matrix.PosSemidef.exists_eq_conjTranspose_mul_self (h.1 a.1 a.2))

theorem povmC_spec (k : Nat) (E : Nat → Matrix ι ι ℂ) (h : IsPovmN k E) (a : Fin k) :
    E a.1 = (povmC k E h a)ᴴ * povmC k E h a :=
  Classical.choose_spec (Matrix.PosSemidef.exists_eq_conjTranspose_mul_self (h.1 a.1 a.2))

theorem povmV_isometry (k : Nat) (E : Nat → Matrix ι ι ℂ) (h : IsPovmN k E) :
    (nkV (povmC k E h))ᴴ * nkV (povmC k E h) = 1 := by
  rw [nkV_isometry, ← h.2, sumN_eq_sum_fin]
  exact Finset.sum_congr rfl fun a _ => (povmC_spec k E h a).symm

open Classical in
/-- **the Naimark projectors** of the family `E` (zero when `E` is not a POVM) -/
noncomputable def dilP (k : Nat) (E : Nat → Matrix ι ι ℂ) : Nat → Matrix (NkIdx ι k) (NkIdx ι k) ℂ :=
  if h : IsPovmN k E then nkP (nkV (povmC k E h)) else fun _ => 0

theorem dilP_pos (k : Nat) (E : Nat → Matrix ι ι ℂ) (h : IsPovmN k E) : dilP k E = nkP (nkV (povmC k E h)) := dif_pos h

theorem dilP_proj (k : Nat) (E : Nat → Matrix ι ι ℂ) : IsProjFam (dilP k E) := by
  unfold dilP
  split
  · exact nkP_proj (povmV_isometry k E _)
  · exact isProjFam_zero

theorem dilP_sum (k : Nat) (hk : 0 < k) (E : Nat → Matrix ι ι ℂ) (h : IsPovmN k E) : sumN k (dilP k E) = 1 := by
  rw [dilP_pos k E h, nkP_sum (povmV_isometry k E h) hk]

theorem dilP_compress (k : Nat) (E : Nat → Matrix ι ι ℂ) (h : IsPovmN k E) (a : Nat) :
    (nkJ ι k)ᴴ * dilP k E a * nkJ ι k = if a < k then E a else 0 := by
  rw [dilP_pos k E h, nkP_compress]
  split
  · rename_i ha
    exact (nkV_compress _ ⟨a, ha⟩).trans (povmC_spec k E h ⟨a, ha⟩).symm
  · rename_i ha
    -- no coordinate of `ℂ^k ⊗ ℂ^ι` has a label `a ≥ k`
    have h0 : nkD (ι := ι) (k := k) a = 0 :=
      labP_of_forall_ne _ a fun p => Nat.ne_of_lt (Nat.lt_of_lt_of_le p.1.2 (Nat.le_of_not_lt ha))
    rw [h0, Matrix.mul_zero, Matrix.zero_mul]

/-- the Naimark projectors of a family of POVMs `E x`, one for every question `x < n` (zero for other questions) -/
noncomputable def dilQ (k n : Nat) (E : Nat → Nat → Matrix ι ι ℂ) (x : Nat) : Nat → Matrix (NkIdx ι k) (NkIdx ι k) ℂ :=
  if x < n then dilP k (E x) else fun _ => 0

theorem dilQ_proj (k n : Nat) (E : Nat → Nat → Matrix ι ι ℂ) (x : Nat) : IsProjFam (dilQ k n E x) := by
  unfold dilQ
  split
  · exact dilP_proj _ _
  · exact isProjFam_zero

theorem dilQ_sum (k n : Nat) (hk : 0 < k) (E : Nat → Nat → Matrix ι ι ℂ) (hE : ∀ x, x < n → IsPovmN k (E x))
    (x : Nat) (hx : x < n) : sumN k (dilQ k n E x) = 1 := by
  unfold dilQ
  rw [if_pos hx]
  exact dilP_sum k hk (E x) (hE x hx)

theorem dilQ_compress (k n : Nat) (E : Nat → Nat → Matrix ι ι ℂ) (hE : ∀ x, x < n → IsPovmN k (E x)) (x a : Nat) :
    (nkJ ι k)ᴴ * dilQ k n E x a * nkJ ι k = if x < n ∧ a < k then E x a else 0 := by
  unfold dilQ
  by_cases hx : x < n
  · simp only [hx, if_true, true_and]
    exact dilP_compress k (E x) (hE x hx) a
  · rw [if_neg hx, Matrix.mul_zero, Matrix.zero_mul, if_neg (fun h => hx h.1)]

end Dil

section Tensor
variable {κA κB : Type} [Fintype κA] [DecidableEq κA] [Fintype κB] [DecidableEq κB] {ao bo ai bi : Nat}

theorem submatrix_sumN {κ m : Type} (e : m → κ) (F : Nat → Matrix κ κ ℂ) (n : Nat) :
    (sumN n F).submatrix e e = sumN n (fun k => (F k).submatrix e e) :=
  sumN_map (fun X : Matrix κ κ ℂ => X.submatrix e e) rfl (fun _ _ => rfl) F n

theorem sumN_kronecker_one {κ κ' : Type} [DecidableEq κ'] (F : Nat → Matrix κ κ ℂ) (n : Nat) :
    sumN n (fun a => F a ⊗ₖ (1 : Matrix κ' κ' ℂ)) = sumN n F ⊗ₖ (1 : Matrix κ' κ' ℂ) :=
  (sumN_map (· ⊗ₖ (1 : Matrix κ' κ' ℂ)) (Matrix.zero_kronecker _) (fun X Y => Matrix.add_kronecker X Y 1) F n).symm

theorem sumN_one_kronecker {κ κ' : Type} [DecidableEq κ'] (F : Nat → Matrix κ κ ℂ) (n : Nat) :
    sumN n (fun a => (1 : Matrix κ' κ' ℂ) ⊗ₖ F a) = (1 : Matrix κ' κ' ℂ) ⊗ₖ sumN n F :=
  (sumN_map ((1 : Matrix κ' κ' ℂ) ⊗ₖ ·) (Matrix.kronecker_zero _) (fun X Y => Matrix.kronecker_add 1 X Y) F n).symm

/-- commuting projective measurements on any finite index type, with a unit vector, as a strategy on `ℂ^(card n)`
    (re-indexed along `n ≃ Fin (card n)`) -/
noncomputable def QStrategy.ofCommMeas {n : Type} [Fintype n] [DecidableEq n] {A B : Nat → Nat → Matrix n n ℂ}
    (h : IsHermCommMeas A B ao bo ai bi) (psi : n → ℂ) (hpsi : star psi ⬝ᵥ psi = 1) :
    QStrategy (Fintype.card n) ao bo ai bi :=
  let e := (Fintype.equivFin n).symm
  { A := fun x a => (A x a).submatrix e e
    B := fun y b => (B y b).submatrix e e
    psi := psi ∘ e
    A_herm := fun x a => by rw [conjTranspose_submatrix, h.A_herm]
    A_idem := fun x a => by rw [submatrix_mul_equiv, h.A_idem]
    A_orth := fun x a a' ha => by
      rw [submatrix_mul_equiv, h.A_orth x a a' ha, submatrix_zero]
      rfl
    A_sum := fun x hx => by rw [← submatrix_sumN, h.A_sum x hx, submatrix_one_equiv]
    B_herm := fun y b => by rw [conjTranspose_submatrix, h.B_herm]
    B_idem := fun y b => by rw [submatrix_mul_equiv, h.B_idem]
    B_orth := fun y b b' hb => by
      rw [submatrix_mul_equiv, h.B_orth y b b' hb, submatrix_zero]
      rfl
    B_sum := fun y hy => by rw [← submatrix_sumN, h.B_sum y hy, submatrix_one_equiv]
    comm := fun x a y b => by rw [submatrix_mul_equiv, submatrix_mul_equiv, h.comm]
    psi_norm := by
      rw [← hpsi]
      exact Equiv.sum_comp e (fun j => star (psi j) * psi j) }

theorem QStrategy.ofCommMeas_K {n : Type} [Fintype n] [DecidableEq n] {A B : Nat → Nat → Matrix n n ℂ}
    (h : IsHermCommMeas A B ao bo ai bi) (psi : n → ℂ) (hpsi : star psi ⬝ᵥ psi = 1) (a b x y : Nat) :
    (QStrategy.ofCommMeas h psi hpsi).K a b x y = star psi ⬝ᵥ ((A x a * B y b) *ᵥ psi) := by
  let e := (Fintype.equivFin n).symm
  show star (psi ∘ e) ⬝ᵥ (((A x a).submatrix e e * (B y b).submatrix e e) *ᵥ (psi ∘ e)) = _
  rw [submatrix_mul_equiv, submatrix_mulVec_equiv]
  have : (psi ∘ ⇑e) ∘ ⇑e.symm = psi := by
    funext j
    simp
  rw [this]
  exact Equiv.sum_comp e (fun j => star (psi j) * ((A x a * B y b) *ᵥ psi) j)

theorem isHermCommMeas_kron {P : Nat → Nat → Matrix κA κA ℂ} {Q : Nat → Nat → Matrix κB κB ℂ}
    (hP : ∀ x, IsProjFam (P x)) (P_sum : ∀ x, x < ai → sumN ao (P x) = 1)
    (hQ : ∀ y, IsProjFam (Q y)) (Q_sum : ∀ y, y < bi → sumN bo (Q y) = 1) :
    IsHermCommMeas (fun x a => P x a ⊗ₖ (1 : Matrix κB κB ℂ)) (fun y b => (1 : Matrix κA κA ℂ) ⊗ₖ Q y b) ao bo ai bi where
  A_idem := fun x a => by rw [← mul_kronecker_mul, (hP x).idem, Matrix.one_mul]
  A_orth := fun x a a' h => by rw [← mul_kronecker_mul, (hP x).orth h, zero_kronecker]
  A_sum := fun x hx => by rw [sumN_kronecker_one, P_sum x hx, one_kronecker_one]
  B_idem := fun y b => by rw [← mul_kronecker_mul, (hQ y).idem, Matrix.one_mul]
  B_orth := fun y b b' h => by rw [← mul_kronecker_mul, (hQ y).orth h, kronecker_zero]
  B_sum := fun y hy => by rw [sumN_one_kronecker, Q_sum y hy, one_kronecker_one]
  comm := fun x a y b => by
    rw [← mul_kronecker_mul, ← mul_kronecker_mul, Matrix.one_mul, Matrix.mul_one, Matrix.one_mul, Matrix.mul_one]
  A_herm := fun x a => by rw [conjTranspose_kronecker, (hP x).herm, conjTranspose_one]
  B_herm := fun y b => by rw [conjTranspose_kronecker, (hQ y).herm, conjTranspose_one]

end Tensor

section Povm

/-- A **general finite-dimensional quantum strategy** in tensor-product form: POVMs `E x a` (Alice, question `x`,
    answer `a`) on `ℂ^dA`, POVMs `F y b` (Bob) on `ℂ^dB` — positive semidefinite, summing to the identity for every
    question of the game — and a unit vector `psi` of `ℂ^dA ⊗ ℂ^dB`.  (Operators with indices outside the alphabets
    are irrelevant; mixed states: `Toq/Proofs/NpaMixed.lean`.) -/
structure PovmStrategy (dA dB ao bo ai bi : Nat) where
  E : Nat → Nat → Matrix (Fin dA) (Fin dA) ℂ
  F : Nat → Nat → Matrix (Fin dB) (Fin dB) ℂ
  psi : Fin dA × Fin dB → ℂ
  E_povm : ∀ x, x < ai → IsPovmN ao (E x)
  F_povm : ∀ y, y < bi → IsPovmN bo (F y)
  psi_norm : star psi ⬝ᵥ psi = 1

variable {dA dB ao bo ai bi : Nat} (T : PovmStrategy dA dB ao bo ai bi)

/-- the behaviour `p(a, b | x, y) = ⟨psi| E x a ⊗ F y b |psi⟩` (zero outside the alphabets) -/
def PovmStrategy.K : Nat → Nat → Nat → Nat → ℂ := fun a b x y =>
  if a < ao ∧ b < bo ∧ x < ai ∧ y < bi then star T.psi ⬝ᵥ ((T.E x a ⊗ₖ T.F y b) *ᵥ T.psi) else 0

theorem expect_conj {κ ι : Type} [Fintype κ] [Fintype ι] (J : Matrix κ ι ℂ) (M : Matrix κ κ ℂ) (v : ι → ℂ) :
    star (J *ᵥ v) ⬝ᵥ (M *ᵥ (J *ᵥ v)) = star v ⬝ᵥ ((Jᴴ * M * J) *ᵥ v) := by
  rw [Matrix.mul_assoc, star_dotProduct_conjTranspose_mul_mulVec, Matrix.mulVec_mulVec]

/-- **the projective dilation of a POVM strategy**: Alice measures `P x a ⊗ 1`, Bob `1 ⊗ Q y b` on
    `(ℂ^dA ⊕ ℂ^ao ⊗ ℂ^dA) ⊗ (ℂ^dB ⊕ ℂ^bo ⊗ ℂ^dB)`, the state is `(J_A ⊗ J_B) psi` -/
noncomputable def PovmStrategy.dilate (hao : 0 < ao) (hbo : 0 < bo) :
    QStrategy (Fintype.card (NkIdx (Fin dA) ao × NkIdx (Fin dB) bo)) ao bo ai bi :=
  QStrategy.ofCommMeas
    (isHermCommMeas_kron (dilQ_proj ao ai T.E) (dilQ_sum ao ai hao T.E T.E_povm) (dilQ_proj bo bi T.F)
      (dilQ_sum bo bi hbo T.F T.F_povm))
    ((nkJ (Fin dA) ao ⊗ₖ nkJ (Fin dB) bo) *ᵥ T.psi) (by
      have h := expect_conj (nkJ (Fin dA) ao ⊗ₖ nkJ (Fin dB) bo) 1 T.psi
      rw [Matrix.one_mulVec] at h
      rw [h, Matrix.mul_one, Matrix.conjTranspose_kronecker, ← Matrix.mul_kronecker_mul, nkJ_isometry, nkJ_isometry,
        Matrix.one_kronecker_one, Matrix.one_mulVec]
      exact T.psi_norm)

theorem PovmStrategy.dilate_K (hao : 0 < ao) (hbo : 0 < bo) : (T.dilate hao hbo).K = T.K := by
  funext a b x y
  rw [PovmStrategy.dilate, QStrategy.ofCommMeas_K, ← Matrix.mul_kronecker_mul, Matrix.mul_one, Matrix.one_mul, expect_conj,
    Matrix.conjTranspose_kronecker,
    ← Matrix.mul_kronecker_mul, ← Matrix.mul_kronecker_mul, dilQ_compress ao ai T.E T.E_povm,
    dilQ_compress bo bi T.F T.F_povm]
  unfold PovmStrategy.K
  by_cases hA : x < ai ∧ a < ao
  · by_cases hB : y < bi ∧ b < bo
    · rw [if_pos hA, if_pos hB, if_pos ⟨hA.2, hB.2, hA.1, hB.1⟩]
    · rw [if_neg hB, Matrix.kronecker_zero, Matrix.zero_mulVec, dotProduct_zero,
        if_neg (fun h => hB ⟨h.2.2.2, h.2.1⟩)]
  · rw [if_neg hA, Matrix.zero_kronecker, Matrix.zero_mulVec, dotProduct_zero,
      if_neg (fun h => hA ⟨h.2.2.1, h.1⟩)]

theorem PovmStrategy.exists_dilation (hao : 0 < ao) (hbo : 0 < bo) :
    ∃ (D : Nat) (S : QStrategy D ao bo ai bi), S.K = T.K :=
  ⟨_, T.dilate hao hbo, T.dilate_K hao hbo⟩

end Povm

end Toq.Npa
