import Toq.Proofs.Discrim
/-!
# Eldar's reduction for unambiguous discrimination of pure states, both directions, without any independence assumption

`V : Matrix ι κ ℂ` holds the state vectors `ψ_j` as columns, `G = VᴴV` is their Gram matrix.  For a family `M : κ → Matrix ι ι ℂ`
the `κ × κ` matrix `Vᴴ M_i V` has entries `⟨ψ_a| M_i |ψ_b⟩`; unambiguity is `⟨ψ_j| M_i |ψ_j⟩ = 0` for `j ≠ i`.

* `ua_gram_of_povm`: PSD `M_i` with `1 − Σ_i M_i ⪰ 0` that never err give a feasible point `q_i = ⟨ψ_i|M_i|ψ_i⟩` of the
  Gram-form program (`q ≥ 0`, `G − diag q ⪰ 0`);
* `uaPovm_psd`, `uaPovm_rest_psd`, `uaPovm_trace`: every feasible `q` of the Gram-form program is realised: with
  `W = V G⁺` (`G⁺` the pseudo-inverse, from the functional calculus; the columns of `W` are the reciprocal states when the
  `ψ_j` are independent) the operators `M_i = q_i W e_i e_iᴴ Wᴴ` are PSD, `1 − Σ_i M_i ⪰ 0`, and `⟨ψ_j|M_i|ψ_j⟩ = q_i δ_ij`.
-/

open Matrix
open scoped ComplexOrder MatrixOrder

namespace Toq.Discrim

section Eldar
variable {ι κ : Type*} [Fintype ι]

/-- `|ψ_j⟩⟨ψ_j|` for the `j`-th column of `V` -/
def uaPure (V : Matrix ι κ ℂ) (j : κ) : Matrix ι ι ℂ := vecMulVec (fun a => V a j) (star fun a => V a j)

theorem uaPure_psd (V : Matrix ι κ ℂ) (j : κ) : (uaPure V j).PosSemidef :=
  Matrix.posSemidef_vecMulVec_self_star _

theorem ua_sandwich_apply (V : Matrix ι κ ℂ) (M : Matrix ι ι ℂ) (a b : κ) :
    (Vᴴ * M * V) a b = star (fun c => V c a) ⬝ᵥ (M *ᵥ fun c => V c b) := by
  simp only [Matrix.mul_apply, dotProduct, mulVec, conjTranspose_apply, Pi.star_apply, Finset.sum_mul,
    Finset.mul_sum]
  rw [Finset.sum_comm]
  refine Finset.sum_congr rfl fun x _ => Finset.sum_congr rfl fun y _ => ?_
  ring

theorem ua_trace_pure_mul (V : Matrix ι κ ℂ) (M : Matrix ι ι ℂ) (j : κ) :
    (uaPure V j * M).trace = (Vᴴ * M * V) j j := by
  rw [uaPure, Matrix.trace_mul_comm, Matrix.trace_mul_vecMulVec_star, ua_sandwich_apply]

theorem gram_isHermitian (V : Matrix ι κ ℂ) : (Vᴴ * V).IsHermitian := Matrix.isHermitian_conjTranspose_mul_self V

variable [DecidableEq κ]

def uaDiagAt (x : ℝ) (i : κ) : Matrix κ κ ℂ := Matrix.diagonal fun a => if a = i then (x : ℂ) else 0

theorem uaDiagAt_psd {x : ℝ} (hx : 0 ≤ x) (i : κ) : (uaDiagAt x i).PosSemidef :=
  Matrix.PosSemidef.diagonal fun a => by
    show (0 : ℂ) ≤ if a = i then (x : ℂ) else 0
    split
    · exact_mod_cast hx
    · exact le_refl _

theorem ua_psd_eq_diagAt {N : Matrix κ κ ℂ} (hN : N.PosSemidef) (i : κ) (hz : ∀ j, j ≠ i → N j j = 0) :
    N = uaDiagAt (N i i).re i := by
  ext a b
  rw [uaDiagAt, Matrix.diagonal_apply]
  split_ifs with hab hai
  · rw [← hab, hai, ← hN.diag_eq_re i]
  · rw [← hab, hz a hai]
  · by_cases ha : a = i
    · exact (hN.apply_eq_zero_of_diag_eq_zero (hz b fun hb => hab (ha.trans hb.symm)) a).1
    · exact (hN.apply_eq_zero_of_diag_eq_zero (hz a ha) b).2

variable [Fintype κ]

theorem uaDiagAt_sum (q : κ → ℝ) : ∑ i, uaDiagAt (q i) i = Matrix.diagonal fun i => (q i : ℂ) := by
  ext a b
  rw [Matrix.sum_apply, Matrix.diagonal_apply]
  simp only [uaDiagAt, Matrix.diagonal_apply]
  split_ifs with hab
  · rw [Finset.sum_ite_eq Finset.univ a, if_pos (Finset.mem_univ a)]
  · exact Finset.sum_const_zero

/-- `VᴴV − diag q = Vᴴ (1 − Σ_i M_i) V` for `q_i = ⟨ψ_i|M_i|ψ_i⟩`, since `Vᴴ M_i V = q_i e_i e_iᴴ` (`ua_psd_eq_diagAt`) -/
theorem ua_gram_of_povm [DecidableEq ι] (V : Matrix ι κ ℂ) (M : κ → Matrix ι ι ℂ) (hM : ∀ i, (M i).PosSemidef)
    (hrest : (1 - ∑ i, M i).PosSemidef) (hz : ∀ i j, j ≠ i → (uaPure V j * M i).trace = 0) :
    UaFeasible (Vᴴ * V) fun i => (uaPure V i * M i).trace.re := by
  simp only [UaFeasible, ua_trace_pure_mul] at hz ⊢
  have hN : ∀ i, (Vᴴ * M i * V).PosSemidef := fun i => (hM i).conjTranspose_mul_mul_same V
  refine ⟨fun i => (hN i).re_diag_nonneg i, ?_⟩
  have e : Vᴴ * V - Matrix.diagonal (fun i => ((((Vᴴ * M i * V) i i).re : ℝ) : ℂ))
      = Vᴴ * (1 - ∑ i, M i) * V := by
    rw [← uaDiagAt_sum, Matrix.mul_sub, Matrix.sub_mul, Matrix.mul_one, Matrix.mul_sum, Matrix.sum_mul]
    exact congrArg _ (Finset.sum_congr rfl fun i _ => (ua_psd_eq_diagAt (hN i) i (hz i)).symm)
  rw [e]
  exact hrest.conjTranspose_mul_mul_same V

noncomputable def uaRecip (V : Matrix ι κ ℂ) : Matrix ι κ ℂ := V * (gram_isHermitian V).pinv

theorem uaRecip_left (V : Matrix ι κ ℂ) : Vᴴ * uaRecip V = (gram_isHermitian V).suppProj := by
  rw [uaRecip, ← Matrix.mul_assoc, (gram_isHermitian V).mul_pinv]

theorem uaRecip_conjTranspose (V : Matrix ι κ ℂ) : (uaRecip V)ᴴ = (gram_isHermitian V).pinv * Vᴴ := by
  rw [uaRecip, conjTranspose_mul, (gram_isHermitian V).pinv_isHermitian.eq]

theorem uaRecip_right (V : Matrix ι κ ℂ) : (uaRecip V)ᴴ * V = (gram_isHermitian V).suppProj := by
  rw [uaRecip_conjTranspose, Matrix.mul_assoc, (gram_isHermitian V).pinv_mul]

theorem uaSpan_absorb (V : Matrix ι κ ℂ) :
    V * ((gram_isHermitian V).pinv * (Vᴴ * V * (gram_isHermitian V).pinv)) * Vᴴ = V * (gram_isHermitian V).pinv * Vᴴ := by
  rw [(gram_isHermitian V).mul_pinv, (gram_isHermitian V).pinv_mul_suppProj]

theorem uaRecip_proj (V : Matrix ι κ ℂ) :
    uaRecip V * (Vᴴ * V) * (uaRecip V)ᴴ = V * (gram_isHermitian V).pinv * Vᴴ := by
  rw [← uaSpan_absorb, uaRecip_conjTranspose, uaRecip]
  simp only [Matrix.mul_assoc]

/-- `V G⁺ Vᴴ`, the projector on the span of the states, is a Hermitian idempotent (`G⁺ G G⁺ = G⁺`) -/
theorem uaSpan_compl_psd [DecidableEq ι] (V : Matrix ι κ ℂ) : (1 - V * (gram_isHermitian V).pinv * Vᴴ).PosSemidef := by
  refine Toq.Metrics.posSemidef_one_sub_of_idem ?_ ?_
  · rw [Matrix.IsHermitian, conjTranspose_mul, conjTranspose_mul, conjTranspose_conjTranspose,
      (gram_isHermitian V).pinv_isHermitian.eq, Matrix.mul_assoc]
  · calc V * (gram_isHermitian V).pinv * Vᴴ * (V * (gram_isHermitian V).pinv * Vᴴ)
        = V * ((gram_isHermitian V).pinv * (Vᴴ * V * (gram_isHermitian V).pinv)) * Vᴴ := by simp only [Matrix.mul_assoc]
      _ = V * (gram_isHermitian V).pinv * Vᴴ := uaSpan_absorb V

/-- a state with `q_a ≠ 0` lies in the support of `G`: the columns of `1 − S` (`S` the support projector) are kernel vectors
of `G`, so `q_a (1 − S)_{ab} = 0` by `ua_zero_of_kernel` -/
theorem ua_supp_of_feasible (G : Matrix κ κ ℂ) (q : κ → ℝ) (hG : G.IsHermitian) (hq : UaFeasible G q) (a b : κ) :
    (q a : ℂ) * hG.suppProj a b = if a = b then (q a : ℂ) else 0 := by
  have hGR : G * (1 - hG.suppProj) = 0 := by
    rw [Matrix.mul_sub, Matrix.mul_one, hG.mul_suppProj, sub_self]
  have hc : G *ᵥ (fun c => (1 - hG.suppProj) c b) = 0 := funext fun c => congrFun (congrFun hGR c) b
  have h0 : (q a : ℂ) * (1 - hG.suppProj) a b = 0 := by
    by_cases h : (1 - hG.suppProj) a b = 0
    · rw [h, mul_zero]
    · rw [ua_zero_of_kernel G q _ hq hc a h, Complex.ofReal_zero, zero_mul]
  rw [Matrix.sub_apply, mul_sub, sub_eq_zero, Matrix.one_apply] at h0
  rw [← h0, mul_ite, mul_one, mul_zero]

noncomputable def uaPovm (V : Matrix ι κ ℂ) (q : κ → ℝ) (i : κ) : Matrix ι ι ℂ :=
  uaRecip V * uaDiagAt (q i) i * (uaRecip V)ᴴ

theorem uaPovm_psd (V : Matrix ι κ ℂ) (q : κ → ℝ) (hq : ∀ i, 0 ≤ q i) (i : κ) : (uaPovm V q i).PosSemidef :=
  (uaDiagAt_psd (hq i) i).mul_mul_conjTranspose_same _

theorem uaPovm_rest_psd [DecidableEq ι] (V : Matrix ι κ ℂ) (q : κ → ℝ)
    (hGq : (Vᴴ * V - Matrix.diagonal fun i => (q i : ℂ)).PosSemidef) :
    (1 - ∑ i, uaPovm V q i).PosSemidef := by
  have hs : ∑ i, uaPovm V q i = uaRecip V * (Matrix.diagonal fun i => (q i : ℂ)) * (uaRecip V)ᴴ := by
    unfold uaPovm
    rw [← Matrix.sum_mul, ← Matrix.mul_sum, uaDiagAt_sum]
  have e : 1 - ∑ i, uaPovm V q i = (1 - V * (gram_isHermitian V).pinv * Vᴴ)
      + uaRecip V * (Vᴴ * V - Matrix.diagonal fun i => (q i : ℂ)) * (uaRecip V)ᴴ := by
    rw [hs, Matrix.mul_sub, Matrix.sub_mul, uaRecip_proj]
    abel
  rw [e]
  exact (uaSpan_compl_psd V).add (hGq.mul_mul_conjTranspose_same _)

theorem uaDiagAt_mul_suppProj (G : Matrix κ κ ℂ) (q : κ → ℝ) (hG : G.IsHermitian) (hq : UaFeasible G q) (i : κ) :
    uaDiagAt (q i) i * hG.suppProj = uaDiagAt (q i) i := by
  ext a b
  rw [uaDiagAt, Matrix.diagonal_mul, Matrix.diagonal_apply]
  by_cases hai : a = i
  · rw [if_pos hai, ← hai, ua_supp_of_feasible G q hG hq a b]
  · rw [if_neg hai, zero_mul, ite_self]

theorem uaPovm_sandwich (V : Matrix ι κ ℂ) (q : κ → ℝ) (hq : UaFeasible (Vᴴ * V) q) (i : κ) :
    Vᴴ * uaPovm V q i * V = uaDiagAt (q i) i := by
  have h1 := uaDiagAt_mul_suppProj _ q (gram_isHermitian V) hq i
  have hD := (uaDiagAt_psd (hq.1 i) i).isHermitian
  have h2 : (gram_isHermitian V).suppProj * uaDiagAt (q i) i = uaDiagAt (q i) i :=
    (hD.mul_eq_conjTranspose (gram_isHermitian V).suppProj_isHermitian h1).trans hD.eq
  calc Vᴴ * (uaRecip V * uaDiagAt (q i) i * (uaRecip V)ᴴ) * V
      = (Vᴴ * uaRecip V) * uaDiagAt (q i) i * ((uaRecip V)ᴴ * V) := by simp only [Matrix.mul_assoc]
    _ = uaDiagAt (q i) i := by rw [uaRecip_left, uaRecip_right, h2, h1]

theorem uaPovm_trace (V : Matrix ι κ ℂ) (q : κ → ℝ) (hq : UaFeasible (Vᴴ * V) q) (i j : κ) :
    (uaPure V j * uaPovm V q i).trace = if j = i then (q i : ℂ) else 0 := by
  rw [ua_trace_pure_mul, uaPovm_sandwich V q hq, uaDiagAt, Matrix.diagonal_apply_eq]

end Eldar

end Toq.Discrim
