import Toq.Proofs.PartialTranspose
import Toq.Proofs.PartialTrace
import Toq.Proofs.PartialOpsArgs
import Mathlib.Algebra.Star.Basic
import Mathlib.LinearAlgebra.Matrix.Rank
/-!
# More laws of the partial-transpose / realignment specifications (C03)

Diagonal entries and Hermiticity under the partial transpose of a square operator, the index identity
behind "partial transpose commutes with the partial trace over other subsystems", and the Mathlib-level
statement that a matrix of products `u i * v j` has rank at most one (used for the realignment of a
product operator; `toMatR R C Y` reads the `R × C` corner of a function matrix as a Mathlib matrix, the rectangular form of `PTrace.toMat`).
-/
open Toq.Perms Toq.C01 Toq.Spec Toq.PTrace
namespace Toq.PartialOps

theorem pTSpec_diag {α : Type} (X : Nat → Nat → α) (n : Nat) (d : Nat → Nat) (S : List Nat) (i : Nat)
    (hi : i < prodN d n) : pTSpec X n d d S i i = X i i := by
  rw [pTSpec_eq, pTRowDims_self, pTColDims_self, mix_self, enc_dec d n i hi]

theorem pTSpec_swap {α : Type} (X : Nat → Nat → α) (n : Nat) (d : Nat → Nat) (S : List Nat) (i j : Nat) :
    pTSpec X n d d S j i = pTSpec (fun a b => X b a) n d d S i j := by
  unfold pTSpec
  rw [pTRowDims_self, pTColDims_self]

theorem pTSpec_star {α : Type} [Star α] (X : Nat → Nat → α) (n : Nat) (d : Nat → Nat) (S : List Nat) (hd : ∀ k, k < n → 0 < d k)
    (hX : ∀ I J, I < prodN d n → J < prodN d n → X J I = star (X I J)) (i j : Nat) :
    pTSpec X n d d S j i = star (pTSpec X n d d S i j) :=
  (pTSpec_swap X n d S i j).trans (hX _ _ (pTSpec_source_lt n d d S hd hd i j).1 (pTSpec_source_lt n d d S hd hd i j).2)

def toMatR {K : Type} (R C : Nat) (A : Nat → Nat → K) : Matrix (Fin R) (Fin C) K := fun i j => A i j

theorem rank_outer_le_one {K : Type} [Field K] (R C : Nat) (u v : Nat → K) (Y : Nat → Nat → K)
    (hY : ∀ i j, i < R → j < C → Y i j = u i * v j) : (toMatR R C Y).rank ≤ 1 := by
  have : toMatR R C Y = Matrix.vecMulVec (fun i : Fin R => u i) (fun j : Fin C => v j) := by
    ext i j
    rw [Matrix.vecMulVec_apply]
    exact hY i j i.2 j.2
  rw [this]
  exact Matrix.rank_vecMulVec_le _ _

theorem join_pT_mix (n : Nat) (d : Nat → Nat) (T S' : List Nat) (hd : ∀ k, k < n → 0 < d k)
    (hS : ∀ q ∈ S', q < (others n T).length) (i j t : Nat) :
    enc d (mix (liftSys n T S') (dec d n (join n d T j t)) (dec d n (join n d T i t))) n
      = join n d T
          (enc (subDims d (others n T))
            (mix S' (dec (subDims d (others n T)) (others n T).length j)
              (dec (subDims d (others n T)) (others n T).length i)) (others n T).length) t := by
  show _ = enc d (mix T _ _) n
  refine enc_congr_digits _ _ _ _ fun k hk => ?_
  rw [mix_congr (dec_join n d T hd j t k hk) (dec_join n d T hd i t k hk)]
  by_cases hT : k ∈ T
  · have hL : k ∉ liftSys n T S' := fun h => not_mem_of_mem_others k (liftSys_subset_others n T S' hS k h) hT
    rw [mix_of_not_mem hL, mix_of_mem hT, mix_of_mem hT]
  · have hko : k ∈ others n T := mem_others.mpr ⟨hk, hT⟩
    rw [mix_of_not_mem hT]
    show _ = dec (subDims d (others n T)) (others n T).length _ ((others n T).idxOf k)
    rw [dec_enc _ _ _ (mix_dec_lt (subDims_others_pos n d T hd) S' j i) _ (List.idxOf_lt_length_of_mem hko)]
    by_cases hkS : k ∈ liftSys n T S'
    · rw [mix_of_mem hkS, mix_of_mem ((mem_liftSys_iff n T S' hS k hko).mp hkS), mix_of_not_mem hT]
      rfl
    · rw [mix_of_not_mem hkS, mix_of_not_mem (fun h => hkS ((mem_liftSys_iff n T S' hS k hko).mpr h)), mix_of_not_mem hT]
      rfl

theorem pTSpec_ptraceSpec_commute {α : Type} [Add α] [Zero α] (X : Nat → Nat → α) (n : Nat) (d : Nat → Nat) (T S' : List Nat)
    (hd : ∀ k, k < n → 0 < d k) (hS : ∀ q ∈ S', q < (others n T).length) (i j : Nat) :
    ptraceSpec (pTSpec X n d d (liftSys n T S')) n d T i j
      = pTSpec (ptraceSpec X n d T) (others n T).length (subDims d (others n T)) (subDims d (others n T)) S' i j := by
  rw [pTSpec_eq, pTRowDims_self, pTColDims_self]
  unfold ptraceSpec
  refine sumN_congr _ _ _ fun t _ => ?_
  rw [pTSpec_eq, pTRowDims_self, pTColDims_self, join_pT_mix n d T S' hd hS i j t, join_pT_mix n d T S' hd hS j i t]

end Toq.PartialOps
