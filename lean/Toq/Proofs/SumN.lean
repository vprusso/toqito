import Toq.Proofs.Idx
import Mathlib.Algebra.BigOperators.Group.Finset.Basic
import Mathlib.Algebra.BigOperators.Fin
import Mathlib.Algebra.Ring.Defs
import Mathlib.Algebra.Order.Monoid.Defs
import Mathlib.Algebra.Order.Ring.Defs
/-!
# The left-fold sums and products of `Toq.Core.Idx`: bridge to `Finset` and algebra

`sumN n f`, `prodFn n f`, `prodN d n` and `enc d x n` are defined by recursion on the bound (as the NumPy / Python loops
run).  Here the first three are identified with `∑ k ∈ range n, f k` and `∏ k ∈ range n, f k`, and
the facts the proofs of every property need are stated once, each under the weakest class that carries its proof.  Most follow the
recursion directly, which needs no commutativity; the bridge is used where `Finset` already has the fact (`sumN_comm`, `sumN_reindex`).
A Python accumulation over a list is a `sumN` over its positions (`sumN_getD_map`, `foldl_add_eq_sumN`, `foldl_range_additive`).

Argument convention of the recursion lemmas, as in `sumN_congr`: functions first, then fixed indices, then the bounds, then hypotheses (the
lemmas that came from a property's file keep the order their call sites use).  Splitting lemmas are named after the shape of the bound: `_add_range` for `m + n`, `_mul_range` for `m * n` (`enc_add_range` is in `Idx.lean`).
-/

open Finset

variable {α β : Type*}

theorem sumN_eq_sum [AddCommMonoid α] (f : ℕ → α) : ∀ n, sumN n f = ∑ k ∈ range n, f k
  | 0 => rfl
  | n + 1 => by rw [sumN, sumN_eq_sum f n, sum_range_succ]

theorem sumN_eq_sum_fin [AddCommMonoid α] (f : ℕ → α) (n : ℕ) : sumN n f = ∑ i : Fin n, f i := by
  rw [sumN_eq_sum, Finset.sum_range]

theorem prodFn_eq_prod [CommMonoid α] (f : ℕ → α) : ∀ n, prodFn n f = ∏ k ∈ range n, f k
  | 0 => rfl
  | n + 1 => by rw [prodFn, prodFn_eq_prod f n, prod_range_succ]

theorem prodN_eq_prod (d : ℕ → ℕ) (n : ℕ) : prodN d n = ∏ k ∈ range n, d k := by
  rw [prodN_eq_prodFn, prodFn_eq_prod]

section addZero
variable [AddZeroClass α]

theorem sumN_eq_zero (f : ℕ → α) : ∀ n, (∀ k, k < n → f k = 0) → sumN n f = 0
  | 0, _ => rfl
  | n + 1, h => by
    rw [sumN, sumN_eq_zero f n fun k hk => h k (Nat.lt_succ_of_lt hk), h n n.lt_succ_self, add_zero]

theorem sumN_const_zero (n : ℕ) : sumN n (fun _ => (0 : α)) = 0 := sumN_eq_zero _ n fun _ _ => rfl

/-- a sum whose terms vanish off one index -/
theorem sumN_eq_single (f : ℕ → α) (c : ℕ) : ∀ n, c < n → (∀ k, k < n → k ≠ c → f k = 0) → sumN n f = f c
  | n + 1, hc, h => by
    have h' : ∀ k, k < n → k ≠ c → f k = 0 := fun k hk => h k (Nat.lt_succ_of_lt hk)
    rcases Nat.lt_succ_iff_lt_or_eq.mp hc with hc' | rfl
    · rw [sumN, sumN_eq_single f c n hc' h', h n n.lt_succ_self (Nat.ne_of_gt hc'), add_zero]
    · rw [sumN, sumN_eq_zero f c fun k hk => h' k hk (Nat.ne_of_lt hk), zero_add]

theorem sumN_ite_eq (g : ℕ → α) (c n : ℕ) (hc : c < n) : sumN n (fun k => if c = k then g k else 0) = g c :=
  (sumN_eq_single _ c n hc fun _ _ hk => if_neg (Ne.symm hk)).trans (if_pos rfl)

theorem sumN_ite_eq_swap (g : ℕ → α) (c n : ℕ) (hc : c < n) : sumN n (fun k => if k = c then g k else 0) = g c :=
  (sumN_eq_single _ c n hc fun _ _ hk => if_neg hk).trans (if_pos rfl)

end addZero

theorem sumN_ite_mul [NonAssocSemiring α] (x : ℕ → α) (c n : ℕ) (hc : c < n) :
    sumN n (fun k => (if c = k then 1 else 0) * x k) = x c := by
  simp only [ite_mul, one_mul, zero_mul]; exact sumN_ite_eq x c n hc

/-- `Σ_k [a = k]·[b = k] = [a = b]` for `a < N` -/
theorem sumN_ite_ite_row [NonAssocSemiring α] (a b N : Nat) (ha : a < N) :
    sumN N (fun k => (if a = k then (1 : α) else 0) * (if b = k then 1 else 0))
      = if a = b then 1 else 0 := by
  rw [sumN_ite_mul (fun k => if b = k then (1 : α) else 0) a N ha]
  exact if_congr eq_comm rfl rfl

section addMonoid
variable [AddMonoid α]

theorem sumN_add_range (f : ℕ → α) (m : ℕ) : ∀ n, sumN (m + n) f = sumN m f + sumN n (fun k => f (m + k))
  | 0 => (add_zero _).symm
  | n + 1 => by rw [← Nat.add_assoc, sumN, sumN_add_range f m n, sumN, add_assoc]

theorem sumN_mul_range (f : ℕ → α) (n : ℕ) : ∀ m, sumN (m * n) f = sumN m (fun i => sumN n (fun j => f (i * n + j)))
  | 0 => by rw [Nat.zero_mul]; rfl
  | m + 1 => by rw [Nat.succ_mul, sumN_add_range, sumN_mul_range f n m]; rfl

/-- a sum over a three-digit index whose terms vanish unless the outer digits are `(p0, q0)` -/
theorem sumN_digits3_pick (pre d post p0 q0 : ℕ) (hp0 : p0 < pre) (hq0 : q0 < post) (F : ℕ → α)
    (h : ∀ p i q, p < pre → i < d → q < post → p ≠ p0 ∨ q ≠ q0 → F ((p * d + i) * post + q) = 0) :
    sumN (pre * d * post) F = sumN d (fun i => F ((p0 * d + i) * post + q0)) := by
  rw [sumN_mul_range, sumN_mul_range]
  refine (sumN_eq_single _ p0 _ hp0 fun p hp hne => ?_).trans ?_
  · exact sumN_eq_zero _ _ fun i hi => sumN_eq_zero _ _ fun q hq => h p i q hp hi hq (Or.inl hne)
  · exact sumN_congr _ _ _ fun i hi => sumN_eq_single _ q0 _ hq0 fun q hq hne => h p0 i q hp0 hi hq (Or.inr hne)

theorem sumN_succ_front (f : ℕ → α) (n : ℕ) : sumN (n + 1) f = f 0 + sumN n (fun k => f (k + 1)) := by
  rw [Nat.add_comm, sumN_add_range f 1 n, sumN, sumN, zero_add]
  simp only [Nat.add_comm 1]

end addMonoid

/-- `sumN_mul_range` read on `Finset.range` -/
theorem sum_range_mul_divmod [AddCommMonoid α] (g : ℕ → ℕ → α) (n p : ℕ) :
    ∑ l ∈ range (p * n), g (l / n) (l % n) = ∑ b ∈ range p, ∑ a ∈ range n, g b a := by
  simp only [← sumN_eq_sum]
  rw [sumN_mul_range]
  exact sumN_congr _ _ p fun b _ => sumN_congr _ _ n fun a ha => by
    rw [(Nat.mul_add_divMod_of_lt (q := b) ha).1, (Nat.mul_add_divMod_of_lt (q := b) ha).2]

theorem sumN_add_distrib [AddCommMonoid α] (f g : ℕ → α) : ∀ n, sumN n (fun k => f k + g k) = sumN n f + sumN n g
  | 0 => (add_zero _).symm
  | n + 1 => by rw [sumN, sumN, sumN, sumN_add_distrib f g n, add_add_add_comm]

theorem sumN_mul_left [NonUnitalNonAssocSemiring α] (c : α) (f : ℕ → α) : ∀ n, sumN n (fun k => c * f k) = c * sumN n f
  | 0 => (mul_zero c).symm
  | n + 1 => by rw [sumN, sumN, sumN_mul_left c f n, mul_add]

theorem sumN_mul_right [NonUnitalNonAssocSemiring α] (c : α) (f : ℕ → α) : ∀ n, sumN n (fun k => f k * c) = sumN n f * c
  | 0 => (zero_mul c).symm
  | n + 1 => by rw [sumN, sumN, sumN_mul_right c f n, add_mul]

/-- any map that respects `0` and `+` goes through `sumN`; no structure on the two types is assumed, so that the
    model's own number types (`QI`, `GI`, expression trees) are covered (`map_foldl_add_finRange` in `Proofs/Cert.lean` is the same fact for
    the `Fin`-indexed executable sums) -/
theorem sumN_map [Add α] [Zero α] [Add β] [Zero β] (φ : α → β) (h0 : φ 0 = 0) (hadd : ∀ a b, φ (a + b) = φ a + φ b)
    (f : ℕ → α) : ∀ n, φ (sumN n f) = sumN n (fun k => φ (f k))
  | 0 => h0
  | n + 1 => by rw [sumN, sumN, hadd, sumN_map φ h0 hadd f n]

theorem map_sumN {F : Type*} [AddZeroClass α] [AddZeroClass β] [FunLike F α β] [AddMonoidHomClass F α β] (φ : F)
    (f : ℕ → α) (n : ℕ) : φ (sumN n f) = sumN n (fun k => φ (f k)) :=
  sumN_map φ (map_zero φ) (map_add φ) f n

theorem sumN_ite_cast [AddMonoidWithOne α] (p : ℕ → Bool) (n : ℕ) :
    sumN n (fun i => if p i then (1 : α) else 0) = ((sumN n (fun i => if p i then 1 else 0) : ℕ) : α) := by
  simp only [sumN_map (Nat.cast : ℕ → α) Nat.cast_zero Nat.cast_add, Nat.cast_ite, Nat.cast_one, Nat.cast_zero]

theorem sumN_ite_eq_card (p : ℕ → Bool) (n : ℕ) :
    sumN n (fun i => if p i then 1 else 0) = ((range n).filter (fun i => p i = true)).card := by
  rw [sumN_eq_sum, card_filter]

/-- if every step of a fold over `range n` adds `g k` to the reading `φ` of the accumulator, the fold adds `sumN n g` -/
theorem foldl_range_additive [AddMonoid β] (φ : α → β) (F : ℕ → α → α) (g : ℕ → β)
    (h : ∀ k w, φ (F k w) = φ w + g k) :
    ∀ n w0, φ ((List.range n).foldl (fun w k => F k w) w0) = φ w0 + sumN n g
  | 0, w0 => (add_zero _).symm
  | n + 1, w0 => by
    rw [List.range_succ, List.foldl_append, List.foldl_cons, List.foldl_nil, h, foldl_range_additive φ F g h n w0,
      add_assoc]
    rfl

/-- a sum over `m * n` of a product of a function of the first and a function of the second digit factorises -/
theorem sumN_kron [NonUnitalNonAssocSemiring α] (m n : ℕ) (f g : ℕ → α) :
    sumN (m * n) (fun k => f (k / n) * g (k % n)) = sumN m f * sumN n g := by
  rw [sumN_mul_range, ← sumN_mul_right]
  refine sumN_congr _ _ m fun i _ => ?_
  rw [← sumN_mul_left]
  exact sumN_congr _ _ n fun j hj => by rw [Nat.mul_add_div_of_lt hj, Nat.mul_add_mod_of_lt hj]

/-- `sumN_kron` for a summand that has the product form up to rearrangement -/
theorem sumN_kron' [NonUnitalNonAssocSemiring α] (m n : ℕ) (F f g : ℕ → α)
    (h : ∀ k, F k = f (k / n) * g (k % n)) : sumN (m * n) F = sumN m f * sumN n g := by
  rw [← sumN_kron]
  exact sumN_congr _ _ _ fun k _ => h k

/-- the product of the deltas on the two digits of an index is the delta on the index -/
theorem ite_div_mul_ite_mod [MulZeroClass α] (n i j : ℕ) (a b : α) :
    (if i / n = j / n then a else 0) * (if i % n = j % n then b else 0) = if i = j then a * b else 0 :=
  (ite_zero_mul_ite_zero ..).trans (if_congr (Nat.ext_div_mod_iff n i j).symm rfl rfl)

/-- summing against a vector that is the flattened identity picks the diagonal positions `i * d + i` -/
theorem sumN_mul_flat_diag [NonAssocSemiring α] (d : ℕ) (g w : ℕ → α)
    (h : ∀ i j, i < d → j < d → w (i * d + j) = if i = j then 1 else 0) :
    sumN (d * d) (fun m => g m * w m) = sumN d (fun i => g (i * d + i)) := by
  rw [sumN_mul_range]
  refine sumN_congr _ _ d fun i hi => ?_
  rw [sumN_congr _ (fun j => if i = j then g (i * d + j) else 0) d fun j hj => by
      rw [h i j hi hj, mul_ite, mul_one, mul_zero],
    sumN_ite_eq (fun j => g (i * d + j)) i d hi]

theorem sumN_comm [AddCommMonoid α] (f : ℕ → ℕ → α) (m n : ℕ) :
    sumN m (fun i => sumN n (fun j => f i j)) = sumN n (fun j => sumN m (fun i => f i j)) := by
  simp only [sumN_eq_sum]; exact sum_comm

theorem sumN_comm22 [AddCommMonoid α] (f : ℕ → ℕ → ℕ → ℕ → α) (m n p q : ℕ) :
    (sumN m fun a => sumN n fun b => sumN p fun i => sumN q fun j => f a b i j)
      = sumN p fun i => sumN q fun j => sumN m fun a => sumN n fun b => f a b i j := by
  have inner : ∀ (g : ℕ → ℕ → ℕ → α) (k : ℕ),
      (sumN m fun a => sumN n fun b => sumN k fun i => g a b i) = sumN k fun i => sumN m fun a => sumN n fun b => g a b i :=
    fun g k => by rw [sumN_congr _ _ _ fun a _ => sumN_comm (fun b i => g a b i) n k, sumN_comm]
  rw [inner (fun a b i => sumN q fun j => f a b i j) p]
  exact sumN_congr _ _ _ fun i _ => inner (fun a b j => f a b i j) q

theorem sumN_const [NonAssocSemiring α] (n : ℕ) (c : α) : sumN n (fun _ => c) = (n : α) * c := by
  rw [sumN_eq_sum, sum_const, card_range, nsmul_eq_mul]

theorem sumN_flat_diag [NonAssocSemiring α] (d : ℕ) (f : ℕ → α)
    (h : ∀ i j, i < d → j < d → f (i * d + j) = if i = j then 1 else 0) : sumN (d * d) f = (d : α) := by
  rw [sumN_congr f (fun m => 1 * f m) _ fun _ _ => (one_mul _).symm, sumN_mul_flat_diag d _ f h, sumN_const, mul_one]

theorem sumN_sub [AddCommGroup α] (n : ℕ) (f g : ℕ → α) : sumN n (fun k => f k - g k) = sumN n f - sumN n g := by
  simp only [sumN_eq_sum]; exact sum_sub_distrib f g

/-! ### sums over the positions of a list -/

theorem sumN_getD_map [AddMonoid α] (F : List β) (φ : β → α) (d : β) :
    sumN F.length (fun k => φ (F.getD k d)) = (F.map φ).sum := by
  induction F with
  | nil => rfl
  | cons x t ih =>
    rw [List.length_cons, sumN_succ_front]
    simp only [List.getD_cons_zero, List.getD_cons_succ, List.map_cons, List.sum_cons, ih]

/-- a NumPy-style accumulation `sum(g(x) for x in l)` is the indexed sum -/
theorem foldl_add_eq_sumN [AddMonoid α] [Inhabited β] (g : β → α) (l : List β) :
    (l.map g).foldl (· + ·) 0 = sumN l.length (fun k => g (l.getD k default)) := by
  rw [← List.sum_eq_foldl, sumN_getD_map]

/-- a sum whose terms vanish off the positions where `p` holds is the sum over the list `L` of those positions -/
theorem sumN_eq_list_sum [AddMonoid α] (M : ℕ) (f : ℕ → α) (p : ℕ → Bool) (L : List ℕ)
    (hL : (List.range M).filter p = L) (h0 : ∀ m, p m = false → f m = 0) : sumN M f = (L.map f).sum := by
  subst hL
  induction M with
  | zero => rfl
  | succ M ih =>
    rw [List.range_succ, List.filter_append, List.map_append, List.sum_append, ← ih]
    show sumN M f + f M = _
    congr 1
    cases h : p M
    · simp [h, h0 M h]
    · simp [h]

/-- an injective self-map of `0..n-1` is onto -/
theorem range_image_of_injOn (p : ℕ → ℕ) (n : ℕ) (hlt : ∀ k, k < n → p k < n)
    (hinj : ∀ a b, a < n → b < n → p a = p b → a = b) : Set.InjOn p (range n) ∧ (range n).image p = range n := by
  have inj : Set.InjOn p (range n) := fun a ha b hb => hinj a b (mem_range.mp ha) (mem_range.mp hb)
  exact ⟨inj, eq_of_subset_of_card_le (image_subset_iff.mpr fun k hk => mem_range.mpr (hlt k (mem_range.mp hk)))
    (card_image_of_injOn inj).ge⟩

theorem sumN_reindex [AddCommMonoid α] (f : ℕ → α) (p : ℕ → ℕ) (n : ℕ) (hlt : ∀ k, k < n → p k < n)
    (hinj : ∀ a b, a < n → b < n → p a = p b → a = b) : sumN n (fun k => f (p k)) = sumN n f := by
  obtain ⟨inj, img⟩ := range_image_of_injOn p n hlt hinj
  rw [sumN_eq_sum, sumN_eq_sum, ← sum_image (f := f) inj, img]

/-- reindexing by a self-map of `0..n-1` that has a left inverse -/
theorem sumN_reindex_of_leftInverse [AddCommMonoid α] (f : ℕ → α) (σ τ : ℕ → ℕ) (n : ℕ)
    (hσ : ∀ k, k < n → σ k < n) (hτσ : ∀ k, k < n → τ (σ k) = k) : sumN n (fun k => f (σ k)) = sumN n f :=
  sumN_reindex f σ n hσ fun a b ha hb e => by rw [← hτσ a ha, e, hτσ b hb]

theorem prodFn_reindex [CommMonoid α] (f : ℕ → α) (p : ℕ → ℕ) (n : ℕ) (hlt : ∀ k, k < n → p k < n)
    (hinj : ∀ a b, a < n → b < n → p a = p b → a = b) : prodFn n (fun k => f (p k)) = prodFn n f := by
  obtain ⟨inj, img⟩ := range_image_of_injOn p n hlt hinj
  rw [prodFn_eq_prod, prodFn_eq_prod, ← prod_image (f := f) inj, img]

theorem prodN_reindex (d p : ℕ → ℕ) (n : ℕ) (hlt : ∀ k, k < n → p k < n)
    (hinj : ∀ a b, a < n → b < n → p a = p b → a = b) : prodN (fun k => d (p k)) n = prodN d n := by
  rw [prodN_eq_prodFn, prodN_eq_prodFn, prodFn_reindex d p n hlt hinj]

section order
variable [AddCommMonoid α] [PartialOrder α] [IsOrderedAddMonoid α]

theorem sumN_le_sumN (f g : ℕ → α) : ∀ n, (∀ k, k < n → f k ≤ g k) → sumN n f ≤ sumN n g
  | 0, _ => le_refl _
  | n + 1, h => add_le_add (sumN_le_sumN f g n fun k hk => h k (Nat.lt_succ_of_lt hk)) (h n n.lt_succ_self)

theorem sumN_nonneg (f : ℕ → α) (n : ℕ) (h : ∀ k, k < n → 0 ≤ f k) : 0 ≤ sumN n f :=
  (sumN_const_zero n).symm.trans_le (sumN_le_sumN _ f n h)

end order

theorem prodFn_mul [CommMonoid α] (u v : ℕ → α) : ∀ n, prodFn n u * prodFn n v = prodFn n (fun k => u k * v k)
  | 0 => mul_one 1
  | n + 1 => by rw [prodFn, prodFn, prodFn, mul_mul_mul_comm, prodFn_mul u v n]

section orderedRing
variable [Semiring α] [PartialOrder α] [IsOrderedRing α]

theorem prodFn_nonneg (u : ℕ → α) : ∀ n, (∀ k, k < n → 0 ≤ u k) → 0 ≤ prodFn n u
  | 0, _ => zero_le_one
  | n + 1, h => mul_nonneg (prodFn_nonneg u n fun k hk => h k (Nat.lt_succ_of_lt hk)) (h n n.lt_succ_self)

/-- a product of numbers in `[0, 1]` is in `[0, 1]` -/
theorem prodFn_mem01 (u : ℕ → α) : ∀ n, (∀ k, k < n → 0 ≤ u k ∧ u k ≤ 1) → 0 ≤ prodFn n u ∧ prodFn n u ≤ 1
  | 0, _ => ⟨zero_le_one, le_refl _⟩
  | n + 1, h => by
    obtain ⟨h0, h1⟩ := prodFn_mem01 u n fun k hk => h k (Nat.lt_succ_of_lt hk)
    obtain ⟨g0, g1⟩ := h n n.lt_succ_self
    exact ⟨mul_nonneg h0 g0, mul_le_one₀ h1 g0 g1⟩

end orderedRing

theorem prodFn_add_range [Monoid α] (f : ℕ → α) (m : ℕ) : ∀ n, prodFn (m + n) f = prodFn m f * prodFn n (fun k => f (m + k))
  | 0 => (mul_one _).symm
  | n + 1 => by rw [← Nat.add_assoc, prodFn, prodFn_add_range f m n, prodFn, mul_assoc]

theorem prodFn_const [Monoid α] (c : α) : ∀ n, prodFn n (fun _ => c) = c ^ n
  | 0 => (pow_zero c).symm
  | n + 1 => by rw [prodFn, prodFn_const c n, pow_succ]

theorem prodN_add_range (d : ℕ → ℕ) (m n : ℕ) : prodN d (m + n) = prodN d m * prodN (fun k => d (m + k)) n := by
  rw [prodN_eq_prodFn, prodN_eq_prodFn, prodN_eq_prodFn, prodFn_add_range]

theorem prodN_const (d n : ℕ) : prodN (fun _ => d) n = d ^ n := by
  rw [prodN_eq_prodFn, prodFn_const]
