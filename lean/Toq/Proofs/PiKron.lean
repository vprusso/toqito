import Toq.Proofs.Psd
import Toq.Proofs.Bipartite
import Mathlib.LinearAlgebra.Matrix.Kronecker
import Mathlib.Analysis.Matrix.Order
import Mathlib.Algebra.BigOperators.Ring.Finset
import Mathlib.Algebra.BigOperators.Fin
/-!
# The `n`-fold Kronecker product on digit sequences `Fin n → ι`

`piKron` and its calculus: it is multiplicative, commutes with `ᴴ`, trace and sums of the factors, and preserves `⪰ 0` and `⪰`
between factors.  The identities in which a sum meets the product (`piKron_sum`, `piKron_mul`, `piKron_trace`) are `Fintype.prod_sum`:
a product over the positions of sums over the digits is the sum over digit sequences of the products.  The definition bears the
namespace of C09, whose statements mention it; the statements of C08 mention the same function as `Toq.Xor.piKron`
(`Toq/Proofs/XorRepLower.lean`).
-/

open Matrix Kronecker
open scoped ComplexOrder

namespace Toq.ExtGames

section Pi
variable {ι : Type*}

/-- `A 0 ⊗ A 1 ⊗ … ⊗ A (n-1)` with rows and columns indexed by digit sequences -/
def piKron {n : ℕ} (A : Fin n → Matrix ι ι ℂ) : Matrix (Fin n → ι) (Fin n → ι) ℂ :=
  fun p q => ∏ k, A k (p k) (q k)

theorem piKron_apply {n : ℕ} (A : Fin n → Matrix ι ι ℂ) (p q : Fin n → ι) :
    piKron A p q = ∏ k, A k (p k) (q k) := rfl

/-- multilinearity: summing each factor separately -/
theorem piKron_sum {n : ℕ} {κ : Type*} [Fintype κ] [DecidableEq κ] (M : Fin n → κ → Matrix ι ι ℂ) :
    ∑ a : Fin n → κ, piKron (fun k => M k (a k)) = piKron fun k => ∑ a, M k a := by
  ext i j
  simp only [piKron, Matrix.sum_apply, Fintype.prod_sum]

theorem piKron_conjTranspose {n : ℕ} (A : Fin n → Matrix ι ι ℂ) : (piKron A)ᴴ = piKron fun k => (A k)ᴴ := by
  ext i j
  simp only [piKron, conjTranspose_apply, star_prod]

theorem piKron_smul {n : ℕ} (c : Fin n → ℂ) (A : Fin n → Matrix ι ι ℂ) : piKron (fun k => c k • A k) = (∏ k, c k) • piKron A := by
  ext p q
  simp only [piKron, Matrix.smul_apply, smul_eq_mul, Finset.prod_mul_distrib]

theorem piKron_zero_of {n : ℕ} (A : Fin n → Matrix ι ι ℂ) (k : Fin n) (h : A k = 0) : piKron A = 0 := by
  ext i j
  exact Finset.prod_eq_zero (Finset.mem_univ k) (by rw [h]; rfl)

theorem piKron_succ {n : ℕ} (A : Fin (n + 1) → Matrix ι ι ℂ) :
    piKron A = ((A 0) ⊗ₖ piKron (fun k : Fin n => A k.succ)).submatrix
      (fun p => (p 0, fun k : Fin n => p k.succ)) (fun p => (p 0, fun k : Fin n => p k.succ)) := by
  ext p q
  simp only [piKron, Matrix.submatrix_apply, Matrix.kroneckerMap_apply]
  exact Fin.prod_univ_succ _

theorem piKron_one [DecidableEq ι] {n : ℕ} : piKron (fun _ : Fin n => (1 : Matrix ι ι ℂ)) = 1 := by
  ext p q
  simp only [piKron, Matrix.one_apply]
  rw [Finset.prod_ite_zero]
  simp [funext_iff]

variable [Fintype ι]

theorem piKron_mul {n : ℕ} (A B : Fin n → Matrix ι ι ℂ) : piKron A * piKron B = piKron fun k => A k * B k := by
  ext p q
  simp only [piKron, Matrix.mul_apply, Fintype.prod_sum, Finset.prod_mul_distrib]

theorem piKron_trace {n : ℕ} (A : Fin n → Matrix ι ι ℂ) : (piKron A).trace = ∏ k, (A k).trace := by
  simp only [Matrix.trace, Matrix.diag_apply, piKron, Fintype.prod_sum]

variable [DecidableEq ι]

theorem piKron_psd {n : ℕ} (A : Fin n → Matrix ι ι ℂ) (h : ∀ k, (A k).PosSemidef) : (piKron A).PosSemidef := by
  choose S hS using fun k => (h k).exists_eq_conjTranspose_mul_self
  have : piKron A = (piKron S)ᴴ * piKron S := by
    rw [piKron_conjTranspose, piKron_mul]
    exact congrArg piKron (funext hS)
  rw [this]
  exact posSemidef_conjTranspose_mul_self _

/-- tensor products are monotone on the positive cone: `A_k ⪰ B_k ⪰ 0` for all `k` implies `⊗ A_k ⪰ ⊗ B_k` -/
theorem piKron_sub_psd : ∀ {n : ℕ} (A B : Fin n → Matrix ι ι ℂ), (∀ k, (B k).PosSemidef) →
    (∀ k, (A k - B k).PosSemidef) → (piKron A - piKron B).PosSemidef
  | 0, A, B, _, _ => by
    have : piKron A = piKron B := by ext p q; simp [piKron]
    rw [this, sub_self]; exact Matrix.PosSemidef.zero
  | n + 1, A, B, hB, hAB => by
    rw [piKron_succ A, piKron_succ B]
    exact (kronecker_sub_kronecker_posSemidef (hB 0) (hAB 0) (piKron_psd _ fun k => hB k.succ)
      (piKron_sub_psd _ _ (fun k => hB k.succ) fun k => hAB k.succ)).submatrix _

end Pi

end Toq.ExtGames
