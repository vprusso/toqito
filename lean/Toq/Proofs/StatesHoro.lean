import Toq.Proofs.States
/-!
# Horodecki states: quadratic forms of the state and of its partial transpose (helper lemmas for C17)

`horodecki33 a c` / `horodecki24 a c` are the models of `horodecki(a, [3,3])` / `horodecki(a, [2,4])` with
`c = √(1-a²)/2` passed in as a parameter subject to `4c² = 1 - a²`.  Both the state and its partial transpose
decompose into rank-one blocks `a·(v_i + v_j (+ v_k))²`, diagonal entries `a` and one `2 × 2` block
`[[b, c], [c, b - a]]` (`b = (1+a)/2`) of determinant `(1-a²)/4 - c² = 0`.  The matrices are fixed `9 × 9` and
`8 × 8` tables in `a`, `c` with 16 or 17 non-zero entries: their supports are listed (checked by evaluation), and the
quadratic forms are the sums over the supports.
-/
open Toq.Matrices Toq.Spec17

namespace Toq.States
section horo
variable {α : Type} [Field α] [LinearOrder α] [IsStrictOrderedRing α]

/-- `(a·S + q(x, y))/(k a + 1) ≥ 0` for a sum of squares `S` and the form `q` of the `2 × 2` block
    `[[b, c], [c, b - a]]`, `b = (1+a)/2`: the block has determinant `(1 - a²)/4 - c² = 0`, so `b·q = (b x + c y)²` -/
theorem horo_form_nonneg (a c : α) (ha0 : 0 ≤ a) (hc : 4 * c * c = 1 - a * a) (k S x y : α) (hk : 0 ≤ k) (hS : 0 ≤ S) :
    0 ≤ 1 / (k * a + 1)
      * (a * S + ((1 + a) / 2 * (x * x) + 2 * c * (x * y) + ((1 + a) / 2 - a) * (y * y))) := by
  have hb : 0 < (1 + a) / 2 := half_pos (add_pos_of_pos_of_nonneg one_pos ha0)
  have e : (1 + a) / 2 * ((1 + a) / 2 * (x * x) + 2 * c * (x * y) + ((1 + a) / 2 - a) * (y * y))
      = ((1 + a) / 2 * x + c * y) * ((1 + a) / 2 * x + c * y) := by
    linear_combination (-(y * y) / 4) * hc
  exact mul_nonneg (div_nonneg zero_le_one (add_nonneg (mul_nonneg hk ha0) zero_le_one))
    (add_nonneg (mul_nonneg ha0 hS) (nonneg_of_mul_nonneg_right (e ▸ mul_self_nonneg _) hb))

theorem add_sq_nonneg {S : α} (x : α) (h : 0 ≤ S) : 0 ≤ S + x ^ 2 := add_nonneg h (sq_nonneg x)

end horo

section tables
variable {α : Type} [Field α]

/-- where `horodecki33` can be non-zero -/
def supp33 (i j : Nat) : Bool :=
  decide (i = j ∨ ((i = 0 ∨ i = 4 ∨ i = 8) ∧ (j = 0 ∨ j = 4 ∨ j = 8)) ∨ (i = 6 ∧ j = 8) ∨ (i = 8 ∧ j = 6))

/-- where `horodecki24` can be non-zero -/
def supp24 (i j : Nat) : Bool :=
  decide (i = j ∨ ((i + 5 = j ∧ i < 3) ∨ (j + 5 = i ∧ j < 3)) ∨ (i = 4 ∧ j = 7) ∨ (i = 7 ∧ j = 4))

theorem horodecki33_off (a c : α) (i j : Nat) (h : supp33 i j = false) : horodecki33 a c i j = 0 := by
  obtain ⟨h1, h2, h3⟩ : ¬i = j ∧ ¬((i = 0 ∨ i = 4 ∨ i = 8) ∧ (j = 0 ∨ j = 4 ∨ j = 8))
      ∧ ¬((i = 6 ∧ j = 8) ∨ (i = 8 ∧ j = 6)) := by
    simpa only [supp33, decide_eq_false_iff_not, not_or] using h
  unfold horodecki33
  simp only [if_neg h1, if_neg h2, if_neg h3, mul_zero]

theorem horodecki24_off (a c : α) (i j : Nat) (h : supp24 i j = false) : horodecki24 a c i j = 0 := by
  obtain ⟨h1, h2, h3⟩ : ¬i = j ∧ ¬((i + 5 = j ∧ i < 3) ∨ (j + 5 = i ∧ j < 3))
      ∧ ¬((i = 4 ∧ j = 7) ∨ (i = 7 ∧ j = 4)) := by
    simpa only [supp24, decide_eq_false_iff_not, not_or] using h
  unfold horodecki24
  simp only [if_neg h1, if_neg h2, if_neg h3, mul_zero]

theorem quadForm_horodecki33 (a c : α) (v : Nat → α) :
    quadForm 9 (horodecki33 a c) v
      = 1 / (8 * a + 1) * (a * ((v 0 + v 4 + v 8) ^ 2
            + v 1 ^ 2 + v 2 ^ 2 + v 3 ^ 2 + v 5 ^ 2 + v 7 ^ 2)
          + ((1 + a) / 2 * (v 6 * v 6) + 2 * c * (v 6 * v 8) + ((1 + a) / 2 - a) * (v 8 * v 8))) := by
  rw [quadForm_eq_list_sum 9 _ v supp33 [0, 4, 8, 10, 20, 30, 36, 40, 44, 50, 60, 62, 70, 72, 76, 78, 80]
    (by decide +kernel) (horodecki33_off a c)]
  simp only [horodecki33, table_eval, table_eval_proc]
  ring

theorem quadForm_horodecki33_pt (a c : α) (v : Nat → α) :
    quadForm 9 (pT2 3 (horodecki33 a c)) v
      = 1 / (8 * a + 1) * (a * ((v 1 + v 3) ^ 2 + (v 5 + v 7) ^ 2 + (v 2 + v 6) ^ 2
            + v 0 ^ 2 + v 4 ^ 2)
          + ((1 + a) / 2 * (v 8 * v 8) + 2 * c * (v 8 * v 6) + ((1 + a) / 2 - a) * (v 6 * v 6))) := by
  rw [quadForm_eq_list_sum 9 (pT2 3 (horodecki33 a c)) v (pT2 3 supp33)
    [0, 10, 12, 20, 24, 28, 30, 40, 50, 52, 56, 60, 62, 68, 70, 78, 80]
    (by decide +kernel) fun i j h => horodecki33_off a c _ _ h]
  simp only [horodecki33, pT2, table_eval, table_eval_proc]
  ring

theorem quadForm_horodecki24 (a c : α) (v : Nat → α) :
    quadForm 8 (horodecki24 a c) v
      = 1 / (7 * a + 1) * (a * ((v 0 + v 5) ^ 2 + (v 1 + v 6) ^ 2 + (v 2 + v 7) ^ 2
            + v 3 ^ 2)
          + ((1 + a) / 2 * (v 4 * v 4) + 2 * c * (v 4 * v 7) + ((1 + a) / 2 - a) * (v 7 * v 7))) := by
  rw [quadForm_eq_list_sum 8 _ v supp24 [0, 5, 9, 14, 18, 23, 27, 36, 39, 40, 45, 49, 54, 58, 60, 63]
    (by decide +kernel) (horodecki24_off a c)]
  simp only [horodecki24, table_eval, table_eval_proc]
  ring

theorem quadForm_horodecki24_pt (a c : α) (v : Nat → α) :
    quadForm 8 (pT2 4 (horodecki24 a c)) v
      = 1 / (7 * a + 1) * (a * ((v 2 + v 5) ^ 2 + (v 3 + v 6) ^ 2 + (v 1 + v 4) ^ 2
            + v 0 ^ 2)
          + ((1 + a) / 2 * (v 7 * v 7) + 2 * c * (v 7 * v 4) + ((1 + a) / 2 - a) * (v 4 * v 4))) := by
  rw [quadForm_eq_list_sum 8 (pT2 4 (horodecki24 a c)) v (pT2 4 supp24)
    [0, 9, 12, 18, 21, 27, 30, 33, 36, 39, 42, 45, 51, 54, 60, 63]
    (by decide +kernel) fun i j h => horodecki24_off a c _ _ h]
  simp only [horodecki24, pT2, table_eval, table_eval_proc]
  ring

/-- each test of the definition is symmetric in `(i, j)` -/
theorem horodecki33_symm (a c : α) (i j : Nat) : horodecki33 a c i j = horodecki33 a c j i := by
  unfold horodecki33
  by_cases h : i = j
  · rw [h]
  · simp only [if_neg h, if_neg (Ne.symm h), and_comm, or_comm]

theorem horodecki24_symm (a c : α) (i j : Nat) : horodecki24 a c i j = horodecki24 a c j i := by
  unfold horodecki24
  by_cases h : i = j
  · rw [h]
  · simp only [if_neg h, if_neg (Ne.symm h), and_comm, or_comm]

end tables
end Toq.States
