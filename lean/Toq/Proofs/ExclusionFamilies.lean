import Toq.Proofs.Exclusion
import Toq.Proofs.PovmTwo
import Mathlib.Analysis.SpecialFunctions.Trigonometric.Basic
/-!
# Explicit optimal measurements and dual points for families of ensembles (C11)

* `pure v = v vᴴ` and its products; sign patterns (`twist`): the states `D_b ⊙ ψ` for the rows `D_b` of a Hadamard matrix are excluded
  perfectly by the basis `D_b ⊙ ξ` for any flat `ξ ⊥ ψ`;
* the named constructors `trine()` and `pusey_barrett_rudolph(n, θ)`, `n = 1, 2`, of `Toq.Model.Exclusion` instantiated
  at `ℂ`; the states of `pusey_barrett_rudolph(2, θ)` are the Hadamard sign patterns of `(c², cs, sc, s²)`, and a flat
  vector orthogonal to it exists for every angle in the antidistinguishable range;
* measurements: a state appended with operator `0`, two states (perfect exclusion only if orthogonal), projectors
  summing to a multiple of the identity (`Toq.Discrim.framePovm` of `Proofs/Povm`: trine, BB84, Bell, …), an orthogonal pair inside the
  ensemble (`pairPovm`, through `Toq.Discrim.meAbsorb`).
-/

open Matrix
open scoped ComplexOrder MatrixOrder

namespace Toq.Excl
open Toq.Discrim

section Pure
variable {ι : Type*}

/-- `Toq.Discrim.uaPure V j` (hence `Toq.C10.pureState V j`) is `pure` of the `j`-th column of `V`, by `rfl`. -/
def pure (v : ι → ℂ) : Matrix ι ι ℂ := Matrix.vecMulVec v (star v)

theorem pure_apply (v : ι → ℂ) (i j : ι) : pure v i j = v i * star (v j) := rfl

theorem pure_isHermitian (v : ι → ℂ) : (pure v).IsHermitian := by
  unfold pure Matrix.IsHermitian
  rw [Matrix.conjTranspose_vecMulVec, star_star]

theorem pure_vec2 (a b : ℂ) : pure ![a, b] = !![a * star a, a * star b; b * star a, b * star b] := by
  ext i j; fin_cases i <;> fin_cases j <;> rfl

theorem star_vec2_dotProduct (a b c d : ℂ) :
    star ![a, b] ⬝ᵥ ![c, d] = (starRingEnd ℂ) a * c + (starRingEnd ℂ) b * d := by
  rw [dotProduct, Fin.sum_univ_two]
  rfl

variable [Fintype ι]

theorem pure_psd (v : ι → ℂ) : (pure v).PosSemidef := Matrix.posSemidef_vecMulVec_self_star v

theorem pure_mul_pure (v w : ι → ℂ) : pure v * pure w = (star v ⬝ᵥ w) • Matrix.vecMulVec v (star w) := by
  unfold pure
  rw [Matrix.vecMulVec_mul_vecMulVec]
  ext i j
  simp only [Matrix.vecMulVec_apply, Matrix.smul_apply, Pi.smul_apply, Pi.star_apply, smul_eq_mul]
  ring

theorem pure_idem (v : ι → ℂ) (hv : star v ⬝ᵥ v = 1) : pure v * pure v = pure v := by
  rw [pure_mul_pure, hv, one_smul]; rfl

theorem pure_trace_mul (v w : ι → ℂ) :
    (pure v * pure w).trace = (star v ⬝ᵥ w) * (star w ⬝ᵥ v) := by
  rw [pure_mul_pure, Matrix.trace_smul, Matrix.trace_vecMulVec, smul_eq_mul, dotProduct_comm v]

variable [DecidableEq ι]

-- stated with `[DecidableEq ι]`, which nothing in it needs
set_option linter.unusedSectionVars false in
theorem pure_trace (v : ι → ℂ) : (pure v).trace = star v ⬝ᵥ v := by
  unfold pure
  rw [Matrix.trace_vecMulVec, dotProduct_comm]

end Pure

section Signs
variable {ι κ : Type*}

def sgn (b : Bool) : ℤ := if b then -1 else 1

def twist (D : κ → ι → Bool) (ξ : ι → ℂ) (b : κ) : ι → ℂ := fun i => if D b i then -ξ i else ξ i

theorem twist_apply (D : κ → ι → Bool) (ξ : ι → ℂ) (b : κ) (i : ι) :
    twist D ξ b i = sgn (D b i) * ξ i := by
  unfold twist sgn
  cases D b i <;> simp

section
variable [Fintype ι]

theorem twist_dot (D : κ → ι → Bool) (ξ ψ : ι → ℂ) (b : κ) :
    star (twist D ξ b) ⬝ᵥ twist D ψ b = star ξ ⬝ᵥ ψ := by
  refine Finset.sum_congr rfl fun i _ => ?_
  simp only [twist, Pi.star_apply]
  cases D b i <;> simp

end

variable [DecidableEq ι] [Fintype κ]

theorem twist_sum (D : κ → ι → Bool) (m : ℤ)
    (hD : ∀ i j, ∑ b, sgn (D b i) * sgn (D b j) = if i = j then m else 0)
    (ξ : ι → ℂ) (hξ : ∀ i, m * (ξ i * star (ξ i)) = 1) : ∑ b, pure (twist D ξ b) = 1 := by
  ext i j
  have hD' : ∑ b, (sgn (D b i) : ℂ) * sgn (D b j) = if i = j then (m : ℂ) else 0 := by
    exact_mod_cast hD i j
  rw [Matrix.sum_apply, Matrix.one_apply]
  simp only [pure_apply, twist_apply, star_mul', RCLike.star_def, map_intCast]
  calc ∑ b, (sgn (D b i) : ℂ) * ξ i * (sgn (D b j) * starRingEnd ℂ (ξ j))
      = (∑ b, (sgn (D b i) : ℂ) * sgn (D b j)) * (ξ i * starRingEnd ℂ (ξ j)) := by
        rw [Finset.sum_mul]; exact Finset.sum_congr rfl fun b _ => by ring
    _ = _ := by
        rw [hD']
        split
        · next h => subst h; exact hξ i
        · rw [zero_mul]

/-- the sign pattern of the Hadamard matrix of order 4 (`true` where the bit strings `b`, `i` share an odd number of
ones) -/
def had4 : Fin 4 → Fin 4 → Bool :=
  ![![false, false, false, false], ![false, true, false, true], ![false, false, true, true],
    ![false, true, true, false]]

theorem had4_orth : ∀ i j, ∑ b, sgn (had4 b i) * sgn (had4 b j) = if i = j then 4 else 0 := by decide

end Signs

section Named

def listVec {n : ℕ} (l : List ℂ) : Fin n → ℂ := fun i => l.getD i.val 0

/-- the `b`-th state of `pusey_barrett_rudolph(n, θ)` with `c = cos(θ/2)`, `s = sin(θ/2)` -/
def pbrVec (n : ℕ) (c s : ℝ) (b : Fin (2 ^ n)) : Fin (2 ^ n) → ℂ :=
  listVec ((pbrStates n (c : ℂ) (s : ℂ)).getD b.val [])

/-- the `b`-th state of `trine()` with `h = ½`, `r = √3` -/
def trineVec (h r : ℝ) (b : Fin 3) : Fin 2 → ℂ :=
  listVec ((trineStates (h : ℂ) (r : ℂ)).getD b.val [])

theorem trineStates_eq (h r : ℂ) : trineStates h r = [[1, 0], [-h, -(h * r)], [-h, h * r]] := by
  show [[1, 0], [-h * (1 + r * 0), -h * (0 + r * 1)], [-h * (1 - r * 0), -h * (0 - r * 1)]] = _
  simp only [mul_zero, add_zero, sub_zero, mul_one, zero_add, zero_sub, neg_mul, mul_neg, neg_neg]

theorem trineVec_eq (h r : ℝ) :
    trineVec h r = ![![1, 0], ![-(h : ℂ), -(h * r : ℂ)], ![-(h : ℂ), (h * r : ℂ)]] := by
  funext b i
  rw [trineVec, trineStates_eq]
  fin_cases b <;> fin_cases i <;> rfl

theorem trine_unit (h r : ℝ) (hu : h * h * (1 + r * r) = 1) (b : Fin 3) :
    star (trineVec h r b) ⬝ᵥ trineVec h r b = 1 := by
  have hu' : (h : ℂ) * h * (1 + r * r) = 1 := by exact_mod_cast hu
  rw [trineVec_eq]
  fin_cases b
  all_goals
    simp only [Fin.zero_eta, Fin.mk_one, Fin.reduceFinMk, Matrix.cons_val, star_vec2_dotProduct, map_neg, map_mul, map_one,
      map_zero, Complex.conj_ofReal]
  · ring
  · linear_combination hu'
  · linear_combination hu'

theorem trine_frame (h r : ℝ) (hf : 2 * (h * h * (r * r)) = 1 + 2 * (h * h)) :
    ∑ b, pure (trineVec h r b) = ((1 + 2 * (h * h) : ℝ) : ℂ) • (1 : Matrix (Fin 2) (Fin 2) ℂ) := by
  have hf' : 2 * ((h : ℂ) * h * (r * r)) = 1 + 2 * (h * h) := by exact_mod_cast hf
  rw [trineVec_eq, Fin.sum_univ_three]
  simp only [Matrix.cons_val, pure_vec2, Matrix.one_fin_two, Matrix.smul_of, Matrix.smul_cons, Matrix.smul_empty,
    Matrix.of_add_of, Matrix.cons_add_cons, Matrix.empty_add_empty, smul_eq_mul, RCLike.star_def, map_neg, map_mul,
    map_one, map_zero, Complex.conj_ofReal]
  -- the entries `(0,0)`, `(0,1)`, `(1,0)`, `(1,1)`
  congr 5 <;> push_cast
  · ring
  · ring
  · ring
  · linear_combination hf'

theorem pbrStates_two (c s : ℂ) :
    pbrStates 2 c s = [[c * c, c * s, s * c, s * s], [c * c, -(c * s), s * c, -(s * s)],
      [c * c, c * s, -(s * c), -(s * s)], [c * c, -(c * s), -(s * c), s * s]] := by
  show [[c * c, c * s, s * c, s * s], [c * c, c * -s, s * c, s * -s],
      [c * c, c * s, -s * c, -s * s], [c * c, c * -s, -s * c, -s * -s]] = _
  simp only [mul_neg, neg_mul, neg_neg]

theorem pbrVec_one (c s : ℝ) : pbrVec 1 c s = ![![(c : ℂ), s], ![(c : ℂ), -s]] := by
  funext b i
  fin_cases b <;> fin_cases i <;> rfl

/-- the amplitudes `(c², cs, sc, s²)` of `ψ₀ ⊗ ψ₀` -/
def pbrAmp (c s : ℝ) : Fin 4 → ℂ := ![c * c, c * s, s * c, s * s]

theorem pbrVec_two (c s : ℝ) : pbrVec 2 c s = twist had4 (pbrAmp c s) := by
  funext b i
  rw [pbrVec, pbrStates_two]
  fin_cases b <;> fin_cases i <;> rfl

/-- its Hadamard sign patterns are the measurement basis -/
noncomputable def pbrXi (w : ℂ) : Fin 4 → ℂ := ![1 / 2, w / 2, (starRingEnd ℂ) w / 2, -1 / 2]

theorem star_pbrXi (w : ℂ) : star (pbrXi w) = pbrXi ((starRingEnd ℂ) w) := by
  funext i
  fin_cases i <;>
    simp only [pbrXi, Pi.star_apply, RCLike.star_def, map_div₀, map_one, map_neg, Complex.conj_conj,
      Complex.conj_ofNat, Fin.zero_eta, Fin.mk_one, Fin.reduceFinMk, Matrix.cons_val]

theorem pbrXi_flat (w : ℂ) (hw : w * (starRingEnd ℂ) w = 1) (i : Fin 4) :
    ((4 : ℤ) : ℂ) * (pbrXi w i * star (pbrXi w) i) = 1 := by
  rw [star_pbrXi, Int.cast_ofNat]
  fin_cases i
  all_goals simp only [pbrXi, Complex.conj_conj, Fin.zero_eta, Fin.mk_one, Fin.reduceFinMk, Matrix.cons_val]
  · norm_num
  · linear_combination hw
  · linear_combination hw
  · norm_num

/-- `⟨ξ, ψ⟩ = ½(c² − s² + cs(w + w̄))` -/
theorem pbrXi_orth (c s : ℝ) (w : ℂ) (h : c * c - s * s + 2 * (c * s) * w.re = 0) :
    star (pbrXi w) ⬝ᵥ pbrAmp c s = 0 := by
  have h' : (c : ℂ) * c - s * s + 2 * (c * s) * ((w + (starRingEnd ℂ) w) / 2) = 0 := by
    rw [← Complex.re_eq_add_conj]; exact_mod_cast h
  rw [star_pbrXi]
  simp only [pbrXi, pbrAmp, dotProduct, Fin.sum_univ_four, Matrix.cons_val, Complex.conj_conj]
  linear_combination (1 / 2 : ℂ) * h'

theorem exists_phase_re (a b : ℝ) (h : |a| ≤ |b|) :
    ∃ w : ℂ, w * (starRingEnd ℂ) w = 1 ∧ a + b * w.re = 0 := by
  have hx : (-a / b) ^ 2 ≤ 1 := by
    rw [sq_le_one_iff_abs_le_one, abs_div, abs_neg]
    exact div_le_one_of_le₀ h (abs_nonneg b)
  refine ⟨⟨-a / b, Real.sqrt (1 - (-a / b) ^ 2)⟩, ?_, ?_⟩
  · rw [Complex.mul_conj, Complex.normSq_mk, Real.mul_self_sqrt (sub_nonneg.mpr hx)]
    push_cast; ring
  · show a + b * (-a / b) = 0
    rcases eq_or_ne b 0 with rfl | hb
    · rw [abs_zero, abs_nonpos_iff] at h
      rw [h]; ring
    · field_simp; ring

theorem abs_cos_le_abs_sin (θ : ℝ) (h1 : Real.pi / 4 ≤ θ) (h2 : θ ≤ 3 * Real.pi / 4) :
    |Real.cos θ| ≤ |Real.sin θ| := by
  have hc : Real.cos (2 * θ) ≤ 0 :=
    Real.cos_nonpos_of_pi_div_two_le_of_le (by linarith) (by linarith)
  rw [← sq_le_sq]
  linarith [Real.cos_two_mul θ, Real.sin_sq_add_cos_sq θ]

end Named

section Families
variable {ι κ : Type*}

section
variable [Fintype ι]

theorem successProb_snoc_zero {k : ℕ} (ρ : Fin (k + 1) → Matrix ι ι ℂ) (p : Fin (k + 1) → ℝ)
    (M : Fin k → Matrix ι ι ℂ) :
    Toq.Rand.successProb ρ p (Fin.snoc (α := fun _ => Matrix ι ι ℂ) M 0)
      = Toq.Rand.successProb (fun i : Fin k => ρ i.castSucc) (fun i : Fin k => p i.castSucc) M := by
  unfold Toq.Rand.successProb
  rw [Fin.sum_univ_castSucc, Fin.snoc_last, Matrix.mul_zero, Matrix.trace_zero, Complex.zero_re, mul_zero, add_zero]
  simp only [Fin.snoc_castSucc]

variable [DecidableEq ι]

theorem isPOVM_snoc_zero {k : ℕ} {M : Fin k → Matrix ι ι ℂ} (hM : Toq.Rand.IsPOVM M) :
    Toq.Rand.IsPOVM (Fin.snoc (α := fun _ => Matrix ι ι ℂ) M 0) := by
  constructor
  · refine Fin.lastCases ?_ fun i => ?_
    · rw [Fin.snoc_last]; exact Matrix.PosSemidef.zero
    · rw [Fin.snoc_castSucc]; exact hM.1 i
  · rw [Fin.sum_univ_castSucc, Fin.snoc_last, add_zero]
    simp only [Fin.snoc_castSucc]
    exact hM.2

/-- `M₀` kills `ρ₀` and, since `M₁ = 1 − M₀` kills `ρ₁`, keeps `ρ₁` -/
theorem mul_eq_zero_of_perfect_two {ρ0 ρ1 M0 M1 : Matrix ι ι ℂ} (h0 : ρ0.PosSemidef) (h1 : ρ1.PosSemidef)
    (hM0 : M0.PosSemidef) (hM1 : M1.PosSemidef) (hs : M0 + M1 = 1)
    (t0 : (ρ0 * M0).trace = 0) (t1 : (ρ1 * M1).trace = 0) : ρ0 * ρ1 = 0 := by
  refine h1.isHermitian.mul_eq_zero_of_mul_eq_self hM0.isHermitian (h0.mul_eq_zero_of_trace_mul_eq_zero hM0 t0) ?_
  rw [eq_sub_of_add_eq hs, Matrix.mul_sub, Matrix.mul_one, h1.mul_eq_zero_of_trace_mul_eq_zero hM1 t1, sub_zero]

end

variable [DecidableEq ι]

section
variable [Fintype κ] [Fintype ι]

theorem framePovm_mul (ρ : κ → Matrix ι ι ℂ) (lam : ℝ) (hI : ∀ i, ρ i * ρ i = ρ i) (i : κ) :
    ρ i * framePovm ρ lam i = 0 := by
  unfold framePovm
  rw [Matrix.mul_smul, Matrix.mul_sub, Matrix.mul_one, hI i, sub_self, smul_zero]

end

variable [DecidableEq κ] [Fintype ι]

/-- answer `a` on the support of `ρ_b`, answer `b` off it, never anything else -/
noncomputable def pairPovm (ρ : κ → Matrix ι ι ℂ) (a b : κ) (hb : (ρ b).IsHermitian) : κ → Matrix ι ι ℂ :=
  meAbsorb (fun i => if i = a then hb.suppProj else 0) (1 - hb.suppProj) b

theorem pairPovm_mul (ρ : κ → Matrix ι ι ℂ) (a b : κ) (hab : a ≠ b) (hb : (ρ b).IsHermitian)
    (hO : ρ a * ρ b = 0) (i : κ) : ρ i * pairPovm ρ a b hb i = 0 := by
  simp only [pairPovm, meAbsorb]
  by_cases hia : i = a
  · subst hia
    rw [if_pos rfl, if_neg hab, add_zero, ← hb.mul_pinv, ← Matrix.mul_assoc, hO, Matrix.zero_mul]
  · rw [if_neg hia, zero_add]
    by_cases hib : i = b
    · subst hib
      rw [if_pos rfl, Matrix.mul_sub, Matrix.mul_one, hb.mul_suppProj, sub_self]
    · rw [if_neg hib, Matrix.mul_zero]

variable [Fintype κ]

theorem isPOVM_pairPovm (ρ : κ → Matrix ι ι ℂ) (a b : κ) (hb : (ρ b).IsHermitian) : Toq.Rand.IsPOVM (pairPovm ρ a b hb) :=
  isPOVM_meAbsorb (fun _ => (Toq.Metrics.posSemidef_of_isHermitian_idem hb.suppProj_isHermitian hb.suppProj_idem).ite_zero)
    hb.posSemidef_one_sub_suppProj
    (by rw [Finset.sum_ite_eq' Finset.univ a, if_pos (Finset.mem_univ a), add_sub_cancel]) b

end Families
end Toq.Excl
