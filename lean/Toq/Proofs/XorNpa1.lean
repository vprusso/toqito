import Toq.Proofs.XorTsirelson
/-!
# The level-1 NPA matrix of a vector correlation (C08): behaviour and Gram vectors in the projector basis

toqito's level-1 moment matrix of a game with two answers per player is indexed by the words `1, A_x^0, B_y^0`
(projectors on answer 0) and is tied to the behaviour `K(a,b|x,y)` by `R[1,1] = 1`, `R[A_x^0, B_y^0] = K(0,0|x,y)`,
`R[1, A_x^0] = R[A_x^0, A_x^0] = Σ_b K(0,b|x,y)`, `R[1, B_y^0] = R[B_y^0, B_y^0] = Σ_a K(a,0|x,y)` (for every `y`, resp. `x`:
marginal consistency), `K ≥ 0`, `Σ_{a,b} K = 1`.  From unit vectors `u_x, v_y` with `⟨u_x, v_y⟩ = c[x,y]` the behaviour
`K(a,b|x,y) = (1 + (-1)^{a+b} c[x,y])/4` and the Gram matrix of `1 ↦ e₀`, `A_x^0 ↦ (e₀ + u_x)/2`, `B_y^0 ↦ (e₀ + v_y)/2`
satisfy all of them (`Toq.C08.npa1_feasible_of_tsirelson`); here are the behaviour `corrBeh` with its sums, the vectors `npa1Vec`
with their Gram matrix, and `|⟨u, v⟩| ≤ 1`.
-/

open Matrix
open scoped ComplexOrder MatrixOrder

namespace Toq.Xor

def sgn (a : Fin 2) : ℝ := if a = 0 then 1 else -1

theorem sgn_zero : sgn 0 = 1 := rfl
theorem sgn_one : sgn 1 = -1 := if_neg (by decide)

theorem abs_sgn (a : Fin 2) : |sgn a| = 1 := by unfold sgn; split <;> simp

/-- the behaviour with unbiased marginals and correlators `c` : `K(a,b|x,y) = (1 + (-1)^{a+b} c[x,y]) / 4` -/
noncomputable def corrBeh {X Y : Type*} (c : X → Y → ℝ) (a b : Fin 2) (x : X) (y : Y) : ℝ :=
  (1 + sgn a * sgn b * c x y) / 4

section CorrBeh
variable {X Y : Type*} (c : X → Y → ℝ)

theorem corrBeh_nonneg {x : X} {y : Y} (h : |c x y| ≤ 1) (a b : Fin 2) : 0 ≤ corrBeh c a b x y := by
  have hs : |sgn a * sgn b * c x y| ≤ 1 := by rwa [abs_mul, abs_mul, abs_sgn, abs_sgn, one_mul, one_mul]
  have := (abs_le.mp hs).1
  unfold corrBeh
  linarith

theorem sum_corrBeh_right (a : Fin 2) (x : X) (y : Y) : ∑ b, corrBeh c a b x y = 1 / 2 := by
  simp only [Fin.sum_univ_two, corrBeh, sgn_zero, sgn_one]
  ring

theorem sum_corrBeh_left (b : Fin 2) (x : X) (y : Y) : ∑ a, corrBeh c a b x y = 1 / 2 := by
  simp only [Fin.sum_univ_two, corrBeh, sgn_zero, sgn_one]
  ring

theorem sum_sum_corrBeh (x : X) (y : Y) : ∑ a, ∑ b, corrBeh c a b x y = 1 := by
  rw [Fintype.sum_congr _ _ fun a => sum_corrBeh_right c a x y, Fin.sum_univ_two]
  norm_num

theorem sum_sum_sgn_mul_corrBeh (x : X) (y : Y) : ∑ a, ∑ b, sgn a * sgn b * corrBeh c a b x y = c x y := by
  simp only [Fin.sum_univ_two, corrBeh, sgn_zero, sgn_one]
  ring

end CorrBeh

/-- vectors of the level-1 words in the projector basis: `1 ↦ e₀`, `P_i ↦ (e₀ + w_i)/2` -/
noncomputable def npa1Vec {κ : Type*} {n : Nat} (w : κ → Fin n → ℝ) : Unit ⊕ κ → Unit ⊕ Fin n → ℝ
  | .inl _ => Sum.elim (fun _ => 1) (fun _ => 0)
  | .inr i => Sum.elim (fun _ => 1 / 2) (fun k => w i k / 2)

theorem gram_npa1Vec {κ : Type*} [Fintype κ] {n : Nat} (w : κ → Fin n → ℝ) :
    gram (npa1Vec w) (.inl ()) (.inl ()) = 1 ∧
    (∀ i, gram (npa1Vec w) (.inl ()) (.inr i) = ((1 / 2 : ℝ) : ℂ)) ∧
    ∀ i j, gram (npa1Vec w) (.inr i) (.inr j) = (((1 + ∑ k, w i k * w j k) / 4 : ℝ) : ℂ) := by
  refine ⟨?_, fun i => ?_, fun i j => ?_⟩
  · simp only [gram, npa1Vec, Fintype.sum_sum_type, Sum.elim_inl, Sum.elim_inr, Finset.univ_unique, Finset.sum_singleton,
      mul_one, mul_zero, Finset.sum_const_zero, add_zero, Complex.ofReal_one]
  · simp only [gram, npa1Vec, Fintype.sum_sum_type, Sum.elim_inl, Sum.elim_inr, Finset.univ_unique, Finset.sum_singleton,
      one_mul, zero_mul, Finset.sum_const_zero, add_zero]
  · simp only [gram, npa1Vec, Fintype.sum_sum_type, Sum.elim_inl, Sum.elim_inr, Finset.univ_unique, Finset.sum_singleton]
    congr 1
    have : ∑ k, w i k / 2 * (w j k / 2) = (∑ k, w i k * w j k) / 4 := by
      rw [Finset.sum_div]; exact Finset.sum_congr rfl fun k _ => by ring
    rw [this]; ring

theorem gram_npa1Vec_unit {κ : Type*} [Fintype κ] {n : Nat} (w : κ → Fin n → ℝ) (i : κ) (hi : ∑ k, w i k ^ 2 = 1) :
    gram (npa1Vec w) (.inr i) (.inr i) = ((1 / 2 : ℝ) : ℂ) := by
  rw [(gram_npa1Vec w).2.2 i i]
  simp only [← sq, hi]
  norm_num

theorem abs_inner_le_one {n : Nat} (u v : Fin n → ℝ) (hu : ∑ k, u k ^ 2 = 1) (hv : ∑ k, v k ^ 2 = 1) :
    |∑ k, u k * v k| ≤ 1 := by
  have h := Finset.sum_mul_sq_le_sq_mul_sq Finset.univ u v
  rwa [hu, hv, one_mul, sq_le_one_iff_abs_le_one] at h

end Toq.Xor
