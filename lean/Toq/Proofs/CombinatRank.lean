import Toq.Proofs.Combinat
import Mathlib.GroupTheory.GroupAction.Quotient
import Mathlib.Data.Sym.Card
import Mathlib.Data.Fintype.CardEmbedding
/-!
# C18: traces of the symmetric / antisymmetric projectors for all `d`, `p`; idempotent matrices; the isometry contract

* `trace (symSpec d p) = C(d+p-1, p)`: Burnside's lemma for `Perm (Fin p)` acting on digit vectors `Fin p → Fin d`, whose orbits are
  the multisets of `p` digits (`Sym (Fin d) p`, stars and bars);
* `trace (antiSpec d p) = C(d, p)`: only injective digit vectors have a non-zero diagonal entry, which is `1/p!`;
* rank = trace for idempotent matrices over a field, which turns the traces into ranks; an idempotent below another with the same trace is
  equal to it, which gives the contract of the `partial=True` forms (`VᵀV = 1`, `P V = V`, `rank P` columns imply `V Vᵀ = P`) and that each
  projector is the only symmetric idempotent of its rank with its covariance (`charProj_unique`).
-/
open Equiv Matrix

namespace Toq.Combinat
open Toq.Combinat.Spec

section traces
variable {d p : ℕ}

theorem trace_permMat (σ : Perm (Fin p)) :
    (permMat d p σ).trace = ((Finset.univ.filter (fun x : Fin p → Fin d => x = x ∘ σ)).card : ℚ) := by
  show ∑ x : Fin p → Fin d, (if x = x ∘ σ then (1 : ℚ) else 0) = _
  rw [Finset.sum_boole]

section burnside
attribute [local instance] arrowAction

def digitSym (x : Fin p → Fin d) : Sym (Fin d) p :=
  ⟨Finset.univ.val.map x, by rw [Multiset.card_map, Finset.card_val, Finset.card_univ, Fintype.card_fin]⟩

theorem digitSym_comp (x : Fin p → Fin d) (σ : Perm (Fin p)) : digitSym (x ∘ σ) = digitSym x :=
  Subtype.ext (by
    show Finset.univ.val.map (x ∘ σ) = Finset.univ.val.map x
    rw [← Multiset.map_map, Multiset.map_univ_val_equiv])

theorem exists_perm_of_digitSym_eq (x y : Fin p → Fin d) (h : digitSym x = digitSym y) :
    ∃ τ : Perm (Fin p), y ∘ τ = x := by
  have hm : Finset.univ.val.map x = Finset.univ.val.map y := congrArg Subtype.val h
  -- each digit `v` occurs equally often in the two multisets, so the fibres over `v` have the same size
  have hc : ∀ v : Fin d, Fintype.card {a // x a = v} = Fintype.card {a // y a = v} := fun v => by
    simpa only [Fintype.card_subtype, Finset.card_def, Finset.filter_val, Multiset.count_map, eq_comm (a := v)]
      using congrArg (Multiset.count v) hm
  exact ⟨Equiv.ofFiberEquiv fun v => Fintype.equivOfCardEq (hc v), funext (Equiv.ofFiberEquiv_map _)⟩

theorem digitSym_surjective : Function.Surjective (digitSym (d := d) (p := p)) := by
  rintro ⟨m, hm⟩
  obtain ⟨l, rfl⟩ := Quot.exists_rep m
  have hl : l.length = p := hm
  subst hl
  refine ⟨fun i => l.get i, ?_⟩
  apply Subtype.ext
  show Finset.univ.val.map (fun i => l.get i) = (l : Multiset (Fin d))
  rw [Fin.univ_val_map, List.ofFn_get]

-- for the `Fintype` instances on the orbits and on the fixed points
open Classical

noncomputable def orbitsEquivSym :
    Quotient (MulAction.orbitRel (Perm (Fin p)) (Fin p → Fin d)) ≃ Sym (Fin d) p :=
  Equiv.ofBijective
    (Quotient.lift digitSym (by
      rintro x y ⟨σ, rfl⟩
      exact digitSym_comp y σ⁻¹))
    (by
      constructor
      · rintro ⟨x⟩ ⟨y⟩ h
        apply Quotient.sound
        obtain ⟨τ, rfl⟩ := exists_perm_of_digitSym_eq x y h
        exact ⟨τ⁻¹, rfl⟩
      · intro s
        obtain ⟨x, hx⟩ := digitSym_surjective s
        exact ⟨Quotient.mk _ x, hx⟩)

theorem card_fixedBy (σ : Perm (Fin p)) :
    Fintype.card (MulAction.fixedBy (Fin p → Fin d) σ)
      = (Finset.univ.filter (fun x : Fin p → Fin d => x = x ∘ σ)).card := by
  rw [← Fintype.card_subtype]
  apply Fintype.card_congr
  apply Equiv.subtypeEquivRight
  intro x
  rw [MulAction.mem_fixedBy]
  exact Equiv.comp_symm_eq σ x x

theorem sum_card_fixed :
    ∑ σ : Perm (Fin p), (Finset.univ.filter (fun x : Fin p → Fin d => x = x ∘ σ)).card
      = Nat.multichoose d p * p.factorial := by
  have B := MulAction.sum_card_fixedBy_eq_card_orbits_mul_card_group (Perm (Fin p)) (Fin p → Fin d)
  rw [Fintype.card_congr orbitsEquivSym, Sym.card_sym_eq_multichoose, Fintype.card_fin, Fintype.card_perm,
    Fintype.card_fin] at B
  rw [← B]
  exact Finset.sum_congr rfl (fun σ _ => (card_fixedBy σ).symm)

end burnside

theorem trace_symSpec : (symSpec d p).trace = (Nat.choose (d + p - 1) p : ℚ) := by
  unfold symSpec
  rw [Matrix.trace_smul, Matrix.trace_sum]
  simp only [trace_permMat]
  rw [← Nat.cast_sum, sum_card_fixed, Nat.multichoose_eq, smul_eq_mul]
  push_cast
  rw [mul_comm, mul_assoc, mul_inv_cancel₀ cast_factorial_ne_zero, mul_one]

theorem antiSpec_diag_of_injective (x : Fin p → Fin d) (hx : Function.Injective x) :
    antiSpec d p x x = (p.factorial : ℚ)⁻¹ := by
  rw [antiSpec_eq_charProj, charProj_apply, Finset.sum_eq_single (1 : Perm (Fin p))]
  · rw [map_one, Units.val_one, Int.cast_one, one_mul, Perm.coe_one, Function.comp_id, if_pos rfl, mul_one]
  · intro σ _ hσ
    rw [if_neg fun h : x = x ∘ σ => hσ (Equiv.ext fun a => (hx (congrFun h a)).symm), mul_zero]
  · intro h
    exact absurd (Finset.mem_univ _) h

open Classical in
theorem trace_antiSpec : (antiSpec d p).trace = (Nat.choose d p : ℚ) := by
  have h1 : (antiSpec d p).trace
      = ∑ x : Fin p → Fin d, if Function.Injective x then (p.factorial : ℚ)⁻¹ else 0 := by
    unfold Matrix.trace
    apply Finset.sum_congr rfl
    intro x _
    rw [Matrix.diag_apply]
    split_ifs with hx
    · exact antiSpec_diag_of_injective x hx
    · exact antiSpec_apply_of_not_injective x x hx
  rw [h1, ← Finset.sum_filter, Finset.sum_const, ← Fintype.card_subtype,
    Fintype.card_congr (Equiv.subtypeInjectiveEquivEmbedding (Fin p) (Fin d)), Fintype.card_embedding_eq,
    Fintype.card_fin, Fintype.card_fin, Nat.descFactorial_eq_factorial_mul_choose, nsmul_eq_mul]
  push_cast
  rw [mul_comm, ← mul_assoc, inv_mul_cancel₀ cast_factorial_ne_zero, one_mul]

end traces

/-! ### Idempotent matrices over a field

General linear algebra, nothing of the model. -/

section idempotent
variable {K : Type} [Field K] {ι : Type} [Fintype ι]

theorem mem_range_iff_of_idempotent (P : Matrix ι ι K) (hP : P * P = P) (v : ι → K) :
    v ∈ LinearMap.range P.mulVecLin ↔ P.mulVec v = v := by
  constructor
  · rintro ⟨w, rfl⟩
    show P.mulVec (P.mulVec w) = P.mulVec w
    rw [Matrix.mulVec_mulVec, hP]
  · intro h
    exact ⟨v, h⟩

variable [DecidableEq ι]

theorem isIdempotentElem_toLin' {P : Matrix ι ι K} (h : P * P = P) : IsIdempotentElem (Matrix.toLin' P) := by
  rw [IsIdempotentElem, Module.End.mul_eq_comp, ← Matrix.toLin'_mul, h]

/-- the trace of a projection is the dimension of its range (`LinearMap.IsProj.trace`) -/
theorem rank_eq_trace_of_idempotent_field (P : Matrix ι ι K) (h : P * P = P) : (P.rank : K) = P.trace := by
  -- supplied as local instances: instance search would look for them among the algebra instances
  have : Module.Free K (LinearMap.range (Matrix.toLin' P)) := Module.Free.of_divisionRing K _
  have : Module.Free K (LinearMap.ker (Matrix.toLin' P)) := Module.Free.of_divisionRing K _
  rw [Matrix.rank, ← Matrix.toLin'_apply', ← Matrix.trace_toLin'_eq,
    (LinearMap.IsIdempotentElem.isProj_range _ (isIdempotentElem_toLin' h)).trace]

variable [CharZero K]

theorem rank_eq_of_trace_eq {P : Matrix ι ι K} (h : P * P = P) {t : ℕ} (ht : P.trace = t) : P.rank = t :=
  Nat.cast_injective (R := K) ((rank_eq_trace_of_idempotent_field P h).trans ht)

theorem eq_zero_of_idempotent_of_trace (P : Matrix ι ι K) (h : P * P = P) (ht : P.trace = 0) : P = 0 := by
  have h0 : P.rank = 0 := rank_eq_of_trace_eq h (ht.trans Nat.cast_zero.symm)
  rw [Matrix.rank, Submodule.finrank_eq_zero, LinearMap.range_eq_bot] at h0
  exact (LinearEquiv.map_eq_zero_iff Matrix.toLin').mp h0

/-- the difference `P - Q` is an idempotent of trace `0` -/
theorem idempotent_eq_of_mul_of_trace {P Q : Matrix ι ι K} (hP : P * P = P) (hQ : Q * Q = Q)
    (hPQ : P * Q = Q) (hQP : Q * P = Q) (ht : Q.trace = P.trace) : Q = P := by
  have hid : (P - Q) * (P - Q) = P - Q := by
    rw [Matrix.sub_mul, Matrix.mul_sub, Matrix.mul_sub, hP, hPQ, hQP, hQ, sub_self, sub_zero]
  have := eq_zero_of_idempotent_of_trace _ hid (by rw [Matrix.trace_sub, ht, sub_self])
  exact (sub_eq_zero.mp this).symm

/-- `V Vᵀ` is an idempotent below `P` with the same trace (the property is `Toq.C18.isometry_contract_of_residuals`) -/
theorem isometry_of_residuals {κ : Type} [Fintype κ] [DecidableEq κ] (P : Matrix ι ι K) (V : Matrix ι κ K) (hT : Pᵀ = P)
    (hP : P * P = P) (hV : Vᵀ * V = 1) (hPV : P * V = V) (hk : Fintype.card κ = P.rank) : V * Vᵀ = P := by
  have hVP : Vᵀ * P = Vᵀ := by rw [← hT, ← Matrix.transpose_mul, hPV]
  refine idempotent_eq_of_mul_of_trace hP ?_ ?_ ?_ ?_
  · rw [Matrix.mul_assoc, ← Matrix.mul_assoc Vᵀ, hV, Matrix.one_mul]
  · rw [← Matrix.mul_assoc, hPV]
  · rw [Matrix.mul_assoc, hVP]
  · rw [Matrix.trace_mul_comm, hV, Matrix.trace_one, ← rank_eq_trace_of_idempotent_field P hP, hk]

end idempotent

/-! The projectors are rational matrices; what `orth` returns lives in a field of characteristic `0`.  `castMat` reads a rational projector
there, so that the isometry contract can be stated for it. -/

section castMat
variable {K : Type} [Field K] [CharZero K] {ι : Type}

/-- `P` with entries read in `K` -/
def castMat (K : Type) [Field K] [CharZero K] {ι : Type} (P : Matrix ι ι ℚ) : Matrix ι ι K := P.map (Rat.castHom K)

theorem castMat_transpose (P : Matrix ι ι ℚ) : (castMat K P)ᵀ = castMat K Pᵀ := Matrix.transpose_map

variable [Fintype ι]

theorem castMat_mul (P Q : Matrix ι ι ℚ) : castMat K (P * Q) = castMat K P * castMat K Q := Matrix.map_mul

theorem trace_castMat (P : Matrix ι ι ℚ) : (castMat K P).trace = (P.trace : K) :=
  (AddMonoidHom.map_trace (Rat.castHom K) P).symm

variable [DecidableEq ι]

theorem rank_castMat (P : Matrix ι ι ℚ) (hP : P * P = P) : (castMat K P).rank = P.rank := by
  refine rank_eq_of_trace_eq (by rw [← castMat_mul, hP]) ?_
  rw [trace_castMat, ← rank_eq_trace_of_idempotent_field P hP, Rat.cast_natCast]

theorem isometry_of_residuals_cast {κ : Type} [Fintype κ] [DecidableEq κ] (P : Matrix ι ι ℚ) (hT : Pᵀ = P) (hP : P * P = P)
    (V : Matrix ι κ K) (hV : Vᵀ * V = 1) (hPV : castMat K P * V = V) (hk : Fintype.card κ = P.rank) : V * Vᵀ = castMat K P :=
  isometry_of_residuals (castMat K P) V (by rw [castMat_transpose, hT]) (by rw [← castMat_mul, hP]) hV hPV
    (by rw [rank_castMat P hP]; exact hk)

end castMat

section unique
variable {d p : ℕ}

/-- such a `Q` lies below `charProj χ` and has the same trace -/
theorem charProj_unique (χ : Perm (Fin p) →* ℤˣ) (Q : Matrix (Fin p → Fin d) (Fin p → Fin d) ℚ) (hT : Qᵀ = Q) (hQ : Q * Q = Q)
    (hcov : ∀ τ : Perm (Fin p), permMat d p τ * Q = ((χ τ : ℤ) : ℚ) • Q) (hr : Q.rank = (charProj d p χ).rank) :
    Q = charProj d p χ := by
  have hPQ := charProj_mul_of_covariant χ Q hcov
  refine idempotent_eq_of_mul_of_trace (charProj_mul_self χ) hQ hPQ ?_ ?_
  · rw [← charProj_transpose χ, ← hT, ← Matrix.transpose_mul, hPQ]
  · rw [← rank_eq_trace_of_idempotent_field _ (charProj_mul_self χ), ← rank_eq_trace_of_idempotent_field Q hQ, hr]

end unique

/-! The property's finite table of pairs `(d, p)`: instances of `traceN_model`. -/

section table
open Toq.Perms Toq.C01

theorem rankTable_pos : ∀ dp ∈ rankTable, 0 < dp.1 := by decide

theorem sym_trace_table : ∀ dp ∈ rankTable,
    traceN (dp.1 ^ dp.2) (symRefN dp.1 dp.2) = (Nat.factorial dp.2 * Nat.choose (dp.1 + dp.2 - 1) dp.2 : ℕ) :=
  fun dp h => by rw [traceN_model modelMat_symRefN trace_symSpec, Nat.cast_mul]

theorem anti_trace_table : ∀ dp ∈ rankTable,
    traceN (dp.1 ^ dp.2) (antisymRefN dp.1 dp.2) = (Nat.factorial dp.2 * Nat.choose dp.1 dp.2 : ℕ) :=
  fun dp h => by rw [traceN_model modelMat_antisymRefN trace_antiSpec, Nat.cast_mul]

end table

theorem rank_factorial_smul {d p : ℕ} (S : Matrix (Fin p → Fin d) (Fin p → Fin d) ℚ) :
    ((p.factorial : ℚ) • S).rank = S.rank :=
  Matrix.rank_smul_of_mem_nonZeroDivisors S (mem_nonZeroDivisors_of_ne_zero cast_factorial_ne_zero)

theorem binom_eq_choose : ∀ n k : ℕ, binom n k = Nat.choose n k
  | _, 0 => by simp [binom]
  | 0, k + 1 => by simp [binom]
  | n + 1, k + 1 => by rw [binom, binom_eq_choose n k, binom_eq_choose n (k + 1), Nat.choose_succ_succ]

end Toq.Combinat
