import Toq.Model.EntangleSk
import Toq.Spec.EntangleSk
import Toq.Proofs.Cert
import Toq.Proofs.Rank
import Toq.Proofs.Sep
import Mathlib.Algebra.Order.Chebyshev
import Mathlib.Analysis.InnerProductSpace.PiL2
/-!
# Proofs for the S(k) operator norm certificates (C14)

Both relaxations have a slack `λ·1 − X − Φ(Y)` with a map `Φ` that is self-adjoint for the trace pairing and positive on the projectors of
the admitted vectors (`Φ` = partial transpose for product vectors, `Φ = redK k` for Schmidt rank `≤ k`); weak duality is proved once for such
`Φ` (`expect_le_of_dual`).  The executable checkers work on flat indices `a·dB + b`; `Toq.Sep.unflat` (C15) reads their matrices on pairs.
-/

open Matrix
open scoped ComplexOrder MatrixOrder Kronecker InnerProductSpace

set_option linter.unusedSectionVars false

namespace Toq.Entangle
open Toq.Sep

section Pairs
variable {m n : Type} [Fintype m] [Fintype n] [DecidableEq m] [DecidableEq n]

/-! `pT`, `ptrBm`, `realign` of the specification are `Matrix.pTR`, `Matrix.ptrR`, `Matrix.realignment` of `Toq/Proofs/Bipartite.lean`, and
`tprod x y` is its product vector `fun p => x p.1 * y p.2`; `ketbra`, `vnorm2` are `proj`, `nsq` of `Toq.Sep`, and the executable operators of C15
(`Toq.Sep.ptB`, `ptrBE`) are read through `pT_eq_ptBM`, `ptrBm_eq_ptrB`.  The facts about them are those of these modules. -/

theorem ketbra_eq_proj {ι : Type*} (v : ι → ℂ) : ketbra v = proj v := rfl
theorem vnorm2_eq_nsq {ι : Type*} [Fintype ι] (v : ι → ℂ) : vnorm2 v = nsq v := rfl
theorem pT_eq_ptBM (X : Matrix (m × n) (m × n) ℂ) : pT X = ptBM X := rfl
theorem ptrBm_eq_ptrB (X : Matrix (m × n) (m × n) ℂ) : ptrBm X = ptrB X := rfl
theorem pT_eq (X : Matrix (m × n) (m × n) ℂ) : pT X = pTR X := rfl
theorem ptrBm_eq (X : Matrix (m × n) (m × n) ℂ) : ptrBm X = ptrR X := rfl
theorem realign_eq_realignment {μ ν R : Type} (X : Matrix (μ × ν) (μ × ν) R) : realign X = realignment X := rfl

section Expect
variable {ι : Type} [Fintype ι] [DecidableEq ι]

theorem expect_eq_trace (X : Matrix ι ι ℂ) (v : ι → ℂ) : expect X v = (X * ketbra v).trace.re :=
  congrArg Complex.re (Matrix.trace_mul_vecMulVec_star X v).symm

theorem expect_nonneg {X : Matrix ι ι ℂ} (hX : X.PosSemidef) (v : ι → ℂ) : 0 ≤ expect X v :=
  (Complex.nonneg_iff.mp (hX.dotProduct_mulVec_nonneg v)).1

theorem expect_add (X Z : Matrix ι ι ℂ) (v : ι → ℂ) : expect (X + Z) v = expect X v + expect Z v := by
  unfold expect; rw [Matrix.add_mulVec, dotProduct_add, Complex.add_re]

theorem expect_sub (X Z : Matrix ι ι ℂ) (v : ι → ℂ) : expect (X - Z) v = expect X v - expect Z v := by
  unfold expect; rw [Matrix.sub_mulVec, dotProduct_sub, Complex.sub_re]

theorem expect_real_smul (c : ℝ) (X : Matrix ι ι ℂ) (v : ι → ℂ) : expect ((c : ℂ) • X) v = c * expect X v := by
  unfold expect; rw [Matrix.smul_mulVec, dotProduct_smul, smul_eq_mul, Complex.re_ofReal_mul]

theorem expect_one (v : ι → ℂ) : expect (1 : Matrix ι ι ℂ) v = vnorm2 v := by
  unfold expect; rw [Matrix.one_mulVec, vnorm2_eq_nsq, nsq_eq_re]

theorem expect_smul (X : Matrix ι ι ℂ) (c : ℂ) (v : ι → ℂ) : expect X (c • v) = Complex.normSq c * expect X v := by
  unfold expect
  rw [Matrix.mulVec_smul, star_smul, smul_dotProduct, dotProduct_smul, smul_eq_mul, smul_eq_mul, ← mul_assoc,
    Complex.star_def, mul_comm ((starRingEnd ℂ) c) c, Complex.mul_conj, Complex.re_ofReal_mul]

/-- weak duality: `⟨v|Φ(Y)|v⟩ = tr(Y Φ(|v⟩⟨v|)) ≥ 0` -/
theorem expect_le_of_dual {Φ : Matrix ι ι ℂ → Matrix ι ι ℂ} (hadj : ∀ Y M, (Φ Y * M).trace = (Y * Φ M).trace)
    {X Y : Matrix ι ι ℂ} {lam : ℝ} {v : ι → ℂ} (hY : Y.PosSemidef) (hv : (Φ (ketbra v)).PosSemidef)
    (hS : 0 ≤ expect ((lam : ℂ) • (1 : Matrix ι ι ℂ) - X - Φ Y) v) : expect X v ≤ lam * vnorm2 v := by
  have hΦ : 0 ≤ expect (Φ Y) v := by
    rw [expect_eq_trace, hadj]
    exact psd_trace_mul_nonneg hY hv
  rw [expect_sub, expect_sub, expect_real_smul, expect_one] at hS
  exact sub_nonneg.mp (hS.trans (sub_le_self _ hΦ))

end Expect

theorem vecMulVec_tprod (x x' : m → ℂ) (y y' : n → ℂ) :
    vecMulVec (tprod x y) (star (tprod x' y')) = vecMulVec x (star x') ⊗ₖ vecMulVec y (star y') :=
  vecMulVec_mul_star_mul x x' y y'

theorem ketbra_tprod (x : m → ℂ) (y : n → ℂ) : ketbra (tprod x y) = ketbra x ⊗ₖ ketbra y := vecMulVec_tprod x x y y

theorem pT_ketbra_tprod_posSemidef (x : m → ℂ) (y : n → ℂ) : (pT (ketbra (tprod x y))).PosSemidef :=
  posSemidef_pTR_vecMulVec_mul x y

theorem trace_redK_mul (k : ℕ) (Y M : Matrix (m × n) (m × n) ℂ) : (redK k Y * M).trace = (Y * redK k M).trace := by
  unfold redK
  simp only [ptrBm_eq]
  rw [Matrix.sub_mul, Matrix.mul_sub, Matrix.trace_sub, Matrix.trace_sub, Matrix.smul_mul, Matrix.mul_smul, Matrix.trace_smul,
    Matrix.trace_smul, trace_kronecker_one_mul, Matrix.trace_mul_comm Y (ptrR M ⊗ₖ 1), trace_kronecker_one_mul,
    Matrix.trace_mul_comm (ptrR Y)]

theorem normSq_sum_le {k : ℕ} (z : Fin k → ℂ) : Complex.normSq (∑ i, z i) ≤ k * ∑ i, Complex.normSq (z i) := by
  have h1 : ‖∑ i, z i‖ ≤ ∑ i, ‖z i‖ := norm_sum_le _ _
  have h2 := sq_sum_le_card_mul_sum_sq (s := (Finset.univ : Finset (Fin k))) (f := fun i => ‖z i‖)
  rw [Finset.card_univ, Fintype.card_fin] at h2
  simp only [Complex.normSq_eq_norm_sq]
  exact (pow_le_pow_left₀ (norm_nonneg _) h1 2).trans h2

theorem ketbra_sum_le {ι : Type*} [Fintype ι] [DecidableEq ι] {k : ℕ} (t : Fin k → ι → ℂ) :
    ((k : ℂ) • ∑ i, ketbra (t i) - ketbra (∑ i, t i)).PosSemidef := by
  have hs : ((k : ℂ) • ∑ i, ketbra (t i)).PosSemidef :=
    (posSemidef_sum _ fun i _ => proj_posSemidef (t i)).smul (Nat.cast_nonneg k)
  refine PosSemidef.of_dotProduct_mulVec_nonneg (hs.1.sub (proj_posSemidef _).1) fun w => ?_
  rw [Matrix.sub_mulVec, dotProduct_sub, Matrix.smul_mulVec, dotProduct_smul, Matrix.sum_mulVec, dotProduct_sum]
  simp only [ketbra_eq_proj, quad_proj]
  rw [star_sum, sum_dotProduct, smul_eq_mul, ← Complex.ofReal_sum, ← Complex.ofReal_natCast, ← Complex.ofReal_mul, ← Complex.ofReal_sub]
  exact Complex.zero_le_real.mpr (sub_nonneg.mpr (normSq_sum_le _))

theorem ketbra_sum {ι κ : Type*} [Fintype κ] (t : κ → ι → ℂ) : ketbra (∑ i, t i) = ∑ i, ∑ j, vecMulVec (t i) (star (t j)) := by
  ext a b
  simp only [ketbra, vecMulVec_apply, Finset.sum_apply, Pi.star_apply, star_sum, Matrix.sum_apply, Finset.sum_mul_sum]

theorem ptrR_vecMulVec_tprod (x x' : m → ℂ) (y y' : n → ℂ) :
    ptrR (vecMulVec (tprod x y) (star (tprod x' y'))) = (star y' ⬝ᵥ y) • vecMulVec x (star x') := by
  rw [vecMulVec_tprod, ptrR_kronecker, trace_vecMulVec, dotProduct_comm]

theorem ptrBm_ketbra_sum {k : ℕ} (x : Fin k → m → ℂ) (y : Fin k → n → ℂ) (hy : ∀ i j, i ≠ j → star (y i) ⬝ᵥ y j = 0) :
    ptrBm (ketbra (∑ i, tprod (x i) (y i))) = ∑ i, ((vnorm2 (y i) : ℝ) : ℂ) • ketbra (x i) := by
  rw [ketbra_sum, ptrBm_eq, ptrR_sum]
  refine Finset.sum_congr rfl fun i _ => ?_
  -- of the terms `tr_B |x_i⊗y_i⟩⟨x_j⊗y_j| = ⟨y_j, y_i⟩ |x_i⟩⟨x_j|` only `j = i` survives
  rw [ptrR_sum, Finset.sum_eq_single i (fun j _ hji => ?_) (fun h => absurd (Finset.mem_univ i) h)]
  · rw [ptrR_vecMulVec_tprod, vnorm2_eq_nsq, ← star_dotProduct_self]
    rfl
  · rw [ptrR_vecMulVec_tprod, hy j i hji, zero_smul]

theorem vnorm2_smul_one_sub_ketbra_posSemidef (y : n → ℂ) :
    (((vnorm2 y : ℝ) : ℂ) • (1 : Matrix n n ℂ) - ketbra y).PosSemidef := by
  have := reductionL_pos (n := n) y
  rwa [reductionL_apply, trace_proj] at this

theorem redK_ketbra_posSemidef (k : ℕ) (v : m × n → ℂ) (hv : SchmidtLE k v) : (redK k (ketbra v)).PosSemidef := by
  obtain ⟨x, y, hy, rfl⟩ := hv
  -- `ρ_A ⊗ 1 = Σ_i |x_i⟩⟨x_i| ⊗ ‖y_i‖²·1`, and in each term `‖y_i‖²·1 = (‖y_i‖²·1 − |y_i⟩⟨y_i|) + |y_i⟩⟨y_i|`
  have hA : ptrBm (ketbra (∑ i, tprod (x i) (y i))) ⊗ₖ (1 : Matrix n n ℂ)
      = ∑ i, ketbra (x i) ⊗ₖ (((vnorm2 (y i) : ℝ) : ℂ) • (1 : Matrix n n ℂ) - ketbra (y i)) + ∑ i, ketbra (tprod (x i) (y i)) := by
    rw [ptrBm_ketbra_sum x y hy, sum_kronecker, ← Finset.sum_add_distrib]
    refine Finset.sum_congr rfl fun i _ => ?_
    rw [ketbra_tprod, ← Matrix.kronecker_add, sub_add_cancel, Matrix.smul_kronecker, Matrix.kronecker_smul]
  have hD : (∑ i, ketbra (x i) ⊗ₖ (((vnorm2 (y i) : ℝ) : ℂ) • (1 : Matrix n n ℂ) - ketbra (y i))).PosSemidef :=
    posSemidef_sum _ fun i _ => (proj_posSemidef (x i)).kronecker (vnorm2_smul_one_sub_ketbra_posSemidef (y i))
  unfold redK
  rw [hA, smul_add, add_sub_assoc]
  exact (hD.smul (Nat.cast_nonneg k)).add (ketbra_sum_le _)

theorem schmidtLE_one_iff (v : m × n → ℂ) : SchmidtLE 1 v ↔ ∃ x y, v = tprod x y := by
  constructor
  · rintro ⟨x, y, _, rfl⟩
    exact ⟨x 0, y 0, by simp⟩
  · rintro ⟨x, y, rfl⟩
    refine ⟨fun _ => x, fun _ => y, fun i j hij => absurd (Subsingleton.elim i j) hij, by simp⟩

theorem tprod_smul_left (c : ℂ) (x : m → ℂ) (y : n → ℂ) : tprod (c • x) y = c • tprod x y := by
  ext p; simp [tprod, mul_assoc]

theorem SchmidtLE.smul {k : ℕ} {v : m × n → ℂ} (h : SchmidtLE k v) (c : ℂ) : SchmidtLE k (c • v) := by
  obtain ⟨x, y, hy, rfl⟩ := h
  refine ⟨fun i => c • x i, y, hy, ?_⟩
  rw [Finset.smul_sum]
  exact Finset.sum_congr rfl fun i _ => (tprod_smul_left c (x i) (y i)).symm

theorem tprod_zero_left (y : n → ℂ) : tprod (0 : m → ℂ) y = 0 := by
  ext p; exact zero_mul _

theorem SchmidtLE.succ {k : ℕ} {v : m × n → ℂ} (h : SchmidtLE k v) : SchmidtLE (k + 1) v := by
  obtain ⟨x, y, hy, rfl⟩ := h
  refine ⟨Fin.snoc (α := fun _ => m → ℂ) x 0, Fin.snoc (α := fun _ => n → ℂ) y 0, fun i j hij => ?_, ?_⟩
  · cases i using Fin.lastCases with
    | last => rw [Fin.snoc_last, star_zero, zero_dotProduct]
    | cast i =>
      cases j using Fin.lastCases with
      | last => rw [Fin.snoc_last, dotProduct_zero]
      | cast j =>
        rw [Fin.snoc_castSucc, Fin.snoc_castSucc]
        exact hy i j fun e => hij (congrArg Fin.castSucc e)
  · rw [Fin.sum_univ_castSucc]
    simp only [Fin.snoc_castSucc, Fin.snoc_last, tprod_zero_left, add_zero]

theorem SchmidtLE.mono {k k' : ℕ} {v : m × n → ℂ} (h : SchmidtLE k v) (hk : k ≤ k') : SchmidtLE k' v :=
  Nat.le_induction h (fun _ _ ih => ih.succ) k' hk

theorem rayleigh_mem_skValues (k : ℕ) (X : Matrix (m × n) (m × n) ℂ) (v : m × n → ℂ) (hv : SchmidtLE k v)
    (hpos : 0 < vnorm2 v) : expect X v / vnorm2 v ∈ skValues k X := by
  set c : ℝ := (Real.sqrt (vnorm2 v))⁻¹ with hc
  have hcc : Complex.normSq (c : ℂ) = (vnorm2 v)⁻¹ := by
    rw [Complex.normSq_ofReal, hc, ← mul_inv, Real.mul_self_sqrt hpos.le]
  refine ⟨(c : ℂ) • v, hv.smul _, ?_, ?_⟩
  · rw [vnorm2_eq_nsq, nsq_smul, hcc]
    exact inv_mul_cancel₀ hpos.ne'
  · rw [expect_smul, hcc]; ring

theorem skValues_le_of_dual {k : ℕ} {Φ : Matrix (m × n) (m × n) ℂ → Matrix (m × n) (m × n) ℂ}
    (hadj : ∀ Y M, (Φ Y * M).trace = (Y * Φ M).trace) (hpos : ∀ v, SchmidtLE k v → (Φ (ketbra v)).PosSemidef)
    {X Y : Matrix (m × n) (m × n) ℂ} {lam : ℝ} (hY : Y.PosSemidef)
    (hS : ((lam : ℂ) • (1 : Matrix (m × n) (m × n) ℂ) - X - Φ Y).PosSemidef) : ∀ r ∈ skValues k X, r ≤ lam := by
  rintro r ⟨v, hv, hn, rfl⟩
  have := expect_le_of_dual hadj hY (hpos v hv) (expect_nonneg hS v)
  rwa [hn, mul_one] at this

theorem pT_ketbra_posSemidef_of_schmidtLE_one (v : m × n → ℂ) (hv : SchmidtLE 1 v) : (pT (ketbra v)).PosSemidef := by
  obtain ⟨x, y, rfl⟩ := (schmidtLE_one_iff v).mp hv
  exact pT_ketbra_tprod_posSemidef x y

theorem rank_le_of_schmidtLE {k : ℕ} (v : m × n → ℂ) (h : SchmidtLE k v) : (ampOf v).rank ≤ k := by
  obtain ⟨x, y, _, rfl⟩ := h
  have e : ampOf (∑ i, tprod (x i) (y i)) = (Matrix.of fun a i => x i a) * (Matrix.of fun i b => y i b) := by
    ext a b
    simp only [ampOf, tprod, Matrix.mul_apply, Finset.sum_apply, Matrix.of_apply]
  rw [e]
  exact Matrix.rank_mul_le_inner _ _

theorem schmidtLE_of_rank_le {k : ℕ} (v : m × n → ℂ) (h : (ampOf v).rank ≤ k) : SchmidtLE k v := by
  classical
  set A := ampOf v with hA
  -- the row space of `A` inside `EuclideanSpace ℂ n`, where orthonormal bases live; its dimension is the rank
  let L : (n → ℂ) ≃ₗ[ℂ] EuclideanSpace ℂ n := (WithLp.linearEquiv 2 ℂ (n → ℂ)).symm
  let S : Submodule ℂ (EuclideanSpace ℂ n) := (Submodule.span ℂ (Set.range A.row)).map L.toLinearMap
  have hd : Module.finrank ℂ S = A.rank := by
    rw [Matrix.rank_eq_finrank_span_row]
    exact LinearEquiv.finrank_map_eq L _
  let b := stdOrthonormalBasis ℂ S
  have hmem : ∀ a, L (A a) ∈ S := fun a => Submodule.mem_map_of_mem (Submodule.subset_span ⟨a, rfl⟩)
  -- `finrank S = rank A ≤ k` terms suffice: `y_j` the basis vectors, `x_j a = ⟨b_j, A_a⟩` the coefficients of row `a`
  refine SchmidtLE.mono (k := Module.finrank ℂ S) ?_ (hd.trans_le h)
  refine ⟨fun j a => ⟪(b j : EuclideanSpace ℂ n), L (A a)⟫_ℂ, fun j => WithLp.ofLp (b j : EuclideanSpace ℂ n), ?_, ?_⟩
  · intro i j hij
    rw [dotProduct_comm]
    exact (EuclideanSpace.inner_eq_star_dotProduct _ _).symm.trans (b.orthonormal.2 hij)
  · -- row `a` of `A` is the sum of its components along the basis, read at column `bb`
    ext ⟨a, bb⟩
    have hs := congrArg (fun z : S => WithLp.ofLp (z : EuclideanSpace ℂ n) bb) (b.sum_repr' ⟨L (A a), hmem a⟩)
    simp only [Submodule.coe_sum, Submodule.coe_smul, Submodule.coe_inner, WithLp.ofLp_sum, WithLp.ofLp_smul, Finset.sum_apply,
      Pi.smul_apply, smul_eq_mul] at hs
    simp only [Finset.sum_apply, tprod]
    exact hs.symm

theorem normSq_bilinear_le {ι : Type} [Fintype ι] [DecidableEq ι] (X : Matrix ι ι ℂ) (hX : X.PosSemidef) (w v : ι → ℂ) :
    Complex.normSq (star w ⬝ᵥ (X *ᵥ v)) ≤ expect X w * expect X v := by
  -- with `X = Cᴴ C`: `⟨u|X|z⟩ = ⟨Cu|Cz⟩`
  obtain ⟨C, rfl⟩ := hX.exists_eq_conjTranspose_mul_self
  have key : ∀ u z : ι → ℂ, star u ⬝ᵥ ((Cᴴ * C) *ᵥ z) = star (C *ᵥ u) ⬝ᵥ (C *ᵥ z) := fun u z => by
    rw [Matrix.star_mulVec, ← Matrix.dotProduct_mulVec, Matrix.mulVec_mulVec]
  have e : ∀ u : ι → ℂ, expect (Cᴴ * C) u = vnorm2 (C *ᵥ u) := fun u => by
    unfold expect
    rw [key, vnorm2_eq_nsq, nsq_eq_re]
  rw [key, e, e]
  exact normSq_dot_le _ _

end Pairs

section Flat
open EMat
variable {dA dB p q k : Nat}

/-- a flat vector read on pairs: `(a, b) ↦ v[a·dB + b]` -/
def flatV (v : Fin (dA * dB) → ℂ) : Fin dA × Fin dB → ℂ := fun pr => v (pair pr.1 pr.2)

theorem unflat_ketbra (v : Fin (dA * dB) → ℂ) : unflat (ketbra v) = ketbra (flatV v) := by
  ext ⟨a, b⟩ ⟨a', b'⟩
  rfl

theorem expect_flat (M : Matrix (Fin (dA * dB)) (Fin (dA * dB)) ℂ) (v : Fin (dA * dB) → ℂ) :
    expect M v = expect (unflat M) (flatV v) := by
  rw [expect_eq_trace, expect_eq_trace, ← unflat_ketbra, ← unflat_mul, trace_unflat]

theorem vnorm2_flat (v : Fin (dA * dB) → ℂ) : vnorm2 v = vnorm2 (flatV v) := by
  unfold vnorm2 flatV
  exact (Equiv.sum_comp (pairEquiv dA dB) (fun i => Complex.normSq (v i))).symm

theorem normSqV_cast_flat (v : EMat (dA * dB) 1) : ((normSqV v : Rat) : ℝ) = vnorm2 (flatV v.colC) :=
  (normSqV_cast v).trans ((nsq_eq_re _).symm.trans (vnorm2_flat _))

theorem quadForm_cast_flat (X : EMat (dA * dB) (dA * dB)) (v : EMat (dA * dB) 1) :
    ((quadForm X v : Rat) : ℝ) = expect (unflat X.toM) (flatV v.colC) :=
  (quadForm_cast X v).trans (expect_flat X.toM v.colC)

/-- the common shape of the three slacks `λ·1 − X − Z` -/
theorem unflat_scalar_sub_sub (lam : Rat) (X Z : EMat (dA * dB) (dA * dB)) :
    unflat (scalar lam - X - Z).toM
      = ((lam : ℝ) : ℂ) • (1 : Matrix (Fin dA × Fin dB) (Fin dA × Fin dB) ℂ) - unflat X.toM - unflat Z.toM := by
  rw [EMat.toM_sub, EMat.toM_sub, EMat.toM_scalar, unflat_sub, unflat_sub, unflat_smul, unflat_one]

theorem unflat_redKE (k : Nat) (Y : EMat (dA * dB) (dA * dB)) : unflat (redKE k Y).toM = redK k (unflat Y.toM) := by
  unfold redKE redK
  rw [EMat.toM_sub, EMat.toM_smul, unflat_sub, unflat_smul, unflat_kron, ptrBE_toM, EMat.toM_one, Rat.cast_natCast,
    Complex.ofReal_natCast, ← ptrBm_eq_ptrB]

theorem unflat_slackPPT (X Y : EMat (dA * dB) (dA * dB)) (lam : Rat) :
    unflat (slackPPT X Y lam).toM
      = ((lam : ℝ) : ℂ) • (1 : Matrix (Fin dA × Fin dB) (Fin dA × Fin dB) ℂ) - unflat X.toM - pT (unflat Y.toM) := by
  unfold slackPPT
  rw [unflat_scalar_sub_sub, unflat_ptB, ← pT_eq_ptBM]

theorem unflat_slackRed (k : Nat) (X Y : EMat (dA * dB) (dA * dB)) (lam : Rat) :
    unflat (slackRed k X Y lam).toM
      = ((lam : ℝ) : ℂ) • (1 : Matrix (Fin dA × Fin dB) (Fin dA × Fin dB) ℂ) - unflat X.toM - redK k (unflat Y.toM) := by
  unfold slackRed
  rw [unflat_scalar_sub_sub, unflat_redKE]

theorem unflat_psd_of_cert {A : EMat (dA * dB) (dA * dB)} {L : EMat (dA * dB) p} (h : psdCert A L = true) :
    (unflat A.toM).PosSemidef :=
  (unflat_posSemidef_iff _).mpr (psdCert_sound _ _ h)

theorem checkSkUpperPPT_eq {X Y : EMat (dA * dB) (dA * dB)} {LY : EMat (dA * dB) p} {lam : Rat} {LS : EMat (dA * dB) q} {hi : Rat}
    (h : checkSkUpperPPT X Y LY lam LS = some hi) :
    hi = lam ∧ psdCert Y LY = true ∧ psdCert (slackPPT X Y lam) LS = true :=
  guard_eq_some h

theorem checkSkUpperRed_eq {X Y : EMat (dA * dB) (dA * dB)} {LY : EMat (dA * dB) p} {lam : Rat} {LS : EMat (dA * dB) q} {hi : Rat}
    (h : checkSkUpperRed k X Y LY lam LS = some hi) :
    hi = lam ∧ psdCert Y LY = true ∧ psdCert (slackRed k X Y lam) LS = true :=
  guard_eq_some h

theorem checkSkLower_eq {X : EMat (dA * dB) (dA * dB)} {Xs : EMat dA k} {Ys : EMat dB k} {lo : Rat}
    (h : checkSkLower X Xs Ys = some lo) :
    colsOrthogonal Ys = true ∧ 0 < normSqV (skVector Xs Ys)
      ∧ lo = quadForm X (skVector Xs Ys) / normSqV (skVector Xs Ys) :=
  have ⟨e, h1, h2⟩ := guard_eq_some h
  ⟨h1, of_decide_eq_true h2, e⟩

theorem flatV_skVector (Xs : EMat dA k) (Ys : EMat dB k) :
    flatV (colC (skVector Xs Ys))
      = ∑ i : Fin k, tprod (fun a => (Xs.get a i).toC) (fun b => (Ys.get b i).toC) := by
  ext ⟨a, b⟩
  simp only [flatV, colC, skVector, vecOfAmpE, ampOfFactors, tprod, EMat.get_ofFn, EMat.get_mul, EMat.get_transpose, EMat.sumFin_toC,
    QI.toC_mul, Finset.sum_apply, fstI_pair, sndI_pair]

theorem colsOrthogonal_sound (Ys : EMat dB k) (h : colsOrthogonal Ys = true) (i j : Fin k) (hij : i ≠ j) :
    star (fun b => (Ys.get b i).toC) ⬝ᵥ (fun b => (Ys.get b j).toC) = 0 := by
  unfold colsOrthogonal offDiagZero at h
  simp only [EMat.allFin_iff, Bool.or_eq_true, beq_iff_eq] at h
  have h0 := (h i j).resolve_left hij
  have := congrArg QI.toC h0
  rw [EMat.get_mul, EMat.sumFin_toC] at this
  simp only [EMat.get_ct, QI.toC_mul, QI.toC_conj, QI.toC_zero] at this
  exact this

theorem skVector_schmidtLE (Xs : EMat dA k) (Ys : EMat dB k) (h : colsOrthogonal Ys = true) :
    SchmidtLE k (flatV (colC (skVector Xs Ys))) :=
  ⟨fun i a => (Xs.get a i).toC, fun i b => (Ys.get b i).toC, colsOrthogonal_sound Ys h, flatV_skVector Xs Ys⟩

/-- test data of the accepted certificates: the projector onto the Bell vector `(|00⟩ + |11⟩)/√2` -/
def bellX : EMat (2 * 2) (2 * 2) := EMat.ofFn fun i j => if (i.val = 0 ∨ i.val = 3) ∧ (j.val = 0 ∨ j.val = 3) then ⟨1/2, 0⟩ else 0
/-- test data: the column `|0⟩` -/
def ket0 : EMat 2 1 := EMat.ofFn fun i _ => if i.val = 0 then 1 else 0

/-- the product vector `|00⟩` attains `1/2` on the Bell projector -/
theorem bell_lower : checkSkLower bellX ket0 ket0 = some (1/2) := by decide +kernel

end Flat
end Toq.Entangle
