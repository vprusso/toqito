import Toq.Model.DiscrimArgs
import Toq.Proofs.Discrim
import Toq.Proofs.DiscrimEldar
/-!
# What the argument handling of `state_distinguishability` (`Toq.Model.DiscrimArgs`) denotes

`vectors_to_gram_matrix` denotes `VᴴV` and `to_density_matrix` of the `j`-th vector `|ψ_j⟩⟨ψ_j|` for the same matrix `V = sdVecs k vs` of
columns (`toM_sdGramFn`, `toM_sdToDensityVec`); the constrained operators as the code writes them (what the driver prints) denote
`Y − p_i ρ_i`, `G − diag q`, `Σ_i M_i − 1` (`toM_meDualSlack`, `toM_uaPrimalSlack`, `toM_mePrimalEqResidual`); the checkers of
`Toq.Model.Discrim` write the same expressions out themselves, no lemma relates the two; `np.isclose(a, b)` is `|a − b| ≤ 10⁻⁸ + 10⁻⁵ |b|`
(`sdIsclose_iff`); the default prior has one entry per state and sums to one; `has_same_dimension` and the shape check of the Gram-form workers compare every
array with the first.
-/

open Matrix
open scoped ComplexOrder MatrixOrder

namespace Toq.Discrim
open EMat

variable {d k : Nat}

/-- the complex `d × k` matrix whose columns are the (denotations of the) vectors -/
def sdVecs (k : Nat) (vs : Fin k → EMat d 1) : Matrix (Fin d) (Fin k) ℂ := fun a j => ((vs j).get a 0).toC

theorem toM_sdStackFn (k : Nat) (vs : Fin k → EMat d 1) : (sdStackFn k vs).toM = sdVecs k vs := by
  ext a j
  simp [sdStackFn, sdVecs, EMat.toM]

/-- `vectors_to_gram_matrix` denotes `VᴴV` -/
theorem toM_sdGramFn (k : Nat) (vs : Fin k → EMat d 1) :
    (sdGramFn k vs).toM = (sdVecs k vs)ᴴ * sdVecs k vs := by
  unfold sdGramFn
  rw [toM_mul, toM_ct, toM_sdStackFn]

/-- `to_density_matrix` of the `j`-th vector denotes `|ψ_j⟩⟨ψ_j|` -/
theorem toM_sdToDensityVec (k : Nat) (vs : Fin k → EMat d 1) (j : Fin k) :
    (sdToDensityVec (vs j)).toM = uaPure (sdVecs k vs) j := by
  unfold sdToDensityVec
  rw [toM_mul, toM_ct]
  ext a b
  simp [Matrix.mul_apply, uaPure, Matrix.vecMulVec_apply, sdVecs, EMat.toM]

theorem sdToDensityVec_psd (v : EMat d 1) : (sdToDensityVec v).toM.PosSemidef := by
  unfold sdToDensityVec
  rw [toM_mul, toM_ct]
  exact Matrix.posSemidef_self_mul_conjTranspose _

theorem toM_meDualSlack {k : Nat} (ρ : Fin k → EMat d d) (p : Fin k → Rat) (Y : EMat d d) (i : Fin k) :
    (meDualSlack ρ p Y i).toM = Y.toM - (((p i : Rat) : ℝ) : ℂ) • (ρ i).toM := by
  unfold meDualSlack
  rw [toM_sub, toM_smul]

theorem toM_uaPrimalSlack (G : EMat k k) (q : Fin k → Rat) :
    (uaPrimalSlack G q).toM = G.toM - Matrix.diagonal fun i => (((q i : Rat) : ℝ) : ℂ) := by
  unfold uaPrimalSlack
  rw [toM_sub, toM_diagQ]

theorem toM_mePrimalEqResidual (k : Nat) (M : Fin k → EMat d d) :
    (mePrimalEqResidual k M).toM = ∑ i, (M i).toM - 1 := by
  unfold mePrimalEqResidual
  rw [toM_sub, toM_sumMats, toM_one]

theorem sdRatAbs_eq (q : Rat) : sdRatAbs q = |q| := by
  unfold sdRatAbs
  split
  · next h => rw [abs_of_neg h]
  · next h => rw [abs_of_nonneg (not_lt.mp h)]

theorem sdIsclose_iff (a b : Rat) : sdIsclose a b = true ↔ |a - b| ≤ 1 / 100000000 + 1 / 100000 * |b| := by
  simp [sdIsclose, sdRatAbs_eq]

theorem sdDefaultProbs_none_sum (n : Nat) (hn : n ≠ 0) : (sdDefaultProbs n none).sum = 1 := by
  show (List.replicate n (1 / (n : Rat))).sum = 1
  rw [List.sum_replicate, nsmul_eq_mul, mul_one_div_cancel (Nat.cast_ne_zero.mpr hn)]

theorem sdHasSameDimension_true_iff (s : SdShape) (rest : List SdShape) :
    sdHasSameDimension (s :: rest) = some true ↔ ∀ t ∈ rest, t.cmpDim = s.cmpDim := by
  simp [sdHasSameDimension, List.all_eq_true]

theorem sdSameShape_cons_iff (s : SdShape) (rest : List SdShape) : sdSameShape (s :: rest) = true ↔ ∀ t ∈ rest, t = s := by
  simp [sdSameShape, List.all_eq_true]

theorem sdFront_guard_iff (f : SdForm) (s : SdShape) (rest : List SdShape) :
    (f.isUnamb && !sdSameShape (s :: rest)) = true ↔ ¬(f.isUnamb = true → ∀ t ∈ rest, t = s) := by
  rw [Bool.and_eq_true, Bool.not_eq_true', ← Bool.not_eq_true, sdSameShape_cons_iff, Classical.not_imp]

theorem sdPrepare_none_size (states : List (SdState d)) : (sdPrepare states none).size = states.length := by
  simp [sdPrepare, Ensemble.size]

theorem sdDefaultProbs_none_length (n : Nat) : (sdDefaultProbs n none).length = n := List.length_replicate

end Toq.Discrim
