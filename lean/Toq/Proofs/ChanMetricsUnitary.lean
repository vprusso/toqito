import Toq.Proofs.ChanMetrics
import Toq.Proofs.MetricsLaws
/-!
# Helper lemmas for C20: Choi matrices of maps `X ↦ K X Kᴴ` and the two-unitary diamond distance

toqito's Choi convention (`kraus_to_choi`): `J = Σ_ab E_ab ⊗ Φ(E_ab)`, so for `Φ(X) = K X Kᴴ`
`J_{(a,y),(b,z)} = K_{ya} · conj K_{zb}`, i.e. `J = vec(K) vec(K)ᴴ` with `vec(K)_{(a,y)} = K_{ya}`.

Section `NumRange` is matrix theory without Choi matrices: the values `tr(ρ W)` over density operators `ρ` form a convex set, a nearest
point of it to the origin gives a supporting line (`herm_part_ge_of_nearest`), a Hermitian matrix that pairs non-negatively with every
density operator is positive semidefinite, and the largest eigenvalue of a Hermitian `T` is attained by a density operator
(`max_eigenvalue_cert`).
-/

open Matrix Kronecker
open scoped ComplexOrder MatrixOrder

namespace Toq.ChanMetrics
open Toq.Metrics

section Kraus
variable {ι κ : Type*}

/-- `vec(K)` for a Kraus operator `K : X → Y` in toqito's Choi convention: entry `(a, y)` is `K_{ya}` -/
def vecK (K : Matrix κ ι ℂ) : ι × κ → ℂ := fun p => K p.2 p.1

/-- the Choi matrix of `X ↦ K X Kᴴ` -/
def choiK (K : Matrix κ ι ℂ) : Matrix (ι × κ) (ι × κ) ℂ := vecMulVec (vecK K) (star (vecK K))

section
set_option linter.unusedSectionVars false
variable [Fintype ι] [DecidableEq ι] [Fintype κ] [DecidableEq κ]

theorem choiK_apply (K : Matrix κ ι ℂ) (a b : ι) (y z : κ) : choiK K (a, y) (b, z) = K y a * star (K z b) := rfl

end

theorem choiK_smul_phase (ω : ℂ) (hω : ω * star ω = 1) (K : Matrix κ ι ℂ) : choiK (ω • K) = choiK K := by
  ext ⟨a, y⟩ ⟨b, z⟩
  simp only [choiK_apply, Matrix.smul_apply, smul_eq_mul, star_mul']
  calc ω * K y a * (star ω * star (K z b)) = (ω * star ω) * (K y a * star (K z b)) := by ring
    _ = _ := by rw [hω, one_mul]

variable [Fintype κ]

theorem ptr2_choiK (K : Matrix κ ι ℂ) : ptr2 (choiK K) = (Kᴴ * K)ᵀ := by
  ext a b
  simp only [ptr2_apply, choiK_apply, Matrix.transpose_apply, Matrix.mul_apply, Matrix.conjTranspose_apply]
  exact Finset.sum_congr rfl fun y _ => mul_comm _ _

theorem ptr2_choiK_of_isometry [DecidableEq ι] {K : Matrix κ ι ℂ} (hK : Kᴴ * K = 1) : ptr2 (choiK K) = 1 := by
  rw [ptr2_choiK, hK, Matrix.transpose_one]

variable [Fintype ι]

theorem star_vecK_dotProduct (A B : Matrix κ ι ℂ) : star (vecK A) ⬝ᵥ vecK B = (Aᴴ * B).trace := by
  simp only [dotProduct, Fintype.sum_prod_type, vecK, Matrix.trace, Matrix.diag_apply, Matrix.mul_apply,
    Matrix.conjTranspose_apply, Pi.star_apply]

theorem choiK_posSemidef (K : Matrix κ ι ℂ) : (choiK K).PosSemidef := Matrix.posSemidef_vecMulVec_self_star _

theorem choiK_isHermitian (K : Matrix κ ι ℂ) : (choiK K).IsHermitian := (choiK_posSemidef K).isHermitian

theorem vecK_mul_mul (B : Matrix κ κ ℂ) (K : Matrix κ ι ℂ) (A : Matrix ι ι ℂ) :
    vecK (B * K * A) = (Aᵀ ⊗ₖ B) *ᵥ vecK K := by
  ext ⟨a, y⟩
  simp only [vecK, Matrix.mul_apply, Matrix.mulVec, dotProduct, Fintype.sum_prod_type, Matrix.kroneckerMap_apply,
    Matrix.transpose_apply, Finset.sum_mul]
  exact Finset.sum_congr rfl fun b _ => Finset.sum_congr rfl fun z _ => by ring

theorem choiK_mul_mul (B : Matrix κ κ ℂ) (K : Matrix κ ι ℂ) (A : Matrix ι ι ℂ) :
    choiK (B * K * A) = (Aᵀ ⊗ₖ B) * choiK K * (Aᵀ ⊗ₖ B)ᴴ := by
  rw [choiK, vecK_mul_mul, Matrix.star_mulVec, choiK, Matrix.mul_vecMulVec, Matrix.vecMulVec_mul]

theorem trace_choiK_mul_choiK_re (A B : Matrix κ ι ℂ) :
    (choiK A * choiK B).trace.re = ‖(Aᴴ * B).trace‖ ^ 2 := by
  have h : vecK A ⬝ᵥ star (vecK B) = star (Aᴴ * B).trace := by
    rw [← star_vecK_dotProduct, Matrix.star_dotProduct, star_star]
    exact dotProduct_comm _ _
  rw [choiK, choiK, Matrix.vecMulVec_mul_vecMulVec, Matrix.trace_vecMulVec, dotProduct_smul, smul_eq_mul,
    star_vecK_dotProduct, h, Complex.star_def, Complex.mul_conj, Complex.ofReal_re, Complex.normSq_eq_norm_sq]

theorem isPureProj_choiK [DecidableEq ι] {K : Matrix κ ι ℂ} (hK : (Kᴴ * K).trace = 1) : IsPureProj (choiK K) :=
  isPureProj_vecMulVec _ (by rw [star_vecK_dotProduct, hK])

variable [DecidableEq κ]

theorem choiK_sandwich (K : Matrix κ ι ℂ) (A : Matrix ι ι ℂ) :
    (A ⊗ₖ (1 : Matrix κ κ ℂ))ᴴ * choiK K * (A ⊗ₖ (1 : Matrix κ κ ℂ)) = choiK (K * (Aᴴ)ᵀ) := by
  have h := choiK_mul_mul 1 K (Aᴴ)ᵀ
  rw [Matrix.one_mul] at h
  rw [h, Matrix.transpose_transpose, Matrix.conjTranspose_kronecker, Matrix.conjTranspose_kronecker,
    Matrix.conjTranspose_conjTranspose, Matrix.conjTranspose_one]

end Kraus

/-! ## The dual certificate for two isometry channels

For isometries `U`, `V` and reals `p`, `q` with `q² − p² = 1` the difference `J_U − J_V` is the difference
`J_{qU − pV} − J_{pU − qV}` of two positive rank-one operators, and `Tr_Y` of their sum is
`((2p² + 2q²)·1 − 2pq (Uᴴ V + (Uᴴ V)ᴴ))ᵀ`.  With `p² + q² − 2pq δ = √(1 − δ²)` this decomposition is the dual certificate. -/

section TwoUnitary
variable {ι κ : Type*}

theorem choiK_comb_sub (U V : Matrix κ ι ℂ) (p q : ℝ) :
    choiK ((q : ℂ) • U - (p : ℂ) • V) - choiK ((p : ℂ) • U - (q : ℂ) • V)
      = ((q * q - p * p : ℝ) : ℂ) • (choiK U - choiK V) := by
  ext ⟨a, y⟩ ⟨b, z⟩
  simp only [choiK_apply, Matrix.sub_apply, Matrix.smul_apply, smul_eq_mul, star_sub, star_mul', Complex.star_def,
    Complex.conj_ofReal]
  push_cast
  ring

variable [Fintype κ] [DecidableEq ι]

theorem conjTranspose_mul_self_comb {U V : Matrix κ ι ℂ} (hU : Uᴴ * U = 1) (hV : Vᴴ * V = 1) (p q : ℝ) :
    ((p : ℂ) • U - (q : ℂ) • V)ᴴ * ((p : ℂ) • U - (q : ℂ) • V)
      = ((p * p + q * q : ℝ) : ℂ) • (1 : Matrix ι ι ℂ) - ((p * q : ℝ) : ℂ) • (Uᴴ * V + (Uᴴ * V)ᴴ) := by
  have hW : Vᴴ * U = (Uᴴ * V)ᴴ := by rw [Matrix.conjTranspose_mul, Matrix.conjTranspose_conjTranspose]
  simp only [Matrix.conjTranspose_sub, Matrix.conjTranspose_smul, Complex.star_def, Complex.conj_ofReal,
    Matrix.sub_mul, Matrix.mul_sub, Matrix.smul_mul, Matrix.mul_smul, hU, hV, hW]
  push_cast
  module

variable [Fintype ι]

/-- the two scalars of the certificate: `p² = (1/s − 1)/2`, `q² = (1/s + 1)/2` for `s = √(1 − δ²)`; then
`(p q)² = (1/s² − 1)/4 = δ²/(4 s²)`, so `p q = δ/(2s)` and `p² + q² − 2pqδ = (1 − δ²)/s = s` -/
theorem exists_cert_scalars {δ : ℝ} (h0 : 0 ≤ δ) (h1 : δ < 1) :
    ∃ p q : ℝ, 0 ≤ p * q ∧ q * q - p * p = 1 ∧ p * p + q * q - 2 * (p * q) * δ = Real.sqrt (1 - δ ^ 2) := by
  have hpos : 0 < 1 - δ ^ 2 := sub_pos.mpr (pow_lt_one₀ h0 h1 two_ne_zero)
  set s := Real.sqrt (1 - δ ^ 2) with hs
  have hs0 : 0 < s := Real.sqrt_pos.mpr hpos
  have hss : s * s = 1 - δ ^ 2 := Real.mul_self_sqrt hpos.le
  have has : s⁻¹ * s = 1 := inv_mul_cancel₀ hs0.ne'
  have hα : 1 ≤ s⁻¹ := (one_le_inv₀ hs0).mpr (Real.sqrt_le_one.mpr (sub_le_self 1 (sq_nonneg δ)))
  have hx : 0 ≤ (s⁻¹ - 1) / 2 := div_nonneg (sub_nonneg.mpr hα) zero_le_two
  have hp : √((s⁻¹ - 1) / 2) * √((s⁻¹ - 1) / 2) = (s⁻¹ - 1) / 2 := Real.mul_self_sqrt hx
  have hq : √((s⁻¹ + 1) / 2) * √((s⁻¹ + 1) / 2) = (s⁻¹ + 1) / 2 :=
    Real.mul_self_sqrt (div_nonneg (add_nonneg (inv_nonneg.mpr hs0.le) zero_le_one) zero_le_two)
  have hg : 0 ≤ δ * s⁻¹ / 2 := div_nonneg (mul_nonneg h0 (inv_nonneg.mpr hs0.le)) zero_le_two
  have hpq : √((s⁻¹ - 1) / 2) * √((s⁻¹ + 1) / 2) = δ * s⁻¹ / 2 := by
    have e : (s⁻¹ - 1) / 2 * ((s⁻¹ + 1) / 2) = (δ * s⁻¹ / 2) ^ 2 := by
      linear_combination (1 / 4) * (s⁻¹ * s + 1) * has - (1 / 4) * s⁻¹ ^ 2 * hss
    rw [← Real.sqrt_mul hx, e, Real.sqrt_sq hg]
  refine ⟨√((s⁻¹ - 1) / 2), √((s⁻¹ + 1) / 2), hpq ▸ hg, by rw [hp, hq]; ring, ?_⟩
  rw [hp, hq, hpq]
  linear_combination s * has - s⁻¹ * hss

theorem two_unitary_jordan_cert {U V : Matrix κ ι ℂ} (hU : Uᴴ * U = 1) (hV : Vᴴ * V = 1) {δ : ℝ} (h0 : 0 ≤ δ)
    (h1 : δ < 1)
    (hH : (((1 / 2 : ℝ) : ℂ) • (Uᴴ * V + (Uᴴ * V)ᴴ) - (δ : ℂ) • (1 : Matrix ι ι ℂ)).PosSemidef) :
    ∃ P Q : Matrix (ι × κ) (ι × κ) ℂ, P.PosSemidef ∧ Q.PosSemidef ∧ choiK U - choiK V = P - Q ∧
      (((2 * Real.sqrt (1 - δ ^ 2) : ℝ) : ℂ) • (1 : Matrix ι ι ℂ) - ptr2 (P + Q)).PosSemidef := by
  obtain ⟨p, q, hpq, hd, hs⟩ := exists_cert_scalars h0 h1
  refine ⟨choiK ((q : ℂ) • U - (p : ℂ) • V), choiK ((p : ℂ) • U - (q : ℂ) • V), choiK_posSemidef _,
    choiK_posSemidef _, ?_, ?_⟩
  · rw [choiK_comb_sub, hd, Complex.ofReal_one, one_smul]
  · have e : ((2 * Real.sqrt (1 - δ ^ 2) : ℝ) : ℂ) • (1 : Matrix ι ι ℂ)
          - ptr2 (choiK ((q : ℂ) • U - (p : ℂ) • V) + choiK ((p : ℂ) • U - (q : ℂ) • V))
        = ((4 * (p * q) : ℝ) : ℂ) • (((1 / 2 : ℝ) : ℂ) • (Uᴴ * V + (Uᴴ * V)ᴴ) - (δ : ℂ) • (1 : Matrix ι ι ℂ))ᵀ := by
      rw [ptr2_add, ptr2_choiK, ptr2_choiK, conjTranspose_mul_self_comb hU hV, conjTranspose_mul_self_comb hU hV,
        ← hs]
      simp only [Matrix.transpose_sub, Matrix.transpose_smul, Matrix.transpose_one]
      push_cast
      module
    rw [e]
    exact hH.transpose.smul (Complex.zero_le_real.mpr (by linarith))

/-- `(U − V)ᴴ (U − V) = 2·1 − (Uᴴ V + (Uᴴ V)ᴴ)` is both `⪰ 0` and `⪯ 0` -/
theorem eq_of_herm_ge_one {U V : Matrix κ ι ℂ} (hU : Uᴴ * U = 1) (hV : Vᴴ * V = 1)
    (hH : (((1 / 2 : ℝ) : ℂ) • (Uᴴ * V + (Uᴴ * V)ᴴ) - (1 : Matrix ι ι ℂ)).PosSemidef) : U = V := by
  have e : (U - V)ᴴ * (U - V) = (-2 : ℂ) • (((1 / 2 : ℝ) : ℂ) • (Uᴴ * V + (Uᴴ * V)ᴴ) - (1 : Matrix ι ι ℂ)) := by
    have := conjTranspose_mul_self_comb hU hV 1 1
    simp only [Complex.ofReal_one, one_smul] at this
    rw [this]
    push_cast
    module
  have hle : (U - V)ᴴ * (U - V) ≤ 0 := by
    rw [Matrix.le_iff, zero_sub, e, ← neg_smul, neg_neg]
    exact hH.smul (by norm_num)
  have := le_antisymm hle (Matrix.posSemidef_conjTranspose_mul_self (U - V)).nonneg
  exact sub_eq_zero.mp (Matrix.conjTranspose_mul_self_eq_zero.mp this)

end TwoUnitary

section NumRange
variable {ι : Type*} [Fintype ι]

theorem convex_trace_density (W : Matrix ι ι ℂ) :
    Convex ℝ {z : ℂ | ∃ ρ : Matrix ι ι ℂ, C20.IsDensity ρ ∧ (ρ * W).trace = z} := by
  rintro _ ⟨ρ, hρ, rfl⟩ _ ⟨σ, hσ, rfl⟩ a b ha hb hab
  refine ⟨(a : ℂ) • ρ + (b : ℂ) • σ,
    ⟨(hρ.1.smul (Complex.zero_le_real.mpr ha)).add (hσ.1.smul (Complex.zero_le_real.mpr hb)), ?_⟩, ?_⟩
  · rw [Matrix.trace_add, Matrix.trace_smul, Matrix.trace_smul, hρ.2, hσ.2]
    rw [smul_eq_mul, smul_eq_mul, mul_one, mul_one, ← Complex.ofReal_add, hab, Complex.ofReal_one]
  · rw [Matrix.add_mul, Matrix.smul_mul, Matrix.smul_mul, Matrix.trace_add, Matrix.trace_smul, Matrix.trace_smul]
    simp only [Complex.real_smul, smul_eq_mul]

variable [DecidableEq ι]

theorem re_mul_conj_ge_of_nearest {K : Set ℂ} (hK : Convex ℝ K) {c : ℂ} (hc : c ∈ K) (hmin : ∀ z ∈ K, ‖c‖ ≤ ‖z‖)
    {z : ℂ} (hz : z ∈ K) : ‖c‖ ^ 2 ≤ (z * star c).re := by
  have h : ‖(0 : ℂ) - c‖ = ⨅ w : K, ‖(0 : ℂ) - w‖ := by
    have : Nonempty K := ⟨⟨c, hc⟩⟩
    simp only [zero_sub, norm_neg]
    exact le_antisymm (le_ciInf fun w => hmin w w.2)
      (ciInf_le ⟨0, Set.forall_mem_range.mpr fun w => norm_nonneg _⟩ (⟨c, hc⟩ : K))
  have := (norm_eq_iInf_iff_real_inner_le_zero hK hc).mp h z hz
  rw [Complex.inner, zero_sub, map_neg, mul_neg, Complex.neg_re, sub_mul, Complex.sub_re, Complex.mul_conj,
    Complex.ofReal_re, Complex.normSq_eq_norm_sq] at this
  rw [Complex.star_def]
  linarith

theorem posSemidef_of_forall_density {H : Matrix ι ι ℂ} (hH : H.IsHermitian)
    (h : ∀ ρ : Matrix ι ι ℂ, C20.IsDensity ρ → 0 ≤ (ρ * H).trace.re) : H.PosSemidef := by
  obtain ⟨U, hU, hHe⟩ := exists_conjDiag hH
  rw [hHe]
  refine conjDiag_posSemidef U fun i => ?_
  have := h _ ⟨conjDiag_ind_posSemidef U i, trace_conjDiag_ind hU i⟩
  rwa [hHe, trace_ind_mul_conjDiag hU] at this

theorem herm_part_ge_of_nearest {W ρ₀ : Matrix ι ι ℂ} (hρ₀ : C20.IsDensity ρ₀) {δ : ℝ} (hδ : 0 < δ)
    (hc : ‖(ρ₀ * W).trace‖ = δ) (hmin : ∀ ρ : Matrix ι ι ℂ, C20.IsDensity ρ → δ ≤ ‖(ρ * W).trace‖) :
    ∃ ω : ℂ, ω * star ω = 1 ∧
      (((1 / 2 : ℝ) : ℂ) • (ω • W + (ω • W)ᴴ) - (δ : ℂ) • (1 : Matrix ι ι ℂ)).PosSemidef := by
  set c := (ρ₀ * W).trace with hcdef
  have hδc : (δ : ℂ) ≠ 0 := Complex.ofReal_ne_zero.mpr hδ.ne'
  have hcc : c * star c = (δ : ℂ) * δ := by
    rw [Complex.star_def, Complex.mul_conj, Complex.normSq_eq_norm_sq, hc]; push_cast; ring
  refine ⟨star c / (δ : ℂ), ?_, ?_⟩
  · rw [star_div₀, star_star, Complex.star_def, Complex.conj_ofReal, div_mul_div_comm, mul_comm, ← Complex.star_def,
      hcc, div_self (mul_ne_zero hδc hδc)]
  · refine posSemidef_of_forall_density (isHermitian_hermPart_sub_smul_one _ δ) fun ρ hρ => ?_
    -- `c` is a nearest point of the convex set of all `tr(ρ W)`, so `Re(tr(ρ W) c̄) ≥ δ²`
    have hnear := re_mul_conj_ge_of_nearest (convex_trace_density W) ⟨ρ₀, hρ₀, rfl⟩
      (by rintro _ ⟨σ, hσ, rfl⟩; rw [← hcdef, hc]; exact hmin σ hσ) ⟨ρ, hρ, rfl⟩
    rw [← hcdef, hc] at hnear
    have e : (ρ * ((star c / (δ : ℂ)) • W)).trace.re = ((ρ * W).trace * star c).re / δ := by
      rw [Matrix.mul_smul, Matrix.trace_smul, smul_eq_mul, ← Complex.div_ofReal_re]; congr 1; ring
    rw [Matrix.mul_sub, Matrix.trace_sub, Complex.sub_re, re_trace_mul_hermPart hρ.1.isHermitian, re_trace_mul_smul,
      Matrix.mul_one, hρ.2, Complex.one_re, mul_one, e, sub_nonneg, le_div_iff₀ hδ, ← sq]
    exact hnear

theorem trace_mul_diagonalised (ρ S : Matrix ι ι ℂ) (lam : ι → ℂ) :
    (ρ * (S * diagonal lam * Sᴴ)).trace = ∑ i, (Sᴴ * ρ * S) i i * lam i := by
  have : ρ * (S * diagonal lam * Sᴴ) = (ρ * S * diagonal lam) * Sᴴ := by simp only [Matrix.mul_assoc]
  rw [this, Matrix.trace_mul_comm, ← Matrix.mul_assoc, ← Matrix.mul_assoc]
  simp only [Matrix.trace, Matrix.diag_apply, Matrix.mul_diagonal]

theorem trace_conjDiag_ind_mul_diagonalised {S : Matrix ι ι ℂ} (hS : Sᴴ * S = 1) (lam : ι → ℂ) (i : ι) :
    (conjDiag S (ind i) * (S * diagonal lam * Sᴴ)).trace = lam i := by
  have hc : Sᴴ * conjDiag S (ind i) * S = diagonal fun j => ((ind i j : ℝ) : ℂ) := conj_conj_cancel hS _
  rw [trace_mul_diagonalised, hc, Fintype.sum_eq_single i, Matrix.diagonal_apply_eq, ind, if_pos rfl, Complex.ofReal_one,
    one_mul]
  intro j hj
  rw [Matrix.diagonal_apply_eq, ind, if_neg hj, Complex.ofReal_zero, zero_mul]

theorem max_eigenvalue_cert [Nonempty ι] {T : Matrix ι ι ℂ} (hT : T.IsHermitian) :
    (((Finset.univ.sup' Finset.univ_nonempty hT.eigenvalues : ℝ) : ℂ) • (1 : Matrix ι ι ℂ) - T).PosSemidef ∧
      ∃ ρ : Matrix ι ι ℂ, C20.IsDensity ρ ∧ (ρ * T).trace.re = Finset.univ.sup' Finset.univ_nonempty hT.eigenvalues := by
  obtain ⟨i₀, -, hi₀⟩ := Finset.exists_mem_eq_sup' Finset.univ_nonempty hT.eigenvalues
  rw [hi₀]
  refine ⟨(posSemidef_smul_one_sub_iff hT _).mpr fun i => hi₀ ▸ Finset.le_sup' _ (Finset.mem_univ i), ?_⟩
  obtain ⟨U, hU, hTe⟩ := exists_conjDiag hT
  refine ⟨_, ⟨conjDiag_ind_posSemidef U i₀, trace_conjDiag_ind hU i₀⟩, ?_⟩
  conv_lhs => rw [hTe]
  exact trace_ind_mul_conjDiag hU _ i₀

end NumRange

section Overlap
variable {ι κ : Type*} [Fintype ι] [Fintype κ]

theorem trace_conjTranspose_mul_mul (K L : Matrix κ ι ℂ) (B : Matrix ι ι ℂ) :
    ((K * B)ᴴ * (L * B)).trace = (B * Bᴴ * (Kᴴ * L)).trace := by
  rw [Matrix.trace_mul_comm (B * Bᴴ), Matrix.conjTranspose_mul, Matrix.mul_assoc, Matrix.trace_mul_comm]
  simp only [Matrix.mul_assoc]

theorem overlap_choiK (U V : Matrix κ ι ℂ) (B : Matrix ι ι ℂ) :
    (choiK (U * B) * choiK (V * B)).trace.re = ‖(B * Bᴴ * (Uᴴ * V)).trace‖ ^ 2 := by
  rw [trace_choiK_mul_choiK_re, trace_conjTranspose_mul_mul]

variable [DecidableEq ι]

theorem isPureProj_choiK_mul {K : Matrix κ ι ℂ} (hK : Kᴴ * K = 1) {B : Matrix ι ι ℂ} (hB : (B * Bᴴ).trace = 1) :
    IsPureProj (choiK (K * B)) :=
  isPureProj_choiK (by rw [trace_conjTranspose_mul_mul, hK, Matrix.mul_one, hB])

variable [DecidableEq κ]

theorem norm_trace_density_mul_le_one {U V : Matrix κ ι ℂ} (hU : Uᴴ * U = 1) (hV : Vᴴ * V = 1) {ρ : Matrix ι ι ℂ}
    (hρ : C20.IsDensity ρ) : ‖(ρ * (Uᴴ * V)).trace‖ ≤ 1 := by
  obtain ⟨hρ, ht⟩ := hρ
  obtain ⟨B, rfl⟩ := hρ.exists_eq_mul_conjTranspose_self
  have hP := isPureProj_choiK_mul hU ht
  have hQ := isPureProj_choiK_mul hV ht
  have h := psd_trace_mul_nonneg hP.posSemidef (posSemidef_one_sub_of_idem hQ.herm hQ.idem)
  rw [Matrix.mul_sub, Matrix.mul_one, Matrix.trace_sub, Complex.sub_re, hP.trace_one, Complex.one_re, overlap_choiK] at h
  have h2 : ‖(B * Bᴴ * (Uᴴ * V)).trace‖ ^ 2 ≤ 1 ^ 2 := by linarith
  exact (abs_le_of_sq_le_sq' h2 zero_le_one).2

end Overlap

end Toq.ChanMetrics
