import Toq.Proofs.Xor
import Mathlib.LinearAlgebra.Matrix.Kronecker

/-!
# Tsirelson's theorem, constructive direction (C08)

Unit vectors `u_x, v_y ∈ ℝⁿ` are realised by a finite-dimensional quantum strategy:

* `exists_clifford`     — `n` pairwise anticommuting Hermitian involutions `G_1 … G_n` on `ℂ^(2^n)`, built by the block
  recursion `X ⊗ 1, Z ⊗ G_1, …, Z ⊗ G_n`;
* `realComb u G = Σ u_i G_i` — Hermitian, `A_u A_v + A_v A_u = 2⟨u,v⟩`, hence `A_u² = 1` for unit `u` and
  `tr(A_u A_v) = ⟨u,v⟩·D`;
* `maxEnt` — the maximally entangled state; `⟨Φ| A ⊗ Bᵀ |Φ⟩ = tr(AB)/D`;
* `tsirelson_realise`, `moment_real_vectors` — the strategy `(|Φ⟩⟨Φ|, A_{u_x} ⊗ 1, 1 ⊗ A_{v_y}ᵀ)` has correlators
  `⟨u_x, v_y⟩`; every PSD unit-diagonal matrix is (in its real part) a Gram matrix of real unit vectors;
* `isQuantumCorr_of_vector`: vector correlations are quantum (the converse is `isVectorCorr_of_quantum` in `Toq.Proofs.Xor`).
-/

open Matrix
open scoped ComplexOrder MatrixOrder Kronecker

namespace Toq.Xor

structure IsClifford {ι : Type*} [Fintype ι] [DecidableEq ι] {n : Nat} (G : Fin n → Matrix ι ι ℂ) : Prop where
  herm : ∀ i, (G i).IsHermitian
  sq : ∀ i, G i * G i = 1
  anti : ∀ i j, i ≠ j → G i * G j + G j * G i = 0

section Step
variable {ι : Type*}

/-- `Z ⊗ G` in block form -/
def cliffZ (G : Matrix ι ι ℂ) : Matrix (ι ⊕ ι) (ι ⊕ ι) ℂ := fromBlocks G 0 0 (-G)

theorem cliffZ_herm {G : Matrix ι ι ℂ} (h : G.IsHermitian) : (cliffZ G).IsHermitian := by
  simp [cliffZ, Matrix.IsHermitian, fromBlocks_conjTranspose, h.eq]

variable [DecidableEq ι]

/-- `X ⊗ 1` in block form -/
def cliffX (ι : Type*) [DecidableEq ι] : Matrix (ι ⊕ ι) (ι ⊕ ι) ℂ := fromBlocks 0 1 1 0

theorem cliffX_herm : (cliffX ι).IsHermitian := by
  simp [cliffX, Matrix.IsHermitian, fromBlocks_conjTranspose]

variable [Fintype ι]

theorem cliffX_sq : cliffX ι * cliffX ι = 1 := by
  simp [cliffX, fromBlocks_multiply, fromBlocks_one]

theorem cliffZ_mul (G H : Matrix ι ι ℂ) : cliffZ G * cliffZ H = fromBlocks (G * H) 0 0 (G * H) := by
  simp [cliffZ, fromBlocks_multiply]

theorem cliffXZ (G : Matrix ι ι ℂ) : cliffX ι * cliffZ G + cliffZ G * cliffX ι = 0 := by
  simp [cliffX, cliffZ, fromBlocks_multiply, fromBlocks_add, fromBlocks_zero]

def cliffStep {n : Nat} (G : Fin n → Matrix ι ι ℂ) : Fin (n + 1) → Matrix (ι ⊕ ι) (ι ⊕ ι) ℂ :=
  Fin.cons (α := fun _ => Matrix (ι ⊕ ι) (ι ⊕ ι) ℂ) (cliffX ι) (fun i => cliffZ (G i))

theorem isClifford_step {n : Nat} {G : Fin n → Matrix ι ι ℂ} (h : IsClifford G) : IsClifford (cliffStep G) where
  herm := by
    refine Fin.cases ?_ ?_
    · exact cliffX_herm
    · intro i; simpa [cliffStep] using cliffZ_herm (h.herm i)
  sq := by
    refine Fin.cases ?_ ?_
    · exact cliffX_sq
    · intro i
      simp only [cliffStep, Fin.cons_succ]
      rw [cliffZ_mul, h.sq, fromBlocks_one]
  anti := by
    refine Fin.cases ?_ ?_
    · refine Fin.cases ?_ ?_
      · intro hne; exact absurd rfl hne
      · intro j _
        simp only [cliffStep, Fin.cons_succ, Fin.cons_zero]
        exact cliffXZ (G j)
    · intro i
      refine Fin.cases ?_ ?_
      · intro _
        simp only [cliffStep, Fin.cons_succ, Fin.cons_zero]
        rw [add_comm]; exact cliffXZ (G i)
      · intro j hne
        have hij : i ≠ j := fun e => hne (by rw [e])
        simp only [cliffStep, Fin.cons_succ]
        rw [cliffZ_mul, cliffZ_mul, fromBlocks_add]
        simp [h.anti i j hij, fromBlocks_zero]

end Step

theorem exists_clifford : ∀ n : Nat, ∃ (ι : Type) (_ : Fintype ι) (_ : DecidableEq ι) (_ : Nonempty ι)
    (G : Fin n → Matrix ι ι ℂ), IsClifford G
  | 0 => ⟨Unit, inferInstance, inferInstance, inferInstance, Fin.elim0,
      ⟨fun i => i.elim0, fun i => i.elim0, fun i => i.elim0⟩⟩
  | n + 1 => by
    obtain ⟨ι, hF, hD, hN, G, hG⟩ := exists_clifford n
    exact ⟨ι ⊕ ι, inferInstance, inferInstance, inferInstance, cliffStep G, isClifford_step hG⟩

section Obs
variable {ι : Type*} {n : Nat}

def realComb {κ : Type*} [Fintype κ] (c : κ → ℝ) (M : κ → Matrix ι ι ℂ) : Matrix ι ι ℂ := ∑ k, (c k : ℂ) • M k

theorem realComb_herm {κ : Type*} [Fintype κ] (c : κ → ℝ) (M : κ → Matrix ι ι ℂ) (h : ∀ k, (M k).IsHermitian) :
    (realComb c M).IsHermitian := by
  unfold realComb Matrix.IsHermitian
  rw [conjTranspose_sum]
  refine Finset.sum_congr rfl fun k _ => ?_
  rw [conjTranspose_smul, (h k).eq, Complex.star_def, Complex.conj_ofReal]

theorem realComb_neg {κ : Type*} [Fintype κ] (c : κ → ℝ) (M : κ → Matrix ι ι ℂ) :
    realComb (fun k => -c k) M = -realComb c M := by
  simp only [realComb, Complex.ofReal_neg, neg_smul, Finset.sum_neg_distrib]

variable [Fintype ι]

theorem realComb_mul {κ : Type*} [Fintype κ] (c c' : κ → ℝ) (M M' : κ → Matrix ι ι ℂ) :
    realComb c M * realComb c' M' = ∑ i, ∑ j, ((c i : ℂ) * (c' j : ℂ)) • (M i * M' j) := by
  unfold realComb
  rw [Finset.sum_mul]
  refine Finset.sum_congr rfl fun i _ => ?_
  rw [Finset.mul_sum]
  refine Finset.sum_congr rfl fun j _ => ?_
  rw [smul_mul_assoc, mul_smul_comm, smul_smul]

variable [DecidableEq ι]

theorem realComb_anticomm {G : Fin n → Matrix ι ι ℂ} (h : IsClifford G) (u v : Fin n → ℝ) :
    realComb u G * realComb v G + realComb v G * realComb u G
      = ((2 * ∑ k, u k * v k : ℝ) : ℂ) • (1 : Matrix ι ι ℂ) := by
  rw [realComb_mul, realComb_mul, Finset.sum_comm (f := fun i j => ((v i : ℂ) * (u j : ℂ)) • (G i * G j)),
    ← Finset.sum_add_distrib]
  have key : ∀ i : Fin n, (∑ j, ((u i : ℂ) * (v j : ℂ)) • (G i * G j)) + ∑ j, ((v j : ℂ) * (u i : ℂ)) • (G j * G i)
      = ((2 * (u i * v i) : ℝ) : ℂ) • (1 : Matrix ι ι ℂ) := by
    intro i
    rw [← Finset.sum_add_distrib, Finset.sum_eq_single i]
    · rw [h.sq i, ← add_smul]; congr 1; push_cast; ring
    · intro j _ hji
      rw [mul_comm (v j : ℂ), ← smul_add, h.anti i j (Ne.symm hji), smul_zero]
    · intro hi; exact absurd (Finset.mem_univ i) hi
  rw [Finset.sum_congr rfl fun i _ => key i, ← Finset.sum_smul]
  congr 1
  push_cast
  rw [Finset.mul_sum]

theorem realComb_sq {G : Fin n → Matrix ι ι ℂ} (h : IsClifford G) (u : Fin n → ℝ) (hu : ∑ k, u k ^ 2 = 1) :
    realComb u G * realComb u G = 1 := by
  have := realComb_anticomm h u u
  have e : ∑ k, u k * u k = 1 := by rw [← hu]; exact Finset.sum_congr rfl fun k _ => (sq _).symm
  rw [e, ← two_smul ℂ (realComb u G * realComb u G)] at this
  have h2 : (2 : ℂ) • (realComb u G * realComb u G) = (2 : ℂ) • (1 : Matrix ι ι ℂ) := by
    rw [this]; push_cast; ring_nf
  exact smul_right_injective _ (two_ne_zero) h2

theorem realComb_trace {G : Fin n → Matrix ι ι ℂ} (h : IsClifford G) (u v : Fin n → ℝ) :
    (realComb u G * realComb v G).trace = ((∑ k, u k * v k : ℝ) : ℂ) * (Fintype.card ι : ℂ) := by
  have := congrArg Matrix.trace (realComb_anticomm h u v)
  rw [trace_add, trace_mul_comm (realComb v G), trace_smul, trace_one, smul_eq_mul] at this
  have h2 : (2 : ℂ) * (realComb u G * realComb v G).trace
      = (2 : ℂ) * (((∑ k, u k * v k : ℝ) : ℂ) * (Fintype.card ι : ℂ)) := by
    rw [two_mul, this]; push_cast; ring
  exact mul_left_cancel₀ two_ne_zero h2

end Obs

section MaxEnt
variable {ι : Type*} [Fintype ι] [DecidableEq ι]

/-- unnormalised maximally entangled vector `Σ_i |i i⟩` as a column -/
def maxEntCol (ι : Type*) [DecidableEq ι] : Matrix (ι × ι) Unit ℂ := fun p _ => if p.1 = p.2 then 1 else 0

/-- the maximally entangled state `|Φ⟩⟨Φ|`, `Φ = D^{-1/2} Σ_i |i i⟩` -/
noncomputable def maxEnt (ι : Type*) [Fintype ι] [DecidableEq ι] : Matrix (ι × ι) (ι × ι) ℂ :=
  ((Fintype.card ι : ℂ)⁻¹) • (maxEntCol ι * (maxEntCol ι)ᴴ)

theorem maxEnt_apply (p q : ι × ι) :
    maxEnt ι p q = (Fintype.card ι : ℂ)⁻¹ * ((if p.1 = p.2 then 1 else 0) * (if q.1 = q.2 then 1 else 0)) := by
  simp only [maxEnt, maxEntCol, Matrix.smul_apply, Matrix.mul_apply, conjTranspose_apply, Finset.univ_unique, Finset.sum_singleton,
    smul_eq_mul, apply_ite star, star_one, star_zero]

theorem maxEnt_psd : (maxEnt ι).PosSemidef := by
  unfold maxEnt
  refine (posSemidef_self_mul_conjTranspose _).smul ?_
  rw [inv_nonneg]
  exact_mod_cast Nat.zero_le _

theorem maxEnt_trace_mul (M : Matrix (ι × ι) (ι × ι) ℂ) :
    (maxEnt ι * M).trace = (Fintype.card ι : ℂ)⁻¹ * ∑ i, ∑ k, M (k, k) (i, i) := by
  simp only [Matrix.trace, Matrix.diag_apply, Matrix.mul_apply, maxEnt_apply, Fintype.sum_prod_type, mul_assoc,
    ← Finset.mul_sum, ite_mul, one_mul, zero_mul, Finset.sum_ite_irrel, Finset.sum_const_zero, Finset.sum_ite_eq,
    Finset.mem_univ, if_true]

theorem maxEnt_trace [Nonempty ι] : (maxEnt ι).trace = 1 := by
  have := maxEnt_trace_mul (ι := ι) 1
  rw [Matrix.mul_one] at this
  rw [this]
  simp only [Matrix.one_apply, Prod.mk.injEq, and_self]
  simp only [Finset.sum_ite_eq', Finset.mem_univ, if_true, Finset.sum_const, Finset.card_univ, nsmul_eq_mul, mul_one]
  exact inv_mul_cancel₀ (by exact_mod_cast Fintype.card_ne_zero)

theorem maxEnt_kron (A B : Matrix ι ι ℂ) :
    (maxEnt ι * (A ⊗ₖ Bᵀ)).trace = (Fintype.card ι : ℂ)⁻¹ * (A * B).trace := by
  rw [maxEnt_trace_mul]
  congr 1
  simp only [kronecker_apply, transpose_apply, Matrix.trace, Matrix.diag_apply, Matrix.mul_apply]
  rw [Finset.sum_comm]

end MaxEnt

section Realise
variable {X Y : Type*} {ι : Type*} [Fintype ι] [DecidableEq ι]

theorem isStrategy_maxEnt [Nonempty ι] (A : X → Matrix ι ι ℂ) (B : Y → Matrix ι ι ℂ)
    (hA : ∀ x, (A x).IsHermitian) (hA2 : ∀ x, A x * A x = 1) (hB : ∀ y, (B y).IsHermitian)
    (hB2 : ∀ y, B y * B y = 1) :
    IsStrategy (maxEnt ι) (fun x => A x ⊗ₖ (1 : Matrix ι ι ℂ)) (fun y => (1 : Matrix ι ι ℂ) ⊗ₖ (B y)ᵀ) where
  psd := maxEnt_psd
  tr_one := maxEnt_trace
  A_herm := fun x => by
    rw [Matrix.IsHermitian, conjTranspose_kronecker, (hA x).eq, conjTranspose_one]
  A_sq := fun x => by
    rw [← mul_kronecker_mul, hA2, Matrix.one_mul, one_kronecker_one]
  B_herm := fun y => by
    rw [Matrix.IsHermitian, conjTranspose_kronecker, conjTranspose_one]
    congr 1
    ext i j
    exact (hB y).apply j i
  B_sq := fun y => by
    rw [← mul_kronecker_mul, Matrix.one_mul, ← transpose_mul, hB2, transpose_one, one_kronecker_one]
  comm := fun x y => by
    rw [← mul_kronecker_mul, ← mul_kronecker_mul, Matrix.mul_one, Matrix.one_mul, Matrix.mul_one, Matrix.one_mul]

theorem corrQ_maxEnt (A : X → Matrix ι ι ℂ) (B : Y → Matrix ι ι ℂ) (x : X) (y : Y) :
    corrQ (maxEnt ι) (fun x => A x ⊗ₖ (1 : Matrix ι ι ℂ)) (fun y => (1 : Matrix ι ι ℂ) ⊗ₖ (B y)ᵀ) x y
      = ((Fintype.card ι : ℂ)⁻¹ * (A x * B y).trace).re := by
  unfold corrQ
  rw [Matrix.mul_assoc, ← mul_kronecker_mul, Matrix.mul_one, Matrix.one_mul, maxEnt_kron]

end Realise

theorem tsirelson_realise {X Y : Type*} {n : Nat} (u : X → Fin n → ℝ) (v : Y → Fin n → ℝ)
    (hu : ∀ x, ∑ k, u x k ^ 2 = 1) (hv : ∀ y, ∑ k, v y k ^ 2 = 1) :
    ∃ (ι : Type) (_ : Fintype ι) (_ : DecidableEq ι) (ρ : Matrix (ι × ι) (ι × ι) ℂ)
      (A : X → Matrix ι ι ℂ) (B : Y → Matrix ι ι ℂ),
      IsStrategy ρ (fun x => A x ⊗ₖ (1 : Matrix ι ι ℂ)) (fun y => (1 : Matrix ι ι ℂ) ⊗ₖ B y) ∧
      ∀ x y, corrQ ρ (fun x => A x ⊗ₖ (1 : Matrix ι ι ℂ)) (fun y => (1 : Matrix ι ι ℂ) ⊗ₖ B y) x y
        = ∑ k, u x k * v y k := by
  obtain ⟨ι, hF, hD, hN, G, hG⟩ := exists_clifford n
  refine ⟨ι, hF, hD, maxEnt ι, fun x => realComb (u x) G, fun y => (realComb (v y) G)ᵀ, ?_, ?_⟩
  · exact isStrategy_maxEnt (fun x => realComb (u x) G) (fun y => realComb (v y) G)
      (fun x => realComb_herm _ _ hG.herm) (fun x => realComb_sq hG _ (hu x))
      (fun y => realComb_herm _ _ hG.herm) (fun y => realComb_sq hG _ (hv y))
  · intro x y
    have := corrQ_maxEnt (fun x => realComb (u x) G) (fun y => realComb (v y) G) x y
    rw [this, realComb_trace hG]
    have hc : (Fintype.card ι : ℂ) ≠ 0 := by exact_mod_cast Fintype.card_ne_zero
    rw [mul_comm, mul_assoc, mul_inv_cancel₀ hc, mul_one, Complex.ofReal_re]

section Vectors
variable {κ : Type*} [Fintype κ] [DecidableEq κ]

/-- with `Γ = Sᴴ S`, the real and imaginary parts of the columns of `S` -/
theorem moment_real_vectors (Γ : Matrix κ κ ℂ) (hΓ : IsMoment Γ) :
    ∃ (n : Nat) (w : κ → Fin n → ℝ), (∀ i, ∑ k, w i k ^ 2 = 1) ∧ ∀ i j, ∑ k, w i k * w j k = (Γ i j).re := by
  obtain ⟨S, hS⟩ := hΓ.psd.exists_eq_conjTranspose_mul_self
  let e := Fintype.equivFin (κ ⊕ κ)
  let w0 : κ → κ ⊕ κ → ℝ := fun i => Sum.elim (fun k => (S k i).re) (fun k => (S k i).im)
  have hw0 : ∀ i j, ∑ s, w0 i s * w0 j s = (Γ i j).re := by
    intro i j
    rw [hS, Matrix.mul_apply, Complex.re_sum, Fintype.sum_sum_type, ← Finset.sum_add_distrib]
    refine Finset.sum_congr rfl fun k _ => ?_
    simp [w0, Complex.mul_re]
  refine ⟨Fintype.card (κ ⊕ κ), fun i k => w0 i (e.symm k), fun i => ?_, fun i j => ?_⟩
  · simp only [sq]
    rw [Equiv.sum_comp e.symm fun s => w0 i s * w0 i s, hw0 i i, hΓ.diag i, Complex.one_re]
  · rw [Equiv.sum_comp e.symm fun s => w0 i s * w0 j s, hw0 i j]

end Vectors

section Sets
variable {X Y : Type*} [Fintype X] [Fintype Y] [DecidableEq X] [DecidableEq Y]

theorem isVectorCorr_iff_vectors (c : X → Y → ℝ) :
    IsVectorCorr c ↔ ∃ (n : Nat) (u : X → Fin n → ℝ) (v : Y → Fin n → ℝ),
      (∀ x, ∑ k, u x k ^ 2 = 1) ∧ (∀ y, ∑ k, v y k ^ 2 = 1) ∧ ∀ x y, ∑ k, u x k * v y k = c x y := by
  constructor
  · rintro ⟨Γ, hΓ, hc⟩
    obtain ⟨n, w, hw1, hw⟩ := moment_real_vectors Γ hΓ
    exact ⟨n, fun x => w (.inl x), fun y => w (.inr y), fun x => hw1 _, fun y => hw1 _,
      fun x y => by rw [hw, hc]⟩
  · rintro ⟨n, u, v, hu, hv, hc⟩
    have e : (fun x y => ∑ k, u x k * v y k) = c := funext fun x => funext (hc x)
    exact e ▸ isVectorCorr_of_vectors u v hu hv

theorem isQuantumCorr_of_vector {c : X → Y → ℝ} (h : IsVectorCorr c) : IsQuantumCorr c := by
  obtain ⟨n, u, v, hu, hv, hc⟩ := (isVectorCorr_iff_vectors c).mp h
  obtain ⟨ι, hF, hD, ρ, A, B, hs, hq⟩ := tsirelson_realise u v hu hv
  exact ⟨ι × ι, inferInstance, inferInstance, ρ, _, _, hs, fun x y => by rw [hq, hc]⟩

end Sets

section CheckerQ
open EMat
variable {m n k : Nat}

theorem checkXorPrimal_quantum (D : Nat → Nat → Rat) (Γ : EMat (m + n) (m + n)) (L : EMat (m + n) k) (lo : Rat)
    (h : checkXorPrimal m n D Γ L = some lo) :
    ∃ c : Fin m → Fin n → ℝ, IsQuantumCorr c ∧ ∑ x, ∑ y, castD D x y * c x y = (lo : ℝ) := by
  obtain ⟨hΓ, hv⟩ := checkXorPrimal_eq_some D Γ L lo h
  refine ⟨fun x y => (Γ.toM (Fin.castAdd n x) (Fin.natAdd m y)).re, isQuantumCorr_of_vector ?_, ?_⟩
  · exact isVectorCorr_fin hΓ
  · rw [← hv]; rfl

end CheckerQ

end Toq.Xor
