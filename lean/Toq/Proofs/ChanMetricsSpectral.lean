import Toq.Proofs.Spectral
import Mathlib.LinearAlgebra.Eigenspace.Minpoly
/-!
# Spectral theorem for unitary matrices (for C20's two-unitary formula)

Every unitary matrix `W` is `S diag(λ) Sᴴ` with `S` unitary.  Proof by the Cayley transform: choose a point `ω` of the unit circle
outside the (finite) spectrum of `W`; then `H = i (ω + W)(ω − W)⁻¹` is Hermitian, Mathlib's spectral theorem for Hermitian matrices
diagonalises it, `H = S diag(h) Sᴴ`, and `(H + i) W = ω (H − i)` read in that basis gives `W = S diag(ω (h − i)/(h + i)) Sᴴ`.
-/

open Matrix
open scoped ComplexOrder MatrixOrder

namespace Toq.ChanMetrics
open Toq.Metrics

section
variable {n : Type*} [Fintype n] [DecidableEq n]

noncomputable def cayleyPt (t : ℝ) : ℂ := (1 + (t : ℂ) * Complex.I) / (1 - (t : ℂ) * Complex.I)

theorem cayley_num_ne (t : ℝ) : (1 + (t : ℂ) * Complex.I) ≠ 0 := by
  intro h
  have := congrArg Complex.re h
  simp at this

theorem cayley_den_ne (t : ℝ) : (1 - (t : ℂ) * Complex.I) ≠ 0 := by
  have := cayley_num_ne (-t)
  rwa [Complex.ofReal_neg, neg_mul, ← sub_eq_add_neg] at this

theorem cayleyPt_mul_star (t : ℝ) : cayleyPt t * star (cayleyPt t) = 1 := by
  unfold cayleyPt
  have h1 := cayley_den_ne t
  have h2 := cayley_num_ne t
  rw [star_div₀]
  simp only [star_add, star_sub, star_one, star_mul', Complex.star_def, Complex.conj_ofReal, Complex.conj_I]
  have e1 : (1 : ℂ) + (t : ℂ) * -Complex.I = 1 - (t : ℂ) * Complex.I := by ring
  have e2 : (1 : ℂ) - (t : ℂ) * -Complex.I = 1 + (t : ℂ) * Complex.I := by ring
  rw [e1, e2]
  field_simp

theorem cayleyPt_injective : Function.Injective cayleyPt := by
  intro s t h
  unfold cayleyPt at h
  rw [div_eq_div_iff (cayley_den_ne s) (cayley_den_ne t)] at h
  have := congrArg Complex.im h
  simp at this
  linarith

theorem exists_circle_not_spectrum (W : Matrix n n ℂ) :
    ∃ ω : ℂ, ω * star ω = 1 ∧ IsUnit (ω • (1 : Matrix n n ℂ) - W) := by
  have hinf : (Set.range cayleyPt).Infinite := Set.infinite_range_of_injective cayleyPt_injective
  obtain ⟨ω, ⟨t, rfl⟩, hω⟩ := (hinf.sdiff (Matrix.finite_spectrum W)).nonempty
  refine ⟨cayleyPt t, cayleyPt_mul_star t, ?_⟩
  have := spectrum.notMem_iff.mp hω
  rwa [Algebra.algebraMap_eq_smul_one] at this

theorem exists_unitary_diagonalisation {W : Matrix n n ℂ} (hW : Wᴴ * W = 1) :
    ∃ (S : Matrix n n ℂ) (lam : n → ℂ), Sᴴ * S = 1 ∧ S * Sᴴ = 1 ∧ W = S * diagonal lam * Sᴴ := by
  have hW' : W * Wᴴ = 1 := mul_eq_one_comm.mp hW
  obtain ⟨ω, hω, ⟨u, hu⟩⟩ := exists_circle_not_spectrum W
  set M : Matrix n n ℂ := ω • (1 : Matrix n n ℂ) - W with hM
  set P : Matrix n n ℂ := ω • (1 : Matrix n n ℂ) + W with hP
  set Mi : Matrix n n ℂ := ((u⁻¹ : (Matrix n n ℂ)ˣ) : Matrix n n ℂ) with hMi
  have hMMi : M * Mi = 1 := by rw [← hu]; exact u.mul_inv
  have hMiM : Mi * M = 1 := by rw [← hu]; exact u.inv_mul
  have hMiMH : Miᴴ * Mᴴ = 1 := by rw [← Matrix.conjTranspose_mul, hMMi, Matrix.conjTranspose_one]
  -- `Mᴴ P + Pᴴ M = 0`: the cross terms cancel and `ω ω̄ = 1 = Wᴴ W`
  have hsum : Pᴴ * M = -(Mᴴ * P) := by
    rw [eq_neg_iff_add_eq_zero, hM, hP]
    simp only [Matrix.conjTranspose_sub, Matrix.conjTranspose_add, Matrix.conjTranspose_smul, Matrix.conjTranspose_one,
      Matrix.sub_mul, Matrix.mul_sub, Matrix.add_mul, Matrix.mul_add, Matrix.smul_mul, Matrix.mul_smul, Matrix.one_mul,
      Matrix.mul_one, smul_add, smul_sub, smul_smul, hW, hω, one_smul]
    abel
  -- the Cayley transform `H = i (ω + W)(ω − W)⁻¹` is Hermitian: `Hᴴ = −i M⁻ᴴ Pᴴ (M M⁻¹) = i M⁻ᴴ Mᴴ P M⁻¹ = H`
  -- `H` stays a variable: the rewrites with `smul_mul` below must not look inside it
  obtain ⟨H, hH⟩ : ∃ H : Matrix n n ℂ, H = Complex.I • (P * Mi) := ⟨_, rfl⟩
  have hHerm : H.IsHermitian := by
    unfold Matrix.IsHermitian
    calc Hᴴ = (-Complex.I) • (Miᴴ * (Pᴴ * M) * Mi) := by
          rw [hH, Matrix.conjTranspose_smul, Matrix.conjTranspose_mul, Complex.star_def, Complex.conj_I,
            Matrix.mul_assoc, Matrix.mul_assoc, hMMi, Matrix.mul_one]
      _ = Complex.I • (Miᴴ * Mᴴ * P * Mi) := by
          rw [hsum, Matrix.mul_neg, Matrix.neg_mul, smul_neg, neg_smul, neg_neg, ← Matrix.mul_assoc Miᴴ]
      _ = H := by rw [hMiMH, Matrix.one_mul, hH]
  obtain ⟨S, hS, hHe⟩ := exists_conjDiag hHerm
  have hS' := mul_eq_one_comm.mp hS
  set h := hHerm.eigenvalues with hh
  -- `H (ω − W) = i (ω + W)` rearranged: `(H + i) W = ω (H − i)`
  have hHM : H * M = Complex.I • P := by
    rw [hH, Matrix.smul_mul, Matrix.mul_assoc, hMiM, Matrix.mul_one]
  have key : (H + Complex.I • (1 : Matrix n n ℂ)) * W = ω • (H - Complex.I • (1 : Matrix n n ℂ)) := by
    rw [hM, hP, Matrix.mul_sub, Matrix.mul_smul, Matrix.mul_one, smul_add, smul_smul, sub_eq_iff_eq_add] at hHM
    rw [Matrix.add_mul, Matrix.smul_mul, Matrix.one_mul, smul_sub, smul_smul, hHM, mul_comm ω]
    abel
  have hne : ∀ i, ((h i : ℂ) + Complex.I) ≠ 0 := fun i hz => by
    have := congrArg Complex.im hz
    simp at this
  -- `H + c = S diag(h + c) Sᴴ`; so `E = S diag(1/(h + i)) Sᴴ` inverts `H + i`, and `W = E ω (H − i)`
  have hshift : ∀ c : ℂ, H + c • (1 : Matrix n n ℂ) = S * diagonal (fun j => (h j : ℂ) + c) * Sᴴ := fun c => by
    rw [← Matrix.diagonal_add, ← Matrix.smul_one_eq_diagonal, Matrix.mul_add, Matrix.add_mul, Matrix.mul_smul,
      Matrix.smul_mul, Matrix.mul_one, hS']
    exact congrArg (· + c • (1 : Matrix n n ℂ)) hHe
  refine ⟨S, fun j => ω * (((h j : ℂ) + Complex.I)⁻¹ * ((h j : ℂ) + -Complex.I)), hS, hS', ?_⟩
  have hE : S * diagonal (fun j => ((h j : ℂ) + Complex.I)⁻¹) * Sᴴ * (H + Complex.I • (1 : Matrix n n ℂ)) = 1 := by
    rw [hshift, Matrix.conj_mul_conj_eq hS, diagonal_mul_diagonal]
    simp only [inv_mul_cancel₀ (hne _), Matrix.diagonal_one, Matrix.mul_one, hS']
  calc W = S * diagonal (fun j => ((h j : ℂ) + Complex.I)⁻¹) * Sᴴ * ((H + Complex.I • (1 : Matrix n n ℂ)) * W) := by
        rw [← Matrix.mul_assoc, hE, Matrix.one_mul]
    _ = _ := by
        rw [key, sub_eq_add_neg, ← neg_smul, hshift, Matrix.mul_smul, Matrix.conj_mul_conj_eq hS, diagonal_mul_diagonal,
          ← Matrix.smul_mul, ← Matrix.mul_smul, ← Matrix.diagonal_smul]
        rfl

end

end Toq.ChanMetrics
