import Toq.Proofs.Rand
import Toq.Proofs.Perms
/-!
# The Schmidt-rank construction of `random_state_vector`: the factors of the mirror and the closed form

`mat_1 @ mat_2` (Kronecker product of the draws, `swap` of two subsystems, contraction with the maximally entangled vector) has
entries `Σ_j a[j·d0+s] · b[j·d1+t]`: the `swap` exchanges the two middle of four digits of a vector that is read by the two halves of its index
(`permuteVec_swap_mid_four_halves`, as in `_operator_schmidt_rank`), the contraction picks one term of each sum.  The amplitude
matrix is therefore a product `Aᵀ B` with `k` inner dimension.
-/

open Matrix

namespace Toq.Rand
open Toq.Perms
variable {α : Type} [CommSemiring α]

theorem svMat2_apply (k d0 d1 : Nat) (a b : Nat → α) (j j' s t : Nat) (hj : j < k) (hj' : j' < k) (hs : s < d0) (ht : t < d1) :
    svMat2 k d0 d1 a b ((j * k + j') * (d0 * d1) + (s * d1 + t)) = a (j * d0 + s) * b (j' * d1 + t) := by
  have hL : (j * k + j') * (d0 * d1) + (s * d1 + t) = ((j * k + j') * d0 + s) * d1 + t := by ring
  rw [hL]
  -- `swap` reads `kron(a, b)` at the code of `(j, s, j', t)` in `[k, d0, k, d1]`, the pair of positions `(j d0 + s, j' d1 + t)`
  exact permuteVec_swap_mid_four_halves (fun p q => a p * b q) (svDims k d0 d1) j s j' t hj hs hj' ht

theorem maxEnt_apply (k j j' : Nat) (hj : j < k) (hj' : j' < k) :
    (maxEnt k (j * k + j') : α) = if j = j' then 1 else 0 := by
  unfold maxEnt
  rw [Nat.mul_add_div_of_lt hj', Nat.mul_add_mod_of_lt hj']
  simp [Nat.mul_add_lt_mul hj hj']

theorem svMat1_apply (k D r c r' : Nat) (hr' : r' < D) :
    (svMat1 k D r (c * D + r') : α) = maxEnt k c * (if r = r' then 1 else 0) := by
  rw [svMat1, Nat.mul_add_div_of_lt hr', Nat.mul_add_mod_of_lt hr']

theorem svAmp_eq_mul (k d0 d1 : Nat) (a b : Nat → ℂ) :
    (Matrix.of fun (s : Fin d0) (t : Fin d1) => svAmp k d0 d1 a b s.val t.val)
      = (Matrix.of fun (j : Fin k) (s : Fin d0) => a (j.val * d0 + s.val))ᵀ *
        (Matrix.of fun (j : Fin k) (t : Fin d1) => b (j.val * d1 + t.val)) := by
  ext s t
  rw [Matrix.mul_apply]
  exact sumN_eq_sum_fin _ k

end Toq.Rand
