import Toq.Model.GamesSeesaw
import Toq.Proofs.Games
import Mathlib.Algebra.Order.Field.Rat
import Mathlib.Tactic.Ring
import Mathlib.Tactic.Linarith
/-!
# The see-saw programs of `quantum_value_lower_bound` (model: `Toq/Model/GamesSeesaw.lean`), C07

Both builders maximise the same bilinear form: the flat accumulation `win += …` followed by `cvxpy.real` is
`Σ prob·pred·Re tr(B[y,b]ᴴ A[x,a])`.  A deterministic strategy is a point of both programs that satisfies every equality
constraint and has its classical winning probability as objective.  The loop returns the maximum of the values of Bob's
solves it consumed and stops at the first round whose increase is `≤ tol`.
-/

namespace Toq.Seesaw
open Toq.Games

theorem qi_ext {a b : QI} (h1 : a.re = b.re) (h2 : a.im = b.im) : a = b := by
  cases a; cases b; simp_all

@[simp] theorem re_add (a b : QI) : (a + b).re = a.re + b.re := rfl
@[simp] theorem im_add (a b : QI) : (a + b).im = a.im + b.im := rfl
@[simp] theorem re_zero : (0 : QI).re = 0 := rfl
@[simp] theorem im_zero : (0 : QI).im = 0 := rfl
@[simp] theorem re_one : (1 : QI).re = 1 := rfl
@[simp] theorem im_one : (1 : QI).im = 0 := rfl
@[simp] theorem re_mul (a b : QI) : (a * b).re = a.re * b.re - a.im * b.im := rfl
@[simp] theorem im_mul (a b : QI) : (a * b).im = a.re * b.im + a.im * b.re := rfl
@[simp] theorem re_conj (a : QI) : a.conj.re = a.re := rfl
@[simp] theorem im_conj (a : QI) : a.conj.im = -a.im := rfl
@[simp] theorem re_smul (q : Rat) (a : QI) : (QI.smul q a).re = q * a.re := rfl
@[simp] theorem im_smul (q : Rat) (a : QI) : (QI.smul q a).im = q * a.im := rfl

instance : AddZeroClass QI where
  zero_add _ := qi_ext (by simp) (by simp)
  add_zero _ := qi_ext (by simp) (by simp)

theorem re_sumN (f : Nat → QI) : ∀ n, (sumN n f).re = sumN n (fun k => (f k).re) :=
  sumN_map QI.re rfl (fun _ _ => rfl) f

theorem im_sumN (f : Nat → QI) : ∀ n, (sumN n f).im = sumN n (fun k => (f k).im) :=
  sumN_map QI.im rfl (fun _ _ => rfl) f

/-- the four nested `for` loops with one accumulator, read through an additive map: `foldl_range_additive` once per
    loop level, the step hypothesis of each level being the statement for the level inside it -/
theorem loop4_map (φ : QI → Rat) (h0 : φ 0 = 0) (hadd : ∀ a b, φ (a + b) = φ a + φ b) (ai bi ao bo : Nat)
    (term : Nat → Nat → Nat → Nat → QI) :
    φ (loop4 ai bi ao bo term)
      = sumN ai fun x => sumN bi fun y => sumN ao fun a => sumN bo fun b => φ (term x y a b) := by
  unfold loop4
  rw [foldl_range_additive φ _ _ (fun x w =>
    foldl_range_additive φ _ _ (fun y w =>
      foldl_range_additive φ _ _ (fun a w =>
        foldl_range_additive φ (fun b w => w + term x y a b) _ (fun b w => hadd w _) bo w) ao w) bi w) ai 0,
    h0, zero_add]

theorem loop4_re (ai bi ao bo : Nat) (term : Nat → Nat → Nat → Nat → QI) :
    (loop4 ai bi ao bo term).re
      = sumN ai fun x => sumN bi fun y => sumN ao fun a => sumN bo fun b => (term x y a b).re :=
  loop4_map QI.re rfl (fun _ _ => rfl) ai bi ao bo term

theorem loop4_im (ai bi ao bo : Nat) (term : Nat → Nat → Nat → Nat → QI) :
    (loop4 ai bi ao bo term).im
      = sumN ai fun x => sumN bi fun y => sumN ao fun a => sumN bo fun b => (term x y a b).im :=
  loop4_map QI.im rfl (fun _ _ => rfl) ai bi ao bo term

/-- `M.conj().T` (NumPy, two steps) and `M.H` (cvxpy, one step) are the same matrix -/
theorem transpose_conj_eq_ctrans (M : CMat) : transposeM (conjM M) = ctrans M := rfl

/-- For Bob operators handed over as NumPy arrays (first round of an inner loop) the objective `__optimize_alice`
    builds is, as a function of the pair `(A, B)`, the objective `__optimize_bob` builds. -/
theorem aliceObjective_arr_eq_bobObjective (d ao bo ai bi : Nat) (prob : Prob) (pred : Pred) (A B : Fam) :
    aliceObjective d ao bo ai bi prob pred A (fun y b => BobEntry.arr (B y b)) = bobObjective d ao bo ai bi prob pred A B := rfl

/-- The same for Bob operators handed over as cvxpy variables with values (all later rounds). -/
theorem aliceObjective_var_eq_bobObjective (d ao bo ai bi : Nat) (prob : Prob) (pred : Pred) (A B : Fam) :
    aliceObjective d ao bo ai bi prob pred A (fun y b => BobEntry.var (B y b)) = bobObjective d ao bo ai bi prob pred A B := rfl

/-- entries of `bob_povms` that are neither arrays nor variables contribute nothing: the objective is `0` -/
theorem aliceObjective_other (d ao bo ai bi : Nat) (prob : Prob) (pred : Pred) (A : Fam) :
    aliceObjective d ao bo ai bi prob pred A (fun _ _ => BobEntry.other) = 0 := by
  unfold aliceObjective
  rw [loop4_re]
  have : ∀ x y a b, (aliceTerm d prob pred A (fun _ _ => BobEntry.other) x y a b).re = 0 := fun _ _ _ _ => rfl
  simp only [this, sumN_const_zero]

/-- `cvxpy.real(win)` with `win` accumulated term by term is `Σ_x Σ_y Σ_a Σ_b prob·pred·Re tr(B[y,b]ᴴ A[x,a])`. -/
theorem bobObjective_eq_seesawWin (d ao bo ai bi : Nat) (prob : Prob) (pred : Pred) (A B : Fam) :
    bobObjective d ao bo ai bi prob pred A B = seesawWin d ao bo ai bi prob pred A B := by
  unfold bobObjective seesawWin; rw [loop4_re]; rfl

theorem aliceObjective_eq_seesawWin (d ao bo ai bi : Nat) (prob : Prob) (pred : Pred) (A B : Fam) :
    aliceObjective d ao bo ai bi prob pred A (fun y b => BobEntry.arr (B y b)) = seesawWin d ao bo ai bi prob pred A B := by
  rw [aliceObjective_arr_eq_bobObjective, bobObjective_eq_seesawWin]

theorem re_trace_ctrans_mul (d : Nat) (B A : CMat) : (trace d (mmul d (ctrans B) A)).re = hsRe d B A := by
  unfold trace mmul ctrans hsRe
  rw [re_sumN]
  apply sumN_congr; intro i _
  rw [re_sumN]
  apply sumN_congr; intro k _
  simp only [re_mul, re_conj, im_conj]; ring

theorem seesawWin_eq_hs (d ao bo ai bi : Nat) (prob : Prob) (pred : Pred) (A B : Fam) :
    seesawWin d ao bo ai bi prob pred A B
      = sumN ai fun x => sumN bi fun y => sumN ao fun a => sumN bo fun b => prob x y * pred a b x y * hsRe d (B y b) (A x a) := by
  unfold seesawWin; simp only [re_trace_ctrans_mul]

/-- the part of `win` that `cvxpy.real` drops -/
theorem bobWin_im (d ao bo ai bi : Nat) (prob : Prob) (pred : Pred) (A B : Fam) :
    (loop4 ai bi ao bo (bobTerm d prob pred A B)).im
      = sumN ai fun x => sumN bi fun y => sumN ao fun a => sumN bo fun b =>
          prob x y * pred a b x y * (trace d (mmul d (ctrans (B y b)) (A x a))).im := by
  rw [loop4_im]; rfl

theorem hsRe_comm (d : Nat) (B A : CMat) : hsRe d B A = hsRe d A B := by
  unfold hsRe
  apply sumN_congr; intro i _
  apply sumN_congr; intro k _
  ring

theorem hsRe_zero_right (d : Nat) (B : CMat) : hsRe d B zeroM = 0 := by
  unfold hsRe zeroM
  simp only [re_zero, im_zero, mul_zero, add_zero, sumN_const_zero]

theorem hsRe_zero_left (d : Nat) (A : CMat) : hsRe d zeroM A = 0 := by
  rw [hsRe_comm, hsRe_zero_right]

theorem hsRe_id (d : Nat) (tau : CMat) : hsRe d idM tau = (trace d tau).re := by
  unfold hsRe trace
  rw [re_sumN]
  apply sumN_congr; intro i hi
  have : (fun k => (idM k i).re * (tau k i).re + (idM k i).im * (tau k i).im)
      = fun k => if k = i then (tau k i).re else 0 := by
    funext k
    unfold idM
    by_cases h : k = i <;> simp [h]
  rw [this]
  exact sumN_ite_eq_swap (fun k => (tau k i).re) i d hi

theorem hsRe_det (d : Nat) (f g : Nat → Nat) (tau : CMat) (x y a b : Nat) :
    hsRe d (detBob g y b) (detAlice f tau x a) = if a = f x ∧ b = g y then (trace d tau).re else 0 := by
  unfold detBob detAlice
  by_cases ha : a = f x
  · by_cases hb : b = g y
    · rw [if_pos ha, if_pos hb, if_pos ⟨ha, hb⟩, hsRe_id]
    · rw [if_neg hb, if_neg (fun h : a = f x ∧ b = g y => hb h.2), hsRe_zero_left]
  · rw [if_neg ha, if_neg (fun h : a = f x ∧ b = g y => ha h.1), hsRe_zero_right]

theorem seesawWin_det (d ao bo ai bi : Nat) (prob : Prob) (pred : Pred) (f g : Nat → Nat) (tau : CMat)
    (hf : ∀ x, x < ai → f x < ao) (hg : ∀ y, y < bi → g y < bo) (htr : trace d tau = 1) :
    seesawWin d ao bo ai bi prob pred (detAlice f tau) (detBob g) = detValueN ai bi prob pred f g := by
  rw [seesawWin_eq_hs]
  unfold detValueN
  refine sumN_congr _ _ ai fun x hx => sumN_congr _ _ bi fun y hy => ?_
  rw [sumN_eq_single _ (f x) ao (hf x hx) fun a _ hne => sumN_eq_zero _ bo fun b _ => by
      rw [hsRe_det, if_neg (fun h => hne h.1), mul_zero],
    sumN_eq_single _ (g y) bo (hg y hy) fun b _ hne => by rw [hsRe_det, if_neg (fun h => hne h.2), mul_zero],
    hsRe_det, if_pos ⟨rfl, rfl⟩, htr, re_one, mul_one]

theorem bobObjective_det (d ao bo ai bi : Nat) (prob : Prob) (pred : Pred) (f g : Nat → Nat) (tau : CMat)
    (hf : ∀ x, x < ai → f x < ao) (hg : ∀ y, y < bi → g y < bo) (htr : trace d tau = 1) :
    bobObjective d ao bo ai bi prob pred (detAlice f tau) (detBob g) = detValueN ai bi prob pred f g := by
  rw [bobObjective_eq_seesawWin, seesawWin_det d ao bo ai bi prob pred f g tau hf hg htr]

theorem aliceObjective_det (d ao bo ai bi : Nat) (prob : Prob) (pred : Pred) (f g : Nat → Nat) (tau : CMat)
    (hf : ∀ x, x < ai → f x < ao) (hg : ∀ y, y < bi → g y < bo) (htr : trace d tau = 1) :
    aliceObjective d ao bo ai bi prob pred (detAlice f tau) (fun y b => BobEntry.arr (detBob g y b))
      = detValueN ai bi prob pred f g := by
  rw [aliceObjective_arr_eq_bobObjective, bobObjective_det d ao bo ai bi prob pred f g tau hf hg htr]

theorem eqM_iff (d : Nat) (M N : CMat) : eqM d M N = true ↔ ∀ i j, i < d → j < d → M i j = N i j := by
  unfold eqM
  rw [allBelow_iff]
  constructor
  · intro h i j hi hj
    have := (allBelow_iff _ d).1 (h i hi) j hj
    simpa using this
  · intro h i hi
    rw [allBelow_iff]
    intro j hj
    simpa using h i j hi hj

theorem length_flatMap_const {α β : Type} (l : List α) (F : α → List β) (c : Nat) (h : ∀ a, (F a).length = c) :
    (l.flatMap F).length = l.length * c := by
  rw [List.length_flatMap, funext h, List.map_const', List.sum_replicate, smul_eq_mul]

/-- the shape of both builders' loops: `for x in range(n): (for a in range(m): append(mk x a)); append(e x)` -/
def blocks (n m : Nat) (mk : Nat → Nat → Constr) (e : Nat → Constr) : List Constr :=
  (List.range n).flatMap (fun x => (List.range m).map (mk x) ++ [e x])

theorem aliceConstraints_eq (ao ai : Nat) :
    aliceConstraints ao ai = blocks ai ao .psdA .sumA ++ [.trTau, .psdTau] := rfl

theorem length_blocks (n m : Nat) (mk : Nat → Nat → Constr) (e : Nat → Constr) :
    (blocks n m mk e).length = n * (m + 1) := by
  rw [blocks, length_flatMap_const _ _ (m + 1) (by intro x; simp), List.length_range]

theorem length_filter_blocks (n m : Nat) (mk : Nat → Nat → Constr) (e : Nat → Constr)
    (hmk : ∀ x a, (mk x a).isPsd = true) (he : ∀ x, (e x).isPsd = false) :
    ((blocks n m mk e).filter Constr.isPsd).length = n * m := by
  have block : ∀ x, (((List.range m).map (mk x) ++ [e x]).filter Constr.isPsd).length = m := fun x => by
    have h1 : ((List.range m).map (mk x)).filter Constr.isPsd = (List.range m).map (mk x) := by
      apply List.filter_eq_self.2
      intro c hc
      obtain ⟨a, _, rfl⟩ := List.mem_map.1 hc
      exact hmk x a
    simp [List.filter_append, h1, he x]
  rw [blocks, List.filter_flatMap, length_flatMap_const _ _ m block, List.length_range]

theorem mem_blocks {n m : Nat} {mk : Nat → Nat → Constr} {e : Nat → Constr} {c : Constr} (h : c ∈ blocks n m mk e) :
    ∃ x, x < n ∧ ((∃ a, c = mk x a) ∨ c = e x) := by
  obtain ⟨x, hx, hc⟩ := List.mem_flatMap.1 h
  refine ⟨x, List.mem_range.1 hx, (List.mem_append.1 hc).imp (fun h2 => ?_) List.mem_singleton.1⟩
  obtain ⟨a, _, rfl⟩ := List.mem_map.1 h2
  exact ⟨a, rfl⟩

theorem aliceConstraints_length (ao ai : Nat) : (aliceConstraints ao ai).length = ai * (ao + 1) + 2 := by
  rw [aliceConstraints_eq, List.length_append, length_blocks]
  rfl

theorem bobConstraints_length (bo bi : Nat) : (bobConstraints bo bi).length = bi * (bo + 1) :=
  length_blocks bi bo _ _

theorem aliceConstraints_psd (ao ai : Nat) : ((aliceConstraints ao ai).filter Constr.isPsd).length = ai * ao + 1 := by
  rw [aliceConstraints_eq, List.filter_append, List.length_append,
    length_filter_blocks ai ao _ _ (fun _ _ => rfl) fun _ => rfl]
  rfl

theorem bobConstraints_psd (bo bi : Nat) : ((bobConstraints bo bi).filter Constr.isPsd).length = bi * bo :=
  length_filter_blocks bi bo _ _ (fun _ _ => rfl) fun _ => rfl

theorem sumM_ite (n c : Nat) (hc : c < n) (X : CMat) (i j : Nat) :
    sumM n (fun k => if k = c then X else zeroM) i j = X i j := by
  unfold sumM
  simp only [ite_apply]
  exact sumN_ite_eq_swap (fun _ => X i j) c n hc

theorem det_alice_feasible_eqs (d ao bo ai : Nat) (f : Nat → Nat) (tau : CMat) (B : Fam)
    (hf : ∀ x, x < ai → f x < ao) (htr : trace d tau = 1) :
    ∀ c ∈ aliceConstraints ao ai, c.holdsEq d ao bo (detAlice f tau) B tau = true := by
  intro c hc
  rcases List.mem_append.1 hc with h | h
  · obtain ⟨x, hx, ⟨a, rfl⟩ | rfl⟩ := mem_blocks h
    · rfl
    · exact (eqM_iff d _ _).2 fun i j _ _ => sumM_ite ao (f x) (hf x hx) tau i j
  · rcases List.mem_pair.1 h with rfl | rfl
    · exact decide_eq_true htr
    · rfl

theorem det_bob_feasible_eqs (d ao bo bi : Nat) (g : Nat → Nat) (A : Fam) (tau : CMat)
    (hg : ∀ y, y < bi → g y < bo) :
    ∀ c ∈ bobConstraints bo bi, c.holdsEq d ao bo A (detBob g) tau = true := by
  intro c hc
  obtain ⟨y, hy, ⟨b, rfl⟩ | rfl⟩ := mem_blocks hc
  · rfl
  · exact (eqM_iff d _ _).2 fun i j _ _ => sumM_ite bo (g y) (hg y hy) idM i j

theorem isHermM_zeroM (d : Nat) : isHermM d zeroM = true := (eqM_iff d _ _).2 fun _ _ _ _ => rfl

theorem isHermM_idM (d : Nat) : isHermM d idM = true := (eqM_iff d _ _).2 fun i j _ _ => by
  unfold ctrans idM
  simp only [eq_comm (a := j)]
  split <;> rfl

/-- the blocks of a deterministic point lie in the domain of the Hermitian variables when `τ` is Hermitian -/
theorem det_hermitian (d : Nat) (f g : Nat → Nat) (tau : CMat) (htau : isHermM d tau = true) (x a y b : Nat) :
    isHermM d (detAlice f tau x a) = true ∧ isHermM d (detBob g y b) = true := by
  unfold detAlice detBob
  constructor
  · split
    exacts [htau, isHermM_zeroM d]
  · split
    exacts [isHermM_idM d, isHermM_zeroM d]

/-- the increments `lower_bound - prev_win` the loop computes along a list of Bob values, starting from `prev_win = prev` -/
def incrs (prev : Rat) : List Rat → List Rat
  | [] => []
  | v :: rest => (v - prev) :: incrs v rest

theorem incrs_length (prev : Rat) : ∀ vals : List Rat, (incrs prev vals).length = vals.length
  | [] => rfl
  | v :: rest => by simp [incrs, incrs_length v rest]

/-- the number of leading rounds whose increase exceeds the tolerance -/
def lead (tol prev : Rat) (vals : List Rat) : Nat := ((incrs prev vals).takeWhile (fun δ => decide (δ > tol))).length

theorem innerGo_of_not_gt (tol : Rat) (vals : List Rat) (itDiff prev : Rat) (best : Option Rat) (h : ¬ itDiff > tol) :
    innerGo tol vals itDiff prev best = ⟨best, 0, true⟩ := by
  cases vals with
  | nil => simp [innerGo, h]
  | cons lb rest => simp [innerGo, h]

theorem lead_cons (tol prev v : Rat) (rest : List Rat) :
    lead tol prev (v :: rest) = if v - prev > tol then lead tol v rest + 1 else 0 := by
  show (((v - prev) :: incrs v rest).takeWhile _).length = _
  rw [List.takeWhile_cons]
  by_cases h : v - prev > tol
  · rw [if_pos h, if_pos (decide_eq_true h)]
    rfl
  · rw [if_neg h, if_neg (fun h' => h (of_decide_eq_true h'))]
    rfl

/-- The `while` loop in closed form, once entered: it stops after the first round whose increase is `≤ tol`, or when the
    supplied values run out. -/
theorem innerGo_eq (tol : Rat) : ∀ (vals : List Rat) (itDiff prev : Rat) (best : Option Rat), itDiff > tol →
    innerGo tol vals itDiff prev best
      = ⟨(vals.take (lead tol prev vals + 1)).foldl maxNegInf best, min (lead tol prev vals + 1) vals.length,
          decide (lead tol prev vals < vals.length)⟩
  | [], _, _, _, h => by
    rw [innerGo, decide_eq_false (not_not.mpr h)]
    rfl
  | lb :: rest, itDiff, prev, best, h => by
    rw [innerGo, if_pos h, lead_cons]
    by_cases h2 : lb - prev > tol
    · rw [if_pos h2, innerGo_eq tol rest (lb - prev) lb _ h2, List.take_succ_cons, List.foldl_cons, List.length_cons,
        Nat.succ_min_succ]
      exact congrArg _ (decide_eq_decide.mpr Nat.succ_lt_succ_iff.symm)
    · rw [if_neg h2, innerGo_of_not_gt tol rest (lb - prev) lb _ h2, List.length_cons, Nat.succ_min_succ, Nat.zero_min,
        decide_eq_true (Nat.succ_pos _)]
      rfl

theorem innerGo_steps (tol : Rat) (vals : List Rat) (itDiff prev : Rat) (best : Option Rat) (h : itDiff > tol) :
    (innerGo tol vals itDiff prev best).steps = min (lead tol prev vals + 1) vals.length := by
  rw [innerGo_eq tol vals itDiff prev best h]

theorem innerGo_terminated (tol : Rat) (vals : List Rat) (itDiff prev : Rat) (best : Option Rat) (h : itDiff > tol) :
    (innerGo tol vals itDiff prev best).terminated = decide (lead tol prev vals < vals.length) := by
  rw [innerGo_eq tol vals itDiff prev best h]

theorem innerGo_best (tol : Rat) (vals : List Rat) (itDiff prev : Rat) (best : Option Rat) :
    (innerGo tol vals itDiff prev best).best
      = (vals.take (innerGo tol vals itDiff prev best).steps).foldl maxNegInf best := by
  by_cases h : itDiff > tol
  · rw [innerGo_eq tol vals itDiff prev best h, ← List.take_eq_take_min]
  · rw [innerGo_of_not_gt tol vals itDiff prev best h]
    rfl

theorem innerGo_steps_le (tol : Rat) (vals : List Rat) (itDiff prev : Rat) (best : Option Rat) :
    (innerGo tol vals itDiff prev best).steps ≤ vals.length := by
  by_cases h : itDiff > tol
  · rw [innerGo_eq tol vals itDiff prev best h]
    exact Nat.min_le_right _ _
  · rw [innerGo_of_not_gt tol vals itDiff prev best h]
    exact Nat.zero_le _

theorem innerLoop_best_isMax (tol : Rat) (vals : List Rat) :
    IsListMax (vals.take (innerLoop tol vals).steps) (innerLoop tol vals).best := by
  unfold innerLoop
  rw [innerGo_best, isListMax_iff]
  exact ((foldl_maxNegInf _ ⊥).trans (bot_sup_eq _)).symm

theorem seesawLoop_value_isMax (tol : Rat) (vals : Nat → List Rat) :
    ∀ n, IsListMax (consumed tol vals n) (seesawLoop tol vals n).value
  | 0 => rfl
  | n + 1 => by
    have h1 := (isListMax_iff _ _).1 (seesawLoop_value_isMax tol vals n)
    have h2 := (isListMax_iff _ _).1 (innerLoop_best_isMax tol (vals n))
    exact (isListMax_iff _ _).2 ((List.maximum_append _ _).trans
      ((congrArg₂ max h1 h2).trans ((max_comm _ _).trans (maxOpt_eq_max _ _).symm)))

theorem seesawLoop_value_mem (tol : Rat) (vals : Nat → List Rat) (n : Nat) (v : Rat)
    (h : (seesawLoop tol vals n).value = some v) :
    v ∈ consumed tol vals n ∧ ∀ w ∈ consumed tol vals n, w ≤ v := by
  have := seesawLoop_value_isMax tol vals n
  rw [h] at this
  exact this

theorem seesawLoop_steps (tol : Rat) (vals : Nat → List Rat) :
    ∀ n, (seesawLoop tol vals n).steps = (List.range n).map (fun i => (innerLoop tol (vals i)).steps)
  | 0 => rfl
  | n + 1 => by
    show (seesawLoop tol vals n).steps ++ [(innerLoop tol (vals n)).steps] = _
    rw [seesawLoop_steps tol vals n, List.range_succ, List.map_append]; rfl

theorem consumed_length (tol : Rat) (vals : Nat → List Rat) :
    ∀ n, (consumed tol vals n).length = (seesawLoop tol vals n).steps.sum
  | 0 => rfl
  | n + 1 => by
    show (consumed tol vals n ++ (vals n).take (innerLoop tol (vals n)).steps).length
      = ((seesawLoop tol vals n).steps ++ [(innerLoop tol (vals n)).steps]).sum
    rw [List.length_append, consumed_length tol vals n, List.length_take, List.sum_append]
    have := innerGo_steps_le tol (vals n) 1 (-1) none
    unfold innerLoop
    simp [Nat.min_eq_left this]

theorem solves_eq (tol : Rat) (vals : Nat → List Rat) (n : Nat) :
    (seesawLoop tol vals n).solves = 2 * (consumed tol vals n).length := by
  unfold LoopResult.solves; rw [consumed_length]

/-- the start value `it_diff = 1` passes the test `it_diff > tol` -/
theorem innerLoop_steps_pos (tol : Rat) (vals : List Rat) (htol : tol < 1) (hv : vals ≠ []) :
    1 ≤ (innerLoop tol vals).steps := by
  unfold innerLoop
  rw [innerGo_steps tol vals 1 (-1) none htol]
  have : 1 ≤ vals.length := by
    cases vals with
    | nil => exact absurd rfl hv
    | cons _ _ => simp
  omega

/-- the start value `it_diff = 1` fails the test `it_diff > tol`: no round runs -/
theorem innerLoop_of_one_le_tol (tol : Rat) (vals : List Rat) (htol : 1 ≤ tol) : innerLoop tol vals = ⟨none, 0, true⟩ :=
  innerGo_of_not_gt tol vals 1 (-1) none (not_lt.2 htol)

theorem seesawLoop_of_one_le_tol (tol : Rat) (vals : Nat → List Rat) (htol : 1 ≤ tol) :
    ∀ n, (seesawLoop tol vals n).value = none ∧ (seesawLoop tol vals n).solves = 0
  | 0 => ⟨rfl, rfl⟩
  | n + 1 => by
    obtain ⟨h1, h2⟩ := seesawLoop_of_one_le_tol tol vals htol n
    have hi := innerLoop_of_one_le_tol tol (vals n) htol
    constructor
    · show maxOpt (innerLoop tol (vals n)).best (seesawLoop tol vals n).value = none
      rw [hi, h1]; rfl
    · unfold LoopResult.solves at *
      show 2 * ((seesawLoop tol vals n).steps ++ [(innerLoop tol (vals n)).steps]).sum = 0
      rw [hi, List.sum_append]
      simp only [List.sum_cons, List.sum_nil]; omega

theorem seesawLoop_value_isSome (tol : Rat) (vals : Nat → List Rat) (n : Nat) (htol : tol < 1) (hv : vals 0 ≠ []) :
    ((seesawLoop tol vals (n + 1)).value).isSome = true := by
  have hmax := seesawLoop_value_isMax tol vals (n + 1)
  cases hval : (seesawLoop tol vals (n + 1)).value with
  | some v => rfl
  | none =>
    rw [hval] at hmax
    have hnil : consumed tol vals (n + 1) = [] := hmax
    have hlen := consumed_length tol vals (n + 1)
    rw [hnil, seesawLoop_steps] at hlen
    have hpos := innerLoop_steps_pos tol (vals 0) htol hv
    have hmem : (innerLoop tol (vals 0)).steps ∈ (List.range (n + 1)).map (fun i => (innerLoop tol (vals i)).steps) :=
      List.mem_map.2 ⟨0, List.mem_range.2 (Nat.succ_pos n), rfl⟩
    have hle := List.le_sum_of_mem hmem
    simp only [List.length_nil] at hlen
    omega

theorem incrs_eq_zipWith : ∀ (prev : Rat) (vals : List Rat), incrs prev vals = List.zipWith (fun v p => v - p) vals (prev :: vals)
  | _, [] => rfl
  | prev, v :: rest => by
    simp only [incrs, List.zipWith_cons_cons]
    rw [incrs_eq_zipWith v rest]

theorem lead_eq_findIdx (tol prev : Rat) (vals : List Rat) :
    lead tol prev vals = (incrs prev vals).findIdx (fun δ => !decide (δ > tol)) := by
  unfold lead
  rw [List.takeWhile_eq_take_findIdx_not, List.length_take]
  exact Nat.min_eq_left List.findIdx_le_length

theorem lead_go (tol prev : Rat) (vals : List Rat) (k : Nat) (δ : Rat) (hk : k < lead tol prev vals)
    (h : (incrs prev vals)[k]? = some δ) : δ > tol := by
  rw [lead_eq_findIdx] at hk
  obtain ⟨_, rfl⟩ := List.getElem?_eq_some_iff.1 h
  simpa using List.not_of_lt_findIdx hk

theorem lead_stop (tol prev : Rat) (vals : List Rat) (δ : Rat) (h : (incrs prev vals)[lead tol prev vals]? = some δ) : δ ≤ tol := by
  rw [lead_eq_findIdx] at h
  obtain ⟨hl, rfl⟩ := List.getElem?_eq_some_iff.1 h
  simpa using List.findIdx_getElem (w := hl)

/-- `-1` is the value of `prev_win` before the first round -/
theorem innerLoop_stop_rule (tol : Rat) (vals : List Rat) (htol : tol < 1) (hterm : (innerLoop tol vals).terminated = true) :
    (innerLoop tol vals).steps = lead tol (-1) vals + 1 ∧
    (∀ δ, (incrs (-1) vals)[lead tol (-1) vals]? = some δ → δ ≤ tol) ∧
    (∀ k δ, k < lead tol (-1) vals → (incrs (-1) vals)[k]? = some δ → δ > tol) := by
  rw [innerLoop, innerGo_terminated tol vals 1 (-1) none htol] at hterm
  have hlt : lead tol (-1) vals < vals.length := by simpa using hterm
  refine ⟨?_, fun δ h => lead_stop tol (-1) vals δ h, fun k δ hk h => lead_go tol (-1) vals k δ hk h⟩
  rw [innerLoop, innerGo_steps tol vals 1 (-1) none htol]
  omega

/-- when the consumed values never decrease (what alternating optimisation does up to solver noise), the maximum the loop keeps
    is the last value -/
theorem isListMax_of_monotone (l : List Rat) (v : Rat) (hmax : IsListMax l (some v)) (hmono : l.Pairwise (· ≤ ·)) (h : l ≠ []) :
    v = l.getLast h :=
  le_antisymm (hmono.rel_getLast hmax.1) (hmax.2 _ (List.getLast_mem h))

theorem sumN_mul_rat (c : Rat) (f : Nat → Rat) : ∀ n, sumN n (fun k => c * f k) = c * sumN n f :=
  sumN_mul_left c f

theorem hsRe_add_right (d : Nat) (B A A' : CMat) : hsRe d B (addM A A') = hsRe d B A + hsRe d B A' := by
  unfold hsRe addM
  rw [← sumN_add_distrib]
  apply sumN_congr; intro i _
  rw [← sumN_add_distrib]
  apply sumN_congr; intro k _
  simp only [re_add, im_add]; ring

theorem hsRe_add_left (d : Nat) (B B' A : CMat) : hsRe d (addM B B') A = hsRe d B A + hsRe d B' A := by
  rw [hsRe_comm, hsRe_add_right, hsRe_comm d A B, hsRe_comm d A B']

theorem seesawWin_add_alice (d ao bo ai bi : Nat) (prob : Prob) (pred : Pred) (A A' B : Fam) :
    seesawWin d ao bo ai bi prob pred (fun x a => addM (A x a) (A' x a)) B
      = seesawWin d ao bo ai bi prob pred A B + seesawWin d ao bo ai bi prob pred A' B := by
  simp only [seesawWin_eq_hs, hsRe_add_right, mul_add, sumN_add_distrib]

theorem seesawWin_add_bob (d ao bo ai bi : Nat) (prob : Prob) (pred : Pred) (A B B' : Fam) :
    seesawWin d ao bo ai bi prob pred A (fun y b => addM (B y b) (B' y b))
      = seesawWin d ao bo ai bi prob pred A B + seesawWin d ao bo ai bi prob pred A B' := by
  simp only [seesawWin_eq_hs, hsRe_add_left, mul_add, sumN_add_distrib]

/-- tol = 1/100: increases 3/2, 1/4, 0 → three rounds; second outer iteration 5/4, 0 → two rounds; value = 3/4 -/
example : seesawLoop (1 / 100) (fun i => if i = 0 then [1 / 2, 3 / 4, 3 / 4, 1] else [1 / 4, 1 / 4, 7 / 8]) 2
    = ⟨some (3 / 4), [3, 2], true⟩ := by decide +kernel

/-- `tol = 2 ≥ 1`: no round runs, the value is `-inf` -/
example : (seesawLoop 2 (fun _ => [1 / 2]) 3).value = none := by decide +kernel

example : (aliceConstraints 3 2).length = 10 ∧ (bobConstraints 2 3).length = 9 := by decide

end Toq.Seesaw
