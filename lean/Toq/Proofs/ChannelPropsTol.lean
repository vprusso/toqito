import Toq.Model.ChannelPropsTol
import Toq.Proofs.ChannelProps
import Toq.Proofs.RatReal
import Mathlib.Tactic.Linarith
/-!
# `np.allclose` on exact data: meaning of the mirror `closeQ` / `allcloseQ`  (helper lemmas for C06)

`|a - b| ≤ atol + rtol·|b|` between moduli of complex rationals is decided without square roots by squaring twice
(`closeQ_eq`, `QI.closeQ_iff` of `Proofs/RatReal`); the margin of the three-valued verdicts (`farApart`) lies outside every tolerance up to toqito's defaults.
-/
open Matrix
open scoped ComplexOrder

namespace Toq.ChanPropProofs
open Toq.ChannelProps

theorem closeQ_eq (rtol atol : Rat) (a b : QI) : closeQ rtol atol a b = QI.closeQ a b rtol atol := rfl

/-- **`allcloseQ` is `np.allclose`** on the denoted complex matrices. -/
theorem allcloseQ_iff {n m : Nat} (rtol atol : Rat) (hr : 0 ≤ rtol) (ha : 0 ≤ atol) (A B : EMat n m) :
    allcloseQ rtol atol A B = true ↔
      ∀ i j, ‖A.toM i j - B.toM i j‖ ≤ (atol : ℝ) + (rtol : ℝ) * ‖B.toM i j‖ := by
  unfold allcloseQ
  simp only [EMat.allFin_iff, closeQ_eq, QI.closeQ_iff _ _ hr ha]
  rfl

/-- equal matrices are close for all tolerances, of either sign -/
theorem allcloseQ_of_eq {n m : Nat} (rtol atol : Rat) (A B : EMat n m) (h : A.toM = B.toM) : allcloseQ rtol atol A B = true := by
  rw [allcloseQ, EMat.allFin_iff]
  refine fun i => (EMat.allFin_iff _ _).mpr fun j => ?_
  rw [EMat.get_eq_of_toM_eq h i j]
  exact (closeQ_eq _ _ _ _).trans (QI.closeQ_self _ rtol atol)

/-- the margin of `farApart` is `100·(1e-8 + 1e-5·scale)` in `|re| + |im|`; the bounds on `rtol`, `atol` are numpy's defaults -/
theorem not_allcloseQ_of_farApart {n m : Nat} (rtol atol : Rat) (hr0 : 0 ≤ rtol) (ha0 : 0 ≤ atol)
    (hr : rtol ≤ 1 / 100000) (ha : atol ≤ 1 / 100000000) (A B : EMat n m) (h : farApart A B = true) :
    allcloseQ rtol atol A B = false := by
  simp only [farApart, List.any_eq_true, decide_eq_true_eq, maxRat_eq_max] at h
  obtain ⟨i, -, j, -, hij⟩ := h
  rw [tolOf_eq] at hij
  -- the margin is `1e-6 + 1e-3·s` with `|B_ij|₁ ≤ s`, and `2·atol ≤ 2e-8 < 1e-6`, `2·rtol ≤ 2e-5 ≤ 1e-3`
  have hn : closeQ rtol atol (A.get i j) (B.get i j) = false :=
    (closeQ_eq _ _ _ _).trans (QI.not_closeQ_of_affine_margin hr0 ha0 ((abs1_le_maxAbs1 B i j).trans (le_max_right (maxAbs1 A) _))
      ((mul_le_mul_of_nonneg_left ha zero_le_two).trans_lt (by norm_num))
      ((mul_le_mul_of_nonneg_left hr zero_le_two).trans (by norm_num)) hij)
  refine Bool.eq_false_iff.mpr fun hc => Bool.false_ne_true (hn.symm.trans ?_)
  rw [allcloseQ, EMat.allFin_iff] at hc
  exact (EMat.allFin_iff _ _).mp (hc i) j

theorem psdTolV_yes {n k : Nat} {rtol atol : Rat} {J : EMat n n} {L : Option (EMat n k)} {c : Rat} {v : Option (EMat n 1)}
    {μ : Rat} (h : psdTolV rtol atol J L c v μ = .yes) :
    J.isHermitian = true ∧ ∃ L', L = some L' ∧ 0 ≤ c ∧ c ≤ absQ atol ∧ psdYes (J + EMat.scalar c) L' = true := by
  unfold psdTolV at h
  rw [ite_eq_iff_of_left_ne (by decide), ite_eq_iff_of_left_ne (by decide), ite_ite_eq_fst_iff (by decide) (by decide)] at h
  obtain ⟨-, h2, h3⟩ := h
  cases L with
  | none => exact absurd h3 Bool.false_ne_true
  | some L' =>
    simp only [Bool.and_eq_true, decide_eq_true_eq] at h3
    exact ⟨by simpa using h2, L', rfl, h3.1.1, h3.1.2, h3.2⟩

theorem psdTolV_no {n k : Nat} {rtol atol : Rat} {J : EMat n n} {L : Option (EMat n k)} {c : Rat} {v : Option (EMat n 1)}
    {μ : Rat} (h : psdTolV rtol atol J L c v μ = .no) :
    allcloseQ rtol atol J J.ct = false ∨
      (J.isHermitian = true ∧ ∃ v', v = some v' ∧ absQ atol < μ ∧ negWitness J v' μ = true) := by
  unfold psdTolV at h
  rw [ite_self_eq_iff, ite_eq_iff_of_left_ne (by decide), ite_ite_eq_snd_iff (by decide) (by decide)] at h
  refine h.imp (fun h1 => by simpa using h1) fun h' => ?_
  obtain ⟨h2, -, h4⟩ := h'
  cases v with
  | none => exact absurd h4 Bool.false_ne_true
  | some v' =>
    simp only [Bool.and_eq_true, decide_eq_true_eq] at h4
    exact ⟨by simpa using h2, v', rfl, h4.1, h4.2⟩
end Toq.ChanPropProofs
