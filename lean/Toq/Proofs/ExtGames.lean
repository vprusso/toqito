import Toq.Model.ExtGames
import Toq.Proofs.Bipartite
import Toq.Proofs.Cert
import Toq.Proofs.Idx
import Toq.Proofs.Npa
import Mathlib.LinearAlgebra.Matrix.Kronecker
import Mathlib.Logic.Equiv.Fin.Basic
/-!
# Extended games, hedging, cloning (C09): what the exact checkers of `Toq/Model/ExtGames.lean` certify

Two kinds of certificate.  A bound `c` on `λ_max(M)` is a PSD witness for `c·1 − M`; it bounds the expectation `Re tr(M ρ)` in every
density operator, and a Rayleigh quotient is such an expectation: this encloses the unentangled value of an extended game, the maximum
over the enumerated answer functions of `λ_max` of the question-averaged operator (`toM_avgOperator`, `fnOfIdx_surj`).  The hedging
and cloning programs `max / min Re tr(Q X)`, `X ⪰ 0`, `Tr_1 X = 1` are written on `α × β`-indexed matrices (`HedgeFeasible`); weak duality
is `tr((1 ⊗ Y) X) = tr Y` on the feasible set, stated for operators that reach the order (outputs, inputs) through an identification
`e : α × β ≃ ι` of the index set, which covers the flat index of the executable operations (`unflat`: `e = finProdFinEquiv`) and
toqito's orders of the tensor factors under repetition.  The last section reads the NPA generator with values in referee blocks
(`Blk`) and gives the block point of a deterministic strategy.
-/

open Matrix Kronecker
open scoped ComplexOrder MatrixOrder

namespace Toq.ExtGames
open EMat

section Density
variable {ι κ : Type*} [Fintype ι] [Fintype κ]

def IsDensity (ρ : Matrix ι ι ℂ) : Prop := ρ.PosSemidef ∧ ρ.trace = 1

theorem IsDensity.trace_mul_le [DecidableEq ι] {A ρ : Matrix ι ι ℂ} {c : ℝ} (hρ : IsDensity ρ)
    (h : ((c : ℂ) • (1 : Matrix ι ι ℂ) - A).PosSemidef) : (A * ρ).trace.re ≤ c :=
  (re_trace_mul_le_of_smul_one_sub_psd h hρ.1).trans_eq (by rw [hρ.2, Complex.one_re, mul_one])

theorem rayleigh_le_of_psd [DecidableEq ι] {A : Matrix ι ι ℂ} {c : ℝ}
    (h : ((c : ℂ) • (1 : Matrix ι ι ℂ) - A).PosSemidef) (V : Matrix ι κ ℂ) :
    (Vᴴ * A * V).trace.re ≤ c * (Vᴴ * V).trace.re := by
  have h1 := re_trace_mul_le_of_smul_one_sub_psd h (Matrix.posSemidef_self_mul_conjTranspose V)
  rwa [← Matrix.mul_assoc, Matrix.trace_mul_comm (A * V), ← Matrix.mul_assoc, Matrix.trace_mul_comm V] at h1

theorem isDensity_inv_trace_smul {ρ : Matrix ι ι ℂ} (hρ : ρ.PosSemidef) (hpos : 0 < ρ.trace.re) :
    IsDensity ((((ρ.trace.re)⁻¹ : ℝ) : ℂ) • ρ) := by
  rw [Complex.ofReal_inv, ← trace_eq_re_of_psd hρ]
  exact ⟨hρ.inv_trace_smul, Matrix.trace_inv_trace_smul ρ fun h => hpos.ne' (by rw [h, Complex.zero_re])⟩

theorem exists_density_of_expectation {A ρ : Matrix ι ι ℂ} {r : ℝ} (hρ : ρ.PosSemidef) (hpos : 0 < ρ.trace.re)
    (hq : (A * ρ).trace.re = r * ρ.trace.re) : ∃ ρ' : Matrix ι ι ℂ, IsDensity ρ' ∧ (A * ρ').trace.re = r := by
  refine ⟨_, isDensity_inv_trace_smul hρ hpos, ?_⟩
  rw [re_trace_mul_smul, hq, mul_comm r, ← mul_assoc, inv_mul_cancel₀ hpos.ne', one_mul]

theorem psd_sub_iff_forall_density [DecidableEq ι] {M : Matrix ι ι ℂ} (hM : M.IsHermitian) (c : ℝ) :
    ((c : ℂ) • (1 : Matrix ι ι ℂ) - M).PosSemidef ↔ ∀ ρ : Matrix ι ι ℂ, IsDensity ρ → (M * ρ).trace.re ≤ c := by
  refine ⟨fun h ρ hρ => hρ.trace_mul_le h, fun h => ?_⟩
  have hW : ((c : ℂ) • (1 : Matrix ι ι ℂ) - M).IsHermitian :=
    (Matrix.isHermitian_one.smul (Complex.conj_ofReal c)).sub hM
  refine psd_of_trace_mul_nonneg hW fun ρ hρ => ?_
  rw [Matrix.sub_mul, Matrix.trace_sub, Complex.sub_re, re_trace_smul_one_mul, sub_nonneg]
  rcases (trace_re_nonneg_of_psd hρ).lt_or_eq with hpos | hzero
  · -- the bound for the density operator `ρ / tr ρ`, multiplied by `tr ρ`
    have h2 := h _ (isDensity_inv_trace_smul hρ hpos)
    rwa [re_trace_mul_smul, inv_mul_le_iff₀ hpos, mul_comm] at h2
  · have hz : ρ = 0 := hρ.trace_eq_zero_iff.mp (by rw [trace_eq_re_of_psd hρ, ← hzero, Complex.ofReal_zero])
    rw [hz, Matrix.mul_zero, Matrix.trace_zero, Complex.zero_re, mul_zero]

end Density

section LamMax
variable {n k : Nat}

theorem checkLamMaxUpper_spec (A : EMat n n) (c : Rat) (L : EMat n k)
    (h : checkLamMaxUpper A c L = true) :
    ((((c : Rat) : ℝ) : ℂ) • (1 : Matrix (Fin n) (Fin n) ℂ) - A.toM).PosSemidef :=
  psdCert_denote h (by rw [toM_sub, toM_scalar])

theorem normSq_cast (v : EMat n 1) : ((normSq v : Rat) : ℝ) = (v.toMᴴ * v.toM).trace.re := by
  unfold normSq
  rw [re_trace, toM_mul, toM_ct]

theorem quadForm_cast (A : EMat n n) (v : EMat n 1) :
    ((quadForm A v : Rat) : ℝ) = (v.toMᴴ * A.toM * v.toM).trace.re := by
  unfold quadForm
  rw [re_trace, toM_mul, toM_mul, toM_ct, Matrix.mul_assoc]

theorem checkLamMaxLower_rayleigh (A : EMat n n) (v : EMat n 1) (lo : Rat)
    (h : checkLamMaxLower A v = some lo) :
    A.toM.IsHermitian ∧ 0 < (v.toMᴴ * v.toM).trace.re ∧
      (v.toMᴴ * A.toM * v.toM).trace.re = (lo : ℝ) * (v.toMᴴ * v.toM).trace.re := by
  obtain ⟨hc, rfl⟩ := check_eq_some.mp h
  simp only [Bool.and_eq_true, decide_eq_true_eq] at hc
  have hpos : (0 : ℝ) < ((normSq v : Rat) : ℝ) := by exact_mod_cast hc.2
  refine ⟨isHermitian_sound A hc.1, by rwa [← normSq_cast], ?_⟩
  rw [← normSq_cast, ← quadForm_cast, Rat.cast_div, div_mul_cancel₀ _ hpos.ne']

theorem checkLamMaxLower_density (A : EMat n n) (v : EMat n 1) (lo : Rat) (h : checkLamMaxLower A v = some lo) :
    ∃ ρ : Matrix (Fin n) (Fin n) ℂ, IsDensity ρ ∧ (A.toM * ρ).trace.re = (lo : ℝ) := by
  obtain ⟨-, hpos, hq⟩ := checkLamMaxLower_rayleigh A v lo h
  refine exists_density_of_expectation (Matrix.posSemidef_self_mul_conjTranspose v.toM) ?_ ?_
  · rwa [Matrix.trace_mul_comm]
  · rwa [Matrix.trace_mul_comm v.toM, ← Matrix.mul_assoc, Matrix.trace_mul_comm (A.toM * v.toM), ← Matrix.mul_assoc]

end LamMax

section Prod
variable {α β : Type*} [Fintype α]

/-- `Matrix.ptrL` over `ℂ`, the partial trace over the first tensor factor -/
def ptrace1 (X : Matrix (α × β) (α × β) ℂ) : Matrix β β ℂ := fun j j' => ∑ i, X (i, j) (i, j')

theorem ptrace1_eq_ptrL (X : Matrix (α × β) (α × β) ℂ) : ptrace1 X = Matrix.ptrL X := rfl

variable [DecidableEq β]

def HedgeFeasible (X : Matrix (α × β) (α × β) ℂ) : Prop := X.PosSemidef ∧ ptrace1 X = 1

theorem HedgeFeasible.ptrL_eq {X : Matrix (α × β) (α × β) ℂ} (hX : HedgeFeasible X) : Matrix.ptrL X = 1 := hX.2

variable [DecidableEq α]

theorem hedgeFeasible_exists [Nonempty α] : ∃ X : Matrix (α × β) (α × β) ℂ, HedgeFeasible X := by
  have hc : (0 : ℝ) < Fintype.card α := by exact_mod_cast Fintype.card_pos
  refine ⟨(((Fintype.card α : ℝ)⁻¹ : ℝ) : ℂ) • 1,
    Matrix.PosSemidef.one.smul (Complex.zero_le_real.mpr (inv_pos.mpr hc).le), ?_⟩
  rw [ptrace1_eq_ptrL, ptrL_smul, ← Matrix.one_kronecker_one, ptrL_kronecker, Matrix.trace_one, smul_smul,
    Complex.ofReal_inv, Complex.ofReal_natCast, inv_mul_cancel₀ (Nat.cast_ne_zero.mpr Fintype.card_ne_zero), one_smul]

variable [Fintype β] {ι : Type*} [Fintype ι]

theorem HedgeFeasible.trace_one_kron_mul_eq {X : Matrix (α × β) (α × β) ℂ} (hX : HedgeFeasible X) (Y : Matrix β β ℂ) :
    (((1 : Matrix α α ℂ) ⊗ₖ Y) * X).trace = Y.trace := by
  rw [trace_one_kronecker_mul, hX.ptrL_eq, Matrix.mul_one]

theorem hedge_max_weak_duality (e : α × β ≃ ι) (Q X : Matrix ι ι ℂ) (Y : Matrix β β ℂ)
    (hX : HedgeFeasible (X.submatrix e e))
    (hY : (((1 : Matrix α α ℂ) ⊗ₖ Y) - Q.submatrix e e).PosSemidef) :
    (Q * X).trace.re ≤ Y.trace.re := by
  rw [← trace_mul_submatrix_equiv e, ← hX.trace_one_kron_mul_eq Y]
  exact re_trace_mul_le_of_sub_psd hY hX.1

theorem hedge_min_weak_duality (e : α × β ≃ ι) (Q X : Matrix ι ι ℂ) (Y : Matrix β β ℂ)
    (hX : HedgeFeasible (X.submatrix e e))
    (hY : (Q.submatrix e e - ((1 : Matrix α α ℂ) ⊗ₖ Y)).PosSemidef) :
    Y.trace.re ≤ (Q * X).trace.re := by
  rw [← trace_mul_submatrix_equiv e, ← hX.trace_one_kron_mul_eq Y]
  exact re_trace_mul_le_of_sub_psd hY hX.1

end Prod

section Flat
variable {a b k : Nat}

/-- a flat-indexed operator on `ℂ^a ⊗ ℂ^b` (index `i·b + j`) as a matrix on the product index set -/
def unflat (M : Matrix (Fin (a * b)) (Fin (a * b)) ℂ) : Matrix (Fin a × Fin b) (Fin a × Fin b) ℂ :=
  M.submatrix finProdFinEquiv finProdFinEquiv

theorem pair_eq (i : Fin a) (j : Fin b) : pair i j = finProdFinEquiv (i, j) := rfl

theorem fstIdx_eq (p : Fin (a * b)) : fstIdx p = (finProdFinEquiv.symm p).1 := rfl

theorem sndIdx_eq (p : Fin (a * b)) : sndIdx p = (finProdFinEquiv.symm p).2 := rfl

theorem toM_ptr1 (X : EMat (a * b) (a * b)) : (ptr1 a b X).toM = ptrace1 (unflat X.toM) := by
  ext j j'
  simp [ptr1, ptrace1, unflat, sumFin_toC, pair_eq]

theorem unflat_kronIY (Y : EMat b b) :
    unflat (kronIY a Y).toM = (1 : Matrix (Fin a) (Fin a) ℂ) ⊗ₖ Y.toM := by
  ext ⟨i, j⟩ ⟨i', j'⟩
  simp only [unflat, Matrix.submatrix_apply, toM_apply, kronIY, get_ofFn, fstIdx_eq, sndIdx_eq,
    Equiv.symm_apply_apply, Matrix.kroneckerMap_apply, Matrix.one_apply]
  split <;> simp

theorem checkHedgePrimal_sound (Q X : EMat (a * b) (a * b)) (L : EMat (a * b) k) (v : Rat)
    (h : checkHedgePrimal a b Q X L = some v) :
    Q.toM.IsHermitian ∧ HedgeFeasible (unflat X.toM) ∧
      (unflat Q.toM * unflat X.toM).trace.re = (v : ℝ) := by
  obtain ⟨hc, rfl⟩ := check_eq_some.mp h
  simp only [Bool.and_eq_true] at hc
  obtain ⟨⟨hQ, hpsd⟩, hptr⟩ := hc
  refine ⟨isHermitian_sound Q hQ, ⟨(psdCert_sound _ _ hpsd).submatrix _, ?_⟩, ?_⟩
  · rw [← toM_ptr1, beq_sound _ _ hptr, toM_one]
  · rw [unflat, unflat, trace_mul_submatrix_equiv, ← toM_mul, ← re_trace]

/-- the common body of `checkHedgeMaxDual` and `checkHedgeMinDual`: `Y` Hermitian, a certified slack `A ⪰ 0` denoting `S` on the
    product index set, value `tr Y` -/
theorem hedgeDual_sound {A : EMat (a * b) (a * b)} {Y : EMat b b} {L : EMat (a * b) k} {v : Rat}
    {S : Matrix (Fin a × Fin b) (Fin a × Fin b) ℂ} (hS : unflat A.toM = S)
    (h : (if Y.isHermitian && psdCert A L then some Y.trace.re else none) = some v) :
    Y.toM.IsHermitian ∧ S.PosSemidef ∧ Y.toM.trace.re = (v : ℝ) := by
  obtain ⟨hc, rfl⟩ := check_eq_some.mp h
  rw [Bool.and_eq_true] at hc
  exact ⟨isHermitian_sound Y hc.1, hS ▸ (psdCert_sound _ _ hc.2).submatrix _, (re_trace _).symm⟩

theorem checkHedgeMaxDual_spec (Q : EMat (a * b) (a * b)) (Y : EMat b b) (L : EMat (a * b) k) (v : Rat)
    (h : checkHedgeMaxDual a b Q Y L = some v) :
    Y.toM.IsHermitian ∧ (((1 : Matrix (Fin a) (Fin a) ℂ) ⊗ₖ Y.toM) - unflat Q.toM).PosSemidef ∧
      Y.toM.trace.re = (v : ℝ) :=
  hedgeDual_sound (by rw [toM_sub, ← unflat_kronIY]; rfl) h

theorem checkHedgeMinDual_spec (Q : EMat (a * b) (a * b)) (Y : EMat b b) (L : EMat (a * b) k) (v : Rat)
    (h : checkHedgeMinDual a b Q Y L = some v) :
    Y.toM.IsHermitian ∧ (unflat Q.toM - ((1 : Matrix (Fin a) (Fin a) ℂ) ⊗ₖ Y.toM)).PosSemidef ∧
      Y.toM.trace.re = (v : ℝ) :=
  hedgeDual_sound (by rw [toM_sub, ← unflat_kronIY]; rfl) h

variable {ι : Type*} [Fintype ι]

theorem checkHedgeMaxDual_le {Q : EMat (a * b) (a * b)} {Y : EMat b b} {L : EMat (a * b) k} {hi : Rat}
    (h : checkHedgeMaxDual a b Q Y L = some hi) (e : Fin a × Fin b ≃ ι) {Q' : Matrix ι ι ℂ}
    (hQ : Q'.submatrix e e = unflat Q.toM) (X : Matrix ι ι ℂ) (hX : HedgeFeasible (X.submatrix e e)) :
    (Q' * X).trace.re ≤ (hi : ℝ) := by
  obtain ⟨-, hpsd, hv⟩ := checkHedgeMaxDual_spec Q Y L hi h
  rw [← hv]
  exact hedge_max_weak_duality e Q' X Y.toM hX (hQ ▸ hpsd)

theorem checkHedgeMinDual_le {Q : EMat (a * b) (a * b)} {Y : EMat b b} {L : EMat (a * b) k} {lo : Rat}
    (h : checkHedgeMinDual a b Q Y L = some lo) (e : Fin a × Fin b ≃ ι) {Q' : Matrix ι ι ℂ}
    (hQ : Q'.submatrix e e = unflat Q.toM) (X : Matrix ι ι ℂ) (hX : HedgeFeasible (X.submatrix e e)) :
    (lo : ℝ) ≤ (Q' * X).trace.re := by
  obtain ⟨-, hpsd, hv⟩ := checkHedgeMinDual_spec Q Y L lo h
  rw [← hv]
  exact hedge_min_weak_duality e Q' X Y.toM hX (hQ ▸ hpsd)

end Flat

section Reindex
variable {N : Nat}

theorem toM_reindex (σ : Fin N → Fin N) (A : EMat N N) : (reindex σ A).toM = A.toM.submatrix σ σ := by
  ext p q
  simp [reindex]

theorem isSurj_sound (σ : Fin N → Fin N) (h : isSurj σ = true) : Function.Bijective σ := by
  have hs : Function.Surjective σ := by
    intro q
    simp only [isSurj, allFin_iff, List.any_eq_true, beq_iff_eq] at h
    obtain ⟨p, -, hp⟩ := h q
    exact ⟨p, hp⟩
  exact ⟨Finite.injective_iff_surjective.mpr hs, hs⟩

theorem isSurj_of_rightInverse (σ τ : Fin N → Fin N) (h : ∀ q, σ (τ q) = q) : isSurj σ = true := by
  simp only [isSurj, allFin_iff, List.any_eq_true, beq_iff_eq]
  exact fun q => ⟨τ q, List.mem_finRange _, h q⟩

theorem hedgeSigma2_hedgeSigma2 : ∀ p, hedgeSigma2 (hedgeSigma2 p) = p := by decide

end Reindex

section Games
variable {d : Nat}

theorem toM_avgOperator (G : Game d) (f g : Nat → Nat) :
    (avgOperator G f g).toM = ∑ x : Fin G.nX, ∑ y : Fin G.nY,
      ((((G.prob x.val y.val : Rat) : ℝ) : ℂ)) • (G.pred (f x.val) (g y.val) x.val y.val).toM := by
  ext i j
  simp only [avgOperator, toM_apply, get_ofFn, sumFin_toC, QI.toC_smul, Matrix.sum_apply, Matrix.smul_apply,
    smul_eq_mul]

theorem fnOfIdx_surj (n k : Nat) (f : Nat → Nat) (hf : ∀ x, x < k → f x < n) :
    ∃ i, i < numFns n k ∧ ∀ x, x < k → fnOfIdx n k i x = f x :=
  ⟨enc (fun _ => n) f k, enc_lt _ _ _ hf, dec_enc _ _ _ hf⟩

theorem fnValid_iff (n k : Nat) (f : Nat → Nat) : fnValid n k f = true ↔ ∀ x, x < k → f x < n := by
  simp [fnValid, allBelow_iff]

theorem checkUnentLower_eq_some {G : Game d} {fl gl : List Nat} {v : EMat d 1} {lo : Rat}
    (h : checkUnentLower G fl gl v = some lo) :
    (∀ x, x < G.nX → (fnOfList fl) x < G.nA) ∧ (∀ y, y < G.nY → (fnOfList gl) y < G.nB) ∧
      checkLamMaxLower (avgOperator G (fnOfList fl) (fnOfList gl)) v = some lo := by
  obtain ⟨hc, h⟩ := Option.ite_none_right_eq_some.mp h
  simp only [Bool.and_eq_true, fnValid_iff] at hc
  exact ⟨hc.1.2, hc.2, h⟩

theorem checkUnentConstLower_eq_some {G : Game d} {a b : Nat} {v : EMat d 1} {lo : Rat}
    (h : checkUnentConstLower G a b v = some lo) :
    a < G.nA ∧ b < G.nB ∧ checkLamMaxLower (constOperator G a b) v = some lo := by
  obtain ⟨hc, h⟩ := Option.ite_none_right_eq_some.mp h
  simp only [Bool.and_eq_true, decide_eq_true_eq] at hc
  exact ⟨hc.1, hc.2, h⟩

end Games

section DetValue
variable {d : Nat} {A B X Y : Type*} [Fintype A] [Fintype B] [Fintype X] [Fintype Y]

theorem re_trace_avg_mul (π : X → Y → ℝ) (M : X → Y → Matrix (Fin d) (Fin d) ℂ) (ρ : Matrix (Fin d) (Fin d) ℂ) :
    ((∑ x, ∑ y, ((π x y : ℝ) : ℂ) • M x y) * ρ).trace.re = ∑ x, ∑ y, π x y * (M x y * ρ).trace.re := by
  simp only [Finset.sum_mul, Matrix.trace_sum, Complex.re_sum, Matrix.smul_mul, Matrix.trace_smul, smul_eq_mul,
    Complex.re_ofReal_mul]

theorem sum_re_trace_mul_ite_pair [DecidableEq A] [DecidableEq B] (P : A → B → Matrix (Fin d) (Fin d) ℂ) (a₀ : A) (b₀ : B)
    (ρ : Matrix (Fin d) (Fin d) ℂ) :
    ∑ a, ∑ b, (P a b * (if a = a₀ ∧ b = b₀ then ρ else 0)).trace.re = (P a₀ b₀ * ρ).trace.re := by
  simp only [ite_and, mul_ite, Matrix.mul_zero, apply_ite Matrix.trace, Matrix.trace_zero, apply_ite Complex.re,
    Complex.zero_re, Finset.sum_ite_irrel, Finset.sum_const_zero, Finset.sum_ite_eq', Finset.mem_univ, if_true]

end DetValue

/-! ## Feasibility embedding of unentangled strategies into `npa_constraints(…, referee_dim = d)`

`npa_constraints` with `referee_dim = d > 1` runs the same loop over pairs of words as in the scalar case and emits, per
pair, one equation between `d × d` blocks (`r_var[i::dim, j::dim]` is block `(i, j)` of the moment matrix).  The mirror
`Toq.Npa.npaConstraints` of that loop is therefore reused with values in `d × d` blocks: `Blk d ρ` is the type of blocks in
which the scalar `1` of the generator is read as the referee state `ρ` (`R[0,0]`-block `= ρ`, `Σ_{a,b} K(a,b|x,y) = ρ`; the
code asks for the traces of these equations only) and `≤` is the Loewner order (`K(a,b|x,y) ⪰ 0`).  A scalar point
`(R, K)` over ℚ becomes the block point `(R·ρ, K·ρ)`: the map `q ↦ q · ρ` (`blkOf`) is additive, sends `1` to the block `1` and keeps `0 ≤`. -/

section ExtEmbed
open Toq.Npa
variable {d : Nat}

/-- `d × d` blocks in which the scalar `1` of the NPA generator is read as the referee state `ρ` -/
def Blk (d : Nat) (_ρ : Matrix (Fin d) (Fin d) ℂ) : Type := Matrix (Fin d) (Fin d) ℂ

namespace Blk
variable {ρ : Matrix (Fin d) (Fin d) ℂ}

instance : AddCommMonoid (Blk d ρ) := inferInstanceAs (AddCommMonoid (Matrix (Fin d) (Fin d) ℂ))
instance : One (Blk d ρ) := ⟨ρ⟩
def mat (A : Blk d ρ) : Matrix (Fin d) (Fin d) ℂ := A
instance : LE (Blk d ρ) := ⟨fun A B => (B.mat - A.mat).PosSemidef⟩
def of (ρ : Matrix (Fin d) (Fin d) ℂ) (A : Matrix (Fin d) (Fin d) ℂ) : Blk d ρ := A

theorem one_mat : (1 : Blk d ρ).mat = ρ := rfl
theorem zero_mat : (0 : Blk d ρ).mat = 0 := rfl
theorem add_mat (A B : Blk d ρ) : (A + B).mat = A.mat + B.mat := rfl
theorem le_iff (A B : Blk d ρ) : A ≤ B ↔ (B.mat - A.mat).PosSemidef := Iff.rfl
theorem mat_sumN (F : Nat → Blk d ρ) (n : Nat) : (sumN n F).mat = sumN n (fun k => (F k).mat) :=
  sumN_map mat rfl (fun _ _ => rfl) F n
theorem mat_injective {A B : Blk d ρ} (h : A.mat = B.mat) : A = B := h
theorem nonneg_iff (A : Blk d ρ) : 0 ≤ A ↔ A.mat.PosSemidef := by rw [le_iff, zero_mat, sub_zero]
end Blk

theorem Blk.mat_of {d : Nat} (ρ A : Matrix (Fin d) (Fin d) ℂ) : (Blk.of ρ A).mat = A := rfl

def blkOf (ρ : Matrix (Fin d) (Fin d) ℂ) (q : ℚ) : Blk d ρ := Blk.of ρ (((q : ℚ) : ℂ) • ρ)

theorem blkOf_mat (ρ : Matrix (Fin d) (Fin d) ℂ) (q : ℚ) : (blkOf ρ q).mat = ((q : ℚ) : ℂ) • ρ := rfl

theorem blkOf_zero (ρ : Matrix (Fin d) (Fin d) ℂ) : blkOf ρ 0 = 0 :=
  Blk.mat_injective (by rw [blkOf_mat, Blk.zero_mat, Rat.cast_zero, zero_smul])

theorem blkOf_one (ρ : Matrix (Fin d) (Fin d) ℂ) : blkOf ρ 1 = 1 :=
  Blk.mat_injective (by rw [blkOf_mat, Blk.one_mat, Rat.cast_one, one_smul])

theorem blkOf_add (ρ : Matrix (Fin d) (Fin d) ℂ) (p q : ℚ) : blkOf ρ (p + q) = blkOf ρ p + blkOf ρ q :=
  Blk.mat_injective (by rw [Blk.add_mat, blkOf_mat, blkOf_mat, blkOf_mat, Rat.cast_add, add_smul])

theorem blkOf_nonneg {ρ : Matrix (Fin d) (Fin d) ℂ} (hρ : ρ.PosSemidef) {q : ℚ} (hq : 0 ≤ q) : (0 : Blk d ρ) ≤ blkOf ρ q := by
  rw [Blk.nonneg_iff, blkOf_mat]
  refine hρ.smul ?_
  rw [← Complex.ofReal_ratCast]
  exact Complex.zero_le_real.mpr (by exact_mod_cast hq)

theorem detK_smul (f g : Nat → Nat) (a b x y : Nat) (ρ : Matrix (Fin d) (Fin d) ℂ) :
    (((detK f g a b x y : ℚ)) : ℂ) • ρ = if f x = a ∧ g y = b then ρ else 0 := by
  unfold detK
  split
  · rw [Rat.cast_one, one_smul]
  · rw [Rat.cast_zero, zero_smul]

/-- the moment matrix `ρ ⊗ z zᵀ` of an unentangled strategy in the layout of `npa_constraints(…, referee_dim = d)`:
    flat index `i + n·p` for referee index `p` and word number `i` (so that `r_var[i::n, j::n]` is block `(i, j)`) -/
noncomputable def extR (n : Nat) (z : Nat → ℚ) (ρ : Matrix (Fin d) (Fin d) ℂ) : Matrix (Fin (d * n)) (Fin (d * n)) ℂ :=
  (ρ ⊗ₖ (Matrix.of fun i j : Fin n => (((z i * z j : ℚ)) : ℂ))).submatrix finProdFinEquiv.symm finProdFinEquiv.symm

theorem extR_apply (n : Nat) (z : Nat → ℚ) (ρ : Matrix (Fin d) (Fin d) ℂ) (p q : Fin d) (i j : Fin n) :
    extR n z ρ (finProdFinEquiv (p, i)) (finProdFinEquiv (q, j)) = (((z i * z j : ℚ)) : ℂ) * ρ p q := by
  simp [extR, Matrix.kroneckerMap_apply, mul_comm]

theorem wordAt_genWords_zero (base : Nat) (conf : List (Nat × Nat)) (ao ai bo bi : Nat) :
    wordAt (genWords base conf ao ai bo bi) 0 = [Sym.ident] ∧
      0 < (genWords base conf ao ai bo bi).length :=
  ⟨rfl, Nat.succ_pos _⟩

end ExtEmbed

end Toq.ExtGames
