import Toq.Model.SepCascade
import Toq.Proofs.PartialOpsArgs
/-!
# Argument forms of `is_ppt` (C15): which operator is tested

`is_ppt(mat, sys, dim, tol)` tests `partial_transpose(mat, [sys - 1], dim)`; the C03 model of `partial_transpose`
(`partialTransposeArgs`, all argument forms) is specialised here to two parties and tied to the flat-index
formulas `X[a·dB + b', a'·dB + b]` (second party transposed) and `X[a'·dB + b, a·dB + b']` (first party).
-/

namespace Toq.Sep
open Toq.Perms Toq.PartialOps Toq.Spec

/-- the value of the bipartite partial transpose at `(a·dB + b, a'·dB + b')` -/
def ptEntry {α : Type} (X : Nat → Nat → α) (dB : Nat) (sys : Nat) (a b a' b' : Nat) : α :=
  if sys = 1 then X (a' * dB + b) (a * dB + b') else X (a * dB + b') (a' * dB + b)

theorem two_party_spec {α : Type} (X : Nat → Nat → α) (dA dB : Nat) (sys : Nat) (hs : sys = 1 ∨ sys = 2)
    (a b a' b' : Nat) (ha : a < dA) (hb : b < dB) (ha' : a' < dA) (hb' : b' < dB) :
    pTSpec X 2 (fnOfList [dA, dB]) (fnOfList [dA, dB]) [sys - 1] (a * dB + b) (a' * dB + b')
      = ptEntry X dB sys a b a' b' := by
  obtain ⟨e1, e2⟩ := Nat.mul_add_divMod_of_lt (q := a) hb
  obtain ⟨e3, e4⟩ := Nat.mul_add_divMod_of_lt (q := a') hb'
  rcases hs with rfl | rfl
  · show pTSpec X 2 _ _ [0] _ _ = _
    rw [pTSpec_two_zero, e1, e2, e3, e4, Nat.mod_eq_of_lt ha, Nat.mod_eq_of_lt ha']
    simp [ptEntry]
  · show pTSpec X 2 _ _ [1] _ _ = _
    rw [pTSpec_two_one, e1, e2, e3, e4, Nat.mod_eq_of_lt ha, Nat.mod_eq_of_lt ha']
    simp [ptEntry]

theorem isPptOperand_list {α : Type} (X : Nat → Nat → α) (dA dB : Nat) (hA : 0 < dA) (hB : 0 < dB) (sys : Nat)
    (hs : sys = 1 ∨ sys = 2) :
    ∃ Y, isPptOperand X (dA * dB) (sys : Int) (.list [dA, dB]) = .ok (dA * dB, dA * dB, Y) ∧
      ∀ a b a' b', a < dA → b < dB → a' < dA → b' < dB →
        Y (a * dB + b) (a' * dB + b') = ptEntry X dB sys a b a' b' := by
  have hsys : [(sys : Int) - 1] = [sys - 1].map Int.ofNat := by
    rcases hs with rfl | rfl <;> rfl
  have hnd : [sys - 1].Nodup := List.nodup_singleton _
  have hlt : ∀ s ∈ [sys - 1], s < [dA, dB].length := by
    intro s h; rw [List.mem_singleton] at h; simp only [List.length_cons, List.length_nil]; omega
  have hp : prodN (fnOfList [dA, dB]) [dA, dB].length = dA * dB := by
    simp [prodN, fnOfList]
  have hpos := Toq.PTrace.fnOfList_two_pos dA dB hA hB
  have key := (partialTransposeArgs_two_eq_ok_iff X (dA * dB) (dA * dB) (Nat.mul_pos hA hB) (Nat.mul_pos hA hB) [dA, dB] [dA, dB] rfl
    (by simp) [(sys : Int) - 1] _).mpr ⟨[sys - 1], ⟨hsys, hnd, hlt⟩, hp, hp, rfl⟩
  have e0 : isPptOperand X (dA * dB) (sys : Int) (.list [dA, dB])
      = partialTransposeArgs X (dA * dB) (dA * dB) (.list [(sys : Int) - 1]) (.two [dA, dB] [dA, dB]) :=
    partialTransposeArgs_list X _ _ _ [dA, dB] (by simp)
  refine ⟨partialTranspose X 2 (fnOfList [dA, dB]) (fnOfList [dA, dB]) [sys - 1], ?_, ?_⟩
  · -- for equal row and column dims the result's dims are the dims
    rw [e0, key, pTRowDims_self, pTColDims_self, hp]
    rfl
  · intro a b a' b' ha hb ha' hb'
    rw [partialTranspose_eq_spec X 2 _ _ [sys - 1] hpos hpos hnd hlt]
    exact two_party_spec X dA dB sys hs a b a' b' ha hb ha' hb'

theorem isPptOperand_forms {α : Type} (X : Nat → Nat → α) (dA dB : Nat) (hA : 0 < dA) (sys : Int) :
    isPptOperand X (dA * dB) sys (.two [dA, dB] [dA, dB]) = isPptOperand X (dA * dB) sys (.list [dA, dB]) ∧
    isPptOperand X (dA * dB) sys (.scalar dA) = isPptOperand X (dA * dB) sys (.list [dA, dB]) ∧
    isPptOperand X (dA * dB) sys (.list [dA]) = isPptOperand X (dA * dB) sys (.list [dA, dB]) ∧
    (dA = dB → isPptOperand X (dA * dB) sys .omitted = isPptOperand X (dA * dB) sys (.list [dA, dB])) := by
  have hdiv : dA ∣ dA * dB := Dvd.intro _ rfl
  have hq : dA * dB / dA = dB := Nat.mul_div_cancel_left dB hA
  have hl : partialTransposeArgs X (dA * dB) (dA * dB) (.list [sys - 1]) (.list [dA, dB])
      = partialTransposeArgs X (dA * dB) (dA * dB) (.list [sys - 1]) (.two [dA, dB] [dA, dB]) :=
    partialTransposeArgs_list X _ _ _ [dA, dB] (by simp)
  have hsc : partialTransposeArgs X (dA * dB) (dA * dB) (.list [sys - 1]) (.scalar dA)
      = partialTransposeArgs X (dA * dB) (dA * dB) (.list [sys - 1]) (.list [dA, dB]) := by
    have := partialTransposeArgs_scalar X (dA * dB) (dA * dB) dA (.list [sys - 1]) hA hdiv
    rwa [hq] at this
  refine ⟨?_, ?_, ?_, ?_⟩
  · unfold isPptOperand isPptDim; exact hl.symm
  · unfold isPptOperand isPptDim; exact hsc
  · -- a one-element list is read as the scalar
    unfold isPptOperand isPptDim; exact hsc
  · rintro rfl
    unfold isPptOperand isPptDim
    rw [roundSqrt_mul_self]
    exact hl.symm

end Toq.Sep
