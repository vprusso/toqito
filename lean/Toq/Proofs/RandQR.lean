import Toq.Spec.Rand
import Mathlib.LinearAlgebra.Matrix.Block
/-!
# The QR phase fix of `random_unitary` pins the result; the QR step of `random_psd_operator` changes nothing

* A matrix that is upper triangular **and** unitary is diagonal (the inverse of an upper triangular matrix is upper
  triangular, the conjugate transpose is lower triangular).
* Hence: for an invertible `G`, a unitary `U` such that `Uᴴ G` is upper triangular with positive diagonal is unique; the
  code's `Q · diag(sign(diag R))` is such a `U`.  LAPACK's freedom in the signs/phases of the QR factors is divided out:
  `random_unitary` is a function of its Ginibre draw.
* `random_psd_operator`: `Q` from the QR factorisation of the (unitary) eigenvector matrix `V` differs from `V` by a unimodular
  diagonal, which commutes with every diagonal matrix and cancels, so `Q diag|λ| Qᴴ = V diag|λ| Vᴴ` (`qr_of_unitary_conj`).
-/

open Matrix
open scoped ComplexOrder MatrixOrder

namespace Toq.Rand

variable {n : Nat}

/-- upper triangular: entries below the diagonal vanish (Mathlib's `BlockTriangular` for the identity labelling) -/
abbrev UpperTri (T : Matrix (Fin n) (Fin n) ℂ) : Prop := T.BlockTriangular id

theorem upperTri_iff (T : Matrix (Fin n) (Fin n) ℂ) : UpperTri T ↔ ∀ i j : Fin n, j < i → T i j = 0 :=
  ⟨fun h _ _ hij => h hij, fun h i j hij => h i j hij⟩

theorem upperTri_unitary_diagonal (T : Matrix (Fin n) (Fin n) ℂ) (hT : UpperTri T) (hU : Tᴴ * T = 1) :
    T = diagonal (fun i => T i i) ∧ ∀ i, star (T i i) * T i i = 1 := by
  have hd : T = diagonal fun i => T i i := by
    -- `Tᴴ = T⁻¹` is upper triangular as well, so `T` is also lower triangular
    have : Invertible T := invertibleOfLeftInverse T Tᴴ hU
    have hTi : UpperTri Tᴴ := by
      rw [← inv_eq_left_inv hU]; exact blockTriangular_inv_of_blockTriangular hT
    ext i j
    rcases lt_trichotomy i j with h | rfl | h
    · rw [diagonal_apply_ne _ h.ne]; exact star_eq_zero.mp (hTi h)
    · rw [diagonal_apply_eq]
    · rw [diagonal_apply_ne _ h.ne']; exact hT h
  refine ⟨hd, fun i => ?_⟩
  have h := congrFun (congrFun hU i) i
  rwa [hd, diagonal_conjTranspose, diagonal_mul_diagonal, diagonal_apply_eq, one_apply_eq] at h

/-- upper triangular with positive (real) diagonal: the normal form of the `R` factor -/
def UpperPos (T : Matrix (Fin n) (Fin n) ℂ) : Prop := UpperTri T ∧ ∀ i, 0 < T i i

theorem UpperPos.det_ne_zero {T : Matrix (Fin n) (Fin n) ℂ} (h : UpperPos T) : T.det ≠ 0 := by
  rw [det_of_isUpperTriangular h.1]
  exact Finset.prod_ne_zero_iff.mpr (fun i _ => (h.2 i).ne')

theorem unimodular_pos_ratio {z a b : ℂ} (hz : star z * z = 1) (ha : 0 < a) (hb : 0 < b) (h : z * a = b) : z = 1 := by
  have hz1 : ‖z‖ = 1 := by
    have := congrArg norm hz
    rw [norm_mul, norm_star, norm_one] at this
    exact (mul_self_eq_one_iff.mp this).resolve_right (by linarith [norm_nonneg z])
  have hab : a = b := by
    rw [Complex.eq_coe_norm_of_nonneg ha.le, Complex.eq_coe_norm_of_nonneg hb.le, ← h, norm_mul, hz1, one_mul]
  exact (mul_left_eq_self₀.mp (h.trans hab.symm)).resolve_right ha.ne'

theorem qr_posdiag_unique (G U U' : Matrix (Fin n) (Fin n) ℂ) (hU : Uᴴ * U = 1) (hU' : U'ᴴ * U' = 1)
    (hT : UpperPos (Uᴴ * G)) (hT' : UpperPos (U'ᴴ * G)) : U = U' := by
  have hUr : U * Uᴴ = 1 := mul_eq_one_comm.mp hU
  have hUr' : U' * U'ᴴ = 1 := mul_eq_one_comm.mp hU'
  set T := Uᴴ * G with hTdef
  set T' := U'ᴴ * G with hTdef'
  -- `W = U'ᴴ U` satisfies `W T = T'`, so `W = T' T⁻¹` is upper triangular; it is unitary, hence diagonal
  have hWT : (U'ᴴ * U) * T = T' := by
    rw [hTdef, hTdef', Matrix.mul_assoc, ← Matrix.mul_assoc U, hUr, Matrix.one_mul]
  have hdet : IsUnit T.det := isUnit_iff_ne_zero.mpr hT.det_ne_zero
  have : Invertible T := invertibleOfIsUnitDet T hdet
  have hWtri : UpperTri (U'ᴴ * U) := by
    rw [← Matrix.mul_one (U'ᴴ * U), ← Matrix.mul_nonsing_inv T hdet, ← Matrix.mul_assoc, hWT]
    exact BlockTriangular.mul hT'.1 (blockTriangular_inv_of_blockTriangular hT.1)
  have hWun : (U'ᴴ * U)ᴴ * (U'ᴴ * U) = 1 := by
    rw [conjTranspose_mul, conjTranspose_conjTranspose, Matrix.mul_assoc, ← Matrix.mul_assoc U', hUr', Matrix.one_mul, hU]
  obtain ⟨hWd, hWmod⟩ := upperTri_unitary_diagonal _ hWtri hWun
  -- its diagonal entries are unimodular and map the positive `T i i` to the positive `T' i i`
  have hW1 : U'ᴴ * U = 1 := by
    rw [hWd, ← diagonal_one]
    congr 1; ext i
    refine unimodular_pos_ratio (hWmod i) (hT.2 i) (hT'.2 i) ?_
    have := congrFun (congrFun hWT i) i
    rwa [hWd, Matrix.diagonal_mul] at this
  calc U = (U' * U'ᴴ) * U := by rw [hUr', Matrix.one_mul]
    _ = U' * (U'ᴴ * U) := Matrix.mul_assoc _ _ _
    _ = U' := by rw [hW1, Matrix.mul_one]

theorem csign_conj_mul (z : ℂ) (hz : z ≠ 0) : star (csign z) * z = ((‖z‖ : ℝ) : ℂ) := by
  unfold csign
  rw [if_neg hz]
  have hn : ((‖z‖ : ℝ) : ℂ) ≠ 0 := by simpa using hz
  rw [Complex.star_def, map_div₀, Complex.conj_ofReal, div_mul_eq_mul_div, mul_comm, Complex.mul_conj, Complex.normSq_eq_norm_sq,
    div_eq_iff hn]
  push_cast; ring

theorem qr_of_unitary_conj (V Q R' : Matrix (Fin n) (Fin n) ℂ) (hV : Vᴴ * V = 1) (hQ : Qᴴ * Q = 1) (hVQ : V = Q * R')
    (hR : UpperTri R') (μ : Fin n → ℂ) :
    Q * diagonal μ * Qᴴ = V * diagonal μ * Vᴴ := by
  have hRun : R'ᴴ * R' = 1 := by
    have hR'eq : R' = Qᴴ * V := by rw [hVQ, ← Matrix.mul_assoc, hQ, Matrix.one_mul]
    rw [hR'eq, conjTranspose_mul, conjTranspose_conjTranspose, Matrix.mul_assoc, ← Matrix.mul_assoc Q, mul_eq_one_comm.mp hQ,
      Matrix.one_mul, hV]
  obtain ⟨hRd, hmod⟩ := upperTri_unitary_diagonal R' hR hRun
  have hcancel : R' * diagonal μ * R'ᴴ = diagonal μ := by
    rw [hRd, diagonal_conjTranspose, diagonal_mul_diagonal, diagonal_mul_diagonal]
    congr 1; ext i
    calc R' i i * μ i * star (R' i i) = μ i * (star (R' i i) * R' i i) := by ring
      _ = μ i := by rw [hmod i, mul_one]
  calc Q * diagonal μ * Qᴴ = Q * (R' * diagonal μ * R'ᴴ) * Qᴴ := by rw [hcancel]
    _ = V * diagonal μ * Vᴴ := by rw [hVQ, conjTranspose_mul]; simp only [Matrix.mul_assoc]

end Toq.Rand
