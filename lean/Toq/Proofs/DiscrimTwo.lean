import Toq.Proofs.Discrim
/-!
# Two pure states in the Gram-form unambiguous program

A Hermitian `2 × 2` matrix `[[x, w], [w̄, y]]` is PSD iff `x, y ≥ 0` and `|w|² ≤ xy` (`Matrix.posSemidef_fin_two_iff`).  For the Gram
matrix `[[1, s], [s̄, 1]]` of two unit vectors this turns primal feasibility of `q` into `|s|² ≤ (1 − q₀)(1 − q₁)` and makes
`Z = [[x, −tu], [−tū, y]]`, `u = s/|s|`, `t² ≤ xy`, a dual point of value `x + y − 2t|s|`; `ua_two_isGreatest` is the resulting
optimality certificate, of which the closed forms for two states (equal priors, Jaeger–Shimony, the degenerate regimes)
are instances.
-/

open Matrix
open scoped ComplexOrder MatrixOrder

namespace Toq.Discrim

theorem ua_psd_two (a : ℝ) (b : ℂ) (h : ‖b‖ ≤ a) :
    (!![(a : ℂ), b; (starRingEnd ℂ) b, (a : ℂ)] : Matrix (Fin 2) (Fin 2) ℂ).PosSemidef :=
  have ha : 0 ≤ a := (norm_nonneg b).trans h
  Matrix.posSemidef_fin_two_iff.mpr ⟨ha, ha, by rw [sq]; exact mul_le_mul h h (norm_nonneg b) ha⟩

theorem ua_mul_conj_phase (s : ℂ) : s * (starRingEnd ℂ) (s / (‖s‖ : ℂ)) = (‖s‖ : ℂ) := by
  by_cases hs : s = 0
  · simp [hs]
  · have hn : (‖s‖ : ℂ) ≠ 0 := by exact_mod_cast (norm_ne_zero_iff.mpr hs)
    rw [map_div₀, Complex.conj_ofReal, mul_div_assoc', Complex.mul_conj', div_eq_iff hn, sq]

theorem ua_norm_phase_le (s : ℂ) : ‖s / (‖s‖ : ℂ)‖ ≤ 1 := by
  rw [norm_div, Complex.norm_real, norm_norm]
  exact div_self_le_one _

theorem ua_two_trace (s w x y : ℂ) :
    ((!![1, s; (starRingEnd ℂ) s, 1] : Matrix (Fin 2) (Fin 2) ℂ) * !![x, w; (starRingEnd ℂ) w, y]).trace
      = x + y + (s * (starRingEnd ℂ) w + (starRingEnd ℂ) s * w) := by
  simp only [Matrix.trace_fin_two, Matrix.mul_apply, Fin.sum_univ_two, Matrix.of_apply, Matrix.cons_val',
    Matrix.cons_val_zero, Matrix.cons_val_one, Matrix.cons_val_fin_one]
  ring

theorem ua_gram2_slack_psd (s : ℂ) (q : Fin 2 → ℝ) (h0 : q 0 ≤ 1) (h1 : q 1 ≤ 1)
    (hq : ‖s‖ ^ 2 ≤ (1 - q 0) * (1 - q 1)) :
    ((!![1, s; (starRingEnd ℂ) s, 1] : Matrix (Fin 2) (Fin 2) ℂ) - Matrix.diagonal fun i => (q i : ℂ)).PosSemidef := by
  have e : (!![1, s; (starRingEnd ℂ) s, 1] : Matrix (Fin 2) (Fin 2) ℂ) - Matrix.diagonal (fun i => (q i : ℂ))
      = !![((1 - q 0 : ℝ) : ℂ), s; (starRingEnd ℂ) s, ((1 - q 1 : ℝ) : ℂ)] := by
    rw [Matrix.eta_fin_two (_ - _)]
    simp only [Matrix.sub_apply, Matrix.of_apply, Matrix.cons_val', Matrix.cons_val_zero, Matrix.cons_val_one,
      Matrix.cons_val_fin_one, Matrix.diagonal_apply_eq, Matrix.diagonal_apply_ne _ (show (0 : Fin 2) ≠ 1 by decide),
      Matrix.diagonal_apply_ne _ (show (1 : Fin 2) ≠ 0 by decide), sub_zero, Complex.ofReal_sub, Complex.ofReal_one]
  rw [e]
  exact Matrix.posSemidef_fin_two_iff.mpr ⟨sub_nonneg.mpr h0, sub_nonneg.mpr h1, hq⟩

/-- the primal point is `(q₀, q₁)`, the dual point `Z = [[x, −tu], [−tū, y]]`, `u = s/|s|`, of value `x + y − 2t|s|` -/
theorem ua_two_isGreatest (s : ℂ) (p : Fin 2 → ℝ) (q0 q1 x y t v : ℝ)
    (h0 : 0 ≤ q0) (h0' : q0 ≤ 1) (h1 : 0 ≤ q1) (h1' : q1 ≤ 1) (hq : ‖s‖ ^ 2 ≤ (1 - q0) * (1 - q1))
    (hx : 0 ≤ x) (hy : 0 ≤ y) (hpx : p 0 ≤ x) (hpy : p 1 ≤ y) (ht : t ^ 2 ≤ x * y)
    (hv : p 0 * q0 + p 1 * q1 = v) (hv' : x + y - 2 * t * ‖s‖ = v) :
    IsGreatest (uaValues (!![1, s; (starRingEnd ℂ) s, 1] : Matrix (Fin 2) (Fin 2) ℂ) p) v := by
  set w : ℂ := -((t : ℂ) * (s / (‖s‖ : ℂ))) with hw
  have hwn : ‖w‖ ^ 2 ≤ x * y := by
    refine le_trans ?_ ht
    rw [hw, norm_neg, norm_mul, Complex.norm_real, mul_pow, Real.norm_eq_abs, sq_abs]
    exact mul_le_of_le_one_right (sq_nonneg t) (pow_le_one₀ (norm_nonneg _) (ua_norm_phase_le s))
  have hval : ((!![1, s; (starRingEnd ℂ) s, 1] : Matrix (Fin 2) (Fin 2) ℂ)
      * !![(x : ℂ), w; (starRingEnd ℂ) w, (y : ℂ)]).trace.re = v := by
    have e1 : s * (starRingEnd ℂ) w = ((-(t * ‖s‖) : ℝ) : ℂ) := by
      rw [hw, map_neg, map_mul, Complex.conj_ofReal, mul_neg, mul_left_comm, ua_mul_conj_phase]
      push_cast; ring
    have e2 : (starRingEnd ℂ) s * w = ((-(t * ‖s‖) : ℝ) : ℂ) := by
      rw [← Complex.conj_ofReal, ← e1, map_mul, Complex.conj_conj]
    rw [ua_two_trace, e1, e2, ← hv']
    simp only [Complex.add_re, Complex.ofReal_re]
    ring
  have hZ : UaDualFeasible p !![(x : ℂ), w; (starRingEnd ℂ) w, (y : ℂ)] :=
    ⟨Matrix.posSemidef_fin_two_iff.mpr ⟨hx, hy, hwn⟩, Fin.forall_fin_two.mpr ⟨by simpa using hpx, by simpa using hpy⟩⟩
  have hq' : UaFeasible _ ![q0, q1] := ⟨Fin.forall_fin_two.mpr ⟨h0, h1⟩, ua_gram2_slack_psd s ![q0, q1] h0' h1' hq⟩
  -- a feasible point of value `v`, and weak duality against `Z`
  refine ⟨⟨![q0, q1], hq', (Fin.sum_univ_two _).trans hv⟩, ?_⟩
  rintro _ ⟨q, hq2, rfl⟩
  exact (unamb_weak_duality_gen hq2 hZ).trans_eq hval

theorem ua_gram2_eq (G : Matrix (Fin 2) (Fin 2) ℂ) (hG : G.IsHermitian) (h0 : G 0 0 = 1)
    (h1 : G 1 1 = 1) : G = !![1, G 0 1; (starRingEnd ℂ) (G 0 1), 1] := by
  conv_lhs => rw [Matrix.eta_fin_two G, h0, h1, ← hG.apply 1 0]
  rfl

end Toq.Discrim
