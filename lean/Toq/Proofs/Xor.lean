import Toq.Proofs.XorExact
import Toq.Proofs.Cert
/-!
# Tsirelson's semidefinite program (C08): weak duality, vector correlations, quantum strategies, checkers

* `tsirelsonDual_mul_trace_re` computes `Re tr(Z Γ)` for the constraint matrix `Z = [[diag a, −D], [−Dᵀ, diag b]]`; with
  `tr(Z Γ) ≥ 0` this is weak duality for every positive semidefinite `Γ` (`tsirelson_weak_duality_psd`);
* `IsVectorCorr c` — `c` is the off-diagonal block of a positive semidefinite matrix with unit diagonal — is the notion all
  bounds go through (`IsVectorCorr.le_dual`): Gram matrices of unit vectors, off-diagonal blocks of positive semidefinite
  matrices with diagonal at most 1, and the correlators `Re tr(ρ A_x B_y)` of Hermitian contractions, in particular of ±1
  observables, are vector correlations;
* soundness of the executable checkers of `Toq.Model.Xor`, Bell expressions with marginal terms, the level-1 NPA matrix.
-/

open Matrix
open scoped ComplexOrder MatrixOrder

namespace Toq.Xor

/-- a correlation matrix: positive semidefinite with unit diagonal.  (The moment matrix `momentMatrix ρ O` of Hermitian contractions
    only has diagonal at most 1; `isVectorCorr_of_diag_le_one` fills it up.) -/
def IsMoment {ι : Type*} [Fintype ι] (Γ : Matrix ι ι ℂ) : Prop := Γ.PosSemidef ∧ ∀ i, Γ i i = 1

theorem IsMoment.psd {ι : Type*} [Fintype ι] {Γ : Matrix ι ι ℂ} (h : IsMoment Γ) : Γ.PosSemidef := h.1

theorem IsMoment.diag {ι : Type*} [Fintype ι] {Γ : Matrix ι ι ℂ} (h : IsMoment Γ) (i : ι) : Γ i i = 1 := h.2 i

theorem isMoment_submatrix {ι κ : Type*} [Fintype ι] [Fintype κ] {Γ : Matrix ι ι ℂ} (h : IsMoment Γ) (e : κ → ι) :
    IsMoment (Γ.submatrix e e) :=
  ⟨h.psd.submatrix e, fun i => h.diag (e i)⟩

section SumVersion
variable {X Y : Type*} [DecidableEq X] [DecidableEq Y]

def tsirelsonDual (D : X → Y → ℝ) (a : X → ℝ) (b : Y → ℝ) : Matrix (X ⊕ Y) (X ⊕ Y) ℂ :=
  Matrix.fromBlocks (Matrix.diagonal fun x => (a x : ℂ)) (Matrix.of fun x y => -(D x y : ℂ))
    (Matrix.of fun y x => -(D x y : ℂ)) (Matrix.diagonal fun y => (b y : ℂ))

section Entries
variable (D : X → Y → ℝ) (a : X → ℝ) (b : Y → ℝ)

@[simp] theorem tsirelsonDual_inl_inl (x x' : X) :
    tsirelsonDual D a b (.inl x) (.inl x') = if x = x' then (a x : ℂ) else 0 :=
  Matrix.diagonal_apply (fun x => (a x : ℂ)) x x'
@[simp] theorem tsirelsonDual_inl_inr (x : X) (y : Y) : tsirelsonDual D a b (.inl x) (.inr y) = -(D x y : ℂ) := rfl
@[simp] theorem tsirelsonDual_inr_inl (y : Y) (x : X) : tsirelsonDual D a b (.inr y) (.inl x) = -(D x y : ℂ) := rfl
@[simp] theorem tsirelsonDual_inr_inr (y y' : Y) :
    tsirelsonDual D a b (.inr y) (.inr y') = if y = y' then (b y : ℂ) else 0 :=
  Matrix.diagonal_apply (fun y => (b y : ℂ)) y y'

theorem tsirelsonDual_isHermitian : (tsirelsonDual D a b).IsHermitian :=
  IsHermitian.fromBlocks (isHermitian_diagonal_of_self_adjoint _ (funext fun _ => Complex.conj_ofReal _))
    (by ext y x; simp) (isHermitian_diagonal_of_self_adjoint _ (funext fun _ => Complex.conj_ofReal _))

end Entries

theorem tsirelsonDual_diag_nonneg {D : X → Y → ℝ} {a : X → ℝ} {b : Y → ℝ} (h : (tsirelsonDual D a b).PosSemidef) :
    (∀ x, 0 ≤ a x) ∧ ∀ y, 0 ≤ b y := by
  refine ⟨fun x => ?_, fun y => ?_⟩
  · have := h.diag_nonneg (i := Sum.inl x)
    rwa [tsirelsonDual_inl_inl, if_pos rfl, Complex.zero_le_real] at this
  · have := h.diag_nonneg (i := Sum.inr y)
    rwa [tsirelsonDual_inr_inr, if_pos rfl, Complex.zero_le_real] at this

variable [Fintype X] [Fintype Y]

theorem tsirelsonDual_sum_nonneg {D : X → Y → ℝ} {a : X → ℝ} {b : Y → ℝ} (h : (tsirelsonDual D a b).PosSemidef) :
    0 ≤ ∑ x, a x ∧ 0 ≤ ∑ y, b y :=
  ⟨Finset.sum_nonneg fun x _ => (tsirelsonDual_diag_nonneg h).1 x, Finset.sum_nonneg fun y _ => (tsirelsonDual_diag_nonneg h).2 y⟩

theorem tsirelsonDual_mul_trace_re (D : X → Y → ℝ) (a : X → ℝ) (b : Y → ℝ) {Γ : Matrix (X ⊕ Y) (X ⊕ Y) ℂ}
    (hΓ : Γ.IsHermitian) :
    (tsirelsonDual D a b * Γ).trace.re
      = ∑ x, a x * (Γ (.inl x) (.inl x)).re + ∑ y, b y * (Γ (.inr y) (.inr y)).re
        - 2 * ∑ x, ∑ y, D x y * (Γ (.inl x) (.inr y)).re := by
  have hsym : ∀ x y, (Γ (.inr y) (.inl x)).re = (Γ (.inl x) (.inr y)).re := fun x y => by
    rw [← hΓ.apply (.inl x) (.inr y), Complex.star_def, Complex.conj_re]
  simp only [Matrix.trace, diag_apply, mul_apply, Fintype.sum_sum_type, tsirelsonDual_inl_inl, tsirelsonDual_inl_inr,
    tsirelsonDual_inr_inl, tsirelsonDual_inr_inr, ite_mul, zero_mul, Finset.sum_ite_eq, Finset.mem_univ, if_true,
    Complex.add_re, Complex.re_sum, Complex.re_ofReal_mul, neg_mul, Complex.neg_re, hsym, Finset.sum_neg_distrib]
  rw [Finset.sum_add_distrib, Finset.sum_add_distrib, Finset.sum_neg_distrib, Finset.sum_neg_distrib,
    Finset.sum_comm (f := fun (y : Y) (x : X) => D x y * (Γ (.inl x) (.inr y)).re)]
  ring

theorem tsirelson_weak_duality_psd (D : X → Y → ℝ) (a : X → ℝ) (b : Y → ℝ) {Γ : Matrix (X ⊕ Y) (X ⊕ Y) ℂ}
    (hΓ : Γ.PosSemidef) (hZ : (tsirelsonDual D a b).PosSemidef) :
    ∑ x, ∑ y, D x y * (Γ (.inl x) (.inr y)).re
      ≤ (∑ x, a x * (Γ (.inl x) (.inl x)).re + ∑ y, b y * (Γ (.inr y) (.inr y)).re) / 2 := by
  have h := psd_trace_mul_nonneg hZ hΓ
  rw [tsirelsonDual_mul_trace_re D a b hΓ.isHermitian] at h
  linarith

end SumVersion

section Sets
variable {X Y : Type*} [Fintype X] [Fintype Y]

/-- a correlation matrix is a *vector* correlation if it is the off-diagonal block of a PSD matrix with unit diagonal
    (equivalently `c[x,y] = ⟨u_x, v_y⟩` for unit vectors) -/
def IsVectorCorr (c : X → Y → ℝ) : Prop :=
  ∃ Γ : Matrix (X ⊕ Y) (X ⊕ Y) ℂ, IsMoment Γ ∧ ∀ x y, (Γ (.inl x) (.inr y)).re = c x y

theorem IsMoment.isVectorCorr {Γ : Matrix (X ⊕ Y) (X ⊕ Y) ℂ} (h : IsMoment Γ) :
    IsVectorCorr fun x y => (Γ (.inl x) (.inr y)).re :=
  ⟨Γ, h, fun _ _ => rfl⟩

/-- filling the diagonal up to 1 keeps a matrix positive semidefinite and leaves the off-diagonal block alone -/
theorem isVectorCorr_of_diag_le_one {Γ : Matrix (X ⊕ Y) (X ⊕ Y) ℂ} (hΓ : Γ.PosSemidef) (hd : ∀ i, (Γ i i).re ≤ 1) :
    IsVectorCorr fun x y => (Γ (.inl x) (.inr y)).re := by
  classical
  refine ⟨Γ + diagonal fun i => ((1 - (Γ i i).re : ℝ) : ℂ), ⟨hΓ.add (PosSemidef.diagonal fun i => ?_), fun i => ?_⟩,
    fun x y => ?_⟩
  · exact Complex.zero_le_real.mpr (sub_nonneg.mpr (hd i))
  · have e : ((Γ i i).re : ℂ) = Γ i i := hΓ.isHermitian.coe_re_apply_self i
    rw [Matrix.add_apply, diagonal_apply_eq, Complex.ofReal_sub, Complex.ofReal_one, e, add_sub_cancel]
  · rw [Matrix.add_apply, diagonal_apply_ne _ Sum.inl_ne_inr, add_zero]

variable [DecidableEq X] [DecidableEq Y]

theorem IsVectorCorr.le_dual {c : X → Y → ℝ} (h : IsVectorCorr c) {D : X → Y → ℝ} {a : X → ℝ} {b : Y → ℝ}
    (hZ : (tsirelsonDual D a b).PosSemidef) : ∑ x, ∑ y, D x y * c x y ≤ (∑ x, a x + ∑ y, b y) / 2 := by
  obtain ⟨Γ, hΓ, hc⟩ := h
  simpa only [hc, hΓ.diag, Complex.one_re, mul_one] using tsirelson_weak_duality_psd D a b hΓ.psd hZ

end Sets

section Vectors
variable {ι d : Type*} [Fintype ι] [Fintype d]

def gram (w : ι → d → ℝ) : Matrix ι ι ℂ := fun i j => ((∑ k, w i k * w j k : ℝ) : ℂ)

theorem gram_psd (w : ι → d → ℝ) : (gram w).PosSemidef := by
  convert Matrix.posSemidef_gram (fun i k => ((w i k : ℝ) : ℂ)) using 1
  ext i j
  simp [gram, dotProduct]

theorem isVectorCorr_of_vectors {X Y : Type*} [Fintype X] [Fintype Y] (u : X → d → ℝ) (v : Y → d → ℝ)
    (hu : ∀ x, ∑ k, u x k ^ 2 = 1) (hv : ∀ y, ∑ k, v y k ^ 2 = 1) : IsVectorCorr fun x y => ∑ k, u x k * v y k := by
  have h1 : ∀ i, ∑ k, Sum.elim u v i k ^ 2 = 1 := Sum.rec hu hv
  exact ⟨gram (Sum.elim u v), ⟨gram_psd _, fun i => by simp only [gram, ← sq, h1 i, Complex.ofReal_one]⟩,
    fun _ _ => Complex.ofReal_re _⟩

/-- sign assignments are unit vectors in dimension one -/
theorem isVectorCorr_of_signs {X Y : Type*} [Fintype X] [Fintype Y] (s : X → ℝ) (t : Y → ℝ)
    (hs : ∀ x, s x = 1 ∨ s x = -1) (ht : ∀ y, t y = 1 ∨ t y = -1) : IsVectorCorr fun x y => s x * t y := by
  have sq : ∀ r : ℝ, r = 1 ∨ r = -1 → ∑ _k : Unit, r ^ 2 = 1 := by rintro r (rfl | rfl) <;> simp
  have e : (fun x y => ∑ _k : Unit, s x * t y) = fun x y => s x * t y := by simp
  exact e ▸ isVectorCorr_of_vectors (fun x _ => s x) (fun y _ => t y) (fun x => sq _ (hs x)) (fun y => sq _ (ht y))

end Vectors

section Strategy
variable {ι : Type*} [Fintype ι] {d : Type*} [Fintype d] [DecidableEq d]

def momentMatrix (ρ : Matrix d d ℂ) (O : ι → Matrix d d ℂ) : Matrix ι ι ℂ :=
  fun i j => (ρ * (O i)ᴴ * O j).trace

/-- with `ρ = Sᴴ S` the entry `tr(ρ O_iᴴ O_j)` is the Frobenius inner product of `O_i Sᴴ` and `O_j Sᴴ` -/
theorem momentMatrix_psd (ρ : Matrix d d ℂ) (hρ : ρ.PosSemidef) (O : ι → Matrix d d ℂ) :
    (momentMatrix ρ O).PosSemidef := by
  obtain ⟨S, rfl⟩ := hρ.exists_eq_conjTranspose_mul_self
  let V : Matrix (d × d) ι ℂ := fun ab i => (O i * Sᴴ) ab.1 ab.2
  have key : momentMatrix (Sᴴ * S) O = Vᴴ * V := by
    ext i j
    have h1 : (Vᴴ * V) i j = ((O i * Sᴴ)ᴴ * (O j * Sᴴ)).trace := by
      rw [Matrix.mul_apply, Fintype.sum_prod_type, Finset.sum_comm]
      simp only [Matrix.trace, Matrix.diag_apply, Matrix.mul_apply, conjTranspose_apply, V]
      rfl
    rw [h1, conjTranspose_mul, conjTranspose_conjTranspose, momentMatrix, Matrix.mul_assoc Sᴴ, Matrix.mul_assoc Sᴴ,
      Matrix.trace_mul_comm Sᴴ]
    simp only [Matrix.mul_assoc]
  rw [key]
  exact posSemidef_conjTranspose_mul_self V

end Strategy

section QuantumStrategies
variable {X Y : Type*}
variable {d : Type*} [Fintype d] [DecidableEq d]

/-- A quantum strategy in commuting-operator form: a density matrix and ±1-valued observables
    (Hermitian involutions) `A_x`, `B_y` with `[A_x, B_y] = 0` (e.g. `A_x ⊗ 1` and `1 ⊗ B_y`). -/
structure IsStrategy (ρ : Matrix d d ℂ) (A : X → Matrix d d ℂ) (B : Y → Matrix d d ℂ) : Prop where
  psd : ρ.PosSemidef
  tr_one : ρ.trace = 1
  A_herm : ∀ x, (A x).IsHermitian
  A_sq : ∀ x, A x * A x = 1
  B_herm : ∀ y, (B y).IsHermitian
  B_sq : ∀ y, B y * B y = 1
  comm : ∀ x y, A x * B y = B y * A x

noncomputable def corrQ (ρ : Matrix d d ℂ) (A : X → Matrix d d ℂ) (B : Y → Matrix d d ℂ) (x : X) (y : Y) : ℝ :=
  (ρ * A x * B y).trace.re

/-- a Hermitian `M` that is a contraction in the state `ρ`: `Re tr(ρ M²) ≤ 1` -/
structure IsContr (ρ M : Matrix d d ℂ) : Prop where
  herm : M.IsHermitian
  contr : (ρ * (M * M)).trace.re ≤ 1

theorem isContr_of_sq_one {ρ M : Matrix d d ℂ} (htr : ρ.trace = 1) (hM : M.IsHermitian) (h2 : M * M = 1) : IsContr ρ M :=
  ⟨hM, by rw [h2, Matrix.mul_one, htr, Complex.one_re]⟩

/-- a correlation matrix `c[x,y]` is *quantum* if some finite-dimensional strategy (state, commuting ±1 observables)
    has `⟨A_x B_y⟩ = c[x,y]` -/
def IsQuantumCorr (c : X → Y → ℝ) : Prop :=
  ∃ (d : Type) (_ : Fintype d) (_ : DecidableEq d) (ρ : Matrix d d ℂ) (A : X → Matrix d d ℂ)
    (B : Y → Matrix d d ℂ), IsStrategy ρ A B ∧ ∀ x y, corrQ ρ A B x y = c x y

variable [Fintype X] [Fintype Y]

/-- the correlators of Hermitian contractions are the off-diagonal block of their moment matrix, whose diagonal is at most 1 -/
theorem isVectorCorr_of_contr {ρ : Matrix d d ℂ} {A : X → Matrix d d ℂ} {B : Y → Matrix d d ℂ} (hρ : ρ.PosSemidef)
    (hA : ∀ x, IsContr ρ (A x)) (hB : ∀ y, IsContr ρ (B y)) : IsVectorCorr (corrQ ρ A B) := by
  classical
  have hO : ∀ i, IsContr ρ (Sum.elim A B i) := Sum.rec hA hB
  have hd : ∀ i, (momentMatrix ρ (Sum.elim A B) i i).re ≤ 1 := fun i => by
    rw [momentMatrix, (hO i).herm.eq, Matrix.mul_assoc]
    exact (hO i).contr
  have e : (fun x y => (momentMatrix ρ (Sum.elim A B) (.inl x) (.inr y)).re) = corrQ ρ A B := by
    funext x y
    simp only [momentMatrix, Sum.elim_inl, Sum.elim_inr, (hA x).herm.eq, corrQ]
  exact e ▸ isVectorCorr_of_diag_le_one (momentMatrix_psd ρ hρ _) hd

theorem IsStrategy.isVectorCorr {ρ : Matrix d d ℂ} {A : X → Matrix d d ℂ} {B : Y → Matrix d d ℂ} (h : IsStrategy ρ A B) :
    IsVectorCorr (corrQ ρ A B) :=
  isVectorCorr_of_contr h.psd (fun x => isContr_of_sq_one h.tr_one (h.A_herm x) (h.A_sq x))
    fun y => isContr_of_sq_one h.tr_one (h.B_herm y) (h.B_sq y)

theorem isVectorCorr_of_quantum {c : X → Y → ℝ} (h : IsQuantumCorr c) : IsVectorCorr c := by
  obtain ⟨d, hF, hD, ρ, A, B, hs, hc⟩ := h
  have e : corrQ ρ A B = c := funext fun x => funext (hc x)
  exact e ▸ hs.isVectorCorr

end QuantumStrategies

/-! ## The `Fin (m+n)` form used by the executable checkers -/

section FinVersion
open EMat
variable {m n k : Nat}

/-- real image of an exact `Nat`-indexed matrix, restricted to `m × n` -/
def castD (D : Nat → Nat → Rat) : Fin m → Fin n → ℝ := fun x y => ((D x.val y.val : Rat) : ℝ)
def castV (a : Nat → Rat) : Fin m → ℝ := fun x => ((a x.val : Rat) : ℝ)

@[simp] theorem castD_apply (D : Nat → Nat → Rat) (x : Fin m) (y : Fin n) : castD D x y = ((D x y : Rat) : ℝ) := rfl
@[simp] theorem castV_apply (a : Nat → Rat) (x : Fin m) : castV a x = ((a x : Rat) : ℝ) := rfl

theorem sumN_cast_fin (n : Nat) (f : Nat → Rat) : ((sumN n f : Rat) : ℝ) = ∑ i : Fin n, ((f i : Rat) : ℝ) := by
  rw [sumN_eq_sum_fin, Rat.cast_sum]

theorem sumN_sumN_cast (m n : Nat) (f : Nat → Nat → Rat) :
    (((sumN m fun x => sumN n fun y => f x y) : Rat) : ℝ) = ∑ x : Fin m, ∑ y : Fin n, ((f x y : Rat) : ℝ) := by
  rw [sumN_cast_fin]
  exact Finset.sum_congr rfl fun x _ => sumN_cast_fin n _

theorem sumFinQ_sumFinQ_cast (f : Fin m → Fin n → Rat) :
    (((sumFinQ m fun x => sumFinQ n fun y => f x y) : Rat) : ℝ) = ∑ x, ∑ y, ((f x y : Rat) : ℝ) := by
  rw [sumFinQ_cast]
  exact Finset.sum_congr rfl fun x _ => sumFinQ_cast n _

/-- bias functional on a moment matrix indexed by `Fin (m+n)` -/
def xorObjective (D : Fin m → Fin n → ℝ) (Γ : Matrix (Fin (m + n)) (Fin (m + n)) ℂ) : ℝ :=
  ∑ x, ∑ y, D x y * (Γ (Fin.castAdd n x) (Fin.natAdd m y)).re

theorem toM_xorDualMat_submatrix (D : Nat → Nat → Rat) (a b : Nat → Rat) :
    (xorDualMat m n D a b).toM.submatrix finSumFinEquiv finSumFinEquiv
      = tsirelsonDual (castD D) (castV (m := m) a) (castV (m := n) b) := by
  ext i j
  -- `finSumFinEquiv` sends `inl x` to the index `x < m` and `inr y` to `m + y`, which decides both `if`s of `xorDualMat` in each block
  rcases i with x | y <;> rcases j with x' | y' <;>
    simp [xorDualMat, castD, castV, QI.toC_ofRat, Fin.ext_iff, apply_ite QI.toC]

theorem isVectorCorr_fin {Γ : Matrix (Fin (m + n)) (Fin (m + n)) ℂ} (hΓ : IsMoment Γ) :
    IsVectorCorr fun (x : Fin m) (y : Fin n) => (Γ (Fin.castAdd n x) (Fin.natAdd m y)).re :=
  (isMoment_submatrix hΓ finSumFinEquiv).isVectorCorr

theorem sumQ_cast (n : Nat) (f : Nat → Rat) : ((sumQ n f : Rat) : ℝ) = ∑ i : Fin n, ((f i.val : Rat) : ℝ) := by
  unfold sumQ; rw [sumFinQ_cast]

theorem xorObj_cast (D : Nat → Nat → Rat) (Γ : EMat (m + n) (m + n)) :
    ((xorObj m n D Γ : Rat) : ℝ) = xorObjective (castD D) Γ.toM := by
  rw [xorObj, sumFinQ_sumFinQ_cast]
  exact Finset.sum_congr rfl fun x _ => Finset.sum_congr rfl fun y _ => by simp

theorem diagOne_sound {N : Nat} (Γ : EMat N N) (h : diagOne Γ = true) (i : Fin N) : Γ.toM i i = 1 := by
  simp only [diagOne, allFin_iff, beq_iff_eq] at h
  simp [h i]

theorem checkXorPrimal_eq_some (D : Nat → Nat → Rat) (Γ : EMat (m + n) (m + n)) (L : EMat (m + n) k) (lo : Rat)
    (h : checkXorPrimal m n D Γ L = some lo) :
    IsMoment Γ.toM ∧ xorObjective (castD D) Γ.toM = (lo : ℝ) := by
  obtain ⟨hc, rfl⟩ := check_eq_some.mp h
  rw [Bool.and_eq_true] at hc
  exact ⟨⟨psdCert_sound _ _ hc.1, diagOne_sound Γ hc.2⟩, (xorObj_cast D Γ).symm⟩

theorem checkXorDual_eq_some (D : Nat → Nat → Rat) (a b : Nat → Rat) (L : EMat (m + n) k) (hi : Rat)
    (h : checkXorDual m n D a b L = some hi) :
    (tsirelsonDual (castD D) (castV (m := m) a) (castV (m := n) b)).PosSemidef ∧
      (∑ x, castV (m := m) a x + ∑ y, castV (m := n) b y) / 2 = (hi : ℝ) := by
  obtain ⟨hc, rfl⟩ := check_eq_some.mp h
  refine ⟨?_, ?_⟩
  · rw [← toM_xorDualMat_submatrix]
    exact (psdCert_sound _ _ hc).submatrix _
  · push_cast
    rw [sumQ_cast, sumQ_cast]
    rfl

theorem checkXorDual_bound {D : Nat → Nat → Rat} {a b : Nat → Rat} {L : EMat (m + n) k} {hi : Rat}
    (h : checkXorDual m n D a b L = some hi) {c : Fin m → Fin n → ℝ} (hc : IsVectorCorr c) :
    ∑ x, ∑ y, castD D x y * c x y ≤ (hi : ℝ) := by
  obtain ⟨hZ, hv⟩ := checkXorDual_eq_some D a b L hi h
  exact hv ▸ hc.le_dual hZ

theorem signBias_cast (m n : Nat) (D : Nat → Nat → Rat) (s t : Nat → Rat) :
    ((signBias m n D s t : Rat) : ℝ)
      = ∑ x : Fin m, ∑ y : Fin n, castD D x y * (castV s x * castV t y) := by
  rw [signBias, sumN_sumN_cast]
  exact Finset.sum_congr rfl fun x _ => Finset.sum_congr rfl fun y _ => by
    rw [castD_apply, castV_apply, castV_apply]; push_cast; ring

theorem bellDet_cast (m n : Nat) (J : Nat → Nat → Rat) (a b : Nat → Rat) (s t : Nat → Rat) :
    ((bellDet m n J a b s t : Rat) : ℝ)
      = (∑ x : Fin m, ∑ y : Fin n, castD J x y * (castV s x * castV t y))
        + (∑ x : Fin m, castV a x * castV s x) + ∑ y : Fin n, castV b y * castV t y := by
  unfold bellDet
  push_cast
  rw [signBias_cast, sumN_cast_fin, sumN_cast_fin]
  simp only [castV]; push_cast; rfl

theorem castV_sign {m : Nat} (s : Nat → Rat) (h : ∀ x, x < m → s x = 1 ∨ s x = -1) (x : Fin m) :
    castV s x = 1 ∨ castV s x = -1 := by
  rcases h x.val x.isLt with e | e <;> simp [castV, e]

theorem totalProb_cast (prob : Nat → Nat → Rat) :
    ((totalProb m n prob : Rat) : ℝ) = ∑ x : Fin m, ∑ y : Fin n, (castD prob : Fin m → Fin n → ℝ) x y :=
  sumN_sumN_cast m n prob

theorem castD_sum_eq_one {prob : Nat → Nat → Rat} (h : totalProb m n prob = 1) :
    ∑ x : Fin m, ∑ y : Fin n, (castD prob : Fin m → Fin n → ℝ) x y = 1 := by
  rw [← totalProb_cast, h, Rat.cast_one]

end FinVersion

section Bell
open EMat
variable {m n k : Nat} {d : Type*} [DecidableEq d]

def consOne (A : Fin m → Matrix d d ℂ) : Fin (m + 1) → Matrix d d ℂ := Fin.cons (α := fun _ => Matrix d d ℂ) 1 A

@[simp] theorem consOne_zero (A : Fin m → Matrix d d ℂ) : consOne A 0 = 1 := rfl
@[simp] theorem consOne_succ (A : Fin m → Matrix d d ℂ) (x : Fin m) : consOne A x.succ = A x := by
  simp [consOne]

theorem consOne_forall {P : Matrix d d ℂ → Prop} (A : Fin m → Matrix d d ℂ) (h1 : P 1) (hA : ∀ x, P (A x)) :
    ∀ i, P (consOne A i) :=
  Fin.cases h1 fun x => by rw [consOne_succ]; exact hA x

variable [Fintype d]

noncomputable def bellValueR (J : Fin m → Fin n → ℝ) (a : Fin m → ℝ) (b : Fin n → ℝ) (ρ : Matrix d d ℂ)
    (A : Fin m → Matrix d d ℂ) (B : Fin n → Matrix d d ℂ) : ℝ :=
  (∑ x, ∑ y, J x y * (ρ * A x * B y).trace.re) + (∑ x, a x * (ρ * A x).trace.re)
    + ∑ y, b y * (ρ * B y).trace.re

theorem isStrategy_consOne {ρ : Matrix d d ℂ} {A : Fin m → Matrix d d ℂ} {B : Fin n → Matrix d d ℂ}
    (h : IsStrategy ρ A B) : IsStrategy ρ (consOne A) (consOne B) where
  psd := h.psd
  tr_one := h.tr_one
  A_herm := consOne_forall A Matrix.isHermitian_one h.A_herm
  A_sq := consOne_forall (P := fun M => M * M = 1) A (Matrix.one_mul 1) h.A_sq
  B_herm := consOne_forall B Matrix.isHermitian_one h.B_herm
  B_sq := consOne_forall (P := fun M => M * M = 1) B (Matrix.one_mul 1) h.B_sq
  comm := consOne_forall (P := fun M => ∀ y, M * consOne B y = consOne B y * M) A
    (fun y => by rw [Matrix.one_mul, Matrix.mul_one])
    fun x => consOne_forall (P := fun N => A x * N = N * A x) B (by rw [Matrix.one_mul, Matrix.mul_one]) (h.comm x)

/-- row and column `0` of `bellExt` carry `t`, `b` and `a`, and `consOne` puts the identity there -/
theorem bellExt_sum (J : Nat → Nat → Rat) (a b : Nat → Rat) (t : Rat) (ρ : Matrix d d ℂ)
    (A : Fin m → Matrix d d ℂ) (B : Fin n → Matrix d d ℂ) (htr : ρ.trace = 1) :
    ∑ x : Fin (m + 1), ∑ y : Fin (n + 1),
        castD (bellExt J a b t) x y * corrQ ρ (consOne A) (consOne B) x y
      = (t : ℝ) + bellValueR (castD J) (castV a) (castV b) ρ A B := by
  simp only [Fin.sum_univ_succ, castD_apply, castV_apply, Fin.val_zero, Fin.val_succ, bellExt_zero_zero, bellExt_zero_succ,
    bellExt_succ_zero, bellExt_succ_succ, corrQ, consOne_zero, consOne_succ, htr, Complex.one_re, mul_one,
    Finset.sum_add_distrib, bellValueR]
  ring

theorem bell_strategy_le_dual (J : Nat → Nat → Rat) (a b : Nat → Rat) (t : Rat)
    (u : Fin (m + 1) → ℝ) (v : Fin (n + 1) → ℝ) (ρ : Matrix d d ℂ) (A : Fin m → Matrix d d ℂ)
    (B : Fin n → Matrix d d ℂ) (h : IsStrategy ρ A B)
    (hZ : (tsirelsonDual (castD (m := m + 1) (n := n + 1) (bellExt J a b t)) u v).PosSemidef) :
    bellValueR (castD J) (castV a) (castV b) ρ A B ≤ (∑ x, u x + ∑ y, v y) / 2 - (t : ℝ) := by
  have := (isStrategy_consOne h).isVectorCorr.le_dual hZ
  rw [bellExt_sum J a b t ρ A B h.tr_one] at this
  linarith

theorem checkBellDual_eq_some (J : Nat → Nat → Rat) (a b : Nat → Rat) (t : Rat) (u v : Nat → Rat)
    (L : EMat (m + 1 + (n + 1)) k) (hi : Rat) (h : checkBellDual m n J a b t u v L = some hi) :
    (tsirelsonDual (castD (bellExt J a b t)) (castV (m := m + 1) u) (castV (m := n + 1) v)).PosSemidef ∧
      (∑ x, castV (m := m + 1) u x + ∑ y, castV (m := n + 1) v y) / 2 - (t : ℝ) = (hi : ℝ) := by
  unfold checkBellDual at h
  split at h
  · next h' hx =>
    obtain ⟨hZ, hv⟩ := checkXorDual_eq_some _ _ _ _ _ hx
    exact ⟨hZ, by rw [hv, ← Option.some.inj h, Rat.cast_sub]⟩
  · exact absurd h (by simp)

theorem expect_cast {N : Nat} (ρ M : EMat N N) : ((expect ρ M : Rat) : ℝ) = (ρ.toM * M.toM).trace.re := by
  unfold expect; rw [re_trace, toM_mul]

theorem isInvolution_sound {N : Nat} (A : EMat N N) (h : isInvolution A = true) :
    A.toM.IsHermitian ∧ A.toM * A.toM = 1 := by
  simp only [isInvolution, Bool.and_eq_true] at h
  refine ⟨isHermitian_sound A h.1, ?_⟩
  rw [← toM_mul, beq_sound _ _ h.2, toM_one]

theorem commutes_sound {N : Nat} (A B : EMat N N) (h : commutes A B = true) : A.toM * B.toM = B.toM * A.toM := by
  rw [← toM_mul, ← toM_mul]
  exact beq_sound _ _ h

theorem isDensity_sound {N : Nat} (ρ : EMat N N) (Lρ : EMat N k) (h : isDensity ρ Lρ = true) :
    ρ.toM.PosSemidef ∧ ρ.toM.trace = 1 := by
  simp only [isDensity, Bool.and_eq_true, beq_iff_eq] at h
  refine ⟨psdCert_sound _ _ h.1, ?_⟩
  rw [← toC_trace, h.2]
  simp

theorem isStrategy_of_checks {N : Nat} {ρ : EMat N N} {Lρ : EMat N k} {A : Fin m → EMat N N} {B : Fin n → EMat N N}
    (hρ : isDensity ρ Lρ = true) (ho : observablesOk m n A B = true) :
    IsStrategy ρ.toM (fun x => (A x).toM) (fun y => (B y).toM) := by
  simp only [observablesOk, Bool.and_eq_true, allFin_iff] at ho
  obtain ⟨⟨hA, hB⟩, hcomm⟩ := ho
  obtain ⟨hpsd, htr⟩ := isDensity_sound ρ Lρ hρ
  exact ⟨hpsd, htr, fun x => (isInvolution_sound _ (hA x)).1, fun x => (isInvolution_sound _ (hA x)).2,
    fun y => (isInvolution_sound _ (hB y)).1, fun y => (isInvolution_sound _ (hB y)).2,
    fun x y => commutes_sound _ _ (hcomm x y)⟩

theorem bellValue_cast {N : Nat} (J : Nat → Nat → Rat) (a b : Nat → Rat) (ρ : EMat N N)
    (A : Fin m → EMat N N) (B : Fin n → EMat N N) :
    ((bellValue m n J a b ρ A B : Rat) : ℝ)
      = bellValueR (castD J) (castV a) (castV b) ρ.toM (fun x => (A x).toM) (fun y => (B y).toM) := by
  unfold bellValue bellValueR
  push_cast
  rw [sumFinQ_sumFinQ_cast, sumFinQ_cast, sumFinQ_cast]
  simp only [Rat.cast_mul, expect_cast, toM_mul, Matrix.mul_assoc, castD_apply, castV_apply]

theorem isStrategy_signs {ρ : Matrix d d ℂ} (hρ : ρ.PosSemidef) (htr : ρ.trace = 1) (s : Fin m → ℝ) (t : Fin n → ℝ)
    (hs : ∀ x, s x = 1 ∨ s x = -1) (ht : ∀ y, t y = 1 ∨ t y = -1) :
    IsStrategy ρ (fun x => (s x : ℂ) • (1 : Matrix d d ℂ)) (fun y => (t y : ℂ) • (1 : Matrix d d ℂ)) := by
  have herm : ∀ r : ℝ, ((r : ℂ) • (1 : Matrix d d ℂ)).IsHermitian := fun r => by
    rw [Matrix.IsHermitian, conjTranspose_smul, conjTranspose_one, Complex.star_def, Complex.conj_ofReal]
  have sq : ∀ r : ℝ, r = 1 ∨ r = -1 → ((r : ℂ) • (1 : Matrix d d ℂ)) * ((r : ℂ) • (1 : Matrix d d ℂ)) = 1 := by
    rintro r (rfl | rfl) <;> simp
  exact ⟨hρ, htr, fun x => herm _, fun x => sq _ (hs x), fun y => herm _, fun y => sq _ (ht y),
    fun x y => by rw [smul_mul_smul_comm, smul_mul_smul_comm, mul_comm]⟩

theorem bellValueR_signs {ρ : Matrix d d ℂ} (htr : ρ.trace = 1) (J : Fin m → Fin n → ℝ) (a : Fin m → ℝ) (b : Fin n → ℝ)
    (s : Fin m → ℝ) (t : Fin n → ℝ) :
    bellValueR J a b ρ (fun x => (s x : ℂ) • (1 : Matrix d d ℂ)) (fun y => (t y : ℂ) • (1 : Matrix d d ℂ))
      = (∑ x, ∑ y, J x y * (s x * t y)) + (∑ x, a x * s x) + ∑ y, b y * t y := by
  simp only [bellValueR, Matrix.mul_smul, trace_smul, htr, smul_eq_mul, mul_one,
    ← Complex.ofReal_mul, Complex.ofReal_re, mul_comm (t _) (s _)]

theorem exists_strategy_of_signPair (J : Nat → Nat → Rat) (a b : Nat → Rat) {s t : Nat → Rat} (hst : IsSignPair m n s t) :
    ∃ (ρ : Matrix (Fin 1) (Fin 1) ℂ) (A : Fin m → Matrix (Fin 1) (Fin 1) ℂ) (B : Fin n → Matrix (Fin 1) (Fin 1) ℂ),
      IsStrategy ρ A B ∧ bellValueR (castD J) (castV a) (castV b) ρ A B = ((bellDet m n J a b s t : Rat) : ℝ) := by
  have htr : (1 : Matrix (Fin 1) (Fin 1) ℂ).trace = 1 := by simp
  exact ⟨1, _, _, isStrategy_signs PosSemidef.one htr (castV s) (castV t) (castV_sign s hst.1) (castV_sign t hst.2),
    (bellValueR_signs htr ..).trans (bellDet_cast m n J a b s t).symm⟩

end Bell

/-! ## Level-1 moment matrices (index set `{1} ⊕ X ⊕ Y`, ±1 observables) -/

section NPA1
variable {X Y : Type*} [Fintype X] [Fintype Y]

theorem isMoment_extend (Γ : Matrix (X ⊕ Y) (X ⊕ Y) ℂ) (h : IsMoment Γ) :
    IsMoment (Matrix.fromBlocks (1 : Matrix Unit Unit ℂ) 0 0 Γ) := by
  refine ⟨?_, ?_⟩
  · have h0 : (0 : Matrix (X ⊕ Y) Unit ℂ) = (0 : Matrix Unit (X ⊕ Y) ℂ)ᴴ := by simp
    have : Invertible (1 : Matrix Unit Unit ℂ) := invertibleOne
    rw [h0, Matrix.PosDef.fromBlocks₁₁ _ _ Matrix.PosDef.one]
    simpa using h.psd
  · rintro (u | i)
    · simp
    · simpa using h.diag i

theorem isVectorCorr_level1 {R : Matrix (Unit ⊕ (X ⊕ Y)) (Unit ⊕ (X ⊕ Y)) ℂ} (hR : IsMoment R) :
    IsVectorCorr fun x y => (R (.inr (.inl x)) (.inr (.inr y))).re :=
  ⟨R.submatrix Sum.inr Sum.inr, isMoment_submatrix hR Sum.inr, fun _ _ => rfl⟩

end NPA1

/-! ## From the projector basis `(1, A_x^0, B_y^0)` of toqito's NPA matrix to ±1 observables -/

section Basis
variable {ι : Type*} [Fintype ι] [DecidableEq ι]

/-- change of basis `1 ↦ 1`, `P_i ↦ S_i = 2 P_i − 1` -/
def basisChange (ι : Type*) [Fintype ι] [DecidableEq ι] : Matrix (Unit ⊕ ι) (Unit ⊕ ι) ℂ :=
  Matrix.fromBlocks 1 0 (Matrix.of fun _ _ => (-1 : ℂ)) ((2 : ℂ) • (1 : Matrix ι ι ℂ))

theorem basisChange_mul_inl (R : Matrix (Unit ⊕ ι) (Unit ⊕ ι) ℂ) (j : Unit ⊕ ι) :
    (basisChange ι * R) (.inl ()) j = R (.inl ()) j := by
  simp only [Matrix.mul_apply, Fintype.sum_sum_type, basisChange, Matrix.fromBlocks_apply₁₁, Matrix.fromBlocks_apply₁₂,
    Matrix.one_apply, Matrix.zero_apply, Finset.univ_unique, Finset.sum_singleton, if_true, one_mul, zero_mul,
    Finset.sum_const_zero, add_zero]

theorem basisChange_mul_inr (R : Matrix (Unit ⊕ ι) (Unit ⊕ ι) ℂ) (i : ι) (j : Unit ⊕ ι) :
    (basisChange ι * R) (.inr i) j = 2 * R (.inr i) j - R (.inl ()) j := by
  simp only [Matrix.mul_apply, Fintype.sum_sum_type, basisChange, Matrix.fromBlocks_apply₂₁, Matrix.fromBlocks_apply₂₂,
    Matrix.of_apply, Matrix.smul_apply, Matrix.one_apply, Finset.univ_unique, Finset.sum_singleton, smul_eq_mul, mul_ite,
    mul_one, mul_zero, ite_mul, zero_mul, Finset.sum_ite_eq, Finset.mem_univ, if_true]
  ring

theorem mul_basisChange_conjTranspose (M : Matrix (Unit ⊕ ι) (Unit ⊕ ι) ℂ) (i : Unit ⊕ ι) :
    (M * (basisChange ι)ᴴ) i (.inl ()) = M i (.inl ()) ∧
      ∀ j, (M * (basisChange ι)ᴴ) i (.inr j) = 2 * M i (.inr j) - M i (.inl ()) := by
  have h : M * (basisChange ι)ᴴ = (basisChange ι * Mᴴ)ᴴ := by rw [conjTranspose_mul, conjTranspose_conjTranspose]
  rw [h]
  refine ⟨?_, fun j => ?_⟩
  · rw [conjTranspose_apply, basisChange_mul_inl, conjTranspose_apply, star_star]
  · rw [conjTranspose_apply, basisChange_mul_inr, conjTranspose_apply, conjTranspose_apply, star_sub, star_mul', star_star,
      star_star, star_ofNat]

theorem basisChange_entry (R : Matrix (Unit ⊕ ι) (Unit ⊕ ι) ℂ) (i j : ι) :
    (basisChange ι * R * (basisChange ι)ᴴ) (.inr i) (.inr j)
      = 4 * R (.inr i) (.inr j) - 2 * R (.inr i) (.inl ()) - 2 * R (.inl ()) (.inr j) + R (.inl ()) (.inl ()) := by
  rw [(mul_basisChange_conjTranspose _ _).2, basisChange_mul_inr, basisChange_mul_inr]
  ring

theorem basisChange_zero (R : Matrix (Unit ⊕ ι) (Unit ⊕ ι) ℂ) :
    (basisChange ι * R * (basisChange ι)ᴴ) (.inl ()) (.inl ()) = R (.inl ()) (.inl ()) := by
  rw [(mul_basisChange_conjTranspose _ _).1, basisChange_mul_inl]

theorem isMoment_basisChange (R : Matrix (Unit ⊕ ι) (Unit ⊕ ι) ℂ) (hR : R.PosSemidef)
    (h1 : R (.inl ()) (.inl ()) = 1) (hp : ∀ i, R (.inr i) (.inr i) = R (.inl ()) (.inr i)) :
    IsMoment (basisChange ι * R * (basisChange ι)ᴴ) := by
  refine ⟨hR.mul_mul_conjTranspose_same _, ?_⟩
  rintro (u | i)
  · rw [basisChange_zero, h1]
  · rw [basisChange_entry, h1]
    have hd : star (R (.inr i) (.inr i)) = R (.inr i) (.inr i) := hR.isHermitian.apply _ _
    have hc : R (.inr i) (.inl ()) = star (R (.inl ()) (.inr i)) := (hR.isHermitian.apply _ _).symm
    rw [hc, ← hp i, hd]
    ring

end Basis

end Toq.Xor
