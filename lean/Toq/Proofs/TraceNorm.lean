import Toq.Proofs.Spectral
/-!
# The trace norm of a Hermitian matrix in its two variational forms

`traceNormV H = sup { Re tr(W H) : −1 ⪯ W ⪯ 1 }` (`IsContraction`, `tnSet`), bounded by `tr P + tr Q` for every decomposition
`H = P − Q` with `P, Q ⪰ 0` (`IsContraction.re_trace_mul_le`).  On `conjDiag U f` both forms are attained, at `W = U diag(sign f) Uᴴ` and
at `P − Q = U diag(f⁺) Uᴴ − U diag(f⁻) Uᴴ`, so the value is `Σ |f_i|` (`traceNormV_conjDiag`); the laws of a norm and the invariances
are maps of contractions.  A contraction `W` is also the off-diagonal block of the positive `[[1, W], [W, 1]]`.
The supremum is taken for every `H`, but it is the trace norm only of a Hermitian `H` (for other `H` it is that of the Hermitian part, since
`W` is Hermitian), so the lemmas about its value assume `H.IsHermitian`.  Everything lives in the namespace `Toq.Metrics`, as `conjDiag` does.
-/

open Matrix
open scoped ComplexOrder

namespace Toq.Metrics

section Contraction
variable {ι : Type*} [Fintype ι] [DecidableEq ι]

/-- `W` is Hermitian with `−1 ⪯ W ⪯ 1`: a contraction in the usual sense (`‖W‖ ≤ 1`) that is also Hermitian; a unitary such as `i • 1` is
not one (`IsContraction.isHermitian`) -/
def IsContraction (W : Matrix ι ι ℂ) : Prop := (1 - W).PosSemidef ∧ (1 + W).PosSemidef

end Contraction

section
variable {ι : Type*} [DecidableEq ι]

theorem IsContraction.isHermitian {W : Matrix ι ι ℂ} (h : IsContraction W) : W.IsHermitian := by
  have := Matrix.isHermitian_one.sub h.1.isHermitian
  rwa [sub_sub_cancel] at this

theorem IsContraction.zero : IsContraction (0 : Matrix ι ι ℂ) := by
  constructor <;> simpa using Matrix.PosSemidef.one

theorem IsContraction.neg {W : Matrix ι ι ℂ} (h : IsContraction W) : IsContraction (-W) := by
  refine ⟨?_, ?_⟩
  · simpa [sub_neg_eq_add] using h.2
  · simpa [← sub_eq_add_neg] using h.1

end

section TraceNorm
variable {ι : Type*} [Fintype ι] [DecidableEq ι]

-- stated for finite index types, as everything below
set_option linter.unusedSectionVars false in
theorem IsContraction.one : IsContraction (1 : Matrix ι ι ℂ) := by
  refine ⟨by simpa using Matrix.PosSemidef.zero, ?_⟩
  exact Matrix.PosSemidef.one.add Matrix.PosSemidef.one

theorem IsContraction.conj {W U : Matrix ι ι ℂ} (h : IsContraction W) (hU : Uᴴ * U = 1) :
    IsContraction (Uᴴ * W * U) := by
  refine ⟨?_, ?_⟩
  · have := h.1.conjTranspose_mul_mul_same U
    rwa [Matrix.mul_sub, Matrix.sub_mul, Matrix.mul_one, hU] at this
  · have := h.2.conjTranspose_mul_mul_same U
    rwa [Matrix.mul_add, Matrix.add_mul, Matrix.mul_one, hU] at this

/-- weak duality of the two variational forms of the trace norm -/
theorem IsContraction.re_trace_mul_le {H P Q W : Matrix ι ι ℂ} (hW : IsContraction W) (hP : P.PosSemidef)
    (hQ : Q.PosSemidef) (hH : H = P - Q) : (W * H).trace.re ≤ P.trace.re + Q.trace.re := by
  have h1 := psd_trace_mul_nonneg hW.1 hP
  have h2 := psd_trace_mul_nonneg hW.2 hQ
  rw [Matrix.sub_mul, Matrix.one_mul, Matrix.trace_sub, Complex.sub_re] at h1
  rw [Matrix.add_mul, Matrix.one_mul, Matrix.trace_add, Complex.add_re] at h2
  rw [hH, Matrix.mul_sub, Matrix.trace_sub, Complex.sub_re]
  linarith

/-- the values `Re tr(W H)` over all contractions `W` -/
def tnSet (H : Matrix ι ι ℂ) : Set ℝ := {x | ∃ W, IsContraction W ∧ (W * H).trace.re = x}

/-- the trace norm in its max form: `sup { Re tr(W H) : −1 ⪯ W ⪯ 1 }` -/
noncomputable def traceNormV (H : Matrix ι ι ℂ) : ℝ := sSup (tnSet H)

theorem zero_mem_tnSet (H : Matrix ι ι ℂ) : (0 : ℝ) ∈ tnSet H :=
  ⟨0, IsContraction.zero, by simp⟩

theorem tnSet_nonempty (H : Matrix ι ι ℂ) : (tnSet H).Nonempty := ⟨0, zero_mem_tnSet H⟩

/-- Jordan decomposition of `U diag(f) Uᴴ` into the positive semidefinite `U diag(f⁺) Uᴴ` and `U diag(f⁻) Uᴴ` -/
theorem conjDiag_eq_posPart_sub_negPart (U : Matrix ι ι ℂ) (f : ι → ℝ) :
    conjDiag U f = conjDiag U (fun i => (f i)⁺) - conjDiag U (fun i => (f i)⁻) := by
  rw [conjDiag_sub]
  exact conjDiag_congr U fun i => (posPart_sub_negPart (f i)).symm

theorem conjDiag_posPart_posSemidef (U : Matrix ι ι ℂ) (f : ι → ℝ) : (conjDiag U fun i => (f i)⁺).PosSemidef :=
  conjDiag_posSemidef U fun i => posPart_nonneg (f i)

theorem conjDiag_negPart_posSemidef (U : Matrix ι ι ℂ) (f : ι → ℝ) : (conjDiag U fun i => (f i)⁻).PosSemidef :=
  conjDiag_posSemidef U fun i => negPart_nonneg (f i)

theorem re_trace_conjDiag_posPart_add_negPart {U : Matrix ι ι ℂ} (hU : Uᴴ * U = 1) (f : ι → ℝ) :
    (conjDiag U fun i => (f i)⁺).trace.re + (conjDiag U fun i => (f i)⁻).trace.re = ∑ i, |f i| := by
  rw [conjDiag_trace_re hU, conjDiag_trace_re hU, ← Finset.sum_add_distrib]
  exact Finset.sum_congr rfl fun i _ => posPart_add_negPart (f i)

theorem tnSet_bddAbove {H : Matrix ι ι ℂ} (hH : H.IsHermitian) : BddAbove (tnSet H) := by
  obtain ⟨U, lam, -, rfl⟩ := exists_conjDiag_fun hH
  exact ⟨_, by
    rintro x ⟨W, hW, rfl⟩
    exact hW.re_trace_mul_le (conjDiag_posPart_posSemidef U lam) (conjDiag_negPart_posSemidef U lam)
      (conjDiag_eq_posPart_sub_negPart U lam)⟩

theorem le_traceNormV {H W : Matrix ι ι ℂ} (hH : H.IsHermitian) (hW : IsContraction W) :
    (W * H).trace.re ≤ traceNormV H :=
  le_csSup (tnSet_bddAbove hH) ⟨W, hW, rfl⟩

theorem traceNormV_le_of_forall {H : Matrix ι ι ℂ} {c : ℝ} (h : ∀ W, IsContraction W → (W * H).trace.re ≤ c) :
    traceNormV H ≤ c := by
  refine csSup_le (tnSet_nonempty H) ?_
  rintro x ⟨W, hW, rfl⟩
  exact h W hW

theorem traceNormV_le {H P Q : Matrix ι ι ℂ} (hP : P.PosSemidef) (hQ : Q.PosSemidef)
    (hH : H = P - Q) : traceNormV H ≤ P.trace.re + Q.trace.re :=
  traceNormV_le_of_forall fun _ hW => hW.re_trace_mul_le hP hQ hH

theorem traceNormV_nonneg {H : Matrix ι ι ℂ} (hH : H.IsHermitian) : 0 ≤ traceNormV H :=
  le_csSup (tnSet_bddAbove hH) (zero_mem_tnSet H)

theorem isLUB_tnSet {H : Matrix ι ι ℂ} (hH : H.IsHermitian) : IsLUB (tnSet H) (traceNormV H) :=
  isLUB_csSup (tnSet_nonempty H) (tnSet_bddAbove hH)

/-- `tnSet H` is symmetric: `W ↦ −W` -/
theorem neg_mem_tnSet {H : Matrix ι ι ℂ} {x : ℝ} (hx : x ∈ tnSet H) : -x ∈ tnSet H := by
  obtain ⟨W, hW, rfl⟩ := hx
  exact ⟨-W, hW.neg, by rw [Matrix.neg_mul, Matrix.trace_neg, Complex.neg_re]⟩

theorem isGLB_tnSet {H : Matrix ι ι ℂ} (hH : H.IsHermitian) : IsGLB (tnSet H) (-traceNormV H) := by
  have h := isLUB_tnSet hH
  refine ⟨fun x hx => neg_le.mp (h.1 (neg_mem_tnSet hx)), fun b hb => ?_⟩
  exact le_neg.mp (h.2 fun x hx => le_neg.mp (hb (neg_mem_tnSet hx)))

theorem tnSet_neg (H : Matrix ι ι ℂ) : tnSet (-H) = tnSet H := by
  have key : ∀ H : Matrix ι ι ℂ, tnSet H ⊆ tnSet (-H) := by
    rintro H x ⟨W, hW, rfl⟩
    exact ⟨-W, hW.neg, by rw [neg_mul_neg]⟩
  exact Set.Subset.antisymm (by simpa using key (-H)) (key H)

/-- conjugation by an isometry can only shrink the set: `W ↦ Uᴴ W U` -/
theorem tnSet_conj_subset (H U : Matrix ι ι ℂ) (hU : Uᴴ * U = 1) : tnSet (U * H * Uᴴ) ⊆ tnSet H := by
  rintro x ⟨W, hW, rfl⟩
  refine ⟨Uᴴ * W * U, hW.conj hU, ?_⟩
  rw [show Uᴴ * W * U * H = Uᴴ * (W * U * H) by simp only [Matrix.mul_assoc], Matrix.trace_mul_comm]
  simp only [Matrix.mul_assoc]

theorem tnSet_conj (H U : Matrix ι ι ℂ) (hU : Uᴴ * U = 1) :
    tnSet (U * H * Uᴴ) = tnSet H := by
  refine (tnSet_conj_subset H U hU).antisymm ?_
  have := tnSet_conj_subset (U * H * Uᴴ) Uᴴ
    (by rw [Matrix.conjTranspose_conjTranspose]; exact mul_eq_one_comm.mp hU)
  rwa [Matrix.conjTranspose_conjTranspose, conj_conj_cancel hU] at this

theorem traceNormV_neg (H : Matrix ι ι ℂ) : traceNormV (-H) = traceNormV H := by
  rw [traceNormV, tnSet_neg]; rfl

theorem traceNormV_conj (H U : Matrix ι ι ℂ) (hU : Uᴴ * U = 1) : traceNormV (U * H * Uᴴ) = traceNormV H := by
  rw [traceNormV, tnSet_conj H U hU]; rfl

theorem traceNormV_add_le {A B : Matrix ι ι ℂ} (hA : A.IsHermitian) (hB : B.IsHermitian) :
    traceNormV (A + B) ≤ traceNormV A + traceNormV B := by
  refine traceNormV_le_of_forall fun W hW => ?_
  rw [Matrix.mul_add, Matrix.trace_add, Complex.add_re]
  exact add_le_add (le_traceNormV hA hW) (le_traceNormV hB hW)

theorem traceNormV_zero : traceNormV (0 : Matrix ι ι ℂ) = 0 := by
  refine le_antisymm ?_ (traceNormV_nonneg Matrix.isHermitian_zero)
  simpa using traceNormV_le (H := (0 : Matrix ι ι ℂ)) Matrix.PosSemidef.zero Matrix.PosSemidef.zero (sub_self 0).symm

end TraceNorm

section TraceNormSpectral
variable {ι : Type*} [Fintype ι] [DecidableEq ι]

theorem conjDiag_contraction {U : Matrix ι ι ℂ} (hU : Uᴴ * U = 1) {s : ι → ℝ}
    (hs : ∀ i, -1 ≤ s i ∧ s i ≤ 1) : IsContraction (conjDiag U s) := by
  constructor
  · rw [← conjDiag_one hU, conjDiag_sub]
    exact conjDiag_posSemidef U fun i => by linarith [(hs i).2]
  · rw [← conjDiag_one hU, conjDiag_add]
    exact conjDiag_posSemidef U fun i => by linarith [(hs i).1]

theorem sign_bounds (x : ℝ) : -1 ≤ (SignType.sign x : ℝ) ∧ (SignType.sign x : ℝ) ≤ 1 := by
  rcases lt_trichotomy x 0 with h | h | h
  · rw [sign_neg h]; norm_num
  · rw [h, sign_zero]; norm_num
  · rw [sign_pos h]; norm_num

/-- the trace norm (max form) of `U diag(f) Uᴴ` is `Σ |f_i|`: the Jordan decomposition bounds it from above, `W = U diag(sign f) Uᴴ`
gives the value from below -/
theorem traceNormV_conjDiag {U : Matrix ι ι ℂ} (hU : Uᴴ * U = 1) (f : ι → ℝ) :
    traceNormV (conjDiag U f) = ∑ i, |f i| := by
  refine le_antisymm ?_ ?_
  · rw [← re_trace_conjDiag_posPart_add_negPart hU]
    exact traceNormV_le (conjDiag_posPart_posSemidef U f) (conjDiag_negPart_posSemidef U f)
      (conjDiag_eq_posPart_sub_negPart U f)
  · have := le_traceNormV (conjDiag_isHermitian U f) (conjDiag_contraction hU fun i => sign_bounds (f i))
    rw [conjDiag_mul hU, conjDiag_trace_re hU] at this
    simpa only [sign_mul_self] using this

theorem traceNormV_eq_sum_abs_eigenvalues {H : Matrix ι ι ℂ} (hH : H.IsHermitian) :
    traceNormV H = ∑ i, |hH.eigenvalues i| := by
  obtain ⟨U, hU, hHe⟩ := exists_conjDiag hH
  conv_lhs => rw [hHe]
  exact traceNormV_conjDiag hU _

/-- the min form is attained: a Hermitian `H` is `P − Q` with `P, Q ⪰ 0` and `tr P + tr Q = ‖H‖₁` (Jordan decomposition) -/
theorem exists_jordan_traceNormV {H : Matrix ι ι ℂ} (hH : H.IsHermitian) :
    ∃ P Q : Matrix ι ι ℂ, P.PosSemidef ∧ Q.PosSemidef ∧ H = P - Q ∧ P.trace.re + Q.trace.re = traceNormV H := by
  obtain ⟨U, lam, hU, rfl⟩ := exists_conjDiag_fun hH
  exact ⟨_, _, conjDiag_posPart_posSemidef U lam, conjDiag_negPart_posSemidef U lam, conjDiag_eq_posPart_sub_negPart U lam,
    by rw [re_trace_conjDiag_posPart_add_negPart hU, traceNormV_conjDiag hU]⟩

theorem traceNormV_eq_zero_iff {H : Matrix ι ι ℂ} (hH : H.IsHermitian) : traceNormV H = 0 ↔ H = 0 := by
  refine ⟨fun h0 => ?_, fun h => h ▸ traceNormV_zero⟩
  obtain ⟨U, lam, hU, rfl⟩ := exists_conjDiag_fun hH
  rw [traceNormV_conjDiag hU, Finset.sum_eq_zero_iff_of_nonneg fun i _ => abs_nonneg _] at h0
  have : lam = fun _ => 0 := funext fun i => abs_eq_zero.mp (h0 i (Finset.mem_univ i))
  rw [this, conjDiag_zero]

/-- a contraction is the off-diagonal block of a positive block matrix with unit diagonal blocks -/
theorem IsContraction.posSemidef_fromBlocks {W : Matrix ι ι ℂ} (hW : IsContraction W) :
    (fromBlocks (1 : Matrix ι ι ℂ) W Wᴴ 1).PosSemidef := by
  rw [hW.isHermitian.eq]
  exact Matrix.posSemidef_fromBlocks_of_add_sub hW.2 hW.1

/-- `[[1, W],[W, 1]]` conjugated by `diag(D, D)` -/
theorem IsContraction.posSemidef_fromBlocks_conj {W : Matrix ι ι ℂ} (hW : IsContraction W) (D : Matrix ι ι ℂ) :
    (fromBlocks (D * Dᴴ) (D * W * Dᴴ) ((D * W * Dᴴ)ᴴ) (D * Dᴴ)).PosSemidef := by
  have h := Matrix.PosSemidef.fromBlocks_conj D D hW.posSemidef_fromBlocks
  simpa using h

end TraceNormSpectral

end Toq.Metrics
