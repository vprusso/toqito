import Toq.Proofs.StatesMore
import Toq.Spec.StatesExtra
/-!
# Permutation operators commute with tensor powers; multipartite Werner states (helper lemmas for C17)

`U^{⊗p}` is a product over the digits of the row and column index, so permuting the digits of both indices alike leaves it
unchanged (`tensorPow_perm`); the list form of `werner` is a fold `acc - α_k · P(σ_k)` over such permutation operators, and
commutation with a fixed matrix survives each step of the fold (`foldl_commutes`).
-/
open Toq.Matrices Toq.Spec17 Toq.Perms

namespace Toq.States

section tpow
variable {α : Type} [CommRing α]

theorem tensorPow_perm (d p : Nat) (hd : 0 < d) (U : Nat → Nat → α) (f : Nat → Nat)
    (hf : Toq.C01.IsPermN p f) (r c : Nat) :
    tensorPow d p U (permIndex p f (fun _ => d) false r) (permIndex p f (fun _ => d) false c) = tensorPow d p U r c := by
  unfold tensorPow
  rw [permIndex_false_eq p f _ hf, permIndex_false_eq p f _ hf]
  exact prodFn_dec_specIndex p f _ _ hf (fun _ _ => hd) (fun _ _ => hd) (fun _ => U) r c

theorem foldl_commutes (N : Nat) (T : Nat → Nat → α) (P : List Nat → Nat → Nat → α) :
    ∀ (terms : List (List Nat × α)) (A : Nat → Nat → α),
      (∀ r c, r < N → c < N → matMul N A T r c = matMul N T A r c) →
      (∀ t ∈ terms, ∀ r c, r < N → c < N → matMul N (P t.1) T r c = matMul N T (P t.1) r c) →
      ∀ r c, r < N → c < N →
        matMul N (fun r' c' => terms.foldl (fun acc t => acc - t.2 * P t.1 r' c') (A r' c')) T r c
          = matMul N T (fun r' c' => terms.foldl (fun acc t => acc - t.2 * P t.1 r' c') (A r' c')) r c
  | [], A, hA, _ => by
    intro r c hr hc
    exact hA r c hr hc
  | t :: rest, A, hA, hP => by
    intro r c hr hc
    simp only [List.foldl_cons]
    apply foldl_commutes N T P rest (fun r' c' => A r' c' - t.2 * P t.1 r' c')
    · intro r c hr hc
      rw [matMul_sub_smul_left, matMul_sub_smul_right, hA r c hr hc, hP t (List.mem_cons_self ..) r c hr hc]
    · intro t' ht'
      exact hP t' (List.mem_cons_of_mem _ ht')
    · exact hr
    · exact hc

end tpow

/-- the permutation actually handed to `permutation_operator` for the list entry `σ` -/
def wernerPerm (argsort : Bool) (σ : List Nat) : Nat → Nat := fnOfList (if argsort then argsortL σ else σ)

/-- all permutations used by the `p`-party list form are permutations of `0..p-1` -/
def WernerPermsValid (p : Nat) (argsort : Bool) : Prop :=
  ∀ σ ∈ (lexPerms p (List.range p)).drop 1,
    (∀ k, k < p → wernerPerm argsort σ k < p) ∧
    (∀ a, a < p → ∀ b, b < p → wernerPerm argsort σ a = wernerPerm argsort σ b → a = b)

end Toq.States
